/-
  Lemmas for C13: the matcher of the model decides the relations of the Spec.
  (No Mathlib: the driver imports this file for the `Decidable` instances.)
-/
import Spydr.Query.Model
import Spydr.Query.Spec
import Spydr.Common.Char

namespace Spydr.Query
open Spydr.Query.Spec

inductive TokRel (ci : Bool) : List Tok → Str → Prop
  | nil : TokRel ci [] []
  | starSkip {p v} : TokRel ci p v → TokRel ci (.star :: p) v
  | starEat {p d v} : TokRel ci (.star :: p) v → TokRel ci (.star :: p) (d :: v)
  | one {p d v} : TokRel ci p v → TokRel ci (.one :: p) (d :: v)
  | lit {p c d v} : chEq ci c d = true → TokRel ci p v → TokRel ci (.lit c :: p) (d :: v)

theorem tokRel_of_tokMatch {ci : Bool} : ∀ (t : List Tok) (v : Str), tokMatch ci t v = true → TokRel ci t v := by
  intro t
  induction t with
  | nil => intro v h; cases v with | nil => exact .nil | cons => cases h
  | cons tk t ih =>
      intro v h
      cases tk with
      | star =>
          -- `h : starAny (tokMatch ci t) v = true`: some suffix of `v` matches the rest
          induction v with
          | nil => exact .starSkip (ih _ h)
          | cons d v ihv =>
              rw [tokMatch, starAny, Bool.or_eq_true] at h
              exact h.elim (fun h => .starSkip (ih _ h)) (fun h => .starEat (ihv h))
      | one => cases v with | nil => cases h | cons d v => exact .one (ih _ h)
      | lit c =>
          cases v with
          | nil => cases h
          | cons d v => rw [tokMatch, Bool.and_eq_true] at h; exact .lit h.1 (ih _ h.2)

theorem tokMatch_of_tokRel {ci t v} (h : TokRel ci t v) : tokMatch ci t v = true := by
  induction h with
  | nil => rfl
  | @starSkip _ v _ ih => cases v <;> simp [tokMatch, starAny, ih]
  | starEat _ ih => rw [tokMatch] at ih; simp [tokMatch, starAny, ih]
  | one _ ih => exact ih
  | lit h _ ih => simp [tokMatch, h, ih]

theorem tokMatch_iff {ci : Bool} (t : List Tok) (v : Str) : tokMatch ci t v = true ↔ TokRel ci t v :=
  ⟨tokRel_of_tokMatch t v, tokMatch_of_tokRel⟩

theorem chEq_iff {ci c d} : chEq ci c d = true ↔ SameCh ci c d := by
  cases ci <;> simp [chEq, SameCh]

theorem globTok_star : globTok '*' = .star := by decide
theorem globTok_one : globTok '?' = .one := by decide
theorem globTok_lit {c : Char} (h1 : c ≠ '*') (h2 : c ≠ '?') : globTok c = .lit c := by
  simp [globTok, h1, h2]

theorem globToks_inv {p : Str} {t : List Tok} (h : globToks p = t) :
    match (generalizing := false) t with
    | [] => p = []
    | .star :: t' => ∃ r, p = '*' :: r ∧ globToks r = t'
    | .one :: t' => ∃ r, p = '?' :: r ∧ globToks r = t'
    | .lit c :: t' => ∃ r, p = c :: r ∧ c ≠ '*' ∧ c ≠ '?' ∧ globToks r = t' := by
  subst h
  cases p with
  | nil => rfl
  | cons c r =>
      rw [globToks, List.map_cons]
      by_cases h1 : c = '*'
      · subst h1; exact ⟨r, rfl, rfl⟩
      · by_cases h2 : c = '?'
        · subst h2; exact ⟨r, rfl, rfl⟩
        · rw [globTok_lit h1 h2]; exact ⟨r, rfl, h1, h2, rfl⟩

theorem globRel_of_tokRel {ci t v} (h : TokRel ci t v) : ∀ p, globToks p = t → GlobRel ci p v := by
  induction h with
  | nil => intro p hp; rw [globToks_inv hp]; exact .nil
  | starSkip _ ih => intro p hp; obtain ⟨r, rfl, hr⟩ := globToks_inv hp; exact .starSkip (ih r hr)
  | starEat _ ih => intro p hp; obtain ⟨r, rfl, _⟩ := globToks_inv hp; exact .starEat (ih _ hp)
  | one _ ih => intro p hp; obtain ⟨r, rfl, hr⟩ := globToks_inv hp; exact .one (ih r hr)
  | lit hch _ ih =>
      intro p hp
      obtain ⟨r, rfl, h1, h2, hr⟩ := globToks_inv hp
      exact .lit h1 h2 (chEq_iff.mp hch) (ih r hr)

theorem tokRel_of_globRel {ci p v} (h : GlobRel ci p v) : TokRel ci (globToks p) v := by
  induction h with
  | nil => exact .nil
  | starSkip _ ih => exact .starSkip ih
  | starEat _ ih => exact .starEat ih
  | one _ ih => exact .one ih
  | lit h1 h2 hs _ ih =>
      rw [globToks, List.map_cons, globTok_lit h1 h2]
      exact .lit (chEq_iff.mpr hs) ih

theorem tokMatch_glob_iff {ci p v} : tokMatch ci (globToks p) v = true ↔ GlobRel ci p v :=
  (tokMatch_iff _ _).trans ⟨fun h => globRel_of_tokRel h p rfl, tokRel_of_globRel⟩

theorem reToks_esc (c : Char) (r : Str) : reToks ('\\' :: c :: r) = if c.isAlphanum then none else (reToks r).map (Tok.lit c :: ·) := by
  simp [reToks]
theorem reToks_dotstar (r : Str) : reToks ('.' :: '*' :: r) = (reToks r).map (Tok.star :: ·) := by
  simp [reToks]
theorem reToks_dot (r : Str) (h : ∀ r', r ≠ '*' :: r') : reToks ('.' :: r) = (reToks r).map (Tok.one :: ·) := by
  cases r with
  | nil => simp [reToks]
  | cons d r' =>
    have : d ≠ '*' := fun hd => h r' (by rw [hd])
    rw [reToks]
    · simp
    all_goals (intros; simp_all)
theorem reToks_other (c : Char) (r : Str) (h1 : c ≠ '\\') (h2 : c ≠ '.') :
    reToks (c :: r) = if isReSpecial c then none else (reToks r).map (Tok.lit c :: ·) := by
  rw [reToks]
  · simp [h2]
  all_goals (intros; simp_all)
theorem reToks_lit (c : Char) (r : Str) (h : c ∉ reSpecials) : reToks (c :: r) = (reToks r).map (Tok.lit c :: ·) := by
  have h1 : c ≠ '\\' := fun hc => h (by rw [hc]; decide)
  have h2 : c ≠ '.' := fun hc => h (by rw [hc]; decide)
  have h3 : isReSpecial c = false := by simp [isReSpecial, h]
  rw [reToks_other c r h1 h2]; simp [h3]

/-- induction along the way `reToks` reads a pattern: `\c` and `.*` take two characters -/
theorem re_induction {P : Str → Prop} (nil : P []) (bs : P ['\\'])
    (esc : ∀ c r, P r → P ('\\' :: c :: r)) (dotStar : ∀ r, P r → P ('.' :: '*' :: r))
    (dot : ∀ r, (∀ r', r ≠ '*' :: r') → P r → P ('.' :: r))
    (other : ∀ c r, c ≠ '\\' → c ≠ '.' → P r → P (c :: r)) : ∀ p, P p
  | [] => nil
  | [c] => by
      by_cases hb : c = '\\'
      · exact hb ▸ bs
      · by_cases hd : c = '.'
        · exact hd ▸ dot [] nofun nil
        · exact other c [] hb hd nil
  | c :: d :: r => by
      have ih := re_induction nil bs esc dotStar dot other r
      have ih' := re_induction nil bs esc dotStar dot other (d :: r)
      by_cases hb : c = '\\'
      · exact hb ▸ esc d r ih
      · by_cases hd : c = '.'
        · by_cases hs : d = '*'
          · exact hd ▸ hs ▸ dotStar r ih
          · exact hd ▸ dot (d :: r) (fun _ h => hs (List.cons.inj h).1) ih'
        · exact other c _ hb hd ih'

theorem reToks_inv {p : Str} {t : List Tok} (h : reToks p = some t) :
    match (generalizing := false) t with
    | [] => p = []
    | .star :: t' => ∃ r, p = '.' :: '*' :: r ∧ reToks r = some t'
    | .one :: t' => ∃ r, p = '.' :: r ∧ (∀ r', r ≠ '*' :: r') ∧ reToks r = some t'
    | .lit c :: t' => ∃ r, reToks r = some t' ∧
        (p = '\\' :: c :: r ∧ c.isAlphanum = false ∨ p = c :: r ∧ c ∉ reSpecials) := by
  induction p using re_induction with
  | nil => cases h; rfl
  | bs => cases h
  | esc c r =>
      rw [reToks_esc] at h
      split at h
      · cases h
      · next ha =>
        obtain ⟨t', ht', rfl⟩ := Option.map_eq_some_iff.mp h
        exact ⟨r, ht', .inl ⟨rfl, Bool.eq_false_iff.mpr ha⟩⟩
  | dotStar r =>
      rw [reToks_dotstar] at h
      obtain ⟨t', ht', rfl⟩ := Option.map_eq_some_iff.mp h
      exact ⟨r, rfl, ht'⟩
  | dot r hs =>
      rw [reToks_dot r hs] at h
      obtain ⟨t', ht', rfl⟩ := Option.map_eq_some_iff.mp h
      exact ⟨r, rfl, hs, ht'⟩
  | other c r hb hd =>
      rw [reToks_other c r hb hd] at h
      split at h
      · cases h
      · next hm =>
        obtain ⟨t', ht', rfl⟩ := Option.map_eq_some_iff.mp h
        exact ⟨r, ht', .inr ⟨rfl, by simpa [isReSpecial] using hm⟩⟩

theorem reRel_of_tokRel {ci t v} (h : TokRel ci t v) : ∀ p, reToks p = some t → ReRel ci p v := by
  induction h with
  | nil => intro p hp; rw [reToks_inv hp]; exact .nil
  | starSkip _ ih => intro p hp; obtain ⟨r, rfl, hr⟩ := reToks_inv hp; exact .dotStarSkip (ih r hr)
  | starEat _ ih => intro p hp; obtain ⟨r, rfl, _⟩ := reToks_inv hp; exact .dotStarEat (ih _ hp)
  | one _ ih => intro p hp; obtain ⟨r, rfl, hs, hr⟩ := reToks_inv hp; exact .dot hs (ih r hr)
  | lit hch _ ih =>
      intro p hp
      obtain ⟨r, hr, ⟨rfl, ha⟩ | ⟨rfl, hm⟩⟩ := reToks_inv hp
      · exact .esc ha (chEq_iff.mp hch) (ih r hr)
      · exact .lit hm (chEq_iff.mp hch) (ih r hr)

theorem tokRel_of_reRel {ci p v} (h : ReRel ci p v) : ∃ t, reToks p = some t ∧ TokRel ci t v := by
  induction h with
  | nil => exact ⟨[], rfl, .nil⟩
  | esc ha hs _ ih =>
      obtain ⟨t, ht, hr⟩ := ih
      exact ⟨_, by rw [reToks_esc]; simp [ha, ht], TokRel.lit (chEq_iff.mpr hs) hr⟩
  | dotStarSkip _ ih =>
      obtain ⟨t, ht, hr⟩ := ih
      exact ⟨_, by rw [reToks_dotstar]; simp [ht], TokRel.starSkip hr⟩
  | dotStarEat _ ih =>
      obtain ⟨t, ht, hr⟩ := ih
      refine ⟨t, ht, ?_⟩
      rw [reToks_dotstar] at ht
      obtain ⟨t', _, rfl⟩ := Option.map_eq_some_iff.mp ht
      exact .starEat hr
  | dot hs _ ih =>
      obtain ⟨t, ht, hr⟩ := ih
      exact ⟨_, by rw [reToks_dot _ hs]; simp [ht], TokRel.one hr⟩
  | lit hm hs _ ih =>
      obtain ⟨t, ht, hr⟩ := ih
      exact ⟨_, by rw [reToks_lit _ _ hm]; simp [ht], TokRel.lit (chEq_iff.mpr hs) hr⟩

theorem tokMatch_re_iff {ci p v} : (∃ t, reToks p = some t ∧ tokMatch ci t v = true) ↔ ReRel ci p v :=
  ⟨fun ⟨t, ht, h⟩ => reRel_of_tokRel (tokRel_of_tokMatch t v h) p ht,
   fun h => let ⟨t, ht, hr⟩ := tokRel_of_reRel h; ⟨t, ht, tokMatch_of_tokRel hr⟩⟩

theorem specials_not_alnum : ∀ c ∈ reSpecials, c.isAlphanum = false := by decide

theorem lowerC_cases (c : Char) : lowerC c = c ∨ (c.isUpper = true ∧ (lowerC c).isLower = true) := by
  unfold lowerC; split <;> first | (right; decide) | (left; rfl)

theorem lowerC_idem (c : Char) : lowerC (lowerC c) = lowerC c := by
  rcases lowerC_cases c with h | ⟨_, h⟩
  · rw [h, h]
  · exact (lowerC_cases _).resolve_right fun h' => by rw [isLower_not_upper h] at h'; cases h'.1

theorem lowerC_eq_iff {c s : Char} (hs : lowerC s = s) (hl : s.isLower = false) : lowerC c = s ↔ c = s := by
  refine ⟨fun h => ?_, fun h => h ▸ hs⟩
  rcases lowerC_cases c with h' | ⟨_, h'⟩
  · rw [← h', h]
  · rw [h, hl] at h'; cases h'

theorem lowerC_isAlphanum (c : Char) : (lowerC c).isAlphanum = c.isAlphanum := by
  rcases lowerC_cases c with h | ⟨h1, h2⟩
  · rw [h]
  · simp [Char.isAlphanum, Char.isAlpha, h1, h2]

theorem lowerC_isReSpecial (c : Char) : isReSpecial (lowerC c) = isReSpecial c := by
  have hns : ∀ d : Char, d.isAlphanum = true → isReSpecial d = false := fun d hd =>
    Bool.eq_false_iff.mpr fun hm => by
      have := specials_not_alnum d (by simpa [isReSpecial] using hm)
      rw [hd] at this; cases this
  rcases lowerC_cases c with h | ⟨h1, h2⟩
  · rw [h]
  · rw [hns _ (by simp [Char.isAlphanum, Char.isAlpha, h2]), hns _ (by simp [Char.isAlphanum, Char.isAlpha, h1])]

theorem lowerC_star {c : Char} : lowerC c = '*' ↔ c = '*' := lowerC_eq_iff (by decide) (by decide)
theorem lowerC_qm {c : Char} : lowerC c = '?' ↔ c = '?' := lowerC_eq_iff (by decide) (by decide)
theorem lowerC_dot {c : Char} : lowerC c = '.' ↔ c = '.' := lowerC_eq_iff (by decide) (by decide)
theorem lowerC_bs {c : Char} : lowerC c = '\\' ↔ c = '\\' := lowerC_eq_iff (by decide) (by decide)

theorem globTok_lower (c : Char) : globTok (lowerC c) = (globTok c).lower := by
  by_cases h1 : c = '*'
  · subst h1; decide
  · by_cases h2 : c = '?'
    · subst h2; decide
    · rw [globTok_lit h1 h2, globTok_lit (mt lowerC_star.mp h1) (mt lowerC_qm.mp h2)]; rfl

theorem globToks_lower (p : Str) : globToks (lower p) = lowerToks (globToks p) := by
  simp [globToks, lower, lowerToks, List.map_map, Function.comp_def, globTok_lower]

theorem starAny_congr_lower {f g : Str → Bool} (h : ∀ v, f v = g (lower v)) :
    ∀ v, starAny f v = starAny g (lower v) := by
  intro v
  induction v with
  | nil => exact h []
  | cons d v ih => rw [starAny, h, ih]; rfl

theorem tokMatch_ci : ∀ (t : List Tok) (v : Str),
    tokMatch true t v = tokMatch false (lowerToks t) (lower v) := by
  intro t
  induction t with
  | nil => intro v; cases v <;> rfl
  | cons tk t ih =>
      intro v
      cases tk with
      | star => exact starAny_congr_lower ih v
      | one => cases v with | nil => rfl | cons d v => exact ih v
      | lit c =>
          cases v with
          | nil => rfl
          | cons d v => exact congrArg (chEq true c d && ·) (ih v)

theorem lower_idem (s : Str) : lower (lower s) = lower s := by
  simp [lower, List.map_map, Function.comp_def, lowerC_idem]

theorem lower_not_star {r : Str} (h : ∀ r', r ≠ '*' :: r') : ∀ r', lower r ≠ '*' :: r' := by
  intro r' hr
  cases r with
  | nil => simp [lower] at hr
  | cons d r =>
      simp only [lower, List.map_cons, List.cons.injEq] at hr
      exact h r (by rw [lowerC_star.mp hr.1])

theorem map_cons_lowerToks (tk : Tok) (o : Option (List Tok)) :
    (o.map lowerToks).map (tk.lower :: ·) = (o.map (tk :: ·)).map lowerToks := by
  cases o <;> rfl

theorem reToks_lower (p : Str) : reToks (lower p) = (reToks p).map lowerToks := by
  induction p using re_induction with
  | nil => rfl
  | bs => rfl
  | esc c r ih =>
      show reToks ('\\' :: lowerC c :: lower r) = _
      rw [reToks_esc, reToks_esc, lowerC_isAlphanum, ih]
      split
      · rfl
      · exact map_cons_lowerToks (.lit c) _
  | dotStar r ih =>
      show reToks ('.' :: '*' :: lower r) = _
      rw [reToks_dotstar, reToks_dotstar, ih]
      exact map_cons_lowerToks .star _
  | dot r hs ih =>
      show reToks ('.' :: lower r) = _
      rw [reToks_dot _ hs, reToks_dot _ (lower_not_star hs), ih]
      exact map_cons_lowerToks .one _
  | other c r hb hd ih =>
      show reToks (lowerC c :: lower r) = _
      rw [reToks_other _ _ (mt lowerC_bs.mp hb) (mt lowerC_dot.mp hd), reToks_other _ _ hb hd,
        lowerC_isReSpecial, ih]
      split
      · rfl
      · exact map_cons_lowerToks (.lit c) _

/-- `_value_matches_pattern` decides the Spec relation in all four option combinations
    (glob / regex sub-language × case-sensitive / ignoring case). -/
theorem matches_spec (isCase isRe : Bool) (p v : Str) :
    valueMatches isCase isRe p v = true ↔ Matches isCase isRe p v := by
  unfold valueMatches Matches
  cases isRe with
  | true =>
      rw [if_pos rfl, if_pos rfl, ← tokMatch_re_iff]
      cases reToks p <;> simp
  | false =>
      cases isCase with
      | true => simpa [globMatch] using (tokMatch_glob_iff (ci := false) (p := p) (v := v))
      | false =>
          simp only [Bool.false_eq_true, if_false, globMatch, globToks_lower, ← tokMatch_ci]
          simpa using (tokMatch_glob_iff (ci := true) (p := p) (v := v))

instance (ic ir : Bool) (p v : Str) : Decidable (Matches ic ir p v) :=
  decidable_of_iff _ (matches_spec ic ir p v)

theorem isAbsolute_iff (ic ir : Bool) (p : Str) : isAbsolute p ic ir = true ↔ Absolute ic ir p := by
  simp [isAbsolute, Absolute, isWild, List.all_eq_true, and_assoc]

instance (ic ir : Bool) (p : Str) : Decidable (Absolute ic ir p) :=
  decidable_of_iff _ (isAbsolute_iff ic ir p)

instance (c : Cfg) (p v : Str) : Decidable (MatchesCfg c p v) := by
  unfold MatchesCfg; exact inferInstance

theorem tokMatch_map_lit (s v : Str) : tokMatch false (s.map Tok.lit) v = true ↔ s = v := by
  induction s generalizing v with
  | nil => cases v <;> simp [tokMatch]
  | cons c s ih => cases v with
    | nil => simp [tokMatch]
    | cons d v => simp [tokMatch, chEq, ih]

theorem tokMatch_lits (p v : Str) (h : ∀ ch ∈ p, ch ≠ '*' ∧ ch ≠ '?') :
    tokMatch false (globToks p) v = true ↔ p = v := by
  have : globToks p = p.map Tok.lit := List.map_congr_left fun c hc => globTok_lit (h c hc).1 (h c hc).2
  rw [this]; exact tokMatch_map_lit p v


theorem reEscapeC_special {c : Char} (h : c ∈ reSpecials) : reEscapeC c = ['\\', c] := by
  simp [reEscapeC, isReSpecial, h]
theorem reEscapeC_plain {c : Char} (h : c ∉ reSpecials) : reEscapeC c = [c] := by
  simp [reEscapeC, isReSpecial, h]

theorem reToks_reEscapeC (c : Char) (r : Str) :
    reToks (reEscapeC c ++ r) = (reToks r).map (Tok.lit c :: ·) := by
  by_cases hm : c ∈ reSpecials
  · rw [reEscapeC_special hm]
    exact (reToks_esc c r).trans (by rw [specials_not_alnum c hm]; rfl)
  · rw [reEscapeC_plain hm]
    exact reToks_lit c r hm

theorem reToks_reEscape (s : Str) : reToks (reEscape s) = some (s.map Tok.lit) := by
  induction s with
  | nil => simp [reEscape, reToks]
  | cons c s ih => simp [reEscape, reToks_reEscapeC, ih]

theorem re_escape_exact (s v : Str) : valueMatches true true (reEscape s) v = true ↔ s = v := by
  simp [valueMatches, reToks_reEscape, tokMatch_map_lit]

theorem globToReC_star : globToReC '*' = ['.', '*'] := by decide
theorem globToReC_qm : globToReC '?' = ['.'] := by decide
theorem globToReC_other {c : Char} (h1 : c ≠ '*') (h2 : c ≠ '?') : globToReC c = reEscapeC c := by
  simp [globToReC, h1, h2]

theorem globToReC_not_star (c : Char) (r r' : Str) : globToReC c ++ r ≠ '*' :: r' := by
  by_cases h1 : c = '*'
  · subst h1; simp [globToReC_star]
  · by_cases h2 : c = '?'
    · subst h2; simp [globToReC_qm]
    · rw [globToReC_other h1 h2]
      by_cases hm : c ∈ reSpecials
      · simp [reEscapeC_special hm]
      · simp [reEscapeC_plain hm, h1]

theorem globToRe_not_star : ∀ (p r : Str), globToRe p ≠ '*' :: r
  | [], _ => nofun
  | c :: p, r => globToReC_not_star c (globToRe p) r

theorem reToks_globToReC (c : Char) {r : Str} (hr : ∀ r', r ≠ '*' :: r') :
    reToks (globToReC c ++ r) = (reToks r).map (globTok c :: ·) := by
  by_cases h1 : c = '*'
  · subst h1; rw [globToReC_star, globTok_star]; exact reToks_dotstar r
  · by_cases h2 : c = '?'
    · subst h2; rw [globToReC_qm, globTok_one]; exact reToks_dot r hr
    · rw [globToReC_other h1 h2, globTok_lit h1 h2, reToks_reEscapeC]

theorem reToks_globToRe (p : Str) : reToks (globToRe p) = some (globToks p) := by
  induction p with
  | nil => rfl
  | cons c p ih => rw [globToRe, reToks_globToReC c (globToRe_not_star p), ih]; rfl

end Spydr.Query
