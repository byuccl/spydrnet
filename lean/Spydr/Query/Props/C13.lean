/-
  C13 — query filters mean what they say.  ONLY the property theorems and non-vacuity examples
  (`matches_spec` stands in Lemmas.lean, where the driver's `Decidable` instances need it).
  Model: Spydr/Query/Model.lean (patterns.py and the filter stage of every get_*.py, as repaired by
  docs/fixes/query_*.diff).  Spec: Spydr/Query/Spec.lean (inductive relations on the pattern text,
  `filterSpec`).  All statements are for ALL patterns, values, candidate lists, pattern lists OF THE MODEL.
  The model is the code as repaired: in particular `[` is an ordinary character in wildcard mode
  (docs/fixes/query_glob_bracket_literal.diff; the pinned code hands the pattern to fnmatch, where `[`
  opens a character class -- open finding `_value_matches_pattern.glob_bracket.character_class`), and
  regular expressions are the sub-language literal / escaped literal / `.` / `.*`.
-/
import Spydr.Query.LemmasStage

namespace Spydr.Query
open Spydr.Query.Spec
open List

/-- `fnmatchcase` (patterns without `[`) is exactly the shell-wildcard relation. -/
theorem glob_spec (p v : Str) : globMatch p v = true ↔ GlobRel false p v :=
  tokMatch_glob_iff

/-- For an absolute pattern matching is equality: the lookup path (which compares for equality) and
    the scan path (which matches) agree. -/
theorem absolute_match (isCase isRe : Bool) (p v : Str) (h : isAbsolute p isCase isRe = true) :
    valueMatches isCase isRe p v = true ↔ p = v := by
  rw [matches_spec]
  exact matches_abs ((isAbsolute_iff isCase isRe p).mp h) v

/-- `is_case=False` is matching of the lower-cased pattern against the lower-cased value, in glob
    mode and in regex mode. -/
theorem nocase_spec (isRe : Bool) (p v : Str) :
    valueMatches false isRe p v = valueMatches true isRe (lower p) (lower v) := by
  cases isRe with
  | false => rfl
  | true =>
      simp only [valueMatches, if_true, reToks_lower, Bool.not_false, Bool.not_true]
      cases reToks p with
      | none => rfl
      | some t => simp [tokMatch_ci]

/-- ... and it is the relation in which literal characters are compared ignoring ASCII case. -/
theorem nocase_rel (isRe : Bool) (p v : Str) :
    valueMatches false isRe p v = true ↔ (if isRe then ReRel true p v else GlobRel true p v) := by
  rw [matches_spec]; cases isRe <;> simp [Matches]

/-- exact = wildcard-free glob = escaped regex -/
theorem exact_glob_regex_agree (p v : Str) (h : ∀ ch ∈ p, ch ≠ '*' ∧ ch ≠ '?') :
    (valueMatches true false p v = true ↔ p = v) ∧
    (valueMatches true true (reEscape p) v = true ↔ p = v) :=
  ⟨absolute_match true false p v ((isAbsolute_iff true false p).mpr ⟨rfl, rfl, h⟩), re_escape_exact p v⟩

/-- a wildcard pattern and its regex translation (`*` -> `.*`, `?` -> `.`, rest escaped) match the
    same values, case-sensitively and ignoring case -/
theorem re_of_glob_spec (isCase : Bool) (p v : Str) :
    valueMatches isCase true (globToRe p) v = valueMatches isCase false p v := by
  cases isCase with
  | true => simp [valueMatches, reToks_globToRe, globMatch]
  | false => simp [valueMatches, reToks_globToRe, globMatch, globToks_lower, ← tokMatch_ci]

example : globMatch "a*b?".toList "axxbc".toList = true := by decide +kernel
example : valueMatches false false "AB*".toList "abxx".toList = true := by decide +kernel
example : valueMatches false true "a\\[1\\].*".toList "A[1]zz".toList = true := by decide +kernel
example : isAbsolute "a[1]".toList true false = true := by decide +kernel

/-! ## the stages

`c.second` = the configuration with case-sensitive exact comparison (what every code path except the
indexed lookup does), `c.direct` = exact comparison ignores case iff `c.indexed ∧ c.ci` (what the direct
stage does).  `filterSpec c` itself grants case-insensitive exact comparison whenever `c.ci`
(identifiers under the EDIF policy), as the property does. -/

/-- get_netlists (no index is involved: exact comparison is case-sensitive) -/
theorem stage_spec_found (c : Cfg) (cands : List Cand) (pats : List Str) (h : HypFound cands pats) :
    stageFound c cands pats ~ filterSpec c.second cands pats := by
  rw [stageFound_eq]
  refine (stageGen_perm _ _ _).trans (Perm.of_eq (filter_any_eq_filterSpec fun e he p hp => ?_))
  exact foundHit_iff (h.2.imp (· e he) fun h hp0 => h (hp0 ▸ hp))

/-- direct stage (lookup for absolute patterns / scan), any number of parents, the same parent possibly
    visited several times; `keyedPart`: get_instances never returns a child lacking the key -/
theorem stage_spec_direct (c : Cfg) (keyed : Bool) (groups : List (List Cand)) (pats : List Str)
    (h : HypDirect c keyed groups pats) :
    (stageDirect c keyed pats groups []).1 ~
      filterSpec c.direct (keyedPart keyed (freshOnes [] groups.flatten)) pats := by
  obtain ⟨hn, hu, hk⟩ := h
  refine (stageDirect_perm c keyed pats groups hn hu []).trans (Perm.of_eq ?_)
  cases keyed with
  | false =>
      refine filter_any_eq_filterSpec fun e he p hp => dHit_iff ?_
      rcases hk with hk | hk | hk
      · cases hk
      · exact .inl (hk e ((mem_freshOnes _ _ e).mp he).1)
      · exact .inr ⟨rfl, fun hp0 => hk (hp0 ▸ hp)⟩
  | true =>
      refine .trans ?_ (filter_any_eq_filterSpec (hit := dHit c true) fun e he p _ =>
        dHit_iff (.inl (List.mem_filter.mp he).2))
      -- the children lacking the key are hit by no pattern
      simp only [keyedPart, if_true, List.filter_filter]
      refine List.filter_congr fun e _ => ?_
      cases hkey : e.key.isSome with
      | true => simp
      | false => simp [dHit_keyless hkey]

/-- get_instances' direct stage skips children lacking the key whatever the pattern is (they are not
    part of its unfiltered result either, so this is consistent with the property's base set) -/
theorem stage_direct_keyed_skips (c : Cfg) (groups : List (List Cand)) (pats : List Str)
    (h : HypDirect c true groups pats) :
    ∀ e ∈ (stageDirect c true pats groups []).1, e.key.isSome = true := by
  intro e he
  have := (stage_spec_direct c true groups pats h).mem_iff.mp he
  simp only [filterSpec, keyedPart, if_true, List.mem_filter] at this
  exact this.1.2

/-- namemap stage on a duplicate-free list of elements not found before: always case-sensitive -/
theorem stage_spec_map (c : Cfg) (found others : List Cand) (pats : List Str)
    (hn : others.Nodup) (hd : ∀ e ∈ others, e ∉ found) :
    stageMap c found others pats ~ filterSpec c.second others pats := by
  have := stageMap_perm c found others pats
  rwa [freshOnes_self others found hn hd] at this

/-- a whole query of get_libraries / definitions / instances / ports / cables AS THE CODE BEHAVES:
    children of the visited parents are compared as the direct stage compares, elements reached
    through other root kinds case-sensitively.  No hypothesis on `ci`. -/
theorem stage_spec_pipeline_split (c : Cfg) (keyed : Bool) (groups : List (List Cand))
    (others : List Cand) (pats : List Str) (h : HypPipeline c keyed groups others pats) :
    pipeline c keyed groups others pats ~
      filterSpec c.direct (keyedPart keyed (freshOnes [] groups.flatten)) pats ++
      filterSpec c.second
        (freshOnes (keyedPart keyed (freshOnes [] groups.flatten)) others) pats := by
  have h1 := stage_spec_direct c keyed groups pats h
  unfold pipeline
  simp only [stageDirect_found, List.nil_append]
  refine Perm.append h1 ?_
  refine (stageMap_perm c _ others pats).trans (Perm.of_eq ?_)
  -- a child of a visited parent that the direct stage did not return does not match here either
  apply freshOnes_filter_congr
  intro e he
  rw [h1.mem_iff]
  simp only [filterSpec, List.mem_filter, decide_eq_true_eq, and_iff_left_iff_imp] at he ⊢
  obtain ⟨p, hp, hm⟩ := he
  exact fun _ => ⟨p, hp, matchesCfg_second_imp hm⟩

/-- ... which is the property's statement wherever the code is as case-insensitive as documented
    (`CiConsistent`: not an EDIF-policy identifier query, or the index answers and nothing comes through
    the second stage) -/
theorem stage_spec_pipeline (c : Cfg) (keyed : Bool) (groups : List (List Cand)) (others : List Cand)
    (pats : List Str) (h : HypPipeline c keyed groups others pats) (hc : CiConsistent c others) :
    pipeline c keyed groups others pats ~
      filterSpec c (keyedPart keyed (freshOnes [] groups.flatten) ++
        freshOnes (keyedPart keyed (freshOnes [] groups.flatten)) others) pats := by
  refine (stage_spec_pipeline_split c keyed groups others pats h).trans (Perm.of_eq ?_)
  rw [filterSpec_append, direct_of_consistent fun hci => (hc hci).1]
  by_cases hci : c.ci = true
  · rw [(hc hci).2]; simp [freshOnes, filterSpec]
  · rw [second_of_noci (by simpa using hci)]

/-- ... and is NOT where it is not: without the index an exact identifier pattern is compared
    case-sensitively although `c.ci` (open finding `edif_identifier.exact_case_variant.*`): the result
    depends on whether the accelerated lookup is available -/
theorem stage_spec_pipeline_unindexed (c : Cfg) (keyed : Bool) (groups : List (List Cand))
    (others : List Cand) (pats : List Str) (h : HypPipeline c keyed groups others pats)
    (hi : c.indexed = false) :
    pipeline c keyed groups others pats ~
      filterSpec c.second (keyedPart keyed (freshOnes [] groups.flatten) ++
        freshOnes (keyedPart keyed (freshOnes [] groups.flatten)) others) pats := by
  have hd : c.direct = c.second := by simp [Cfg.direct, Cfg.second, hi]
  have := stage_spec_pipeline_split c keyed groups others pats h
  rwa [hd, ← filterSpec_append] at this

/-- concrete witness of the inconsistency: identifier `Abc`, exact pattern `aBC`, EDIF policy -/
example :
    (pipeline ⟨true, false, true, true⟩ false [[⟨1, some "Abc".toList⟩]] [] ["aBC".toList]).map (·.id) = [1] ∧
    (pipeline ⟨true, false, false, true⟩ false [[⟨1, some "Abc".toList⟩]] [] ["aBC".toList]).map (·.id) = [] ∧
    (pipeline ⟨true, false, true, true⟩ false [] [⟨1, some "Abc".toList⟩] ["aBC".toList]).map (·.id) = [] := by
  decide +kernel

/-- hierarchical queries.  `bypass` (elements reached through root kinds for which the code performs
    no name search) is returned unfiltered: this is the open finding `get_h*.pattern_ignored_for_root`;
    with `bypass = []` the statement is the full one. -/
theorem stage_spec_h (c : Cfg) (bypass named : List Cand) (pats : List Str) :
    stageH c bypass named pats ~
      dedup bypass ++
        filterSpec c.second ((freshOnes [] named).filter (fun e => !(dedup bypass).contains e)) pats := by
  unfold stageH
  refine Perm.append_left _ ?_
  have hflat := buildMap_flat (freshOnes [] named)
  rw [stageHGo_eq c _ (buildMap_ok _) (hflat.nodup_iff.mpr (nodup_freshOnes _ _)),
    ← filter_any_eq_filterSpec (hit := fun p e => valHit c p e.val) fun _ _ _ _ => valHit_iff]
  refine (stageGen_perm _ _ _).trans (Perm.filter _ ((hflat.filter _).trans (.of_eq ?_)))
  -- `in_namemap` holds the named elements not yielded before
  exact List.filter_congr fun e he => by simp [he]

theorem stage_spec_h_full (c : Cfg) (named : List Cand) (pats : List Str) (hn : named.Nodup) :
    stageH c [] named pats ~ filterSpec c.second named pats := by
  have := stage_spec_h c [] named pats
  simpa [dedup, freshOnes_self named [] hn (fun _ _ => by simp), List.filter_eq_self.mpr] using this

/-- get_pins / get_wires: every element once -/
theorem stage_spec_none (cands : List Cand) :
    (stageNone cands).Nodup ∧ ∀ e, e ∈ stageNone cands ↔ e ∈ cands :=
  ⟨nodup_dedup cands, fun e => mem_dedup cands e⟩

/-- no element is returned twice -- from per-parent duplicate-freeness only: parents may be visited
    several times, groups may overlap, second-stage elements may repeat and overlap the groups -/
theorem stage_nodup (c : Cfg) (keyed : Bool) (groups : List (List Cand)) (others : List Cand)
    (pats : List Str) (h : HypPipeline c keyed groups others pats) :
    (pipeline c keyed groups others pats).Nodup := by
  refine (stage_spec_pipeline_split c keyed groups others pats h).nodup_iff.mpr
    (.sublist (List.filter_sublist.append List.filter_sublist) ?_)
  -- the two base lists together are the de-duplicated concatenation of all candidates
  have hA := nodup_keyedPart keyed _ (nodup_freshOnes groups.flatten [])
  have := nodup_freshOnes (keyedPart keyed (freshOnes [] groups.flatten) ++ others) []
  rwa [freshOnes_append, freshOnes_self _ [] hA (fun _ _ => List.not_mem_nil), List.nil_append] at this

theorem stage_nodup_found (c : Cfg) (cands : List Cand) (pats : List Str) (h : HypFound cands pats) :
    (stageFound c cands pats).Nodup :=
  ((stage_spec_found c cands pats h).nodup_iff).mpr (h.1.sublist List.filter_sublist)

theorem stage_nodup_h (c : Cfg) (named : List Cand) (pats : List Str) (hn : named.Nodup) :
    (stageH c [] named pats).Nodup :=
  ((stage_spec_h_full c named pats hn).nodup_iff).mpr (hn.sublist List.filter_sublist)

/-- the result is the union over the patterns and does not depend on their order or repetition:
    two pattern lists with the same members give the same multiset (no hypothesis on `ci`) -/
theorem stage_pattern_order (c : Cfg) (keyed : Bool) (groups : List (List Cand)) (others : List Cand)
    (pats pats' : List Str) (hp : ∀ p, p ∈ pats ↔ p ∈ pats')
    (h : HypPipeline c keyed groups others pats) :
    pipeline c keyed groups others pats ~ pipeline c keyed groups others pats' := by
  have h' : HypPipeline c keyed groups others pats' :=
    ⟨h.1, h.2.1, h.2.2.imp_right (.imp_right (mt (hp []).mpr))⟩
  refine (stage_spec_pipeline_split c keyed groups others pats h).trans ?_
  rw [filterSpec_pats_congr c.direct _ pats pats' hp, filterSpec_pats_congr c.second _ pats pats' hp]
  exact (stage_spec_pipeline_split c keyed groups others pats' h').symm

/-- union over the patterns, element-wise (where the code is consistent) -/
theorem stage_union (c : Cfg) (keyed : Bool) (groups : List (List Cand)) (others : List Cand)
    (pats : List Str) (h : HypPipeline c keyed groups others pats) (hc : CiConsistent c others)
    (e : Cand) :
    e ∈ pipeline c keyed groups others pats ↔
      (e ∈ keyedPart keyed groups.flatten ∨ e ∈ others) ∧ ∃ p ∈ pats, MatchesCfg c p e.val := by
  rw [(stage_spec_pipeline c keyed groups others pats h hc).mem_iff]
  have hk : ∀ x, x ∈ keyedPart keyed (freshOnes [] groups.flatten) ↔ x ∈ keyedPart keyed groups.flatten := by
    simp [mem_keyedPart, mem_freshOnes]
  simp only [filterSpec, List.mem_filter, List.mem_append, mem_freshOnes, decide_eq_true_eq, hk]
  -- an element of `others` that is also a child of a visited parent is counted with the children
  by_cases hg : e ∈ keyedPart keyed groups.flatten <;> simp [hg]

/-- the registered fast lookup and the linear fallback give the same result for every key that is not
    an EDIF-policy identifier (for those the answer DOES depend on the lookup: see
    `stage_spec_pipeline_unindexed` and the `example` above) -/
theorem fast_eq_scan (c : Cfg) (keyed : Bool) (groups : List (List Cand)) (others : List Cand)
    (pats : List Str) (hci : c.ci = false)
    (h : HypPipeline { c with indexed := true } keyed groups others pats) :
    pipeline { c with indexed := true } keyed groups others pats ~
      pipeline { c with indexed := false } keyed groups others pats := by
  have h' : HypPipeline { c with indexed := false } keyed groups others pats := ⟨h.1, nofun, h.2.2⟩
  refine (stage_spec_pipeline_split _ keyed groups others pats h).trans
    (.trans (.of_eq ?_) (stage_spec_pipeline_split _ keyed groups others pats h').symm)
  -- the second stage never looks at `indexed`; the direct stage does not either when `ci = false`
  congr 1
  apply filterSpec_congr_cfg <;> simp [Cfg.direct, hci]

/-- the callback is applied on top of the pattern filter (immediate from `stage_spec_pipeline_split`
    and `List.Perm.filter`; listed for completeness, not a headline result) -/
theorem filter_commutes (c : Cfg) (keyed : Bool) (groups : List (List Cand)) (others : List Cand)
    (pats : List Str) (f : Cand → Bool) (h : HypPipeline c keyed groups others pats) :
    applyFilter f (pipeline c keyed groups others pats) ~
      (filterSpec c.direct (keyedPart keyed (freshOnes [] groups.flatten)) pats ++
       filterSpec c.second
        (freshOnes (keyedPart keyed (freshOnes [] groups.flatten)) others) pats).filter f :=
  Perm.filter f (stage_spec_pipeline_split c keyed groups others pats h)

/-! ## non-vacuity -/

private def ex_c : Cfg := ⟨true, false, true, false⟩
private def ex_groups : List (List Cand) :=
  [[⟨1, some "Ia".toList⟩, ⟨2, some "Ib".toList⟩], [⟨3, some "Ic".toList⟩, ⟨4, none⟩],
   [⟨1, some "Ia".toList⟩, ⟨2, some "Ib".toList⟩]]
private def ex_others : List Cand := [⟨5, none⟩, ⟨1, some "Ia".toList⟩, ⟨6, some "Ix".toList⟩, ⟨5, none⟩]
private def ex_pats : List Str := ["Ia".toList, "I?".toList, "Ia".toList, "a[1]*".toList]

example : HypPipeline ex_c false ex_groups ex_others ex_pats := by decide +kernel
example : HypPipeline ex_c true ex_groups ex_others ex_pats := by decide +kernel
example : CiConsistent ex_c ex_others := by decide +kernel
example : HypFound [⟨1, some "n".toList⟩, ⟨2, none⟩] ["n*".toList] := by decide +kernel
example : (pipeline ex_c false ex_groups ex_others ex_pats).map (·.id) = [1, 2, 3, 6] := by decide +kernel
example : globMatch "bus[3]*".toList "bus[3]x".toList = true := by decide +kernel
example : valueMatches false false "BUS[3]".toList "bus[3]".toList = true := by decide +kernel

end Spydr.Query
