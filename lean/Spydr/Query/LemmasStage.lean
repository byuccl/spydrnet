/-
  Lemmas for C13: the stage variants compute a permutation of a filter.
-/
import Spydr.Query.Lemmas

namespace Spydr.Query
open Spydr.Query.Spec
open List

theorem filter_split_perm {α} (a b : α → Bool) (l : List α) :
    l.filter a ++ (l.filter (fun e => !a e)).filter b ~ l.filter (fun e => a e || b e) := by
  induction l with
  | nil => simp
  | cons x l ih =>
      cases ha : a x <;> cases hb : b x <;> simp only [List.filter_cons, ha, hb, Bool.not_false,
        Bool.not_true, Bool.or_false, Bool.or_true, Bool.false_eq_true, if_true, if_false, List.cons_append]
      · exact ih
      · exact (perm_middle).trans (Perm.cons _ ih)
      · exact Perm.cons _ ih
      · exact Perm.cons _ ih

/-- the generic consuming stage over any element type -/
def stageGen {α} (hit : Str → α → Bool) : List α → List Str → List α
  | _, [] => []
  | rem, p :: ps => rem.filter (hit p) ++ stageGen hit (rem.filter (fun e => !hit p e)) ps

theorem stageGen_perm {α} (hit : Str → α → Bool) (pats : List Str) :
    ∀ rem : List α, stageGen hit rem pats ~ rem.filter (fun e => pats.any (fun p => hit p e)) := by
  induction pats with
  | nil => intro rem; simp [stageGen]
  | cons p ps ih =>
      intro rem
      simp only [stageGen, List.any_cons]
      exact (Perm.append_left _ (ih _)).trans (filter_split_perm _ _ rem)

theorem stageFound_eq (c : Cfg) (found : List Cand) (pats : List Str) :
    stageFound c found pats = stageGen (foundHit c) found pats := by
  induction pats generalizing found with
  | nil => rfl
  | cons p ps ih => simp [stageFound, stageGen, ih]

theorem matches_abs {ic ir : Bool} {p : Str} (h : Absolute ic ir p) (v : Str) :
    Matches ic ir p v ↔ p = v := by
  obtain ⟨h1, h2, h3⟩ := h
  subst h1; subst h2
  rw [← matches_spec]
  simp only [valueMatches, Bool.false_eq_true, if_false, if_true, globMatch]
  exact tokMatch_lits p v h3

theorem matchesCfg_iff (c : Cfg) (p v : Str) :
    MatchesCfg c p v ↔
      if Absolute c.isCase c.isRe p ∧ c.ci = true then lower v = lower p else Matches c.isCase c.isRe p v := by
  unfold MatchesCfg; split <;> simp [*]

theorem matchesCfg_plain {c : Cfg} {p v : Str} (h : c.ci = false) :
    MatchesCfg c p v ↔ Matches c.isCase c.isRe p v := by
  rw [matchesCfg_iff, if_neg (by simp [h])]

theorem second_of_noci {c : Cfg} (h : c.ci = false) : c.second = c := by
  cases c; cases h; rfl

theorem direct_of_consistent {c : Cfg} (h : c.ci = true → c.indexed = true) : c.direct = c := by
  obtain ⟨_, _, indexed, ci⟩ := c
  cases ci <;> simp_all [Cfg.direct]

theorem matchesCfg_second (c : Cfg) (p v : Str) :
    MatchesCfg c.second p v ↔ Matches c.isCase c.isRe p v :=
  matchesCfg_plain (c := c.second) rfl

theorem cfg_abs_iff (c : Cfg) (p : Str) : c.abs p = true ↔ Absolute c.isCase c.isRe p := isAbsolute_iff _ _ _
theorem cfg_vm_iff (c : Cfg) (p v : Str) : c.vm p v = true ↔ Matches c.isCase c.isRe p v := matches_spec _ _ _ _

theorem val_of_key {e : Cand} {k : Str} (h : e.key = some k) : e.val = k := by simp [Cand.val, h]

theorem key_eq_iff_val {e : Cand} {p : Str} (hk : e.key.isSome = true ∨ p ≠ []) :
    e.key = some p ↔ p = e.val := by
  cases hkey : e.key with
  | none =>
      simp [Cand.val, hkey] at hk ⊢
      exact hk
  | some k => simp [Cand.val, hkey, eq_comm]

def valHit (c : Cfg) (p v : Str) : Bool := if c.abs p then v == p else c.vm p v

theorem valHit_iff {c : Cfg} {p v : Str} : valHit c p v = true ↔ MatchesCfg c.second p v := by
  rw [matchesCfg_second]
  unfold valHit
  split
  · rename_i ha
    rw [matches_abs ((cfg_abs_iff c p).mp ha)]
    exact beq_iff_eq.trans eq_comm
  · exact cfg_vm_iff c p v

theorem foundHit_iff {c : Cfg} {p : Str} {e : Cand}
    (hk : e.key.isSome = true ∨ p ≠ []) : foundHit c p e = true ↔ MatchesCfg c.second p e.val := by
  rw [← valHit_iff]
  unfold foundHit valHit
  split
  · rw [beq_iff_eq, beq_iff_eq, key_eq_iff_val hk, eq_comm]
  · rfl

theorem filter_any_eq_filterSpec {c : Cfg} {hit : Str → Cand → Bool} {pats : List Str} {l : List Cand}
    (h : ∀ e ∈ l, ∀ p ∈ pats, (hit p e = true ↔ MatchesCfg c p e.val)) :
    l.filter (fun e => pats.any (fun p => hit p e)) = filterSpec c l pats := by
  refine List.filter_congr fun e he => ?_
  rw [Bool.eq_iff_iff, List.any_eq_true, decide_eq_true_eq]
  exact exists_congr fun p => and_congr_right (h e he p)


def MapOk (m : NameMap) : Prop := ∀ kv ∈ m, ∀ e ∈ kv.2, e.val = kv.1

theorem nmInsert_ok {m : NameMap} (h : MapOk m) (e : Cand) : MapOk (nmInsert m e) := by
  induction m with
  | nil => simp [nmInsert, MapOk]
  | cons a r ih =>
      obtain ⟨ha, hr⟩ := List.forall_mem_cons.mp h
      unfold nmInsert
      split
      · next hk =>
        refine List.forall_mem_cons.mpr ⟨fun x hx => ?_, hr⟩
        rcases List.mem_append.mp hx with hx | hx
        · exact ha x hx
        · rw [List.mem_singleton.mp hx, beq_iff_eq.mp hk]
      · exact List.forall_mem_cons.mpr ⟨ha, ih hr⟩

theorem nmFlat_insert (m : NameMap) (e : Cand) : nmFlat (nmInsert m e) ~ nmFlat m ++ [e] := by
  induction m with
  | nil => simp [nmInsert, nmFlat]
  | cons a r ih =>
      unfold nmInsert
      split <;> simp only [nmFlat, List.flatMap_cons, List.append_assoc]
      · exact Perm.append_left _ perm_append_comm
      · exact Perm.append_left _ ih

theorem foldl_insert (l : List Cand) : ∀ m : NameMap, MapOk m →
    MapOk (l.foldl nmInsert m) ∧ nmFlat (l.foldl nmInsert m) ~ nmFlat m ++ l := by
  induction l with
  | nil => intro m hm; simp [hm]
  | cons e r ih =>
      intro m hm
      obtain ⟨h1, h2⟩ := ih (nmInsert m e) (nmInsert_ok hm e)
      exact ⟨h1, h2.trans (by simpa using (nmFlat_insert m e).append_right r)⟩

theorem buildMap_ok (l : List Cand) : MapOk (buildMap l) :=
  (foldl_insert l [] nofun).1

theorem buildMap_flat (l : List Cand) : nmFlat (buildMap l) ~ l :=
  (foldl_insert l [] nofun).2

theorem mapHit_eq (c : Cfg) (p : Str) (kv : Str × List Cand) : mapHit c p kv = valHit c p kv.1 := rfl

theorem nmFlat_filter {m : NameMap} (h : MapOk m) (f : Str → Bool) :
    nmFlat (m.filter (fun kv => f kv.1)) = (nmFlat m).filter (fun e => f e.val) := by
  induction m with
  | nil => rfl
  | cons a r ih =>
      obtain ⟨ha, hr⟩ := List.forall_mem_cons.mp h
      -- all of an entry's elements have the entry's name: they stay or go together
      have hes : a.2.filter (fun e => f e.val) = if f a.1 then a.2 else [] := by
        split
        · exact List.filter_eq_self.mpr fun e he => by rwa [ha e he]
        · exact List.filter_eq_nil_iff.mpr fun e he => by rwa [ha e he]
      simp only [nmFlat, List.filter_cons, List.flatMap_cons, List.filter_append, hes] at ih ⊢
      rw [← ih hr]
      split <;> rfl

theorem stageMapGo_eq (c : Cfg) (pats : List Str) : ∀ m : NameMap,
    stageMapGo c m pats = nmFlat (stageGen (mapHit c) m pats) := by
  induction pats with
  | nil => intro m; simp [stageMapGo, stageGen, nmFlat]
  | cons p ps ih =>
      intro m
      simp only [stageMapGo, stageGen, ih]
      simp [nmFlat, List.flatMap_append]

theorem stageMapGo_perm (c : Cfg) (pats : List Str) (m : NameMap) (hm : MapOk m) :
    stageMapGo c m pats ~ (nmFlat m).filter (fun e => pats.any (fun p => valHit c p e.val)) := by
  rw [stageMapGo_eq]
  exact (Perm.flatMap_right _ (stageGen_perm (mapHit c) pats m)).trans
    (.of_eq (nmFlat_filter hm fun v => pats.any fun p => valHit c p v))

theorem stageMap_perm (c : Cfg) (found others : List Cand) (pats : List Str) :
    stageMap c found others pats ~ filterSpec c.second (freshOnes found others) pats := by
  unfold stageMap
  refine (stageMapGo_perm c pats _ (buildMap_ok _)).trans ?_
  exact (Perm.filter _ (buildMap_flat _)).trans (Perm.of_eq
    (filter_any_eq_filterSpec (hit := fun p e => valHit c p e.val) fun _ _ _ _ => valHit_iff))


theorem mem_dedup (l : List Cand) (x : Cand) : x ∈ dedup l ↔ x ∈ l := by
  induction l with
  | nil => simp [dedup]
  | cons e r ih =>
      simp only [dedup, List.mem_cons, List.mem_filter, ih]
      by_cases hxe : x = e <;> simp [hxe]

theorem nodup_dedup (l : List Cand) : (dedup l).Nodup := by
  induction l with
  | nil => simp [dedup]
  | cons e r ih =>
      simp only [dedup, List.nodup_cons, List.mem_filter]
      exact ⟨fun h => by simp at h, ih.sublist List.filter_sublist⟩

theorem dedup_self (l : List Cand) (h : l.Nodup) : dedup l = l := by
  induction l with
  | nil => rfl
  | cons e r ih =>
      obtain ⟨he, hr⟩ := List.nodup_cons.mp h
      rw [dedup, ih hr, List.filter_eq_self.mpr]
      intro x hx
      simpa using fun hxe : x = e => he (hxe ▸ hx)

theorem dedup_append (a b : List Cand) : dedup (a ++ b) = dedup a ++ (dedup b).filter (fun e => !a.contains e) := by
  induction a with
  | nil => exact (List.filter_eq_self.mpr fun _ _ => rfl).symm
  | cons e r ih =>
      simp only [List.cons_append, dedup, ih, List.filter_append, List.filter_filter, List.cons.injEq, true_and,
        List.append_cancel_left_eq]
      exact List.filter_congr fun x _ => by by_cases hx : x = e <;> simp [hx]

/-- the `found` set only hides elements: what is skipped and what is remembered is a filter of `dedup` -/
theorem freshOnes_eq (l : List Cand) : ∀ F : List Cand,
    freshOnes F l = (dedup l).filter (fun e => !F.contains e) := by
  induction l with
  | nil => intro F; rfl
  | cons e r ih =>
      intro F
      simp only [freshOnes, dedup, List.filter_cons, List.filter_filter]
      by_cases h : F.contains e = true
      · simp only [h, if_true, Bool.not_true, Bool.false_eq_true, if_false, ih]
        apply List.filter_congr
        intro x _
        have he : e ∈ F := by simpa using h
        by_cases hx : x = e <;> simp [hx, he]
      · simp only [h, Bool.false_eq_true, if_false, Bool.not_false, if_true, ih, List.cons.injEq, true_and]
        exact List.filter_congr fun x _ => by by_cases hx : x = e <;> simp [hx]

theorem freshOnes_filter_congr (s : Cand → Bool) (l F1 F2 : List Cand)
    (h : ∀ e, s e = true → (e ∈ F1 ↔ e ∈ F2)) : (freshOnes F1 l).filter s = (freshOnes F2 l).filter s := by
  simp only [freshOnes_eq, List.filter_filter]
  apply List.filter_congr
  intro e _
  cases hs : s e with
  | false => rfl
  | true => simp [h e hs]

theorem mem_freshOnes (l F : List Cand) (x : Cand) : x ∈ freshOnes F l ↔ x ∈ l ∧ x ∉ F := by
  simp [freshOnes_eq, mem_dedup]

theorem nodup_freshOnes (l F : List Cand) : (freshOnes F l).Nodup := by
  rw [freshOnes_eq]; exact (nodup_dedup l).sublist List.filter_sublist

theorem freshOnes_self (l F : List Cand) (hn : l.Nodup) (hd : ∀ e ∈ l, e ∉ F) : freshOnes F l = l := by
  rw [freshOnes_eq, dedup_self l hn]
  exact List.filter_eq_self.mpr (by simpa using hd)

theorem freshOnes_append (a F b : List Cand) :
    freshOnes F (a ++ b) = freshOnes F a ++ freshOnes (F ++ a) b := by
  simp only [freshOnes_eq, dedup_append, List.filter_append, List.filter_filter]
  congr 1
  exact List.filter_congr fun x _ => by simp [Bool.and_comm]


def indexTarget (c : Cfg) (p : Str) : Str := if c.ci then lower p else p

theorem absEq_indexed {c : Cfg} (hi : c.indexed = true) (p : Str) (e : Cand) :
    absEq c p e = (indexKey c e == some (indexTarget c p)) := by
  unfold absEq indexKey indexTarget
  cases hk : e.key with
  | none => cases c.ci <;> simp
  | some k => cases hci : c.ci <;> simp [hi]

theorem find_toList_eq_filter {α β} [BEq β] [LawfulBEq β] (f : α → Option β) (t : β) (l : List α)
    (h : (l.filterMap f).Nodup) :
    (l.find? (fun e => f e == some t)).toList = l.filter (fun e => f e == some t) := by
  induction l with
  | nil => rfl
  | cons x r ih =>
      by_cases hx : f x = some t
      · -- a second element with the key `t` would make `t` occur twice
        rw [List.filterMap_cons_some hx] at h
        have : r.filter (fun e => f e == some t) = [] := List.filter_eq_nil_iff.mpr fun e he hfe =>
          (List.nodup_cons.mp h).1 (List.mem_filterMap.mpr ⟨e, he, by simpa using hfe⟩)
        simp [hx, this]
      · simpa [hx] using ih (h.sublist ((List.sublist_cons_self x r).filterMap f))

theorem lookupAll_eq_filter (c : Cfg) (p : Str) (g : List Cand)
    (hu : c.indexed = true → UniqueKeys c g) : lookupAll c p g = g.filter (absEq c p) := by
  unfold lookupAll
  by_cases hi : c.indexed = true
  · simp only [hi, if_true, funext (absEq_indexed hi p)]
    exact find_toList_eq_filter (indexKey c) (indexTarget c p) g (hu hi)
  · simp [hi]

/-- what one pattern selects among the children of a directly visited parent -/
def dHit (c : Cfg) (keyed : Bool) (p : Str) (e : Cand) : Bool :=
  if c.abs p then absEq c p e else scanHit c keyed p e

theorem directPat_eq (c : Cfg) (keyed : Bool) (g found : List Cand) (p : Str)
    (hu : c.indexed = true → UniqueKeys c g) :
    directPat c keyed g found p = g.filter (fun e => !found.contains e && dHit c keyed p e) := by
  unfold directPat dHit
  by_cases ha : c.abs p = true
  · simp only [ha, if_true, lookupAll_eq_filter c p g hu, List.filter_filter]
  · simp only [ha, Bool.false_eq_true, if_false]

theorem directGroup_found (c : Cfg) (keyed : Bool) (g : List Cand) (pats : List Str) :
    ∀ found, (directGroup c keyed g found pats).2 = found ++ (directGroup c keyed g found pats).1 := by
  induction pats with
  | nil => intro found; simp [directGroup]
  | cons p ps ih => intro found; simp [directGroup, ih, List.append_assoc]

theorem directGroup_eq (c : Cfg) (keyed : Bool) (g : List Cand) (pats : List Str)
    (hu : c.indexed = true → UniqueKeys c g) : ∀ found,
    (directGroup c keyed g found pats).1 =
      stageGen (dHit c keyed) (g.filter (fun e => !found.contains e)) pats := by
  induction pats with
  | nil => intro found; rfl
  | cons p ps ih =>
      intro found
      simp only [directGroup, stageGen, directPat_eq c keyed g found p hu, ih, List.filter_filter]
      congr 1
      · exact List.filter_congr fun e _ => Bool.and_comm _ _
      · congr 1
        apply List.filter_congr
        intro e he
        by_cases hf : e ∈ found <;> by_cases hd : dHit c keyed p e = true <;> simp [hf, hd, he]

theorem directGroup_perm (c : Cfg) (keyed : Bool) (g : List Cand) (pats : List Str)
    (hu : c.indexed = true → UniqueKeys c g) (found : List Cand) :
    (directGroup c keyed g found pats).1 ~
      (g.filter (fun e => !found.contains e)).filter (fun e => pats.any (fun p => dHit c keyed p e)) := by
  rw [directGroup_eq c keyed g pats hu]
  exact stageGen_perm _ _ _

theorem stageDirect_found (c : Cfg) (keyed : Bool) (pats : List Str) (groups : List (List Cand)) :
    ∀ found, (stageDirect c keyed pats groups found).2 = found ++ (stageDirect c keyed pats groups found).1 := by
  induction groups with
  | nil => intro found; simp [stageDirect]
  | cons g gs ih =>
      intro found
      simp only [stageDirect, ih, directGroup_found, List.append_assoc]

theorem stageDirect_perm (c : Cfg) (keyed : Bool) (pats : List Str) (groups : List (List Cand))
    (hn : ∀ g ∈ groups, g.Nodup) (hu : c.indexed = true → ∀ g ∈ groups, UniqueKeys c g) : ∀ found,
    (stageDirect c keyed pats groups found).1 ~
      (freshOnes found groups.flatten).filter (fun e => pats.any (fun p => dHit c keyed p e)) := by
  induction groups with
  | nil => intro found; simp [stageDirect, freshOnes]
  | cons g gs ih =>
      intro found
      have hA := directGroup_perm c keyed g pats (fun hi => hu hi g (by simp)) found
      simp only [stageDirect, List.flatten_cons, directGroup_found, freshOnes_append, List.filter_append]
      refine Perm.append ?_ ?_
      · rwa [freshOnes_eq, dedup_self g (hn g (by simp))]
      · refine (ih (fun g' hg' => hn g' (List.mem_cons_of_mem _ hg'))
          (fun hi g' hg' => hu hi g' (List.mem_cons_of_mem _ hg')) _).trans (Perm.of_eq ?_)
        -- the children of `g` that were not returned do not match: it makes no difference to count them as found
        apply freshOnes_filter_congr
        intro e he
        simp only [List.mem_append, hA.mem_iff, List.mem_filter, he, Bool.not_eq_true',
          List.contains_eq_mem, decide_eq_false_iff_not]
        by_cases hf : e ∈ found <;> simp [hf]

theorem dHit_iff {c : Cfg} {keyed : Bool} {p : Str} {e : Cand}
    (hk : e.key.isSome = true ∨ (keyed = false ∧ p ≠ [])) :
    dHit c keyed p e = true ↔ MatchesCfg c.direct p e.val := by
  rw [matchesCfg_iff]
  show _ ↔ if Absolute c.isCase c.isRe p ∧ (c.indexed && c.ci) = true then _ else Matches c.isCase c.isRe p e.val
  unfold dHit
  by_cases ha : c.abs p = true
  · have hA := (cfg_abs_iff c p).mp ha
    simp only [ha, if_true, hA, true_and, matches_abs hA]
    cases hkey : e.key with
    | none =>
        -- the value is "", the pattern is not
        have hp : p ≠ [] := hk.elim (fun h => by simp [hkey] at h) (·.2)
        simp only [absEq, hkey, Cand.val, Option.getD_none, Bool.false_eq_true, false_iff]
        split <;> simp [lower, hp]
    | some k =>
        simp only [absEq, hkey, val_of_key hkey]
        split
        · exact beq_iff_eq
        · exact beq_iff_eq.trans eq_comm
  · have hnA : ¬ (Absolute c.isCase c.isRe p ∧ (c.indexed && c.ci) = true) :=
      fun h => ha ((cfg_abs_iff c p).mpr h.1)
    rw [if_neg hnA, ← cfg_vm_iff]
    simp only [ha, Bool.false_eq_true, if_false]
    unfold scanHit
    cases hk with
    | inl h => simp [h]
    | inr h => simp [h.1]

/-- a child lacking the key is never returned by get_instances' direct stage -/
theorem dHit_keyless {c : Cfg} {p : Str} {e : Cand} (h : e.key.isSome = false) :
    dHit c true p e = false := by
  unfold dHit absEq scanHit
  cases hk : e.key with
  | none => by_cases ha : c.abs p = true <;> simp [ha]
  | some k => simp [hk] at h

theorem filterSpec_append (c : Cfg) (a b : List Cand) (pats : List Str) :
    filterSpec c (a ++ b) pats = filterSpec c a pats ++ filterSpec c b pats := by
  simp [filterSpec, List.filter_append]

theorem stageMapGo_nil (c : Cfg) (pats : List Str) : stageMapGo c [] pats = [] := by
  induction pats with
  | nil => rfl
  | cons p ps ih => simp [stageMapGo, nmFlat, ih]

theorem matchesCfg_second_imp {c : Cfg} {p v : Str} (h : MatchesCfg c.second p v) :
    MatchesCfg c.direct p v := by
  rw [matchesCfg_second] at h
  rw [matchesCfg_iff]
  split
  · rename_i hA; rw [(matches_abs hA.1 v).mp h]
  · exact h

theorem takeFrom_nodup (l : List Cand) : ∀ (inSet : List Cand), l.Nodup →
    takeFrom inSet l = (l.filter (fun e => inSet.contains e), inSet.filter (fun x => !l.contains x)) := by
  induction l with
  | nil => intro inSet _; simp [takeFrom, List.filter_eq_self.mpr]
  | cons h r ih =>
      intro inSet hn
      obtain ⟨hh, hr⟩ := List.nodup_cons.mp hn
      simp only [takeFrom, ih _ hr, List.filter_cons]
      by_cases hc : inSet.contains h = true
      · simp only [hc, if_true, List.filter_filter]
        congr 1
        · -- removing `h` from the set changes nothing for the elements of `r`
          congr 1
          exact List.filter_congr fun x hx => by
            have : x ≠ h := fun e => hh (e ▸ hx)
            simp [List.mem_filter, this]
        · exact List.filter_congr fun x _ => by by_cases hxh : x = h <;> simp [hxh, Bool.and_comm]
      · simp only [hc, Bool.false_eq_true, if_false]
        congr 1
        exact List.filter_congr fun x hx => by
          have : x ≠ h := fun e => hc (by simpa [e] using hx)
          simp [this]

theorem stageHGo_eq (c : Cfg) (m : NameMap) (hm : MapOk m) (hn : (nmFlat m).Nodup)
    (pats : List Str) : ∀ inSet : List Cand,
    stageHGo c m inSet pats =
      stageGen (fun p e => valHit c p e.val) ((nmFlat m).filter (fun e => inSet.contains e)) pats := by
  induction pats with
  | nil => intro inSet; rfl
  | cons p ps ih =>
      intro inSet
      have hflat : nmFlat (m.filter (mapHit c p)) = (nmFlat m).filter (fun e => valHit c p e.val) :=
        nmFlat_filter hm (fun v => valHit c p v)
      have hnd : ((nmFlat m).filter (fun e => valHit c p e.val)).Nodup := hn.sublist List.filter_sublist
      simp only [stageHGo, stageGen, hflat, takeFrom_nodup _ _ hnd, ih, List.filter_filter]
      congr 1
      · exact List.filter_congr fun e _ => Bool.and_comm _ _
      · congr 1
        apply List.filter_congr
        intro e he
        by_cases h1 : e ∈ inSet <;> by_cases h2 : valHit c p e.val = true <;>
          simp [h1, h2, he, List.mem_filter]

theorem mem_keyedPart (keyed : Bool) (l : List Cand) (x : Cand) :
    x ∈ keyedPart keyed l ↔ x ∈ l ∧ (keyed = true → x.key.isSome = true) := by
  unfold keyedPart; cases keyed <;> simp [List.mem_filter]

theorem matchesCfg_congr {c1 c2 : Cfg} (h1 : c1.isCase = c2.isCase) (h2 : c1.isRe = c2.isRe)
    (h3 : c1.ci = c2.ci) (p v : Str) : MatchesCfg c1 p v ↔ MatchesCfg c2 p v := by
  unfold MatchesCfg; rw [h1, h2, h3]

theorem filterSpec_congr {c1 c2 : Cfg} {l : List Cand} {pats1 pats2 : List Str}
    (h : ∀ e ∈ l, (∃ p ∈ pats1, MatchesCfg c1 p e.val) ↔ ∃ p ∈ pats2, MatchesCfg c2 p e.val) :
    filterSpec c1 l pats1 = filterSpec c2 l pats2 :=
  List.filter_congr fun e he => decide_eq_decide.mpr (h e he)

theorem filterSpec_congr_cfg {c1 c2 : Cfg} (h1 : c1.isCase = c2.isCase) (h2 : c1.isRe = c2.isRe)
    (h3 : c1.ci = c2.ci) (l : List Cand) (pats : List Str) :
    filterSpec c1 l pats = filterSpec c2 l pats :=
  filterSpec_congr fun e _ => by simp only [matchesCfg_congr h1 h2 h3]

theorem nodup_keyedPart (keyed : Bool) (l : List Cand) (h : l.Nodup) : (keyedPart keyed l).Nodup := by
  unfold keyedPart; cases keyed
  · simpa using h
  · simpa using h.sublist List.filter_sublist

theorem filterSpec_pats_congr (c : Cfg) (cands : List Cand) (pats pats' : List Str)
    (hp : ∀ p, p ∈ pats ↔ p ∈ pats') : filterSpec c cands pats = filterSpec c cands pats' :=
  filterSpec_congr fun e _ => by simp only [hp]

end Spydr.Query
