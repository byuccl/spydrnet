/-
  From cable lists to the abstract wire function of LemmasContract: `pinsAt`, its behaviour under
  `mapWires` / append / `liftCables`, pin uniqueness from `Nodup (allPins …)`, the specification of
  `findWire`.  Then the graph in the form the flatten proofs use: the wires of the top definition
  through `pinsAt` (lifted inner pins count as the instance pin they are), everything else as in `UAdj`
  (`RestAdj`); it is `UAdj` when the top definition has no lifted pins.
-/
import Spydr.Xform.LemmasContract
import Spydr.Xform.LemmasFlatBasic

namespace Spydr.Xform

/-- the pins of the wire with label (cable identifier, position) among the cables `cs` -/
def pinsAt (cs : List Cable) (l : Label) : List Pin :=
  match cs.find? (fun c => c.id == l.1) with
  | none => []
  | some c => c.wires.getD l.2 []

theorem pinsAt_of_mem {cs : List Cable} (hnd : (cs.map (·.id)).Nodup) {c : Cable} (hc : c ∈ cs) (k : Nat) :
    pinsAt cs (c.id, k) = c.wires.getD k [] := by
  simp only [pinsAt, find?_key (fun c : Cable => c.id) hnd hc]

theorem mem_pinsAt {cs : List Cable} {l : Label} {p : Pin} (h : p ∈ pinsAt cs l) :
    ∃ c ∈ cs, c.id = l.1 ∧ ∃ w, c.wires[l.2]? = some w ∧ p ∈ w := by
  simp only [pinsAt] at h
  cases hf : cs.find? (fun c => c.id == l.1) with
  | none => simp [hf] at h
  | some c =>
    simp only [hf] at h
    refine ⟨c, List.mem_of_find?_eq_some hf, by simpa using List.find?_some hf, ?_⟩
    cases hw : c.wires[l.2]? with
    | none => simp [List.getD, hw] at h
    | some w => exact ⟨w, rfl, by simpa [List.getD, hw] using h⟩

theorem mapWires_ids (f : List Pin → List Pin) (cs : List Cable) : (mapWires f cs).map (·.id) = cs.map (·.id) := by
  simp [mapWires, List.map_map, Function.comp]

theorem pinsAt_mapWires (f : List Pin → List Pin) (hf : f [] = []) (cs : List Cable) (l : Label) :
    pinsAt (mapWires f cs) l = f (pinsAt cs l) := by
  simp only [pinsAt, mapWires]
  induction cs with
  | nil => simp [hf]
  | cons a cs ih =>
    simp only [List.map_cons, List.find?_cons]
    cases h : a.id == l.1 with
    | true =>
      simp only [List.getD, List.getElem?_map]
      cases a.wires[l.2]? <;> simp [hf]
    | false => exact ih

theorem pinsAt_append (cs cs' : List Cable) (l : Label) :
    pinsAt (cs ++ cs') l = if l.1 ∈ cs.map (·.id) then pinsAt cs l else pinsAt cs' l := by
  simp only [pinsAt, List.find?_append]
  cases hf : cs.find? (fun c => c.id == l.1) with
  | some c =>
    have : l.1 ∈ cs.map (·.id) :=
      List.mem_map.mpr ⟨c, List.mem_of_find?_eq_some hf, by simpa using List.find?_some hf⟩
    simp [this]
  | none =>
    have : l.1 ∉ cs.map (·.id) := by
      intro h
      obtain ⟨c, hc, hid⟩ := List.mem_map.mp h
      have := List.find?_eq_none.mp hf c hc
      simp [hid] at this
    simp [this]

theorem pinsAt_cons (c : Cable) (cs : List Cable) (l : Label) :
    pinsAt (c :: cs) l = if c.id = l.1 then c.wires.getD l.2 [] else pinsAt cs l := by
  simp only [pinsAt, List.find?_cons]
  by_cases h : c.id = l.1
  · simp [h]
  · rw [if_neg h, show (c.id == l.1) = false by simpa using h]

theorem allPins_cons (c : Cable) (cs : List Cable) : allPins (c :: cs) = c.wires.flatten ++ allPins cs := by
  simp [allPins]

theorem mem_allPins_of_pinsAt {cs : List Cable} {l : Label} {p : Pin} (h : p ∈ pinsAt cs l) : p ∈ allPins cs := by
  obtain ⟨c, hc, _, w, hw, hp⟩ := mem_pinsAt h
  exact List.mem_flatten.mpr ⟨w, List.mem_flatMap.mpr ⟨c, hc, List.mem_of_getElem? hw⟩, hp⟩

theorem mem_pinsAt_of_allPins {cs : List Cable} (hnd : (cs.map (·.id)).Nodup) {p : Pin} (h : p ∈ allPins cs) :
    ∃ l, p ∈ pinsAt cs l := by
  obtain ⟨w, hw, hp⟩ := List.mem_flatten.mp h
  obtain ⟨c, hc, hw⟩ := List.mem_flatMap.mp hw
  obtain ⟨k, hk⟩ := List.getElem?_of_mem hw
  exact ⟨(c.id, k), by rw [pinsAt_of_mem hnd hc]; simpa [List.getD, hk] using hp⟩

theorem pinsOk_iff_nodup : ∀ (cs : List Cable), (cs.map (·.id)).Nodup → (PinsOk (pinsAt cs) ↔ (allPins cs).Nodup)
  | [], _ => ⟨fun _ => List.nodup_nil, fun _ => ⟨fun l => List.nodup_nil, fun p l1 l2 h => nomatch h⟩⟩
  | c :: cs, hnd => by
    obtain ⟨hc, hnd'⟩ := List.nodup_cons.mp (by simpa using hnd : (c.id :: cs.map (·.id)).Nodup)
    -- a label with the identifier of `c` names no wire of `cs`
    have hnil : ∀ {l p}, p ∈ pinsAt cs l → c.id ≠ l.1 := fun hp e => by
      obtain ⟨c', hc', hid, _⟩ := mem_pinsAt hp
      exact hc (e ▸ hid ▸ List.mem_map_of_mem hc')
    have own : ∀ k, pinsAt (c :: cs) (c.id, k) = c.wires.getD k [] := fun k => by rw [pinsAt_cons, if_pos rfl]
    have other : ∀ {l p}, p ∈ pinsAt cs l → pinsAt (c :: cs) l = pinsAt cs l := fun hp => by
      rw [pinsAt_cons, if_neg (hnil hp)]
    rw [allPins_cons, List.nodup_append, nodup_flatten_iff_getD, ← pinsOk_iff_nodup cs hnd']
    constructor
    · intro ok
      refine ⟨⟨fun k => own k ▸ ok.nodup _, fun i j p hi hj => ?_⟩, ⟨fun l => ?_, fun p l1 l2 h1 h2 => ?_⟩, ?_⟩
      · exact (Prod.mk.inj (ok.uniq p (c.id, i) (c.id, j) (own i ▸ hi) (own j ▸ hj))).2
      · cases hl : pinsAt cs l with
        | nil => exact List.nodup_nil
        | cons p _ => rw [← hl, ← other (p := p) (hl ▸ List.mem_cons_self)]; exact ok.nodup l
      · exact ok.uniq p l1 l2 (other h1 ▸ h1) (other h2 ▸ h2)
      · rintro a ha _ hb rfl
        obtain ⟨k, hk⟩ := mem_flatten_iff_getD.mp ha
        obtain ⟨l, hl⟩ := mem_pinsAt_of_allPins hnd' hb
        exact hnil hl (congrArg Prod.fst (ok.uniq a (c.id, k) l (own k ▸ hk) (other hl ▸ hl)))
    · rintro ⟨⟨hn, hu⟩, ok', hd⟩
      have hdis : ∀ {p k l}, p ∈ c.wires.getD k [] → p ∈ pinsAt cs l → False := fun h1 h2 =>
        hd _ (mem_flatten_iff_getD.mpr ⟨_, h1⟩) _ (mem_allPins_of_pinsAt h2) rfl
      refine ⟨fun l => ?_, fun p l1 l2 h1 h2 => ?_⟩
      · rw [pinsAt_cons]; split
        · exact hn _
        · exact ok'.nodup l
      · rw [pinsAt_cons] at h1 h2
        split at h1 <;> split at h2
        · rename_i e1 e2; exact Prod.ext (e1.symm.trans e2) (hu _ _ p h1 h2)
        · exact (hdis h1 h2).elim
        · exact (hdis h2 h1).elim
        · exact ok'.uniq p l1 l2 h1 h2

theorem findWire_inSpec {cs : List Cable} (hnd : (cs.map (·.id)).Nodup) (p : Pin) :
    InSpec (pinsAt cs) p (findWire p cs) := by
  simp only [InSpec, findWire]
  cases hf : (cs.flatMap (·.wires)).find? (fun w => w.contains p) with
  | none =>
    left
    refine ⟨rfl, ?_⟩
    intro l hl
    obtain ⟨c, hc, _, w, hw, hp⟩ := mem_pinsAt hl
    have := List.find?_eq_none.mp hf w (List.mem_flatMap.mpr ⟨c, hc, List.mem_of_getElem? hw⟩)
    simp [hp] at this
  | some w =>
    right
    have hwm := List.mem_of_find?_eq_some hf
    have hp : p ∈ w := by simpa using List.find?_some hf
    obtain ⟨c, hc, hwc⟩ := List.mem_flatMap.mp hwm
    obtain ⟨k, hk⟩ := List.getElem?_of_mem hwc
    refine ⟨(c.id, k), ?_, ?_⟩
    · rw [pinsAt_of_mem hnd hc]; simpa [List.getD, hk] using hp
    · rw [pinsAt_of_mem hnd hc]; simp [List.getD, hk]

theorem findWire_outSpec {cs : List Cable} (hnd : (cs.map (·.id)).Nodup) (p : Pin) :
    OutSpec (pinsAt cs) p (findWire p cs).isSome := by
  rcases findWire_inSpec hnd p with ⟨h1, h2⟩ | ⟨l, h1, h2⟩
  · left; rw [h1]; exact ⟨rfl, h2⟩
  · right; rw [h2]; exact ⟨rfl, l, h1⟩

theorem pinsAt_redoPin (iid : Nat) (cs : List Cable) (pb : Nat × Nat) :
    pinsAt (redoPin iid cs pb) =
      redoOf (pinsAt cs) (.inner iid pb.1 pb.2) (.inst iid pb.1 pb.2)
        (findWire (.inner iid pb.1 pb.2) cs) (findWire (.inst iid pb.1 pb.2) cs).isSome := by
  funext l
  simp only [redoPin, redoOf]
  exact pinsAt_mapWires _ (by simp [redoWire]) cs l

theorem redoPin_ids (iid : Nat) (cs : List Cable) (pb : Nat × Nat) :
    (redoPin iid cs pb).map (·.id) = cs.map (·.id) := mapWires_ids _ _

/-- edges contributed by the definitions other than top -/
inductive RestAdj (d : Design) : UNode → UNode → Prop
  | outer {x : Nat} {c : Cable} {k : Nat} {w : List Pin} {iid pi bit : Nat} :
      x < d.ndefs → x ≠ d.top → c ∈ (d.defs x).cables → c.wires[k]? = some w → Pin.inst iid pi bit ∈ w →
      RestAdj d (.W c.id k) (.P iid pi bit)
  | inner {x : Nat} {c : Cable} {k : Nat} {w : List Pin} {j : Inst} {pi bit : Nat} :
      x < d.ndefs → x ≠ d.top → c ∈ (d.defs x).cables → c.wires[k]? = some w → Pin.port pi bit ∈ w →
      InstIn d j → j.ref = x → RestAdj d (.W c.id k) (.P j.id pi bit)

theorem RestAdj.target_not_W {d : Design} {a b : UNode} (h : RestAdj d a b) : ∀ c k, b ≠ .W c k := by
  cases h <;> intro c k <;> simp

theorem uadj_iff_wadj {d : Design} (htop : d.top < d.ndefs)
    (hnd : ((d.defs d.top).cables.map (·.id)).Nodup)
    (hni : ∀ l p, p ∈ pinsAt (d.defs d.top).cables l → ∀ i pi b, p ≠ .inner i pi b) (a b : UNode) :
    UAdj d a b ↔ WAdj (pinsAt (d.defs d.top).cables) (RestAdj d) a b := by
  constructor
  · intro h
    cases h with
    | @outer x c k w iid pi bit hx hc hw hp =>
      by_cases hxt : x = d.top
      · subst hxt
        left
        refine ⟨(c.id, k), .inst iid pi bit, rfl, ?_, rfl⟩
        rw [pinsAt_of_mem hnd hc, getD_of_getElem? hw]; exact hp
      · exact Or.inr (RestAdj.outer hx hxt hc hw hp)
    | inner hx hxt hc hw hp hj hr => exact Or.inr (RestAdj.inner hx hxt hc hw hp hj hr)
    | @top c k w pi bit hc hw hp =>
      left
      refine ⟨(c.id, k), .port pi bit, rfl, ?_, rfl⟩
      rw [pinsAt_of_mem hnd hc, getD_of_getElem? hw]; exact hp
  · rintro (⟨l, p, rfl, hp, rfl⟩ | h)
    · obtain ⟨c, hc, hid, w, hw, hpw⟩ := mem_pinsAt hp
      rw [← hid]
      cases p with
      | port pi bit => exact UAdj.top hc hw hpw
      | inst iid pi bit => exact UAdj.outer htop hc hw hpw
      | inner i pi bit => exact absurd rfl (hni l _ hp i pi bit)
    · cases h with
      | outer hx hxt hc hw hp => exact UAdj.outer hx hc hw hp
      | inner hx hxt hc hw hp hj hr => exact UAdj.inner hx hxt hc hw hp hj hr

theorem liftCables_ids (iid : Nat) (pn : String) : ∀ (ctr : Nat) (cs : List Cable),
    (liftCables iid pn ctr cs).1.map (·.id) = cs.map (·.id)
  | _, [] => rfl
  | ctr, c :: cs => by
    simp only [liftCables]
    cases c.eid with
    | none => simp only [List.map_cons]; rw [liftCables_ids iid pn ctr cs]
    | some _ => simp only [List.map_cons]; rw [liftCables_ids iid pn (ctr + 1) cs]

theorem pinsAt_liftCables (iid : Nat) (pn : String) (l : Label) : ∀ (ctr : Nat) (cs : List Cable),
    pinsAt (liftCables iid pn ctr cs).1 l = (pinsAt cs l).map (liftPin iid)
  | _, [] => rfl
  | ctr, c :: cs => by
    have hget : ∀ (ws : List (List Pin)), (ws.map (fun w => w.map (liftPin iid))).getD l.2 [] =
        (ws.getD l.2 []).map (liftPin iid) := by
      intro ws
      simp only [List.getD, List.getElem?_map]
      cases ws[l.2]? <;> simp
    simp only [liftCables]
    cases c.eid with
    | none =>
      simp only [pinsAt, List.find?_cons]
      cases h : c.id == l.1 with
      | true => simp only [hget]
      | false => exact pinsAt_liftCables iid pn l ctr cs
    | some _ =>
      simp only [pinsAt, List.find?_cons]
      cases h : c.id == l.1 with
      | true => simp only [hget]
      | false => exact pinsAt_liftCables iid pn l (ctr + 1) cs

theorem liftPin_inj (iid : Nat) {p q : Pin} (hp : ∀ i pi b, p ≠ .inner i pi b) (hq : ∀ i pi b, q ≠ .inner i pi b)
    (h : liftPin iid p = liftPin iid q) : p = q := by
  cases p with
  | inner i pi b => exact absurd rfl (hp i pi b)
  | port a b =>
    cases q with
    | inner i pi b => exact absurd rfl (hq i pi b)
    | port a' b' => simpa [liftPin] using h
    | inst i a' b' => simp [liftPin] at h
  | inst i a b =>
    cases q with
    | inner i' pi b' => exact absurd rfl (hq _ _ _)
    | port a' b' => simp [liftPin] at h
    | inst i' a' b' => simpa [liftPin] using h

theorem RestAdj.mono {d d' : Design} (hn : d'.ndefs = d.ndefs) (ht : d'.top = d.top)
    (hc : ∀ x, x < d.ndefs → x ≠ d.top → ∀ c ∈ (d.defs x).cables, c ∈ (d'.defs x).cables)
    (hi : ∀ j, InstIn d j → (d.defs j.ref).cables ≠ [] → ∃ j', InstIn d' j' ∧ j'.id = j.id ∧ j'.ref = j.ref)
    {a b : UNode} (h : RestAdj d a b) : RestAdj d' a b := by
  cases h with
  | outer hx hxt hcm hw hp => exact RestAdj.outer (hn ▸ hx) (ht ▸ hxt) (hc _ hx hxt _ hcm) hw hp
  | @inner x c k w j pi bit hx hxt hcm hw hp hj hr =>
    obtain ⟨j', hj', h1, h2⟩ := hi j hj (by rw [hr]; exact List.ne_nil_of_mem hcm)
    rw [← h1]
    exact RestAdj.inner (hn ▸ hx) (ht ▸ hxt) (hc _ hx hxt _ hcm) hw hp hj' (h2.trans hr)

end Spydr.Xform
