/-
  Specification side of engine `xform`: the decidable predicates (evaluated by the driver on
  dumps of the implementation's netlists) and the reachability vocabulary.
  Written against `Model.lean` (the data types) only — not against the transformation models.

  NO Mathlib import (the driver links this file).
-/
import Spydr.Xform.Model

namespace Spydr.Xform

/-! ## Well-formedness of a dumped netlist (structural part of C01/C02 at value level) -/

/-- the pin reference `p` on a wire of definition `D` denotes an existing pin -/
def PinOk (d : Design) (D : Defn) : Pin → Prop
  | .port pi bit => ∃ P ∈ D.ports[pi]?, bit < P.width
  | .inst iid pi bit => ∃ c ∈ D.children, c.id = iid ∧ ∃ P ∈ (d.defs c.ref).ports[pi]?, bit < P.width
  | .inner _ _ _ => False

instance (d : Design) (D : Defn) (p : Pin) : Decidable (PinOk d D p) := by
  cases p <;> simp only [PinOk] <;> infer_instance

/-- one definition: references resolve, child identifiers are distinct, every pin reference is valid
    and sits on at most one wire (at most once) -/
def WFDef (d : Design) (D : Defn) : Prop :=
  (∀ c ∈ D.children, c.ref < d.ndefs) ∧
  (D.children.map (·.id)).Nodup ∧
  (allPins D.cables).Nodup ∧
  (∀ p ∈ allPins D.cables, PinOk d D p)

instance (d : Design) (D : Defn) : Decidable (WFDef d D) := by unfold WFDef; infer_instance

/-- the library order lists every definition exactly once, in the library it says it is in -/
def OrderOk (d : Design) : Prop :=
  d.order.flatten.Nodup ∧
  (∀ i ∈ d.order.flatten, i < d.ndefs) ∧
  (∀ i ∈ List.range d.ndefs, i ∈ d.order.flatten) ∧
  (∀ l ∈ List.range d.order.length, ∀ i ∈ d.order.getD l [], (d.defs i).lib = l)

instance (d : Design) : Decidable (OrderOk d) := by unfold OrderOk; infer_instance

def WF (d : Design) : Prop :=
  d.top < d.ndefs ∧ (∀ i ∈ List.range d.ndefs, WFDef d (d.defs i)) ∧ OrderOk d

instance (d : Design) : Decidable (WF d) := by unfold WF; infer_instance

def wfCheck (d : Design) : Bool := decide (WF d)

/-- named definitions of one library carry pairwise different names -/
def DefNamesUnique (d : Design) : Prop :=
  ∀ i ∈ List.range d.ndefs, ∀ j ∈ List.range d.ndefs, i ≠ j → (d.defs i).lib = (d.defs j).lib →
    (d.defs i).name ≠ none → (d.defs i).name ≠ (d.defs j).name

instance (d : Design) : Decidable (DefNamesUnique d) := by unfold DefNamesUnique; infer_instance

/-- definitions of one library carry pairwise different `EDIF.identifier` entries, compared
    case-insensitively (what the EDIF naming policy enforces among siblings) -/
def DefEidsUnique (d : Design) : Prop :=
  ∀ i ∈ List.range d.ndefs, ∀ j ∈ List.range d.ndefs, i ≠ j → (d.defs i).lib = (d.defs j).lib →
    ∀ a b, (d.defs i).eid = some a → (d.defs j).eid = some b → lowerStr a ≠ lowerStr b

/-! ## Preconditions of flatten -/

def allInsts (d : Design) : List Inst := (List.range d.ndefs).flatMap (fun i => (d.defs i).children)
def allCables (d : Design) : List Cable := (List.range d.ndefs).flatMap (fun i => (d.defs i).cables)

/-- instance identifiers and cable identifiers are unique in the whole netlist (the harness numbers
    the Python objects, so this is object identity): distinct inside every definition, and no
    identifier occurs in two definitions -/
def IdsUnique (d : Design) : Prop :=
  (∀ i ∈ List.range d.ndefs, ((d.defs i).children.map (·.id)).Nodup) ∧
  (∀ i ∈ List.range d.ndefs, ∀ j ∈ List.range d.ndefs, i ≠ j →
      ∀ a ∈ (d.defs i).children, ∀ b ∈ (d.defs j).children, a.id ≠ b.id) ∧
  (∀ i ∈ List.range d.ndefs, ((d.defs i).cables.map (·.id)).Nodup) ∧
  (∀ i ∈ List.range d.ndefs, ∀ j ∈ List.range d.ndefs, i ≠ j →
      ∀ a ∈ (d.defs i).cables, ∀ b ∈ (d.defs j).cables, a.id ≠ b.id)

instance (d : Design) : Decidable (IdsUnique d) := by unfold IdsUnique; infer_instance

def idsUniqueCheck (d : Design) : Bool := decide (IdsUnique d)

def goodName : Option String → Bool
  | none => false
  | some s => s != ""

/-- every instance and cable has a non-empty name (flatten concatenates names; the empty parent name
    is its "no prefix" sentinel).  Names may contain `/`; what the implementation additionally needs
    — it refuses a duplicate sibling name in `add_child` / `add_cable`, an exception the model does
    not have — is that the slash-joined path names of all instance occurrences and of all cables are
    pairwise distinct, which the harness checks on every input (`joined_name_collisions`). -/
def Named (d : Design) : Prop :=
  (∀ c ∈ allInsts d, goodName c.name = true) ∧ (∀ c ∈ allCables d, goodName c.name = true)

instance (d : Design) : Decidable (Named d) := by unfold Named; infer_instance

def namedCheck (d : Design) : Bool := decide (Named d)

/-! ## Reachability from the top definition -/

/-- definition `x` is instantiated (transitively) below the top instance, or is the top definition -/
inductive Reach (d : Design) : Nat → Prop
  | top : Reach d d.top
  | step {q : Nat} {c : Inst} : Reach d q → c ∈ (d.defs q).children → Reach d c.ref

/-- C08: every non-leaf instance below the top instance is the only instance of its definition
    (`len(reference.references) == 1`, counting every instance there is, also those outside the top
    hierarchy and outside every definition). -/
def Unique (d : Design) : Prop :=
  ∀ q c, Reach d q → c ∈ (d.defs q).children → (d.defs c.ref).isLeaf = true ∨ d.refCount c.ref = 1

/-- C09: the top definition holds leaf instances only. -/
def Flat (d : Design) : Prop :=
  ∀ c ∈ (d.defs d.top).children, (d.defs c.ref).isLeaf = true

/-- a definition never instantiates itself transitively: there is a rank that strictly decreases
    along every parent → reference edge -/
def Acyclic (d : Design) : Prop :=
  ∃ rank : Nat → Nat, ∀ q, q < d.ndefs → ∀ c ∈ (d.defs q).children, rank c.ref < rank q

end Spydr.Xform
