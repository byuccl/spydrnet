/-
  From the structural invariant to the C09 instance theorem (`LeavesOf`): the initial state,
  uniqueness of paths, the final state; at most as many instances are moved as the design has.
-/
import Spydr.Xform.LemmasFlatInv

namespace Spydr.Xform

theorem FInvA.init {d0 : Design} (hyp : Hyp d0) : FInvA d0 (fInit d0) [] where
  ndefs := rfl
  top := rfl
  order := rfl
  extra := rfl
  attrs := fun _ _ => ⟨rfl, rfl, rfl, rfl, rfl⟩
  kids := fun x _ => by simp [unmoved, fInit, List.filter_eq_self.mpr]
  cablesKeep := fun _ _ _ _ => rfl
  cablesGone := by
    intro x _ _ hd
    obtain ⟨m, hm, _⟩ := hd
    simp at hm
  toRemove := rfl
  movedNodup := by simp
  movedOrig := by intro m hm; simp at hm
  queue := by
    intro e he
    simp only [fInit, List.mem_map] at he
    obtain ⟨k, hk, rfl⟩ := he
    exact ⟨[], [], k, rfl, Or.inl rfl, hk, rfl, by simp, rfl⟩
  queueNodup := by
    simp only [fInit, List.map_map]
    exact hyp.wf.ids_nodup hyp.wf.1
  complete := by
    intro x _ hx c hc
    rcases hx with rfl | ⟨m, hm, _⟩
    · right
      simp only [fInit, List.map_map]
      exact List.mem_map.mpr ⟨c, hc, rfl⟩
    · simp at hm

theorem Path.nil_of_top {d0 : Design} (hyp : Hyp d0) {p : List Nat} {cs : List Inst} {x : Nat} (h : Path d0 p cs x)
    (hx : x = d0.top) : p = [] ∧ cs = [] := by
  cases h with
  | nil => exact ⟨rfl, rfl⟩
  | snoc h1 hc => exact absurd hx (reach_child_ne_top hyp.acyc hyp.wf h1.reach (childById_id hc).2)

/-- two paths from top to the same non-leaf definition coincide: such a definition has one instance -/
theorem Path.unique_to {d0 : Design} (hyp : Hyp d0) {p p' : List Nat} {cs cs' : List Inst} {x : Nat}
    (h : Path d0 p cs x) (h' : Path d0 p' cs' x) (hl : (d0.defs x).isLeaf = false) : p = p' ∧ cs = cs' := by
  induction h generalizing p' cs' with
  | nil => exact (fun e => ⟨e.1.symm, e.2.symm⟩) (h'.nil_of_top hyp rfl)
  | @snoc p1 cs1 y i c h1 hc ih =>
    generalize hx : c.ref = x at h'
    cases h' with
    | nil => exact absurd hx (reach_child_ne_top hyp.acyc hyp.wf h1.reach (childById_id hc).2)
    | @snoc p1' cs1' y' i' c' h1' hc' =>
      obtain ⟨rfl, rfl⟩ := unique_ref hyp.wf hyp.uniq h1.reach h1'.reach (childById_id hc).2 (childById_id hc').2 hx hl
      obtain ⟨rfl, rfl⟩ := ih h1' (nonleaf_of_child (childById_id hc).2)
      rw [← (childById_id hc).1, ← (childById_id hc').1]
      exact ⟨rfl, rfl⟩

theorem path_unique {d0 : Design} (hyp : Hyp d0) {p p' : List Nat} {cs cs' : List Inst} {c c' : Inst} {y y' : Nat}
    (h : Path d0 p (cs ++ [c]) y) (h' : Path d0 p' (cs' ++ [c']) y') (hid : c.id = c'.id) : cs = cs' ∧ c = c' := by
  obtain ⟨p1, x, _, h1, h2, _⟩ := h.snoc_inv
  obtain ⟨p1', x', _, h1', h2', _⟩ := h'.snoc_inv
  have hx := reach_lt hyp.wf h1.reach
  obtain rfl : x = x' := hyp.ids_disjoint hx (reach_lt hyp.wf h1'.reach) (childById_id h2).2 (childById_id h2').2 hid
  exact ⟨(h1.unique_to hyp h1' (nonleaf_of_child (childById_id h2).2)).2,
    hyp.child_eq hx (childById_id h2).2 (childById_id h2').2 hid⟩

section final
variable {d0 : Design} {s : FState} {moved : List Inst}

theorem FInvA.path_moved (hyp : Hyp d0) (inv : FInvA d0 s moved) (hq : s.queue = []) {p : List Nat} {cs : List Inst}
    {y : Nat} (h : Path d0 p cs y) :
    (∀ c ∈ cs, c.id ∈ moved.map (·.id)) ∧ (y = d0.top ∨ ∃ m ∈ moved, m.ref = y) := by
  induction h with
  | nil => exact ⟨by simp, Or.inl rfl⟩
  | @snoc p1 cs1 x i c h1 hc ih =>
    obtain ⟨ih1, ih2⟩ := ih
    have hx := reach_lt hyp.wf h1.reach
    have hcm := (childById_id hc).2
    have hxd : x = d0.top ∨ Dissolved d0 moved x :=
      ih2.imp id (fun ⟨m, hm, hmr⟩ => ⟨m, hm, hmr, nonleaf_of_child hcm⟩)
    have hmv : c.id ∈ moved.map (·.id) := (inv.complete x hx hxd c hcm).resolve_right (by rw [hq]; simp)
    refine ⟨fun c' hc' => ?_, Or.inr ?_⟩
    · rcases List.mem_append.mp hc' with h | h
      · exact ih1 c' h
      · exact List.mem_singleton.mp h ▸ hmv
    · obtain ⟨m, hm, hmid⟩ := List.mem_map.mp hmv
      exact ⟨m, hm, inv.moved_ref hyp hx hcm hm hmid⟩

theorem fFinal_defs (s : FState) (x : Nat) :
    (fFinal s).defs x =
      { s.d.defs x with children :=
          if x = s.d.top then (s.d.defs x).children.filter (fun c => !(s.toRemove.contains c.id)) else (s.d.defs x).children } := by
  dsimp only [fFinal, Design.setDef]
  by_cases hx : x = s.d.top <;> simp [hx]

/-- what flatten returns, definition by definition, once the queue is empty: the top definition holds the
    moved leaf instances (and the cables the walk has built), a dissolved definition is empty, every other
    definition is untouched -/
theorem FInvA.final_defs (hyp : Hyp d0) (inv : FInvA d0 s moved) (hq : s.queue = []) {x : Nat} (hx : x < d0.ndefs) :
    (fFinal s).defs x =
      if x = d0.top then
        { d0.defs x with cables := (s.d.defs d0.top).cables, children := moved.filter (fun m => (d0.defs m.ref).isLeaf) }
      else if Dissolved d0 moved x then { d0.defs x with cables := [], children := [] }
      else d0.defs x := by
  obtain ⟨a1, a2, a3, a4, a5⟩ := inv.attrs x hx
  have htop : s.d.top = d0.top := inv.top
  -- every child of an open definition has been moved
  have hun : x = d0.top ∨ Dissolved d0 moved x → unmoved d0 (moved.map (·.id)) x = [] := by
    intro ho
    simp only [unmoved, List.filter_eq_nil_iff]
    intro c hc
    simpa [hq] using inv.complete x hx ho c hc
  rw [fFinal_defs, htop]
  by_cases hxt : x = d0.top
  · rw [if_pos hxt, if_pos hxt]
    subst hxt
    refine Defn.ext' a2 a3 a4 a5 a1 rfl ?_
    show (s.d.defs d0.top).children.filter _ = _
    rw [inv.kids _ hx, hun (Or.inl rfl), if_pos rfl, List.nil_append]
    apply List.filter_congr
    intro m hm
    have := inv.mem_toRemove hm
    cases hl : (d0.defs m.ref).isLeaf <;> simp [hl] at this ⊢ <;> exact this
  · rw [if_neg hxt, if_neg hxt]
    split
    · rename_i hd
      exact Defn.ext' a2 a3 a4 a5 a1 (inv.cablesGone x hx hxt hd) ((inv.kids x hx).trans (by rw [if_neg hxt, List.append_nil, hun (Or.inr hd)]))
    · rename_i hd
      exact Defn.ext' a2 a3 a4 a5 a1 (inv.cablesKeep x hx hxt hd)
        ((inv.kids x hx).trans (by rw [if_neg hxt, List.append_nil, inv.unmoved_untouched hyp hx hxt hd]))

theorem FInvA.leavesOf (hyp : Hyp d0) (inv : FInvA d0 s moved) (hq : s.queue = []) : LeavesOf d0 (fFinal s) := by
  have htop : (fFinal s).top = d0.top := inv.top
  have hch : ((fFinal s).defs d0.top).children = moved.filter (fun m => (d0.defs m.ref).isLeaf) := by
    rw [inv.final_defs hyp hq hyp.wf.1, if_pos rfl]
  -- a moved instance with a leaf reference is a leaf occurrence of `d0`
  have hocc : ∀ m ∈ moved, ∃ cs c, (∃ p, walk d0 d0.top p = some (cs ++ [c], c.ref)) ∧ m.id = c.id ∧ m.ref = c.ref ∧
      m.data = c.data ∧ m.name = some (slashJoin ((cs ++ [c]).map instName)) ∧ c.ref < d0.ndefs ∧ c.ref ≠ d0.top := by
    intro m hm
    obtain ⟨p, cs, q, c0, hw, _, hc0, h1, h2, h3, h4⟩ := inv.movedOrig m hm
    have hp := path_iff_walk.mpr hw
    exact ⟨cs, c0, ⟨_, (hp.child hyp.wf hc0).walk⟩, h1, h2, h3, h4, hyp.wf.ref_lt (reach_lt hyp.wf hp.reach) hc0,
      reach_child_ne_top hyp.acyc hyp.wf hp.reach hc0⟩
  refine ⟨?_, ?_, ?_, ?_⟩
  · intro c' hc'
    rw [htop, hch] at hc'
    obtain ⟨hm, hl⟩ := List.mem_filter.mp hc'
    obtain ⟨cs, c, _, _, hr, _, _, hlt, hnt⟩ := hocc c' hm
    rw [hr] at hl ⊢
    rw [inv.final_defs hyp hq hlt, if_neg hnt, if_neg (fun ⟨_, _, _, h⟩ => by rw [hl] at h; cases h)]
    exact hl
  · intro c' hc'
    rw [htop, hch] at hc'
    obtain ⟨hm, hl⟩ := List.mem_filter.mp hc'
    obtain ⟨cs, c, hp, h1, h2, h3, h4, _, _⟩ := hocc c' hm
    obtain ⟨p, hp⟩ := hp
    exact ⟨cs, c, ⟨p, hp, by rw [← h2]; exact hl⟩, h1, h2, h3, h4⟩
  · intro cs c ⟨p, hp, hl⟩
    obtain ⟨hall, _⟩ := inv.path_moved hyp hq (path_iff_walk.mpr hp)
    have hmv := hall c (by simp)
    obtain ⟨m, hm, hmid⟩ := List.mem_map.mp hmv
    obtain ⟨cs', c', ⟨p', hp'⟩, h1, h2, h3, h4, _, _⟩ := hocc m hm
    obtain ⟨rfl, rfl⟩ := path_unique hyp (path_iff_walk.mpr hp) (path_iff_walk.mpr hp') (by rw [← hmid, h1])
    refine ⟨m, ?_, h1, h2, h3, h4⟩
    rw [htop, hch]
    exact List.mem_filter.mpr ⟨hm, by rw [h2]; exact hl⟩
  · rw [htop, hch]
    exact List.Nodup.sublist ((List.filter_sublist).map _) inv.movedNodup

end final

theorem FInvA.moved_le {d0 : Design} {s : FState} {moved : List Inst} (hyp : Hyp d0) (inv : FInvA d0 s moved) :
    moved.length ≤ (allInsts d0).length := by
  have h := inv.movedNodup.length_le_of_subset (l₂ := (allInsts d0).map (·.id)) (by
    intro a ha
    obtain ⟨m, hm, rfl⟩ := List.mem_map.mp ha
    obtain ⟨q, c0, hq, hc0, hid, _⟩ := inv.moved_reach hm
    exact List.mem_map.mpr ⟨c0, List.mem_flatMap.mpr ⟨q, List.mem_range.mpr (reach_lt hyp.wf hq), hc0⟩, hid.symm⟩)
  simpa using h

end Spydr.Xform
