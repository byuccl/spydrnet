/-
  `_redo_connections` for all port pins of the dissolved instance (`redoFold`): the fold of `redoPin`
  over `portBits` preserves pin uniqueness, removes every inner/outer pin of the instance that it
  visits, invents no pin, and preserves connectivity between all nodes it does not contract.
-/
import Spydr.Xform.LemmasFlatGraph

namespace Spydr.Xform

/-- nodes that no redo step of instance `iid` contracts -/
def StableFor (iid : Nat) (a : UNode) : Prop := (∀ c k, a ≠ .W c k) ∧ (∀ pi b, a ≠ .P iid pi b)

/-- what the rest of the graph must satisfy: it does not touch the pins of `iid`, and its wires are
    not wires of the cable list being rewritten -/
def RestOk (iid : Nat) (R : UNode → UNode → Prop) (ids : List Nat) : Prop :=
  ∀ a b, R a b → (∀ pi b', b ≠ .P iid pi b') ∧ (∀ c k, b ≠ .W c k) ∧ (∀ pi b', a ≠ .P iid pi b') ∧
    (∀ c k, a = .W c k → c ∉ ids)

theorem redoPin_step {iid : Nat} {R : UNode → UNode → Prop} {cs : List Cable} (pb : Nat × Nat)
    (hids : (cs.map (·.id)).Nodup) (hok : PinsOk (pinsAt cs)) (hR : RestOk iid R (cs.map (·.id))) :
    ((redoPin iid cs pb).map (·.id) = cs.map (·.id)) ∧ PinsOk (pinsAt (redoPin iid cs pb)) ∧
    (∀ l p, p ∈ pinsAt (redoPin iid cs pb) l → (∃ l', p ∈ pinsAt cs l') ∧ p ≠ .inner iid pb.1 pb.2 ∧ p ≠ .inst iid pb.1 pb.2) ∧
    (∀ a b, StableFor iid a → StableFor iid b →
      (Conn (WAdj (pinsAt cs) R) a b ↔ Conn (WAdj (pinsAt (redoPin iid cs pb)) R) a b)) := by
  have hin := findWire_inSpec hids (.inner iid pb.1 pb.2)
  have hout := findWire_outSpec hids (.inst iid pb.1 pb.2)
  obtain ⟨lI?, lM, hs⟩ := redo_shape hok hin hout
  rw [pinsAt_redoPin]
  refine ⟨redoPin_ids iid cs pb, redo_pinsOk hok hin hout, ?_, ?_⟩
  · intro l p hp
    obtain ⟨h1, h2, _, h | ⟨_, lI, _, h⟩⟩ := (hs.mem l p).mp hp
    · exact ⟨⟨l, h⟩, h1, h2⟩
    · exact ⟨⟨lI, h⟩, h1, h2⟩
  · intro a b ha hb
    refine conn_of_redo hs (fun u v h => ?_) (ha.2 _ _) (hb.2 _ _) ha.1 hb.1
    obtain ⟨h1, h2, h3, h4⟩ := hR u v h
    refine ⟨h3 _ _, h1 _ _, fun lI e e' => ?_, h2⟩
    -- the emptied wire is a wire of `cs`, which the rest of the graph does not touch
    obtain ⟨c, hc, hid, _⟩ := mem_pinsAt (hs.bridge lI e).1
    exact h4 _ _ e' (List.mem_map.mpr ⟨c, hc, hid⟩)

theorem redoFold {iid : Nat} {R : UNode → UNode → Prop} : ∀ (pbs : List (Nat × Nat)) (cs : List Cable),
    (cs.map (·.id)).Nodup → PinsOk (pinsAt cs) → RestOk iid R (cs.map (·.id)) →
    ((pbs.foldl (redoPin iid) cs).map (·.id) = cs.map (·.id)) ∧ PinsOk (pinsAt (pbs.foldl (redoPin iid) cs)) ∧
    (∀ l p, p ∈ pinsAt (pbs.foldl (redoPin iid) cs) l → (∃ l', p ∈ pinsAt cs l') ∧
      ∀ pb ∈ pbs, p ≠ .inner iid pb.1 pb.2 ∧ p ≠ .inst iid pb.1 pb.2) ∧
    (∀ a b, StableFor iid a → StableFor iid b →
      (Conn (WAdj (pinsAt cs) R) a b ↔ Conn (WAdj (pinsAt (pbs.foldl (redoPin iid) cs)) R) a b))
  | [], cs, _, hok, _ => ⟨rfl, hok, fun l p hp => ⟨⟨l, hp⟩, by simp⟩, fun _ _ _ _ => Iff.rfl⟩
  | pb :: pbs, cs, hids, hok, hR => by
    obtain ⟨e1, ok1, sub1, conn1⟩ := redoPin_step pb hids hok hR
    have hids1 : ((redoPin iid cs pb).map (·.id)).Nodup := by rw [e1]; exact hids
    have hR1 : RestOk iid R ((redoPin iid cs pb).map (·.id)) := by rw [e1]; exact hR
    obtain ⟨e2, ok2, sub2, conn2⟩ := redoFold pbs (redoPin iid cs pb) hids1 ok1 hR1
    simp only [List.foldl_cons]
    refine ⟨e2.trans e1, ok2, ?_, ?_⟩
    · intro l p hp
      obtain ⟨⟨l1, hp1⟩, hg⟩ := sub2 l p hp
      obtain ⟨hsub, hg1⟩ := sub1 l1 p hp1
      refine ⟨hsub, ?_⟩
      intro pb' hpb'
      rcases List.mem_cons.mp hpb' with rfl | h
      · exact hg1
      · exact hg pb' h
    · intro a b ha hb
      exact (conn1 a b ha hb).trans (conn2 a b ha hb)

theorem mem_portBits {ports : List Port} {pi b : Nat} {P : Port} (hP : ports[pi]? = some P) (hb : b < P.width) :
    (pi, b) ∈ portBits ports := by
  simp only [portBits, List.mem_flatMap, List.mem_range, List.mem_map]
  have hlt : pi < ports.length := (List.getElem?_eq_some_iff.mp hP).1
  refine ⟨pi, hlt, b, ?_, rfl⟩
  simp only [List.getD, hP, Option.getD_some]
  exact hb

end Spydr.Xform
