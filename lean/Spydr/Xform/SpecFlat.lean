/-
  Specification side of engine `xform`: what C09 (flatten) talks about.

  * `walk d x p`: descend from definition `x` along the instance identifiers `p`; returns the instance
    records met on the way and the definition reached.  A *leaf occurrence* is a path from the top
    definition whose last instance references a leaf definition; its hierarchical name is the
    `/`-joined list of the instance names on the path (`slashJoin`).
  * `UAdj`/`ConnU`: connectivity of a design in which every instance has a netlist-wide identifier
    (`IdsUnique`) and every non-leaf definition below top has exactly one instance (`Unique`):
    nodes are wires `(cable identifier, wire position)`, instance pins `(instance identifier, port,
    bit)` — the pin seen from outside and from inside is one node — and top-level port bits.
    For such designs this is the elaborated connectivity `HConn` with the path forgotten
    (hierarchical wires and pins are in bijection with wires and pins of the netlist).

  Nothing here mentions `flatten`.  NO Mathlib import.
-/
import Spydr.Xform.SpecElab

namespace Spydr.Xform

/-- descend from definition `x` along `p`: the instances met and the definition reached -/
def walk (d : Design) : Nat → List Nat → Option (List Inst × Nat)
  | x, [] => some ([], x)
  | x, i :: p =>
    match childById (d.defs x) i with
    | none => none
    | some c =>
      match walk d c.ref p with
      | none => none
      | some (cs, y) => some (c :: cs, y)

/-- `a/b/c` -/
def slashJoin : List String → String
  | [] => ""
  | [n] => n
  | n :: m :: rest => n ++ "/" ++ slashJoin (m :: rest)

def instName (c : Inst) : String := c.name.getD ""

/-- `cs ++ [c]` are the instances on a path from the top definition and `c` instantiates a leaf -/
def LeafOcc (d : Design) (cs : List Inst) (c : Inst) : Prop :=
  ∃ p, walk d d.top p = some (cs ++ [c], c.ref) ∧ (d.defs c.ref).isLeaf = true

/-- C09, instances: the children of the top definition of `d'` are exactly the leaf occurrences of
    `d`, each named by its slash-joined path, with the same leaf definition and data; nothing else
    remains; no identifier twice. -/
structure LeavesOf (d d' : Design) : Prop where
  flat : Flat d'
  sound : ∀ c' ∈ (d'.defs d'.top).children, ∃ cs c, LeafOcc d cs c ∧ c'.id = c.id ∧ c'.ref = c.ref ∧
      c'.data = c.data ∧ c'.name = some (slashJoin ((cs ++ [c]).map instName))
  complete : ∀ cs c, LeafOcc d cs c → ∃ c' ∈ (d'.defs d'.top).children, c'.id = c.id ∧ c'.ref = c.ref ∧
      c'.data = c.data ∧ c'.name = some (slashJoin ((cs ++ [c]).map instName))
  nodup : ((d'.defs d'.top).children.map (·.id)).Nodup

/-- some definition of the design holds instance `c` -/
def InstIn (d : Design) (c : Inst) : Prop := ∃ q, q < d.ndefs ∧ c ∈ (d.defs q).children

inductive UNode where
  | W (cid k : Nat)
  | P (iid pi bit : Nat)
  | T (pi bit : Nat)
  deriving DecidableEq, Repr

/-- a wire touches an instance pin (from outside: the outer pin is on the wire; from inside: the
    inner pin of the instance's definition is on the wire) or a top-level port bit.  The port bits of
    the top definition are the nodes `T`, never pins of an instance: hence `x ≠ d.top` in `inner`. -/
inductive UAdj (d : Design) : UNode → UNode → Prop
  | outer {x : Nat} {c : Cable} {k : Nat} {w : List Pin} {iid pi bit : Nat} :
      x < d.ndefs → c ∈ (d.defs x).cables → c.wires[k]? = some w → Pin.inst iid pi bit ∈ w →
      UAdj d (.W c.id k) (.P iid pi bit)
  | inner {x : Nat} {c : Cable} {k : Nat} {w : List Pin} {j : Inst} {pi bit : Nat} :
      x < d.ndefs → x ≠ d.top → c ∈ (d.defs x).cables → c.wires[k]? = some w → Pin.port pi bit ∈ w →
      InstIn d j → j.ref = x → UAdj d (.W c.id k) (.P j.id pi bit)
  | top {c : Cable} {k : Nat} {w : List Pin} {pi bit : Nat} :
      c ∈ (d.defs d.top).cables → c.wires[k]? = some w → Pin.port pi bit ∈ w →
      UAdj d (.W c.id k) (.T pi bit)

def ConnU (d : Design) : UNode → UNode → Prop := Conn (UAdj d)

/-- leaf pin bits and top-level port bits -/
def UEndpoint (d : Design) : UNode → Prop
  | .W _ _ => False
  | .P iid _ _ => ∃ j, InstIn d j ∧ j.id = iid ∧ (d.defs j.ref).isLeaf = true
  | .T _ _ => True

end Spydr.Xform
