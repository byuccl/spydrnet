/-
  List facts used by both transformation proofs: lookup by a key without duplicates under `modify`,
  membership and `Nodup` of `flatten` through `getD`, counting, sums (over `List.range`, of a map).
  NO Mathlib import.
-/
import Spydr.Common.List
namespace Spydr.Xform

theorem find?_modify_nodup {α : Type} (key : α → Nat) (f : α → α) (hf : ∀ a, key (f a) = key a) (i : Nat) :
    ∀ (l : List α) (k : Nat) (ck : α), (l.map key).Nodup → l[k]? = some ck →
      (l.modify k f).find? (fun c => key c == i) =
        (l.find? (fun c => key c == i)).map (fun c => if key c = key ck then f c else c)
  | [], k, ck, _, h => by simp at h
  | a :: l, 0, ck, hnd, h => by
    obtain rfl : a = ck := by simpa using h
    have hal : key a ∉ l.map key := (List.nodup_cons.mp (by simpa using hnd)).1
    simp only [List.modify_zero_cons, List.find?_cons, hf]
    cases hp : key a == i with
    | true => simp
    | false =>
      cases hfd : l.find? (fun c => key c == i) with
      | none => rfl
      | some c =>
        have : key c ≠ key a := fun e => hal (e ▸ List.mem_map_of_mem (List.mem_of_find?_eq_some hfd))
        simp [this]
  | a :: l, k + 1, ck, hnd, h => by
    have hnd := List.nodup_cons.mp (by simpa using hnd : (key a :: l.map key).Nodup)
    have h : l[k]? = some ck := by simpa using h
    simp only [List.modify_succ_cons, List.find?_cons]
    cases hp : key a == i with
    | true =>
      have : key a ≠ key ck := fun e => hnd.1 (e ▸ List.mem_map_of_mem (List.mem_of_getElem? h))
      simp [this]
    | false => exact find?_modify_nodup key f hf i l k ck hnd.2 h

theorem mem_flatten_iff_getD {α : Type} {L : List (List α)} {p : α} : p ∈ L.flatten ↔ ∃ k, p ∈ L.getD k [] := by
  simp only [List.mem_flatten, List.getD_eq_getElem?_getD]
  constructor
  · rintro ⟨l, hl, hp⟩
    obtain ⟨k, hk⟩ := List.getElem?_of_mem hl
    exact ⟨k, by simpa [hk] using hp⟩
  · rintro ⟨k, hp⟩
    cases hk : L[k]? with
    | none => simp [hk] at hp
    | some l => exact ⟨l, List.mem_of_getElem? hk, by simpa [hk] using hp⟩

theorem nodup_flatten_iff_getD {α : Type} : ∀ {L : List (List α)},
    L.flatten.Nodup ↔ (∀ k, (L.getD k []).Nodup) ∧ ∀ i j p, p ∈ L.getD i [] → p ∈ L.getD j [] → i = j
  | [] => by simp
  | a :: L => by
    have h0 : ∀ k, (a :: L).getD (k + 1) [] = L.getD k [] := fun k => by simp [List.getD]
    rw [List.flatten_cons, List.nodup_append, nodup_flatten_iff_getD (L := L)]
    simp only [mem_flatten_iff_getD]
    constructor
    · rintro ⟨ha, ⟨hn, hu⟩, hd⟩
      have h00 : (a :: L).getD 0 [] = a := rfl
      refine ⟨fun k => by cases k; exact ha; exact h0 _ ▸ hn _, fun i j p hi hj => ?_⟩
      cases i <;> cases j
      · rfl
      · exact absurd rfl (hd p (h00 ▸ hi) p ⟨_, h0 _ ▸ hj⟩)
      · exact absurd rfl (hd p (h00 ▸ hj) p ⟨_, h0 _ ▸ hi⟩)
      · exact congrArg (· + 1) (hu _ _ p (h0 _ ▸ hi) (h0 _ ▸ hj))
    · rintro ⟨hn, hu⟩
      refine ⟨hn 0, ⟨fun k => h0 k ▸ hn (k + 1), fun i j p hi hj => ?_⟩, ?_⟩
      · exact Nat.succ.inj (hu (i + 1) (j + 1) p (h0 i ▸ hi) (h0 j ▸ hj))
      · rintro x hx _ ⟨k, hk⟩ rfl
        exact absurd (hu 0 (k + 1) x hx (h0 k ▸ hk)) (by omega)

theorem countP_modify {α : Type} (p : α → Bool) (f : α → α) :
    ∀ (l : List α) (k : Nat) (c : α), l[k]? = some c →
      (l.modify k f).countP p + (if p c then 1 else 0) = l.countP p + (if p (f c) then 1 else 0)
  | [], k, c, h => by simp at h
  | a :: l, 0, c, h => by
    obtain rfl : a = c := by simpa using h
    simp only [List.modify_zero_cons, List.countP_cons]
    omega
  | a :: l, k + 1, c, h => by
    have := countP_modify p f l k c (by simpa using h)
    simp only [List.modify_succ_cons, List.countP_cons]
    omega

theorem countP_ge_two {α : Type} (p : α → Bool) : ∀ (l : List α) (a b : α), a ∈ l → b ∈ l → a ≠ b →
    p a = true → p b = true → 2 ≤ l.countP p
  | [], a, _, ha, _, _, _, _ => by simp at ha
  | x :: l, a, b, ha, hb, hab, pa, pb => by
    simp only [List.countP_cons]
    rcases List.mem_cons.mp ha with rfl | ha' <;> rcases List.mem_cons.mp hb with rfl | hb'
    · exact absurd rfl hab
    · have : 1 ≤ l.countP p := List.countP_pos_iff.mpr ⟨b, hb', pb⟩
      rw [if_pos pa]; omega
    · have : 1 ≤ l.countP p := List.countP_pos_iff.mpr ⟨a, ha', pa⟩
      rw [if_pos pb]; omega
    · have := countP_ge_two p l a b ha' hb' hab pa pb
      omega

theorem countP_le_one {α : Type} (p : α → Bool) : ∀ (l : List α), l.Nodup →
    (∀ a ∈ l, ∀ b ∈ l, p a = true → p b = true → a = b) → l.countP p ≤ 1
  | [], _, _ => by simp
  | x :: l, hnd, h => by
    have hnd := List.nodup_cons.mp hnd
    have ih := countP_le_one p l hnd.2 (fun a ha b hb => h a (List.mem_cons_of_mem _ ha) b (List.mem_cons_of_mem _ hb))
    rw [List.countP_cons]
    split
    · rename_i hx
      have : l.countP p = 0 := List.countP_eq_zero.mpr fun a ha hpa =>
        hnd.1 (h a (List.mem_cons_of_mem _ ha) x List.mem_cons_self hpa hx ▸ ha)
      omega
    · exact ih

theorem sum_range_succ (f : Nat → Nat) (n : Nat) :
    ((List.range (n + 1)).map f).sum = ((List.range n).map f).sum + f n := by
  simp [List.range_succ]

theorem sum_range_congr (f g : Nat → Nat) (n : Nat) (h : ∀ j, j < n → g j = f j) :
    ((List.range n).map g).sum = ((List.range n).map f).sum := by
  congr 1
  apply List.map_congr_left
  intro j hj
  exact h j (by simpa using hj)

theorem sum_range_update (f g : Nat → Nat) (q : Nat) :
    ∀ n, q < n → (∀ j, j < n → j ≠ q → g j = f j) →
      ((List.range n).map g).sum + f q = ((List.range n).map f).sum + g q
  | 0, hq, _ => by omega
  | n + 1, hq, h => by
    rw [sum_range_succ, sum_range_succ]
    by_cases hqn : q = n
    · subst hqn
      rw [sum_range_congr f g q (fun j hj => h j (by omega) (by omega))]; omega
    · have ih := sum_range_update f g q n (by omega) (fun j hj hne => h j (by omega) hne)
      have := h n (by omega) (fun e => hqn e.symm)
      omega

theorem sum_range_ge (f : Nat → Nat) (n q : Nat) (hq : q < n) : f q ≤ ((List.range n).map f).sum := by
  have := sum_range_update f (fun j => if j = q then 0 else f j) q n hq (fun j _ hj => if_neg hj)
  simp only [if_true] at this
  omega

theorem sum_range_ge2 (f : Nat → Nat) (n q r : Nat) (hq : q < n) (hr : r < n) (hne : q ≠ r) :
    f q + f r ≤ ((List.range n).map f).sum := by
  have h1 := sum_range_update f (fun j => if j = q then 0 else f j) q n hq (fun j _ hj => if_neg hj)
  have h2 := sum_range_ge (fun j => if j = q then 0 else f j) n r hr
  simp only [if_true, if_neg (Ne.symm hne)] at h1 h2
  omega

theorem sum_range_zero (f : Nat → Nat) (n : Nat) (h : ∀ j, j < n → f j = 0) :
    ((List.range n).map f).sum = 0 := by
  induction n with
  | zero => rfl
  | succ n ih => rw [sum_range_succ, ih (fun j hj => h j (by omega)), h n (by omega)]

end Spydr.Xform
