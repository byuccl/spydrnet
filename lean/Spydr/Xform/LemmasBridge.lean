/-
  The bridge between the two connectivity semantics: on a uniquified design with netlist-wide
  identifiers, the path-based elaborated connectivity `HConn` (SpecElab) and the heap-level `ConnU`
  (SpecFlat) agree on hierarchical pins / top-level port bits, via the map that forgets the path.
  Every hierarchical edge forgets to a heap edge; conversely every heap edge lifts to every valid
  hierarchical preimage of its ends (`Lifts`), and the forgetful map is injective on valid pins.
-/
import Spydr.Xform.LemmasFlatLeaves

namespace Spydr.Xform

/-- a wire that does not resolve goes to the junk node `W 0 0`; every use is under `ValidH`, where it resolves -/
def forget (d : Design) : HNode → UNode
  | .wire p ci wi =>
    match defAt d p with
    | none => .W 0 0
    | some x =>
      match (d.defs x).cables[ci]? with
      | none => .W 0 0
      | some c => .W c.id wi
  | .pin _ iid pi b => .P iid pi b
  | .tport pi b => .T pi b

/-- a hierarchical node that exists in the elaboration -/
def ValidH (d : Design) : HNode → Prop
  | .wire p ci wi => ∃ x c, defAt d p = some x ∧ (d.defs x).cables[ci]? = some c
  | .pin p iid _ _ => ∃ j, instAt d p iid = some j
  | .tport _ _ => True

section bridge
variable {d : Design}

theorem wireAt_iff {D : Defn} {ci wi : Nat} {w : List Pin} :
    wireAt D ci wi = some w ↔ ∃ c, D.cables[ci]? = some c ∧ c.wires[wi]? = some w := by
  simp only [wireAt]
  cases D.cables[ci]? <;> simp

theorem forget_wire {p : List Nat} {x ci wi : Nat} {c : Cable} (hx : defAt d p = some x)
    (hc : (d.defs x).cables[ci]? = some c) : forget d (.wire p ci wi) = .W c.id wi := by
  simp only [forget, hx, hc]

theorem forget_wire_W (p : List Nat) (ci wi : Nat) : ∃ c k, forget d (.wire p ci wi) = .W c k := by
  simp only [forget]
  split
  · exact ⟨_, _, rfl⟩
  · split <;> exact ⟨_, _, rfl⟩

theorem hadj_forget (hyp : Hyp d) {a b : HNode} (h : HAdj d a b) : UAdj d (forget d a) (forget d b) := by
  cases h with
  | @outer p x ci wi w iid pi bit hx hw hp =>
    obtain ⟨c, hc, hcw⟩ := wireAt_iff.mp hw
    obtain ⟨cs, hpath⟩ := defAt_iff_path.mp hx
    rw [forget_wire hx hc]
    exact UAdj.outer (reach_lt hyp.wf hpath.reach) (List.mem_of_getElem? hc) hcw hp
  | @inner p iid x ci wi w pi bit hx hw hp =>
    obtain ⟨c, hc, hcw⟩ := wireAt_iff.mp hw
    obtain ⟨cs, hpath⟩ := defAt_iff_path.mp hx
    generalize hpi : p ++ [iid] = pi' at hpath hx
    cases hpath with
    | nil => simp at hpi
    | @snoc p1 cs1 y i j h1 h2 =>
      obtain ⟨rfl, hi⟩ := List.append_inj' hpi rfl
      obtain rfl : iid = i := by simpa using hi
      have hjm := (childById_id h2).2
      rw [forget_wire hx hc]
      show UAdj d _ (.P iid pi bit)
      rw [← (childById_id h2).1]
      exact UAdj.inner (hyp.wf.ref_lt (reach_lt hyp.wf h1.reach) hjm) (reach_child_ne_top hyp.acyc hyp.wf h1.reach hjm)
        (List.mem_of_getElem? hc) hcw hp ⟨y, reach_lt hyp.wf h1.reach, hjm⟩ rfl
  | @top ci wi w pi bit hw hp =>
    obtain ⟨c, hc, hcw⟩ := wireAt_iff.mp hw
    rw [forget_wire (p := []) rfl hc]
    exact UAdj.top (List.mem_of_getElem? hc) hcw hp

theorem hconn_forget (hyp : Hyp d) {a b : HNode} (h : HConn d a b) : ConnU d (forget d a) (forget d b) :=
  Conn.map (forget d) (fun _ _ hab => Conn.rel (hadj_forget hyp hab)) h

def Lifts (d : Design) (a' b' : UNode) : Prop :=
  ∀ a, ValidH d a → forget d a = a' → ∃ b, ValidH d b ∧ forget d b = b' ∧ HConn d a b

theorem Lifts.refl (a' : UNode) : Lifts d a' a' := fun a va ha => ⟨a, va, ha, Conn.refl a⟩

theorem Lifts.trans {a' b' c' : UNode} (h1 : Lifts d a' b') (h2 : Lifts d b' c') : Lifts d a' c' := by
  intro a va ha
  obtain ⟨b, vb, hb, hab⟩ := h1 a va ha
  obtain ⟨c, vc, hc, hbc⟩ := h2 b vb hb
  exact ⟨c, vc, hc, Conn.trans hab hbc⟩

theorem Hyp.cable_eq (hyp : Hyp d) {x y : Nat} (hx : x < d.ndefs) (hy : y < d.ndefs) {a b : Cable}
    (ha : a ∈ (d.defs x).cables) (hb : b ∈ (d.defs y).cables) (hid : a.id = b.id) : x = y ∧ a = b := by
  obtain rfl := hyp.cable_ids_disjoint hx hy ha hb hid
  exact ⟨rfl, inj_of_nodup_map (hyp.cable_ids_nodup hx) ha hb hid⟩

/-- the preimages of a wire node are the occurrences of that wire along the paths to its definition -/
theorem Lifts.of_wire (hyp : Hyp d) {x : Nat} {c : Cable} {k : Nat} {b' : UNode} (hx : x < d.ndefs)
    (hc : c ∈ (d.defs x).cables)
    (h : ∀ p cs ci, Path d p cs x → (d.defs x).cables[ci]? = some c →
      ∃ b, ValidH d b ∧ forget d b = b' ∧ HConn d (.wire p ci k) b) : Lifts d (.W c.id k) b' := by
  intro a va ha
  cases a with
  | pin _ _ _ _ => simp [forget] at ha
  | tport _ _ => simp [forget] at ha
  | wire p ci wi =>
    obtain ⟨x', c', hx', hc'⟩ := va
    rw [forget_wire hx' hc'] at ha
    obtain ⟨hid, rfl⟩ : c'.id = c.id ∧ wi = k := by simpa using ha
    obtain ⟨cs, hp⟩ := defAt_iff_path.mp hx'
    obtain ⟨rfl, rfl⟩ := hyp.cable_eq (reach_lt hyp.wf hp.reach) hx (List.mem_of_getElem? hc') hc hid
    exact h p cs ci hp hc'

/-- the preimages of a pin node are the occurrences of its instance -/
theorem Lifts.of_pin {iid pi bit : Nat} {b' : UNode}
    (h : ∀ p cs x j, Path d p cs x → childById (d.defs x) iid = some j →
      ∃ b, ValidH d b ∧ forget d b = b' ∧ HConn d (.pin p iid pi bit) b) : Lifts d (.P iid pi bit) b' := by
  intro a va ha
  cases a with
  | wire p ci wi => obtain ⟨_, _, e⟩ := forget_wire_W (d := d) p ci wi; rw [e] at ha; cases ha
  | tport _ _ => simp [forget] at ha
  | pin p iid' pi' bit' =>
    obtain ⟨rfl, rfl, rfl⟩ : iid' = iid ∧ pi' = pi ∧ bit' = bit := by simpa [forget] using ha
    obtain ⟨j, hj⟩ := va
    obtain ⟨cs, x, hp, hj⟩ := instAt_iff_path.mp hj
    exact h p cs x j hp hj

theorem uadj_lifts (hyp : Hyp d) {a' b' : UNode} (h : UAdj d a' b') : Lifts d a' b' ∧ Lifts d b' a' := by
  cases h with
  | @outer x c k w iid pi bit hx hc hw hp =>
    obtain ⟨j, hj, hjid, _⟩ := hyp.wire_pinOk hx hc (List.mem_of_getElem? hw) hp
    refine ⟨Lifts.of_wire hyp hx hc fun p cs ci hpath hci => ?_, Lifts.of_pin fun p cs y j' hpath hj' => ?_⟩
    · exact ⟨.pin p iid pi bit, ⟨j, instAt_iff_path.mpr ⟨cs, x, hpath, hjid ▸ childById_of_mem (hyp.wf.ids_nodup hx) hj⟩⟩,
        rfl, Conn.rel (HAdj.outer hpath.defAt (wireAt_iff.mpr ⟨c, hci, hw⟩) hp)⟩
    · obtain rfl : y = x := hyp.ids_disjoint (reach_lt hyp.wf hpath.reach) hx (childById_id hj').2 hj
        ((childById_id hj').1.trans hjid.symm)
      obtain ⟨ci, hci⟩ := List.getElem?_of_mem hc
      exact ⟨.wire p ci k, ⟨y, c, hpath.defAt, hci⟩, forget_wire hpath.defAt hci,
        Conn.symm (Conn.rel (HAdj.outer hpath.defAt (wireAt_iff.mpr ⟨c, hci, hw⟩) hp))⟩
  | @inner x c k w j pi bit hx hxt hc hw hp hj hr =>
    obtain ⟨q, hq, hjq⟩ := hj
    refine ⟨Lifts.of_wire hyp hx hc fun p cs ci hpath hci => ?_, Lifts.of_pin fun p cs y j' hpath hj' => ?_⟩
    · -- the path is non-empty and ends in an instance of `x`, which must be `j`
      cases hpath with
      | nil => exact absurd rfl hxt
      | @snoc p1 cs1 y i j' h1 h2 =>
        have hj'm := (childById_id h2).2
        have hcnt : d.refCount j'.ref = 1 :=
          (hyp.uniq y j' h1.reach hj'm).resolve_left (by rw [nonleaf_of_cable hc]; simp)
        obtain ⟨rfl, rfl⟩ := ref_unique_of_count hcnt (reach_lt hyp.wf h1.reach) hq hj'm hjq rfl hr
        obtain rfl := (childById_id h2).1
        exact ⟨.pin p1 j'.id pi bit, ⟨j', instAt_iff_path.mpr ⟨cs1, y, h1, h2⟩⟩, rfl,
          Conn.rel (HAdj.inner (h1.snoc h2).defAt (wireAt_iff.mpr ⟨c, hci, hw⟩) hp)⟩
    · have hy := reach_lt hyp.wf hpath.reach
      obtain rfl : y = q := hyp.ids_disjoint hy hq (childById_id hj').2 hjq (childById_id hj').1
      obtain rfl : j' = j := hyp.child_eq hy (childById_id hj').2 hjq (childById_id hj').1
      have hdef := (hpath.snoc hj').defAt
      rw [hr] at hdef
      obtain ⟨ci, hci⟩ := List.getElem?_of_mem hc
      exact ⟨.wire (p ++ [j'.id]) ci k, ⟨x, c, hdef, hci⟩, forget_wire hdef hci,
        Conn.symm (Conn.rel (HAdj.inner hdef (wireAt_iff.mpr ⟨c, hci, hw⟩) hp))⟩
  | @top c k w pi bit hc hw hp =>
    refine ⟨Lifts.of_wire hyp hyp.wf.1 hc fun p cs ci hpath hci => ?_, ?_⟩
    · obtain ⟨rfl, _⟩ := hpath.nil_of_top hyp rfl
      exact ⟨.tport pi bit, trivial, rfl, Conn.rel (HAdj.top (wireAt_iff.mpr ⟨c, hci, hw⟩) hp)⟩
    · intro a va ha
      cases a with
      | wire p ci wi => obtain ⟨_, _, e⟩ := forget_wire_W (d := d) p ci wi; rw [e] at ha; cases ha
      | pin _ _ _ _ => simp [forget] at ha
      | tport pi' bit' =>
        obtain ⟨rfl, rfl⟩ : pi' = pi ∧ bit' = bit := by simpa [forget] using ha
        obtain ⟨ci, hci⟩ := List.getElem?_of_mem hc
        exact ⟨.wire [] ci k, ⟨d.top, c, rfl, hci⟩, forget_wire (p := []) rfl hci,
          Conn.symm (Conn.rel (HAdj.top (wireAt_iff.mpr ⟨c, hci, hw⟩) hp))⟩

theorem connU_lifts (hyp : Hyp d) {a' b' : UNode} (h : ConnU d a' b') : Lifts d a' b' ∧ Lifts d b' a' := by
  induction h with
  | rel hab => exact uadj_lifts hyp hab
  | refl a => exact ⟨Lifts.refl a, Lifts.refl a⟩
  | symm _ ih => exact ⟨ih.2, ih.1⟩
  | trans _ _ ih1 ih2 => exact ⟨ih1.1.trans ih2.1, ih2.2.trans ih1.2⟩

theorem forget_inj_endpoint (hyp : Hyp d) {a b : HNode} (va : ValidH d a) (vb : ValidH d b)
    (hb : ∀ p ci wi, b ≠ .wire p ci wi) (ha : ∀ p ci wi, a ≠ .wire p ci wi) (h : forget d a = forget d b) : a = b := by
  cases a with
  | wire p ci wi => exact absurd rfl (ha p ci wi)
  | tport pi bit =>
    cases b with
    | wire p ci wi => exact absurd rfl (hb p ci wi)
    | tport pi' bit' => simpa [forget] using h
    | pin _ _ _ _ => simp [forget] at h
  | pin p iid pi bit =>
    cases b with
    | wire p ci wi => exact absurd rfl (hb p ci wi)
    | tport _ _ => simp [forget] at h
    | pin p' iid' pi' bit' =>
      obtain ⟨rfl, rfl, rfl⟩ : iid = iid' ∧ pi = pi' ∧ bit = bit' := by simpa [forget] using h
      obtain ⟨j, hj⟩ := va
      obtain ⟨j', hj'⟩ := vb
      obtain ⟨cs, y, hp, hj⟩ := instAt_iff_path.mp hj
      obtain ⟨cs', y', hp', hj'⟩ := instAt_iff_path.mp hj'
      -- both paths lead to the parent of the instance with identifier `iid`
      have hid : j.id = j'.id := (childById_id hj).1.trans (childById_id hj').1.symm
      obtain rfl : y = y' := hyp.ids_disjoint (reach_lt hyp.wf hp.reach) (reach_lt hyp.wf hp'.reach)
        (childById_id hj).2 (childById_id hj').2 hid
      obtain ⟨rfl, _⟩ := hp.unique_to hyp hp' (nonleaf_of_child (childById_id hj).2)
      rfl

/-- C09 bridge: on a uniquified design with netlist-wide identifiers, two hierarchical pins /
    top-level port bits are connected in the elaboration iff their path-forgetting images are
    connected in the heap-level graph. -/
theorem hconn_iff_connU (hyp : Hyp d) {a b : HNode} (va : ValidH d a) (vb : ValidH d b)
    (hb : ∀ p ci wi, b ≠ .wire p ci wi) :
    HConn d a b ↔ ConnU d (forget d a) (forget d b) := by
  refine ⟨hconn_forget hyp, fun h => ?_⟩
  obtain ⟨b2, vb2, hb2, hab2⟩ := (connU_lifts hyp h).1 a va rfl
  have hb2w : ∀ p ci wi, b2 ≠ .wire p ci wi := by
    rintro p ci wi rfl
    obtain ⟨_, _, e⟩ := forget_wire_W (d := d) p ci wi
    rw [e] at hb2
    cases b with
    | wire p' ci' wi' => exact hb p' ci' wi' rfl
    | pin _ _ _ _ => cases hb2
    | tport _ _ => cases hb2
  rwa [← forget_inj_endpoint hyp vb2 vb hb hb2w hb2]

end bridge

end Spydr.Xform
