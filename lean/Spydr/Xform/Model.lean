/-
  The netlist as a self-contained value, and the shared vocabulary of the two transformation models
  (`ModelUniquify.lean`, `ModelFlatten.lean`).

  A `Design` is what the harness extracts from a live spydrnet netlist:
    * a table of definitions `defs : Nat → Defn` (only indices `< ndefs` are meaningful; the table is
      append-only, so a definition index is a stable identity),
    * `order`: per library, the definition indices in `library.definitions` order,
    * `top`: index of the definition the top instance references,
    * `extra x`: the number of members of `defs x`'s `Definition._references` that are NOT children of
      a definition of this netlist (the top instance, instances outside every definition, …), so
      that `len(definition.references) = refCount`,
    * `ctr`: the global name counter of the transformation (`uniquify.MOD_NAME_UID`,
      `flatten.mod_name_uid`) read by the harness before the call.

  Pins on wires are value-level references: `port pi bit` is bit `bit` of port number `pi` of the
  definition that owns the wire; `inst iid pi bit` is the outer pin of the child with identifier `iid`
  (identifiers are unique inside a definition; for flatten the harness makes them unique in the whole
  netlist) for bit `bit` of port `pi` of the child's reference; `inner iid pi bit` only exists
  transiently inside `flatten`: the inner pin (`pi`,`bit`) of the definition referenced by instance
  `iid`, sitting on a wire that has already been moved into the top definition.

  NO Mathlib import (linked into the driver executable).
-/
namespace Spydr.Xform

inductive Pin where
  | port (pi bit : Nat)
  | inst (iid pi bit : Nat)
  | inner (iid pi bit : Nat)
  deriving DecidableEq, Repr, Inhabited

structure Port where
  width : Nat
  /-- everything else the harness knows about the port (name, direction, indexing, data), opaque -/
  info : String
  deriving DecidableEq, Repr, Inhabited

structure Cable where
  id : Nat
  name : Option String
  /-- `EDIF.identifier` entry of the data dictionary, if present -/
  eid : Option String
  info : String
  wires : List (List Pin)
  deriving DecidableEq, Repr, Inhabited

structure Inst where
  id : Nat
  name : Option String
  eid : Option String
  ref : Nat
  /-- data dictionary without the two naming keys, opaque -/
  data : String
  deriving DecidableEq, Repr, Inhabited

structure Defn where
  lib : Nat
  name : Option String
  eid : Option String
  info : String
  ports : List Port
  cables : List Cable
  children : List Inst
  deriving DecidableEq, Repr, Inhabited

structure Design where
  ndefs : Nat
  defs : Nat → Defn
  order : List (List Nat)
  top : Nat
  extra : Nat → Nat
  ctr : Nat

/-- `Definition.is_leaf()`: no children and no cables. -/
def Defn.isLeaf (D : Defn) : Bool := D.children.isEmpty && D.cables.isEmpty

def Design.setDef (d : Design) (i : Nat) (D : Defn) : Design :=
  { d with defs := fun j => if j = i then D else d.defs j }

/-- number of children of definition `D` that reference definition `x` -/
def Defn.refsTo (D : Defn) (x : Nat) : Nat := D.children.countP (fun c => c.ref == x)

/-- `len(defs[x].references)` -/
def Design.refCount (d : Design) (x : Nat) : Nat :=
  d.extra x + ((List.range d.ndefs).map (fun j => (d.defs j).refsTo x)).sum

/-- ASCII lower-casing (`str.lower()` on the identifiers considered; EDIF identifiers are ASCII): the
    EDIF naming policy compares the `EDIF.identifier` entries of siblings case-insensitively -/
def lowerStr (s : String) : String := String.ofList (s.toList.map Char.toLower)

/-- all pins listed by the wires of a cable list, in order -/
def allPins (cs : List Cable) : List Pin := (cs.flatMap (·.wires)).flatten

end Spydr.Xform
