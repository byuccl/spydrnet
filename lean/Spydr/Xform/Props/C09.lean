/-
  C09 — flatten removes all hierarchy and preserves leaf-level connectivity.

  Model: `flatten : Nat → Design → FResult` (ModelFlatten.lean), fuel-bounded transcription of
  spydrnet/flatten.py.
  Spec:  `LeavesOf`, `ConnU`, `UEndpoint` (SpecFlat.lean), `WF`, `IdsUnique`, `Unique`, `Acyclic`,
         `Named`, `Flat` (Spec.lean), `HConn`, `IsEndpoint` (SpecElab.lean).
         Four definitions the statements use stand in lemma files: `Hyp` (LemmasFlatInv.lean),
         `forget` and `ValidH` (LemmasBridge.lean), `flatImage` (LemmasFlatElab.lean).

  Hypotheses (`Hyp d` and `Named d`): `WF d`, `IdsUnique d` (instance / cable identifiers are netlist-wide object
  identities), `Unique d` (the netlist is uniquified), `Acyclic d`, `Named d` (instances and cables have
  non-empty names; '/' is allowed); all decidable and evaluated by the driver / harness on every input,
  except `Acyclic` and `Unique`, which the harness checks on the live netlist.
  The model has no exceptions: see the domain statement below for the inputs on which the
  implementation raises instead.
  `(flatten fuel d).finished`: the work list ran empty; `flatten_finishes`: it does whenever
  fuel > number of instances (the harness passes number of instances + 5 and checks the flag).
-/
import Spydr.Xform.LemmasFlatElab

namespace Spydr.Xform

/-!
  Domain statement (what the model does not have: exceptions).  The implementation refuses a duplicate
  sibling name / identifier (`add_child`, `add_cable`, `__setitem__` raise `ValueError`); the model
  always appends.  The theorems therefore describe the implementation on inputs where
    (a) the slash-joined path names of all instance occurrences (leaf AND hierarchical: shells are
        parked in the top definition until the end) and of all cables are pairwise distinct — true
        whenever no name contains '/'; when two LEAF occurrences (or two cables) share a joined name
        the property itself is unsatisfiable; when only a shell is involved the implementation fails
        although the property is satisfiable: open finding `flatten.shell_name_collision.raises_value`;
    (b) under the EDIF naming policy, no renewed identifier `instance_sdn_flat_N` / `cable_sdn_flat_N`
        clashes case-insensitively with an existing one: open finding
        `flatten.identifier_clash.raises_value`.
  The harness evaluates both conditions on every input and classifies a refusal accordingly.
  "Same data" in `LeavesOf` is the data dictionary WITHOUT the naming keys: `.NAME` becomes the path
  name and `EDIF.identifier` (if present) is renewed to `instance_sdn_flat_N` by design
  (`LeavesOf` leaves `eid` unconstrained; the correspondence compares it exactly).
-/

/-- Fuel: one more iteration than the netlist has instances empties the work list
    (`allInsts d` = the children of all definitions; the harness passes that number + 5). -/
theorem flatten_finishes (fuel : Nat) (d : Design) (hyp : Hyp d) (hnamed : Named d) (hf : (allInsts d).length < fuel) :
    (flatten fuel d).finished = true := flatten_finished hyp hnamed hf

/-- After flatten the top definition holds exactly one instance per leaf occurrence of the original
    design, named by the slash-joined instance path, with the same leaf definition and data; no
    hierarchical instance remains (`LeavesOf.flat`), no identifier occurs twice.  Together with
    `leaf_occurrence_unique` (a leaf occurrence is determined by the identifier of its instance) this is a
    bijection between the leaf occurrences of `d` and the children of the flattened top. -/
theorem flatten_leaves (fuel : Nat) (d : Design) (hyp : Hyp d) (hnamed : Named d) (hfin : (flatten fuel d).finished = true) :
    LeavesOf d (flatten fuel d).design := by
  obtain ⟨moved, inv, _⟩ := fLoop_inv hyp hnamed fuel
  have hq : (fLoop fuel (fInit d)).queue = [] := by simpa [flatten] using hfin
  exact inv.leavesOf hyp hq

/-- a leaf occurrence is determined by the identifier of the instance it ends in -/
theorem leaf_occurrence_unique (d : Design) (hyp : Hyp d) {cs cs' : List Inst} {c c' : Inst}
    (h : LeafOcc d cs c) (h' : LeafOcc d cs' c') (hid : c.id = c'.id) : cs = cs' ∧ c = c' := by
  obtain ⟨p, hp, _⟩ := h
  obtain ⟨p', hp', _⟩ := h'
  exact path_unique hyp (path_iff_walk.mpr hp) (path_iff_walk.mpr hp') hid

/-- Two endpoints (leaf pin bits, top-level port bits) of the original design are electrically
    connected after flatten iff they were before.  `ConnU` is the connectivity of a uniquified
    netlist with netlist-wide instance identifiers: the equivalence closure of "wire touches instance
    pin (from outside or from inside) / top-level port bit"; flatten keeps the identifier of every
    instance, so the endpoints `P iid port bit` / `T port bit` are the same nodes before and after.
    Holds for every fuel (also for an unfinished walk). -/
theorem flatten_preserves_conn (fuel : Nat) (d : Design) (hyp : Hyp d) (hnamed : Named d) (a b : UNode)
    (ha : UEndpoint d a) (hb : UEndpoint d b) :
    ConnU d a b ↔ ConnU (flatten fuel d).design a b := by
  obtain ⟨moved, invA, invB, _⟩ := fLoop_inv hyp hnamed fuel
  exact conn_final hyp invA invB ha hb

/-- The two semantics agree: on a uniquified design with netlist-wide
    identifiers, hierarchical pins / top-level port bits are connected in the path-based elaboration
    (`HConn`, SpecElab) iff their images under the path-forgetting map are connected in `ConnU`. -/
theorem connU_eq_conn (d : Design) (hyp : Hyp d) {a b : HNode} (va : ValidH d a) (vb : ValidH d b)
    (ha : ∀ p ci wi, a ≠ .wire p ci wi) (hb : ∀ p ci wi, b ≠ .wire p ci wi) :
    HConn d a b ↔ ConnU d (forget d a) (forget d b) := hconn_iff_connU hyp va vb hb

/-- C09 in the semantics of the elaboration: two endpoints of the hierarchical design (pin bits of
    leaf occurrences, addressed by their instance path, and top-level port bits) are electrically
    connected in the elaboration of `d` iff the corresponding endpoints (`flatImage`: the same
    instance identifier directly below top) are connected in the elaboration of the flattened
    design — including nets that cross several levels, feed through a cell or stop at an unconnected
    port, since `HConn` is the full equivalence closure over all hierarchical wires and pins. -/
theorem flatten_preserves_elab_conn (fuel : Nat) (d : Design) (hyp : Hyp d) (hnamed : Named d)
    (hfin : (flatten fuel d).finished = true) (a b : HNode) (ha : IsEndpoint d a) (hb : IsEndpoint d b) :
    HConn d a b ↔ HConn (flatten fuel d).design (flatImage a) (flatImage b) := by
  obtain ⟨moved, invA, invB, _⟩ := fLoop_inv hyp hnamed fuel
  have hq : (fLoop fuel (fInit d)).queue = [] := by simpa [flatten] using hfin
  exact flatten_hconn hyp invA invB hq ha hb

/-- The netlist stays well-formed (in particular no lifted inner pin, no pin of a removed shell and
    no pin twice on the wires of the top definition). -/
theorem flatten_wf (fuel : Nat) (d : Design) (hyp : Hyp d) (hnamed : Named d) (hfin : (flatten fuel d).finished = true) :
    WF (flatten fuel d).design := by
  obtain ⟨moved, invA, invB, _⟩ := fLoop_inv hyp hnamed fuel
  have hq : (fLoop fuel (fInit d)).queue = [] := by simpa [flatten] using hfin
  exact wf_final hyp invA invB hq

/-- Nothing else is left behind: every definition that was instantiated below the top instance and
    was not a leaf ends up without children and without cables; the only trace is at most one stale
    member of its reference set (`extra`: the dissolved shell, which `Definition.remove_child` does
    not un-reference — an instance outside every definition, exactly like the clones `Instance.clone`
    documents; `canon.wf_problems` accepts it, so it is recorded as an observation, not as a
    well-formedness violation).  `flatten_wf` itself does not constrain `extra`. -/
theorem flatten_leftovers (fuel : Nat) (d : Design) (hyp : Hyp d) (hnamed : Named d)
    (hfin : (flatten fuel d).finished = true) (x : Nat) (hx : Reach d x) (hxt : x ≠ d.top)
    (hxl : (d.defs x).isLeaf = false) :
    ((flatten fuel d).design.defs x).children = [] ∧ ((flatten fuel d).design.defs x).cables = [] ∧
    (flatten fuel d).design.extra x ≤ 1 := by
  obtain ⟨moved, invA, _⟩ := fLoop_inv hyp hnamed fuel
  have hq : (fLoop fuel (fInit d)).queue = [] := by simpa [flatten] using hfin
  exact leftovers hyp invA hq hx hxt hxl

/-! ### Non-vacuity: a concrete two-level design with a feed-through satisfies the hypotheses and the
    model really dissolves it. -/

/-- leaf `0` (two one-bit ports); `1` = pass-through shell: its two ports tied by one wire, which
    also reaches a leaf inside; top `2` holds the shell `s` and two leaves `a`, `b`, `a.P0 — s.P0`,
    `s.P1 — b.P0`: after flatten `a.P0`, `b.P0` and the inner leaf's `P0` are one net (on wire `w2`). -/
def exC09 : Design :=
  { ndefs := 3
    defs := fun i =>
      if i = 0 then { lib := 0, name := some "leaf", eid := none, info := "", ports := [⟨1, ""⟩, ⟨1, ""⟩], cables := [], children := [] }
      else if i = 1 then
        { lib := 0, name := some "shell", eid := none, info := "", ports := [⟨1, ""⟩, ⟨1, ""⟩],
          cables := [{ id := 0, name := some "t", eid := none, info := "", wires := [[.port 0 0, .port 1 0, .inst 3 0 0]] }],
          children := [{ id := 3, name := some "u", eid := none, ref := 0, data := "" }] }
      else if i = 2 then
        { lib := 0, name := some "top", eid := none, info := "", ports := [],
          cables := [{ id := 1, name := some "w1", eid := none, info := "", wires := [[.inst 0 0 0, .inst 1 0 0]] },
                     { id := 2, name := some "w2", eid := none, info := "", wires := [[.inst 1 1 0, .inst 2 0 0]] }],
          children := [{ id := 0, name := some "a", eid := none, ref := 0, data := "" },
                       { id := 1, name := some "s", eid := none, ref := 1, data := "" },
                       { id := 2, name := some "b", eid := none, ref := 0, data := "" }] }
      else default
    order := [[0, 1, 2]]
    top := 2
    extra := fun i => if i = 2 then 1 else 0
    ctr := 0 }

theorem exC09_unique : Unique exC09 := by
  -- every child of every definition, reachable or not, instantiates a leaf or a definition with one instance
  intro q c _ hc
  by_cases hq : q < 3
  · have h : ∀ q, q < 3 → ∀ c ∈ (exC09.defs q).children,
        (exC09.defs c.ref).isLeaf = true ∨ exC09.refCount c.ref = 1 := by decide
    exact h q hq c hc
  · have h : (exC09.defs q).children = [] := by
      simp only [exC09, show q ≠ 0 by omega, show q ≠ 1 by omega, show q ≠ 2 by omega, if_false]
      rfl
    rw [h] at hc; cases hc

example : Hyp exC09 ∧ Named exC09 :=
  ⟨{ wf := by decide, ids := by decide, uniq := exC09_unique, acyc := ⟨fun i => i, by decide⟩ }, by decide⟩

example : (flatten 10 exC09).finished = true ∧
    ((flatten 10 exC09).design.defs 2).children.map (·.name) = [some "a", some "b", some "s/u"] ∧
    (((flatten 10 exC09).design.defs 2).cables.map (·.wires)) =
      [[[]], [[.inst 2 0 0, .inst 0 0 0, .inst 3 0 0]], [[]]] := by decide

end Spydr.Xform
