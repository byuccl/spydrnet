/-
  C08 — uniquify makes every non-leaf instance unique without changing the design.

  Model: `uniquify : Nat → Design → UResult` (ModelUniquify.lean), fuel-bounded transcription of
  spydrnet/uniquify.py (as repaired by docs/fixes/xform_uniquify_name_clash.diff and
  docs/fixes/xform_uniquify_identifier_clash.diff).
  Spec:  `WF`, `Unique`, `Acyclic`, `DefNamesUnique`, `DefEidsUnique` (Spec.lean), `SameElab` (SpecElab.lean).
         Three definitions the statements use stand in a lemma file: `NameOfCopy`, `Grows`, `Behind`
         (LemmasUniqNames.lean).

  Hypotheses that appear below
  * `WF d`                      decidable; evaluated by the driver on every dumped netlist;
  * `Acyclic d`                 no definition instantiates itself transitively;
  * `(uniquify fuel d).finished` the queue ran empty with the given fuel: the walk ran to completion, given
                                that no step gets stuck (`uniquify_never_stuck`; a stuck step also empties
                                the queue) (reported by the driver
                                for every input; `uniquify_finishes`: it does for every fuel ≥ the
                                size of the unfolding);
  (`(uniquify fuel d).ok`, the bounded search for a free name succeeded, is a theorem: `uniquify_never_stuck`.)
-/
import Spydr.Xform.LemmasUniqNames
import Spydr.Xform.LemmasUniqElab
import Spydr.Xform.LemmasUniqFuel

namespace Spydr.Xform

/-- The bounded search for a free name never fails: the `2·ndefs + 1` candidates `name_sdn_unique_k`
    are pairwise different and the library holds at most `ndefs` names and `ndefs` identifiers. -/
theorem uniquify_never_stuck (fuel : Nat) (d : Design) : (uniquify fuel d).ok = true :=
  (uLoop_induct (fun _ _ => True) (fun _ _ _ _ _ _ _ _ => trivial) fuel (uInit d) trivial).2

/-- The netlist stays well-formed. -/
theorem uniquify_wf (fuel : Nat) (d : Design) (hwf : WF d) :
    WF (uniquify fuel d).design :=
  (uniquify_induct (P := fun _ => True) hwf trivial (fun _ _ _ => trivial) fuel).1

/-- After uniquify every non-leaf instance reachable from the top instance is the only instance of
    its definition (`Unique`: the reference set has exactly one member, counting every instance there
    is — also instances in definitions outside the top hierarchy and instances outside every
    definition). -/
theorem uniquify_unique (fuel : Nat) (d : Design) (hwf : WF d) (hac : Acyclic d)
    (hfin : (uniquify fuel d).finished = true) :
    Unique (uniquify fuel d).design := by
  obtain ⟨rank, hr⟩ := hac
  obtain ⟨Done, rank', inv⟩ := uLoop_inv hwf hr fuel
  have hq : (uLoop fuel (uInit d)).queue = [] := by simpa [uniquify] using hfin
  rw [hq] at inv
  exact inv.unique

/-- The elaborated design is untouched: the unfolding tree (instance names, data and leaf cell type
    at every path) and the connectivity between all hierarchical wires, hierarchical pins and
    top-level port bits — in particular the grouping of leaf pins and top-level port bits into nets —
    are exactly what they were.  (Holds for every prefix of the walk, hence no `finished`.) -/
theorem uniquify_preserves_elab (fuel : Nat) (d : Design) (hwf : WF d) :
    SameElab d (uniquify fuel d).design :=
  (uniquify_induct hwf (SameElab.refl d) (fun s hl hs => hs.trans (s.sameElab hl)) fuel).2

/-- Restriction of `uniquify_preserves_elab` to the sentence of the property: two endpoints (leaf pin
    bits, top-level port bits) are connected after uniquify iff they were before; what is an
    endpoint does not change either. -/
theorem uniquify_preserves_nets (fuel : Nat) (d : Design) (hwf : WF d)
    (a b : HNode) :
    (IsEndpoint d a ↔ IsEndpoint (uniquify fuel d).design a) ∧
    (HConn d a b ↔ HConn (uniquify fuel d).design a b) := by
  have h := uniquify_preserves_elab fuel d hwf
  refine ⟨?_, h.2 a b⟩
  cases a with
  | wire => exact Iff.rfl
  | tport => exact Iff.rfl
  | pin p iid pi bit => exact isEndpoint_congr (h.1 p iid)

/-- Newly created definitions have fresh unique names in the original's library:
    * definition names stay pairwise distinct inside every library (`DefNamesUnique`), and so do the
      `EDIF.identifier` entries the code also rewrites, compared case-insensitively as the EDIF
      naming policy does (`DefEidsUnique`);
    * `Grows`: old definitions keep name, library, ports and cables; every new definition `n` is a
      copy (same library, ports, cables) of an earlier definition `x`, unnamed if `x` is unnamed and
      otherwise named `name x ++ "_sdn_unique_" ++ k` with `k` between the counter before and after
      the call; the relative order of the old definitions in every library is unchanged. -/
theorem uniquify_fresh_names (fuel : Nat) (d : Design) (hwf : WF d) :
    (DefNamesUnique d → DefNamesUnique (uniquify fuel d).design) ∧
    (DefEidsUnique d → DefEidsUnique (uniquify fuel d).design) ∧ Grows d (uniquify fuel d).design :=
  (uniquify_induct (P := fun d' => (DefNamesUnique d → DefNamesUnique d') ∧ (DefEidsUnique d → DefEidsUnique d') ∧ Grows d d')
    hwf ⟨id, id, Grows.refl hwf.2.2.2.1⟩
    (fun s _ ⟨hnm, hei, hg⟩ => ⟨fun h0 => makeUnique_names s.eq (hnm h0), fun h0 => makeUnique_eids s.eq (hei h0),
      hg.trans s.grows⟩) fuel).2

/-- Each copy is inserted immediately behind its original in the original's library (one step of the
    walk; `pre ++ x :: post` becomes `pre ++ x :: new :: post`, other libraries untouched).
    Whole-run form: `uniquify_behind_original` below. -/
theorem uniquify_step_position {d d' : Design} {q k : Nat} {c : Inst} (hwf : WF d) (hq : q < d.ndefs)
    (hc : (d.defs q).children[k]? = some c) (h : makeUnique d q k c.ref = some d') :
    ∃ l pre post, d.order[l]? = some (pre ++ c.ref :: post) ∧
      d'.order[l]? = some (pre ++ c.ref :: d.ndefs :: post) ∧ (d.defs c.ref).lib = l ∧
      (d'.defs d.ndefs).lib = l ∧ ∀ l', l' ≠ l → d'.order[l']? = d.order[l']? :=
  CloneStep.position ⟨hwf, hq, hc, h⟩

/-- Whole-run form of "new definitions sit right behind their original": in the final order of every
    library, each new definition `n` is preceded in its list by the definition `x` it is a copy of
    (same library, ports, cables; name `x_sdn_unique_k`), with only definitions newer than `n` in
    between. -/
theorem uniquify_behind_original (fuel : Nat) (d : Design) (hwf : WF d) :
    Behind d.ndefs (uniquify fuel d).design :=
  (uniquify_induct hwf (behind_refl d) (fun s _ hb => s.behind hb) fuel).2

/-- Fuel: the walk terminates; explicitly, it finishes as soon as the fuel reaches the number of
    instance occurrences of the elaborated design (`wt d N top`, the size of the unfolding of the top
    definition, for any bound `N` on the depth of the hierarchy, is enough). -/
theorem uniquify_finishes (d : Design) (hwf : WF d) (hac : Acyclic d) :
    ∃ N, ∀ fuel, N ≤ fuel → (uniquify fuel d).finished = true := by
  obtain ⟨N, hb⟩ := bounded_of_acyclic hac
  exact ⟨wt d N d.top, fun fuel hf => uniquify_finished hwf hb (by omega)⟩

/-- Running uniquify again changes nothing (not even the name counter), whatever the fuel. -/
theorem uniquify_idem (fuel : Nat) (d : Design) (hwf : WF d) (hac : Acyclic d)
    (hfin : (uniquify fuel d).finished = true) (fuel' : Nat) :
    (uniquify fuel' (uniquify fuel d).design).design = (uniquify fuel d).design ∧
    (uniquify fuel' (uniquify fuel d).design).ok = true :=
  uLoop_fix (uniquify_unique fuel d hwf hac hfin) fuel' (uInit (uniquify fuel d).design) rfl
    (fun a ha => by rw [(mem_childAddrs.mp ha).1]; exact Reach.top)

/-- Headline, without run-time flags: there is a fuel bound `N` (the size of the unfolding) such that
    for every larger fuel the model's result is well-formed, uniquified, has the same elaboration
    as the input, and is a fixpoint of uniquify (also for the name counter). -/
theorem uniquify_correct (d : Design) (hwf : WF d) (hac : Acyclic d) :
    ∃ N, ∀ fuel, N ≤ fuel →
      WF (uniquify fuel d).design ∧ Unique (uniquify fuel d).design ∧ SameElab d (uniquify fuel d).design ∧
      (∀ fuel', (uniquify fuel' (uniquify fuel d).design).design = (uniquify fuel d).design) := by
  obtain ⟨N, hN⟩ := uniquify_finishes d hwf hac
  refine ⟨N, fun fuel hf => ?_⟩
  have hfin := hN fuel hf
  exact ⟨uniquify_wf fuel d hwf, uniquify_unique fuel d hwf hac hfin, uniquify_preserves_elab fuel d hwf,
    fun fuel' => (uniquify_idem fuel d hwf hac hfin fuel').1⟩

/-! ### Non-vacuity: a concrete shared, two-level design satisfies the hypotheses, and the model
    really copies on it. -/

/-- leaf `0`; `1` = non-leaf cell with a port, a wire and a leaf child; top `2` instantiates `1`
    twice and ties the two instances together. -/
def exC08 : Design :=
  { ndefs := 3
    defs := fun i =>
      if i = 0 then { lib := 0, name := some "leaf", eid := none, info := "", ports := [⟨1, ""⟩], cables := [], children := [] }
      else if i = 1 then
        { lib := 0, name := none, eid := none, info := "", ports := [⟨1, ""⟩],
          cables := [{ id := 0, name := some "n", eid := none, info := "", wires := [[.port 0 0, .inst 0 0 0]] }],
          children := [{ id := 0, name := some "u", eid := none, ref := 0, data := "" }] }
      else if i = 2 then
        { lib := 0, name := some "top", eid := none, info := "", ports := [],
          cables := [{ id := 1, name := some "w", eid := none, info := "", wires := [[.inst 0 0 0, .inst 1 0 0]] }],
          children := [{ id := 0, name := some "a", eid := none, ref := 1, data := "" },
                       { id := 1, name := some "b", eid := none, ref := 1, data := "" }] }
      else default
    order := [[0, 1, 2]]
    top := 2
    extra := fun i => if i = 2 then 1 else 0
    ctr := 0 }

example : WF exC08 := by decide
example : Acyclic exC08 := ⟨fun i => i, by decide⟩
example : exC08.refCount 1 = 2 := by decide
example : ¬ Unique exC08 := by
  intro h
  have := h 2 { id := 0, name := some "a", eid := none, ref := 1, data := "" } Reach.top (by decide)
  revert this; decide
example : (uniquify 10 exC08).finished = true ∧ (uniquify 10 exC08).ok = true ∧
    (uniquify 10 exC08).design.ndefs = 4 ∧ (uniquify 10 exC08).design.order = [[0, 1, 3, 2]] := by decide

end Spydr.Xform
