/-
  One `makeUnique` step (clone + insert + re-point): what it does to each field of the design, and
  that it preserves well-formedness, acyclicity and — up to the re-pointed instance — the sizes of
  the reference sets.
-/
import Spydr.Xform.ModelUniquify
import Spydr.Xform.LemmasSpec

namespace Spydr.Xform

theorem pickCtr_spec {names eids : List String} {nm eid : Option String} {fuel ctr k : Nat}
    (h : pickCtr names eids nm eid fuel ctr = some k) :
    ctr ≤ k ∧ candTaken names eids nm eid k = false := by
  induction fuel generalizing ctr with
  | zero => simp [pickCtr] at h
  | succ f ih =>
    simp only [pickCtr] at h
    split at h
    · have := ih h; exact ⟨by omega, this.2⟩
    · rename_i hc
      cases h
      exact ⟨Nat.le_refl _, by simpa using hc⟩

/-- the copy is the original with name and identifier suffixed by a counter value `k` that is not
    below the counter and whose candidate name / identifier is free; without name and identifier it
    is the original itself -/
theorem cloneDefn_some {d : Design} {D D' : Defn} {c : Nat} (h : cloneDefn d D = some (D', c)) :
    (D.name = none ∧ D.eid = none ∧ D' = D ∧ c = d.ctr) ∨
    ∃ k, d.ctr ≤ k ∧ c = k + 1 ∧ candTaken (d.libNames D.lib) (d.libEids D.lib) D.name D.eid k = false ∧
      D' = { D with name := D.name.map (· ++ uniqSuffix k), eid := D.eid.map (· ++ uniqSuffix k) } := by
  unfold cloneDefn at h
  split at h
  · rename_i hnone
    cases h
    simp only [Bool.and_eq_true, Option.isNone_iff_eq_none] at hnone
    exact Or.inl ⟨hnone.1, hnone.2, rfl, rfl⟩
  · split at h
    · cases h
    · rename_i k hk
      cases h
      exact Or.inr ⟨k, (pickCtr_spec hk).1, rfl, (pickCtr_spec hk).2, rfl⟩

/-- `D'` is `D` up to name and identifier -/
structure CopyOf (D' D : Defn) : Prop where
  ports : D'.ports = D.ports
  lib : D'.lib = D.lib
  cables : D'.cables = D.cables
  children : D'.children = D.children
  info : D'.info = D.info

theorem cloneDefn_fields {d : Design} {D D' : Defn} {c : Nat} (h : cloneDefn d D = some (D', c)) : CopyOf D' D := by
  rcases cloneDefn_some h with ⟨_, _, rfl, _⟩ | ⟨k, _, _, _, rfl⟩ <;> exact ⟨rfl, rfl, rfl, rfl, rfl⟩

/-- name of the copy: none for an unnamed original, otherwise `name ++ "_sdn_unique_" ++ k` with `k`
    at least the counter and the name not yet used in the library; the counter never decreases -/
theorem cloneDefn_name {d : Design} {D D' : Defn} {c : Nat} (h : cloneDefn d D = some (D', c)) :
    (D.name = none ∧ D'.name = none ∧ d.ctr ≤ c) ∨
    (∃ n k, D.name = some n ∧ D'.name = some (n ++ uniqSuffix k) ∧ d.ctr ≤ k ∧ c = k + 1 ∧
       (n ++ uniqSuffix k) ∉ d.libNames D.lib) := by
  rcases cloneDefn_some h with ⟨hn, _, rfl, rfl⟩ | ⟨k, hk, rfl, hfree, rfl⟩
  · exact Or.inl ⟨hn, hn, Nat.le_refl _⟩
  · cases hn : D.name with
    | none => exact Or.inl ⟨rfl, by simp, by omega⟩
    | some n =>
      refine Or.inr ⟨n, k, rfl, by simp, hk, rfl, ?_⟩
      simp only [candTaken, hn, Bool.or_eq_false_iff] at hfree
      simpa using hfree.1

/-- identifier of the copy: absent like the original's, otherwise `eid ++ "_sdn_unique_" ++ k` whose
    case-folded form is not yet an identifier of the library -/
theorem cloneDefn_eid {d : Design} {D D' : Defn} {c : Nat} (h : cloneDefn d D = some (D', c)) :
    (D.eid = none ∧ D'.eid = none) ∨
    (∃ e k, D.eid = some e ∧ D'.eid = some (e ++ uniqSuffix k) ∧ lowerStr (e ++ uniqSuffix k) ∉ d.libEids D.lib) := by
  rcases cloneDefn_some h with ⟨_, he, rfl, _⟩ | ⟨k, _, _, hfree, rfl⟩
  · exact Or.inl ⟨he, he⟩
  · cases he : D.eid with
    | none => exact Or.inl ⟨rfl, by simp⟩
    | some e =>
      refine Or.inr ⟨e, k, rfl, by simp, ?_⟩
      simp only [candTaken, he, Bool.or_eq_false_iff] at hfree
      simpa using hfree.2

theorem setChildRef_cables (D : Defn) (k r : Nat) : (setChildRef D k r).cables = D.cables := rfl
theorem setChildRef_lib (D : Defn) (k r : Nat) : (setChildRef D k r).lib = D.lib := rfl
theorem setChildRef_name (D : Defn) (k r : Nat) : (setChildRef D k r).name = D.name := rfl

theorem setChildRef_getElem? (D : Defn) (k r j : Nat) :
    (setChildRef D k r).children[j]? =
      (D.children[j]?).map (fun c => if k = j then { c with ref := r } else c) := by
  simp only [setChildRef, List.getElem?_modify]
  cases D.children[j]? <;> simp

theorem setChildRef_map_id (D : Defn) (k r : Nat) :
    (setChildRef D k r).children.map (·.id) = D.children.map (·.id) := by
  apply List.ext_getElem?
  intro j
  simp only [List.getElem?_map, setChildRef_getElem?]
  cases D.children[j]? <;> simp
  split <;> rfl

theorem setChildRef_isLeaf (D : Defn) (k r : Nat) : (setChildRef D k r).isLeaf = D.isLeaf := by
  simp only [Defn.isLeaf, setChildRef]
  cases h : D.children with
  | nil => simp
  | cons a l => cases k <;> simp [List.modify]

theorem insertAfter_nil (x y : Nat) : insertAfter x y [] = [] := rfl

theorem insertAfter_not_mem {x y : Nat} {l : List Nat} (hx : x ∉ l) : insertAfter x y l = l := by
  induction l with
  | nil => rfl
  | cons b l ih =>
    have hb : ¬ b = x := fun e => hx (e ▸ List.mem_cons_self)
    simp only [insertAfter, hb, if_false, ih (fun e => hx (List.mem_cons_of_mem _ e))]

theorem insertAfter_split {x y : Nat} {l : List Nat} (hx : x ∈ l) :
    ∃ pre post, l = pre ++ x :: post ∧ x ∉ pre ∧ insertAfter x y l = pre ++ x :: y :: post := by
  induction l with
  | nil => simp at hx
  | cons b l ih =>
    simp only [insertAfter]
    split
    · rename_i hb; subst hb; exact ⟨[], l, rfl, by simp, rfl⟩
    · rename_i hb
      obtain ⟨pre, post, h1, h2, h3⟩ := ih ((List.mem_cons.mp hx).resolve_left (fun e => hb e.symm))
      exact ⟨b :: pre, post, by simp [h1], by simp [h2, Ne.symm hb], by simp [h3]⟩

theorem mem_insertAfter {x y a : Nat} {l : List Nat} :
    a ∈ insertAfter x y l ↔ a ∈ l ∨ (a = y ∧ x ∈ l) := by
  by_cases hx : x ∈ l
  · obtain ⟨pre, post, h1, _, h3⟩ := insertAfter_split (y := y) hx
    rw [h3, h1]; simp; grind
  · simp [insertAfter_not_mem hx, hx]

theorem nodup_insertAfter {x y : Nat} {l : List Nat} (h : l.Nodup) (hy : y ∉ l) : (insertAfter x y l).Nodup := by
  by_cases hx : x ∈ l
  · obtain ⟨pre, post, h1, _, h3⟩ := insertAfter_split (y := y) hx
    rw [h3]; rw [h1] at h hy
    simp only [List.nodup_append, List.nodup_cons, List.mem_append, List.mem_cons] at h hy ⊢
    grind
  · rwa [insertAfter_not_mem hx]

theorem mem_flatten_map_insertAfter {x y a : Nat} {o : List (List Nat)} :
    a ∈ (o.map (insertAfter x y)).flatten ↔ a ∈ o.flatten ∨ (a = y ∧ x ∈ o.flatten) := by
  simp only [List.mem_flatten, List.mem_map]
  constructor
  · rintro ⟨l, ⟨l0, hl0, rfl⟩, ha⟩
    rcases mem_insertAfter.mp ha with ha | ⟨ha, hx⟩
    · exact Or.inl ⟨l0, hl0, ha⟩
    · exact Or.inr ⟨ha, l0, hl0, hx⟩
  · rintro (⟨l0, hl0, ha⟩ | ⟨ha, l0, hl0, hx⟩)
    · exact ⟨_, ⟨l0, hl0, rfl⟩, mem_insertAfter.mpr (Or.inl ha)⟩
    · exact ⟨_, ⟨l0, hl0, rfl⟩, mem_insertAfter.mpr (Or.inr ⟨ha, hx⟩)⟩

theorem nodup_flatten_map_insertAfter {x y : Nat} {o : List (List Nat)}
    (h : o.flatten.Nodup) (hy : y ∉ o.flatten) : (o.map (insertAfter x y)).flatten.Nodup := by
  induction o with
  | nil => simp
  | cons l o ih =>
    simp only [List.flatten_cons, List.map_cons] at *
    rw [List.nodup_append] at h ⊢
    obtain ⟨h1, h2, h3⟩ := h
    have hyl : y ∉ l := fun e => hy (List.mem_append_left _ e)
    have hyo : y ∉ o.flatten := fun e => hy (List.mem_append_right _ e)
    refine ⟨nodup_insertAfter h1 hyl, ih h2 hyo, ?_⟩
    intro a ha b hb
    rw [mem_insertAfter] at ha
    rw [mem_flatten_map_insertAfter] at hb
    -- `y` is new on both sides, and `x` cannot be on both
    rcases ha with ha | ⟨rfl, hx⟩ <;> rcases hb with hb | ⟨rfl, hx'⟩
    · exact h3 a ha b hb
    · exact fun e => hyl (e ▸ ha)
    · exact fun e => hyo (e ▸ hb)
    · exact absurd rfl (h3 x hx x hx')

/-- `D'` is `D` up to the references of its children -/
structure SameButRefs (D' D : Defn) : Prop where
  ports : D'.ports = D.ports
  lib : D'.lib = D.lib
  name : D'.name = D.name
  eid : D'.eid = D.eid
  cables : D'.cables = D.cables
  isLeaf : D'.isLeaf = D.isLeaf
  ids : D'.children.map (·.id) = D.children.map (·.id)

theorem makeUnique_some {d d' : Design} {q k x : Nat} (h : makeUnique d q k x = some d') :
    ∃ D' c, cloneDefn d (d.defs x) = some (D', c) ∧
      d' = { ndefs := d.ndefs + 1
             defs := fun j => if j = d.ndefs then D' else if j = q then setChildRef (d.defs q) k d.ndefs else d.defs j
             order := d.order.map (insertAfter x d.ndefs)
             top := d.top
             extra := fun j => if j = d.ndefs then 0 else d.extra j
             ctr := c } := by
  unfold makeUnique at h
  split at h
  · cases h
  · rename_i D' c hc
    cases h
    exact ⟨D', c, hc, rfl⟩

section fields
variable {d d' : Design} {q k x : Nat} (h : makeUnique d q k x = some d')
include h

theorem makeUnique_ndefs : d'.ndefs = d.ndefs + 1 := by obtain ⟨_, _, _, rfl⟩ := makeUnique_some h; rfl
theorem makeUnique_top : d'.top = d.top := by obtain ⟨_, _, _, rfl⟩ := makeUnique_some h; rfl
theorem makeUnique_order : d'.order = d.order.map (insertAfter x d.ndefs) := by
  obtain ⟨_, _, _, rfl⟩ := makeUnique_some h; rfl
theorem makeUnique_extra (j : Nat) : d'.extra j = if j = d.ndefs then 0 else d.extra j := by
  obtain ⟨_, _, _, rfl⟩ := makeUnique_some h; rfl

theorem makeUnique_clone : cloneDefn d (d.defs x) = some (d'.defs d.ndefs, d'.ctr) := by
  obtain ⟨_, _, hc, rfl⟩ := makeUnique_some h; simpa using hc

theorem makeUnique_defs_q (hq : q ≠ d.ndefs) : d'.defs q = setChildRef (d.defs q) k d.ndefs := by
  obtain ⟨_, _, _, rfl⟩ := makeUnique_some h; simp [hq]

theorem makeUnique_defs_other {j : Nat} (hj : j ≠ d.ndefs) (hq : j ≠ q) : d'.defs j = d.defs j := by
  obtain ⟨_, _, _, rfl⟩ := makeUnique_some h; simp [hj, hq]

theorem makeUnique_old {j : Nat} (hj : j ≠ d.ndefs) : SameButRefs (d'.defs j) (d.defs j) := by
  by_cases hjq : j = q
  · subst hjq
    rw [makeUnique_defs_q h hj]
    exact ⟨rfl, rfl, rfl, rfl, rfl, setChildRef_isLeaf _ _ _, setChildRef_map_id _ _ _⟩
  · rw [makeUnique_defs_other h hj hjq]
    exact ⟨rfl, rfl, rfl, rfl, rfl, rfl, rfl⟩

theorem makeUnique_new : CopyOf (d'.defs d.ndefs) (d.defs x) := cloneDefn_fields (makeUnique_clone h)

end fields

/-- the walk copies the reference of child `c` (position `k`) of definition `q` of a well-formed design -/
structure CloneStep (d d' : Design) (q k : Nat) (c : Inst) : Prop where
  wf : WF d
  hq : q < d.ndefs
  hc : (d.defs q).children[k]? = some c
  eq : makeUnique d q k c.ref = some d'

namespace CloneStep
variable {d d' : Design} {q k : Nat} {c : Inst} (s : CloneStep d d' q k c)
include s

theorem mem : c ∈ (d.defs q).children := List.mem_of_getElem? s.hc
theorem ref_lt : c.ref < d.ndefs := s.wf.ref_lt s.hq s.mem
theorem q_ne : q ≠ d.ndefs := Nat.ne_of_lt s.hq

/-- the children of an old definition after the step, position by position -/
theorem getElem?_children {j : Nat} (hj : j < d.ndefs) (i : Nat) :
    (d'.defs j).children[i]? = if j = q ∧ i = k then some { c with ref := d.ndefs } else (d.defs j).children[i]? := by
  by_cases hjq : j = q
  · subst hjq
    rw [makeUnique_defs_q s.eq (Nat.ne_of_lt hj), setChildRef_getElem?]
    by_cases hik : i = k
    · subst hik; simp [s.hc]
    · have : ¬ k = i := fun e => hik e.symm
      cases (d.defs j).children[i]? <;> simp [hik, this]
  · rw [makeUnique_defs_other s.eq (Nat.ne_of_lt hj) hjq, if_neg (fun h => hjq h.1)]

/-- every child of a definition of `d'` is a child of the corresponding definition of `d` (the copy
    corresponds to its original), except that the re-pointed child now references the copy -/
theorem child_cases {j : Nat} (hj : j < d'.ndefs) {c' : Inst} (hc' : c' ∈ (d'.defs j).children) :
    ∃ j0 < d.ndefs, ∃ c0 ∈ (d.defs j0).children, (j0 = j ∨ (j0 = c.ref ∧ j = d.ndefs)) ∧
      (c' = c0 ∨ (c' = { c with ref := d.ndefs } ∧ c0 = c ∧ j = q)) := by
  rw [makeUnique_ndefs s.eq] at hj
  by_cases hjn : j = d.ndefs
  · rw [hjn, (makeUnique_new s.eq).children] at hc'
    exact ⟨c.ref, s.ref_lt, c', hc', Or.inr ⟨rfl, hjn⟩, Or.inl rfl⟩
  · obtain ⟨i, hi⟩ := List.getElem?_of_mem hc'
    rw [s.getElem?_children (by omega)] at hi
    split at hi
    · obtain ⟨rfl, rfl⟩ := ‹j = q ∧ i = k›
      exact ⟨j, s.hq, c, s.mem, Or.inl rfl, Or.inr ⟨(Option.some.inj hi).symm, rfl, rfl⟩⟩
    · exact ⟨j, by omega, c', List.mem_of_getElem? hi, Or.inl rfl, Or.inl rfl⟩

theorem rankOk {rank : Nat → Nat} (hr : RankOk d rank) :
    RankOk d' (fun y => if y = d.ndefs then rank c.ref else rank y) := by
  intro j hj c' hc'
  show (if c'.ref = d.ndefs then _ else _) < (if j = d.ndefs then _ else _)
  obtain ⟨j0, hj0, c0, hc0, hj', hcc⟩ := s.child_cases hj hc'
  have h0 := hr j0 hj0 c0 hc0
  have hlt := s.wf.ref_lt hj0 hc0
  have hjr : (if j = d.ndefs then rank c.ref else rank j) = rank j0 := by
    rcases hj' with rfl | ⟨rfl, rfl⟩
    · rw [if_neg (Nat.ne_of_lt hj0)]
    · rw [if_pos rfl]
  rw [hjr]
  rcases hcc with rfl | ⟨rfl, rfl, _⟩
  · rwa [if_neg (Nat.ne_of_lt hlt)]
  · rwa [if_pos rfl]

theorem wf' : WF d' := by
  obtain ⟨htop, _, o1, o2, o3, o4⟩ := s.wf
  have hn := makeUnique_ndefs s.eq
  have hnew := makeUnique_new s.eq
  refine ⟨by rw [makeUnique_top s.eq, hn]; omega, ?_, ?_⟩
  · intro i hi
    have hi : i < d'.ndefs := List.mem_range.mp hi
    -- `i0`: the definition of `d` that `i` is (a copy of); its children correspond to those of `i`
    obtain ⟨i0, hi0, hi0', hports, hcab⟩ : ∃ i0, i0 < d.ndefs ∧ (i0 = i ∨ (i0 = c.ref ∧ i = d.ndefs)) ∧
        (d'.defs i).ports = (d.defs i0).ports ∧ (d'.defs i).cables = (d.defs i0).cables := by
      by_cases hin : i = d.ndefs
      · exact ⟨c.ref, s.ref_lt, Or.inr ⟨rfl, hin⟩, hin ▸ hnew.ports, hin ▸ hnew.cables⟩
      · have := makeUnique_old s.eq hin
        exact ⟨i, by omega, Or.inl rfl, this.ports, this.cables⟩
    have hids : (d'.defs i).children.map (·.id) = (d.defs i0).children.map (·.id) := by
      rcases hi0' with rfl | ⟨rfl, rfl⟩
      · exact (makeUnique_old s.eq (Nat.ne_of_lt hi0)).ids
      · rw [hnew.children]
    obtain ⟨w1, w2, w3, w4⟩ := s.wf.wfDef hi0
    refine ⟨?_, hids ▸ w2, hcab ▸ w3, ?_⟩
    · intro c' hc'
      obtain ⟨j0, hj0, c0, hc0, _, hcc⟩ := s.child_cases hi hc'
      have := s.wf.ref_lt hj0 hc0
      rcases hcc with rfl | ⟨rfl, _, _⟩
      · omega
      · show d.ndefs < d'.ndefs; omega
    · rw [hcab]
      intro p hp
      refine pinOk_transfer hports ?_ (w4 p hp)
      -- the child of `i` with the identifier of `c0` references `c0.ref` or its copy
      intro c0 hc0
      obtain ⟨c', hc', hid⟩ := List.mem_map.mp (hids ▸ List.mem_map_of_mem (f := fun c : Inst => c.id) hc0)
      refine ⟨c', hc', hid, ?_⟩
      obtain ⟨j0, hj0, c1, hc1, hj', hcc⟩ := s.child_cases hi hc'
      have hj0i : j0 = i0 := by rcases hj' with rfl | ⟨rfl, rfl⟩ <;> rcases hi0' with rfl | ⟨rfl, h⟩ <;> omega
      subst hj0i
      rcases hcc with rfl | ⟨rfl, rfl, _⟩
      · rw [inj_of_nodup_map w2 hc1 hc0 hid]; exact (makeUnique_old s.eq (Nat.ne_of_lt (w1 c0 hc0))).ports
      · rw [← inj_of_nodup_map w2 hc1 hc0 hid]; exact hnew.ports
  · have hnf : d.ndefs ∉ d.order.flatten := fun e => Nat.lt_irrefl _ (o2 _ e)
    have hxf : c.ref ∈ d.order.flatten := o3 _ (List.mem_range.mpr s.ref_lt)
    rw [OrderOk, makeUnique_order s.eq, hn]
    refine ⟨nodup_flatten_map_insertAfter o1 hnf, ?_, ?_, ?_⟩
    · intro i hi
      rcases mem_flatten_map_insertAfter.mp hi with hi | ⟨rfl, _⟩
      · exact Nat.lt_succ_of_lt (o2 i hi)
      · exact Nat.lt_succ_self _
    · intro i hi
      have hi : i < d.ndefs + 1 := List.mem_range.mp hi
      by_cases hin : i = d.ndefs
      · exact mem_flatten_map_insertAfter.mpr (Or.inr ⟨hin, hxf⟩)
      · exact mem_flatten_map_insertAfter.mpr (Or.inl (o3 i (List.mem_range.mpr (by omega))))
    · intro l hl i hi
      have hl' : l < d.order.length := by simpa using hl
      have hget : (d.order.map (insertAfter c.ref d.ndefs)).getD l [] = insertAfter c.ref d.ndefs (d.order.getD l []) := by
        simp [List.getD, hl']
      rw [hget, mem_insertAfter] at hi
      rcases hi with hi | ⟨rfl, hxl⟩
      · have hil : i < d.ndefs := o2 i (List.mem_flatten.mpr ⟨d.order.getD l [], by simp [List.getD, hl'], hi⟩)
        rw [(makeUnique_old s.eq (Nat.ne_of_lt hil)).lib]
        exact o4 l (List.mem_range.mpr hl') i hi
      · rw [hnew.lib]
        exact o4 l (List.mem_range.mpr hl') _ hxl

end CloneStep

theorem refsTo_setChildRef {D : Defn} {k : Nat} {c : Inst} (hc : D.children[k]? = some c) (r y : Nat) :
    (setChildRef D k r).refsTo y + (if c.ref = y then 1 else 0) = D.refsTo y + (if r = y then 1 else 0) := by
  have := countP_modify (fun c : Inst => c.ref == y) (fun c => { c with ref := r }) D.children k c hc
  simpa [Defn.refsTo, setChildRef] using this

namespace CloneStep
variable {d d' : Design} {q k : Nat} {c : Inst} (s : CloneStep d d' q k c)
include s

/-- for any `y`: the copy (last summand) has the children of `c.ref`, the parent `q` trades one
    reference to `c.ref` for one to the copy, the other summands are unchanged -/
theorem refCount_eq (y : Nat) :
    d'.refCount y + (if c.ref = y then 1 else 0) =
      (if y = d.ndefs then 0 else d.extra y) + ((List.range d.ndefs).map (fun j => (d.defs j).refsTo y)).sum +
        (if d.ndefs = y then 1 else 0) + (d.defs c.ref).refsTo y := by
  have e1 : (d'.defs d.ndefs).refsTo y = (d.defs c.ref).refsTo y := by
    simp only [Defn.refsTo, (makeUnique_new s.eq).children]
  have e2 := sum_range_update (fun j => (d.defs j).refsTo y) (fun j => (d'.defs j).refsTo y) q d.ndefs s.hq
    (fun j hj hjq => by rw [makeUnique_defs_other s.eq (Nat.ne_of_lt hj) hjq])
  have e3 := refsTo_setChildRef s.hc d.ndefs y
  rw [← makeUnique_defs_q s.eq s.q_ne] at e3
  simp only [Design.refCount, makeUnique_ndefs s.eq, makeUnique_extra s.eq, sum_range_succ, e1]
  omega

/-- the size of an old definition's reference set after the step: the re-pointed instance leaves
    `c.ref`'s set, the copied children enter the sets of their references -/
theorem refCount_old {y : Nat} (hy : y < d.ndefs) :
    d'.refCount y + (if c.ref = y then 1 else 0) = d.refCount y + (d.defs c.ref).refsTo y := by
  have := s.refCount_eq y
  simp only [Nat.ne_of_lt hy, Nat.ne_of_gt hy, if_false] at this
  exact this

theorem refCount_new : d'.refCount d.ndefs = 1 := by
  have hz : ∀ j, j < d.ndefs → (d.defs j).refsTo d.ndefs = 0 := fun j hj =>
    refsTo_eq_zero (fun c hc => Nat.ne_of_lt (s.wf.ref_lt hj hc))
  have := s.refCount_eq d.ndefs
  rw [sum_range_zero _ _ hz, hz _ s.ref_lt, if_neg (Nat.ne_of_lt s.ref_lt)] at this
  simpa using this

end CloneStep

end Spydr.Xform
