/-
  Specification side of engine `xform`: the *elaboration* of a design.

  The elaborated design is the unfolding of the instance hierarchy below the top definition:
  * an occurrence of a definition is addressed by the path of child identifiers leading to it
    (`defAt`), an occurrence of an instance by the path to its parent plus its identifier;
  * hierarchical wires `(path, cable position, wire position)`, hierarchical pins
    `(path of the parent, instance identifier, port, bit)` — one node for the pin seen from outside
    (outer pin on a wire of the parent) and from inside (inner pin on a wire of the reference) —
    and the port bits of the top definition;
  * `HAdj`: a hierarchical wire touches a hierarchical pin; `HConn` is its equivalence closure:
    "electrically connected";
  * endpoints are the pins of leaf occurrences and the top-level port bits.

  Nothing here mentions `uniquify` or `flatten`.  NO Mathlib import.
-/
import Spydr.Xform.Spec

namespace Spydr.Xform

/-- equivalence closure (reflexive, symmetric, transitive) of a relation -/
inductive Conn {α : Type} (r : α → α → Prop) : α → α → Prop
  | rel {a b} : r a b → Conn r a b
  | refl (a) : Conn r a a
  | symm {a b} : Conn r a b → Conn r b a
  | trans {a b c} : Conn r a b → Conn r b c → Conn r a c

def childById (D : Defn) (iid : Nat) : Option Inst := D.children.find? (fun c => c.id == iid)

/-- the definition reached from definition `x` by descending along the instance identifiers `p` -/
def defAtFrom (d : Design) : Nat → List Nat → Option Nat
  | x, [] => some x
  | x, i :: p =>
    match childById (d.defs x) i with
    | none => none
    | some c => defAtFrom d c.ref p

/-- the definition occurrence at path `p` below the top instance (`[]` = the top definition) -/
def defAt (d : Design) (p : List Nat) : Option Nat := defAtFrom d d.top p

/-- the instance occurrence `p ++ [iid]` -/
def instAt (d : Design) (p : List Nat) (iid : Nat) : Option Inst :=
  match defAt d p with
  | none => none
  | some x => childById (d.defs x) iid

def wireAt (D : Defn) (ci wi : Nat) : Option (List Pin) :=
  match D.cables[ci]? with
  | none => none
  | some c => c.wires[wi]?

inductive HNode where
  | wire (p : List Nat) (ci wi : Nat)
  | pin (p : List Nat) (iid pi bit : Nat)
  | tport (pi bit : Nat)
  deriving DecidableEq, Repr

/-- a hierarchical wire touches a hierarchical pin / top-level port bit -/
inductive HAdj (d : Design) : HNode → HNode → Prop
  | outer {p : List Nat} {x ci wi : Nat} {w : List Pin} {iid pi bit : Nat} :
      defAt d p = some x → wireAt (d.defs x) ci wi = some w → Pin.inst iid pi bit ∈ w →
      HAdj d (.wire p ci wi) (.pin p iid pi bit)
  | inner {p : List Nat} {iid x ci wi : Nat} {w : List Pin} {pi bit : Nat} :
      defAt d (p ++ [iid]) = some x → wireAt (d.defs x) ci wi = some w → Pin.port pi bit ∈ w →
      HAdj d (.wire (p ++ [iid]) ci wi) (.pin p iid pi bit)
  | top {ci wi : Nat} {w : List Pin} {pi bit : Nat} :
      wireAt (d.defs d.top) ci wi = some w → Pin.port pi bit ∈ w →
      HAdj d (.wire [] ci wi) (.tport pi bit)

/-- electrically connected in the elaborated design -/
def HConn (d : Design) : HNode → HNode → Prop := Conn (HAdj d)

/-- what is observable of an instance occurrence: name, identifier entry, data, and — for a leaf —
    which definition it instantiates -/
structure InstView where
  name : Option String
  eid : Option String
  data : String
  leafType : Option Nat
  deriving DecidableEq, Repr

def viewOf (d : Design) (c : Inst) : InstView :=
  { name := c.name, eid := c.eid, data := c.data,
    leafType := if (d.defs c.ref).isLeaf then some c.ref else none }

/-- the unfolding tree as a function on paths: what (if anything) sits at `p ++ [iid]` -/
def unfoldAt (d : Design) (p : List Nat) (iid : Nat) : Option InstView :=
  (instAt d p iid).map (viewOf d)

/-- leaf pin bit / top-level port bit -/
def IsEndpoint (d : Design) : HNode → Prop
  | .wire _ _ _ => False
  | .pin p iid _ _ => ∃ c, instAt d p iid = some c ∧ (d.defs c.ref).isLeaf = true
  | .tport _ _ => True

/-- two designs have the same elaboration: same unfolding tree (instance names, data, leaf cell type
    at every path) and the same connectivity between all hierarchical nodes — in particular the
    same grouping of leaf pins and top-level port bits into nets. -/
def SameElab (d d' : Design) : Prop :=
  (∀ p iid, unfoldAt d p iid = unfoldAt d' p iid) ∧ (∀ a b, HConn d a b ↔ HConn d' a b)

end Spydr.Xform
