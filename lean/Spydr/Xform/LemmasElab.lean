/-
  Simulation argument for the elaboration: if the definitions of two designs are related by a
  relation `B` under which related definitions have the same cables, children that correspond by
  identifier (same name, data; `B`-related references) and the same leaf status (a leaf related only
  to itself), and the two top definitions are related, then the two designs have the same
  elaboration (`SameElab`).
-/
import Spydr.Xform.LemmasSpec

namespace Spydr.Xform

structure Sim (d d' : Design) (B : Nat → Nat → Prop) : Prop where
  cables : ∀ x y, B x y → (d.defs x).cables = (d'.defs y).cables
  fwd : ∀ x y, B x y → ∀ iid c, childById (d.defs x) iid = some c →
      ∃ c', childById (d'.defs y) iid = some c' ∧ c.name = c'.name ∧ c.eid = c'.eid ∧ c.data = c'.data ∧ B c.ref c'.ref
  bwd : ∀ x y, B x y → ∀ iid c', childById (d'.defs y) iid = some c' →
      ∃ c, childById (d.defs x) iid = some c ∧ c.name = c'.name ∧ c.eid = c'.eid ∧ c.data = c'.data ∧ B c.ref c'.ref
  leaf : ∀ x y, B x y → (d.defs x).isLeaf = (d'.defs y).isLeaf ∧ ((d.defs x).isLeaf = true → x = y)

theorem Sim.of_lookup {d d' : Design} {B : Nat → Nat → Prop}
    (hcab : ∀ x y, B x y → (d.defs x).cables = (d'.defs y).cables)
    (hleaf : ∀ x y, B x y → (d.defs x).isLeaf = (d'.defs y).isLeaf ∧ ((d.defs x).isLeaf = true → x = y))
    (hch : ∀ x y, B x y → ∀ iid, ∃ g : Inst → Inst, childById (d'.defs y) iid = (childById (d.defs x) iid).map g ∧
      ∀ c, childById (d.defs x) iid = some c →
        c.name = (g c).name ∧ c.eid = (g c).eid ∧ c.data = (g c).data ∧ B c.ref (g c).ref) : Sim d d' B where
  cables := hcab
  leaf := hleaf
  fwd := by
    intro x y h iid c hc
    obtain ⟨g, h1, h2⟩ := hch x y h iid
    exact ⟨g c, by rw [h1, hc]; rfl, h2 c hc⟩
  bwd := by
    intro x y h iid c' hc'
    obtain ⟨g, h1, h2⟩ := hch x y h iid
    rw [h1] at hc'
    cases hc : childById (d.defs x) iid with
    | none => rw [hc] at hc'; cases hc'
    | some c =>
      rw [hc] at hc'
      obtain rfl : g c = c' := by simpa using hc'
      exact ⟨c, rfl, h2 c hc⟩

theorem Sim.flip {d d' : Design} {B : Nat → Nat → Prop} (s : Sim d d' B) : Sim d' d (fun a b => B b a) where
  cables := fun x y h => (s.cables y x h).symm
  fwd := by
    intro x y h iid c hc
    obtain ⟨c0, h1, h2, h3, h4, h5⟩ := s.bwd y x h iid c hc
    exact ⟨c0, h1, h2.symm, h3.symm, h4.symm, h5⟩
  bwd := by
    intro x y h iid c hc
    obtain ⟨c0, h1, h2, h3, h4, h5⟩ := s.fwd y x h iid c hc
    exact ⟨c0, h1, h2.symm, h3.symm, h4.symm, h5⟩
  leaf := by
    intro x y h
    obtain ⟨h1, h2⟩ := s.leaf y x h
    exact ⟨h1.symm, fun hl => (h2 (h1 ▸ hl)).symm⟩

theorem Sim.walk {d d' : Design} {B : Nat → Nat → Prop} (s : Sim d d' B) :
    ∀ (p : List Nat) (x y : Nat), B x y → ∀ z, defAtFrom d x p = some z → ∃ z', defAtFrom d' y p = some z' ∧ B z z' := by
  intro p
  induction p with
  | nil => intro x y h z hz; simp only [defAtFrom] at hz ⊢; cases hz; exact ⟨y, rfl, h⟩
  | cons i p ih =>
    intro x y h z hz
    simp only [defAtFrom] at hz ⊢
    cases hc : childById (d.defs x) i with
    | none => simp [hc] at hz
    | some c =>
      simp only [hc] at hz
      obtain ⟨c', hc', _, _, _, hB⟩ := s.fwd x y h i c hc
      simp only [hc']
      exact ih _ _ hB z hz

theorem Sim.walk_none {d d' : Design} {B : Nat → Nat → Prop} (s : Sim d d' B)
    (p : List Nat) (x y : Nat) (h : B x y) (hn : defAtFrom d x p = none) : defAtFrom d' y p = none := by
  cases h' : defAtFrom d' y p with
  | none => rfl
  | some z' =>
    obtain ⟨z, hz, _⟩ := s.flip.walk p y x h z' h'
    rw [hn] at hz; cases hz

theorem Sim.hadj {d d' : Design} {B : Nat → Nat → Prop} (s : Sim d d' B) (htop : B d.top d'.top)
    {a b : HNode} (h : HAdj d a b) : HAdj d' a b := by
  cases h with
  | outer h1 h2 h3 =>
    obtain ⟨y, hy, hB⟩ := s.walk _ _ _ htop _ h1
    refine HAdj.outer (x := y) hy ?_ h3
    simpa [wireAt, ← s.cables _ _ hB] using h2
  | inner h1 h2 h3 =>
    obtain ⟨y, hy, hB⟩ := s.walk _ _ _ htop _ h1
    refine HAdj.inner (x := y) hy ?_ h3
    simpa [wireAt, ← s.cables _ _ hB] using h2
  | top h2 h3 =>
    refine HAdj.top ?_ h3
    simpa [wireAt, ← s.cables _ _ htop] using h2

theorem Sim.unfold_eq {d d' : Design} {B : Nat → Nat → Prop} (s : Sim d d' B) (htop : B d.top d'.top)
    (p : List Nat) (iid : Nat) : unfoldAt d p iid = unfoldAt d' p iid := by
  simp only [unfoldAt, instAt, defAt]
  cases hx : defAtFrom d d.top p with
  | none => rw [s.walk_none p _ _ htop hx]; rfl
  | some x =>
    obtain ⟨y, hy, hB⟩ := s.walk p _ _ htop x hx
    rw [hy]
    simp only
    cases hc : childById (d.defs x) iid with
    | none =>
      cases hc' : childById (d'.defs y) iid with
      | none => rfl
      | some c' =>
        obtain ⟨c, h1, _⟩ := s.bwd x y hB iid c' hc'
        rw [hc] at h1; cases h1
    | some c =>
      obtain ⟨c', hc', h1, h2, h3, h4⟩ := s.fwd x y hB iid c hc
      rw [hc']
      simp only [Option.map_some, viewOf, Option.some.injEq, InstView.mk.injEq]
      refine ⟨h1, h2, h3, ?_⟩
      obtain ⟨l1, l2⟩ := s.leaf _ _ h4
      rw [← l1]
      split
      · rename_i hl; rw [l2 hl]
      · rfl

theorem Sim.sameElab {d d' : Design} {B : Nat → Nat → Prop} (s : Sim d d' B) (htop : B d.top d'.top) :
    SameElab d d' :=
  ⟨fun p iid => s.unfold_eq htop p iid,
   fun _ _ => ⟨Conn.mono (fun _ _ => s.hadj htop), Conn.mono (fun _ _ => s.flip.hadj htop)⟩⟩

theorem SameElab.refl (d : Design) : SameElab d d := ⟨fun _ _ => rfl, fun _ _ => Iff.rfl⟩

theorem SameElab.trans {a b c : Design} (h1 : SameElab a b) (h2 : SameElab b c) : SameElab a c :=
  ⟨fun p i => (h1.1 p i).trans (h2.1 p i), fun x y => (h1.2 x y).trans (h2.2 x y)⟩

theorem isEndpoint_iff_unfoldAt {d : Design} {p : List Nat} {iid pi bit : Nat} :
    IsEndpoint d (.pin p iid pi bit) ↔ ∃ v, unfoldAt d p iid = some v ∧ v.leafType ≠ none := by
  simp only [IsEndpoint, unfoldAt]
  cases instAt d p iid with
  | none => simp
  | some c => cases hl : (d.defs c.ref).isLeaf <;> simp [viewOf, hl]

theorem isEndpoint_congr {d d' : Design} {p : List Nat} {iid pi bit : Nat} (h : unfoldAt d p iid = unfoldAt d' p iid) :
    IsEndpoint d (.pin p iid pi bit) ↔ IsEndpoint d' (.pin p iid pi bit) := by
  rw [isEndpoint_iff_unfoldAt, isEndpoint_iff_unfoldAt, h]

end Spydr.Xform
