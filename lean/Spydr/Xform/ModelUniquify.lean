/-
  Executable model of `spydrnet/uniquify.py` (as repaired by docs/fixes/xform_uniquify_name_clash.diff
  and docs/fixes/xform_uniquify_identifier_clash.diff: the name counter is advanced until the
  candidate name AND the candidate `EDIF.identifier` (compared case-insensitively, as the EDIF naming
  policy does) are free in the library; the identifier gets the suffix also when the definition has
  no name).

  Transcription notes
  * `instance_queue` holds instances; an instance is addressed here by (parent definition index,
    position in the parent's children list) — uniquify never adds, removes or reorders children.
  * `_is_unique`: `len(reference.references) == 1 or reference.is_leaf()`.
  * `_make_instance_unique`: `reference.clone()` is a literal copy of the `Defn` value (ports, cables,
    wires with their value-level pin references, children with the same — still shared — references);
    `Definition.clone` registers the copied children in the reference sets of their references, which
    is what `refCount` computes from the table.  The copy is renamed `name ++ "_sdn_unique_" ++ N`
    (the `EDIF.identifier` entry gets the same suffix), inserted
    at `index + 1` of the original's library and the instance is re-pointed to it
    (`Instance.reference` setter: connections are kept by port position, i.e. the pin references on
    the parent's wires are unchanged).
  * The children of the (possibly new) reference are appended to the queue.
  * The walk takes fuel; `finished` reports that the queue ran empty.

  NO Mathlib import.
-/
import Spydr.Xform.Model

namespace Spydr.Xform

def uniqSuffix (n : Nat) : String := "_sdn_unique_" ++ toString n

/-- names of the definitions of library `lib` -/
def Design.libNames (d : Design) (lib : Nat) : List String :=
  (List.range d.ndefs).filterMap (fun j => if (d.defs j).lib = lib then (d.defs j).name else none)

/-- lower-cased `EDIF.identifier` entries of the definitions of library `lib` (the EDIF naming policy
    compares identifiers of siblings case-insensitively) -/
def Design.libEids (d : Design) (lib : Nat) : List String :=
  (List.range d.ndefs).filterMap (fun j => if (d.defs j).lib = lib then (d.defs j).eid.map lowerStr else none)

/-- candidate counter value `k` is unusable: the name or the (case-folded) identifier is taken -/
def candTaken (names eids : List String) (nm eid : Option String) (k : Nat) : Bool :=
  (match nm with | some n => names.contains (n ++ uniqSuffix k) | none => false) ||
  (match eid with | some e => eids.contains (lowerStr (e ++ uniqSuffix k)) | none => false)

/-- first counter value `k ≥ ctr` (trying at most `fuel` values) whose name and identifier are free -/
def pickCtr (names eids : List String) (nm eid : Option String) : (fuel ctr : Nat) → Option Nat
  | 0, _ => none
  | fuel + 1, ctr => if candTaken names eids nm eid ctr then pickCtr names eids nm eid fuel (ctr + 1) else some ctr

/-- insert `y` right after the first occurrence of `x` -/
def insertAfter (x y : Nat) : List Nat → List Nat
  | [] => []
  | a :: l => if a = x then a :: y :: l else a :: insertAfter x y l

def setChildRef (D : Defn) (k r : Nat) : Defn :=
  { D with children := D.children.modify k (fun c => { c with ref := r }) }

/-- the renamed copy and the counter after it: name and `EDIF.identifier` (whichever are present) get
    the same suffix `_sdn_unique_k`; a definition with neither is copied as it is and draws no
    counter value (`if name is not None or identifier is not None`).  Search bound `2 * ndefs + 1`:
    a library holds at most `ndefs` names and `ndefs` identifiers, so among that many candidates one
    is free (`pickCtr_some`). -/
def cloneDefn (d : Design) (D : Defn) : Option (Defn × Nat) :=
  if D.name.isNone && D.eid.isNone then some (D, d.ctr)
  else
    match pickCtr (d.libNames D.lib) (d.libEids D.lib) D.name D.eid (2 * d.ndefs + 1) d.ctr with
    | none => none
    | some k => some ({ D with name := D.name.map (· ++ uniqSuffix k), eid := D.eid.map (· ++ uniqSuffix k) }, k + 1)

/-- `_make_instance_unique` for child `k` of definition `q`, whose reference is `x`. -/
def makeUnique (d : Design) (q k x : Nat) : Option Design :=
  match cloneDefn d (d.defs x) with
  | none => none
  | some (D', ctr') =>
    let n := d.ndefs
    some { ndefs := n + 1
           defs := fun j => if j = n then D' else if j = q then setChildRef (d.defs q) k n else d.defs j
           order := d.order.map (insertAfter x n)
           top := d.top
           extra := fun j => if j = n then 0 else d.extra j
           ctr := ctr' }

structure UState where
  d : Design
  queue : List (Nat × Nat)
  /-- false: a free name was not found within the search bound (cannot happen, see `pickCtr_some`) -/
  ok : Bool := true

def childAddrs (q : Nat) (D : Defn) : List (Nat × Nat) := (List.range D.children.length).map (fun k => (q, k))

/-- one iteration of the `while` loop for the queue head `(q, k)`; an address without a child is
    skipped (`childAddrs` produces none; the case keeps the model total) -/
def uStep (d : Design) (q k : Nat) : Option (Design × List (Nat × Nat)) :=
  match (d.defs q).children[k]? with
  | none => some (d, [])
  | some c =>
    if d.refCount c.ref == 1 || (d.defs c.ref).isLeaf then
      some (d, childAddrs c.ref (d.defs c.ref))
    else
      match makeUnique d q k c.ref with
      | none => none
      | some d' => some (d', childAddrs d.ndefs (d'.defs d.ndefs))

def uLoop : Nat → UState → UState
  | 0, s => s
  | fuel + 1, s =>
    match s.queue with
    | [] => s
    | (q, k) :: rest =>
      match uStep s.d q k with
      | none => { s with ok := false, queue := [] }
      | some (d', push) => uLoop fuel { s with d := d', queue := rest ++ push }

def uInit (d : Design) : UState := { d := d, queue := childAddrs d.top (d.defs d.top) }

structure UResult where
  design : Design
  finished : Bool
  ok : Bool

def uniquify (fuel : Nat) (d : Design) : UResult :=
  let s := uLoop fuel (uInit d)
  { design := s.d, finished := s.queue.isEmpty, ok := s.ok }

end Spydr.Xform
