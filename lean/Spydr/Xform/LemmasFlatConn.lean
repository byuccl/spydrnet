/-
  The invariant on the cables of the top definition during flatten (`FInvB`): cable identifiers,
  pin uniqueness, what kinds of pins may sit on top-level wires, and — the point of it all —
  connectivity between endpoints equals that of the original design.  It speaks of the cable list
  and the original design only: the edges outside top are those of `restOf d0 moved`, the original
  without the cables of the dissolved definitions, whatever else the walk has done to the state.
  Moving a leaf keeps it (`FInvB.keep`); dissolving a definition brings its cables to top without
  changing an edge (`lift_restOf`) and then contracts (`redoFold`, given `restOk_restOf`).
-/
import Spydr.Xform.LemmasFlatRedo
import Spydr.Xform.LemmasFlatLeaves

namespace Spydr.Xform

/-- a pin that may sit on a wire of the top definition between two iterations -/
def PinAlive (d0 : Design) (moved : List Inst) (tr : List Nat) : Pin → Prop
  | .port pi b => ∃ P ∈ (d0.defs d0.top).ports[pi]?, b < P.width
  | .inst i pi b => ∃ y c0, y < d0.ndefs ∧ (y = d0.top ∨ Dissolved d0 moved y) ∧ c0 ∈ (d0.defs y).children ∧
      c0.id = i ∧ i ∉ tr ∧ ∃ P ∈ (d0.defs c0.ref).ports[pi]?, b < P.width
  | .inner _ _ _ => False

/-- the original design without the cables of the dissolved definitions: what the definitions other
    than top contribute to the graph of a flatten state.  It depends on the state only through `moved`;
    the instances count by identifier and reference alone, and those never change. -/
def restOf (d0 : Design) (moved : List Inst) : Design :=
  { d0 with defs := fun x => if Dissolved d0 moved x then { d0.defs x with cables := [] } else d0.defs x }

theorem restOf_cables (d0 : Design) (moved : List Inst) (x : Nat) :
    ((restOf d0 moved).defs x).cables = if Dissolved d0 moved x then [] else (d0.defs x).cables := by
  simp only [restOf]; split <;> rfl

theorem restOf_children (d0 : Design) (moved : List Inst) (x : Nat) :
    ((restOf d0 moved).defs x).children = (d0.defs x).children := by
  simp only [restOf]; split <;> rfl

theorem instIn_restOf {d0 : Design} {moved : List Inst} {j : Inst} : InstIn (restOf d0 moved) j ↔ InstIn d0 j := by
  simp only [InstIn, restOf_children]; rfl

theorem mem_restOf_cables {d0 : Design} {moved : List Inst} {x : Nat} {c : Cable} :
    c ∈ ((restOf d0 moved).defs x).cables ↔ c ∈ (d0.defs x).cables ∧ ¬ Dissolved d0 moved x := by
  rw [restOf_cables]; split <;> simp [*]

theorem restOf_congr {d0 : Design} {moved moved' : List Inst} (h : ∀ x, Dissolved d0 moved' x ↔ Dissolved d0 moved x) :
    restOf d0 moved' = restOf d0 moved := by
  simp only [restOf, h]

theorem restOf_nil (d0 : Design) : restOf d0 [] = d0 := by
  have : ∀ x, ¬ Dissolved d0 [] x := fun x ⟨_, hm, _⟩ => nomatch hm
  simp only [restOf, this, if_false]

/-- the invariant of the cables `cs` of the top definition, with `tr` the shells to be removed -/
structure FInvB (d0 : Design) (cs : List Cable) (tr : List Nat) (moved : List Inst) : Prop where
  idsNodup : (cs.map (·.id)).Nodup
  idsOrig : ∀ i ∈ cs.map (·.id), ∃ y, y < d0.ndefs ∧ (y = d0.top ∨ Dissolved d0 moved y) ∧
      ∃ c0 ∈ (d0.defs y).cables, c0.id = i
  pinsOk : PinsOk (pinsAt cs)
  pins : ∀ l p, p ∈ pinsAt cs l → PinAlive d0 moved tr p
  conn : ∀ a b, UEndpoint d0 a → UEndpoint d0 b →
    (Conn (UAdj d0) a b ↔ Conn (WAdj (pinsAt cs) (RestAdj (restOf d0 moved))) a b)

theorem PinAlive.mono {d0 : Design} {moved : List Inst} {tr : List Nat} {p : Pin} (h : PinAlive d0 moved tr p)
    (extra : List Inst) : PinAlive d0 (moved ++ extra) tr p := by
  cases p with
  | port pi b => exact h
  | inner _ _ _ => exact h
  | inst i pi b =>
    obtain ⟨y, c0, h1, h2, h3⟩ := h
    exact ⟨y, c0, h1, h2.imp id (fun h => h.mono extra), h3⟩

theorem Hyp.pinOk {d0 : Design} (h : Hyp d0) {x : Nat} (hx : x < d0.ndefs) {l : Label} {p : Pin}
    (hp : p ∈ pinsAt (d0.defs x).cables l) : PinOk d0 (d0.defs x) p :=
  (h.wf.wfDef hx).2.2.2 p (mem_allPins_of_pinsAt hp)

theorem Hyp.pinsOk {d0 : Design} (h : Hyp d0) {x : Nat} (hx : x < d0.ndefs) : PinsOk (pinsAt (d0.defs x).cables) :=
  (pinsOk_iff_nodup _ (h.cable_ids_nodup hx)).mpr (h.wf.wfDef hx).2.2.1

theorem endpoint_stable {d0 : Design} (hyp : Hyp d0) {q : Nat} (hq : q < d0.ndefs) {c0 : Inst}
    (hc0 : c0 ∈ (d0.defs q).children) (hl : (d0.defs c0.ref).isLeaf = false) {a : UNode} (ha : UEndpoint d0 a) :
    StableFor c0.id a := by
  cases a with
  | W c k => exact ha.elim
  | T pi b => exact ⟨by simp, by simp⟩
  | P i pi b =>
    refine ⟨by simp, ?_⟩
    intro pi' b' e
    simp only [UNode.P.injEq] at e
    obtain ⟨j, ⟨z, hz, hj⟩, hjid, hjl⟩ := ha
    have hzq : z = q := hyp.ids_disjoint hz hq hj hc0 (hjid.trans e.1)
    subst hzq
    have := hyp.child_eq hz hj hc0 (hjid.trans e.1)
    subst this
    rw [hl] at hjl; cases hjl

/-- bringing the cables of the so far closed definition `c0.ref` to top, as `lifted`, changes no edge: the inner
    pins of that definition are the pins of its one instance `c0` -/
theorem lift_restOf {d0 : Design} (hyp : Hyp d0) {moved : List Inst} {q iid : Nat} {c0 m : Inst} {tc lifted : List Cable}
    (hq : q < d0.ndefs) (hc0 : c0 ∈ (d0.defs q).children) (hid : c0.id = iid) (hcnt : d0.refCount c0.ref = 1)
    (hxlt : c0.ref < d0.ndefs) (hxt : c0.ref ≠ d0.top) (hxnd : ¬ Dissolved d0 moved c0.ref)
    (hdis : ∀ y, Dissolved d0 (moved ++ [m]) y ↔ Dissolved d0 moved y ∨ y = c0.ref)
    (hlift : ∀ l, pinsAt lifted l = (pinsAt (d0.defs c0.ref).cables l).map (liftPin iid))
    (hdisj : ∀ c ∈ (d0.defs c0.ref).cables, c.id ∉ tc.map (·.id)) (a b : UNode) :
    WAdj (pinsAt tc) (RestAdj (restOf d0 moved)) a b ↔
      WAdj (pinsAt (tc ++ lifted)) (RestAdj (restOf d0 (moved ++ [m]))) a b := by
  -- a pin of a wire of `c0.ref`, as it shows up among the lifted cables
  have hup : ∀ {c : Cable} {k : Nat} {w : List Pin} {p : Pin}, c ∈ (d0.defs c0.ref).cables → c.wires[k]? = some w → p ∈ w →
      liftPin iid p ∈ pinsAt (tc ++ lifted) (c.id, k) := by
    intro c k w p hc hw hp
    rw [pinsAt_append, if_neg (hdisj c hc), hlift]
    apply List.mem_map_of_mem
    rw [pinsAt_of_mem (hyp.cable_ids_nodup hxlt) hc, getD_of_getElem? hw]; exact hp
  -- a cable of another definition stays where it is
  have hstay : ∀ {y : Nat} {c : Cable}, y ≠ c0.ref → c ∈ ((restOf d0 moved).defs y).cables →
      c ∈ ((restOf d0 (moved ++ [m])).defs y).cables := fun hyx hc =>
    mem_restOf_cables.mpr ⟨(mem_restOf_cables.mp hc).1, fun h => ((hdis _).mp h).elim (mem_restOf_cables.mp hc).2 hyx⟩
  constructor
  · rintro (⟨l, p, rfl, hp, rfl⟩ | h)
    · obtain ⟨c, hc, hid', _⟩ := mem_pinsAt hp
      exact Or.inl ⟨l, p, rfl, by rw [pinsAt_append, if_pos (List.mem_map.mpr ⟨c, hc, hid'⟩)]; exact hp, rfl⟩
    · cases h with
      | @outer y c k w i pi bit hy hyt hc hw hp =>
        by_cases hyx : y = c0.ref
        · subst hyx
          exact Or.inl ⟨(c.id, k), .inst i pi bit, rfl, hup (mem_restOf_cables.mp hc).1 hw hp, rfl⟩
        · exact Or.inr (RestAdj.outer hy hyt (hstay hyx hc) hw hp)
      | @inner y c k w j pi bit hy hyt hc hw hp hj hr =>
        by_cases hyx : y = c0.ref
        · subst hyx
          obtain ⟨z, hz, hjz⟩ := instIn_restOf.mp hj
          obtain ⟨rfl, rfl⟩ := ref_unique_of_count hcnt hz hq hjz hc0 hr rfl
          exact Or.inl ⟨(c.id, k), .inner iid pi bit, rfl, hup (mem_restOf_cables.mp hc).1 hw hp, by rw [hid]; rfl⟩
        · exact Or.inr (RestAdj.inner hy hyt (hstay hyx hc) hw hp (instIn_restOf.mpr (instIn_restOf.mp hj)) hr)
  · rintro (⟨l, p, rfl, hp, rfl⟩ | h)
    · rw [pinsAt_append] at hp
      split at hp
      · exact Or.inl ⟨l, p, rfl, hp, rfl⟩
      · rw [hlift] at hp
        obtain ⟨p0, hp0, rfl⟩ := List.mem_map.mp hp
        obtain ⟨c, hc, hid', w, hw, hpw⟩ := mem_pinsAt hp0
        have hc' : c ∈ ((restOf d0 moved).defs c0.ref).cables := mem_restOf_cables.mpr ⟨hc, hxnd⟩
        right
        rw [← hid']
        cases p0 with
        | port pi bit =>
          rw [show nodeOf (liftPin iid (.port pi bit)) = .P c0.id pi bit by rw [hid]; rfl]
          exact RestAdj.inner hxlt hxt hc' hw hpw (instIn_restOf.mpr ⟨q, hq, hc0⟩) rfl
        | inst i pi bit => exact RestAdj.outer hxlt hxt hc' hw hpw
        | inner i pi bit => exact (hyp.pinOk hxlt hp0).elim
    · refine Or.inr (RestAdj.mono (d := restOf d0 (moved ++ [m])) (d' := restOf d0 moved) rfl rfl (fun y hy hyt c hc => ?_)
        (fun j hj _ => ⟨j, instIn_restOf.mpr (instIn_restOf.mp hj), rfl, rfl⟩) h)
      exact mem_restOf_cables.mpr ⟨(mem_restOf_cables.mp hc).1, fun h => (mem_restOf_cables.mp hc).2 ((hdis y).mpr (Or.inl h))⟩

/-- once the definition of `c0`, a child of an open definition, is dissolved, the edges outside top touch
    neither the pins of `c0` nor a wire with a cable identifier in `ids`, none of which belongs to a closed definition -/
theorem restOk_restOf {d0 : Design} (hyp : Hyp d0) {mv : List Inst} {q : Nat} {c0 : Inst} {ids : List Nat}
    (hq : q < d0.ndefs) (hc0 : c0 ∈ (d0.defs q).children) (hqd : q = d0.top ∨ Dissolved d0 mv q)
    (hx : Dissolved d0 mv c0.ref)
    (hids : ∀ y, y < d0.ndefs → y ≠ d0.top → ¬ Dissolved d0 mv y → ∀ c ∈ (d0.defs y).cables, c.id ∉ ids) :
    RestOk c0.id (RestAdj (restOf d0 mv)) ids := by
  intro a b h
  cases h with
  | @outer y c k w i pi bit hy hyt hc hw hp =>
    obtain ⟨hcy, hnd⟩ := mem_restOf_cables.mp hc
    refine ⟨fun pi' b' e => ?_, by simp, by simp, fun c' k' e => ?_⟩
    · -- a wire with an outer pin of `c0` is a wire of its parent, which is open
      simp only [UNode.P.injEq] at e
      obtain ⟨kc, hkc, hkid, _⟩ := hyp.wire_pinOk hy hcy (List.mem_of_getElem? hw) hp
      obtain rfl : y = q := hyp.ids_disjoint hy hq hkc hc0 (hkid.trans e.1)
      exact hqd.elim hyt hnd
    · simp only [UNode.W.injEq] at e
      exact e.1 ▸ hids y hy hyt hnd c hcy
  | @inner y c k w j pi bit hy hyt hc hw hp hj hr =>
    obtain ⟨hcy, hnd⟩ := mem_restOf_cables.mp hc
    refine ⟨fun pi' b' e => ?_, by simp, by simp, fun c' k' e => ?_⟩
    · simp only [UNode.P.injEq] at e
      obtain ⟨z, hz, hjz⟩ := instIn_restOf.mp hj
      obtain rfl : z = q := hyp.ids_disjoint hz hq hjz hc0 e.1
      rw [hyp.child_eq hz hjz hc0 e.1] at hr
      exact hnd (hr ▸ hx)
    · simp only [UNode.W.injEq] at e
      exact e.1 ▸ hids y hy hyt hnd c hcy

theorem FInvB.keep {d0 : Design} {tc : List Cable} {tr : List Nat} {moved : List Inst} (inv : FInvB d0 tc tr moved)
    {m : Inst} (hleaf : (d0.defs m.ref).isLeaf = true) : FInvB d0 tc tr (moved ++ [m]) where
  idsNodup := inv.idsNodup
  idsOrig := fun i hi => by
    obtain ⟨y, h1, h2, h3⟩ := inv.idsOrig i hi
    exact ⟨y, h1, h2.imp id (fun h => h.mono _), h3⟩
  pinsOk := inv.pinsOk
  pins := fun l p hp => (inv.pins l p hp).mono _
  conn := fun a b ha hb => by
    rw [restOf_congr (moved := moved) fun y => dissolved_snoc.trans
      ⟨fun h => h.elim id (fun ⟨e, hl⟩ => by rw [← e, hleaf] at hl; cases hl), Or.inl⟩]
    exact inv.conn a b ha hb

/-- dissolving the definition of the head instance `c0` of the queue, whose record `m` has been moved to
    top: its cables are brought to top and the connections of every port pin redone -/
theorem FInvB.dissolve {d0 : Design} (hyp : Hyp d0) {s : FState} {d : Design} {q iid : Nat} {pn : String}
    {moved : List Inst} {p : List Nat} {cs : List Inst} {c0 m : Inst} {tc : List Cable}
    (invA : FInvA d0 s moved) (invB : FInvB d0 tc s.toRemove moved) (h : Head d0 d moved q iid pn p cs c0)
    (hleaf : (d0.defs c0.ref).isLeaf = false) (hcref : m.ref = c0.ref) (nm : String) (ctr : Nat) :
    FInvB d0 ((portBits (d0.defs c0.ref).ports).foldl (redoPin iid) (tc ++ (liftCables iid nm ctr (d0.defs c0.ref).cables).1))
      (s.toRemove ++ [iid]) (moved ++ [m]) := by
  have hqlt := reach_lt hyp.wf h.path.reach
  have hxlt := h.ref_lt hyp
  obtain ⟨hp, _, hc0, hid, hqd, hnm, hfind, hxtop, hxq, hxnd⟩ := h
  generalize hliftdef : (liftCables iid nm ctr (d0.defs c0.ref).cables).1 = lifted
  have hlids : lifted.map (·.id) = (d0.defs c0.ref).cables.map (·.id) := by
    rw [← hliftdef]; exact liftCables_ids _ _ _ _
  have hlpins : ∀ l, pinsAt lifted l = (pinsAt (d0.defs c0.ref).cables l).map (liftPin iid) := by
    intro l; rw [← hliftdef]; exact pinsAt_liftCables _ _ _ _ _
  have hxcnd : ((d0.defs c0.ref).cables.map (·.id)).Nodup := hyp.cable_ids_nodup hxlt
  have hxcok := hyp.pinsOk hxlt
  have hxnoinner : ∀ l p, p ∈ pinsAt (d0.defs c0.ref).cables l → ∀ i pi b, p ≠ .inner i pi b := by
    intro l p hp i pi b e
    subst e
    exact hyp.pinOk hxlt hp
  -- what is open (top or dissolved) is not `c0.ref`
  have hclosed : ∀ {y}, y = d0.top ∨ Dissolved d0 moved y → y ≠ c0.ref := fun h e => (e ▸ h).elim hxtop hxnd
  have hdis' : Dissolved d0 (moved ++ [m]) c0.ref := dissolved_snoc.mpr (Or.inr ⟨hcref, hleaf⟩)
  -- cables of `c0.ref` are not yet among the top cables
  have hdisj : ∀ c ∈ (d0.defs c0.ref).cables, c.id ∉ tc.map (·.id) := by
    intro c hc hmem
    obtain ⟨y, hy, hyd, c2, hc2, hid2⟩ := invB.idsOrig _ hmem
    exact hclosed hyd (hyp.cable_ids_disjoint hy hxlt hc2 hc hid2)
  have hidsL : ((tc ++ lifted).map (·.id)).Nodup := by
    rw [List.map_append, hlids]
    refine List.nodup_append.mpr ⟨invB.idsNodup, hxcnd, ?_⟩
    rintro a ha _ hb rfl
    obtain ⟨c, hc, hcid2⟩ := List.mem_map.mp hb
    exact hdisj c hc (hcid2 ▸ ha)
  -- pins of a lifted wire
  have hliftedAlive : ∀ l p, p ∈ pinsAt lifted l →
      (∃ pi b, p = .inner iid pi b ∧ (pi, b) ∈ portBits (d0.defs c0.ref).ports) ∨
      (∃ pi b, ∃ kc ∈ (d0.defs c0.ref).children, p = .inst kc.id pi b ∧ ∃ P ∈ (d0.defs kc.ref).ports[pi]?, b < P.width) := by
    intro l p hp
    rw [hlpins] at hp
    obtain ⟨p0, hp0, rfl⟩ := List.mem_map.mp hp
    have hok0 := hyp.pinOk hxlt hp0
    cases p0 with
    | port pi b =>
      obtain ⟨P, hP, hb⟩ := hok0
      exact Or.inl ⟨pi, b, rfl, mem_portBits hP hb⟩
    | inst k pi b =>
      obtain ⟨kc, hkc, rfl, P, hP, hb⟩ := hok0
      exact Or.inr ⟨pi, b, kc, hkc, rfl, P, hP, hb⟩
    | inner i pi b => exact hok0.elim
  -- no pin sits on an old top wire and on a lifted wire: children of `c0.ref` are not alive on top wires yet
  have hnotboth : ∀ {p l1 l2}, p ∈ pinsAt tc l1 → p ∈ pinsAt lifted l2 → False := by
    intro p l1 l2 h1 h2
    have halive := invB.pins l1 p h1
    rcases hliftedAlive l2 p h2 with ⟨pi, b, rfl, _⟩ | ⟨pi, b, kc, hkc, rfl, _⟩
    · exact halive
    · obtain ⟨y, c1, hy, hyd, hc1, hc1id, _⟩ := halive
      exact hclosed hyd (hyp.ids_disjoint hy hxlt hc1 hkc hc1id)
  have hokL : PinsOk (pinsAt (tc ++ lifted)) := by
    refine ⟨?_, ?_⟩
    · intro l
      rw [pinsAt_append]
      split
      · exact invB.pinsOk.nodup l
      · rw [hlpins]
        refine nodup_map_of_inj_on (hxcok.nodup l) ?_
        intro a ha b hb hab
        exact liftPin_inj iid (hxnoinner l a ha) (hxnoinner l b hb) hab
    · intro p l1 l2 h1 h2
      rw [pinsAt_append] at h1 h2
      split at h1 <;> split at h2
      · exact invB.pinsOk.uniq p l1 l2 h1 h2
      · exact (hnotboth h1 h2).elim
      · exact (hnotboth h2 h1).elim
      · rw [hlpins] at h1 h2
        obtain ⟨p1, hp1, e1⟩ := List.mem_map.mp h1
        obtain ⟨p2, hp2, e2⟩ := List.mem_map.mp h2
        have : p1 = p2 := liftPin_inj iid (hxnoinner l1 p1 hp1) (hxnoinner l2 p2 hp2) (e1.trans e2.symm)
        subst this
        exact hxcok.uniq p1 l1 l2 hp1 hp2
  -- a cable now in top comes from a definition that is open after the step
  have horig : ∀ i ∈ (tc ++ lifted).map (·.id), ∃ y, y < d0.ndefs ∧ (y = d0.top ∨ Dissolved d0 (moved ++ [m]) y) ∧
      ∃ c0 ∈ (d0.defs y).cables, c0.id = i := by
    intro i hi
    rw [List.map_append, hlids] at hi
    rcases List.mem_append.mp hi with h | h
    · obtain ⟨y, h1, h2, h3⟩ := invB.idsOrig i h
      exact ⟨y, h1, h2.imp id (fun h => h.mono _), h3⟩
    · obtain ⟨c1, hc1, hid1⟩ := List.mem_map.mp h
      exact ⟨c0.ref, hxlt, Or.inr hdis', c1, hc1, hid1⟩
  -- the rest of the graph touches neither the wires now in top nor the pins of the dissolved instance
  have hRest : RestOk iid (RestAdj (restOf d0 (moved ++ [m]))) ((tc ++ lifted).map (·.id)) := by
    refine hid ▸ restOk_restOf hyp hqlt hc0 (hqd.imp id (fun h => h.mono _)) hdis' fun y hy hyt hndy c hc0y hmem => ?_
    obtain ⟨y', hy', hyd', c2, hc2, hid2⟩ := horig _ hmem
    obtain rfl : y' = y := hyp.cable_ids_disjoint hy' hy hc2 hc0y hid2
    exact hyd'.elim hyt hndy
  obtain ⟨eids, okF, subF, connF⟩ := redoFold (portBits (d0.defs c0.ref).ports) _ hidsL hokL hRest
  -- the only instance of `c0.ref` is the head instance
  have hcnt : d0.refCount c0.ref = 1 := (hyp.uniq q c0 hp.reach hc0).resolve_left (by rw [hleaf]; simp)
  -- bringing the cables of `c0.ref` to top changes no edge
  have hlift := lift_restOf hyp (m := m) hqlt hc0 hid hcnt hxlt hxtop hxnd
    (fun y => dissolved_snoc.trans (or_congr_right ⟨fun ⟨e, _⟩ => (hcref.symm.trans e).symm, fun e => ⟨e ▸ hcref, e ▸ hleaf⟩⟩))
    hlpins hdisj
  refine { idsNodup := eids ▸ hidsL, idsOrig := eids ▸ horig, pinsOk := okF, pins := ?_, conn := ?_ }
  · intro l p hp
    obtain ⟨⟨l', hp'⟩, hgone⟩ := subF l p hp
    rw [pinsAt_append] at hp'
    split at hp'
    · have halive := invB.pins l' p hp'
      cases p with
      | port pi b => exact halive
      | inner i pi b => exact halive.elim
      | inst i pi b =>
        obtain ⟨y, c1, hy, hyd, hc1, hc1id, hitr, P, hP, hb⟩ := halive
        refine ⟨y, c1, hy, hyd.imp id (fun h => h.mono _), hc1, hc1id, ?_, P, hP, hb⟩
        intro hmem
        rcases List.mem_append.mp hmem with h | h
        · exact hitr h
        · simp only [List.mem_singleton] at h
          -- the pin belongs to the dissolved instance: the fold removed it
          obtain rfl : y = q := hyp.ids_disjoint hy hqlt hc1 hc0 (hc1id.trans (h.trans hid.symm))
          obtain rfl : c1 = c0 := hyp.child_eq hy hc1 hc0 (hc1id.trans (h.trans hid.symm))
          exact (hgone (pi, b) (mem_portBits hP hb)).2 (by rw [h])
    · rcases hliftedAlive l' p hp' with ⟨pi, b, rfl, hpb⟩ | ⟨pi, b, kc, hkc, rfl, P, hP, hb⟩
      · exact absurd rfl (hgone (pi, b) hpb).1
      · refine ⟨c0.ref, kc, hxlt, Or.inr hdis', hkc, rfl, ?_, P, hP, hb⟩
        intro hmem
        rcases List.mem_append.mp hmem with h | h
        · rw [invA.toRemove] at h
          obtain ⟨m', hm', hmid⟩ := List.mem_map.mp h
          exact invA.untouched hyp hxlt hxtop hxnd kc hkc (List.mem_map.mpr ⟨m', (List.mem_filter.mp hm').1, hmid⟩)
        · simp only [List.mem_singleton] at h
          exact hxq (hyp.ids_disjoint hxlt hqlt hkc hc0 (h.trans hid.symm))
  · intro a b ha hb
    have hsa : StableFor iid a := hid ▸ endpoint_stable hyp hqlt hc0 hleaf ha
    have hsb : StableFor iid b := hid ▸ endpoint_stable hyp hqlt hc0 hleaf hb
    exact (invB.conn a b ha hb).trans ((conn_congr hlift a b).trans (connF a b hsa hsb))

/-- one iteration of the loop: the cables of the top definition are unchanged (leaf) or the old ones
    with those of the dissolved definition appended and the connections redone -/
theorem FInvB.step {d0 : Design} (hyp : Hyp d0) (hnamed : Named d0) {d : Design} {q iid : Nat} {pn : String}
    {rest : List (Nat × Nat × String)} {tr : List Nat} {moved : List Inst} {p : List Nat} {cs : List Inst} {c0 : Inst}
    (invA : FInvA d0 ⟨d, (q, iid, pn) :: rest, tr⟩ moved) (invB : FInvB d0 (d.defs d0.top).cables tr moved)
    (h : Head d0 d moved q iid pn p cs c0) :
    FInvB d0 ((fStep d q iid pn).1.defs d0.top).cables (tr ++ (fStep d q iid pn).2.2) (moved ++ [(liftInst pn d.ctr c0).1]) := by
  have hfs := (invA.step hyp hnamed h).1
  have hxlt := h.ref_lt hyp
  have hcref := (liftInst_fields pn d.ctr c0).2.1
  generalize liftInst pn d.ctr c0 = li at hcref hfs ⊢
  rw [hfs]
  cases hleaf : (d0.defs c0.ref).isLeaf with
  | true =>
    simp only [if_true, List.append_nil, moveInst_defs]
    exact invB.keep (hcref ▸ hleaf)
  | false =>
    simp only [Bool.false_eq_true, if_false, dissolve_defs, moveInst_defs, show (moveInst d q li.1 li.2).top = d0.top from invA.top,
      if_true, if_neg h.ref_ne_top.symm, show (d.defs c0.ref).ports = _ from (invA.attrs _ hxlt).1, show (d.defs c0.ref).cables = _ from invA.cablesKeep _ hxlt h.ref_ne_top h.ref_keep]
    exact FInvB.dissolve hyp invA invB h hleaf hcref _ _

end Spydr.Xform
