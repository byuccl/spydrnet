/-
  A copying step of the uniquify walk does not change the elaboration: the simulation relates every
  old definition to itself and the copied definition also to its copy.
-/
import Spydr.Xform.LemmasUniqStep
import Spydr.Xform.LemmasElab

namespace Spydr.Xform

theorem childById_setChildRef {D : Defn} {k : Nat} {ck : Inst} (hnd : (D.children.map (·.id)).Nodup)
    (hk : D.children[k]? = some ck) (r iid : Nat) :
    childById (setChildRef D k r) iid =
      (childById D iid).map (fun c => if c.id = ck.id then { c with ref := r } else c) :=
  find?_modify_nodup (fun c : Inst => c.id) (fun c => { c with ref := r }) (fun _ => rfl) iid D.children k ck hnd hk

theorem CloneStep.sameElab {d d' : Design} {q k : Nat} {c : Inst} (s : CloneStep d d' q k c)
    (hleaf : (d.defs c.ref).isLeaf = false) : SameElab d d' := by
  have hnew := makeUnique_new s.eq
  have hold := fun j (hj : j < d.ndefs) => makeUnique_old s.eq (Nat.ne_of_lt hj)
  let B : Nat → Nat → Prop := fun a b => (a = b ∧ a < d.ndefs) ∨ (a = c.ref ∧ b = d.ndefs)
  -- an unchanged child
  have hsame : ∀ {j}, j < d.ndefs → ∀ {iid c0}, childById (d.defs j) iid = some c0 →
      c0.name = c0.name ∧ c0.eid = c0.eid ∧ c0.data = c0.data ∧ B c0.ref c0.ref :=
    fun hj _ _ h0 => ⟨rfl, rfl, rfl, Or.inl ⟨rfl, s.wf.ref_lt hj (childById_id h0).2⟩⟩
  refine (Sim.of_lookup (B := B) ?_ ?_ ?_).sameElab (by rw [makeUnique_top s.eq]; exact Or.inl ⟨rfl, s.wf.1⟩)
  · rintro x y (⟨rfl, hx⟩ | ⟨rfl, rfl⟩)
    · exact (hold x hx).cables.symm
    · exact hnew.cables.symm
  · rintro x y (⟨rfl, hx⟩ | ⟨rfl, rfl⟩)
    · exact ⟨(hold x hx).isLeaf.symm, fun _ => rfl⟩
    · refine ⟨?_, fun hl => by rw [hleaf] at hl; cases hl⟩
      simp only [Defn.isLeaf, hnew.cables, hnew.children]
  · rintro x y (⟨rfl, hx⟩ | ⟨rfl, rfl⟩) iid
    · by_cases hxq : x = q
      · subst hxq
        refine ⟨_, by rw [makeUnique_defs_q s.eq s.q_ne]; exact childById_setChildRef (s.wf.ids_nodup hx) s.hc _ iid, ?_⟩
        intro c0 h0
        split
        · rename_i hid
          obtain rfl := inj_of_nodup_map (s.wf.ids_nodup hx) (childById_id h0).2 s.mem hid
          exact ⟨rfl, rfl, rfl, Or.inr ⟨rfl, rfl⟩⟩
        · exact hsame hx h0
      · exact ⟨id, by rw [makeUnique_defs_other s.eq (Nat.ne_of_lt hx) hxq]; simp, fun _ h0 => hsame hx h0⟩
    · exact ⟨id, by simp [childById, hnew.children], fun _ h0 => hsame s.ref_lt h0⟩

end Spydr.Xform
