/-
  Fuel sufficiency for the uniquify walk: as many iterations as the elaborated design has instance
  occurrences are enough.  `wt d n x` is the size (number of definition occurrences) of
  the unfolding of `x` cut at depth `n`; once `n` bounds the depth of the hierarchy the cut does not
  matter.  Every iteration removes exactly one unit of the total weight of the queue.
-/
import Spydr.Xform.LemmasUniqLoop

namespace Spydr.Xform

def wt (d : Design) : Nat → Nat → Nat
  | 0, _ => 1
  | n + 1, x => 1 + ((d.defs x).children.map (fun c => wt d n c.ref)).sum

theorem wt_pos (d : Design) (n x : Nat) : 1 ≤ wt d n x := by
  cases n <;> simp [wt]

/-- the hierarchy is acyclic and at most `N` deep -/
def Bounded (d : Design) (N : Nat) : Prop := ∃ rank, RankOk d rank ∧ ∀ x, x < d.ndefs → rank x ≤ N

theorem wt_succ_of_rank {d : Design} {rank : Nat → Nat} (hwf : WF d) (hr : RankOk d rank) :
    ∀ (n x : Nat), x < d.ndefs → rank x ≤ n → wt d (n + 1) x = wt d n x
  | 0, x, hx, hle => by
    have hno : (d.defs x).children = [] := by
      cases hch : (d.defs x).children with
      | nil => rfl
      | cons c l => have := hr x hx c (by rw [hch]; exact List.mem_cons_self); omega
    simp [wt, hno]
  | n + 1, x, hx, hle => by
    rw [wt, wt]
    congr 1
    refine congrArg List.sum <| List.map_congr_left fun c hc => wt_succ_of_rank hwf hr n c.ref (hwf.ref_lt hx hc) ?_
    have := hr x hx c hc
    omega

theorem wt_unfold {d : Design} {N : Nat} (hwf : WF d) (hb : Bounded d N) {x : Nat} (hx : x < d.ndefs) :
    wt d N x = 1 + ((d.defs x).children.map (fun c => wt d N c.ref)).sum := by
  obtain ⟨rank, hr, hN⟩ := hb
  rw [← wt_succ_of_rank hwf hr N x hx (hN x hx), wt]

def entryWt (d : Design) (N : Nat) (a : Nat × Nat) : Nat :=
  (((d.defs a.1).children[a.2]?).map (fun c => wt d N c.ref)).getD 1

def queueWt (d : Design) (N : Nat) (queue : List (Nat × Nat)) : Nat := (queue.map (entryWt d N)).sum

theorem entryWt_pos (d : Design) (N : Nat) (a : Nat × Nat) : 1 ≤ entryWt d N a := by
  simp only [entryWt]
  cases (d.defs a.1).children[a.2]? with
  | none => simp
  | some c => exact wt_pos _ _ _

theorem queueWt_zero {d : Design} {N : Nat} {queue : List (Nat × Nat)} (h : queueWt d N queue = 0) : queue = [] := by
  cases queue with
  | nil => rfl
  | cons a l =>
    have := entryWt_pos d N a
    simp only [queueWt, List.map_cons, List.sum_cons] at h
    omega

theorem queueWt_append (d : Design) (N : Nat) (l1 l2 : List (Nat × Nat)) :
    queueWt d N (l1 ++ l2) = queueWt d N l1 + queueWt d N l2 := by
  simp [queueWt, List.sum_append]

theorem queueWt_cons (d : Design) (N : Nat) (a : Nat × Nat) (l : List (Nat × Nat)) :
    queueWt d N (a :: l) = entryWt d N a + queueWt d N l := rfl

theorem queueWt_childAddrs {d : Design} {N : Nat} (hwf : WF d) (hb : Bounded d N) {x : Nat} (hx : x < d.ndefs) :
    queueWt d N (childAddrs x (d.defs x)) + 1 = wt d N x := by
  have : (childAddrs x (d.defs x)).map (entryWt d N) = (d.defs x).children.map (fun c => wt d N c.ref) := by
    apply List.ext_getElem?
    intro i
    simp only [childAddrs, List.map_map, List.getElem?_map]
    by_cases hi : i < (d.defs x).children.length <;> simp [hi, entryWt]
  rw [wt_unfold hwf hb hx, queueWt, this]
  omega

namespace CloneStep
variable {d d' : Design} {q k : Nat} {c : Inst} (s : CloneStep d d' q k c)
include s

theorem bounded {N : Nat} (hb : Bounded d N) : Bounded d' N := by
  obtain ⟨rank, hr, hN⟩ := hb
  refine ⟨_, s.rankOk hr, fun x hx => ?_⟩
  rw [makeUnique_ndefs s.eq] at hx
  show (if x = d.ndefs then _ else _) ≤ N
  split
  · exact hN _ s.ref_lt
  · exact hN x (by omega)

/-- position by position, the children of an old definition weigh what they weighed, if that holds one level down -/
theorem childWt_eq {m : Nat} (h1 : ∀ y, y < d.ndefs → wt d' m y = wt d m y) (h2 : wt d' m d.ndefs = wt d m c.ref)
    {j : Nat} (hj : j < d.ndefs) (i : Nat) :
    ((d'.defs j).children[i]?).map (fun c => wt d' m c.ref) = ((d.defs j).children[i]?).map (fun c => wt d m c.ref) := by
  rw [s.getElem?_children hj]
  split
  · obtain ⟨rfl, rfl⟩ := ‹j = q ∧ i = k›
    rw [s.hc]
    exact congrArg some h2
  · cases hci : (d.defs j).children[i]? with
    | none => rfl
    | some c0 => exact congrArg some (h1 _ (s.wf.ref_lt hj (List.mem_of_getElem? hci)))

theorem wt_eq (m : Nat) : (∀ y, y < d.ndefs → wt d' m y = wt d m y) ∧ wt d' m d.ndefs = wt d m c.ref := by
  induction m with
  | zero => exact ⟨fun _ _ => rfl, rfl⟩
  | succ m ih =>
    obtain ⟨ih1, ih2⟩ := ih
    refine ⟨fun y hy => ?_, ?_⟩
    · rw [wt, wt]
      congr 2
      apply List.ext_getElem?
      intro i
      simp only [List.getElem?_map]
      exact s.childWt_eq ih1 ih2 hy i
    · rw [wt, wt, (makeUnique_new s.eq).children]
      exact congrArg (1 + List.sum ·) (List.map_congr_left fun c0 hc0 => ih1 _ (s.wf.ref_lt s.ref_lt hc0))

theorem entryWt_eq {N : Nat} {a : Nat × Nat} (ha : a.1 < d.ndefs) : entryWt d' N a = entryWt d N a :=
  congrArg (·.getD 1) (s.childWt_eq (s.wt_eq N).1 (s.wt_eq N).2 ha a.2)

end CloneStep

theorem queueWt_step {d d' : Design} {q k : Nat} {rest push : List (Nat × Nat)} {N : Nat}
    (inv : WFQ d ((q, k) :: rest)) (hb : Bounded d N) (h : uStep d q k = some (d', push)) :
    Bounded d' N ∧ queueWt d' N (rest ++ push) + 1 = queueWt d N ((q, k) :: rest) := by
  have hq : q < d.ndefs := inv.2 (q, k) List.mem_cons_self
  rw [queueWt_append, queueWt_cons, entryWt]
  rcases uStep_cases h with ⟨rfl, hnone, rfl⟩ | ⟨c, hc, ⟨rfl, _, rfl⟩ | ⟨_, hl, hm, rfl⟩⟩
  · refine ⟨hb, ?_⟩
    simp only [hnone, queueWt, List.map_nil, List.sum_nil, Option.map_none, Option.getD_none]
    omega
  · refine ⟨hb, ?_⟩
    have := queueWt_childAddrs inv.1 hb (inv.1.ref_lt hq (List.mem_of_getElem? hc))
    simp only [hc, Option.map_some, Option.getD_some]
    omega
  · have s : CloneStep d d' q k c := ⟨inv.1, hq, hc, hm⟩
    refine ⟨s.bounded hb, ?_⟩
    have hrest : queueWt d' N rest = queueWt d N rest :=
      congrArg List.sum <| List.map_congr_left fun a ha => s.entryWt_eq (inv.2 a (List.mem_cons_of_mem _ ha))
    have := queueWt_childAddrs s.wf' (s.bounded hb) (x := d.ndefs) (by rw [makeUnique_ndefs hm]; omega)
    rw [(s.wt_eq N).2] at this
    simp only [hc, Option.map_some, Option.getD_some, hrest]
    omega

theorem uLoop_finishes {N : Nat} (fuel : Nat) : ∀ (s : UState), WFQ s.d s.queue → Bounded s.d N →
    queueWt s.d N s.queue ≤ fuel → (uLoop fuel s).queue = [] := by
  induction fuel with
  | zero => intro s _ _ h; exact queueWt_zero (Nat.le_zero.mp h)
  | succ f ih =>
    intro s inv hb h
    unfold uLoop
    split
    · rename_i hq; exact hq
    · rename_i q k rest hqueue
      split
      · rfl
      · rename_i d' push hstep
        rw [hqueue] at inv h
        obtain ⟨hb', hw⟩ := queueWt_step inv hb hstep
        exact ih _ (inv.step hstep) hb' (by simp only; omega)

/-- the walk terminates: with fuel at least the number of instance occurrences below the top
    instance (`wt d N top - 1`, hypothesis `hf`) the queue runs empty -/
theorem uniquify_finished {d : Design} (hwf : WF d) {N : Nat} (hb : Bounded d N) {fuel : Nat}
    (hf : wt d N d.top ≤ fuel + 1) : (uniquify fuel d).finished = true := by
  have hw := queueWt_childAddrs hwf hb hwf.1
  have := uLoop_finishes fuel (uInit d) (WFQ.init hwf) hb (by
    show queueWt d N (childAddrs d.top (d.defs d.top)) ≤ fuel
    omega)
  simp [uniquify, this]

/-- the sum of all ranks bounds the depth -/
theorem bounded_of_acyclic {d : Design} (hac : Acyclic d) : ∃ N, Bounded d N := by
  obtain ⟨rank, hr⟩ := hac
  exact ⟨_, rank, hr, fun x hx => sum_range_ge rank d.ndefs x hx⟩

end Spydr.Xform
