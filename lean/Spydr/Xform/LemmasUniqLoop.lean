/-
  The loop of the uniquify walk: case analysis of one iteration, induction over the loop (the search
  for a free name never fails, so no iteration aborts), well-formedness along the walk, and the
  invariant `UInv` from which uniqueness of the result follows.

  `Done` is the set of definitions the walk has settled (the top definition and the final reference
  of every processed instance): a settled non-leaf definition (other than top) has exactly one
  instance and that instance sits in a settled definition; consequently a settled definition is
  never copied again, and copying an unsettled one does not touch the reference sets of settled ones.
-/
import Spydr.Xform.LemmasUniqStep
import Spydr.Xform.LemmasUniqOk

namespace Spydr.Xform

theorem mem_childAddrs {a : Nat × Nat} {q : Nat} {D : Defn} :
    a ∈ childAddrs q D ↔ a.1 = q ∧ a.2 < D.children.length := by
  simp only [childAddrs, List.mem_map, List.mem_range]
  constructor
  · rintro ⟨k, hk, rfl⟩; exact ⟨rfl, hk⟩
  · rintro ⟨h1, h2⟩; exact ⟨a.2, h2, by cases a; simp_all⟩

/-- case analysis of one iteration: nothing at the address; an instance that is unique already;
    an instance whose reference is copied -/
theorem uStep_cases {d d' : Design} {q k : Nat} {push : List (Nat × Nat)} (h : uStep d q k = some (d', push)) :
    (d' = d ∧ (d.defs q).children[k]? = none ∧ push = []) ∨
    (∃ c, (d.defs q).children[k]? = some c ∧
      ((d' = d ∧ (d.refCount c.ref = 1 ∨ (d.defs c.ref).isLeaf = true) ∧ push = childAddrs c.ref (d.defs c.ref)) ∨
       (d.refCount c.ref ≠ 1 ∧ (d.defs c.ref).isLeaf = false ∧ makeUnique d q k c.ref = some d' ∧
         push = childAddrs d.ndefs (d'.defs d.ndefs)))) := by
  unfold uStep at h
  split at h
  · rename_i hnone; cases h; exact Or.inl ⟨rfl, hnone, rfl⟩
  · rename_i c hc
    refine Or.inr ⟨c, hc, ?_⟩
    split at h
    · rename_i hu; cases h; exact Or.inl ⟨rfl, by simpa using hu, rfl⟩
    · rename_i hu
      split at h
      · cases h
      · rename_i d1 hm; cases h
        simp only [Bool.or_eq_true, beq_iff_eq, not_or] at hu
        exact Or.inr ⟨hu.1, by simpa using hu.2, hm, rfl⟩

/-- what every iteration preserves holds after the loop; the `ok` flag is never cleared -/
theorem uLoop_induct (P : Design → List (Nat × Nat) → Prop)
    (hstep : ∀ d q k rest d' push, P d ((q, k) :: rest) → uStep d q k = some (d', push) → P d' (rest ++ push))
    (fuel : Nat) : ∀ s : UState, P s.d s.queue →
      P (uLoop fuel s).d (uLoop fuel s).queue ∧ (uLoop fuel s).ok = s.ok := by
  induction fuel with
  | zero => intro s h; exact ⟨h, rfl⟩
  | succ f ih =>
    intro s h
    unfold uLoop
    split
    · exact ⟨h, rfl⟩
    · rename_i q k rest hqueue
      rw [hqueue] at h
      cases hs : uStep s.d q k with
      | none => have := uStep_isSome s.d q k; rw [hs] at this; cases this
      | some r => exact ih _ (hstep _ _ _ _ _ _ h hs)

def WFQ (d : Design) (queue : List (Nat × Nat)) : Prop := WF d ∧ ∀ a ∈ queue, a.1 < d.ndefs

theorem WFQ.init {d : Design} (hwf : WF d) : WFQ d (uInit d).queue :=
  ⟨hwf, fun a ha => by rw [(mem_childAddrs.mp ha).1]; exact hwf.1⟩

theorem WFQ.step {d d' : Design} {q k : Nat} {rest push : List (Nat × Nat)}
    (inv : WFQ d ((q, k) :: rest)) (h : uStep d q k = some (d', push)) : WFQ d' (rest ++ push) := by
  obtain ⟨hwf, hqs⟩ := inv
  have hq : q < d.ndefs := hqs (q, k) List.mem_cons_self
  have hrest : ∀ a ∈ rest, a.1 < d.ndefs := fun a ha => hqs a (List.mem_cons_of_mem _ ha)
  rcases uStep_cases h with ⟨rfl, _, rfl⟩ | ⟨c, hc, ⟨rfl, _, rfl⟩ | ⟨_, _, hm, rfl⟩⟩
  · exact ⟨hwf, by simpa using hrest⟩
  · refine ⟨hwf, fun a ha => ?_⟩
    rcases List.mem_append.mp ha with ha | ha
    · exact hrest a ha
    · rw [(mem_childAddrs.mp ha).1]; exact hwf.ref_lt hq (List.mem_of_getElem? hc)
  · have s : CloneStep d d' q k c := ⟨hwf, hq, hc, hm⟩
    refine ⟨s.wf', fun a ha => ?_⟩
    rw [makeUnique_ndefs hm]
    rcases List.mem_append.mp ha with ha | ha
    · exact Nat.lt_succ_of_lt (hrest a ha)
    · rw [(mem_childAddrs.mp ha).1]; exact Nat.lt_succ_self _

theorem uniquify_induct {P : Design → Prop} {d : Design} (hwf : WF d) (h0 : P d)
    (hstep : ∀ {d1 d2 : Design} {q k : Nat} {c : Inst}, CloneStep d1 d2 q k c → (d1.defs c.ref).isLeaf = false → P d1 → P d2)
    (fuel : Nat) : WF (uniquify fuel d).design ∧ P (uniquify fuel d).design := by
  have := (uLoop_induct (fun d' queue => WFQ d' queue ∧ P d') (fun d1 q k rest d2 push ⟨inv, hP⟩ h => by
    refine ⟨inv.step h, ?_⟩
    rcases uStep_cases h with ⟨rfl, _, _⟩ | ⟨c, hc, ⟨rfl, _, _⟩ | ⟨_, hl, hm, _⟩⟩
    · exact hP
    · exact hP
    · exact hstep ⟨inv.1, inv.2 (q, k) List.mem_cons_self, hc, hm⟩ hl hP) fuel (uInit d) ⟨WFQ.init hwf, h0⟩).1
  exact ⟨this.1.1, this.2⟩

theorem uLoop_fix {d : Design} (hU : Unique d) (fuel : Nat) (s : UState) (hd : s.d = d)
    (hq : ∀ a ∈ s.queue, Reach d a.1) : (uLoop fuel s).d = d ∧ (uLoop fuel s).ok = s.ok := by
  have := uLoop_induct (fun d' queue => d' = d ∧ ∀ a ∈ queue, Reach d a.1) (by
    intro d1 q k rest d' push ⟨hd1, hq⟩ h
    subst d1
    have hreach : Reach d q := hq (q, k) List.mem_cons_self
    have hrest : ∀ a ∈ rest, Reach d a.1 := fun a ha => hq a (List.mem_cons_of_mem _ ha)
    rcases uStep_cases h with ⟨rfl, _, rfl⟩ | ⟨c, hc, ⟨rfl, _, rfl⟩ | ⟨hcnt, hl, _, _⟩⟩
    · exact ⟨rfl, by simpa using hrest⟩
    · refine ⟨rfl, fun a ha => ?_⟩
      rcases List.mem_append.mp ha with ha | ha
      · exact hrest a ha
      · rw [(mem_childAddrs.mp ha).1]; exact Reach.step hreach (List.mem_of_getElem? hc)
    · rcases hU q c hreach (List.mem_of_getElem? hc) with h | h
      · rw [hl] at h; cases h
      · exact absurd h hcnt) fuel s ⟨hd, hq⟩
  exact ⟨this.1.1, this.2⟩

structure UInv (d : Design) (queue : List (Nat × Nat)) (Done : Nat → Prop) (rank : Nat → Nat) : Prop where
  wf : WF d
  acyc : ∀ q, q < d.ndefs → ∀ c ∈ (d.defs q).children, rank c.ref < rank q
  doneLt : ∀ x, Done x → x < d.ndefs
  top : Done d.top
  rankTop : ∀ x, Done x → x ≠ d.top → rank x < rank d.top
  queueOk : ∀ a ∈ queue, Done a.1
  closed : ∀ x, Done x → ∀ k c, (d.defs x).children[k]? = some c →
      (x, k) ∈ queue ∨ (Done c.ref ∧ ((d.defs c.ref).isLeaf = true ∨ d.refCount c.ref = 1))
  uniq : ∀ y, Done y → y ≠ d.top → (d.defs y).isLeaf = false →
      d.refCount y = 1 ∧ ∃ q, Done q ∧ 1 ≤ (d.defs q).refsTo y

theorem UInv.init {d : Design} (hwf : WF d) {rank : Nat → Nat} (hr : RankOk d rank) :
    UInv d (childAddrs d.top (d.defs d.top)) (· = d.top) rank where
  wf := hwf
  acyc := hr
  doneLt := by intro x hx; subst hx; exact hwf.1
  top := rfl
  rankTop := by intro x hx hne; exact absurd hx hne
  queueOk := by intro a ha; exact (mem_childAddrs.mp ha).1
  closed := by
    intro x hx k c hc
    subst hx
    exact Or.inl (mem_childAddrs.mpr ⟨rfl, (List.getElem?_eq_some_iff.mp hc).1⟩)
  uniq := by intro y hy hne; exact absurd hy hne

theorem UInv.reach_done {d : Design} {Done : Nat → Prop} {rank : Nat → Nat} (inv : UInv d [] Done rank) :
    ∀ q, Reach d q → Done q := by
  intro q hq
  induction hq with
  | top => exact inv.top
  | step _ hc ih =>
    obtain ⟨k, hk⟩ := List.getElem?_of_mem hc
    rcases inv.closed _ ih k _ hk with h | h
    · simp at h
    · exact h.1

theorem UInv.unique {d : Design} {Done : Nat → Prop} {rank : Nat → Nat} (inv : UInv d [] Done rank) :
    Unique d := by
  intro q c hq hc
  obtain ⟨k, hk⟩ := List.getElem?_of_mem hc
  rcases inv.closed _ (inv.reach_done q hq) k _ hk with h | h
  · simp at h
  · exact h.2

section step
variable {d d' : Design} {q k : Nat} {rest : List (Nat × Nat)} {Done : Nat → Prop} {rank : Nat → Nat}

theorem UInv.rank_child_lt_top {queue : List (Nat × Nat)} (inv : UInv d queue Done rank) {y : Nat} (hy : Done y)
    {c : Inst} (hc : c ∈ (d.defs y).children) : rank c.ref < rank d.top := by
  have h1 := inv.acyc y (inv.doneLt y hy) c hc
  by_cases h : y = d.top
  · rwa [h] at h1
  · exact Nat.lt_trans h1 (inv.rankTop y hy h)

theorem UInv.child_ne_top {queue : List (Nat × Nat)} (inv : UInv d queue Done rank) {y : Nat} (hy : Done y)
    {c : Inst} (hc : c ∈ (d.defs y).children) : c.ref ≠ d.top :=
  fun e => Nat.lt_irrefl _ (e ▸ inv.rank_child_lt_top hy hc)

/-- entries of the old queue other than its head stay queued; the head's instance is now settled -/
theorem UInv.closed_of_rest (inv : UInv d ((q, k) :: rest) Done rank) {Done' : Nat → Prop} {push : List (Nat × Nat)}
    {x k' : Nat} {c : Inst} (hx : Done x) (hc : (d.defs x).children[k']? = some c) (hne : (x, k') ≠ (q, k))
    (hT : Done c.ref ∧ ((d.defs c.ref).isLeaf = true ∨ d.refCount c.ref = 1) → Done' c.ref ∧
      ((d'.defs c.ref).isLeaf = true ∨ d'.refCount c.ref = 1)) :
    (x, k') ∈ rest ++ push ∨ (Done' c.ref ∧ ((d'.defs c.ref).isLeaf = true ∨ d'.refCount c.ref = 1)) := by
  rcases inv.closed x hx k' c hc with h | h
  · exact Or.inl (List.mem_append_left _ ((List.mem_cons.mp h).resolve_left hne))
  · exact Or.inr (hT h)

/-- the step when the head of the queue does not address a child (never happens; keeps the model total) -/
theorem UInv.step_none (inv : UInv d ((q, k) :: rest) Done rank) (hnone : (d.defs q).children[k]? = none) :
    UInv d rest Done rank :=
  { inv with
    queueOk := fun a ha => inv.queueOk a (List.mem_cons_of_mem _ ha)
    closed := fun x hx k' c hc => by
      simpa using inv.closed_of_rest (push := []) hx hc (fun e => by cases e; rw [hnone] at hc; cases hc) id }

/-- the step for an instance that is already unique -/
theorem UInv.step_keep (inv : UInv d ((q, k) :: rest) Done rank) {c : Inst} (hc : (d.defs q).children[k]? = some c)
    (hu : d.refCount c.ref = 1 ∨ (d.defs c.ref).isLeaf = true) :
    UInv d (rest ++ childAddrs c.ref (d.defs c.ref)) (fun y => Done y ∨ y = c.ref) rank := by
  have hqd : Done q := inv.queueOk (q, k) List.mem_cons_self
  have hq : q < d.ndefs := inv.doneLt q hqd
  have hcm : c ∈ (d.defs q).children := List.mem_of_getElem? hc
  refine { wf := inv.wf, acyc := inv.acyc, doneLt := ?_, top := Or.inl inv.top, rankTop := ?_, queueOk := ?_,
           closed := ?_, uniq := ?_ }
  · rintro x (hx | rfl)
    · exact inv.doneLt x hx
    · exact inv.wf.ref_lt hq hcm
  · rintro x (hx | rfl) hne
    · exact inv.rankTop x hx hne
    · exact inv.rank_child_lt_top hqd hcm
  · intro a ha
    rcases List.mem_append.mp ha with ha | ha
    · exact Or.inl (inv.queueOk a (List.mem_cons_of_mem _ ha))
    · exact Or.inr (mem_childAddrs.mp ha).1
  · intro y hy k' c' hc'
    by_cases hyx : y = c.ref
    · exact Or.inl (List.mem_append_right _
        (mem_childAddrs.mpr ⟨hyx, by rw [← hyx]; exact (List.getElem?_eq_some_iff.mp hc').1⟩))
    · have hyd : Done y := hy.resolve_right hyx
      by_cases hhead : (y, k') = (q, k)
      · cases hhead
        obtain rfl : c = c' := Option.some.inj (hc.symm.trans hc')
        exact Or.inr ⟨Or.inr rfl, hu.symm⟩
      · exact inv.closed_of_rest (d' := d) (Done' := fun y => Done y ∨ y = c.ref) hyd hc' hhead (fun h => ⟨Or.inl h.1, h.2⟩)
  · rintro y (hy | rfl) hne hleaf
    · obtain ⟨h1, q', hq', h2⟩ := inv.uniq y hy hne hleaf
      exact ⟨h1, q', Or.inl hq', h2⟩
    · rcases hu with hu | hu
      · exact ⟨hu, q, Or.inl hqd, refsTo_pos hcm rfl⟩
      · rw [hu] at hleaf; cases hleaf

/-- the step that copies the (shared, non-leaf) reference of child `k` of `q` -/
theorem UInv.step_clone (inv : UInv d ((q, k) :: rest) Done rank) {c : Inst} (s : CloneStep d d' q k c)
    (hcnt : d.refCount c.ref ≠ 1) (hleaf : (d.defs c.ref).isLeaf = false) :
    UInv d' (rest ++ childAddrs d.ndefs (d'.defs d.ndefs)) (fun y => Done y ∨ y = d.ndefs)
      (fun y => if y = d.ndefs then rank c.ref else rank y) := by
  have hqd : Done q := inv.queueOk (q, k) List.mem_cons_self
  have hxnd : ¬ Done c.ref := fun hd => hcnt (inv.uniq _ hd (inv.child_ne_top hqd s.mem) hleaf).1
  have htop := makeUnique_top s.eq
  have hold := fun j (hj : j < d.ndefs) => makeUnique_old s.eq (Nat.ne_of_lt hj)
  have hne_new : ∀ y, Done y → y ≠ d.ndefs := fun y hy => Nat.ne_of_lt (inv.doneLt y hy)
  -- reference sets of settled definitions do not change: the copied children reference no settled
  -- non-leaf definition, because the only instance of such a definition sits in a settled definition
  have hcount : ∀ z, Done z → z ≠ d.top → (d.defs z).isLeaf = false → d'.refCount z = 1 := by
    intro z hz hzt hzl
    obtain ⟨h1, qz, hqz, h2⟩ := inv.uniq z hz hzt hzl
    have e := s.refCount_old (inv.doneLt z hz)
    have := refsTo_add_le_refCount d (inv.doneLt qz hqz) s.ref_lt (fun e : qz = c.ref => hxnd (e ▸ hqz)) z
    rw [if_neg (fun e : c.ref = z => hxnd (e ▸ hz))] at e
    omega
  have hT : ∀ z, Done z ∧ ((d.defs z).isLeaf = true ∨ d.refCount z = 1) → z ≠ d.top →
      (Done z ∨ z = d.ndefs) ∧ ((d'.defs z).isLeaf = true ∨ d'.refCount z = 1) := by
    intro z ⟨hz, _⟩ hzt
    refine ⟨Or.inl hz, ?_⟩
    rw [(hold z (inv.doneLt z hz)).isLeaf]
    cases hl : (d.defs z).isLeaf with
    | true => exact Or.inl rfl
    | false => exact Or.inr (hcount z hz hzt hl)
  refine { wf := s.wf', acyc := s.rankOk inv.acyc, doneLt := ?_, top := ?_, rankTop := ?_, queueOk := ?_,
           closed := ?_, uniq := ?_ }
  · rw [makeUnique_ndefs s.eq]
    rintro x (hx | rfl)
    · exact Nat.lt_succ_of_lt (inv.doneLt x hx)
    · exact Nat.lt_succ_self _
  · rw [htop]; exact Or.inl inv.top
  · rw [htop, if_neg (hne_new _ inv.top)]
    rintro x (hx | rfl) hne
    · rw [if_neg (hne_new x hx)]; exact inv.rankTop x hx hne
    · rw [if_pos rfl]; exact inv.rank_child_lt_top hqd s.mem
  · intro a ha
    rcases List.mem_append.mp ha with ha | ha
    · exact Or.inl (inv.queueOk a (List.mem_cons_of_mem _ ha))
    · exact Or.inr (mem_childAddrs.mp ha).1
  · intro y hy k' c' hc'
    by_cases hyn : y = d.ndefs
    · exact Or.inl (List.mem_append_right _
        (mem_childAddrs.mpr ⟨hyn, by rw [← hyn]; exact (List.getElem?_eq_some_iff.mp hc').1⟩))
    · have hyd : Done y := hy.resolve_right hyn
      rw [s.getElem?_children (inv.doneLt y hyd)] at hc'
      split at hc'
      · obtain rfl := Option.some.inj hc'
        exact Or.inr ⟨Or.inr rfl, Or.inr s.refCount_new⟩
      · -- any other child keeps its reference
        exact inv.closed_of_rest (d' := d') (Done' := fun y => Done y ∨ y = d.ndefs) hyd hc'
          (fun e => ‹¬ (y = q ∧ k' = k)› (Prod.mk.inj e))
          (fun h => hT _ h (inv.child_ne_top hyd (List.mem_of_getElem? hc')))
  · rw [htop]
    rintro y (hy | rfl) hne hyleaf
    · rw [(hold y (inv.doneLt y hy)).isLeaf] at hyleaf
      obtain ⟨_, qz, hqz, h2⟩ := inv.uniq y hy hne hyleaf
      refine ⟨hcount y hy hne hyleaf, qz, Or.inl hqz, ?_⟩
      by_cases hqq : qz = q
      · subst hqq
        rw [makeUnique_defs_q s.eq s.q_ne]
        have := refsTo_setChildRef s.hc d.ndefs y
        rw [if_neg (fun e : c.ref = y => hxnd (e ▸ hy)), if_neg (Ne.symm (hne_new y hy))] at this
        omega
      · rwa [makeUnique_defs_other s.eq (hne_new qz hqz) hqq]
    · refine ⟨s.refCount_new, q, Or.inl hqd, ?_⟩
      exact refsTo_pos (List.mem_of_getElem? ((s.getElem?_children s.hq k).trans (if_pos ⟨rfl, rfl⟩))) rfl

theorem UInv.step {push : List (Nat × Nat)} (inv : UInv d ((q, k) :: rest) Done rank)
    (h : uStep d q k = some (d', push)) : ∃ Done' rank', UInv d' (rest ++ push) Done' rank' := by
  rcases uStep_cases h with ⟨rfl, hnone, rfl⟩ | ⟨c, hc, ⟨rfl, hu, rfl⟩ | ⟨hcnt, hl, hm, rfl⟩⟩
  · exact ⟨Done, rank, by simpa using inv.step_none hnone⟩
  · exact ⟨_, rank, inv.step_keep hc hu⟩
  · exact ⟨_, _, inv.step_clone ⟨inv.wf, inv.doneLt q (inv.queueOk _ List.mem_cons_self), hc, hm⟩ hcnt hl⟩

end step

theorem uLoop_inv {d : Design} (hwf : WF d) {rank : Nat → Nat} (hr : RankOk d rank) (fuel : Nat) :
    ∃ Done' rank', UInv (uLoop fuel (uInit d)).d (uLoop fuel (uInit d)).queue Done' rank' :=
  (uLoop_induct (fun d' queue => ∃ Done rank, UInv d' queue Done rank)
    (fun _ _ _ _ _ _ ⟨_, _, inv⟩ h => inv.step h) fuel (uInit d) ⟨_, rank, UInv.init hwf hr⟩).1

end Spydr.Xform
