/-
  Evidence only: executable checks of the hypotheses of the headline theorems on one dumped case, so
  that a run can report how many generated cases lie inside each theorem's fragment
  (`theorem_fragment:<theorem>:in` / `:out:<first failing hypothesis>`).  No theorem and no verdict
  depends on these functions; `Acyclic` and `Unique` are decided here by bounded searches
  (depth `ndefs + 1`, `ndefs` closure rounds), which are meant to be exact on the finite table (not proved).
  NO Mathlib import (linked into the driver).
-/
import Spydr.Xform.Spec

namespace Spydr.Xform

/-- no instantiation chain of length `n` starts at `x` … i.e. below `x` the hierarchy bottoms out -/
def acycFrom (d : Design) : Nat → Nat → Bool
  | 0, _ => false
  | n + 1, x => (d.defs x).children.all (fun c => acycFrom d n c.ref)

def acyclicCheck (d : Design) : Bool := (List.range d.ndefs).all (acycFrom d (d.ndefs + 1))

def reachStep (d : Design) (s : List Nat) : List Nat :=
  (s ++ s.flatMap (fun q => (d.defs q).children.map (·.ref))).eraseDups

def reachIter (d : Design) : Nat → List Nat → List Nat
  | 0, s => s
  | n + 1, s => reachIter d n (reachStep d s)

def reachSet (d : Design) : List Nat := reachIter d d.ndefs [d.top]

def uniqueCheck (d : Design) : Bool :=
  (reachSet d).all (fun q => (d.defs q).children.all (fun c => (d.defs c.ref).isLeaf || d.refCount c.ref == 1))

/-- first failing hypothesis among the given (name, holds) pairs, or "in" -/
def firstFailing : List (String × Bool) → String
  | [] => "in"
  | (n, ok) :: rest => if ok then firstFailing rest else n

/-- per headline theorem: "in" or the first hypothesis the case violates.
    `flatFuel`: the fuel the harness passes to the flatten model. -/
def fragments (d : Design) (flatFuel : Nat) : List (String × String) :=
  let wf := wfCheck d
  let ac := acyclicCheck d
  let hyp : List (String × Bool) :=
    [("WF", wf), ("IdsUnique", idsUniqueCheck d), ("Acyclic", ac), ("Unique", uniqueCheck d)]
  let named := [("Named", namedCheck d)]
  let fuel := [("fuel>instances", decide ((allInsts d).length < flatFuel))]
  [ ("uniquify_correct", firstFailing [("WF", wf), ("Acyclic", ac)]),
    ("uniquify_wf", firstFailing [("WF", wf)]),
    ("uniquify_preserves_elab", firstFailing [("WF", wf)]),
    ("uniquify_fresh_names", firstFailing [("WF", wf)]),
    ("uniquify_unique", firstFailing [("WF", wf), ("Acyclic", ac)]),
    ("flatten_wf", firstFailing (hyp ++ named ++ fuel)),
    ("flatten_leaves", firstFailing (hyp ++ named ++ fuel)),
    ("flatten_preserves_conn", firstFailing (hyp ++ named)),
    ("flatten_preserves_elab_conn", firstFailing (hyp ++ named ++ fuel)),
    ("flatten_leftovers", firstFailing (hyp ++ named ++ fuel)),
    ("connU_eq_conn", firstFailing hyp) ]

end Spydr.Xform
