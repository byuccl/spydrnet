/-
  Basic facts for the flatten proofs: the three descents of the hierarchy (`walk`, `defAtFrom`, the
  inductive `Path`) and how they agree, slash-joined names, the loop induction, and what `moveInst`
  and `dissolve` do to a definition: each rewrites one field (children, cables) and leaves the rest.
-/
import Spydr.Xform.ModelFlatten
import Spydr.Xform.SpecFlat
import Spydr.Xform.LemmasSpec

namespace Spydr.Xform

theorem walk_cons_some {d : Design} {x i : Nat} {p : List Nat} {r : List Inst × Nat} :
    walk d x (i :: p) = some r ↔
      ∃ c cs y, childById (d.defs x) i = some c ∧ walk d c.ref p = some (cs, y) ∧ r = (c :: cs, y) := by
  constructor
  · intro h
    rw [walk] at h
    cases hc : childById (d.defs x) i with
    | none => simp [hc] at h
    | some c =>
      cases hw : walk d c.ref p with
      | none => simp [hc, hw] at h
      | some r' => exact ⟨c, r'.1, r'.2, rfl, hw, by simpa [hc, hw, eq_comm] using h⟩
  · rintro ⟨c, cs, y, hc, hw, rfl⟩
    simp [walk, hc, hw]

theorem walk_snoc {d : Design} : ∀ (p : List Nat) (x : Nat) (cs : List Inst) (y i : Nat) (c : Inst),
    walk d x p = some (cs, y) → childById (d.defs y) i = some c →
    walk d x (p ++ [i]) = some (cs ++ [c], c.ref)
  | [], x, cs, y, i, c, h, hc => by
    obtain ⟨rfl, rfl⟩ : [] = cs ∧ x = y := by simpa [walk] using h
    exact walk_cons_some.mpr ⟨c, [], c.ref, hc, rfl, rfl⟩
  | j :: p, x, cs, y, i, c, h, hc => by
    obtain ⟨cj, cs', y', hj, hw, e⟩ := walk_cons_some.mp h
    cases e
    exact walk_cons_some.mpr ⟨cj, _, _, hj, walk_snoc p cj.ref cs' y i c hw hc, rfl⟩

theorem walk_snoc_inv {d : Design} : ∀ (p : List Nat) (x : Nat) (i : Nat) (r : List Inst × Nat),
    walk d x (p ++ [i]) = some r →
    ∃ cs y c, walk d x p = some (cs, y) ∧ childById (d.defs y) i = some c ∧ r = (cs ++ [c], c.ref)
  | [], x, i, r, h => by
    obtain ⟨c, cs, y, hc, hw, rfl⟩ := walk_cons_some.mp h
    obtain ⟨rfl, rfl⟩ : [] = cs ∧ c.ref = y := by simpa [walk] using hw
    exact ⟨[], x, c, rfl, hc, rfl⟩
  | j :: p, x, i, r, h => by
    obtain ⟨cj, cs', y', hj, hw, rfl⟩ := walk_cons_some.mp h
    obtain ⟨cs, y, c, h1, h2, h3⟩ := walk_snoc_inv p cj.ref i _ hw
    cases h3
    exact ⟨cj :: cs, y, c, walk_cons_some.mpr ⟨cj, cs, y, hj, h1, rfl⟩, h2, rfl⟩

theorem walk_length {d : Design} : ∀ (p : List Nat) (x : Nat) (cs : List Inst) (y : Nat),
    walk d x p = some (cs, y) → cs.length = p.length
  | [], x, cs, y, h => by simp only [walk, Option.some.injEq, Prod.mk.injEq] at h; rw [← h.1]; rfl
  | j :: p, x, cs, y, h => by
    obtain ⟨cj, cs', y', _, hw, e⟩ := walk_cons_some.mp h
    cases e
    simp [walk_length p cj.ref cs' y hw]

/-- `cs` are the instances met descending from the top definition along the identifiers `p`; `x` is
    the definition reached: `walk d d.top p = some (cs, x)`, built up at the far end -/
inductive Path (d : Design) : List Nat → List Inst → Nat → Prop
  | nil : Path d [] [] d.top
  | snoc {p : List Nat} {cs : List Inst} {x i : Nat} {c : Inst} :
      Path d p cs x → childById (d.defs x) i = some c → Path d (p ++ [i]) (cs ++ [c]) c.ref

theorem Path.walk {d : Design} {p : List Nat} {cs : List Inst} {x : Nat} (h : Path d p cs x) :
    walk d d.top p = some (cs, x) := by
  induction h with
  | nil => rfl
  | snoc _ hc ih => exact walk_snoc _ _ _ _ _ _ ih hc

theorem path_of_walk {d : Design} : ∀ (n : Nat) {p : List Nat} {cs : List Inst} {x : Nat}, p.length = n →
    walk d d.top p = some (cs, x) → Path d p cs x
  | 0, p, cs, x, hn, h => by
    obtain rfl := List.eq_nil_of_length_eq_zero hn
    obtain ⟨rfl, rfl⟩ : [] = cs ∧ d.top = x := by simpa [walk] using h
    exact Path.nil
  | n + 1, p, cs, x, hn, h => by
    rcases List.eq_nil_or_concat p with rfl | ⟨p1, i, rfl⟩
    · simp at hn
    · rw [List.concat_eq_append] at hn h ⊢
      obtain ⟨cs1, y, c, h1, h2, h3⟩ := walk_snoc_inv p1 _ i _ h
      cases h3
      exact (path_of_walk n (by simpa using hn) h1).snoc h2

theorem path_iff_walk {d : Design} {p : List Nat} {cs : List Inst} {x : Nat} :
    Path d p cs x ↔ walk d d.top p = some (cs, x) := ⟨Path.walk, path_of_walk _ rfl⟩

theorem defAtFrom_eq_walk (d : Design) : ∀ (p : List Nat) (x : Nat), defAtFrom d x p = (walk d x p).map (·.2)
  | [], x => rfl
  | i :: p, x => by
    simp only [defAtFrom, walk]
    cases childById (d.defs x) i with
    | none => rfl
    | some c =>
      simp only [defAtFrom_eq_walk d p c.ref]
      cases walk d c.ref p <;> rfl

theorem defAt_iff_path {d : Design} {p : List Nat} {x : Nat} : defAt d p = some x ↔ ∃ cs, Path d p cs x := by
  simp only [defAt, defAtFrom_eq_walk, path_iff_walk]
  cases walk d d.top p with
  | none => simp
  | some r => obtain ⟨cs, y⟩ := r; simp

theorem Path.defAt {d : Design} {p : List Nat} {cs : List Inst} {x : Nat} (h : Path d p cs x) : defAt d p = some x :=
  defAt_iff_path.mpr ⟨cs, h⟩

theorem instAt_iff_path {d : Design} {p : List Nat} {iid : Nat} {j : Inst} :
    instAt d p iid = some j ↔ ∃ cs x, Path d p cs x ∧ childById (d.defs x) iid = some j := by
  constructor
  · intro h
    simp only [instAt] at h
    cases hdp : Spydr.Xform.defAt d p with
    | none => simp [hdp] at h
    | some y =>
      obtain ⟨cs, hp⟩ := defAt_iff_path.mp hdp
      exact ⟨cs, y, hp, by simpa [hdp] using h⟩
  · rintro ⟨cs, x, hp, h⟩
    simpa only [instAt, hp.defAt] using h

theorem Path.snoc_inv {d : Design} {p : List Nat} {cs : List Inst} {c : Inst} {y : Nat} (h : Path d p (cs ++ [c]) y) :
    ∃ p1 x, p = p1 ++ [c.id] ∧ Path d p1 cs x ∧ childById (d.defs x) c.id = some c ∧ y = c.ref := by
  generalize e : cs ++ [c] = cs' at h
  cases h with
  | nil => simp at e
  | @snoc p1 cs1 x i c1 h1 h2 =>
    obtain ⟨rfl, hcc⟩ := List.append_inj' e rfl
    obtain rfl : c = c1 := by simpa using hcc
    obtain rfl := (childById_id h2).1
    exact ⟨p1, x, rfl, h1, h2, rfl⟩

theorem Path.reach {d : Design} {p : List Nat} {cs : List Inst} {x : Nat} (h : Path d p cs x) : Reach d x := by
  induction h with
  | nil => exact Reach.top
  | snoc _ hc ih => exact Reach.step ih (childById_id hc).2

theorem Path.mem {d : Design} {p : List Nat} {cs : List Inst} {x : Nat} (h : Path d p cs x) :
    ∀ c ∈ cs, ∃ q, Reach d q ∧ c ∈ (d.defs q).children := by
  induction h with
  | nil => simp
  | snoc h1 hc ih =>
    intro c' hc'
    rcases List.mem_append.mp hc' with h | h
    · exact ih c' h
    · obtain rfl := List.mem_singleton.mp h
      exact ⟨_, h1.reach, (childById_id hc).2⟩

theorem Path.child {d : Design} (hwf : WF d) {p : List Nat} {cs : List Inst} {x : Nat} (h : Path d p cs x) {c : Inst}
    (hc : c ∈ (d.defs x).children) : Path d (p ++ [c.id]) (cs ++ [c]) c.ref :=
  h.snoc (childById_of_mem (hwf.ids_nodup (reach_lt hwf h.reach)) hc)

theorem reach_path {d : Design} (hwf : WF d) {x : Nat} (hx : Reach d x) : ∃ p cs, Path d p cs x := by
  induction hx with
  | top => exact ⟨[], [], Path.nil⟩
  | step _ hc ih =>
    obtain ⟨p, cs, hp⟩ := ih
    exact ⟨_, _, hp.child hwf hc⟩

/-- induction over the loop with a count of the iterations done: after `fuel` rounds either the queue
    is empty or exactly `fuel` iterations have happened -/
theorem fLoop_induct (P : Nat → FState → Prop)
    (hstep : ∀ n d q iid pn rest tr, P n ⟨d, (q, iid, pn) :: rest, tr⟩ →
      P (n + 1) ⟨(fStep d q iid pn).1, rest ++ (fStep d q iid pn).2.1, tr ++ (fStep d q iid pn).2.2⟩)
    (fuel : Nat) : ∀ (n : Nat) (s : FState), P n s →
      ∃ k, P (n + k) (fLoop fuel s) ∧ ((fLoop fuel s).queue = [] ∨ k = fuel) := by
  induction fuel with
  | zero => intro n s h; exact ⟨0, h, Or.inr rfl⟩
  | succ f ih =>
    intro n s h
    obtain ⟨d, queue, tr⟩ := s
    cases queue with
    | nil => exact ⟨0, h, Or.inl rfl⟩
    | cons e rest =>
      obtain ⟨q, iid, pn⟩ := e
      obtain ⟨k, hk, hq⟩ := ih (n + 1) _ (hstep n d q iid pn rest tr h)
      exact ⟨k + 1, by rwa [Nat.add_assoc, Nat.add_comm 1] at hk, hq.imp id (congrArg (· + 1))⟩

theorem slashJoin_snoc_ne : ∀ (ns : List String) (n : String), ns ≠ [] →
    slashJoin (ns ++ [n]) = slashJoin ns ++ "/" ++ n
  | [], _, h => absurd rfl h
  | [a], n, _ => by simp [slashJoin]
  | a :: b :: rest, n, _ => by
    have ih := slashJoin_snoc_ne (b :: rest) n (by simp)
    simp only [List.cons_append] at ih ⊢
    simp only [slashJoin] at ih ⊢
    rw [ih]
    simp only [String.append_assoc]

theorem slashJoin_ne_empty : ∀ (ns : List String), ns ≠ [] → (∀ n ∈ ns, n ≠ "") → slashJoin ns ≠ ""
  | [], h, _ => absurd rfl h
  | [a], _, h => by simpa [slashJoin] using h a (by simp)
  | a :: b :: rest, _, h => by
    simp only [slashJoin]
    intro e
    have := congrArg String.length e
    simp [String.length_append] at this

theorem joinName_slashJoin (ns : List String) (n : String) (h : ∀ m ∈ ns, m ≠ "") :
    joinName (slashJoin ns) n = slashJoin (ns ++ [n]) := by
  by_cases hns : ns = []
  · subst hns; simp [joinName, slashJoin]
  · rw [slashJoin_snoc_ne ns n hns]
    simp [joinName, slashJoin_ne_empty ns hns h]

theorem liftInst_fields (pn : String) (ctr : Nat) (c : Inst) :
    (liftInst pn ctr c).1.id = c.id ∧ (liftInst pn ctr c).1.ref = c.ref ∧ (liftInst pn ctr c).1.data = c.data ∧
    (liftInst pn ctr c).1.name = some (joinName pn (instName c)) := by
  unfold liftInst
  cases c.eid <;> simp [instName]

theorem moveInst_frame (d : Design) (q : Nat) (c' : Inst) (ctr1 : Nat) :
    (moveInst d q c' ctr1).ndefs = d.ndefs ∧ (moveInst d q c' ctr1).top = d.top ∧
    (moveInst d q c' ctr1).order = d.order ∧ (moveInst d q c' ctr1).extra = d.extra ∧
    (moveInst d q c' ctr1).ctr = ctr1 := ⟨rfl, rfl, rfl, rfl, rfl⟩

theorem moveInst_defs (d : Design) (q : Nat) (c' : Inst) (ctr1 : Nat) (x : Nat) :
    (moveInst d q c' ctr1).defs x =
      { d.defs x with children :=
          (if x = q then (d.defs x).children.filter (fun y => y.id != c'.id) else (d.defs x).children) ++
          (if x = d.top then [c'] else []) } := by
  dsimp only [moveInst, Design.setDef]
  -- with a variable for `d.top` the cases `x = top`, `x = q` can be substituted
  generalize d.top = t
  by_cases hxt : x = t <;> by_cases hq : x = q <;> subst_vars <;> simp [*]

theorem dissolve_frame (d : Design) (iid : Nat) (nm : String) (x : Nat) :
    (dissolve d iid nm x).ndefs = d.ndefs ∧ (dissolve d iid nm x).top = d.top ∧
    (dissolve d iid nm x).order = d.order ∧ (dissolve d iid nm x).extra = d.extra := ⟨rfl, rfl, rfl, rfl⟩

theorem dissolve_defs (d : Design) (iid : Nat) (nm : String) (x y : Nat) :
    (dissolve d iid nm x).defs y =
      { d.defs y with cables :=
          if y = d.top then
            (portBits (d.defs x).ports).foldl (redoPin iid) ((if y = x then [] else (d.defs y).cables) ++ (liftCables iid nm d.ctr (d.defs x).cables).1)
          else if y = x then [] else (d.defs y).cables } := by
  dsimp only [dissolve, Design.setDef]
  generalize d.top = t
  by_cases hyt : y = t <;> by_cases hx : y = x <;> subst_vars <;> simp [*]

end Spydr.Xform
