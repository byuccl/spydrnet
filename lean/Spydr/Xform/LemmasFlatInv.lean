/-
  The structural invariant of the flatten walk, relative to the original design `d0`:
  where every instance is, which definitions have been dissolved, what the queue holds;
  one iteration of the loop preserves it.

  `moved` = the instance records popped so far (as renamed), in pop order.  Then
  * every definition holds its original children minus the moved ones; the top definition
    additionally holds `moved` at the end;
  * a definition other than top has lost its cables iff an instance of it was moved and it was not a
    leaf (`Dissolved`); nothing else about it changed;
  * the queue holds exactly the not yet moved children of the top definition and of the dissolved
    definitions, each with the slash-joined name of its parent occurrence.
-/
import Spydr.Xform.LemmasFlatBasic

namespace Spydr.Xform

/-- the hypotheses on the original design shared by the C09 theorems: well-formed, identifiers
    netlist-wide, uniquified, acyclic -/
structure Hyp (d0 : Design) : Prop where
  wf : WF d0
  ids : IdsUnique d0
  uniq : Unique d0
  acyc : Acyclic d0

def unmoved (d0 : Design) (mv : List Nat) (x : Nat) : List Inst :=
  (d0.defs x).children.filter (fun c => !(mv.contains c.id))

def Dissolved (d0 : Design) (moved : List Inst) (x : Nat) : Prop :=
  ∃ m ∈ moved, m.ref = x ∧ (d0.defs x).isLeaf = false

instance (d0 : Design) (moved : List Inst) (x : Nat) : Decidable (Dissolved d0 moved x) := by
  unfold Dissolved; infer_instance

def MovedOrig (d0 : Design) (moved : List Inst) (m : Inst) : Prop :=
  ∃ p cs q c0, walk d0 d0.top p = some (cs, q) ∧ (q = d0.top ∨ Dissolved d0 moved q) ∧
    c0 ∈ (d0.defs q).children ∧ m.id = c0.id ∧ m.ref = c0.ref ∧ m.data = c0.data ∧
    m.name = some (slashJoin ((cs ++ [c0]).map instName))

def QueueOk (d0 : Design) (moved : List Inst) (e : Nat × Nat × String) : Prop :=
  ∃ p cs c0, walk d0 d0.top p = some (cs, e.1) ∧ (e.1 = d0.top ∨ Dissolved d0 moved e.1) ∧
    c0 ∈ (d0.defs e.1).children ∧ c0.id = e.2.1 ∧ e.2.1 ∉ moved.map (·.id) ∧
    e.2.2 = slashJoin (cs.map instName)

structure FInvA (d0 : Design) (s : FState) (moved : List Inst) : Prop where
  ndefs : s.d.ndefs = d0.ndefs
  top : s.d.top = d0.top
  order : s.d.order = d0.order
  extra : s.d.extra = d0.extra
  attrs : ∀ x, x < d0.ndefs → (s.d.defs x).ports = (d0.defs x).ports ∧ (s.d.defs x).lib = (d0.defs x).lib ∧
      (s.d.defs x).name = (d0.defs x).name ∧ (s.d.defs x).eid = (d0.defs x).eid ∧
      (s.d.defs x).info = (d0.defs x).info
  kids : ∀ x, x < d0.ndefs → (s.d.defs x).children = unmoved d0 (moved.map (·.id)) x ++ (if x = d0.top then moved else [])
  cablesKeep : ∀ x, x < d0.ndefs → x ≠ d0.top → ¬ Dissolved d0 moved x → (s.d.defs x).cables = (d0.defs x).cables
  cablesGone : ∀ x, x < d0.ndefs → x ≠ d0.top → Dissolved d0 moved x → (s.d.defs x).cables = []
  toRemove : s.toRemove = (moved.filter (fun m => !(d0.defs m.ref).isLeaf)).map (·.id)
  movedNodup : (moved.map (·.id)).Nodup
  movedOrig : ∀ m ∈ moved, MovedOrig d0 moved m
  queue : ∀ e ∈ s.queue, QueueOk d0 moved e
  queueNodup : (s.queue.map (·.2.1)).Nodup
  complete : ∀ x, x < d0.ndefs → (x = d0.top ∨ Dissolved d0 moved x) → ∀ c0 ∈ (d0.defs x).children,
      c0.id ∈ moved.map (·.id) ∨ c0.id ∈ s.queue.map (·.2.1)

theorem Hyp.ids_disjoint {d0 : Design} (h : Hyp d0) {x y : Nat} (hx : x < d0.ndefs) (hy : y < d0.ndefs)
    {a b : Inst} (ha : a ∈ (d0.defs x).children) (hb : b ∈ (d0.defs y).children) (hid : a.id = b.id) : x = y := by
  by_cases hxy : x = y
  · exact hxy
  · exact absurd hid (h.ids.2.1 x (by simpa using hx) y (by simpa using hy) hxy a ha b hb)

theorem Hyp.cable_ids_nodup {d0 : Design} (h : Hyp d0) {x : Nat} (hx : x < d0.ndefs) :
    ((d0.defs x).cables.map (·.id)).Nodup := h.ids.2.2.1 x (List.mem_range.mpr hx)

theorem Hyp.child_eq {d0 : Design} (h : Hyp d0) {x : Nat} (hx : x < d0.ndefs) {a b : Inst}
    (ha : a ∈ (d0.defs x).children) (hb : b ∈ (d0.defs x).children) (hid : a.id = b.id) : a = b :=
  inj_of_nodup_map (h.wf.ids_nodup hx) ha hb hid

theorem Hyp.cable_ids_disjoint {d0 : Design} (h : Hyp d0) {x y : Nat} (hx : x < d0.ndefs) (hy : y < d0.ndefs)
    {a b : Cable} (ha : a ∈ (d0.defs x).cables) (hb : b ∈ (d0.defs y).cables) (hid : a.id = b.id) : x = y := by
  by_cases hxy : x = y
  · exact hxy
  · exact absurd hid (h.ids.2.2.2 x (by simpa using hx) y (by simpa using hy) hxy a ha b hb)

theorem Hyp.wire_pinOk {d0 : Design} (h : Hyp d0) {x : Nat} (hx : x < d0.ndefs) {c : Cable} {w : List Pin} {p : Pin}
    (hc : c ∈ (d0.defs x).cables) (hw : w ∈ c.wires) (hp : p ∈ w) : PinOk d0 (d0.defs x) p :=
  (h.wf.wfDef hx).2.2.2 p (List.mem_flatten.mpr ⟨w, List.mem_flatMap.mpr ⟨c, hc, hw⟩, hp⟩)

theorem Dissolved.mono {d0 : Design} {moved : List Inst} {x : Nat} (h : Dissolved d0 moved x) (extra : List Inst) :
    Dissolved d0 (moved ++ extra) x := by
  obtain ⟨m, hm, h1, h2⟩ := h
  exact ⟨m, List.mem_append_left _ hm, h1, h2⟩

theorem MovedOrig.mono {d0 : Design} {moved : List Inst} {m : Inst} (h : MovedOrig d0 moved m) (extra : List Inst) :
    MovedOrig d0 (moved ++ extra) m := by
  obtain ⟨p, cs, q, c0, h1, h2, h3⟩ := h
  exact ⟨p, cs, q, c0, h1, h2.imp id (fun h => h.mono extra), h3⟩

theorem unmoved_snoc (d0 : Design) (mv : List Nat) (iid x : Nat) :
    unmoved d0 (mv ++ [iid]) x = (unmoved d0 mv x).filter (fun c => c.id != iid) := by
  simp only [unmoved, List.filter_filter]
  apply List.filter_congr
  intro c _
  simp only [List.contains_append, List.contains_cons, List.contains_nil, Bool.or_false, Bool.not_or, bne]
  rw [Bool.and_comm]

theorem filter_ne_of_not_mem {l : List Inst} {iid : Nat} (h : ∀ c ∈ l, c.id ≠ iid) :
    l.filter (fun c => c.id != iid) = l := by
  rw [List.filter_eq_self]
  intro c hc
  simpa using h c hc

section inv
variable {d0 : Design} {s : FState} {moved : List Inst}

theorem FInvA.untouched (hyp : Hyp d0) (inv : FInvA d0 s moved) {x : Nat} (hx : x < d0.ndefs) (hxt : x ≠ d0.top)
    (hnd : ¬ Dissolved d0 moved x) : ∀ c ∈ (d0.defs x).children, c.id ∉ moved.map (·.id) := by
  intro c hc hmem
  obtain ⟨m, hm, hmid⟩ := List.mem_map.mp hmem
  obtain ⟨p, cs, q, c0, hw, hq, hc0, hid, _⟩ := inv.movedOrig m hm
  have hqlt : q < d0.ndefs := reach_lt hyp.wf (path_iff_walk.mpr hw).reach
  have : x = q := hyp.ids_disjoint hx hqlt hc hc0 (by rw [← hmid, hid])
  subst this
  rcases hq with h | h
  · exact hxt h
  · exact hnd h

theorem FInvA.unmoved_untouched (hyp : Hyp d0) (inv : FInvA d0 s moved) {x : Nat} (hx : x < d0.ndefs)
    (hxt : x ≠ d0.top) (hnd : ¬ Dissolved d0 moved x) : unmoved d0 (moved.map (·.id)) x = (d0.defs x).children := by
  simp only [unmoved]
  rw [List.filter_eq_self]
  intro c hc
  have := inv.untouched hyp hx hxt hnd c hc
  simpa using this

theorem FInvA.mem_children (inv : FInvA d0 s moved) {z : Nat} (hz : z < d0.ndefs) {j : Inst} :
    j ∈ (s.d.defs z).children ↔ (j ∈ (d0.defs z).children ∧ j.id ∉ moved.map (·.id)) ∨ (z = d0.top ∧ j ∈ moved) := by
  rw [inv.kids z hz, List.mem_append, unmoved, List.mem_filter]
  refine or_congr (and_congr_right fun _ => by simp) ?_
  split <;> simp [*]

theorem FInvA.moved_reach (inv : FInvA d0 s moved) {m : Inst} (hm : m ∈ moved) :
    ∃ q c0, Reach d0 q ∧ c0 ∈ (d0.defs q).children ∧ m.id = c0.id ∧ m.ref = c0.ref := by
  obtain ⟨p, cs, q, c0, hw, _, hc0, hid, hr, _⟩ := inv.movedOrig m hm
  exact ⟨q, c0, (path_iff_walk.mpr hw).reach, hc0, hid, hr⟩

theorem FInvA.mem_toRemove (inv : FInvA d0 s moved) {m : Inst} (hm : m ∈ moved) :
    m.id ∈ s.toRemove ↔ (d0.defs m.ref).isLeaf = false := by
  rw [inv.toRemove]
  constructor
  · intro h
    obtain ⟨m', hm', hid⟩ := List.mem_map.mp h
    obtain ⟨hm'', hl'⟩ := List.mem_filter.mp hm'
    obtain rfl := inj_of_nodup_map inv.movedNodup hm'' hm hid
    simpa using hl'
  · intro hl; exact List.mem_map.mpr ⟨m, List.mem_filter.mpr ⟨hm, by simp [hl]⟩, rfl⟩

theorem FInvA.moved_ref (hyp : Hyp d0) (inv : FInvA d0 s moved) {y : Nat} (hy : y < d0.ndefs) {c : Inst}
    (hc : c ∈ (d0.defs y).children) {m : Inst} (hm : m ∈ moved) (hid : m.id = c.id) : m.ref = c.ref := by
  obtain ⟨q, c0, hq, hc0, hid0, hr⟩ := inv.moved_reach hm
  have hqlt := reach_lt hyp.wf hq
  obtain rfl : q = y := hyp.ids_disjoint hqlt hy hc0 hc (hid0.symm.trans hid)
  rw [hr, hyp.child_eq hqlt hc0 hc (hid0.symm.trans hid)]

end inv


theorem dissolved_snoc {d0 : Design} {moved : List Inst} {m : Inst} {y : Nat} :
    Dissolved d0 (moved ++ [m]) y ↔ Dissolved d0 moved y ∨ (m.ref = y ∧ (d0.defs y).isLeaf = false) := by
  simp only [Dissolved, List.mem_append, List.mem_singleton]
  constructor
  · rintro ⟨m', hm' | rfl, h⟩
    · exact Or.inl ⟨m', hm', h⟩
    · exact Or.inr h
  · rintro (⟨m', hm', h⟩ | h)
    · exact ⟨m', Or.inl hm', h⟩
    · exact ⟨m, Or.inr rfl, h⟩

theorem instName_ne_of_named {d0 : Design} (hnamed : Named d0) {q : Nat} (hq : q < d0.ndefs) {c : Inst}
    (hc : c ∈ (d0.defs q).children) : instName c ≠ "" := by
  have := hnamed.1 c (List.mem_flatMap.mpr ⟨q, List.mem_range.mpr hq, hc⟩)
  simp only [instName]
  cases hn : c.name with
  | none => simp [goodName, hn] at this
  | some n => simpa [goodName, hn] using this

/-- what the invariant says about the head `(q, iid, pn)` of the queue: it addresses the not yet moved
    child `c0` of `q`, which the current state still holds; `q` is reached by the path `p`, whose
    joined name is `pn`; the definition `c0` references is neither top nor `q` nor dissolved -/
structure Head (d0 d : Design) (moved : List Inst) (q iid : Nat) (pn : String) (p : List Nat) (cs : List Inst)
    (c0 : Inst) : Prop where
  path : Path d0 p cs q
  name : pn = slashJoin (cs.map instName)
  mem : c0 ∈ (d0.defs q).children
  id : c0.id = iid
  parent : q = d0.top ∨ Dissolved d0 moved q
  fresh : iid ∉ moved.map (·.id)
  find : (d.defs q).children.find? (fun c => c.id == iid) = some c0
  ref_ne_top : c0.ref ≠ d0.top
  ref_ne : c0.ref ≠ q
  ref_keep : ¬ Dissolved d0 moved c0.ref

section step
variable {d0 d : Design} {q iid : Nat} {pn : String} {rest : List (Nat × Nat × String)} {tr : List Nat}
  {moved : List Inst} {p : List Nat} {cs : List Inst} {c0 : Inst}

theorem FInvA.head (hyp : Hyp d0) (inv : FInvA d0 ⟨d, (q, iid, pn) :: rest, tr⟩ moved) :
    ∃ p cs c0, Head d0 d moved q iid pn p cs c0 := by
  obtain ⟨p, cs, c0, hw, hqd, hc0, hid, hnm, hpn⟩ := inv.queue (q, iid, pn) List.mem_cons_self
  simp only at hw hqd hc0 hid hnm hpn
  have hp : Path d0 p cs q := path_iff_walk.mpr hw
  have hqlt := reach_lt hyp.wf hp.reach
  refine ⟨p, cs, c0, hp, hpn, hc0, hid, hqd, hnm, ?_, reach_child_ne_top hyp.acyc hyp.wf hp.reach hc0,
    child_ne_self hyp.acyc hqlt hc0, ?_⟩
  · -- the lookup in the current parent finds the original record
    have hc0u : c0 ∈ unmoved d0 (moved.map (·.id)) q :=
      List.mem_filter.mpr ⟨hc0, by rw [hid]; simpa using hnm⟩
    have hnd : ((unmoved d0 (moved.map (·.id)) q).map (·.id)).Nodup :=
      List.Nodup.sublist ((List.filter_sublist).map _) (hyp.wf.ids_nodup hqlt)
    show (d.defs q).children.find? _ = _
    rw [show (d.defs q).children = _ from inv.kids q hqlt, List.find?_append, ← hid,
      find?_key (fun c : Inst => c.id) hnd hc0u]
    rfl
  · -- a dissolved definition has had its only instance moved
    rintro ⟨m, hm, hmr, hl⟩
    obtain ⟨q', c1, hq', hc1, hmid, hmref⟩ := inv.moved_reach hm
    obtain ⟨_, rfl⟩ := unique_ref hyp.wf hyp.uniq hp.reach hq' hc0 hc1 (by rw [← hmref, hmr]) hl
    exact hnm (List.mem_map.mpr ⟨m, hm, by rw [hmid, hid]⟩)

theorem Head.ref_lt (hyp : Hyp d0) (h : Head d0 d moved q iid pn p cs c0) : c0.ref < d0.ndefs :=
  hyp.wf.ref_lt (reach_lt hyp.wf h.path.reach) h.mem

/-- the iteration for the head of the queue: what `fStep` computes, in terms of the original record
    `c0` and the original design, and the invariant for the state it produces -/
theorem FInvA.step (hyp : Hyp d0) (hnamed : Named d0) (inv : FInvA d0 ⟨d, (q, iid, pn) :: rest, tr⟩ moved)
    (h : Head d0 d moved q iid pn p cs c0) :
    (fStep d q iid pn =
      if (d0.defs c0.ref).isLeaf = true then (moveInst d q (liftInst pn d.ctr c0).1 (liftInst pn d.ctr c0).2, [], [])
      else (dissolve (moveInst d q (liftInst pn d.ctr c0).1 (liftInst pn d.ctr c0).2) iid ((liftInst pn d.ctr c0).1.name.getD "") c0.ref,
            (d0.defs c0.ref).children.map (fun k => (c0.ref, k.id, (liftInst pn d.ctr c0).1.name.getD "")), [iid])) ∧
    FInvA d0 ⟨(fStep d q iid pn).1, rest ++ (fStep d q iid pn).2.1, tr ++ (fStep d q iid pn).2.2⟩
      (moved ++ [(liftInst pn d.ctr c0).1]) := by
  obtain ⟨hp, hpn, hc0, hid, hqd, hnm, hfind, hxtop, hxq, hxnd⟩ := h
  have hqlt := reach_lt hyp.wf hp.reach
  have hxlt := hyp.wf.ref_lt hqlt hc0
  have htop : d.top = d0.top := inv.top
  have hkids : ∀ x, x < d0.ndefs → (d.defs x).children = _ := inv.kids
  obtain ⟨hcid, hcref, hcdata, hcname⟩ := liftInst_fields pn d.ctr c0
  generalize hlidef : liftInst pn d.ctr c0 = li at hcid hcref hcdata hcname ⊢
  have hcid' : li.1.id = iid := hcid.trans hid
  have hname' : li.1.name = some (slashJoin ((cs ++ [c0]).map instName)) := by
    rw [hcname, hpn, joinName_slashJoin, List.map_append]; rfl
    intro m hm
    obtain ⟨c, hc, rfl⟩ := List.mem_map.mp hm
    obtain ⟨qc, hqc, hcc⟩ := hp.mem c hc
    exact instName_ne_of_named hnamed (reach_lt hyp.wf hqc) hcc
  have hxkids : unmoved d0 (moved.map (·.id)) c0.ref = (d0.defs c0.ref).children :=
    inv.unmoved_untouched hyp hxlt hxtop hxnd
  have hmvids : (moved ++ [li.1]).map (·.id) = moved.map (·.id) ++ [iid] := by simp [hcid']
  -- children of `x` other than `c0` do not carry the identifier `iid`
  have hne_iid : ∀ {y}, y < d0.ndefs → ∀ c ∈ (d0.defs y).children, c.id = iid → y = q :=
    fun hy c hc e => hyp.ids_disjoint hy hqlt hc hc0 (e.trans hid.symm)
  -- the state after `moveInst`
  let d2 := moveInst d q li.1 li.2
  have hkids2 : ∀ y, y < d0.ndefs → (d2.defs y).children =
      unmoved d0 ((moved ++ [li.1]).map (·.id)) y ++ (if y = d0.top then moved ++ [li.1] else []) := by
    intro y hy
    rw [moveInst_defs]
    dsimp only
    rw [hmvids, unmoved_snoc, hkids y hy, htop, hcid']
    by_cases hyq : y = q
    · subst hyq
      simp only [if_true, List.filter_append]
      split
      · rw [filter_ne_of_not_mem (fun m hm e => hnm (List.mem_map.mpr ⟨m, hm, e⟩)), List.append_assoc]
      · simp
    · have : (unmoved d0 (moved.map (·.id)) y).filter (fun c => c.id != iid) = unmoved d0 (moved.map (·.id)) y :=
        filter_ne_of_not_mem fun c hc e => hyq (hne_iid hy c (List.mem_filter.mp hc).1 e)
      rw [if_neg hyq, this]
      split <;> simp
  have hcab2 : ∀ y, (d2.defs y).cables = (d.defs y).cables := fun y => by rw [moveInst_defs]
  have hx2kids : (d2.defs c0.ref).children = (d0.defs c0.ref).children := by
    rw [hkids2 _ hxlt, hmvids, unmoved_snoc, hxkids, if_neg hxtop, List.append_nil]
    exact filter_ne_of_not_mem fun c hc e => hxq (hne_iid hxlt c hc e)
  have hx2leaf : (d2.defs c0.ref).isLeaf = (d0.defs c0.ref).isLeaf := by
    simp only [Defn.isLeaf, hx2kids, hcab2, show (d.defs c0.ref).cables = _ from inv.cablesKeep _ hxlt hxtop hxnd]
  have hqnd : (iid :: rest.map (·.2.1)).Nodup := inv.queueNodup
  have hrestnm : ∀ e ∈ rest, e.2.1 ≠ iid := fun e he heq =>
    (List.nodup_cons.mp hqnd).1 (List.mem_map.mpr ⟨e, he, heq⟩)
  have hdis : ∀ y, Dissolved d0 (moved ++ [li.1]) y ↔ Dissolved d0 moved y ∨ (y = c0.ref ∧ (d0.defs c0.ref).isLeaf = false) := by
    intro y
    rw [dissolved_snoc, hcref]
    exact or_congr_right ⟨fun ⟨e, hl⟩ => ⟨e.symm, e ▸ hl⟩, fun ⟨e, hl⟩ => ⟨e.symm, e ▸ hl⟩⟩
  have hpar : ∀ {y}, y = d0.top ∨ Dissolved d0 moved y → y = d0.top ∨ Dissolved d0 (moved ++ [li.1]) y :=
    fun h => h.imp id (fun h => h.mono _)
  have hmovedOrig' : ∀ m ∈ moved ++ [li.1], MovedOrig d0 (moved ++ [li.1]) m := by
    intro m hm
    rcases List.mem_append.mp hm with hm | hm
    · exact (inv.movedOrig m hm).mono _
    · obtain rfl := List.mem_singleton.mp hm
      exact ⟨p, cs, q, c0, hp.walk, hpar hqd, hc0, hcid, hcref, hcdata, hname'⟩
  have hmovedNodup' : ((moved ++ [li.1]).map (·.id)).Nodup := by
    rw [hmvids]
    exact List.nodup_append.mpr ⟨inv.movedNodup, by simp, fun a ha b hb e => hnm (List.mem_singleton.mp hb ▸ e ▸ ha)⟩
  have hrestQ : ∀ e ∈ rest, QueueOk d0 (moved ++ [li.1]) e := by
    intro e he
    obtain ⟨p', cs', c0', h1, h2, h3, h4, h5, h6⟩ := inv.queue e (List.mem_cons_of_mem _ he)
    refine ⟨p', cs', c0', h1, hpar h2, h3, h4, ?_, h6⟩
    rw [hmvids, List.mem_append, List.mem_singleton]
    exact fun h => h.elim h5 (hrestnm e he)
  -- an original child that was moved or queued is moved or queued afterwards
  have hcomp : ∀ {i : Nat}, i ∈ moved.map (·.id) ∨ i ∈ iid :: rest.map (·.2.1) →
      i ∈ (moved ++ [li.1]).map (·.id) ∨ i ∈ rest.map (·.2.1) := by
    intro i h
    rw [hmvids, List.mem_append, List.mem_singleton]
    rcases h with h | h
    · exact Or.inl (Or.inl h)
    · exact (List.mem_cons.mp h).elim (fun h => Or.inl (Or.inr h)) Or.inr
  have hstep : fStep d q iid pn =
      if (d0.defs c0.ref).isLeaf then (d2, [], [])
      else (dissolve d2 iid (li.1.name.getD "") c0.ref,
            (d0.defs c0.ref).children.map (fun k => (c0.ref, k.id, li.1.name.getD "")), [iid]) := by
    simp only [fStep, hfind, hlidef]
    rw [← hx2leaf, ← hx2kids]
  refine ⟨hstep, ?_⟩
  rw [hstep]
  have hfr : d2.ndefs = d0.ndefs ∧ d2.top = d0.top ∧ d2.order = d0.order ∧ d2.extra = d0.extra :=
    ⟨inv.ndefs, htop, inv.order, inv.extra⟩
  cases hleaf : (d0.defs c0.ref).isLeaf with
  | true =>
    -- leaf: only the move happened
    simp only [hleaf, reduceCtorEq, and_false, or_false] at hdis
    simp only [if_true, List.append_nil]
    exact {
      ndefs := hfr.1, top := hfr.2.1, order := hfr.2.2.1, extra := hfr.2.2.2
      attrs := fun y hy => by rw [moveInst_defs]; exact inv.attrs y hy
      kids := hkids2
      cablesKeep := fun y hy hyt hnd => (hcab2 y).trans (inv.cablesKeep y hy hyt (fun h => hnd ((hdis y).mpr h)))
      cablesGone := fun y hy hyt hd => (hcab2 y).trans (inv.cablesGone y hy hyt ((hdis y).mp hd))
      toRemove := by
        show tr = _
        rw [List.filter_append, List.map_append, show tr = _ from inv.toRemove]
        simp [hcref, hleaf]
      movedNodup := hmovedNodup', movedOrig := hmovedOrig', queue := hrestQ
      queueNodup := (List.nodup_cons.mp hqnd).2
      complete := fun y hy hyd c hc => hcomp (inv.complete y hy (hyd.imp id (hdis y).mp) c hc) }
  | false =>
    simp only [hleaf, and_true] at hdis
    simp only [Bool.false_eq_true, if_false]
    have hnmval : li.1.name.getD "" = slashJoin ((cs ++ [c0]).map instName) := by rw [hname']; rfl
    generalize li.1.name.getD "" = nm at hnmval ⊢
    have hD2top : ∀ {y}, y ≠ d0.top → y ≠ d2.top := fun h => htop ▸ h
    exact {
      ndefs := (dissolve_frame d2 iid nm c0.ref).1.trans hfr.1
      top := (dissolve_frame d2 iid nm c0.ref).2.1.trans hfr.2.1
      order := (dissolve_frame d2 iid nm c0.ref).2.2.1.trans hfr.2.2.1
      extra := (dissolve_frame d2 iid nm c0.ref).2.2.2.trans hfr.2.2.2
      attrs := fun y hy => by rw [dissolve_defs, moveInst_defs]; exact inv.attrs y hy
      kids := fun y hy => by rw [dissolve_defs]; exact hkids2 y hy
      cablesKeep := fun y hy hyt hnd => by
        have hyx : y ≠ c0.ref := fun e => hnd ((hdis y).mpr (Or.inr e))
        show ((dissolve d2 iid nm c0.ref).defs y).cables = _
        rw [dissolve_defs]
        dsimp only
        rw [if_neg (hD2top hyt), if_neg hyx, hcab2]
        exact inv.cablesKeep y hy hyt (fun h => hnd ((hdis y).mpr (Or.inl h)))
      cablesGone := fun y hy hyt hd => by
        show ((dissolve d2 iid nm c0.ref).defs y).cables = _
        rw [dissolve_defs]
        dsimp only
        rw [if_neg (hD2top hyt)]
        split
        · rfl
        · rename_i hyx
          rw [hcab2]
          exact inv.cablesGone y hy hyt (((hdis y).mp hd).resolve_right hyx)
      toRemove := by
        show tr ++ [iid] = _
        rw [List.filter_append, List.map_append, show tr = _ from inv.toRemove]
        simp [hcref, hleaf, hcid']
      movedNodup := hmovedNodup', movedOrig := hmovedOrig'
      queue := fun e he => by
        rcases List.mem_append.mp he with he | he
        · exact hrestQ e he
        · obtain ⟨k, hk, rfl⟩ := List.mem_map.mp he
          refine ⟨_, _, k, (hp.child hyp.wf hc0).walk, Or.inr ((hdis _).mpr (Or.inr rfl)), hk, rfl, ?_, hnmval⟩
          rw [hmvids, List.mem_append, List.mem_singleton]
          rintro (h | h)
          · exact inv.untouched hyp hxlt hxtop hxnd k hk h
          · exact hxq (hne_iid hxlt k hk h)
      queueNodup := by
        rw [List.map_append, List.map_map]
        refine List.nodup_append.mpr ⟨(List.nodup_cons.mp hqnd).2, hyp.wf.ids_nodup hxlt, ?_⟩
        -- a queued instance is a child of top or of a dissolved definition, not of `c0.ref`
        rintro a ha _ hb rfl
        obtain ⟨e, he, hea⟩ := List.mem_map.mp ha
        obtain ⟨k, hk, hkb⟩ := List.mem_map.mp hb
        obtain ⟨p', cs', c0', h1, h2, h3, h4, _, _⟩ := inv.queue e (List.mem_cons_of_mem _ he)
        have he1 : e.1 < d0.ndefs := reach_lt hyp.wf (path_iff_walk.mpr h1).reach
        have : e.1 = c0.ref := hyp.ids_disjoint he1 hxlt h3 hk (by rw [h4, hea]; exact hkb.symm)
        exact (this ▸ h2).elim hxtop hxnd
      complete := fun y hy hyd c hc => by
        have hleft : c.id ∈ rest.map (·.2.1) → c.id ∈ (rest ++ (d0.defs c0.ref).children.map fun k => (c0.ref, k.id, nm)).map (·.2.1) :=
          fun h => by rw [List.map_append]; exact List.mem_append_left _ h
        have hold : y = d0.top ∨ Dissolved d0 moved y ∨ y = c0.ref := hyd.imp id (hdis y).mp
        rcases hold with h | h | rfl
        · exact (hcomp (inv.complete y hy (Or.inl h) c hc)).imp id hleft
        · exact (hcomp (inv.complete y hy (Or.inr h) c hc)).imp id hleft
        · exact Or.inr (List.mem_map.mpr ⟨_, List.mem_append_right _ (List.mem_map.mpr ⟨c, hc, rfl⟩), rfl⟩) }

end step

end Spydr.Xform
