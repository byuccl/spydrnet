/-
  The graph step behind `_redo_connections` in abstract form: wires are given by a function
  `pinsOf : label → List Pin`, a wire touches the node of each of its pins (`nodeOf`: the outer pin
  `inst i p b` and the lifted inner pin `inner i p b` are the SAME node `P i p b`), `R` is the rest of
  the graph.  `redoWire` applied to every wire (`redoOf`) preserves connectivity between all nodes
  other than wires and the dissolved pin `P i p b`.

  Two shapes: (merge) inner and outer wire both exist and differ — the inner net is contracted into
  the outer wire; (delete) otherwise — the dissolved pin only loses its edges, which all went to one
  wire.
-/
import Spydr.Xform.ModelFlatten
import Spydr.Xform.SpecFlat
import Spydr.Xform.LemmasSpec

namespace Spydr.Xform

def nodeOf : Pin → UNode
  | .port pi b => .T pi b
  | .inst i pi b => .P i pi b
  | .inner i pi b => .P i pi b

theorem nodeOf_ne_W (p : Pin) (c k : Nat) : nodeOf p ≠ .W c k := by cases p <;> simp [nodeOf]

theorem nodeOf_eq_P {p : Pin} {i pi b : Nat} (h : nodeOf p = .P i pi b) : p = .inner i pi b ∨ p = .inst i pi b := by
  cases p <;> simp [nodeOf] at h
  · right; obtain ⟨rfl, rfl, rfl⟩ := h; rfl
  · left; obtain ⟨rfl, rfl, rfl⟩ := h; rfl

abbrev Label := Nat × Nat

/-- wires of the top definition touch the nodes of their pins; `R`: all other edges -/
def WAdj (pinsOf : Label → List Pin) (R : UNode → UNode → Prop) (a b : UNode) : Prop :=
  (∃ l p, a = .W l.1 l.2 ∧ p ∈ pinsOf l ∧ b = nodeOf p) ∨ R a b

def redoOf (pinsOf : Label → List Pin) (ip op : Pin) (inW : Option (List Pin)) (hasOut : Bool) : Label → List Pin :=
  fun l => redoWire ip op inW hasOut (pinsOf l)

structure PinsOk (pinsOf : Label → List Pin) : Prop where
  nodup : ∀ l, (pinsOf l).Nodup
  uniq : ∀ p l1 l2, p ∈ pinsOf l1 → p ∈ pinsOf l2 → l1 = l2

def InSpec (pinsOf : Label → List Pin) (ip : Pin) (inW : Option (List Pin)) : Prop :=
  (inW = none ∧ ∀ l, ip ∉ pinsOf l) ∨ (∃ lI, ip ∈ pinsOf lI ∧ inW = some (pinsOf lI))

def OutSpec (pinsOf : Label → List Pin) (op : Pin) (hasOut : Bool) : Prop :=
  (hasOut = false ∧ ∀ l, op ∉ pinsOf l) ∨ (hasOut = true ∧ ∃ lO, op ∈ pinsOf lO)

theorem redoWire_mem_iff {ip op : Pin} {inW : Option (List Pin)} {hasOut : Bool} {w : List Pin} (hw : w.Nodup)
    (hI : ∀ I, inW = some I → I.Nodup) (p : Pin) :
    p ∈ redoWire ip op inW hasOut w ↔
      (ip ∈ w ∧ op ∈ w ∧ p ∈ w ∧ p ≠ ip ∧ p ≠ op) ∨
      (ip ∈ w ∧ op ∉ w ∧ hasOut = false ∧ p ∈ w ∧ p ≠ ip) ∨
      (ip ∉ w ∧ op ∈ w ∧ ((p ∈ w ∧ p ≠ op) ∨ ∃ I, inW = some I ∧ p ∈ I ∧ p ≠ ip)) ∨
      (ip ∉ w ∧ op ∉ w ∧ p ∈ w) := by
  unfold redoWire
  by_cases h1 : ip ∈ w <;> by_cases h2 : op ∈ w
  · simp only [List.contains_iff_mem, h1, h2, if_true]
    rw [(hw.erase ip).mem_erase_iff, hw.mem_erase_iff]
    simp only [true_and, not_true_eq_false, false_and, or_false]
    exact ⟨fun ⟨a, b, c⟩ => ⟨c, b, a⟩, fun ⟨c, b, a⟩ => ⟨a, b, c⟩⟩
  · simp only [List.contains_iff_mem, h1, h2, if_true, if_false]
    cases hasOut
    · simp only [Bool.false_eq_true, if_false]
      rw [hw.mem_erase_iff]
      simp only [true_and, not_true_eq_false, not_false_eq_true, false_and, or_false, false_or]
      exact And.comm
    · simp
  · simp only [List.contains_iff_mem, h1, h2, if_true, if_false]
    cases hin : inW with
    | none =>
      simp only
      rw [hw.mem_erase_iff]
      simp only [true_and, not_true_eq_false, not_false_eq_true, false_and, or_false, false_or, reduceCtorEq, exists_false]
      exact And.comm
    | some I =>
      simp only [List.mem_append]
      rw [hw.mem_erase_iff, (hI I hin).mem_erase_iff]
      simp only [true_and, not_true_eq_false, not_false_eq_true, false_and, or_false, false_or, Option.some.injEq]
      exact or_congr And.comm ⟨fun ⟨a, b⟩ => ⟨I, rfl, b, a⟩, fun ⟨_, e, b, a⟩ => e ▸ ⟨a, b⟩⟩
  · simp [h1, h2]

/-- the wires after the step in terms of the wires before: both pins are gone; if the inner pin sat
    on a wire `lI` other than the outer pin's wire `lM`, that wire has been emptied into `lM`
    (contraction of the inner net into the outer wire); otherwise the pins only disappear.
    `lM` and `lI` are the only wires that touched either pin. -/
structure RedoShape (pinsOf pinsOf' : Label → List Pin) (ip op : Pin) (lI? : Option Label) (lM : Label) : Prop where
  mem : ∀ l p, p ∈ pinsOf' l ↔ p ≠ ip ∧ p ≠ op ∧ lI? ≠ some l ∧
    (p ∈ pinsOf l ∨ (l = lM ∧ ∃ lI, lI? = some lI ∧ p ∈ pinsOf lI))
  touch : ∀ l, ip ∈ pinsOf l ∨ op ∈ pinsOf l → l = lM ∨ lI? = some l
  bridge : ∀ lI, lI? = some lI → ip ∈ pinsOf lI ∧ op ∈ pinsOf lM ∧ lI ≠ lM

theorem RedoShape.delete {pinsOf pinsOf' : Label → List Pin} {ip op : Pin} {lM : Label}
    (hm : ∀ l p, p ∈ pinsOf' l ↔ p ∈ pinsOf l ∧ p ≠ ip ∧ p ≠ op)
    (ht : ∀ l, (ip ∈ pinsOf l ∨ op ∈ pinsOf l) → l = lM) : RedoShape pinsOf pinsOf' ip op none lM where
  mem := fun l p => (hm l p).trans
    ⟨fun ⟨a, b, c⟩ => ⟨b, c, nofun, Or.inl a⟩, fun ⟨b, c, _, h⟩ => ⟨h.resolve_right (fun ⟨_, _, e, _⟩ => nomatch e), b, c⟩⟩
  touch := fun l h => Or.inl (ht l h)
  bridge := nofun

theorem RedoShape.merge {pinsOf pinsOf' : Label → List Pin} {ip op : Pin} {lI lO : Label} (ok : PinsOk pinsOf)
    (hipI : ip ∈ pinsOf lI) (hopO : op ∈ pinsOf lO) (hIO : lI ≠ lO)
    (hm : ∀ l p, p ∈ pinsOf' l ↔ (l ≠ lI ∧ ((p ∈ pinsOf l ∧ p ≠ op) ∨ (l = lO ∧ p ∈ pinsOf lI ∧ p ≠ ip)))) :
    RedoShape pinsOf pinsOf' ip op (some lI) lO where
  mem := by
    intro l p
    rw [hm l p]
    constructor
    · rintro ⟨hl, ⟨h, h'⟩ | ⟨rfl, h, h'⟩⟩
      · exact ⟨fun e => hl (ok.uniq _ _ _ (e ▸ h) hipI), h', fun e => hl (Option.some.inj e).symm, Or.inl h⟩
      · exact ⟨h', fun e => hIO (ok.uniq _ _ _ (e ▸ h) hopO), fun e => hl (Option.some.inj e).symm, Or.inr ⟨rfl, lI, rfl, h⟩⟩
    · rintro ⟨h1, h2, hl, h | ⟨rfl, _, e, h⟩⟩
      · exact ⟨fun e => hl (e ▸ rfl), Or.inl ⟨h, h2⟩⟩
      · cases e; exact ⟨fun e => hl (e ▸ rfl), Or.inr ⟨rfl, h, h1⟩⟩
  touch := fun l h => h.elim (fun h => Or.inr (by rw [ok.uniq _ _ _ h hipI])) (fun h => Or.inl (ok.uniq _ _ _ h hopO))
  bridge := fun _ e => by cases e; exact ⟨hipI, hopO, hIO⟩

section shapes
variable {pinsOf : Label → List Pin} {ip op : Pin} {inW : Option (List Pin)} {hasOut : Bool}

theorem redo_shape (ok : PinsOk pinsOf) (hin : InSpec pinsOf ip inW) (hout : OutSpec pinsOf op hasOut) :
    ∃ lI? lM, RedoShape pinsOf (redoOf pinsOf ip op inW hasOut) ip op lI? lM := by
  have hI : ∀ I, inW = some I → I.Nodup := by
    intro I hI
    rcases hin with ⟨h, _⟩ | ⟨lI, _, h⟩
    · rw [h] at hI; cases hI
    · rw [h] at hI; cases hI; exact ok.nodup lI
  have hmem := fun l p => redoWire_mem_iff (ip := ip) (op := op) (inW := inW) (hasOut := hasOut) (ok.nodup l) hI p
  -- unless the two pins sit on different wires, both just disappear
  have hdel : (∀ l, ip ∈ pinsOf l → op ∉ pinsOf l → hasOut = false) → (∀ l, ip ∉ pinsOf l → op ∈ pinsOf l → inW = none) →
      ∀ l p, p ∈ redoOf pinsOf ip op inW hasOut l ↔ p ∈ pinsOf l ∧ p ≠ ip ∧ p ≠ op := by
    intro hA hB l p
    have hne : ∀ {q}, q ∉ pinsOf l → p ∈ pinsOf l → p ≠ q := fun hq hp e => hq (e ▸ hp)
    rw [redoOf, hmem l p]
    by_cases h1 : ip ∈ pinsOf l <;> by_cases h2 : op ∈ pinsOf l
    · simp [h1, h2]
    · simp only [h1, h2, hA l h1 h2, true_and, not_true_eq_false, not_false_eq_true, false_and, or_false, false_or]
      exact ⟨fun ⟨a, b⟩ => ⟨a, b, hne h2 a⟩, fun ⟨a, b, _⟩ => ⟨a, b⟩⟩
    · simp only [h1, h2, hB l h1 h2, true_and, not_true_eq_false, not_false_eq_true, false_and, or_false, false_or,
        reduceCtorEq, exists_false]
      exact ⟨fun ⟨a, b⟩ => ⟨a, hne h1 a, b⟩, fun ⟨a, _, b⟩ => ⟨a, b⟩⟩
    · simp only [h1, h2, not_false_eq_true, true_and, false_and, false_or]
      exact ⟨fun a => ⟨a, hne h1 a, hne h2 a⟩, fun h => h.1⟩
  rcases hin with ⟨hinW, hnoip⟩ | ⟨lI, hipI, hinW⟩
  · -- the inner pin is on no wire
    have hm := hdel (fun l h => absurd h (hnoip l)) (fun _ _ _ => hinW)
    rcases hout with ⟨_, hnoop⟩ | ⟨_, lO, hopO⟩
    · exact ⟨none, (0, 0), .delete hm fun l h => h.elim (fun h => absurd h (hnoip l)) (fun h => absurd h (hnoop l))⟩
    · exact ⟨none, lO, .delete hm fun l h => h.elim (fun h => absurd h (hnoip l)) (fun h => ok.uniq _ _ _ h hopO)⟩
  · rcases hout with ⟨hout, hnoop⟩ | ⟨hout, lO, hopO⟩
    · -- the outer pin is on no wire
      exact ⟨none, lI, .delete (hdel (fun _ _ _ => hout) (fun l _ h => absurd h (hnoop l)))
        fun l h => h.elim (fun h => ok.uniq _ _ _ h hipI) (fun h => absurd h (hnoop l))⟩
    · by_cases hsame : lI = lO
      · -- both pins on the same wire
        subst hsame
        exact ⟨none, lI, .delete
          (hdel (fun l h1 h2 => absurd (ok.uniq _ _ _ h1 hipI ▸ hopO) h2) (fun l h1 h2 => absurd (ok.uniq _ _ _ h2 hopO ▸ hipI) h1))
          fun l h => h.elim (fun h => ok.uniq _ _ _ h hipI) (fun h => ok.uniq _ _ _ h hopO)⟩
      · -- the inner wire `lI` is emptied into the outer wire `lO`
        refine ⟨some lI, lO, .merge ok hipI hopO hsame fun l p => ?_⟩
        rw [redoOf, hmem l p]
        by_cases hl : l = lI
        · subst hl
          have h2 : op ∉ pinsOf l := fun h => hsame (ok.uniq _ _ _ h hopO)
          simp [hipI, h2, hout]
        · have h1 : ip ∉ pinsOf l := fun h => hl (ok.uniq _ _ _ h hipI)
          by_cases hlo : l = lO
          · subst hlo
            simp only [h1, hopO, false_and, not_false_eq_true, true_and, false_or, not_true_eq_false, or_false, hinW,
              Option.some.injEq, ne_eq, hl]
            exact or_congr_right ⟨fun ⟨I, e, h⟩ => e ▸ h, fun h => ⟨_, rfl, h⟩⟩
          · have h2 : op ∉ pinsOf l := fun h => hlo (ok.uniq _ _ _ h hopO)
            simp only [h1, h2, false_and, not_false_eq_true, true_and, false_or, ne_eq, hl, hlo, or_false]
            exact ⟨fun h => ⟨h, fun e => h2 (e ▸ h)⟩, fun h => h.1⟩

theorem redo_pinsOk (ok : PinsOk pinsOf) (hin : InSpec pinsOf ip inW) (hout : OutSpec pinsOf op hasOut) :
    PinsOk (redoOf pinsOf ip op inW hasOut) := by
  refine ⟨fun l => ?_, ?_⟩
  · have hw := ok.nodup l
    simp only [redoOf, redoWire]
    split
    · split
      · exact (hw.erase ip).erase op
      · split
        · exact List.nodup_nil
        · exact hw.erase ip
    · rename_i h1
      split
      · rcases hin with ⟨h, _⟩ | ⟨lI, hipI, h⟩
        · rw [h]; exact hw.erase op
        · rw [h]
          refine List.nodup_append.mpr ⟨hw.erase op, (ok.nodup lI).erase ip, ?_⟩
          rintro a ha _ hb rfl
          obtain rfl : l = lI := ok.uniq _ _ _ (List.mem_of_mem_erase ha) (List.mem_of_mem_erase hb)
          exact h1 (by simpa using hipI)
      · exact hw
  · obtain ⟨lI?, lM, hs⟩ := redo_shape ok hin hout
    intro p l1 l2 h1 h2
    obtain ⟨_, _, hl1, h1⟩ := (hs.mem l1 p).mp h1
    obtain ⟨_, _, hl2, h2⟩ := (hs.mem l2 p).mp h2
    rcases h1 with h1 | ⟨rfl, lI, e1, h1⟩ <;> rcases h2 with h2 | ⟨rfl, lI', e2, h2⟩
    · exact ok.uniq p l1 l2 h1 h2
    · exact absurd (ok.uniq p l1 lI' h1 h2 ▸ e2) hl1
    · exact absurd (ok.uniq p l2 lI h2 h1 ▸ e1) hl2
    · rfl

theorem redo_keeps (ok : PinsOk pinsOf) (hne : ip ≠ op) (hin : InSpec pinsOf ip inW) (hout : OutSpec pinsOf op hasOut)
    (l : Label) (p : Pin) (hp : p ∈ pinsOf l) (h1 : p ≠ ip) (h2 : p ≠ op) : ∃ l', p ∈ redoOf pinsOf ip op inW hasOut l' := by
  obtain ⟨lI?, lM, hs⟩ := redo_shape ok hin hout
  by_cases hl : lI? = some l
  · exact ⟨lM, (hs.mem lM p).mpr ⟨h1, h2, fun e => (hs.bridge l hl).2.2 (Option.some.inj (hl.symm.trans e)), Or.inr ⟨rfl, l, hl, hp⟩⟩⟩
  · exact ⟨l, (hs.mem l p).mpr ⟨h1, h2, hl, Or.inl hp⟩⟩

end shapes

section conn
variable {pinsOf pinsOf' : Label → List Pin} {R : UNode → UNode → Prop} {iid pi bit : Nat}

theorem nodeOf_inner (i pi b : Nat) : nodeOf (.inner i pi b) = .P i pi b := rfl
theorem nodeOf_inst (i pi b : Nat) : nodeOf (.inst i pi b) = .P i pi b := rfl

/-- the step preserves connectivity between nodes other than wires and the dissolved pin, provided
    the rest of the graph touches neither that pin nor the emptied wire -/
theorem conn_of_redo {lI? : Option Label} {lM : Label}
    (hs : RedoShape pinsOf pinsOf' (.inner iid pi bit) (.inst iid pi bit) lI? lM)
    (hR : ∀ a b, R a b → a ≠ .P iid pi bit ∧ b ≠ .P iid pi bit ∧ (∀ lI, lI? = some lI → a ≠ .W lI.1 lI.2) ∧ ∀ c k, b ≠ .W c k)
    {a b : UNode} (ha : a ≠ .P iid pi bit) (hb : b ≠ .P iid pi bit)
    (haw : ∀ c k, a ≠ .W c k) (hbw : ∀ c k, b ≠ .W c k) :
    Conn (WAdj pinsOf R) a b ↔ Conn (WAdj pinsOf' R) a b := by
  -- the dissolved pin and the emptied wire (if any) collapse onto the wire `lM`
  let φ : UNode → UNode := fun n => if n = .P iid pi bit ∨ (∃ lI, lI? = some lI ∧ n = .W lI.1 lI.2) then .W lM.1 lM.2 else n
  have hφ : ∀ {n}, n ≠ .P iid pi bit → (∀ lI, lI? = some lI → n ≠ .W lI.1 lI.2) → φ n = n :=
    fun h1 h2 => if_neg (fun h => h.elim h1 (fun ⟨lI, e, h⟩ => h2 lI e h))
  have hφW : ∀ l : Label, lI? ≠ some l → φ (.W l.1 l.2) = .W l.1 l.2 :=
    fun l hl => hφ nofun (fun lI e h => hl (by rw [e, Prod.ext (UNode.W.inj h).1 (UNode.W.inj h).2]))
  refine Conn.iff_of_map φ ?_ ?_ (hφ ha fun _ _ => haw _ _) (hφ hb fun _ _ => hbw _ _)
  · rintro u v (⟨l, p, rfl, hp, rfl⟩ | h)
    · by_cases hpp : p = .inner iid pi bit ∨ p = .inst iid pi bit
      · -- an edge into the dissolved pin: both ends go to `lM`
        have hv : φ (nodeOf p) = .W lM.1 lM.2 := if_pos (Or.inl (by rcases hpp with rfl | rfl <;> rfl))
        have hu : φ (.W l.1 l.2) = .W lM.1 lM.2 := by
          rcases hs.touch l (hpp.elim (fun e => Or.inl (e ▸ hp)) (fun e => Or.inr (e ▸ hp))) with rfl | e
          · by_cases e : lI? = some l
            · exact if_pos (Or.inr ⟨l, e, rfl⟩)
            · exact hφW l e
          · exact if_pos (Or.inr ⟨l, e, rfl⟩)
        rw [hu, hv]; exact Conn.refl _
      · have h1 : p ≠ .inner iid pi bit := fun e => hpp (Or.inl e)
        have h2 : p ≠ .inst iid pi bit := fun e => hpp (Or.inr e)
        rw [hφ (fun e => hpp (nodeOf_eq_P e)) (fun _ _ => nodeOf_ne_W p _ _)]
        by_cases e : lI? = some l
        · rw [show φ (.W l.1 l.2) = .W lM.1 lM.2 from if_pos (Or.inr ⟨l, e, rfl⟩)]
          exact Conn.rel (Or.inl ⟨lM, p, rfl, (hs.mem lM p).mpr
            ⟨h1, h2, fun e' => (hs.bridge l e).2.2 (Option.some.inj (e.symm.trans e')), Or.inr ⟨rfl, l, e, hp⟩⟩, rfl⟩)
        · rw [hφW l e]
          exact Conn.rel (Or.inl ⟨l, p, rfl, (hs.mem l p).mpr ⟨h1, h2, e, Or.inl hp⟩, rfl⟩)
    · obtain ⟨h1, h2, h3, h4⟩ := hR u v h
      rw [hφ h1 h3, hφ h2 fun _ _ => h4 _ _]
      exact Conn.rel (Or.inr h)
  · rintro u v (⟨l, p, rfl, hp, rfl⟩ | h)
    · rcases ((hs.mem l p).mp hp).2.2.2 with hp | ⟨rfl, lI, e, hp⟩
      · exact Conn.rel (Or.inl ⟨l, p, rfl, hp, rfl⟩)
      · -- a pin that came over from the emptied wire: `lM` and `lI` were connected through the dissolved pin
        obtain ⟨hipI, hopO, _⟩ := hs.bridge lI e
        exact Conn.trans (Conn.trans (Conn.rel (Or.inl ⟨l, _, rfl, hopO, rfl⟩))
          (Conn.symm (Conn.rel (Or.inl ⟨lI, _, rfl, hipI, rfl⟩)))) (Conn.rel (Or.inl ⟨lI, p, rfl, hp, rfl⟩))
    · exact Conn.rel (Or.inr h)

end conn

theorem wadj_congr {f g : Label → List Pin} {R S : UNode → UNode → Prop} (hfg : ∀ l p, p ∈ f l ↔ p ∈ g l)
    (hRS : ∀ a b, R a b ↔ S a b) (a b : UNode) : WAdj f R a b ↔ WAdj g S a b := by
  simp only [WAdj]
  constructor
  · rintro (⟨l, p, h1, h2, h3⟩ | h)
    · exact Or.inl ⟨l, p, h1, (hfg l p).mp h2, h3⟩
    · exact Or.inr ((hRS a b).mp h)
  · rintro (⟨l, p, h1, h2, h3⟩ | h)
    · exact Or.inl ⟨l, p, h1, (hfg l p).mpr h2, h3⟩
    · exact Or.inr ((hRS a b).mpr h)

end Spydr.Xform
