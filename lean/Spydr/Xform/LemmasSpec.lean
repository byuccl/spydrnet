/-
  Lemmas about the definitions of `Model.lean`, `Spec.lean` and `SpecElab.lean` that the proofs about both
  transformations use: projections of `WF`, pin validity across designs, reference counting, reachability,
  acyclicity and uniqueness, the lookup `childById`, the equivalence closure `Conn`.
-/
import Spydr.Xform.SpecElab
import Spydr.Xform.LemmasList

namespace Spydr.Xform

theorem Defn.ext' {D D' : Defn} (h1 : D.lib = D'.lib) (h2 : D.name = D'.name) (h3 : D.eid = D'.eid) (h4 : D.info = D'.info)
    (h5 : D.ports = D'.ports) (h6 : D.cables = D'.cables) (h7 : D.children = D'.children) : D = D' := by
  cases D; cases D'; simp_all

theorem WF.wfDef {d : Design} (h : WF d) {j : Nat} (hj : j < d.ndefs) : WFDef d (d.defs j) :=
  h.2.1 j (List.mem_range.mpr hj)

theorem WF.ref_lt {d : Design} (h : WF d) {j : Nat} (hj : j < d.ndefs) {c : Inst} (hc : c ∈ (d.defs j).children) :
    c.ref < d.ndefs := (h.wfDef hj).1 c hc

theorem WF.ids_nodup {d : Design} (h : WF d) {j : Nat} (hj : j < d.ndefs) : ((d.defs j).children.map (·.id)).Nodup :=
  (h.wfDef hj).2.1

/-- the witness of `Acyclic` -/
def RankOk (d : Design) (rank : Nat → Nat) : Prop :=
  ∀ q, q < d.ndefs → ∀ c ∈ (d.defs q).children, rank c.ref < rank q

theorem pinOk_transfer {d d' : Design} {D D' : Defn} (hp : D'.ports = D.ports)
    (hc : ∀ c ∈ D.children, ∃ c' ∈ D'.children, c'.id = c.id ∧ (d'.defs c'.ref).ports = (d.defs c.ref).ports)
    {p : Pin} (h : PinOk d D p) : PinOk d' D' p := by
  cases p with
  | port pi bit => simpa [PinOk, hp] using h
  | inst iid pi bit =>
    obtain ⟨c, hcm, hid, P, hP, hb⟩ := h
    obtain ⟨c', hc'm, hid', hports⟩ := hc c hcm
    exact ⟨c', hc'm, hid'.trans hid, P, by rw [hports]; exact hP, hb⟩
  | inner _ _ _ => exact h.elim

theorem refsTo_eq_zero {D : Defn} {y : Nat} (h : ∀ c ∈ D.children, c.ref ≠ y) : D.refsTo y = 0 := by
  simp only [Defn.refsTo, List.countP_eq_zero]
  intro c hc; simpa using h c hc

theorem refsTo_pos {D : Defn} {y : Nat} {c : Inst} (hc : c ∈ D.children) (h : c.ref = y) : 1 ≤ D.refsTo y :=
  List.countP_pos_iff.mpr ⟨c, hc, by simpa using h⟩

theorem extra_add_refsTo_le_refCount (d : Design) {q : Nat} (hq : q < d.ndefs) (y : Nat) :
    d.extra y + (d.defs q).refsTo y ≤ d.refCount y :=
  Nat.add_le_add_left (sum_range_ge (fun j => (d.defs j).refsTo y) d.ndefs q hq) _

theorem refsTo_add_le_refCount (d : Design) {q r : Nat} (hq : q < d.ndefs) (hr : r < d.ndefs) (hne : q ≠ r) (y : Nat) :
    (d.defs q).refsTo y + (d.defs r).refsTo y ≤ d.refCount y :=
  Nat.le_trans (sum_range_ge2 (fun j => (d.defs j).refsTo y) d.ndefs q r hq hr hne) (Nat.le_add_left _ _)

theorem childById_id {D : Defn} {iid : Nat} {c : Inst} (h : childById D iid = some c) : c.id = iid ∧ c ∈ D.children :=
  ⟨by simpa using List.find?_some h, List.mem_of_find?_eq_some h⟩

theorem childById_of_mem {D : Defn} (hnd : (D.children.map (·.id)).Nodup) {c : Inst} (hc : c ∈ D.children) :
    childById D c.id = some c := find?_key (fun x : Inst => x.id) hnd hc

theorem reach_lt {d : Design} (hwf : WF d) {y : Nat} (hy : Reach d y) : y < d.ndefs := by
  induction hy with
  | top => exact hwf.1
  | step _ hc ih => exact hwf.ref_lt ih hc

theorem nonleaf_of_child {D : Defn} {c : Inst} (h : c ∈ D.children) : D.isLeaf = false := by
  cases hch : D.children with
  | nil => rw [hch] at h; cases h
  | cons a l => simp [Defn.isLeaf, hch]

theorem nonleaf_of_cable {D : Defn} {c : Cable} (h : c ∈ D.cables) : D.isLeaf = false := by
  cases hch : D.cables with
  | nil => rw [hch] at h; cases h
  | cons a l => simp [Defn.isLeaf, hch]

theorem unique_of_flat {d : Design} (h : Flat d) : Unique d := by
  have hP : ∀ q, Reach d q → q = d.top ∨ (d.defs q).children = [] := by
    intro q hq
    induction hq with
    | top => exact Or.inl rfl
    | step _ hc ih =>
      rcases ih with rfl | e
      · have := h _ hc
        simp only [Defn.isLeaf, Bool.and_eq_true, List.isEmpty_iff] at this
        exact Or.inr this.1
      · rw [e] at hc; cases hc
  intro q c hq hc
  rcases hP q hq with rfl | e
  · exact Or.inl (h _ hc)
  · rw [e] at hc; cases hc

theorem reach_rank {d : Design} {rank : Nat → Nat} (hr : RankOk d rank) (hwf : WF d)
    {x : Nat} (hx : Reach d x) : x < d.ndefs ∧ (x = d.top ∨ rank x < rank d.top) := by
  induction hx with
  | top => exact ⟨hwf.1, Or.inl rfl⟩
  | step _ hc ih =>
    have h1 := hwf.ref_lt ih.1 hc
    have h2 := hr _ ih.1 _ hc
    refine ⟨h1, Or.inr ?_⟩
    rcases ih.2 with e | e
    · rw [← e]; exact h2
    · omega

theorem reach_child_ne_top {d : Design} (hac : Acyclic d) (hwf : WF d) {q : Nat} (hq : Reach d q)
    {c : Inst} (hc : c ∈ (d.defs q).children) : c.ref ≠ d.top := by
  obtain ⟨rank, hr⟩ := hac
  have h1 := reach_rank hr hwf hq
  have h2 := hr q h1.1 c hc
  intro e
  rw [e] at h2
  rcases h1.2 with e' | e'
  · rw [e'] at h2; omega
  · omega

theorem child_ne_self {d : Design} (hac : Acyclic d) {q : Nat} (hq : q < d.ndefs)
    {c : Inst} (hc : c ∈ (d.defs q).children) : c.ref ≠ q := by
  obtain ⟨rank, hr⟩ := hac
  have := hr q hq c hc
  intro e; rw [e] at this; omega

theorem ref_unique_of_count {d : Design} {x q1 q2 : Nat} {c1 c2 : Inst} (h1 : d.refCount x = 1)
    (hq1 : q1 < d.ndefs) (hq2 : q2 < d.ndefs) (hc1 : c1 ∈ (d.defs q1).children) (hc2 : c2 ∈ (d.defs q2).children)
    (hr1 : c1.ref = x) (hr2 : c2.ref = x) : q1 = q2 ∧ c1 = c2 := by
  have p1 := refsTo_pos hc1 hr1
  have p2 := refsTo_pos hc2 hr2
  by_cases hq : q1 = q2
  · subst hq
    refine ⟨rfl, ?_⟩
    by_cases hc : c1 = c2
    · exact hc
    · have h2 : 2 ≤ (d.defs q1).refsTo x :=
        countP_ge_two (fun c : Inst => c.ref == x) _ c1 c2 hc1 hc2 hc (by simpa using hr1) (by simpa using hr2)
      have h3 := extra_add_refsTo_le_refCount d hq1 x
      omega
  · have := refsTo_add_le_refCount d hq1 hq2 hq x
    omega

theorem unique_ref {d : Design} (hwf : WF d) (hu : Unique d) {q1 q2 : Nat} {c1 c2 : Inst}
    (hq1 : Reach d q1) (hq2 : Reach d q2) (hc1 : c1 ∈ (d.defs q1).children) (hc2 : c2 ∈ (d.defs q2).children)
    (hr : c1.ref = c2.ref) (hl : (d.defs c1.ref).isLeaf = false) : q1 = q2 ∧ c1 = c2 := by
  rcases hu q1 c1 hq1 hc1 with h | h
  · rw [hl] at h; cases h
  · exact ref_unique_of_count h (reach_lt hwf hq1) (reach_lt hwf hq2) hc1 hc2 rfl hr.symm

theorem Conn.map {α β : Type} {r : α → α → Prop} {s : β → β → Prop} (φ : α → β)
    (h : ∀ a b, r a b → Conn s (φ a) (φ b)) {a b : α} (hc : Conn r a b) : Conn s (φ a) (φ b) := by
  induction hc with
  | rel hab => exact h _ _ hab
  | refl a => exact Conn.refl _
  | symm _ ih => exact Conn.symm ih
  | trans _ _ ih1 ih2 => exact Conn.trans ih1 ih2

theorem Conn.mono {α : Type} {r s : α → α → Prop} (h : ∀ a b, r a b → s a b) {a b : α} (hc : Conn r a b) :
    Conn s a b :=
  Conn.map id (fun _ _ hab => Conn.rel (h _ _ hab)) hc

theorem Conn.iff_of_map {α : Type} {r s : α → α → Prop} (φ : α → α) (h1 : ∀ u v, r u v → Conn s (φ u) (φ v))
    (h2 : ∀ u v, s u v → Conn r u v) {a b : α} (ha : φ a = a) (hb : φ b = b) : Conn r a b ↔ Conn s a b :=
  ⟨fun h => by simpa only [ha, hb] using Conn.map φ h1 h, Conn.map id h2⟩

theorem conn_congr {α : Type} {r s : α → α → Prop} (h : ∀ a b, r a b ↔ s a b) (a b : α) : Conn r a b ↔ Conn s a b :=
  ⟨Conn.mono (fun a b => (h a b).mp), Conn.mono (fun a b => (h a b).mpr)⟩

end Spydr.Xform
