/-
  The flattened design again satisfies the hypotheses of the bridge (`Hyp`), hence the C09
  connectivity theorem can be stated in the path-based semantics of the elaboration.
-/
import Spydr.Xform.LemmasFlatFinal
import Spydr.Xform.LemmasBridge

namespace Spydr.Xform

section finalhyp
variable {d0 : Design} {s : FState} {moved : List Inst}

theorem final_child_cases (invA : FInvA d0 s moved) {x : Nat} (hx : x < d0.ndefs) {a : Inst}
    (ha : a ∈ ((fFinal s).defs x).children) :
    (a ∈ (d0.defs x).children ∧ a.id ∉ moved.map (·.id)) ∨ (x = d0.top ∧ a ∈ moved) :=
  (invA.mem_children hx).mp ((mem_fFinal_children s x).mp ha).1

theorem final_cable_cases (hyp : Hyp d0) (invA : FInvA d0 s moved) (invB : FInvB d0 (s.d.defs d0.top).cables s.toRemove moved)
    (hq : s.queue = []) {x : Nat} (hx : x < d0.ndefs) {c : Cable} (hc : c ∈ ((fFinal s).defs x).cables) :
    ∃ y, y < d0.ndefs ∧ (∃ c0 ∈ (d0.defs y).cables, c0.id = c.id) ∧
      ((x = d0.top ∧ (y = d0.top ∨ Dissolved d0 moved y)) ∨ (x ≠ d0.top ∧ y = x ∧ ¬ Dissolved d0 moved x)) := by
  rw [invA.final_defs hyp hq hx] at hc
  split at hc
  · obtain ⟨y, hy, hyd, c0, hc0, hid⟩ := invB.idsOrig _ (List.mem_map_of_mem hc)
    exact ⟨y, hy, ⟨c0, hc0, hid⟩, Or.inl ⟨‹_›, hyd⟩⟩
  · split at hc
    · cases hc
    · exact ⟨x, hx, ⟨c, hc, rfl⟩, Or.inr ⟨‹_›, rfl, ‹_›⟩⟩

theorem hyp_final (hyp : Hyp d0) (invA : FInvA d0 s moved) (invB : FInvB d0 (s.d.defs d0.top).cables s.toRemove moved) (hq : s.queue = []) :
    Hyp (fFinal s) := by
  have hwf := wf_final hyp invA invB hq
  have hn : (fFinal s).ndefs = d0.ndefs := invA.ndefs
  have htop : (fFinal s).top = d0.top := invA.top
  have hleaves := invA.leavesOf hyp hq
  refine { wf := hwf, ids := ?_, uniq := ?_, acyc := ?_ }
  · refine ⟨fun i hi => (hwf.2.1 i hi).2.1, ?_, ?_, ?_⟩
    · intro i hi j hj hij a ha b hb e
      rw [hn] at hi hj
      have hi' : i < d0.ndefs := by simpa using hi
      have hj' : j < d0.ndefs := by simpa using hj
      rcases final_child_cases invA hi' ha with ⟨ha1, ha2⟩ | ⟨hit, ham⟩ <;>
        rcases final_child_cases invA hj' hb with ⟨hb1, hb2⟩ | ⟨hjt, hbm⟩
      · exact hij (hyp.ids_disjoint hi' hj' ha1 hb1 e)
      · exact ha2 (List.mem_map.mpr ⟨b, hbm, e.symm⟩)
      · exact hb2 (List.mem_map.mpr ⟨a, ham, e⟩)
      · exact hij (hit.trans hjt.symm)
    · intro i hi
      rw [hn] at hi
      have hi' : i < d0.ndefs := by simpa using hi
      rw [invA.final_defs hyp hq hi']
      split
      · exact invB.idsNodup
      · split
        · exact List.nodup_nil
        · exact hyp.ids.2.2.1 i hi
    · intro i hi j hj hij a ha b hb e
      rw [hn] at hi hj
      have hi' : i < d0.ndefs := by simpa using hi
      have hj' : j < d0.ndefs := by simpa using hj
      obtain ⟨y, hy, ⟨a0, ha0, haid⟩, hcase⟩ := final_cable_cases hyp invA invB hq hi' ha
      obtain ⟨z, hz, ⟨b0, hb0, hbid⟩, hcase'⟩ := final_cable_cases hyp invA invB hq hj' hb
      have hyz : y = z := hyp.cable_ids_disjoint hy hz ha0 hb0 (haid.trans (e.trans hbid.symm))
      subst hyz
      rcases hcase with ⟨hit, hyd⟩ | ⟨hit, hyi, hnd⟩ <;> rcases hcase' with ⟨hjt, hyd'⟩ | ⟨hjt, hyj, hnd'⟩
      · exact hij (hit.trans hjt.symm)
      · subst hyj
        rcases hyd with h | h
        · exact hjt h
        · exact hnd' h
      · subst hyi
        rcases hyd' with h | h
        · exact hit h
        · exact hnd h
      · exact hij (hyi.symm.trans hyj)
  · exact unique_of_flat hleaves.flat
  · obtain ⟨rank, hr⟩ := hyp.acyc
    refine ⟨rank, ?_⟩
    intro q hq' c hc
    rw [hn] at hq'
    rcases final_child_cases invA hq' hc with ⟨h1, _⟩ | ⟨hqt, hm⟩
    · exact hr q hq' c h1
    · obtain ⟨q0, c0, hq0, hc0, _, hcr⟩ := invA.moved_reach hm
      have h1 := reach_rank hr hyp.wf hq0
      have h2 := hr q0 h1.1 c0 hc0
      rw [hcr, hqt]
      rcases h1.2 with e | e
      · rw [← e]; exact h2
      · omega

end finalhyp

/-- where an endpoint of the hierarchical design sits after flatten: directly below top -/
def flatImage : HNode → HNode
  | .pin _ iid pi b => .pin [] iid pi b
  | n => n

theorem isEndpoint_leafOcc {d : Design} (hyp : Hyp d) {p : List Nat} {iid pi b : Nat}
    (h : IsEndpoint d (.pin p iid pi b)) : ∃ cs c, LeafOcc d cs c ∧ c.id = iid ∧ instAt d p iid = some c ∧
      InstIn d c := by
  obtain ⟨c, hc, hl⟩ := h
  obtain ⟨cs, x, hp, hcx⟩ := instAt_iff_path.mp hc
  exact ⟨cs, c, ⟨_, (hp.snoc hcx).walk, hl⟩, (childById_id hcx).1, hc, ⟨x, reach_lt hyp.wf hp.reach, (childById_id hcx).2⟩⟩

theorem flatten_hconn {d0 : Design} {s : FState} {moved : List Inst} (hyp : Hyp d0) (invA : FInvA d0 s moved)
    (invB : FInvB d0 (s.d.defs d0.top).cables s.toRemove moved) (hq : s.queue = []) {a b : HNode} (ha : IsEndpoint d0 a) (hb : IsEndpoint d0 b) :
    HConn d0 a b ↔ HConn (fFinal s) (flatImage a) (flatImage b) := by
  have hypF := hyp_final hyp invA invB hq
  have hleaves := invA.leavesOf hyp hq
  have key : ∀ n, IsEndpoint d0 n → ValidH d0 n ∧ (∀ p ci wi, n ≠ .wire p ci wi) ∧ UEndpoint d0 (forget d0 n) ∧
      ValidH (fFinal s) (flatImage n) ∧ (∀ p ci wi, flatImage n ≠ .wire p ci wi) ∧
      forget (fFinal s) (flatImage n) = forget d0 n := by
    intro n hn
    cases n with
    | wire p ci wi => exact hn.elim
    | tport pi bit => exact ⟨trivial, by simp, trivial, trivial, by simp [flatImage], rfl⟩
    | pin p iid pi bit =>
      obtain ⟨cs, c, hocc, hcid, hinst, hin⟩ := isEndpoint_leafOcc hyp hn
      obtain ⟨c', hc', hid', _⟩ := hleaves.complete cs c hocc
      obtain ⟨pp, hwalk, hleaf⟩ := hocc
      refine ⟨⟨c, hinst⟩, by simp, ⟨c, hin, hcid, hleaf⟩, ?_, by simp [flatImage], rfl⟩
      · exact ⟨c', instAt_iff_path.mpr ⟨[], _, Path.nil, by rw [← hcid, ← hid']; exact childById_of_mem hleaves.nodup hc'⟩⟩
  obtain ⟨va, _, uea, vFa, _, hfa⟩ := key a ha
  obtain ⟨vb, hwb, ueb, vFb, hwFb, hfb⟩ := key b hb
  rw [hconn_iff_connU hyp va vb hwb, hconn_iff_connU hypF vFa vFb hwFb, hfa, hfb]
  exact conn_final hyp invA invB uea ueb

end Spydr.Xform
