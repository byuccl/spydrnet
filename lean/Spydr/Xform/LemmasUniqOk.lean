/-
  The bounded search for a free name never fails (`ok` is always true).  Pigeonhole (`pickCtr_some`):
  the suffixes `_sdn_unique_k` of the `2 * ndefs + 1` candidates are pairwise different (decimal
  rendering is injective); a rejected candidate hits a name or a case-folded identifier of the library,
  and different rejected candidates hit different entries; the library holds at most `ndefs` names and
  `ndefs` identifiers.
-/
import Spydr.Xform.ModelUniquify
import Spydr.Xform.LemmasList
import Spydr.Common.Char

namespace Spydr.Xform

theorem nat_repr_inj {a b : Nat} (h : a.repr = b.repr) : a = b := by
  have := congrArg String.toList h
  simp only [Nat.toList_repr] at this
  exact toDigits_inj this

theorem uniqSuffix_inj {base : String} {a b : Nat} (h : base ++ uniqSuffix a = base ++ uniqSuffix b) : a = b := by
  rw [String.append_right_inj] at h
  simp only [uniqSuffix, String.append_right_inj] at h
  exact nat_repr_inj h

theorem lowerStr_append (a b : String) : lowerStr (a ++ b) = lowerStr a ++ lowerStr b := by
  simp only [lowerStr, String.toList_append, List.map_append, String.ofList_append]

theorem map_toLower_digits (n : Nat) : (Nat.toDigits 10 n).map Char.toLower = Nat.toDigits 10 n := by
  conv => rhs; rw [← List.map_id (Nat.toDigits 10 n)]
  apply List.map_congr_left
  intro c hc
  exact toLower_of_not_upper c (isDigit_not_upper c (Nat.isDigit_of_mem_toDigits (by decide) (by decide) hc))

theorem lowerSuffix_inj {base : String} {a b : Nat}
    (h : lowerStr (base ++ uniqSuffix a) = lowerStr (base ++ uniqSuffix b)) : a = b := by
  rw [lowerStr_append, lowerStr_append, String.append_right_inj] at h
  simp only [uniqSuffix, lowerStr_append, String.append_right_inj] at h
  have h2 := congrArg String.toList h
  simp only [lowerStr, String.toList_ofList, Nat.toString_eq_repr, Nat.toList_repr, map_toLower_digits] at h2
  exact toDigits_inj h2

theorem pickCtr_none {names eids : List String} {nm eid : Option String} : ∀ (fuel ctr : Nat),
    pickCtr names eids nm eid fuel ctr = none → ∀ k, ctr ≤ k → k < ctr + fuel → candTaken names eids nm eid k = true
  | 0, ctr, _, k, h1, h2 => by omega
  | fuel + 1, ctr, h, k, h1, h2 => by
    simp only [pickCtr] at h
    split at h
    · rename_i hc
      by_cases hk : k = ctr
      · subst hk; exact hc
      · exact pickCtr_none fuel (ctr + 1) h k (by omega) (by omega)
    · cases h

def nameHit (names : List String) (nm : Option String) (k : Nat) : Bool :=
  match nm with | some n => names.contains (n ++ uniqSuffix k) | none => false

def eidHit (eids : List String) (eid : Option String) (k : Nat) : Bool :=
  match eid with | some e => eids.contains (lowerStr (e ++ uniqSuffix k)) | none => false

theorem candTaken_eq (names eids : List String) (nm eid : Option String) (k : Nat) :
    candTaken names eids nm eid k = (nameHit names nm k || eidHit eids eid k) := rfl

theorem nameHit_mem {names : List String} {nm : Option String} {k : Nat} (h : nameHit names nm k = true) :
    nm.getD "" ++ uniqSuffix k ∈ names := by
  cases nm with
  | none => simp [nameHit] at h
  | some n => simpa [nameHit] using h

theorem eidHit_mem {eids : List String} {eid : Option String} {k : Nat} (h : eidHit eids eid k = true) :
    lowerStr (eid.getD "" ++ uniqSuffix k) ∈ eids := by
  cases eid with
  | none => simp [eidHit] at h
  | some e => simpa [eidHit] using h

theorem pickCtr_some {names eids : List String} {nm eid : Option String} {fuel ctr : Nat}
    (h : names.length + eids.length < fuel) : (pickCtr names eids nm eid fuel ctr).isSome = true := by
  cases hp : pickCtr names eids nm eid fuel ctr with
  | some k => rfl
  | none =>
    exfalso
    have hall := pickCtr_none fuel ctr hp
    let f : Nat → Bool × String := fun i =>
      if nameHit names nm (ctr + i) then (false, nm.getD "" ++ uniqSuffix (ctr + i))
      else (true, lowerStr (eid.getD "" ++ uniqSuffix (ctr + i)))
    let pool : List (Bool × String) := names.map (fun s => (false, s)) ++ eids.map (fun s => (true, s))
    have hnd : ((List.range fuel).map f).Nodup := by
      refine nodup_map_of_inj_on List.nodup_range ?_
      intro a _ b _ hab
      simp only [f] at hab
      by_cases ha : nameHit names nm (ctr + a) <;> by_cases hb : nameHit names nm (ctr + b)
      · simp only [ha, hb, if_true, Prod.mk.injEq, true_and] at hab
        have := uniqSuffix_inj hab; omega
      · simp [ha, hb] at hab
      · simp [ha, hb] at hab
      · simp only [ha, hb, Bool.false_eq_true, if_false, Prod.mk.injEq, true_and] at hab
        have := lowerSuffix_inj hab; omega
    have hsub : ∀ x ∈ (List.range fuel).map f, x ∈ pool := by
      intro x hx
      obtain ⟨i, hi, rfl⟩ := List.mem_map.mp hx
      have hi' := List.mem_range.mp hi
      have ht := hall (ctr + i) (by omega) (by omega)
      rw [candTaken_eq] at ht
      simp only [f, pool, List.mem_append, List.mem_map]
      by_cases hh : nameHit names nm (ctr + i)
      · simp only [hh, if_true]
        exact Or.inl ⟨_, nameHit_mem hh, rfl⟩
      · simp only [hh, Bool.false_eq_true, if_false]
        have hh' : nameHit names nm (ctr + i) = false := by simpa using hh
        rw [hh', Bool.false_or] at ht
        exact Or.inr ⟨_, eidHit_mem ht, rfl⟩
    have := hnd.length_le_of_subset (l₂ := pool) hsub
    simp only [pool, List.length_map, List.length_range, List.length_append] at this
    omega

theorem libNames_length (d : Design) (lib : Nat) : (d.libNames lib).length ≤ d.ndefs := by
  simp only [Design.libNames]
  have := List.length_filterMap_le (fun j => if (d.defs j).lib = lib then (d.defs j).name else none) (List.range d.ndefs)
  simpa using this

theorem libEids_length (d : Design) (lib : Nat) : (d.libEids lib).length ≤ d.ndefs := by
  simp only [Design.libEids]
  have := List.length_filterMap_le (fun j => if (d.defs j).lib = lib then (d.defs j).eid.map lowerStr else none) (List.range d.ndefs)
  simpa using this

theorem cloneDefn_isSome (d : Design) (D : Defn) : (cloneDefn d D).isSome = true := by
  unfold cloneDefn
  split
  · rfl
  · have := pickCtr_some (names := d.libNames D.lib) (eids := d.libEids D.lib) (nm := D.name) (eid := D.eid)
      (fuel := 2 * d.ndefs + 1) (ctr := d.ctr)
      (by have := libNames_length d D.lib; have := libEids_length d D.lib; omega)
    cases hp : pickCtr (d.libNames D.lib) (d.libEids D.lib) D.name D.eid (2 * d.ndefs + 1) d.ctr with
    | none => rw [hp] at this; cases this
    | some k => rfl

theorem uStep_isSome (d : Design) (q k : Nat) : (uStep d q k).isSome = true := by
  unfold uStep
  split
  · rfl
  · split
    · rfl
    · rename_i c _ _
      have := cloneDefn_isSome d (d.defs c.ref)
      unfold makeUnique
      cases hc : cloneDefn d (d.defs c.ref) with
      | none => rw [hc] at this; cases this
      | some r => rfl

end Spydr.Xform
