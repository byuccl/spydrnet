/-
  What a uniquify run does to the definition table and the library order:
  names and identifiers stay pairwise distinct per library; `Grows`: old definitions keep their name,
  library, ports, cables, every new definition is a renamed copy of an earlier one in the same
  library, the relative order of the old definitions is unchanged; `Behind`: every copy sits behind
  its original with only newer definitions in between.
-/
import Spydr.Xform.LemmasUniqStep

namespace Spydr.Xform

/-- `DefNamesUnique` / `DefEidsUnique` for an arbitrary attribute of definitions -/
def KeysUnique (key : Defn → Option String) (d : Design) : Prop :=
  ∀ i, i < d.ndefs → ∀ j, j < d.ndefs → i ≠ j → (d.defs i).lib = (d.defs j).lib →
    key (d.defs i) ≠ none → key (d.defs i) ≠ key (d.defs j)

theorem defNamesUnique_iff {d : Design} : DefNamesUnique d ↔ KeysUnique (·.name) d := by
  simp only [DefNamesUnique, KeysUnique, List.mem_range]

theorem defEidsUnique_iff {d : Design} : DefEidsUnique d ↔ KeysUnique (fun D => D.eid.map lowerStr) d := by
  simp only [DefEidsUnique, KeysUnique, List.mem_range]
  refine forall_congr' fun i => forall_congr' fun _ => forall_congr' fun j => forall_congr' fun _ =>
    forall_congr' fun _ => forall_congr' fun _ => ?_
  cases (d.defs i).eid <;> cases (d.defs j).eid <;> simp

theorem makeUnique_keysUnique {d d' : Design} {q k x : Nat} (h : makeUnique d q k x = some d') (key : Defn → Option String)
    (hold : ∀ j, j < d.ndefs → key (d'.defs j) = key (d.defs j))
    (hfresh : ∀ j, j < d.ndefs → (d.defs j).lib = (d.defs x).lib → key (d'.defs d.ndefs) ≠ none →
      key (d'.defs d.ndefs) ≠ key (d.defs j))
    (hu : KeysUnique key d) : KeysUnique key d' := by
  have hlib := fun j (hj : j < d.ndefs) => (makeUnique_old h (Nat.ne_of_lt hj)).lib
  have hlibn := (makeUnique_new h).lib
  intro i hi j hj hij hl hne
  rw [makeUnique_ndefs h] at hi hj
  by_cases hin : i = d.ndefs
  · subst hin
    have hj' : j < d.ndefs := by omega
    rw [hold j hj']
    exact hfresh j hj' (by rw [← hlib j hj', ← hl, hlibn]) hne
  · have hi' : i < d.ndefs := by omega
    by_cases hjn : j = d.ndefs
    · subst hjn
      intro e
      exact hfresh i hi' (by rw [← hlib i hi', hl, hlibn]) (e ▸ hne) (by rw [← e, hold i hi'])
    · have hj' : j < d.ndefs := by omega
      rw [hold i hi'] at hne ⊢
      rw [hold j hj']
      exact hu i hi' j hj' hij (by rw [← hlib i hi', ← hlib j hj', hl]) hne

theorem mem_libNames {d : Design} {j l : Nat} {s : String} (hj : j < d.ndefs) (hl : (d.defs j).lib = l)
    (hs : (d.defs j).name = some s) : s ∈ d.libNames l := by
  simp only [Design.libNames, List.mem_filterMap, List.mem_range]
  exact ⟨j, hj, by simp [hl, hs]⟩

theorem mem_libEids {d : Design} {j l : Nat} {s : String} (hj : j < d.ndefs) (hl : (d.defs j).lib = l)
    (hs : (d.defs j).eid = some s) : lowerStr s ∈ d.libEids l := by
  simp only [Design.libEids, List.mem_filterMap, List.mem_range]
  exact ⟨j, hj, by simp [hl, hs]⟩

theorem makeUnique_names {d d' : Design} {q k x : Nat}
    (h : makeUnique d q k x = some d') (hu : DefNamesUnique d) : DefNamesUnique d' := by
  refine defNamesUnique_iff.mpr (makeUnique_keysUnique h _ (fun j hj => (makeUnique_old h (Nat.ne_of_lt hj)).name) ?_
    (defNamesUnique_iff.mp hu))
  intro j hj hlib hne e
  rcases cloneDefn_name (makeUnique_clone h) with ⟨_, h2, _⟩ | ⟨n, k, _, h2, _, _, h5⟩
  · exact hne h2
  · exact h5 (mem_libNames hj hlib (e ▸ h2))

theorem makeUnique_eids {d d' : Design} {q k x : Nat}
    (h : makeUnique d q k x = some d') (hu : DefEidsUnique d) : DefEidsUnique d' := by
  refine defEidsUnique_iff.mpr (makeUnique_keysUnique h _
    (fun j hj => by rw [(makeUnique_old h (Nat.ne_of_lt hj)).eid]) ?_ (defEidsUnique_iff.mp hu))
  intro j hj hlib hne e
  rcases cloneDefn_eid (makeUnique_clone h) with ⟨_, h2⟩ | ⟨e0, k0, _, h2, h3⟩
  · simp [h2] at hne
  · cases hb : (d.defs j).eid with
    | none => simp [h2, hb] at e
    | some b =>
      rw [h2, hb] at e
      exact h3 (Option.some.inj e ▸ mem_libEids hj hlib hb)

/-- the name of a copy: unnamed like its original, or `name ++ "_sdn_unique_" ++ k`, `lo ≤ k < hi` -/
def NameOfCopy (o c : Option String) (lo hi : Nat) : Prop :=
  (o = none ∧ c = none) ∨ ∃ nm k, o = some nm ∧ c = some (nm ++ uniqSuffix k) ∧ lo ≤ k ∧ k < hi

structure Grows (d d' : Design) : Prop where
  ndefs : d.ndefs ≤ d'.ndefs
  ctr : d.ctr ≤ d'.ctr
  top : d'.top = d.top
  old : ∀ i, i < d.ndefs → (d'.defs i).name = (d.defs i).name ∧ (d'.defs i).lib = (d.defs i).lib ∧
      (d'.defs i).ports = (d.defs i).ports ∧ (d'.defs i).cables = (d.defs i).cables ∧
      (d'.defs i).children.map (·.id) = (d.defs i).children.map (·.id)
  new : ∀ n, d.ndefs ≤ n → n < d'.ndefs → ∃ x, x < n ∧ (d'.defs n).lib = (d'.defs x).lib ∧
      (d'.defs n).ports = (d'.defs x).ports ∧ (d'.defs n).cables = (d'.defs x).cables ∧
      NameOfCopy (d'.defs x).name (d'.defs n).name d.ctr d'.ctr
  order : d'.order.map (List.filter (· < d.ndefs)) = d.order

theorem NameOfCopy.mono {o c : Option String} {lo hi lo' hi' : Nat} (h : NameOfCopy o c lo hi)
    (h1 : lo' ≤ lo) (h2 : hi ≤ hi') : NameOfCopy o c lo' hi' := by
  rcases h with h | ⟨nm, k, a, b, c1, c2⟩
  · exact Or.inl h
  · exact Or.inr ⟨nm, k, a, b, by omega, by omega⟩

theorem Grows.refl {d : Design} (hord : ∀ i ∈ d.order.flatten, i < d.ndefs) : Grows d d where
  ndefs := Nat.le_refl _
  ctr := Nat.le_refl _
  top := rfl
  old := fun _ _ => ⟨rfl, rfl, rfl, rfl, rfl⟩
  new := fun n h1 h2 => by omega
  order := by
    conv => rhs; rw [← List.map_id d.order]
    exact List.map_congr_left fun l hl => List.filter_eq_self.mpr fun i hi => by simpa using hord i (List.mem_flatten.mpr ⟨l, hl, hi⟩)

theorem Grows.trans {a b c : Design} (h1 : Grows a b) (h2 : Grows b c) : Grows a c where
  ndefs := Nat.le_trans h1.ndefs h2.ndefs
  ctr := Nat.le_trans h1.ctr h2.ctr
  top := h2.top.trans h1.top
  old := by
    intro i hi
    obtain ⟨p1, p2, p3, p4, p5⟩ := h1.old i hi
    obtain ⟨q1, q2, q3, q4, q5⟩ := h2.old i (Nat.lt_of_lt_of_le hi h1.ndefs)
    exact ⟨q1.trans p1, q2.trans p2, q3.trans p3, q4.trans p4, q5.trans p5⟩
  new := by
    intro n hn1 hn2
    by_cases hnb : n < b.ndefs
    · obtain ⟨x, hx, e1, e2, e3, e4⟩ := h1.new n hn1 hnb
      obtain ⟨q1, q2, q3, q4, _⟩ := h2.old n hnb
      obtain ⟨r1, r2, r3, r4, _⟩ := h2.old x (by omega)
      refine ⟨x, hx, by rw [q2, r2, e1], by rw [q3, r3, e2], by rw [q4, r4, e3], ?_⟩
      rw [q1, r1]
      exact e4.mono (Nat.le_refl _) h2.ctr
    · obtain ⟨x, hx, e1, e2, e3, e4⟩ := h2.new n (by omega) hn2
      exact ⟨x, hx, e1, e2, e3, e4.mono h1.ctr (Nat.le_refl _)⟩
  order := by
    rw [← h1.order, ← h2.order, List.map_map]
    refine List.map_congr_left fun l _ => ?_
    simp only [Function.comp, List.filter_filter]
    refine List.filter_congr fun x _ => ?_
    have := h1.ndefs
    by_cases hx : x < a.ndefs <;> simp [hx] <;> omega

theorem filter_insertAfter_ge {x y n : Nat} (hy : n ≤ y) : ∀ l : List Nat,
    (insertAfter x y l).filter (· < n) = l.filter (· < n)
  | [] => rfl
  | a :: l => by
    simp only [insertAfter]
    split
    · simp [List.filter_cons, Nat.not_lt.mpr hy]
    · simp only [List.filter_cons, filter_insertAfter_ge hy l]

namespace CloneStep
variable {d d' : Design} {q k : Nat} {c : Inst} (s : CloneStep d d' q k c)
include s

theorem nameOfCopy : d.ctr ≤ d'.ctr ∧ NameOfCopy (d.defs c.ref).name (d'.defs d.ndefs).name d.ctr d'.ctr := by
  rcases cloneDefn_name (makeUnique_clone s.eq) with ⟨a1, a2, a3⟩ | ⟨nm, k', a1, a2, a3, a4, _⟩
  · exact ⟨a3, Or.inl ⟨a1, a2⟩⟩
  · exact ⟨by omega, Or.inr ⟨nm, k', a1, a2, a3, by omega⟩⟩

theorem grows : Grows d d' := by
  have hnew := makeUnique_new s.eq
  have hold := fun j (hj : j < d.ndefs) => makeUnique_old s.eq (Nat.ne_of_lt hj)
  refine ⟨by rw [makeUnique_ndefs s.eq]; omega, s.nameOfCopy.1, makeUnique_top s.eq, ?_, ?_, ?_⟩
  · intro i hi
    have := hold i hi
    exact ⟨this.name, this.lib, this.ports, this.cables, this.ids⟩
  · intro n h1 h2
    rw [makeUnique_ndefs s.eq] at h2
    obtain rfl : n = d.ndefs := by omega
    have ho := hold c.ref s.ref_lt
    refine ⟨c.ref, s.ref_lt, by rw [hnew.lib, ho.lib], by rw [hnew.ports, ho.ports], by rw [hnew.cables, ho.cables], ?_⟩
    rw [ho.name]; exact s.nameOfCopy.2
  · rw [makeUnique_order s.eq, List.map_map]
    conv => rhs; rw [← List.map_id d.order]
    refine List.map_congr_left fun l hl => ?_
    simp only [Function.comp, id, filter_insertAfter_ge (Nat.le_refl _)]
    exact List.filter_eq_self.mpr fun i hi => by simpa using s.wf.2.2.2.1 i (List.mem_flatten.mpr ⟨l, hl, hi⟩)

/-- the copy is inserted immediately behind its original, in the original's library;
    the other libraries are untouched -/
theorem position :
    ∃ l pre post, d.order[l]? = some (pre ++ c.ref :: post) ∧
      d'.order[l]? = some (pre ++ c.ref :: d.ndefs :: post) ∧ (d.defs c.ref).lib = l ∧
      (d'.defs d.ndefs).lib = l ∧ ∀ l', l' ≠ l → d'.order[l']? = d.order[l']? := by
  have hord := makeUnique_order s.eq
  obtain ⟨_, _, o3, o4⟩ := s.wf.2.2
  obtain ⟨lst, hlst, hxl⟩ := List.mem_flatten.mp (o3 _ (List.mem_range.mpr s.ref_lt))
  obtain ⟨l, hl⟩ := List.getElem?_of_mem hlst
  -- the library list an index is found in is the library of its definition
  have hlibOf : ∀ l' lst', d.order[l']? = some lst' → c.ref ∈ lst' → (d.defs c.ref).lib = l' := by
    intro l' lst' hl' hx'
    have hll' : l' < d.order.length := (List.getElem?_eq_some_iff.mp hl').1
    exact o4 l' (List.mem_range.mpr hll') _ (by simpa [List.getD, hl'] using hx')
  obtain ⟨pre, post, e1, _, e3⟩ := insertAfter_split (y := d.ndefs) hxl
  have hlib := hlibOf l lst hl hxl
  refine ⟨l, pre, post, by rw [hl, e1], by rw [hord, List.getElem?_map, hl, Option.map_some, e3], hlib,
    by rw [(makeUnique_new s.eq).lib, hlib], ?_⟩
  intro l' hne
  rw [hord, List.getElem?_map]
  cases hl' : d.order[l']? with
  | none => rfl
  | some lst' =>
    simp only [Option.map_some, Option.some.injEq]
    exact insertAfter_not_mem fun hx' => hne ((hlibOf l' lst' hl' hx').symm.trans hlib)

end CloneStep

theorem insertAfter_append (y z : Nat) : ∀ (A B : List Nat),
    insertAfter y z (A ++ B) = if y ∈ A then insertAfter y z A ++ B else A ++ insertAfter y z B
  | [], B => by simp
  | a :: A, B => by
    simp only [List.cons_append, insertAfter, List.mem_cons]
    by_cases ha : a = y
    · simp [ha]
    · simp only [ha, if_false, insertAfter_append y z A B, Ne.symm ha, false_or]
      split <;> rfl

theorem insertAfter_decomp (y z x n : Nat) (pre mid post : List Nat) :
    ∃ pre' mid' post', insertAfter y z (pre ++ x :: (mid ++ n :: post)) = pre' ++ x :: (mid' ++ n :: post') ∧
      ∀ m ∈ mid', m ∈ mid ∨ m = z := by
  rw [insertAfter_append]
  by_cases h1 : y ∈ pre
  · exact ⟨insertAfter y z pre, mid, post, by rw [if_pos h1], fun m hm => Or.inl hm⟩
  · simp only [h1, if_false, insertAfter]
    by_cases h2 : x = y
    · exact ⟨pre, z :: mid, post, by simp [h2], fun m hm => (List.mem_cons.mp hm).symm⟩
    · simp only [h2, if_false]
      rw [insertAfter_append]
      by_cases h3 : y ∈ mid
      · exact ⟨pre, insertAfter y z mid, post, by rw [if_pos h3], fun m hm =>
          (mem_insertAfter.mp hm).imp id And.left⟩
      · simp only [h3, if_false, insertAfter]
        by_cases h4 : n = y
        · exact ⟨pre, mid, z :: post, by simp [h4], fun m hm => Or.inl hm⟩
        · exact ⟨pre, mid, insertAfter y z post, by simp [h4], fun m hm => Or.inl hm⟩

/-- every definition with index at least `n0` sits behind the definition it copies -/
def Behind (n0 : Nat) (d : Design) : Prop :=
  ∀ n, n0 ≤ n → n < d.ndefs → ∃ (x l : Nat) (pre mid post : List Nat), x < n ∧ d.order[l]? = some (pre ++ x :: (mid ++ n :: post)) ∧
    (∀ m ∈ mid, n < m) ∧ (d.defs n).lib = (d.defs x).lib ∧ (d.defs n).ports = (d.defs x).ports ∧
    (d.defs n).cables = (d.defs x).cables ∧ NameOfCopy (d.defs x).name (d.defs n).name 0 d.ctr

theorem behind_refl (d : Design) : Behind d.ndefs d := by
  intro n h1 h2; omega

theorem CloneStep.behind {d d' : Design} {q k : Nat} {c : Inst} (s : CloneStep d d' q k c) {n0 : Nat}
    (hb : Behind n0 d) : Behind n0 d' := by
  have hnew := makeUnique_new s.eq
  have hold := fun j (hj : j < d.ndefs) => makeUnique_old s.eq (Nat.ne_of_lt hj)
  obtain ⟨hctr, hname⟩ := s.nameOfCopy
  intro n h1 h2
  rw [makeUnique_ndefs s.eq] at h2
  by_cases hnn : n = d.ndefs
  · subst hnn
    obtain ⟨l, pre, post, _, e2, _, _, _⟩ := s.position
    have ho := hold c.ref s.ref_lt
    refine ⟨c.ref, l, pre, [], post, s.ref_lt, by simpa using e2, by simp, by rw [hnew.lib, ho.lib],
      by rw [hnew.ports, ho.ports], by rw [hnew.cables, ho.cables], ?_⟩
    rw [ho.name]; exact hname.mono (Nat.zero_le _) (Nat.le_refl _)
  · have hnlt : n < d.ndefs := by omega
    obtain ⟨x, l, pre, mid, post, hx, hl, hmid, e1, e2, e3, e4⟩ := hb n h1 hnlt
    have hon := hold n hnlt
    have hox := hold x (by omega)
    obtain ⟨pre', mid', post', hdec, hmid'⟩ := insertAfter_decomp c.ref d.ndefs x n pre mid post
    refine ⟨x, l, pre', mid', post', hx, ?_, ?_, by rw [hon.lib, hox.lib, e1], by rw [hon.ports, hox.ports, e2],
      by rw [hon.cables, hox.cables, e3], ?_⟩
    · rw [makeUnique_order s.eq, List.getElem?_map, hl, Option.map_some, hdec]
    · intro m hm
      rcases hmid' m hm with h' | h'
      · exact hmid m h'
      · omega
    · rw [hon.name, hox.name]
      exact e4.mono (Nat.le_refl _) hctr

end Spydr.Xform
