/-
  Whole-run lemmas for flatten: the loop keeps `FInvA ∧ FInvB` and terminates; the final removal of
  the dissolved shells changes no edge; connectivity and well-formedness of the result; what is left
  of the dissolved definitions (no children, no cables, at most one stale member of the reference
  set — the removed shell, which `remove_child` does not un-reference: `extra`).
-/
import Spydr.Xform.LemmasFlatConn

namespace Spydr.Xform

theorem FInvB.init {d0 : Design} (hyp : Hyp d0) : FInvB d0 (d0.defs d0.top).cables [] [] where
  idsNodup := hyp.cable_ids_nodup hyp.wf.1
  idsOrig := fun i hi => by
    obtain ⟨c, hc, rfl⟩ := List.mem_map.mp hi
    exact ⟨d0.top, hyp.wf.1, Or.inl rfl, c, hc, rfl⟩
  pinsOk := hyp.pinsOk hyp.wf.1
  pins := by
    intro l p hp
    have hok := hyp.pinOk hyp.wf.1 hp
    cases p with
    | port pi b => exact hok
    | inner i pi b => exact hok.elim
    | inst i pi b =>
      obtain ⟨c, hc, hid, P, hP, hb⟩ := hok
      exact ⟨d0.top, c, hyp.wf.1, Or.inl rfl, hc, hid, by simp, P, hP, hb⟩
  conn := by
    intro a b _ _
    rw [restOf_nil]
    refine conn_congr (fun a b => uadj_iff_wadj hyp.wf.1 (hyp.cable_ids_nodup hyp.wf.1) ?_ a b) a b
    intro l p hp i pi b e
    subst e
    exact hyp.pinOk hyp.wf.1 hp

theorem fLoop_inv {d0 : Design} (hyp : Hyp d0) (hnamed : Named d0) (fuel : Nat) :
    ∃ moved, FInvA d0 (fLoop fuel (fInit d0)) moved ∧ FInvB d0 ((fLoop fuel (fInit d0)).d.defs d0.top).cables (fLoop fuel (fInit d0)).toRemove moved ∧
      ((fLoop fuel (fInit d0)).queue = [] ∨ moved.length = fuel) := by
  obtain ⟨k, ⟨moved, hlen, a, b⟩, hk⟩ :=
    fLoop_induct (fun n s => ∃ moved, moved.length = n ∧ FInvA d0 s moved ∧ FInvB d0 (s.d.defs d0.top).cables s.toRemove moved)
      (fun n d q iid pn rest tr ⟨moved, hlen, a, b⟩ => by
        obtain ⟨p, cs, c0, h⟩ := a.head hyp
        exact ⟨_, by simp [hlen], (a.step hyp hnamed h).2, b.step hyp hnamed a h⟩)
      fuel 0 (fInit d0) ⟨[], rfl, FInvA.init hyp, FInvB.init hyp⟩
  exact ⟨moved, a, b, hk.imp id (fun e => by omega)⟩

/-- every iteration moves one more instance and moved instances are distinct instances of the original
    design, so `number of instances + 1` iterations empty the queue -/
theorem flatten_finished {d0 : Design} (hyp : Hyp d0) (hnamed : Named d0) {fuel : Nat} (hf : (allInsts d0).length < fuel) :
    (flatten fuel d0).finished = true := by
  obtain ⟨moved, inv, _, h | h⟩ := fLoop_inv hyp hnamed fuel
  · simp [flatten, h]
  · have := inv.moved_le hyp
    omega

section final
variable {d0 : Design} {s : FState} {moved : List Inst}

theorem fFinal_frame (s : FState) : (fFinal s).ndefs = s.d.ndefs ∧ (fFinal s).top = s.d.top ∧
    (fFinal s).order = s.d.order := ⟨rfl, rfl, rfl⟩

theorem mem_fFinal_children (s : FState) (x : Nat) {j : Inst} :
    j ∈ ((fFinal s).defs x).children ↔ j ∈ (s.d.defs x).children ∧ (x = s.d.top → j.id ∉ s.toRemove) := by
  rw [fFinal_defs]
  dsimp only
  split <;> simp [*]

theorem FInvA.inst_origin (hyp : Hyp d0) (inv : FInvA d0 s moved) {j : Inst} (hj : InstIn s.d j) :
    ∃ z j0, z < d0.ndefs ∧ j0 ∈ (d0.defs z).children ∧ j0.id = j.id ∧ j0.ref = j.ref := by
  obtain ⟨z, hz, hjz⟩ := hj
  rw [inv.ndefs] at hz
  rcases (inv.mem_children hz).mp hjz with ⟨h, _⟩ | ⟨_, h⟩
  · exact ⟨z, j, hz, h, rfl, rfl⟩
  · obtain ⟨p, cs, q, c0, hw, _, hc0, h1, h2, _⟩ := inv.movedOrig j h
    exact ⟨q, c0, reach_lt hyp.wf (path_iff_walk.mpr hw).reach, hc0, h1.symm, h2.symm⟩

theorem FInvA.removed_moved (inv : FInvA d0 s moved) {j : Inst} (hj : InstIn s.d j) (hr : j.id ∈ s.toRemove) : j ∈ moved := by
  obtain ⟨z, hz, hjz⟩ := hj
  rw [inv.ndefs] at hz
  rw [inv.toRemove] at hr
  obtain ⟨m, hm, hmid⟩ := List.mem_map.mp hr
  exact ((inv.mem_children hz).mp hjz).elim
    (fun h => absurd (List.mem_map.mpr ⟨m, (List.mem_filter.mp hm).1, hmid⟩) h.2) And.right

theorem restAdj_final (hyp : Hyp d0) (inv : FInvA d0 s moved) (a b : UNode) :
    RestAdj (fFinal s) a b ↔ RestAdj (restOf d0 moved) a b := by
  have hn : s.d.ndefs = d0.ndefs := inv.ndefs
  have ht : s.d.top = d0.top := inv.top
  have hcab : ∀ x, x < d0.ndefs → x ≠ d0.top → ((fFinal s).defs x).cables = ((restOf d0 moved).defs x).cables := by
    intro x hx hxt
    rw [fFinal_defs, restOf_cables]
    dsimp only
    split
    · exact inv.cablesGone x hx hxt ‹_›
    · exact inv.cablesKeep x hx hxt ‹_›
  refine ⟨RestAdj.mono (d := fFinal s) (d' := restOf d0 moved) hn.symm ht.symm (fun x hx hxt c h => hcab x (hn ▸ hx) (ht ▸ hxt) ▸ h)
      fun j ⟨z, hz, hjz⟩ _ => ?_,
    RestAdj.mono (d := restOf d0 moved) (d' := fFinal s) hn ht (fun x hx hxt c h => (hcab x hx hxt).symm ▸ h) fun j hj hcs => ?_⟩
  · obtain ⟨z0, j0, hz0, hj0, h1, h2⟩ := inv.inst_origin hyp ⟨z, hz, ((mem_fFinal_children s z).mp hjz).1⟩
    exact ⟨j0, instIn_restOf.mpr ⟨z0, hz0, hj0⟩, h1, h2⟩
  · -- an instance whose definition still has cables has not become a removed shell
    obtain ⟨z, hz, hjz⟩ := instIn_restOf.mp hj
    have hnd : ¬ Dissolved d0 moved j.ref := fun h => hcs (by rw [restOf_cables, if_pos h])
    by_cases hmv : j.id ∈ moved.map (·.id)
    · obtain ⟨m, hm, hmid⟩ := List.mem_map.mp hmv
      have hmr := inv.moved_ref hyp hz hjz hm hmid
      refine ⟨m, ⟨d0.top, hn ▸ hyp.wf.1, (mem_fFinal_children s _).mpr ⟨(inv.mem_children hyp.wf.1).mpr (Or.inr ⟨rfl, hm⟩), fun _ h => ?_⟩⟩, hmid, hmr⟩
      exact hnd ⟨m, hm, hmr, hmr ▸ (inv.mem_toRemove hm).mp h⟩
    · refine ⟨j, ⟨z, hn ▸ hz, (mem_fFinal_children s _).mpr ⟨(inv.mem_children hz).mpr (Or.inl ⟨hjz, hmv⟩), fun _ h => ?_⟩⟩, rfl, rfl⟩
      rw [inv.toRemove] at h
      obtain ⟨m, hm, hmid⟩ := List.mem_map.mp h
      exact hmv (List.mem_map.mpr ⟨m, (List.mem_filter.mp hm).1, hmid⟩)

theorem conn_final (hyp : Hyp d0) (invA : FInvA d0 s moved) (invB : FInvB d0 (s.d.defs d0.top).cables s.toRemove moved) {a b : UNode}
    (ha : UEndpoint d0 a) (hb : UEndpoint d0 b) : ConnU d0 a b ↔ ConnU (fFinal s) a b := by
  have htop : s.d.top = d0.top := invA.top
  have hcab : ((fFinal s).defs (fFinal s).top).cables = (s.d.defs d0.top).cables := by
    show ((fFinal s).defs s.d.top).cables = _
    rw [fFinal_defs, htop]
  refine (invB.conn a b ha hb).trans (conn_congr (fun a b => ?_) a b).symm
  refine (uadj_iff_wadj ?_ ?_ ?_ a b).trans (wadj_congr (fun l p => by rw [hcab]) (restAdj_final hyp invA) a b)
  · show s.d.top < s.d.ndefs
    rw [htop, invA.ndefs]; exact hyp.wf.1
  · rw [hcab]; exact invB.idsNodup
  · intro l p hp i pi bb e
    rw [hcab] at hp
    subst e
    exact invB.pins l _ hp

end final

section wf
variable {d0 : Design} {s : FState} {moved : List Inst}

theorem FInvA.cur_children_nodup (hyp : Hyp d0) (inv : FInvA d0 s moved) {x : Nat} (hx : x < d0.ndefs) :
    ((s.d.defs x).children.map (·.id)).Nodup := by
  rw [inv.kids x hx, List.map_append]
  refine List.nodup_append.mpr ⟨List.Nodup.sublist ((List.filter_sublist).map _) (hyp.wf.ids_nodup hx), ?_, ?_⟩
  · split
    · exact inv.movedNodup
    · simp
  · intro a ha b hb hab
    subst hab
    obtain ⟨c, hc, hca⟩ := List.mem_map.mp ha
    have := (List.mem_filter.mp hc).2
    simp only [Bool.not_eq_true', List.contains_eq_mem, decide_eq_false_iff_not] at this
    split at hb
    · rw [hca] at this; exact this hb
    · simp at hb

theorem wf_final (hyp : Hyp d0) (invA : FInvA d0 s moved) (invB : FInvB d0 (s.d.defs d0.top).cables s.toRemove moved) (hq : s.queue = []) :
    WF (fFinal s) := by
  have hn : (fFinal s).ndefs = d0.ndefs := invA.ndefs
  have htop : (fFinal s).top = d0.top := invA.top
  have hstop : s.d.top = d0.top := invA.top
  have hports : ∀ x, x < d0.ndefs → ((fFinal s).defs x).ports = (d0.defs x).ports :=
    fun x hx => by rw [fFinal_defs]; exact (invA.attrs x hx).1
  refine ⟨by rw [htop, hn]; exact hyp.wf.1, ?_, ?_⟩
  · intro i hi
    rw [hn] at hi
    have hi' : i < d0.ndefs := by simpa using hi
    obtain ⟨w1, w2, w3, w4⟩ := hyp.wf.wfDef hi'
    rw [invA.final_defs hyp hq hi']
    split
    · -- the top definition: the moved leaf instances and the cables the walk has built
      rename_i hit
      subst hit
      refine ⟨fun m hm => ?_, List.Nodup.sublist ((List.filter_sublist).map _) invA.movedNodup,
        (pinsOk_iff_nodup _ invB.idsNodup).mp invB.pinsOk, fun p hp => ?_⟩
      · obtain ⟨q, c0, hq0, hc0, _, hr⟩ := invA.moved_reach (List.mem_filter.mp hm).1
        rw [hn, hr]; exact hyp.wf.ref_lt (reach_lt hyp.wf hq0) hc0
      · obtain ⟨l, hl⟩ := mem_pinsAt_of_allPins invB.idsNodup hp
        have halive := invB.pins l p hl
        cases p with
        | port pi b => exact halive
        | inner _ _ _ => exact halive.elim
        | inst k pi b =>
          obtain ⟨y, c1, hy, hyd, hc1, rfl, hktr, P, hP, hb⟩ := halive
          -- the instance has been moved and is not a shell, hence is one of the leaves
          obtain ⟨m, hm, hmid⟩ := List.mem_map.mp ((invA.complete y hy hyd c1 hc1).resolve_right (by simp [hq]))
          refine ⟨m, List.mem_filter.mpr ⟨hm, ?_⟩, hmid, P, ?_, hb⟩
          · cases hl : (d0.defs m.ref).isLeaf with
            | true => rfl
            | false => exact absurd (hmid ▸ (invA.mem_toRemove hm).mpr hl) hktr
          · rw [invA.moved_ref hyp hy hc1 hm hmid, hports _ (hyp.wf.ref_lt hy hc1)]; exact hP
    · split
      · exact ⟨fun _ h => (nomatch h), List.nodup_nil, List.nodup_nil, fun _ h => (nomatch h)⟩
      · exact ⟨fun c hc => hn ▸ w1 c hc, w2, w3, fun p hp =>
          pinOk_transfer rfl (fun c hc => ⟨c, hc, rfl, hports _ (w1 c hc)⟩) (w4 p hp)⟩
  · obtain ⟨o1, o2, o3, o4⟩ := hyp.wf.2.2
    have hord : (fFinal s).order = d0.order := invA.order
    refine ⟨by rw [hord]; exact o1, by rw [hord, hn]; exact o2, by rw [hord, hn]; exact o3, ?_⟩
    rw [hord]
    intro l hl i hi
    have hilt : i < d0.ndefs := o2 i (by
      simp only [List.mem_flatten]
      have hl' : l < d0.order.length := by simpa using hl
      exact ⟨d0.order.getD l [], by simp [List.getD, hl'], hi⟩)
    rw [fFinal_defs]
    exact (invA.attrs i hilt).2.1.trans (o4 l hl i hi)

end wf

theorem leftovers {d0 : Design} {s : FState} {moved : List Inst} (hyp : Hyp d0) (invA : FInvA d0 s moved)
    (hq : s.queue = []) {x : Nat} (hx : Reach d0 x) (hxt : x ≠ d0.top) (hxl : (d0.defs x).isLeaf = false) :
    ((fFinal s).defs x).children = [] ∧ ((fFinal s).defs x).cables = [] ∧ (fFinal s).extra x ≤ 1 := by
  have hxlt := reach_lt hyp.wf hx
  obtain ⟨p, cs, hp⟩ := reach_path hyp.wf hx
  obtain ⟨_, hm⟩ := invA.path_moved hyp hq hp
  have hdis : Dissolved d0 moved x := by
    rcases hm with h | ⟨m, hm, hmr⟩
    · exact absurd h hxt
    · exact ⟨m, hm, hmr, hxl⟩
  have hstop : s.d.top = d0.top := invA.top
  have hdef := invA.final_defs hyp hq hxlt
  rw [if_neg hxt, if_pos hdis] at hdef
  refine ⟨by rw [hdef], by rw [hdef], ?_⟩
  · -- the original reference set of `x` holds only its one instance
    obtain ⟨m, hmm, hmr, _⟩ := hdis
    obtain ⟨q0, c0, hq0, hc0, _, hcr⟩ := invA.moved_reach hmm
    have hcnt : d0.refCount x = 1 := by
      rcases hyp.uniq q0 c0 hq0 hc0 with h | h
      · rw [← hcr, hmr, hxl] at h; cases h
      · rw [← hcr, hmr] at h; exact h
    have hq0lt := reach_lt hyp.wf hq0
    have hpos : 1 ≤ (d0.defs q0).refsTo x := refsTo_pos hc0 (by rw [← hcr, hmr])
    have hsum := extra_add_refsTo_le_refCount d0 hq0lt x
    have hex0 : d0.extra x = 0 := by omega
    -- at most one removed shell references `x`
    show s.d.extra x + _ ≤ 1
    rw [invA.extra, hex0, Nat.zero_add]
    apply countP_le_one
    · have hnd := invA.cur_children_nodup hyp hyp.wf.1
      rw [← hstop] at hnd
      exact List.Nodup.sublist List.filter_sublist ((List.pairwise_map.mp hnd).imp fun h e => h (congrArg _ e))
    · intro a ha b hb hpa hpb
      have ha' := List.mem_filter.mp ha
      have hb' := List.mem_filter.mp hb
      have hin : ∀ {z}, z ∈ (s.d.defs s.d.top).children → InstIn s.d z :=
        fun hz => ⟨s.d.top, by rw [hstop, invA.ndefs]; exact hyp.wf.1, hz⟩
      have ham := invA.removed_moved (hin ha'.1) (by simpa using ha'.2)
      have hbm := invA.removed_moved (hin hb'.1) (by simpa using hb'.2)
      obtain ⟨qa, ca, hqa, hca, hida, hra⟩ := invA.moved_reach ham
      obtain ⟨qb, cb, hqb, hcb, hidb, hrb⟩ := invA.moved_reach hbm
      have hax : a.ref = x := by simpa using hpa
      have hbx : b.ref = x := by simpa using hpb
      obtain ⟨_, hcc⟩ := unique_ref hyp.wf hyp.uniq hqa hqb hca hcb (by rw [← hra, ← hrb, hax, hbx])
        (by rw [← hra, hax]; exact hxl)
      exact inj_of_nodup_map invA.movedNodup ham hbm (by rw [hida, hidb, hcc])

end Spydr.Xform
