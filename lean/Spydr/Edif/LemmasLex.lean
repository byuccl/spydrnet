/-
  Token level: the s-expression reader inverts flattening (for any continuation of the token
  stream), and the tokenizer inverts the writer's layout.
-/
import Spydr.Edif.ModelWrite
namespace Spydr.Edif

mutual
theorem readSF_flatten (e : SExp) (r : List Tok) (f : Nat) (hf : e.size ≤ f) :
    readSF f (flattenS e ++ r) = some (e, r) := by
  cases e with
  | atom s =>
    cases f with
    | zero => simp [SExp.size] at hf
    | succ f => simp [flattenS, readSF]
  | list xs =>
    cases f with
    | zero => simp [SExp.size] at hf
    | succ f =>
      have h := readLF_flatten xs r f (by simp [SExp.size] at hf; omega)
      simp only [flattenS, List.cons_append, List.append_assoc, List.nil_append, readSF, h]
theorem readLF_flatten (xs : List SExp) (r : List Tok) (f : Nat) (hf : sizeL xs ≤ f) :
    readLF f (flattenL xs ++ (Tok.rp :: r)) = some (xs, r) := by
  cases xs with
  | nil =>
    cases f with
    | zero => simp [sizeL] at hf
    | succ f => simp [flattenL, readLF]
  | cons x xs =>
    cases f with
    | zero => simp [sizeL] at hf
    | succ f =>
      simp only [sizeL] at hf
      have h1 := readSF_flatten x (flattenL xs ++ (Tok.rp :: r)) f (by omega)
      have h2 := readLF_flatten xs r f (by omega)
      have hx : ∃ t ts, flattenL (x :: xs) ++ (Tok.rp :: r) = t :: ts ∧ t ≠ Tok.rp := by
        cases x <;> simp [flattenL, flattenS]
      obtain ⟨t, ts, he, hrp⟩ := hx
      rw [he]
      cases t with
      | rp => exact absurd rfl hrp
      | lp =>
        simp only [readLF]
        rw [← he]; simp only [flattenL, List.append_assoc]; rw [h1]; simp [h2]
      | atom s =>
        simp only [readLF]
        rw [← he]; simp only [flattenL, List.append_assoc]; rw [h1]; simp [h2]
end

mutual
theorem size_le_flatten (e : SExp) : e.size + 1 ≤ 2 * (flattenS e).length := by
  cases e with
  | atom s => simp [SExp.size, flattenS]
  | list xs =>
    have := sizeL_le_flatten xs
    simp [SExp.size, flattenS]; omega
theorem sizeL_le_flatten (xs : List SExp) : sizeL xs ≤ 2 * (flattenL xs).length + 1 := by
  cases xs with
  | nil => simp [sizeL, flattenL]
  | cons x xs =>
    have h1 := size_le_flatten x
    have h2 := sizeL_le_flatten xs
    simp [sizeL, flattenL]; omega
end

/-- the fuel `readS` gives itself is enough for the tokens of any expression, whatever follows them -/
theorem readS_flatten (e : SExp) (r : List Tok) : readS (flattenS e ++ r) = some (e, r) := by
  unfold readS
  apply readSF_flatten
  have := size_le_flatten e
  simp [List.length_append]; omega

/-- the atoms the theorem speaks about: a non-empty unquoted word, or a quoted string whose body has
    no double quote and no line break (C03's hypothesis on names and string values) -/
def cleanAtom (s : Str) : Prop :=
  (s ≠ [] ∧ ∀ c ∈ s, plainChar c = true) ∨
  (∃ body, s = '"' :: body ++ ['"'] ∧ ∀ c ∈ body, c ≠ '"' ∧ c ≠ '\n' ∧ c ≠ '\r')

mutual
def SExp.clean : SExp → Prop
  | .atom s => cleanAtom s
  | .list xs => cleanL xs
def cleanL : List SExp → Prop
  | [] => True
  | x :: xs => x.clean ∧ cleanL xs
end

/-- the rest of the text after an expression starts with a delimiter (or is empty) -/
def delimStart (cs : List Char) : Prop :=
  match cs with
  | [] => True
  | c :: _ => c = '(' ∨ c = ')' ∨ isWs c = true

theorem lexGo_plain (s buf : Str) (hs : ∀ c ∈ s, plainChar c = true) (rest : List Char) :
    lexGo false buf (s ++ rest) = lexGo false (s.reverse ++ buf) rest := by
  induction s generalizing buf with
  | nil => simp
  | cons c cs ih =>
    have hc := hs c (by simp)
    simp only [plainChar, Bool.not_eq_true', Bool.or_eq_false_iff, beq_eq_false_iff_ne] at hc
    obtain ⟨⟨⟨h1, h2⟩, h3⟩, h4⟩ := hc
    simp only [List.cons_append, lexGo]
    simp only [beq_iff_eq, h1, h2, h3, h4, if_false, Bool.false_eq_true]
    rw [ih (c :: buf) (fun d hd => hs d (by simp [hd]))]
    simp

theorem lexGo_quoted (body buf : Str) (hb : ∀ c ∈ body, c ≠ '"' ∧ c ≠ '\n' ∧ c ≠ '\r') (rest : List Char) :
    lexGo true buf (body ++ '"' :: rest) = Tok.atom ((buf.reverse ++ body) ++ ['"']) :: lexGo false [] rest := by
  induction body generalizing buf with
  | nil => simp [lexGo]
  | cons c cs ih =>
    obtain ⟨h1, h2, h3⟩ := hb c (by simp)
    have hnr : (c == '\n' || c == '\r') = false := by simp [h2, h3]
    have hq : (c == '"') = false := by simp [h1]
    simp only [List.cons_append, lexGo, hnr, hq, Bool.false_eq_true, if_false]
    rw [ih (c :: buf) (fun d hd => hb d (by simp [hd]))]
    simp

/-- after a finished token, a delimiter-started rest is lexed from a clean state -/
theorem lexGo_flush_delim (w : Str) (hw : w ≠ []) (rest : List Char) (hd : delimStart rest) :
    lexGo false w.reverse rest = Tok.atom w :: lexGo false [] rest := by
  have hne : w.reverse.isEmpty = false := by
    cases w with
    | nil => exact absurd rfl hw
    | cons a b => simp
  cases rest with
  | nil => simp [lexGo, flush, hne]
  | cons c cs =>
    simp only [delimStart] at hd
    rcases hd with h | h | h
    · subst h; simp [lexGo, flush, hne]
    · subst h; simp [lexGo, flush, hne]
    · have h1 : c ≠ '"' := by rintro rfl; simp [isWs] at h
      have h2 : c ≠ '(' := by rintro rfl; simp [isWs] at h
      have h3 : c ≠ ')' := by rintro rfl; simp [isWs] at h
      simp [lexGo, flush, hne, h1, h2, h3, h]

theorem lex_atom (s : Str) (hs : cleanAtom s) (rest : List Char) (hd : delimStart rest) :
    lexGo false [] (s ++ rest) = Tok.atom s :: lexGo false [] rest := by
  rcases hs with ⟨hne, hp⟩ | ⟨body, rfl, hb⟩
  · rw [lexGo_plain s [] hp rest]
    simpa using lexGo_flush_delim s hne rest hd
  · simp only [List.cons_append, List.append_assoc, lexGo]
    simp only [beq_self_eq_true, if_true]
    have := lexGo_quoted body ['"'] hb rest
    simpa using this

mutual
theorem lex_layoutS (e : SExp) (he : e.clean) (rest : List Char) (hd : delimStart rest) :
    lexGo false [] (layoutS e ++ rest) = flattenS e ++ lexGo false [] rest := by
  cases e with
  | atom s =>
    simp only [layoutS, flattenS]
    rw [lex_atom s he rest hd]; rfl
  | list xs =>
    simp only [layoutS, flattenS, List.cons_append, List.append_assoc]
    simp only [lexGo]
    have : ('(' == '"') = false := by decide
    simp only [this, Bool.false_eq_true, if_false, beq_self_eq_true, if_true, flush, List.isEmpty_nil,
      List.nil_append]
    have h := lex_layoutL xs he (')' :: rest) (by simp [delimStart])
    rw [h]
    simp only [lexGo]
    have h2 : (')' == '"') = false := by decide
    have h3 : (')' == '(') = false := by decide
    simp [h2, h3, flush]
theorem lex_layoutL (xs : List SExp) (hx : cleanL xs) (rest : List Char) (hd : delimStart rest) :
    lexGo false [] (layoutL xs ++ rest) = flattenL xs ++ lexGo false [] rest := by
  cases xs with
  | nil => simp [layoutL, flattenL]
  | cons x r =>
    cases r with
    | nil =>
      simp only [layoutL, flattenL, List.append_nil]
      exact lex_layoutS x hx.1 rest hd
    | cons y r' =>
      simp only [layoutL, flattenL, List.append_assoc, List.cons_append]
      rw [lex_layoutS x hx.1 (' ' :: (layoutL (y :: r') ++ rest)) (by simp [delimStart, isWs])]
      have hsp : lexGo false [] (' ' :: (layoutL (y :: r') ++ rest)) = lexGo false [] (layoutL (y :: r') ++ rest) := by
        simp [lexGo, isWs, flush]
      rw [hsp, lex_layoutL (y :: r') hx.2 rest hd]
      simp [flattenL]
end

/-- **lex_layout**: the tokenizer applied to the writer's layout of an expression gives back exactly
    the expression's tokens, provided no string contains a double quote or a line break. -/
theorem lex_layout (e : SExp) (he : e.clean) : lexE (layoutE e) = flattenS e := by
  unfold lexE layoutE
  rw [lex_layoutS e he ['\n'] (by simp [delimStart, isWs])]
  simp [lexGo, isWs, flush]

/-- text → tokens → tree is the identity on laid-out clean expressions -/
theorem read_lex_layout (e : SExp) (he : e.clean) : readS (lexE (layoutE e)) = some (e, []) := by
  rw [lex_layout e he]
  simpa using readS_flatten e []

theorem readEdif_layout (e : SExp) (he : e.clean) : readEdif (layoutE e) = ofSExp e := by
  rw [readEdif, read_lex_layout e he]

theorem cleanAtomB_sound (s : Str) (h : cleanAtomB s = true) : cleanAtom s := by
  unfold cleanAtomB at h
  rcases Bool.or_eq_true_iff.mp h with h1 | h2
  · left
    simp only [Bool.and_eq_true, Bool.not_eq_true', List.all_eq_true] at h1
    refine ⟨?_, h1.2⟩
    intro e; subst e; simp at h1
  · right
    split at h2
    · rename_i r
      split at h2
      · rename_i m hm
        refine ⟨m.reverse, ?_, ?_⟩
        · have : r = (('"' :: m).reverse) := by rw [← hm]; simp
          rw [this]; simp
        · intro c hc
          rw [List.all_eq_true] at h2
          have := h2 c (List.mem_reverse.mp hc)
          simp only [Bool.and_eq_true, bne_iff_ne, ne_eq] at this
          exact ⟨this.1.1, this.1.2, this.2⟩
      · cases h2
    · cases h2

mutual
theorem cleanB_sound (e : SExp) (h : e.cleanB = true) : e.clean := by
  cases e with
  | atom s => exact cleanAtomB_sound s h
  | list xs => exact cleanLB_sound xs h
theorem cleanLB_sound (xs : List SExp) (h : cleanLB xs = true) : cleanL xs := by
  cases xs with
  | nil => trivial
  | cons x r =>
    simp only [cleanLB, Bool.and_eq_true] at h
    exact ⟨cleanB_sound x h.1, cleanLB_sound r h.2⟩
end

theorem lex_layout_B (e : SExp) (h : e.cleanB = true) : lexE (layoutE e) = flattenS e :=
  lex_layout e (cleanB_sound e h)

end Spydr.Edif
