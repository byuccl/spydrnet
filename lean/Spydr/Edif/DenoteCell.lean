/-
  One cell of an abstract design through `parse_cell`: ports, instances (references resolved in the
  reader's scope), nets (pins through `parse_portRef`, bit nets assembled), in closed form.
-/
import Spydr.Edif.DenoteCables
namespace Spydr.Edif

theorem namesOKB_ok (as : List AName) (h : namesOKB as = true) : ∀ a ∈ as, a.okB = true := by
  simp only [namesOKB, Bool.and_eq_true, List.all_eq_true, decide_eq_true_eq] at h
  exact h.1.1

theorem namesOKB_fresh (as : List AName) (h : namesOKB as = true) (done rest : List AName) (a : AName)
    (hs : as = done ++ a :: rest) : ∀ x ∈ done, lower x.ident ≠ lower a.ident ∧ x.name ≠ a.name := by
  simp only [namesOKB, Bool.and_eq_true, List.all_eq_true, decide_eq_true_eq] at h
  obtain ⟨⟨_, h1⟩, h2⟩ := h
  subst hs
  intro x hx
  constructor
  · simp only [List.map_append, List.map_cons] at h1
    have := (List.nodup_append.mp h1).2.2
    exact fun e => this _ (List.mem_map_of_mem hx) _ (by simp) e
  · simp only [List.map_append, List.map_cons] at h2
    have := (List.nodup_append.mp h2).2.2
    exact fun e => this _ (List.mem_map_of_mem hx) _ (by simp) e

theorem conflicts_false_of_names (sibs : List Data) (d : Data) (i n : Str) (hi : identOf d = some i)
    (hn : nameOf d = some n)
    (h : ∀ s ∈ sibs, ∃ si sn, identOf s = some si ∧ nameOf s = some sn ∧ lower si ≠ lower i ∧ sn ≠ n) :
    conflicts sibs d = false := by
  unfold conflicts
  rw [List.any_eq_false]
  intro s hs
  obtain ⟨si, sn, h1, h2, h3, h4⟩ := h s hs
  simp [h1, h2, hi, hn, h3, h4]

theorem conflicts_false_of_okB {α β : Type} (nm : α → AName) (el : α → β) (data : β → Data) (xs done rest : List α)
    (x : α) (hn : namesOKB (xs.map nm) = true) (hs : xs = done ++ x :: rest)
    (hid : ∀ y, identOf (data (el y)) = some (nm y).ident) (hnm : ∀ y, nameOf (data (el y)) = some (nm y).name) :
    conflicts ((done.map el).map data) (data (el x)) = false := by
  have hfresh := namesOKB_fresh _ hn (done.map nm) (rest.map nm) (nm x) (by simp [hs])
  refine conflicts_false_of_names _ _ _ _ (hid x) (hnm x) fun s hs => ?_
  rw [List.map_map] at hs
  obtain ⟨q, hq, rfl⟩ := List.mem_map.mp hs
  have := hfresh (nm q) (List.mem_map_of_mem hq)
  exact ⟨_, _, hid q, hnm q, this.1, this.2⟩

/-- **siblings through a loop of the reader**: if `step` takes the state `after done` to `after (done ++ [x])` on
    the s-expression of each element `x`, it takes `after []` to `after xs` on those of all -/
theorem foldlM_siblings {α σ : Type} (sexp : α → SExp) (step : σ → List SExp → R σ) (after : List α → σ)
    (xs : List α)
    (hstep : ∀ done x rest, xs = done ++ x :: rest →
      ∃ ys, sexp x = .list ys ∧ step (after done) ys = .ok (after (done ++ [x]))) :
    ∃ yss : List (List SExp), xs.map sexp = yss.map SExp.list ∧ yss.foldlM step (after []) = .ok (after xs) := by
  have key : ∀ rest done, xs = done ++ rest →
      ∃ yss : List (List SExp), rest.map sexp = yss.map SExp.list ∧
        yss.foldlM step (after done) = .ok (after (done ++ rest)) := by
    intro rest
    induction rest with
    | nil => intro done _; exact ⟨[], rfl, by rw [List.append_nil]; rfl⟩
    | cons x r ih =>
      intro done hsplit
      obtain ⟨ys, hys, hs⟩ := hstep done x r hsplit
      obtain ⟨yss, hyss, hfold⟩ := ih (done ++ [x]) (by simp [hsplit])
      refine ⟨ys :: yss, by simp [hys, hyss], ?_⟩
      rw [List.append_assoc] at hfold
      rw [List.foldlM_cons, hs]
      exact hfold
  exact key xs [] rfl

theorem findIdent_elab {α β : Type} (el : α → β) (data : β → Data) (nm : α → AName) (xs : List α)
    (hid : ∀ x, identOf (data (el x)) = some (nm x).ident)
    (hnd : ((xs.map nm).map fun a => lower a.ident).Nodup) (k : Nat) (x : α) (hk : xs[k]? = some x)
    (sp : Str) (hsp : lower sp = lower (nm x).ident) : findIdent ((xs.map el).map data) sp = some k := by
  obtain ⟨hlt, hx⟩ := List.getElem?_eq_some_iff.mp hk
  apply findIdent_declared _ k (nm x).ident sp (by simpa using hlt) (by simp [hx, hid]) hsp
  intro j hj b hb
  have hjl : j < xs.length := by omega
  simp only [List.getElem_map, hid] at hb
  cases hb
  have hp := List.pairwise_iff_getElem.mp hnd j k (by simpa using hjl) (by simpa using hlt) hj
  simpa [hx] using hp

theorem getElem?_map_some {α β : Type} (f : α → β) {xs : List α} {k : Nat} {x : α} (h : xs[k]? = some x) :
    (xs.map f)[k]? = some (f x) := by
  rw [List.getElem?_map, h]; rfl

theorem okB_of_nodup_ident (as : List AName) (h : namesOKB as = true) : (as.map fun a => lower a.ident).Nodup := by
  simp only [namesOKB, Bool.and_eq_true, List.all_eq_true, decide_eq_true_eq] at h
  exact h.1.2

theorem foldlM_iface_APorts (ports : List APort) (hn : namesOKB (ports.map (·.name)) = true)
    (hok : ∀ p ∈ ports, p.okB = true) (m : Meta) (hd : Bool) :
    ∃ yss : List (List SExp), ports.map APort.sexp = yss.map SExp.list ∧
      yss.foldlM ifaceItem ({ m := m }, hd) = .ok ({ m := m, ports := ports.map APort.elab }, hd) := by
  apply foldlM_siblings APort.sexp ifaceItem fun done => ({ m := m, ports := done.map APort.elab }, hd)
  intro done p rest hsplit
  have hpm : p ∈ ports := by rw [hsplit]; simp
  obtain ⟨body, hb, hparse⟩ := parsePort_APort p (namesOKB_ok _ hn _ (List.mem_map_of_mem hpm)) (hok p hpm)
  have hconf := conflicts_false_of_okB APort.name APort.elab (·.data) ports done rest p hn hsplit identOf_APort_elab
    nameOf_APort_elab
  exact ⟨_, hb, (ifaceItem_port { m := m, ports := done.map APort.elab } hd body _ hparse hconf).trans
    (by rw [List.map_append]; rfl)⟩

structure AInst.ResolvesIn (sc : Scope) (i : AInst) : Prop where
  hvv : validIdentTok i.viewSp = true
  hvd : validIdentTok i.cellSp = true
  hvl : validIdentTok i.libSp = true
  hres : LibResolves sc i.libSp i.li
  hf : findIdent ((defsOfLib sc i.li).map (·.data)) i.cellSp = some i.di
  target : ∃ d' dv, (defsOfLib sc i.li)[i.di]? = some d' ∧ viewIdentOf d'.data = some dv ∧ lower dv = lower i.viewSp
  homit : i.libOmit = true → i.li = sc.libs.length

theorem foldlM_contents_AInsts (sc : Scope) (insts : List AInst) (hn : namesOKB (insts.map (·.name)) = true)
    (hps : ∀ i ∈ insts, ∀ p ∈ i.props, p.okB = true) (hres : ∀ i ∈ insts, i.ResolvesIn sc) (m : Meta)
    (ports : List CPort) :
    ∃ yss : List (List SExp), insts.map AInst.sexp = yss.map SExp.list ∧
      yss.foldlM (contentsItem sc) { m := m, ports := ports } =
        .ok { m := m, ports := ports, insts := insts.map AInst.elab } := by
  apply foldlM_siblings AInst.sexp (contentsItem sc) fun done => { m := m, ports := ports, insts := done.map AInst.elab }
  intro done i rest hsplit
  have him : i ∈ insts := by rw [hsplit]; simp
  have hr := hres i him
  obtain ⟨d', dv, hd', hview, hdv⟩ := hr.target
  obtain ⟨body, hb, hparse⟩ := parseInstance_AInst sc i (namesOKB_ok _ hn _ (List.mem_map_of_mem him)) (hps i him) d' dv
    hr.hvv hr.hvd hr.hvl hr.hres hr.hf hd' hview hdv hr.homit
  have hconf := conflicts_false_of_okB AInst.name AInst.elab (·.data) insts done rest i hn hsplit identOf_AInst_elab
    nameOf_AInst_elab
  exact ⟨_, hb, (contentsItem_instance sc { m := m, ports := ports, insts := done.map AInst.elab } body _ hparse hconf).trans
    (by rw [List.map_append]; rfl)⟩

def ACell.data (c : ACell) : Data :=
  (((withName [] c.name.ident c.name.name).set kCELLTYPE (.str (S "celltype"))).set kVIEWID (.str c.view)).set
    kVIEWTYPE (.str (S "viewtype"))

/-- the definition the reader builds for a cell of an abstract design -/
def ACell.elab (c : ACell) : CDef :=
  { data := c.data, ports := c.ports.map APort.elab, cables := (c.nets.map ANet.item).foldl netStep [],
    insts := c.insts.map AInst.elab }

/-- the reader's view of the cell while it reads the nets -/
def ACell.ctx (sc : Scope) (c : ACell) : DefCtx :=
  { sc := sc, ports := c.ports.map APort.elab, insts := c.insts.map AInst.elab }

/-- what a cell needs of the scope it is read in -/
structure ACell.OKIn (sc : Scope) (c : ACell) : Prop where
  name : c.name.okB = true
  view : checkEdifIdentifier c.view = true
  portNames : namesOKB (c.ports.map (·.name)) = true
  ports : ∀ p ∈ c.ports, p.okB = true
  instNames : namesOKB (c.insts.map (·.name)) = true
  props : ∀ i ∈ c.insts, ∀ p ∈ i.props, p.okB = true
  insts : ∀ i ∈ c.insts, i.ResolvesIn sc
  nets : netsOKB c.nets = true
  pins : ∀ n ∈ c.nets, ∀ pin ∈ n.pins, pin.Resolves (c.ctx sc)
  nodup : (c.nets.flatMap fun n => n.pins.map APin.pin).Nodup

theorem parseCell_ACell (sc : Scope) (c : ACell) (h : c.OKIn sc) :
    ∃ ys, c.sexp = .list ys ∧ parseCell sc ys = .ok c.elab := by
  obtain ⟨pyss, hp1, hports⟩ := foldlM_iface_APorts c.ports h.portNames h.ports ⟨c.data, [S "EDIF", S "view"]⟩ false
  obtain ⟨iyss, hi1, hif⟩ := foldlM_contents_AInsts sc c.insts h.instNames h.props h.insts ⟨c.data, [S "EDIF", S "view"]⟩
    (c.ports.map APort.elab)
  obtain ⟨nyss, hn1, hnf⟩ := foldlM_contents_ANets_ok sc c.nets
    { m := ⟨c.data, [S "EDIF", S "view"]⟩, ports := c.ports.map APort.elab, insts := c.insts.map AInst.elab } rfl h.nets h.pins
  refine ⟨_, rfl, ?_⟩
  rw [hp1]
  refine parseCell_written sc _ _ c.name.ident c.name.name c.view (nameDef_AName_new c.name h.name)
    (validIdentTok_of_check c.view h.view) pyss iyss nyss _ _ _ _ rfl hports hif hnf (hasDupPin_nets c.nets h.nodup) _ ?_
  unfold ACell.contentsSexp
  cases hemp : (c.insts.isEmpty && c.nets.isEmpty) with
  | true =>
    simp only [Bool.and_eq_true, List.isEmpty_iff] at hemp
    exact .inr ⟨rfl, by rw [hemp.1]; rfl, by rw [hemp.2]; rfl⟩
  | false => exact .inl (by simp [hi1, hn1])

theorem identOf_ACell_data (c : ACell) : identOf c.elab.data = some c.name.ident := identOf_cellDataV _ _ _
theorem nameOf_ACell_data (c : ACell) : nameOf c.elab.data = some c.name.name := nameOf_cellDataV _ _ _
theorem viewIdentOf_ACell_data (c : ACell) : viewIdentOf c.elab.data = some c.view := viewIdentOf_cellDataV _ _ _

end Spydr.Edif
