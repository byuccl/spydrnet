/-
  The C03 view of the re-read netlist equals the view of the written one: `edif_roundtrip_view`.
-/
import Spydr.Edif.LemmasWF
import Spydr.Edif.Spec
namespace Spydr.Edif

theorem specName_of_named (d : Data) (i n : Str) (h : NamedOK d i n) : specName d = some n := by
  simp [specName, Data.getStr?, h.hn]

theorem specName_eq_nameOf (d : Data) : specName d = nameOf d := rfl

theorem specName_img {d d' : Data} {i n : Str} (h : NamedOK d i n) (h' : nameOf d' = some n) : specName d' = specName d := by
  rw [specName_eq_nameOf, h', specName_of_named _ _ _ h]

theorem view03Port_read (p : CPort) (h : PortWF p) : view03Port (readPort1 p) = view03Port p := by
  have h1 : specName (readPort1 p).data = specName p.data := specName_img h.named (nameOf_readPort p _ _)
  simp only [view03Port, h1, show (readPort1 p).isArray = p.isArray from isArray_readPort p _ _]
  rfl

theorem specProps_withProps (D : Data) (ps : List PropT) (h : D.get? kPROPS = none) :
    specProps (withProps D ps) = ps.map PropT.obj := by
  cases ps with
  | nil => simp [withProps, specProps, show "EDIF.properties".toList = kPROPS from rfl, h]
  | cons a r => simp [withProps, specProps, show "EDIF.properties".toList = kPROPS from rfl, Data.get?_set_self]

theorem view03Inst_read (libs : List CLib) (L D : Nat) (i : CInst) (h : InstWF libs L D i) :
    view03Inst (iwOf i).read = view03Inst i := by
  obtain ⟨li, di, _, _, href, _, _, _⟩ := h.ref
  have h1 : specName (iwOf i).read.data = specName i.data := specName_img h.named (nameOf_readInst _)
  have h2 : (iwOf i).read.ref = i.ref := by simp [IW.read, readInst, iwOf, href]
  have hk : (withName [] (iwOf i).ident (iwOf i).name).get? kPROPS = none := by
    rw [get?_withName_other [] _ _ kPROPS (S_ne rfl) (S_ne rfl)]; rfl
  have h3 : specProps (iwOf i).read.data = specProps i.data := by
    show specProps (withProps (withName [] (iwOf i).ident (iwOf i).name) (iwOf i).ps) = _
    rw [specProps_withProps _ _ hk]
    rcases h.props with hp | ⟨ps, hp, hall⟩
    · simp [iwOf, decodeProps, specProps, show "EDIF.properties".toList = kPROPS from rfl, hp]
    · have := (filterMap_decode ps hall).1
      simp [iwOf, decodeProps, specProps, show "EDIF.properties".toList = kPROPS from rfl, hp, this]
  simp only [view03Inst, h1, h2, h3]

theorem view03Net_read (libs : List CLib) (d : CDef) (c : CCable) (h : CableWF libs d c)
    (h0 : c.wires.length = 1 → c.isArray = false → c.lower = 0) : view03Net (readCable1 c) = view03Net c := by
  have h1 : specName (readCable1 c).data = specName c.data := specName_img h.named (nameOf_readCable c _ _)
  have h2 : (readCable1 c).wires = c.wires := readCable_wires _ _ _
  have h3 : (readCable1 c).lower = c.lower := by
    simp only [readCable1, readCable]
    split
    · rename_i hs
      simp [scalarCable, h0 hs.1 hs.2]
    · rfl
  simp only [view03Net, h1, h2, h3]

theorem map_congr_mem {α β : Type} (f g : α → β) (xs : List α) (h : ∀ x ∈ xs, f x = g x) : xs.map f = xs.map g :=
  List.map_congr_left h

/-- scalar cables start at index 0 (part of C03's quantifier) -/
def ScalarLower0 (n : CNetlist) : Prop :=
  ∀ l ∈ n.libs, ∀ d ∈ l.defs, ∀ c ∈ d.cables, c.wires.length = 1 → c.isArray = false → c.lower = 0

theorem view03Cell_img (libs : List CLib) (hn : NetNames libs) (L D : Nat) (l : CLib) (hl : libs[L]? = some l)
    (d : CDef) (hd : l.defs[D]? = some d) (h : CellWF libs L D d)
    (h0 : ∀ c ∈ d.cables, c.wires.length = 1 → c.isArray = false → c.lower = 0) :
    view03Cell (imgDef d) = view03Cell d := by
  have hlmem : l ∈ libs := List.mem_of_getElem? hl
  have hdmem : d ∈ l.defs := List.mem_of_getElem? hd
  have h1 : specName (imgDef d).data = specName d.data :=
    specName_img (hn.defNamed l hlmem d hdmem) (by simp only [imgDef, DW.read, dwOf, readCell, nameOf_cellData])
  have h2 : (imgDef d).ports.map view03Port = d.ports.map view03Port := by
    rw [imgDef_ports, List.map_map]
    exact List.map_congr_left (fun p hp => view03Port_read p (hn.portWF l hlmem d hdmem p hp))
  have h3 : (imgDef d).insts.map view03Inst = d.insts.map view03Inst := by
    show ((d.insts.map iwOf).map IW.read).map view03Inst = _
    rw [List.map_map, List.map_map]
    exact List.map_congr_left (fun i hi => view03Inst_read libs L D i (h.insts i hi))
  have h4 : (imgDef d).cables.map view03Net = d.cables.map view03Net := by
    show (d.cables.map readCable1).map view03Net = _
    rw [List.map_map]
    exact List.map_congr_left (fun c hc => view03Net_read libs d c (h.cables c hc) (h0 c hc))
  simp only [view03Cell, h1, h2, h3, h4]

theorem view03Lib_img (libs : List CLib) (hn : NetNames libs) (L : Nat) (l : CLib) (hl : libs[L]? = some l)
    (hcells : ∀ D d, l.defs[D]? = some d → CellWF libs L D d)
    (h0 : ∀ d ∈ l.defs, ∀ c ∈ d.cables, c.wires.length = 1 → c.isArray = false → c.lower = 0) :
    view03Lib (imgLib l) = view03Lib l := by
  have hlmem : l ∈ libs := List.mem_of_getElem? hl
  have h1 : specName (imgLib l).data = specName l.data := specName_img (hn.libNamed l hlmem) (nameOf_withName _ _ _)
  have h2 : (imgLib l).defs.map view03Cell = l.defs.map view03Cell := by
    rw [imgLib_defs, List.map_map]
    refine List.map_congr_left fun d hd => ?_
    obtain ⟨k, hk⟩ := List.mem_iff_getElem?.mp hd
    exact view03Cell_img libs hn L k l hl d hk (hcells k d hk) (h0 d hd)
  simp only [view03Lib, h1, h2]

theorem specName_status (D : Data) (ts : List Int) (p v : Option Str) : specName (statusData D ts p v) = specName D := by
  simp only [specName, Data.getStr?]
  rw [statusData_keeps D ts p v kNAME (S_ne rfl) (S_ne rfl) (S_ne rfl) (S_ne rfl)]

/-- **edif_roundtrip_view** (`C03.edif_roundtrip`) — the full statement of C03 on the model: for every (edifified) netlist inside
    the property's quantifier (`WFNet`, `ScalarLower0`), whatever the time stamp, the s-expression the
    writer emits is accepted by the reader and the netlist read back has the same C03 view: the same
    libraries, cells, ports (order, direction, width, array-ness), instances (name, referenced cell
    and library, properties), nets (name, width, base index, each wire's port bits and instance pin
    bits in order), the same top design and the same original names. -/
theorem edif_roundtrip_view (n : CNetlist) (prog ver : Option Str) (t : CInst) (li di : Nat) (y mo d h mi s : Nat)
    (hwf : WFNet n prog ver t li di) (h0 : ScalarLower0 n) :
    ∃ e n', toSExp [y, mo, d, h, mi, s] n = .ok e ∧ ofSExp e = .ok n' ∧ view03 n' = view03 n := by
  obtain ⟨e, hw, hr⟩ := edif_roundtrip_wf n prog ver t li di y mo d h mi s hwf
  refine ⟨e, _, hw, hr, ?_⟩
  have h1 : specName (readNetlist n (idOf n.data) (nmOf n.data)
      [Int.ofNat y, Int.ofNat mo, Int.ofNat d, Int.ofNat h, Int.ofNat mi, Int.ofNat s] prog ver (n.libs.map lwOf)
      (idOf t.data) (nmOf t.data) li di).data = specName n.data := by
    simp only [readNetlist, specName_status]
    rw [specName_eq_nameOf, nameOf_set _ kVERSION _ (S_ne rfl), nameOf_withName, specName_of_named _ _ _ hwf.named]
  have h2 : (readNetlist n (idOf n.data) (nmOf n.data)
      [Int.ofNat y, Int.ofNat mo, Int.ofNat d, Int.ofNat h, Int.ofNat mi, Int.ofNat s] prog ver (n.libs.map lwOf)
      (idOf t.data) (nmOf t.data) li di).libs.map view03Lib = n.libs.map view03Lib := by
    rw [readNetlist_libs, List.map_map]
    refine List.map_congr_left fun l hl => ?_
    obtain ⟨k, hk⟩ := List.mem_iff_getElem?.mp hl
    exact view03Lib_img n.libs hwf.names k l hk (hwf.cells k l hk) (h0 l hl)
  have h3 : specName (readTop (idOf t.data) (nmOf t.data) li di).data = specName t.data := by
    rw [readTop, specName_eq_nameOf, nameOf_set _ (S "metadata_prefix") _ (S_ne rfl), nameOf_withName,
      specName_of_named _ _ _ hwf.tnamed]
  simp only [view03, h1, h2, hwf.top, Option.map_some]
  simp only [readNetlist, Option.map_some, readTop, hwf.tref]
  simp only [readTop] at h3
  rw [h3]

end Spydr.Edif
