/-
  Noise keeps the keys that matter: everything the reader stores after the name of an element (properties,
  comments, status blocks, levels, view data) goes under dictionary keys outside a given key set `K` — for
  `K = KN` the name keys `EDIF.identifier`, `.NAME` — so the values under `K` stay what they were.
  On arbitrary input.
-/
import Spydr.Edif.ReadForms
import Spydr.Edif.LemmasRound
namespace Spydr.Edif

def kORIG : Str := S "EDIF.original_identifier"

def SameOn (K : List Str) (d d' : Data) : Prop := ∀ k ∈ K, d'.get? k = d.get? k

theorem SameOn.refl (K : List Str) (d : Data) : SameOn K d d := fun _ _ => rfl
theorem SameOn.trans {K : List Str} {a b c : Data} (h1 : SameOn K a b) (h2 : SameOn K b c) : SameOn K a c :=
  fun k hk => (h2 k hk).trans (h1 k hk)
theorem SameOn.symm {K : List Str} {a b : Data} (h : SameOn K a b) : SameOn K b a := fun k hk => (h k hk).symm

/-- a metadata prefix whose key is neither a name-setting key nor a key of `K` -/
def PlainK (K : List Str) (p : List Str) : Prop := joinDot p ≠ kIDENT ∧ joinDot p ≠ kORIG ∧ ∀ k ∈ K, joinDot p ≠ k

def NoSpecialK (K : List Str) (p : List Str) : Prop := ∀ ext, PlainK K (p ++ ext)

theorem NoSpecialK.plain {K : List Str} {p : List Str} (h : NoSpecialK K p) : PlainK K p := by simpa using h []

theorem NoSpecialK.push {K : List Str} {p : List Str} (h : NoSpecialK K p) (s : Str) : NoSpecialK K (p ++ [s]) := by
  intro ext; rw [List.append_assoc]; exact h _

theorem joinDot_cons_cons (a b : Str) (r : List Str) : joinDot (a :: b :: r) = a ++ '.' :: joinDot (b :: r) := rfl

theorem joinDot_head (c : Char) (xs : Str) (ext : List Str) : ∃ t, joinDot ((c :: xs) :: ext) = c :: t := by
  cases ext with
  | nil => exact ⟨xs, rfl⟩
  | cons b r => exact ⟨_, by rw [joinDot_cons_cons]; rfl⟩

/-- a key of the form `EDIF.<ck>…` with `ck ≠ c`, or `.NAME` -/
def okKey6 (c : Char) (k : Str) : Bool :=
  k == kNAME ||
  (match k with
   | 'E' :: 'D' :: 'I' :: 'F' :: '.' :: ck :: _ => ck != c
   | _ => false)

theorem ne_of_okKey6 (c : Char) (t k : Str) (h : okKey6 c k = true) : 'E' :: 'D' :: 'I' :: 'F' :: '.' :: c :: t ≠ k := by
  intro e
  subst e
  unfold okKey6 at h
  rw [Bool.or_eq_true] at h
  rcases h with h | h
  · have h' := beq_iff_eq.mp h
    rw [show kNAME = '.' :: "NAME".toList from by decide] at h'
    simp at h'
  · simp at h

theorem noSpecialK_lit6 (K : List Str) (c : Char) (xs : Str) (h : (kIDENT :: kORIG :: K).all (okKey6 c) = true) :
    NoSpecialK K [S "EDIF", c :: xs] := by
  intro ext
  obtain ⟨t, ht⟩ := joinDot_head c xs ext
  have e : joinDot ([S "EDIF", c :: xs] ++ ext) = 'E' :: 'D' :: 'I' :: 'F' :: '.' :: c :: t := by
    show joinDot (S "EDIF" :: (c :: xs) :: ext) = _
    rw [joinDot_cons_cons, ht]; rfl
  rw [List.all_eq_true] at h
  refine ⟨?_, ?_, ?_⟩
  · rw [e]; exact ne_of_okKey6 c t _ (h _ (by simp))
  · rw [e]; exact ne_of_okKey6 c t _ (h _ (by simp))
  · intro k hk; rw [e]; exact ne_of_okKey6 c t _ (h _ (by simp [hk]))

/-- a key that is not `EDIF.view.<c>…` -/
def okKey11 (c : Char) (k : Str) : Bool :=
  match k with
  | 'E' :: 'D' :: 'I' :: 'F' :: '.' :: 'v' :: 'i' :: 'e' :: 'w' :: '.' :: ck :: _ => ck != c
  | _ => true

theorem ne_of_okKey11 (c : Char) (t k : Str) (h : okKey11 c k = true) :
    'E' :: 'D' :: 'I' :: 'F' :: '.' :: 'v' :: 'i' :: 'e' :: 'w' :: '.' :: c :: t ≠ k := by
  intro e
  subst e
  simp [okKey11] at h

theorem noSpecialK_view (K : List Str) (c : Char) (xs : Str) (h : (kIDENT :: kORIG :: K).all (okKey11 c) = true) :
    NoSpecialK K [S "EDIF", S "view", c :: xs] := by
  intro ext
  obtain ⟨t, ht⟩ := joinDot_head c xs ext
  have e : joinDot ([S "EDIF", S "view", c :: xs] ++ ext) =
      'E' :: 'D' :: 'I' :: 'F' :: '.' :: 'v' :: 'i' :: 'e' :: 'w' :: '.' :: c :: t := by
    show joinDot (S "EDIF" :: S "view" :: (c :: xs) :: ext) = _
    rw [joinDot_cons_cons, joinDot_cons_cons, ht]; rfl
  rw [List.all_eq_true] at h
  refine ⟨?_, ?_, ?_⟩
  · rw [e]; exact ne_of_okKey11 c t _ (h _ (by simp))
  · rw [e]; exact ne_of_okKey11 c t _ (h _ (by simp))
  · intro k hk; rw [e]; exact ne_of_okKey11 c t _ (h _ (by simp [hk]))

theorem Data.get?_erase_other (d : Data) (k k2 : Str) (h : k2 ≠ k) : (d.erase k).get? k2 = d.get? k2 := by
  induction d with
  | nil => rfl
  | cons a r ih =>
    obtain ⟨k', v'⟩ := a
    by_cases h1 : k' = k
    · subst h1
      have : Data.erase ((k', v') :: r) k' = Data.erase r k' := by simp [Data.erase]
      rw [this, ih]
      simp [Data.get?, Ne.symm h]
    · have : Data.erase ((k', v') :: r) k = (k', v') :: Data.erase r k := by simp [Data.erase, h1]
      rw [this]
      by_cases h2 : k' = k2
      · simp [Data.get?, h2]
      · simp only [Data.get?, h2, if_false]; exact ih

theorem sameOn_set (K : List Str) (d : Data) (k : Str) (v : Val) (h : ∀ k' ∈ K, k ≠ k') : SameOn K d (d.set k v) :=
  fun k' hk' => Data.get?_set_other _ _ _ _ (Ne.symm (h k' hk'))

theorem sameOn_erase (K : List Str) (d : Data) (k : Str) (h : ∀ k' ∈ K, k ≠ k') : SameOn K d (d.erase k) :=
  fun k' hk' => Data.get?_erase_other _ _ _ (Ne.symm (h k' hk'))

theorem push_pop (m : Meta) (s : String) : (m.push s).pop = m := by
  cases m; simp [Meta.push, Meta.pop]

theorem pop_pfx (m m' : Meta) (s : String) (h : m'.pfx = (m.push s).pfx) : m'.pop.pfx = m.pfx := by
  simp [Meta.pop, h, Meta.push]

theorem dropLast_push (m : Meta) (s : String) : (m.push s).pfx.dropLast = m.pfx := by
  simp [Meta.push]

/-- unwind a `do` block in a hypothesis `h : … = .ok _` : split every match, close the error branches.  It leaves one goal per
    accepting path of the function, in the order of the source, with `h` the equation at the end of that path.  Each `split` on
    the way has added what it learnt as anonymous hypotheses, in the order of the source: for a bind the result and the equation
    `sub-run = .ok result`, for an `if` its condition, for a `match` on a shape the pattern variables and the equation; these are
    what a `rename_i` after `peel` names -/
macro "peel " h:ident : tactic =>
  `(tactic| repeat' (first
      | (cases $h:ident; done)
      | split at $h:ident
      | (simp only [pure, Except.pure, throw, throwThe, MonadExceptOf.throw, bind, Except.bind] at $h:ident)))

theorem setAttr_sameK (K : List Str) (m m' : Meta) (v : Val) (hp : PlainK K m.pfx) (h : setAttr m v = .ok m') :
    m'.pfx = m.pfx ∧ SameOn K m.data m'.data := by
  obtain ⟨p1, p2, p3⟩ := hp
  cases (setAttr_plain m.data m.pfx v p2 p1).symm.trans h
  exact ⟨rfl, sameOn_set K _ _ _ p3⟩

/-- the reader's idiom for one sub-attribute: push its keyword, set, pop -/
theorem setAttr_push_sameK (K : List Str) (m m1 : Meta) (s : String) (v : Val) (hp : PlainK K (m.pfx ++ [S s]))
    (h : setAttr (m.push s) v = .ok m1) : m1.pop.pfx = m.pfx ∧ SameOn K m.data m1.data :=
  (setAttr_sameK K _ _ _ hp h).imp (pop_pfx m m1 s) id

theorem appendAttr_sameK (K : List Str) (m : Meta) (v : Val) (hp : PlainK K m.pfx) :
    (appendAttr m v).pfx = m.pfx ∧ SameOn K m.data (appendAttr m v).data := by
  obtain ⟨p1, _, p3⟩ := hp
  unfold appendAttr
  simp only [Meta.key]
  split <;> exact ⟨rfl, sameOn_set K _ _ _ p3⟩

theorem parseRename_sameK (K : List Str) (m m' : Meta) (ys : List SExp) (hp : NoSpecialK K m.pfx) (h : parseRename m ys = .ok m') :
    m'.pfx = m.pfx ∧ SameOn K m.data m'.data := by
  obtain ⟨_, _, _, _, m1, _, m2, -, -, -, hm1, -, hm2, rfl⟩ := parseRename_iff.mp h
  obtain ⟨e1, s1⟩ := setAttr_push_sameK K m m1 "identifier" _ (hp _) hm1
  obtain ⟨e2, s2⟩ := setAttr_push_sameK K m1.pop m2 "original_identifier" _ (e1 ▸ hp _) hm2
  exact ⟨e2.trans e1, s1.trans s2⟩

theorem nameDef_sameK (K : List Str) (m m' : Meta) (xs rest : List SExp) (hp : NoSpecialK K m.pfx) (h : nameDef m xs = .ok (m', rest)) :
    m'.pfx = m.pfx ∧ SameOn K m.data m'.data := by
  obtain ⟨_, -, ⟨ys, -, hr⟩ | ⟨_, m1, -, hm1, rfl⟩⟩ := nameDef_iff.mp h
  · exact parseRename_sameK K m m' ys hp hr
  · exact setAttr_push_sameK K m m1 "identifier" _ (hp _) hm1

theorem parseComment_sameK (K : List Str) (m m' : Meta) (ys : List SExp) (hp : PlainK K (m.pfx ++ [S "comments"]))
    (h : parseComment m ys = .ok m') : m'.pfx = m.pfx ∧ SameOn K m.data m'.data := by
  unfold parseComment at h
  peel h
  simp only [Except.ok.injEq] at h
  subst h
  obtain ⟨e1, s1⟩ := appendAttr_sameK K (m.push "comments") (.list (List.map Val.str _)) (by simpa [Meta.push] using hp)
  exact ⟨pop_pfx m _ "comments" e1, s1⟩

/-- the dictionary `propLike` appends the property to: the identifier keys of the property's own name are taken
    out again -/
def propData (m : Meta) : Data :=
  match m.data.get? (joinDot (m.pfx ++ [S "original_identifier"])) with
  | some _ => (m.data.erase (joinDot (m.pfx ++ [S "identifier"]))).erase (joinDot (m.pfx ++ [S "original_identifier"]))
  | none => m.data.erase (joinDot (m.pfx ++ [S "identifier"]))

theorem propLike_ok (m m' : Meta) (rest : List SExp) (h : propLike m rest = .ok m') :
    ∃ m1 vs r obj, nameDef m rest = .ok (m1, .list vs :: r) ∧ m' = (appendAttr { m1 with data := propData m1 } obj).pop := by
  unfold propLike at h
  simp only [bind, Except.bind] at h
  split at h
  · cases h
  · rename_i v hv
    obtain ⟨m1, rest1⟩ := v
    simp only at h
    peel h
    all_goals
      simp only [Except.ok.injEq] at h
      subst h
      exact ⟨m1, _, _, _, hv, by simp only [propData, *]; rfl⟩

theorem propLike_sameK (K : List Str) (m m' : Meta) (rest : List SExp) (hp : NoSpecialK K m.pfx) (h : propLike m rest = .ok m') :
    m'.pfx = m.pfx.dropLast ∧ SameOn K m.data m'.data := by
  obtain ⟨m1, _, _, obj, hv, rfl⟩ := propLike_ok m m' rest h
  obtain ⟨e1, s1⟩ := nameDef_sameK K m m1 _ _ hp hv
  have hid : PlainK K (m1.pfx ++ [S "identifier"]) := e1 ▸ hp _
  have hor : PlainK K (m1.pfx ++ [S "original_identifier"]) := e1 ▸ hp _
  have hd : SameOn K m1.data (propData m1) := by
    unfold propData
    split
    · exact (sameOn_erase K _ _ hid.2.2).trans (sameOn_erase K _ _ hor.2.2)
    · exact sameOn_erase K _ _ hid.2.2
  obtain ⟨e2, s2⟩ := appendAttr_sameK K { m1 with data := propData m1 } obj (e1 ▸ hp.plain)
  exact ⟨congrArg List.dropLast (e2.trans e1), s1.trans (hd.trans s2)⟩

theorem parseProperty_sameK (K : List Str) (m m' : Meta) (ys : List SExp) (hp : NoSpecialK K (m.pfx ++ [S "properties"]))
    (h : parseProperty m ys = .ok m') : m'.pfx = m.pfx ∧ SameOn K m.data m'.data := by
  have := propLike_sameK K (m.push "properties") m' ys.tail (by simpa [Meta.push] using hp) h
  exact ⟨by rw [this.1, dropLast_push], this.2⟩

theorem parseMetax_sameK (K : List Str) (m m' : Meta) (ys : List SExp) (hp : NoSpecialK K (m.pfx ++ [S "metaxes"]))
    (h : parseMetax m ys = .ok m') : m'.pfx = m.pfx ∧ SameOn K m.data m'.data := by
  have := propLike_sameK K (m.push "metaxes") m' ys.tail (by simpa [Meta.push] using hp) h
  exact ⟨by rw [this.1, dropLast_push], this.2⟩

theorem levelOf_sameK (K : List Str) (m m' : Meta) (ys : List SExp) (kw pfx : String) (hp : PlainK K (m.pfx ++ [S pfx]))
    (h : levelOf m ys kw pfx = .ok m') : m'.pfx = m.pfx ∧ SameOn K m.data m'.data := by
  unfold levelOf at h
  peel h
  · rename_i m1 hm1
    simp only [Except.ok.injEq] at h
    subst h
    exact setAttr_push_sameK K m m1 pfx _ hp hm1
  · simp only [Except.ok.injEq] at h
    subst h
    exact ⟨rfl, SameOn.refl K _⟩

def KeptK (K : List Str) (p : List Str) (d0 : Data) (m : Meta) : Prop := m.pfx = p ∧ SameOn K d0 m.data

theorem KeptK.step {K : List Str} {p : List Str} {d0 : Data} {m m' : Meta} (h : KeptK K p d0 m)
    (h' : m'.pfx = m.pfx ∧ SameOn K m.data m'.data) : KeptK K p d0 m' :=
  ⟨h'.1.trans h.1, h.2.trans h'.2⟩

theorem writtenItem_sameK (K : List Str) (p : List Str) (d0 : Data) (s s' : WrittenSt) (ys : List SExp) (hp : NoSpecialK K p)
    (hk : KeptK K p d0 s.m) (h : writtenItem s ys = .ok s') : KeptK K p d0 s'.m := by
  have hpp : ∀ ext, PlainK K (s.m.pfx ++ ext) := by rw [hk.1]; exact hp
  have hns : ∀ x : Str, NoSpecialK K (s.m.pfx ++ [x]) := by rw [hk.1]; exact fun x => (NoSpecialK.push hp) x
  unfold writtenItem at h
  by_cases hA : headIs ys "author" = true
  · rw [if_pos hA] at h
    peel h
    rename_i m1 hm1
    simp only [Except.ok.injEq] at h; subst h
    exact hk.step (setAttr_push_sameK K s.m m1 "author" _ (hpp _) hm1)
  rw [if_neg hA] at h
  by_cases hB : headIs ys "program" = true
  · rw [if_pos hB] at h
    peel h
    all_goals (simp only [Except.ok.injEq] at h; subst h)
    · rename_i m1 hm1
      exact hk.step (setAttr_push_sameK K s.m m1 "program" _ (hpp _) hm1)
    · rename_i _ _ _ _ m1 hm1 _ _ _ _ m2 hm2
      obtain ⟨e1, s1⟩ := setAttr_sameK K _ _ _ (by simpa [Meta.push] using hpp [S "program"]) hm1
      obtain ⟨e2, s2⟩ := setAttr_push_sameK K m1 m2 "version" _ (by simpa [Meta.push, e1] using hpp [S "program", S "version"]) hm2
      exact hk.step ⟨pop_pfx s.m _ "program" (e2.trans e1), (show SameOn K s.m.data m1.data from s1).trans s2⟩
  rw [if_neg hB] at h
  peel h
  all_goals (simp only [Except.ok.injEq] at h; subst h)
  · exact hk.step (parseProperty_sameK K _ _ _ (hns _) (by assumption))
  · exact hk.step (parseMetax_sameK K _ _ _ (hns _) (by assumption))
  · exact hk.step (parseComment_sameK K _ _ _ (hpp _) (by assumption))
theorem parseWritten_sameK (K : List Str) (m m' : Meta) (ys : List SExp) (hp : NoSpecialK K (m.pfx ++ [S "written"]))
    (h : parseWritten m ys = .ok m') : m'.pfx = m.pfx ∧ SameOn K m.data m'.data := by
  unfold parseWritten at h
  simp only at h
  peel h
  rename_i m1 hm1 _ v hv _ _ _
  simp only [Except.ok.injEq] at h
  subst h
  have hk0 : KeptK K (m.pfx ++ [S "written"]) m.data m1.pop :=
    setAttr_push_sameK K (m.push "written") m1 "timeStamp" _ (hp _) hm1
  have := loopC_inv writtenItem (fun s => KeptK K (m.pfx ++ [S "written"]) m.data s.m)
    (fun a ys b ha hb => writtenItem_sameK K _ _ a b ys hp ha hb) _ { m := m1.pop } v.1 v.2 hk0 hv
  exact ⟨by simp [Meta.pop, this.1], this.2⟩

theorem statusItem_sameK (K : List Str) (m m' : Meta) (ys : List SExp) (hp : NoSpecialK K m.pfx)
    (h : statusItem m ys = .ok m') : m'.pfx = m.pfx ∧ SameOn K m.data m'.data := by
  unfold statusItem at h
  peel h
  · exact parseWritten_sameK K m m' ys ((NoSpecialK.push hp) _) h
  · exact parseComment_sameK K m m' ys (hp _) h

theorem parseStatus_sameK (K : List Str) (m m' : Meta) (ys : List SExp) (hp : NoSpecialK K (m.pfx ++ [S "status"]))
    (h : parseStatus m ys = .ok m') : m'.pfx = m.pfx ∧ SameOn K m.data m'.data := by
  unfold parseStatus at h
  peel h
  rename_i v hv _ _ _
  simp only [Except.ok.injEq] at h
  subst h
  have hk0 : KeptK K (m.pfx ++ [S "status"]) m.data (m.push "status") := ⟨by simp [Meta.push], SameOn.refl K _⟩
  have := loopC_inv statusItem (fun s => KeptK K (m.pfx ++ [S "status"]) m.data s)
    (fun a ys b ha hb => ha.step (statusItem_sameK K a b ys (by rw [ha.1]; exact hp) hb)) _ _ v.1 v.2 hk0 hv
  exact ⟨by simp [Meta.pop, this.1], this.2⟩

end Spydr.Edif
