/-
  The cables a cell of an abstract design ends with are the cables `cablesDen` declares, in order;
  and a pin joined once in the text is joined once in the netlist.
-/
import Spydr.Edif.DenoteNets
namespace Spydr.Edif

theorem minOf_le (l : List Nat) : ∀ x ∈ l, minOf l ≤ x := by
  induction l with
  | nil => intro x hx; cases hx
  | cons a r ih =>
    intro x hx
    cases r with
    | nil =>
      simp only [List.mem_singleton] at hx
      subst hx
      simp [minOf]
    | cons b t =>
      simp only [minOf]
      rcases List.mem_cons.mp hx with rfl | hx
      · exact Nat.min_le_left _ _
      · exact Nat.le_trans (Nat.min_le_right _ _) (ih x hx)

theorem minOf_mem (l : List Nat) (h : l ≠ []) : minOf l ∈ l := by
  induction l with
  | nil => exact absurd rfl h
  | cons a r ih =>
    cases r with
    | nil => simp [minOf]
    | cons b t =>
      simp only [minOf]
      have := ih (by simp)
      by_cases hab : a ≤ minOf (b :: t)
      · rw [Nat.min_eq_left hab]; simp
      · rw [Nat.min_eq_right (by omega)]
        exact List.mem_cons_of_mem _ this

theorem minOf_unique (l : List Nat) (m : Nat) (hm : m ∈ l) (hle : ∀ x ∈ l, m ≤ x) : minOf l = m := by
  have h1 := minOf_le l m hm
  have h2 := hle _ (minOf_mem l (by intro e; rw [e] at hm; cases hm))
  omega

theorem le_maxOf (l : List Nat) : ∀ x ∈ l, x ≤ maxOf l := by
  induction l with
  | nil => intro x hx; cases hx
  | cons a r ih =>
    intro x hx
    simp only [maxOf]
    rcases List.mem_cons.mp hx with rfl | hx
    · exact Nat.le_max_left _ _
    · exact Nat.le_trans (ih x hx) (Nat.le_max_right _ _)

theorem maxOf_mem (l : List Nat) (h : l ≠ []) : maxOf l ∈ l := by
  induction l with
  | nil => exact absurd rfl h
  | cons a r ih =>
    simp only [maxOf]
    cases r with
    | nil => simp [maxOf]
    | cons b t =>
      have := ih (by simp)
      by_cases hab : maxOf (b :: t) ≤ a
      · rw [Nat.max_eq_left hab]; simp
      · rw [Nat.max_eq_right (by omega)]
        exact List.mem_cons_of_mem _ this

theorem maxOf_unique (l : List Nat) (m : Nat) (hm : m ∈ l) (hge : ∀ x ∈ l, x ≤ m) : maxOf l = m := by
  have h1 := le_maxOf l m hm
  have h2 := hge _ (maxOf_mem l (by intro e; rw [e] at hm; cases hm))
  omega

theorem findName_of_nodup (cs : List CCable) (k : Nat) (hk : k < cs.length) (nm : Str)
    (hnm : nameOf cs[k].data = some nm) (hnd : (cableNames cs).Nodup) : findName (cs.map (·.data)) nm = some k := by
  unfold findName
  rw [List.findIdx?_eq_some_iff_getElem]
  refine ⟨by simpa using hk, by simp [hnm], ?_⟩
  intro j hj
  have hjl : j < cs.length := by omega
  simp only [List.getElem_map]
  cases hn : nameOf cs[j].data with
  | none => simp
  | some a =>
    simp only [beq_iff_eq]
    by_cases ha : a = nm
    · exfalso
      subst ha
      have hp := List.pairwise_iff_getElem.mp hnd j k (by simpa [cableNames] using hjl) (by simpa [cableNames] using hk) hj
      simp only [cableNames, List.getElem_map] at hp
      exact hp (by rw [hn, hnm])
    · simpa using ha

theorem busOf_at (cs : List CCable) (k : Nat) (hk : k < cs.length) (nm : Str)
    (hnm : nameOf cs[k].data = some nm) (hnd : (cableNames cs).Nodup) :
    busOf nm cs = some ⟨cs[k].lower, cs[k].wires⟩ := by
  unfold busOf
  rw [findName_of_nodup cs k hk nm hnm hnd]
  simp [hk]

theorem filterMap_eq_of_getElem {α β : Type} (f : α → Option β) (l : List α) (m : List β) (hlen : l.length = m.length)
    (h : ∀ k (h1 : k < l.length) (h2 : k < m.length), f l[k] = some m[k]) : l.filterMap f = m := by
  induction l generalizing m with
  | nil => cases m with
    | nil => rfl
    | cons _ _ => simp at hlen
  | cons a r ih =>
    cases m with
    | nil => simp at hlen
    | cons b t =>
      have h0 := h 0 (by simp) (by simp)
      simp only [List.getElem_cons_zero] at h0
      simp only [List.filterMap_cons, h0]
      congr 1
      apply ih t (by simpa using hlen)
      intro k h1 h2
      have := h (k + 1) (by simp; omega) (by simp; omega)
      simpa using this

theorem cname_names (nets : List ANet) : (nets.map ANet.item).map (·.name) = nets.map ANet.cname := by
  rw [List.map_map]
  apply List.map_congr_left
  intro n _
  exact item_name n

theorem bitPins_eq (bits : List (Nat × List CPin)) (k : Nat) : bitPins bits k = pinsAt bits k := by
  unfold bitPins pinsAt
  cases List.find? (fun b => b.1 == k) bits <;> rfl

/-- the facts about one cable the reader ends with: the first net of its name, the identifier and
    kind it carries, its extent and what its wires hold -/
def CableAt (nets : List ANet) (c : CCable) : Prop :=
  ∃ n0, nets.find? (fun n => n.cname == n0.cname) = some n0 ∧ nameOf c.data = some n0.cname ∧
    identOf c.data = some n0.item.ident ∧ c.scalarFlag = n0.item.idx.isNone ∧
    (match n0.kind with
     | .scalar _ => c.lower = 0 ∧ c.wires = [n0.pins.map APin.pin]
     | .bit _ bn _ _ => c.wires ≠ [] ∧
         (∀ j, j < c.wires.length → c.wires.getD j [] = pinsAt (busBits bn nets) (c.lower + j)) ∧
         c.lower ∈ (busBits bn nets).map (·.1) ∧
         (∀ x ∈ (busBits bn nets).map (·.1), c.lower ≤ x ∧ x < c.lower + c.wires.length) ∧
         ∃ x ∈ (busBits bn nets).map (·.1), c.lower + c.wires.length = x + 1)

theorem cable_at (nets : List ANet) (h : netsOKB nets = true) :
    ∀ c ∈ (nets.map ANet.item).foldl netStep [], CableAt nets c := by
  have hwf := netsWF_of_okB nets h
  obtain ⟨hN, hC⟩ := cabInv_all (nets.map ANet.item) hwf
  have hbits : ∀ n ∈ nets, ((busBits n.cname nets).map (·.1)).Nodup := by
    simp only [netsOKB, Bool.and_eq_true, List.all_eq_true, decide_eq_true_eq] at h
    exact h.2
  have hfold := foldlM_multibitAdd (nets.map ANet.item) hwf [] (nets.map ANet.item) [] rfl (by intro c hc; cases hc)
  obtain ⟨cs', hcs', hany⟩ := nets_any_order (nets.map ANet.item) hwf
  rw [hfold] at hcs'
  have hcs'' : (nets.map ANet.item).foldl netStep [] = cs' := Except.ok.inj hcs'
  subst hcs''
  generalize hcs : (nets.map ANet.item).foldl netStep [] = cs at *
  intro c hc
  obtain ⟨k, hk, rfl⟩ := List.getElem_of_mem hc
  obtain ⟨it, hit, hi1, hi2, hi3⟩ := hC.info cs[k] (List.getElem_mem hk)
  obtain ⟨n1, hn1, rfl⟩ := List.mem_map.mp hit
  rw [item_name] at hi1
  have hbus := busOf_at cs k hk n1.cname hi1 hN.nodup
  -- the first net of that name
  cases hfind : nets.find? (fun n => n.cname == n1.cname) with
  | none =>
    have := List.find?_eq_none.mp hfind n1 hn1
    simp at this
  | some n0 =>
    have hn0 : n0 ∈ nets := List.mem_of_find?_eq_some hfind
    have hn0name : n0.cname = n1.cname := by
      have := List.find?_some hfind
      simpa using this
    have hsame := hwf.same n0.item (List.mem_map_of_mem hn0) n1.item hit (by rw [item_name, item_name, hn0name])
    have hident : identOf cs[k].data = some n0.item.ident := by rw [hi2, hsame.1]
    have hflag : cs[k].scalarFlag = n0.item.idx.isNone := by
      rw [hi3]
      have := hsame.2
      cases h0 : n0.item.idx <;> cases h1' : n1.item.idx <;> simp [h0, h1'] at this ⊢
    refine ⟨n0, by rw [hn0name]; exact hfind, by rw [hn0name]; exact hi1, hident, hflag, ?_⟩
    obtain ⟨kind, pins⟩ := n0
    cases kind with
    | scalar a =>
      have hanm : a.name = n1.cname := hn0name
      have hs := scalar_survives (nets.map ANet.item) hwf (ANet.item ⟨.scalar a, pins⟩) (List.mem_map_of_mem hn0) rfl
      rw [hcs] at hs
      have hs' : busOf n1.cname cs = some ⟨0, [pins.map APin.pin]⟩ := by
        rw [← hanm]; exact hs
      rw [hbus] at hs'
      have := Option.some.inj hs'
      exact ⟨congrArg Bus.lo this, congrArg Bus.ws this⟩
    | bit bi bn i j =>
      have hbn : bn = n1.cname := hn0name
      have hnd : ((bitsOf bn (nets.map ANet.item)).map (·.1)).Nodup := by
        rw [bitsOf_items]; exact hbits _ hn0
      obtain ⟨c, hc, hne, _, hget, hlo, hrange, hhi⟩ :=
        hany (ANet.item ⟨.bit bi bn i j, pins⟩) (List.mem_map_of_mem hn0) i rfl hnd
      have hc' : busOf bn cs = some c := hc
      rw [hbn, hbus] at hc'
      have hcl : c.lo = cs[k].lower := by have := Option.some.inj hc'; exact (congrArg Bus.lo this).symm
      have hcw : c.ws = cs[k].wires := by have := Option.some.inj hc'; exact (congrArg Bus.ws this).symm
      have hbits'' : bitsOf (ANet.item ⟨.bit bi bn i j, pins⟩).name (nets.map ANet.item) = busBits bn nets := bitsOf_items bn nets
      rw [hbits''] at hget hlo hrange hhi
      simp only [hcl, hcw] at hne hget hlo hrange hhi
      exact ⟨hne, hget, hlo, hrange, hhi⟩

/-- **the cables of a cell**: the reader's net loop on a well-formed net list ends with the cables the
    text declares — one per cable name in order of first occurrence; a scalar net as a one-wire
    non-array cable at 0; the bit nets of a bus as ONE array cable based at the least index, bit `k` at
    `k − lower`, gaps empty, whatever the order of the bit nets and whatever stands between them -/
theorem cables_view (nets : List ANet) (h : netsOKB nets = true) :
    ((nets.map ANet.item).foldl netStep []).map view05Cable = cablesDen nets := by
  obtain ⟨_, hC⟩ := cabInv_all (nets.map ANet.item) (netsWF_of_okB nets h)
  have hat := cable_at nets h
  generalize hcs : (nets.map ANet.item).foldl netStep [] = cs at *
  have horder : cableNames cs = (firstNames (nets.map ANet.cname)).map some := by
    rw [hC.order, cname_names]; rfl
  have hlen : (firstNames (nets.map ANet.cname)).length = cs.length := by
    have := congrArg List.length horder
    simpa [cableNames] using this.symm
  symm
  unfold cablesDen
  apply filterMap_eq_of_getElem _ _ _ (by simpa using hlen)
  intro k h1 h2
  have hk : k < cs.length := by simpa using h2
  simp only [List.getElem_map]
  -- the name at position k
  have hname : nameOf cs[k].data = some (firstNames (nets.map ANet.cname))[k] := by
    have := congrArg (fun l => l[k]?) horder
    simp only [cableNames, List.getElem?_map, List.getElem?_eq_getElem hk, List.getElem?_eq_getElem h1,
      Option.map_some] at this
    exact Option.some.inj this
  generalize hnm : (firstNames (nets.map ANet.cname))[k] = nm at *
  obtain ⟨n0, hfind, hn0name, hident, hflag, hext⟩ := hat cs[k] (List.getElem_mem hk)
  have hnm0 : n0.cname = nm := Option.some.inj (hn0name.symm.trans hname)
  rw [hnm0] at hfind
  simp only [cableDen, hfind]
  obtain ⟨kind, pins⟩ := n0
  cases kind with
  | scalar a =>
    obtain ⟨hl, hw⟩ := hext
    have hanm : a.name = nm := hnm0
    have hf : cs[k].scalarFlag = true := hflag
    simp only [view05Cable, hname, hident, hl, hw, CCable.isArray, CCable.isScalar, hf, ANet.item, hanm]
    simp
  | bit bi bn i j =>
    have hbn : bn = nm := hnm0
    subst hbn
    obtain ⟨_, hget, hlo, hrange, xh, hxh, hxe⟩ := hext
    have hmin : minOf ((busBits bn nets).map (·.1)) = cs[k].lower :=
      minOf_unique _ _ hlo (fun x hx => (hrange x hx).1)
    have hmax : maxOf ((busBits bn nets).map (·.1)) = xh :=
      maxOf_unique _ _ hxh (fun x hx => by have := (hrange x hx).2; omega)
    have hf : cs[k].scalarFlag = false := hflag
    have hwires : (List.range (maxOf ((busBits bn nets).map (·.1)) + 1 - cs[k].lower)).map
        (fun j => bitPins (busBits bn nets) (cs[k].lower + j)) = cs[k].wires := by
      rw [show maxOf ((busBits bn nets).map (·.1)) + 1 - cs[k].lower = cs[k].wires.length by rw [hmax]; omega]
      apply List.ext_getElem
      · simp
      · intro j hj1 hj2
        simp only [List.getElem_map, List.getElem_range, bitPins_eq]
        rw [← hget j hj2]
        simp [List.getD_eq_getElem?_getD, hj2]
    simp only [view05Cable, hname, hident, hmin, hwires, CCable.isArray, CCable.isScalar, hf, ANet.item]
    simp

theorem pins_netStep_perm (cs : List CCable) (it : NetItem) :
    ((netStep cs it).flatMap fun c => c.wires.flatten).Perm ((cs.flatMap fun c => c.wires.flatten) ++ it.pins) := by
  rcases netStep_cases cs it with ⟨_, he⟩ | ⟨i, _, _, he⟩ | ⟨i, k, hk, _, _, he⟩ <;> rw [he]
  · simp [List.flatMap_append, scalarCable]
  · simp [List.flatMap_append, busCable]
  · apply flatMap_set_perm (fun c : CCable => c.wires.flatten) cs k cs[k] _ (List.getElem?_eq_getElem hk)
    rw [(mergeInto_eq cs[k] i it.pins).2.1]
    exact flatten_mergeBus_perm ⟨cs[k].lower, cs[k].wires⟩ i it.pins

theorem pins_foldl_perm (items : List NetItem) (cs : List CCable) :
    ((items.foldl netStep cs).flatMap fun c => c.wires.flatten).Perm
      ((cs.flatMap fun c => c.wires.flatten) ++ items.flatMap (·.pins)) := by
  induction items generalizing cs with
  | nil => simp
  | cons it r ih =>
    simp only [List.foldl_cons, List.flatMap_cons]
    refine (ih (netStep cs it)).trans ?_
    rw [← List.append_assoc]
    exact List.Perm.append_right _ (pins_netStep_perm cs it)

theorem item_pins (n : ANet) : n.item.pins = n.pins.map APin.pin := by
  obtain ⟨k, p⟩ := n; cases k <;> rfl

theorem pin_of_assembled (nets : List ANet) (pin : CPin)
    (h : pin ∈ ((nets.map ANet.item).foldl netStep []).flatMap (fun c => c.wires.flatten)) :
    ∃ n ∈ nets, ∃ ap ∈ n.pins, ap.pin = pin := by
  have hp := pins_foldl_perm (nets.map ANet.item) []
  simp only [List.flatMap_nil, List.nil_append] at hp
  have := hp.mem_iff.mp h
  rw [List.mem_flatMap] at this
  obtain ⟨it, hit, hpin⟩ := this
  obtain ⟨n, hn, rfl⟩ := List.mem_map.mp hit
  rw [item_pins] at hpin
  obtain ⟨ap, hap, rfl⟩ := List.mem_map.mp hpin
  exact ⟨n, hn, ap, hap, rfl⟩

/-- a pin the text joins once is joined once: `Wire.connect_pin` never asserts -/
theorem hasDupPin_nets (nets : List ANet) (h : (nets.flatMap fun n => n.pins.map APin.pin).Nodup) :
    hasDupPin ((nets.map ANet.item).foldl netStep []) = false := by
  apply hasDupPin_false
  have hp := pins_foldl_perm (nets.map ANet.item) []
  simp only [List.flatMap_nil, List.nil_append] at hp
  rw [hp.nodup_iff]
  have e : (nets.map ANet.item).flatMap (·.pins) = nets.flatMap fun n => n.pins.map APin.pin := by
    rw [List.flatMap_map]
    congr 1
    funext n
    exact item_pins n
  rw [e]
  exact h

end Spydr.Edif
