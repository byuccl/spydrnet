/-
  C05, specification side of the erasure theorem: `strip`, construct by construct — which items of an EDIF file count as
  noise (comments, status blocks, the properties of everything but instances, owners, the design's tail, a comment-only
  contents block) and which spellings are written in one form (`cellType`, `viewType`, `direction`, a renamed view).
  Definitions only; the theorem is `C05.edif_erasure` (Props/C05Erase.lean).
-/
import Spydr.Edif.ModelWrite
namespace Spydr.Edif

/-- remove the noise items of an item list, transform the others; the loop stops at the first atom, so
    whatever follows it is left alone -/
def stripItems (isNoise : List SExp → Bool) (sub : List SExp → List SExp) : List SExp → List SExp
  | [] => []
  | .list ys :: r => if isNoise ys then stripItems isNoise sub r else .list (sub ys) :: stripItems isNoise sub r
  | .atom a :: r => .atom a :: r

def noiseIn (ks : List String) (ys : List SExp) : Bool := ks.any (headIs ys)

/-- the direction token in capitals (the reader compares it ignoring case) -/
def canonDirTok (t : SExp) : SExp :=
  if isKw t "inout" then A "INOUT" else if isKw t "input" then A "INPUT" else if isKw t "output" then A "OUTPUT" else t

def subPort (ys : List SExp) : List SExp :=
  match ys with
  | [k, t] => if isKw k "direction" then [k, canonDirTok t] else ys
  | _ => ys

/-- a port: properties and comments go; the direction is written in capitals -/
def stripPort (ys : List SExp) : List SExp :=
  match ys with
  | kw :: nm :: items => kw :: nm :: stripItems (noiseIn ["property", "comment"]) subPort items
  | _ => ys

/-- a property that is kept: its `(owner …)` goes (the reader checks it and stores nothing) -/
def stripProp (ys : List SExp) : List SExp :=
  match ys with
  | kw :: nm :: v :: tail => kw :: nm :: v :: stripItems (noiseIn ["owner"]) id tail
  | _ => ys

def subInst (ys : List SExp) : List SExp := if headIs ys "property" then stripProp ys else ys

/-- an instance: comments go (its properties are kept, without their owner) -/
def stripInst (ys : List SExp) : List SExp :=
  match ys with
  | kw :: nm :: vr :: items => kw :: nm :: vr :: stripItems (noiseIn ["comment"]) subInst items
  | _ => ys

/-- a net: properties and comments go -/
def stripNet (ys : List SExp) : List SExp :=
  match ys with
  | kw :: nm :: jn :: items => kw :: nm :: jn :: stripItems (noiseIn ["property", "comment"]) id items
  | _ => ys

def subContents (ys : List SExp) : List SExp :=
  if headIs ys "instance" then stripInst ys else if headIs ys "net" then stripNet ys else ys

/-- contents: comments go; instances and nets are stripped -/
def stripContents (ys : List SExp) : List SExp :=
  match ys with
  | kw :: items => kw :: stripItems (noiseIn ["comment"]) subContents items
  | [] => []

def subIface (ys : List SExp) : List SExp := if headIs ys "port" then stripPort ys else ys

/-- interface: properties and comments go; ports are stripped -/
def stripIface (ys : List SExp) : List SExp :=
  match ys with
  | kw :: items => kw :: stripItems (noiseIn ["property", "comment"]) subIface items
  | [] => []

def subView (ys : List SExp) : List SExp := if headIs ys "contents" then stripContents ys else ys

def isCommentItem : SExp → Bool
  | .list zs => noiseIn ["comment"] zs
  | .atom _ => false

/-- a `(contents …)` holding nothing but comments -/
def emptyContents (ys : List SExp) : Bool := headIs ys "contents" && ys.tail.all isCommentItem

def viewNoise (ys : List SExp) : Bool := noiseIn ["status", "comment", "property"] ys || emptyContents ys

/-- `(cellType X)` → `(celltype GENERIC)`, `(viewType X)` → `(viewtype NETLIST)`: the reader stores the spelling of the
    keyword under `EDIF.cellType` / `EDIF.view.viewType` (a key nothing reads) and only checks the value -/
def canonType (kw val : String) : SExp → SExp
  | .list [_, _] => .list [A kw, A val]
  | x => x

/-- `(rename i "o")` → `i` -/
def plainName : SExp → SExp
  | .list [_, i, _] => i
  | x => x

/-- view: status, comments, properties and an empty contents block go; interface and contents are stripped; a renamed view keeps
    its identifier only (the original name of a view is stored under `EDIF.view.original_identifier` and
    read by nothing) -/
def stripView (ys : List SExp) : List SExp :=
  match ys with
  | kw :: nm :: vt :: .list ifc :: items =>
    kw :: plainName nm :: canonType "viewtype" "NETLIST" vt :: .list (stripIface ifc) :: stripItems viewNoise subView items
  | _ => ys

def subCell (ys : List SExp) : List SExp := if headIs ys "view" then stripView ys else ys

/-- cell: status, comments, properties go; the view is stripped -/
def stripCell (ys : List SExp) : List SExp :=
  match ys with
  | kw :: nm :: ct :: items =>
    kw :: nm :: canonType "celltype" "GENERIC" ct :: stripItems (noiseIn ["status", "property", "comment"]) subCell items
  | _ => ys

def subLib (ys : List SExp) : List SExp := if headIs ys "cell" then stripCell ys else ys

/-- library: status blocks and comments go; cells are stripped -/
def stripLib (ys : List SExp) : List SExp :=
  match ys with
  | kw :: nm :: lv :: tech :: items => kw :: nm :: lv :: tech :: stripItems (noiseIn ["status", "comment"]) subLib items
  | _ => ys

/-- design: what follows the cellRef (properties, comments; the reader skips it) goes -/
def stripDesign (ys : List SExp) : List SExp :=
  match ys with
  | kw :: nm :: cr :: _ => [kw, nm, cr]
  | _ => ys

def subBody (ys : List SExp) : List SExp :=
  if headIs ys "library" || headIs ys "external" then stripLib ys
  else if headIs ys "design" then stripDesign ys else ys

/-- **strip**: the file without its comments, status blocks, and the properties of everything but
    instances -/
def strip : SExp → SExp
  | .list (kw :: nm :: ver :: lvl :: km :: items) =>
    .list (kw :: nm :: ver :: lvl :: km :: stripItems (noiseIn ["status", "comment"]) subBody items)
  | e => e

end Spydr.Edif
