/-
  From what holds of EVERY netlist the reader returns (`StructWF`, `AllNamed`) to the structural clauses of C03's
  quantifier (`WFNet`): siblings `Distinct`, cables non-empty, every pin an existing port bit (`PinWF`); "every pin
  once" is a clause of `StructWF` as it stands.  What `WFNet` asks beyond these is about spellings (legal identifiers,
  printable names, bus bit names), which the reader does not promise.
-/
import Spydr.Edif.StructFile
import Spydr.Edif.NamesFile
import Spydr.Edif.LemmasWF
namespace Spydr.Edif

/-- with names everywhere, "no clash" is literally: pairwise different names and pairwise different
    identifiers ignoring case (`Distinct` of LemmasWF.lean, the clause of C03's quantifier) -/
theorem C05.distinct_of_noClash (ds : List Data) (hc : NoClash ds) (hn : ∀ d ∈ ds, Named d) : Distinct ds := by
  refine List.Pairwise.imp_of_mem ?_ hc
  intro a b ha hb h
  obtain ⟨ia, hia⟩ := Option.isSome_iff_exists.mp (hn a ha).1
  obtain ⟨na, hna⟩ := Option.isSome_iff_exists.mp (hn a ha).2
  obtain ⟨ib, hib⟩ := Option.isSome_iff_exists.mp (hn b hb).1
  obtain ⟨nb, hnb⟩ := Option.isSome_iff_exists.mp (hn b hb).2
  simp only [clash, hia, hib, hna, hnb, Bool.or_eq_false_iff, beq_eq_false_iff_ne, ne_eq] at h
  simp only [nmOf, idOf, hia, hib, hna, hnb, Option.getD_some]
  exact ⟨h.2, h.1⟩

theorem structWF_get {n : CNetlist} (hs : StructWF n) {L D : Nat} {l : CLib} {d : CDef} (hl : n.libs[L]? = some l)
    (hd : l.defs[D]? = some d) : NoClash (l.defs.map (·.data)) ∧ DefWF n.libs L D d :=
  have hzl : (l, L) ∈ n.libs.zipIdx := List.mem_zipIdx_iff_getElem?.mpr hl
  ⟨hs.defs _ hzl, hs.cells _ hzl (d, D) (List.mem_zipIdx_iff_getElem?.mpr hd)⟩

theorem structWF_mem {n : CNetlist} (hs : StructWF n) {l : CLib} (hl : l ∈ n.libs) :
    NoClash (l.defs.map (·.data)) ∧ ∀ d ∈ l.defs, ∃ L D, DefWF n.libs L D d := by
  obtain ⟨L, hL, rfl⟩ := List.getElem_of_mem hl
  have hzl : (n.libs[L], L) ∈ n.libs.zipIdx := List.mem_zipIdx_iff_getElem?.mpr (List.getElem?_eq_getElem hL)
  refine ⟨hs.defs _ hzl, fun d hd => ?_⟩
  obtain ⟨D, hD, rfl⟩ := List.getElem_of_mem hd
  exact ⟨L, D, hs.cells _ hzl (_, D) (List.mem_zipIdx_iff_getElem?.mpr (List.getElem?_eq_getElem hD))⟩

/-- every instance has a reference: `InstRefOK` fails without one -/
theorem StructWF.allInstancesReferenced {n : CNetlist} (hs : StructWF n) : AllInstancesReferenced n := by
  intro l hl d hd i hi
  obtain ⟨_, _, hw⟩ := (structWF_mem hs hl).2 d hd
  have hr := List.all_eq_true.mp hw.refs i hi
  unfold InstRefOK at hr
  cases hir : i.ref with
  | none => rw [hir] at hr; cases hr
  | some r => rfl

theorem siblings_distinct {n : CNetlist} (hs : StructWF n) (hn : AllNamed n) :
    Distinct (n.libs.map (·.data)) ∧
    ∀ l ∈ n.libs, Distinct (l.defs.map (·.data)) ∧
      ∀ d ∈ l.defs, Distinct (d.ports.map (·.data)) ∧ Distinct (d.insts.map (·.data)) ∧ Distinct (d.cables.map (·.data)) := by
  obtain ⟨_, _, hl⟩ := hn
  have hmap : ∀ {α : Type} (f : α → Data) (xs : List α), (∀ x ∈ xs, Named (f x)) → ∀ d ∈ xs.map f, Named d := by
    intro α f xs hx d hd
    obtain ⟨x, hxm, rfl⟩ := List.mem_map.mp hd
    exact hx x hxm
  refine ⟨C05.distinct_of_noClash _ hs.libs (hmap _ _ (fun l hlm => (hl l hlm).1)), ?_⟩
  intro l hlm
  obtain ⟨hdefs, hcells⟩ := structWF_mem hs hlm
  refine ⟨C05.distinct_of_noClash _ hdefs (hmap _ _ (fun d hd => ((hl _ hlm).2 d hd).1)), ?_⟩
  intro d hdm
  obtain ⟨_, _, hw⟩ := hcells d hdm
  obtain ⟨_, hp, hi, hc⟩ := (hl _ hlm).2 _ hdm
  exact ⟨C05.distinct_of_noClash _ hw.ports (hmap _ _ hp), C05.distinct_of_noClash _ hw.insts (hmap _ _ hi),
    C05.distinct_of_noClash _ hw.cables (hmap _ _ hc)⟩

theorem portBitOK_wf {ps : List CPort} {pi bi : Nat} (h : PortBitOK ps pi bi = true) :
    ∃ p, ps[pi]? = some p ∧ bi < p.width ∧ (p.isArray = false → bi = 0) := by
  unfold PortBitOK at h
  split at h
  · rename_i p hp
    simp only [Bool.and_eq_true, Bool.or_eq_true, decide_eq_true_eq] at h
    exact ⟨p, hp, h.1, fun ha => h.2.resolve_left (by simp [ha])⟩
  · cases h

theorem pinWF_of_ok {libs : List CLib} {d : CDef} {pin : CPin} (h : PinOKB libs d pin = true) : PinWF libs d pin := by
  cases pin with
  | port pi bi => exact portBitOK_wf h
  | inst ii pi bi =>
    simp only [PinOKB] at h
    split at h
    · cases h
    rename_i inst hi
    split at h
    · cases h
    rename_i r hr
    split at h
    · cases h
    rename_i rd hrd
    obtain ⟨l2, hl2, hd2⟩ := Option.bind_eq_some_iff.mp hrd
    obtain ⟨p, hp, hb, hsc⟩ := portBitOK_wf h
    exact ⟨inst, r.1, r.2, l2, rd, p, hi, hr, hl2, hd2, hp, hb, hsc⟩

theorem DefWF.cablesWF {libs : List CLib} {L D : Nat} {d : CDef} (h : DefWF libs L D d) :
    ∀ c ∈ d.cables, c.wires ≠ [] ∧ ∀ w ∈ c.wires, ∀ pin ∈ w, PinWF libs d pin := by
  intro c hc
  have := List.all_eq_true.mp h.wires c hc
  simp only [CableOKB, Bool.and_eq_true, Bool.not_eq_true', List.isEmpty_eq_false_iff, List.all_eq_true] at this
  exact ⟨this.1, fun w hw pin hp => pinWF_of_ok (this.2 w hw pin hp)⟩

end Spydr.Edif
