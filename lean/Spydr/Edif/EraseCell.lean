/-
  Erasure: contents, interface, view, cell.
-/
import Spydr.Edif.EraseLeaf
namespace Spydr.Edif

theorem headIs_stripPort (ys : List SExp) (k : String) : headIs (stripPort ys) k = headIs ys k := by
  rcases ys with _ | ⟨a, _ | ⟨b, c⟩⟩ <;> rfl

theorem headIs_stripInst (ys : List SExp) (k : String) : headIs (stripInst ys) k = headIs ys k := by
  rcases ys with _ | ⟨a, _ | ⟨b, _ | ⟨c, d⟩⟩⟩ <;> rfl

theorem headIs_stripNet (ys : List SExp) (k : String) : headIs (stripNet ys) k = headIs ys k := by
  rcases ys with _ | ⟨a, _ | ⟨b, _ | ⟨c, d⟩⟩⟩ <;> rfl

theorem headIs_stripContents (ys : List SExp) (k : String) : headIs (stripContents ys) k = headIs ys k := by
  rcases ys with _ | ⟨a, b⟩ <;> rfl

theorem headIs_stripView (ys : List SExp) (k : String) : headIs (stripView ys) k = headIs ys k := by
  rcases ys with _ | ⟨a, _ | ⟨b, _ | ⟨c, _ | ⟨d, e⟩⟩⟩⟩ <;> try rfl
  cases d <;> rfl

structure RelSt (p : List Str) (st st' : CellSt) : Prop where
  pfx : st.m.pfx = p
  m : MRel KO st.m st'.m
  ports : All2 RelPort st.ports st'.ports
  insts : All2 RelInst st.insts st'.insts
  cables : All2 RelCable st.cables st'.cables

theorem flat_wires {cs cs' : List CCable} (h : All2 RelCable cs cs') :
    cs.flatMap (fun c => c.wires.flatten) = cs'.flatMap (fun c => c.wires.flatten) := by
  induction h with
  | nil => rfl
  | cons hh _ ih => simp only [List.flatMap_cons, hh.wires, ih]

theorem hasDupPin_rel {cs cs' : List CCable} (h : All2 RelCable cs cs') : hasDupPin cs = hasDupPin cs' := by
  unfold hasDupPin
  rw [flat_wires h]

def pE : List Str := [S "EDIF"]
def pV : List Str := [S "EDIF", S "view"]

theorem RelSt.withM {p : List Str} {st st' : CellSt} (hr : RelSt p st st') {m1 : Meta}
    (h : m1.pfx = st.m.pfx ∧ SameOn KO st.m.data m1.data) : RelSt p { st with m := m1 } st' :=
  ⟨h.1.trans hr.pfx, hr.m.noise h, hr.ports, hr.insts, hr.cables⟩

theorem MetaStep.same {ks : List String} {m m' : Meta} {ys : List SExp} (h : MetaStep ks m ys m')
    (hp : m.pfx = pE ∨ m.pfx = pV) : m'.pfx = m.pfx ∧ SameOn KO m.data m'.data := by
  obtain hp | hp := hp
  · obtain h | h | h := h.2
    · exact parseComment_sameK KO m m' ys (by rw [hp]; exact ns_comments_O.plain) h
    · exact parseProperty_sameK KO m m' ys (by rw [hp]; exact ns_properties_O) h
    · exact parseStatus_sameK KO m m' ys (by rw [hp]; exact ns_status_O) h
  · obtain h | h | h := h.2
    · exact parseComment_sameK KO m m' ys (by rw [hp]; exact ns_comments_V.plain) h
    · exact parseProperty_sameK KO m m' ys (by rw [hp]; exact ns_properties_V) h
    · exact parseStatus_sameK KO m m' ys (by rw [hp]; exact ns_status_V) h

theorem contentsItem_kept (sc sc' : Scope) (hsc : RelScope sc sc') (p : List Str) (st st' : CellSt) (ys : List SExp) (st1 : CellSt)
    (hr : RelSt p st st') (hnz : noiseIn ["comment"] ys = false) (hs : contentsItem sc st ys = .ok st1) :
    ∃ st1', contentsItem sc' st' (subContents ys) = .ok st1' ∧ RelSt p st1 st1' := by
  obtain ⟨i, d, hi, hpi, hd, rfl⟩ | ⟨d, pins, cs, hi, hn, hv, hcs, rfl⟩ | ⟨m, hm, -⟩ := contentsItem_ok hs
  · obtain ⟨i', hpi', hri⟩ := parseInstance_strip sc sc' hsc ys i hpi
    obtain ⟨d', hd', hrd⟩ := addRetry_rel KI kI_I kN_I _ _ (nameEq_insts hr.insts) i.data i'.data d hri.data hd
    refine ⟨{ st' with insts := st'.insts ++ [{ i' with data := d' }] }, ?_, hr.pfx, hr.m, hr.ports,
      forall₂_snoc hr.insts ⟨hri.ref, hrd⟩, hr.cables⟩
    simp only [contentsItem, subContents, hi, if_true, headIs_stripInst, hpi', hd', ok_bind, pure_ok]
  · obtain ⟨d', hv', hrd⟩ := parseNet_strip { sc := sc, ports := st.ports, insts := st.insts }
      { sc := sc', ports := st'.ports, insts := st'.insts } ⟨hsc, hr.ports, hr.insts⟩ ys d pins hv
    obtain ⟨cs', hcs', hrc⟩ := multibitAdd_rel _ _ hr.cables d d' hrd pins cs hcs
    refine ⟨{ st' with cables := cs' }, ?_, hr.pfx, hr.m, hr.ports, hr.insts, hrc⟩
    simp only [contentsItem, subContents, hi, hn, if_true, if_false, Bool.false_eq_true, headIs_stripNet, hv', hcs', ok_bind,
      pure_ok]
  · exact absurd (hnz.symm.trans hm.1) Bool.false_ne_true

theorem contentsItem_noise (sc : Scope) (st st' : CellSt) (ys : List SExp) (st1 : CellSt)
    (hr : RelSt pV st st') (hnz : noiseIn ["comment"] ys = true) (hs : contentsItem sc st ys = .ok st1) :
    RelSt pV st1 st' := by
  obtain ⟨i, d, hi, -⟩ | ⟨d, pins, cs, -, hn, -⟩ | ⟨m, hm, rfl⟩ := contentsItem_ok hs
  · exact (noise_kept hnz hi (by decide)).elim
  · exact (noise_kept hnz hn (by decide)).elim
  · exact hr.withM (hm.same (.inr hr.pfx))

theorem tail_stripContents (ys : List SExp) :
    (stripContents ys).tail = stripItems (noiseIn ["comment"]) subContents ys.tail := by
  cases ys <;> rfl

theorem tail_stripIface (ys : List SExp) :
    (stripIface ys).tail = stripItems (noiseIn ["property", "comment"]) subIface ys.tail := by
  cases ys <;> rfl

theorem headIs_stripIface (ys : List SExp) (k : String) : headIs (stripIface ys) k = headIs ys k := by
  rcases ys with _ | ⟨a, b⟩ <;> rfl

def IfRel (s s' : CellSt × Bool) : Prop := RelSt pV s.1 s'.1 ∧ s.2 = s'.2

theorem ifaceItem_kept (s s' : CellSt × Bool) (ys : List SExp) (s1 : CellSt × Bool) (hr : IfRel s s')
    (hnz : noiseIn ["property", "comment"] ys = false) (hs : ifaceItem s ys = .ok s1) :
    ∃ s1', ifaceItem s' (subIface ys) = .ok s1' ∧ IfRel s1 s1' := by
  obtain ⟨st', des'⟩ := s'
  obtain ⟨hr, rfl⟩ := hr
  obtain ⟨q, hp, hq, hc, rfl⟩ | ⟨hp, -, hd, rfl⟩ | ⟨m, hm, -⟩ := ifaceItem_ok hs
  · obtain ⟨q', hq', hrq⟩ := parsePort_strip ys q hq
    rw [conflicts_congr _ _ (nameEq_ports hr.ports) _ _ (nameEq_of_sameOn KO kI_O kN_O _ _ hrq.data)] at hc
    refine ⟨({ st' with ports := st'.ports ++ [q'] }, s.2), ?_, ⟨hr.pfx, hr.m, forall₂_snoc hr.ports hrq, hr.insts, hr.cables⟩, rfl⟩
    simp only [ifaceItem, subIface, hp, if_true, headIs_stripPort, hq', hc, if_false, Bool.false_eq_true, ok_bind, pure_ok]
  · exact ⟨(st', true), by rw [subIface, if_neg hp]; exact hd st', hr, rfl⟩
  · exact absurd (hnz.symm.trans hm.1) Bool.false_ne_true

theorem ifaceItem_noise (s s' : CellSt × Bool) (ys : List SExp) (s1 : CellSt × Bool) (hr : IfRel s s')
    (hnz : noiseIn ["property", "comment"] ys = true) (hs : ifaceItem s ys = .ok s1) : IfRel s1 s' := by
  obtain ⟨q, hp, -⟩ | ⟨-, hd, -⟩ | ⟨m, hm, rfl⟩ := ifaceItem_ok hs
  · exact (noise_kept hnz hp (by decide)).elim
  · exact (noise_kept hnz hd (by decide)).elim
  · exact ⟨hr.1.withM (hm.same (.inr hr.1.pfx)), hr.2⟩

/-- the flag "contents seen" may be ahead in the first run: it has read a `(contents …)` of comments only that the second
    never sees -/
def ViewRel (s s' : CellSt × Bool × Bool) : Prop := RelSt pV s.1 s'.1 ∧ (s'.2.2 = true → s.2.2 = true)

theorem viewItem_kept (sc sc' : Scope) (hsc : RelScope sc sc') (s s' : CellSt × Bool × Bool) (ys : List SExp)
    (s1 : CellSt × Bool × Bool) (hr : ViewRel s s')
    (hnz : viewNoise ys = false) (hs : viewItem sc s ys = .ok s1) :
    ∃ s1', viewItem sc' s' (subView ys) = .ok s1' ∧ ViewRel s1 s1' := by
  simp only [viewNoise, Bool.or_eq_false_iff] at hnz
  obtain ⟨st', hS', hC'⟩ := s'
  obtain ⟨st2, rest, hcont, hC, hv, hend, hdup, rfl⟩ | ⟨m, b, hm, -⟩ := viewItem_ok hs
  · obtain ⟨st2', hl', hr2⟩ := loopC_strip (contentsItem sc) (contentsItem sc') (noiseIn ["comment"]) subContents
      (RelSt pV) (contentsItem_kept sc sc' hsc pV) (contentsItem_noise sc) ys.tail s.1 st' st2 rest hr.1 hv
    have hst : headIs ys "status" = false := not_noise hnz.1 List.mem_cons_self
    have hC' : ¬hC' = true := fun h => Bool.false_ne_true (hC.symm.trans (hr.2 h))
    rw [hasDupPin_rel hr2.cables] at hdup
    refine ⟨(st2', hS', true), ?_, hr2, fun _ => rfl⟩
    simp only [viewItem, subView, hcont, if_true, headIs_stripContents, hst, hC', tail_stripContents, hl', hend, hdup, if_false,
      Bool.false_eq_true, ok_bind, pure_ok]
  · exact absurd (hnz.1.symm.trans hm.1) Bool.false_ne_true

theorem loopC_comments (sc : Scope) (st' : CellSt) : ∀ (xs : List SExp) (st st2 : CellSt) (rest : List SExp),
    xs.all isCommentItem = true → RelSt pV st st' → loopC (contentsItem sc) st xs = .ok (st2, rest) → RelSt pV st2 st' := by
  intro xs
  induction xs with
  | nil =>
    intro st st2 rest _ hr hl
    simp only [loopC, pure, Except.pure, Except.ok.injEq, Prod.mk.injEq] at hl
    obtain ⟨rfl, _⟩ := hl
    exact hr
  | cons x r ih =>
    intro st st2 rest hall hr hl
    simp only [List.all_cons, Bool.and_eq_true] at hall
    cases x with
    | atom a => simp [isCommentItem] at hall
    | list ys =>
      obtain ⟨s2, hs2, hl⟩ := bind_eq_ok.mp hl
      exact ih s2 st2 rest hall.2 (contentsItem_noise sc st st' ys s2 hr hall.1 hs2) hl

theorem viewItem_noise (sc : Scope) (s s' : CellSt × Bool × Bool) (ys : List SExp) (s1 : CellSt × Bool × Bool)
    (hr : ViewRel s s') (hnz : viewNoise ys = true) (hs : viewItem sc s ys = .ok s1) :
    ViewRel s1 s' := by
  obtain ⟨st2, rest, hcont, -, hv, -, -, rfl⟩ | ⟨m, b, hm, rfl⟩ := viewItem_ok hs
  · -- a contents block that is noise holds comments only
    have hall : ys.tail.all isCommentItem = true := by
      cases hn : noiseIn ["status", "comment", "property"] ys with
      | true => exact (noise_kept hn hcont (by decide)).elim
      | false => simpa only [viewNoise, hn, Bool.false_or, emptyContents, hcont, Bool.true_and] using hnz
    exact ⟨loopC_comments sc s'.1 ys.tail s.1 st2 rest hall hr.1 hv, fun _ => rfl⟩
  · exact ⟨hr.1.withM (hm.same (.inr hr.1.pfx)), hr.2⟩

/-- a value stored under a key outside `K`: whatever value, the two runs stay related -/
theorem setAttr_noise2 (m m' m1 : Meta) (v v' : Val) (hp : PlainK KO m.pfx) (h : MRel KO m m')
    (hs : setAttr m v = .ok m1) : ∃ m1', setAttr m' v' = .ok m1' ∧ MRel KO m1 m1' := by
  have hp' : PlainK KO m'.pfx := h.1 ▸ hp
  have h1 := setAttr_sameK KO m m1 v hp hs
  obtain ⟨p1, p2, p3⟩ := hp'
  refine ⟨{ m' with data := m'.data.set m'.key v' }, ?_, ?_, ?_⟩
  · exact setAttr_plain m'.data m'.pfx v' p2 p1
  · exact h1.1.trans h.1
  · intro k hk
    show (m'.data.set (joinDot m'.pfx) v').get? k = m1.data.get? k
    rw [Data.get?_set_other _ _ _ _ (Ne.symm (p3 k hk)), h.2 k hk, h1.2 k hk]

theorem nameDef_plain (m m' m1 : Meta) (hp : m.pfx = pV) (h : MRel KO m m') (nm : SExp) (rest r : List SExp)
    (hs : nameDef m (nm :: rest) = .ok (m1, r)) :
    ∃ m1', nameDef m' (plainName nm :: rest) = .ok (m1', r) ∧ MRel KO m1 m1' := by
  cases nm with
  | atom a => exact nameDef_rel KO kN_O m m' m1 _ r h hs
  | list ys =>
    obtain ⟨_, hx, ⟨_, hl, hr⟩ | ⟨_, _, hi, -⟩⟩ := nameDef_iff.mp hs
    · cases hx
      cases hl
      obtain ⟨kw, i, o, ident, ma, orig, mc, rfl, -, hident, hma, -, hmc, rfl⟩ := parseRename_iff.mp hr
      obtain ⟨ma', hma', hra⟩ := setAttr_rel KO kN_O _ _ ma _ (h.push "identifier") hma
      have hpa : ma.pop.pfx = pV := (pop_pfx _ _ _ (setAttr_pfx _ _ _ hma)).trans hp
      have hnoise := setAttr_sameK KO (ma.pop.push "original_identifier") mc _
        (by simp only [Meta.push, hpa]; exact ns_orig_V.plain) hmc
      refine ⟨ma'.pop, nameDef_iff.mpr ⟨_, rfl, .inr ⟨ident, ma', hident, hma', rfl⟩⟩, ?_, ?_⟩
      · have := hra.pop.1
        simp only [Meta.pop, Meta.push] at hnoise this ⊢
        rw [hnoise.1, List.dropLast_concat]
        exact this
      · intro k hk
        have h1 := hra.2 k hk
        have h2 := hnoise.2 k hk
        simp only [Meta.pop, Meta.push] at h1 h2 ⊢
        rw [h1, h2]
    · cases hx
      cases hi

theorem parseView_strip (sc sc' : Scope) (hsc : RelScope sc sc') (st st' : CellSt) (hr : RelSt pE st st') (ys : List SExp)
    (st1 : CellSt) (hs : parseView sc st ys = .ok st1) :
    ∃ st1', parseView sc' st' (stripView ys) = .ok st1' ∧ RelSt pE st1 st1' := by
  obtain ⟨m, k, t, ifc, rest, m2, s3, ir, s4, rest2, hv, -, -, hm2, hifc, hl3, he3, hl4, he4, rfl⟩ := parseView_iff.mp hs
  obtain ⟨kw, nm, rfl, -⟩ := nameDef_tail hv
  have hpush : (st.m.push "view").pfx = pV := by simp [Meta.push, hr.pfx, pV, pE]
  have hpfx : m.pfx = pV := (nameDef_pfx _ _ _ _ hv).trans hpush
  obtain ⟨m', hv', hrm⟩ := nameDef_plain _ _ m hpush (hr.m.push "view") nm _ _ hv
  obtain ⟨m2', hm2', hrm2⟩ := setAttr_noise2 _ _ m2 _ (.str (atomText (A "viewtype")))
    (by simp only [Meta.push, hpfx]; exact ns_viewType.plain) (hrm.push "viewType") hm2
  have hpfx2 : m2.pop.pfx = pV := (pop_pfx _ _ _ (setAttr_pfx _ _ _ hm2)).trans hpfx
  obtain ⟨s3', hl3', hr3⟩ := loopC_strip ifaceItem ifaceItem (noiseIn ["property", "comment"]) subIface IfRel
    ifaceItem_kept ifaceItem_noise ifc.tail ({ st with m := m2.pop }, false) ({ st' with m := m2'.pop }, false) s3 ir
    ⟨⟨hpfx2, hrm2.pop, hr.ports, hr.insts, hr.cables⟩, rfl⟩ hl3
  obtain ⟨s4', hl4', hr4⟩ := loopC_strip (viewItem sc) (viewItem sc') viewNoise subView ViewRel
    (viewItem_kept sc sc' hsc) (viewItem_noise sc) rest (s3.1, false, false) (s3'.1, false, false) s4 rest2
    ⟨hr3.1, fun h => h⟩ hl4
  refine ⟨_, parseView_iff.mpr ⟨m', A "viewtype", A "NETLIST", stripIface ifc, _, m2', s3', ir, s4', rest2,
    (nameDef_rest _ _ _ _ _ hv').2 _, by decide +kernel, by decide +kernel, hm2', (headIs_stripIface ifc _).trans hifc,
    tail_stripIface ifc ▸ hl3', he3, hl4', he4, rfl⟩, ?_, hr4.1.m.pop, hr4.1.ports, hr4.1.insts, hr4.1.cables⟩
  simp only [Meta.pop]
  rw [hr4.1.pfx]; rfl

theorem cellItem_kept (sc sc' : Scope) (hsc : RelScope sc sc') (st st' : CellSt) (ys : List SExp) (st1 : CellSt)
    (hr : RelSt pE st st') (hnz : noiseIn ["status", "property", "comment"] ys = false) (hs : cellItem sc st ys = .ok st1) :
    ∃ st1', cellItem sc' st' (subCell ys) = .ok st1' ∧ RelSt pE st1 st1' := by
  obtain ⟨hv, hs⟩ | ⟨m, b, hm, -⟩ := cellItem_ok hs
  · obtain ⟨st1', h1, h2⟩ := parseView_strip sc sc' hsc st st' hr ys st1 hs
    have hst : headIs ys "status" = false := not_noise hnz List.mem_cons_self
    exact ⟨st1', by simp only [cellItem, subCell, hv, if_true, headIs_stripView, hst, if_false, Bool.false_eq_true, h1], h2⟩
  · exact absurd (hnz.symm.trans hm.1) Bool.false_ne_true

theorem cellItem_noise (sc : Scope) (st st' : CellSt) (ys : List SExp) (st1 : CellSt)
    (hr : RelSt pE st st') (hnz : noiseIn ["status", "property", "comment"] ys = true) (hs : cellItem sc st ys = .ok st1) :
    RelSt pE st1 st' := by
  obtain ⟨hv, -⟩ | ⟨m, b, hm, rfl⟩ := cellItem_ok hs
  · exact (noise_kept hnz hv (by decide)).elim
  · have h := hm.same (.inl hr.pfx)
    exact ⟨h.1.trans hr.pfx, hr.m.noise h, hr.ports, hr.insts, hr.cables⟩

theorem parseCell_strip (sc sc' : Scope) (hsc : RelScope sc sc') (ys : List SExp) (c : CDef)
    (hs : parseCell sc ys = .ok c) : ∃ c', parseCell sc' (stripCell ys) = .ok c' ∧ RelDef c c' := by
  obtain ⟨m, k, t, rest, m2, st, rest2, hv, -, -, hm2, hl, he, rfl⟩ := parseCell_iff.mp hs
  obtain ⟨kw, nm, rfl, hall⟩ := nameDef_tail hv
  have hpfx : m.pfx = pE := nameDef_pfx _ _ _ _ hv
  obtain ⟨m2', hm2', hrm2⟩ := setAttr_noise2 _ _ m2 _ (.str (atomText (A "celltype")))
    (by simp only [Meta.push, hpfx]; exact ns_cellType.plain) ((MRel.refl KO m).push "cellType") hm2
  have hpfx2 : m2.pop.pfx = pE := (pop_pfx _ _ _ (setAttr_pfx _ _ _ hm2)).trans hpfx
  obtain ⟨st', hl', hr⟩ := loopC_strip (cellItem sc) (cellItem sc') (noiseIn ["status", "property", "comment"]) subCell
    (RelSt pE) (cellItem_kept sc sc' hsc) (cellItem_noise sc) rest { m := m2.pop } { m := m2'.pop } st rest2
    ⟨hpfx2, hrm2.pop, All2.nil, All2.nil, All2.nil⟩ hl
  exact ⟨_, parseCell_iff.mpr ⟨m, A "celltype", A "GENERIC", _, m2', st', rest2, hall _, by decide +kernel, by decide +kernel,
    hm2', hl', he, rfl⟩, hr.m.2, hr.ports, hr.insts, hr.cables⟩

end Spydr.Edif
