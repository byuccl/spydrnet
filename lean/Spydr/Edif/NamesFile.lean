/-
  Every element of a netlist the reader returns — the netlist, the top instance, libraries, definitions,
  ports, instances, cables — carries an EDIF identifier and a name.  Folds on arbitrary input.
-/
import Spydr.Edif.NamesElem
namespace Spydr.Edif

structure ElemsNamed (ports : List CPort) (insts : List CInst) (cables : List CCable) : Prop where
  hp : ∀ p ∈ ports, Named p.data
  hi : ∀ i ∈ insts, Named i.data
  hc : ∀ c ∈ cables, Named c.data

def CellNames (p : List Str) (st : CellSt) : Prop := MetaOK p st.m ∧ ElemsNamed st.ports st.insts st.cables

theorem contentsItem_names {p : List Str} (he : Elem p) (sc : Scope) {st : CellSt} {ys : List SExp} {st' : CellSt}
    (h : CellNames p st) (hs : contentsItem sc st ys = .ok st') : CellNames p st' := by
  obtain ⟨i, d, -, hi, hd, rfl⟩ | ⟨d, pins, cs, -, -, -, hcs, rfl⟩ | ⟨m, hm, rfl⟩ := contentsItem_ok hs
  · exact ⟨h.1, h.2.hp, mem_snoc_all _ _ _ h.2.hi (addRetry_named _ _ _ (parseInstance_named sc ys i hi) hd), h.2.hc⟩
  · exact ⟨h.1, h.2.hp, h.2.hi, multibitAdd_named _ _ _ _ h.2.hc hcs⟩
  · exact ⟨metaStep_ok he h.1 hm, h.2⟩

theorem ifaceItem_names {p : List Str} (he : Elem p) {s : CellSt × Bool} {ys : List SExp} {s' : CellSt × Bool}
    (h : CellNames p s.1) (hs : ifaceItem s ys = .ok s') : CellNames p s'.1 := by
  obtain ⟨q, -, hq, -, rfl⟩ | ⟨-, -, -, rfl⟩ | ⟨m, hm, rfl⟩ := ifaceItem_ok hs
  · exact ⟨h.1, mem_snoc_all _ _ _ h.2.hp (parsePort_named ys q hq), h.2.hi, h.2.hc⟩
  · exact h
  · exact ⟨metaStep_ok he h.1 hm, h.2⟩

theorem viewItem_names {p : List Str} (he : Elem p) (sc : Scope) {s : CellSt × Bool × Bool} {ys : List SExp}
    {s' : CellSt × Bool × Bool} (h : CellNames p s.1) (hs : viewItem sc s ys = .ok s') : CellNames p s'.1 := by
  obtain ⟨st, rest, -, -, hv, -, -, rfl⟩ | ⟨m, b, hm, rfl⟩ := viewItem_ok hs
  · exact loopC_ind (CellNames p) (contentsItem_names he sc) h hv
  · exact ⟨metaStep_ok he h.1 hm, h.2⟩

theorem parseView_names (sc : Scope) {st : CellSt} {ys : List SExp} {st' : CellSt} (h : CellNames [S "EDIF"] st)
    (hs : parseView sc st ys = .ok st') : CellNames [S "EDIF"] st' := by
  obtain ⟨m, _, _, _, _, m2, s1, _, s2, _, hv, -, -, hm2, -, hv1, -, hv2, -, rfl⟩ := parseView_iff.mp hs
  have hp : MetaOK [S "EDIF", S "view"] (st.m.push "view") := h.1.push "view"
  have hm := hp.step (nameDef_sameK KN _ m _ _ (by rw [hp.1]; exact ns_N _ (by decide +kernel)) hv)
  have h1 : CellNames [S "EDIF", S "view"] s1.1 := loopC_ind (fun s => CellNames [S "EDIF", S "view"] s.1)
    (ifaceItem_names elem_view) ⟨setAttr_pop_ok elem_view "viewType" (by decide +kernel) hm hm2, h.2⟩ hv1
  have h2 : CellNames [S "EDIF", S "view"] s2.1 := loopC_ind (fun s => CellNames [S "EDIF", S "view"] s.1)
    (viewItem_names elem_view sc) h1 hv2
  exact ⟨h2.1.pop, h2.2⟩

theorem cellItem_names (sc : Scope) {st : CellSt} {ys : List SExp} {st' : CellSt} (h : CellNames [S "EDIF"] st)
    (hs : cellItem sc st ys = .ok st') : CellNames [S "EDIF"] st' := by
  obtain ⟨-, hv⟩ | ⟨m, b, hm, rfl⟩ := cellItem_ok hs
  · exact parseView_names sc h hv
  · exact ⟨metaStep_ok elem_edif h.1 hm, h.2⟩

def DefNames (d : CDef) : Prop := Named d.data ∧ ElemsNamed d.ports d.insts d.cables

theorem parseCell_names (sc : Scope) (ys : List SExp) (d : CDef) (h : parseCell sc ys = .ok d) : DefNames d := by
  obtain ⟨m, _, _, _, m2, st, _, hv, -, -, hm2, hv1, -, rfl⟩ := parseCell_iff.mp h
  have hm2' := setAttr_pop_ok elem_edif "cellType" (by decide +kernel) (nameDef_named _ _ _ _ rfl rfl hv) hm2
  have : CellNames [S "EDIF"] st := loopC_ind (CellNames [S "EDIF"]) (cellItem_names sc)
    ⟨hm2', ⟨(by intro p hp; cases hp), (by intro p hp; cases hp), (by intro p hp; cases hp)⟩⟩ hv1
  exact ⟨this.1.2, this.2⟩

def LibNames (st : LibSt) : Prop := MetaOK [S "EDIF"] st.m ∧ ∀ d ∈ st.defs, DefNames d

theorem libItem_names (libs : List CLib) {st : LibSt} {ys : List SExp} {st' : LibSt} (h : LibNames st)
    (hs : libItem libs st ys = .ok st') : LibNames st' := by
  obtain ⟨c, d, -, hc, hd, rfl⟩ | ⟨m, b, hm, rfl⟩ := libItem_ok hs
  · have hcn := parseCell_names _ ys c hc
    exact ⟨h.1, mem_snoc_all _ _ _ h.2 ⟨addRetry_named _ _ _ hcn.1 hd, hcn.2⟩⟩
  · exact ⟨metaStep_ok elem_edif h.1 hm, h.2⟩

def LibFinal (l : CLib) : Prop := Named l.data ∧ ∀ d ∈ l.defs, DefNames d

theorem parseLibrary_names (libs : List CLib) (ext : Bool) (ys : List SExp) (l : CLib)
    (h : parseLibrary libs ext ys = .ok l) : LibFinal l := by
  obtain ⟨m, _, _, _, _, m2, st, _, hv, hm2, -, -, hv1, -, rfl⟩ := parseLibrary_iff.mp h
  have hm : MetaOK [S "EDIF"] m := by
    cases ext
    · exact nameDef_named _ _ _ _ rfl rfl hv
    · exact nameDef_named _ _ _ _ rfl rfl hv
  have : LibNames st := loopC_ind LibNames (libItem_names libs)
    ⟨levelOf_ok elem_edif "edifLevel" (by decide +kernel) hm hm2, by intro d hd; cases hd⟩ hv1
  exact ⟨this.1.2, this.2⟩

structure BodyNames (st : BodySt) : Prop where
  hm : MetaOK [S "EDIF"] st.m
  hl : ∀ l ∈ st.libs, LibFinal l
  ht : ∀ t, st.top = some t → Named t.data

theorem bodyItem_names {st : BodySt} {ys : List SExp} {st' : BodySt} (h : BodyNames st)
    (hs : bodyItem st ys = .ok st') : BodyNames st' := by
  obtain ⟨l, -, hl, -, rfl⟩ | ⟨t, -, -, ht, rfl⟩ | ⟨m, b, hm, rfl⟩ := bodyItem_ok hs
  · exact ⟨h.hm, mem_snoc_all _ _ _ h.hl (parseLibrary_names _ _ _ l hl), h.ht⟩
  · exact ⟨h.hm, h.hl, by intro t' ht'; cases ht'; exact parseDesign_named _ ys _ ht⟩
  · exact ⟨metaStep_ok elem_edif h.hm hm, h.hl, h.ht⟩

theorem ofSExp_names (e : SExp) (n : CNetlist) (h : ofSExp e = .ok n) : AllNamed n := by
  obtain ⟨_, m, _, _, _, _, _, _, m2, m3, m4, st, _, -, -, hv, -, -, -, hm2, hm3, -, hm4, hv1, -, rfl⟩ := ofSExp_iff.mp h
  have h2 := setAttr_pop_ok elem_edif "edifVersion" (by decide +kernel) (nameDef_named _ _ _ _ rfl rfl hv) hm2
  have h3 := levelOf_ok elem_edif "edifLevel" (by decide +kernel) h2 hm3
  have h4 : MetaOK [S "EDIF", S "keywordMap"] m4 :=
    levelOf_ok (elem_sub _ (by decide +kernel)) "keywordLevel" (by decide +kernel) (h3.push "keywordMap") hm4
  have : BodyNames st := loopC_ind BodyNames bodyItem_names
    ⟨h4.pop, (by intro l hl; cases hl), (by intro t ht; cases ht)⟩ hv1
  refine ⟨this.hm.2, (fun t ht => this.ht t (by simpa using ht)), ?_⟩
  intro l hl
  obtain ⟨h1, h2'⟩ := this.hl l hl
  exact ⟨h1, fun d hd => ⟨(h2' d hd).1, (h2' d hd).2.hp, (h2' d hd).2.hi, (h2' d hd).2.hc⟩⟩

theorem allNamed_readEdif (text : List Char) (n : CNetlist) (h : readEdif text = .ok n) : AllNamed n :=
  let ⟨e, _, _, he⟩ := readEdif_ok h
  ofSExp_names e n he

end Spydr.Edif
