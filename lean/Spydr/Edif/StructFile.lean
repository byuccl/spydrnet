/-
  Invariants of the library / file level folds on arbitrary input, and the conclusion: whatever the
  reader accepts satisfies `StructWF`.
-/
import Spydr.Edif.StructCell
import Spydr.Edif.LemmasCable
namespace Spydr.Edif

/-- what the reference resolver sees: the libraries read so far and the cells read so far of the
    library being read (`defsOfLib` without the scope record) -/
def lookAt (libs : List CLib) (cur : List CDef) (li : Nat) : List CDef :=
  if li = libs.length then cur else
  match libs[li]? with
  | some l => l.defs
  | none => []

theorem defsOfLib_eq (libs : List CLib) (cl : Data) (cur : List CDef) :
    defsOfLib { libs := libs, curLib := cl, curDefs := cur } = lookAt libs cur := by
  funext li; rfl

theorem take_snoc_all {α : Type} (Q : List α → α → Prop) (xs : List α) (c : α)
    (h : ∀ k d, xs[k]? = some d → Q (xs.take k) d) (hc : Q xs c) :
    ∀ k d, (xs ++ [c])[k]? = some d → Q ((xs ++ [c]).take k) d := by
  intro k d hk
  by_cases hlt : k < xs.length
  · rw [List.getElem?_append_left hlt] at hk
    rw [List.take_append_of_le_length (by omega)]
    exact h k d hk
  · have hk2 : k = xs.length := by
      have := (List.getElem?_eq_some_iff.mp hk).1
      simp at this; omega
    subst hk2
    simp at hk
    subst hk
    simpa using hc

structure LibInv (libs : List CLib) (defs : List CDef) : Prop where
  names : NoClash (defs.map (·.data))
  cells : ∀ k d, defs[k]? = some d → DefInv (lookAt libs (defs.take k)) d

theorem libInv_nil (libs : List CLib) : LibInv libs [] :=
  ⟨List.Pairwise.nil, by intro k d h; simp at h⟩

theorem libInv_snoc (libs : List CLib) (defs : List CDef) (c : CDef) (h : LibInv libs defs)
    (hn : NoClash ((defs ++ [c]).map (·.data))) (hc : DefInv (lookAt libs defs) c) : LibInv libs (defs ++ [c]) :=
  ⟨hn, take_snoc_all (fun pre d => DefInv (lookAt libs pre) d) defs c h.cells hc⟩

theorem libItem_inv (libs : List CLib) {st : LibSt} {ys : List SExp} {st' : LibSt} (h : LibInv libs st.defs)
    (hs : libItem libs st ys = .ok st') : LibInv libs st'.defs := by
  obtain ⟨c, d, -, hc, hd, rfl⟩ | ⟨m, b, -, rfl⟩ := libItem_ok hs
  · have hinv := parseCell_inv _ ys c hc
    rw [defsOfLib_eq] at hinv
    exact libInv_snoc libs st.defs _ h (by simpa using addRetry_noClash _ _ _ h.names hd) hinv
  · exact h

theorem parseLibrary_inv (libs : List CLib) (ext : Bool) (ys : List SExp) (l : CLib)
    (h : parseLibrary libs ext ys = .ok l) : LibInv libs l.defs := by
  obtain ⟨_, _, _, _, _, _, st, _, -, -, -, -, hl, -, rfl⟩ := parseLibrary_iff.mp h
  exact loopC_ind (fun s => LibInv libs s.defs) (libItem_inv libs) (libInv_nil libs) hl

theorem defAt_append (libs : List CLib) (l : CLib) (r : Nat × Nat) (h : (defAt libs r).isSome = true) :
    (defAt (libs ++ [l]) r).isSome = true := by
  unfold defAt at *
  cases hl : libs[r.1]? with
  | none => simp [hl] at h
  | some l0 =>
    rw [List.getElem?_append_left (List.getElem?_eq_some_iff.mp hl).1, hl]
    simpa [hl] using h

theorem parseDesign_top (libs : List CLib) (ys : List SExp) (t : CInst) (h : parseDesign libs ys = .ok t) :
    ∃ r, t.ref = some r ∧ (defAt libs r).isSome = true := by
  obtain ⟨_, _, li, l, cid, di, -, hl, hdi, rfl⟩ := parseDesign_ok h
  have := findIdent_lt _ _ _ hdi
  simp only [List.length_map] at this
  exact ⟨(li, di), rfl, by simp [defAt, hl, this]⟩

structure BodyInv (libs : List CLib) (top : Option CInst) : Prop where
  names : NoClash (libs.map (·.data))
  hlibs : ∀ L l, libs[L]? = some l → LibInv (libs.take L) l.defs
  htop : ∀ t, top = some t → ∃ r, t.ref = some r ∧ (defAt libs r).isSome = true

theorem bodyItem_inv {st : BodySt} {ys : List SExp} {st' : BodySt} (h : BodyInv st.libs st.top)
    (hs : bodyItem st ys = .ok st') : BodyInv st'.libs st'.top := by
  obtain ⟨l, -, hl, hc, rfl⟩ | ⟨t, -, -, ht, rfl⟩ | ⟨m, b, -, rfl⟩ := bodyItem_ok hs
  · refine ⟨by simpa using noClash_snoc _ _ h.names hc,
      take_snoc_all (fun pre l => LibInv pre l.defs) st.libs l h.hlibs (parseLibrary_inv _ _ _ l hl), ?_⟩
    intro t ht
    obtain ⟨r, hr, hd⟩ := h.htop t ht
    exact ⟨r, hr, defAt_append _ _ _ hd⟩
  · refine ⟨h.names, h.hlibs, ?_⟩
    intro t' ht'
    cases ht'
    exact parseDesign_top _ ys _ ht
  · exact h

theorem ofSExp_inv (e : SExp) (n : CNetlist) (h : ofSExp e = .ok n) : BodyInv n.libs n.top := by
  obtain ⟨_, _, _, _, _, _, _, _, _, _, _, st, _, -, -, -, -, -, -, -, -, -, -, hl, -, rfl⟩ := ofSExp_iff.mp h
  have h0 : BodyInv ([] : List CLib) none :=
    ⟨List.Pairwise.nil, (by intro L l hl; simp at hl), (by intro t ht; cases ht)⟩
  exact loopC_ind (fun s => BodyInv s.libs s.top) bodyItem_inv h0 hl

theorem lookAt_defAt (libs : List CLib) (L D : Nat) (l : CLib) (hl : libs[L]? = some l) (r : Nat × Nat) (d' : CDef)
    (h : (lookAt (libs.take L) (l.defs.take D) r.1)[r.2]? = some d') :
    PrecedesB L D r = true ∧ defAt libs r = some d' := by
  have hL : L < libs.length := (List.getElem?_eq_some_iff.mp hl).1
  have hlen : (libs.take L).length = L := by simp; omega
  unfold lookAt at h
  rw [hlen] at h
  by_cases he : r.1 = L
  · rw [if_pos he, List.getElem?_take] at h
    split at h
    · rename_i hlt
      refine ⟨by simp [PrecedesB, he, hlt], ?_⟩
      simp [defAt, he, hl, h]
    · cases h
  · rw [if_neg he, List.getElem?_take] at h
    by_cases hlt : r.1 < L
    · rw [if_pos hlt] at h
      cases hl2 : libs[r.1]? with
      | none => rw [hl2] at h; simp at h
      | some l2 =>
        rw [hl2] at h
        simp only at h
        exact ⟨by simp [PrecedesB, hlt], by simp [defAt, hl2, h]⟩
    · rw [if_neg hlt] at h
      simp at h

theorem defAt_some (libs : List CLib) (r : Nat × Nat) (d : CDef) (h : defAt libs r = some d) :
    ∃ l, libs[r.1]? = some l ∧ l.defs[r.2]? = some d := by
  unfold defAt at h
  cases hl : libs[r.1]? with
  | none => simp [hl] at h
  | some l => exact ⟨l, rfl, by simpa [hl] using h⟩

theorem portBitOK_of (ports : List CPort) (hs : ∀ p ∈ ports, PortShapeB p = true) (pi bi : Nat) (p : CPort)
    (hp : ports[pi]? = some p) (hb : bi < p.width) : PortBitOK ports pi bi = true := by
  have := hs p (List.mem_of_getElem? hp)
  simp only [PortShapeB, Bool.or_eq_true, decide_eq_true_eq] at this
  simp only [PortBitOK, hp, Bool.and_eq_true, decide_eq_true_eq, Bool.or_eq_true]
  refine ⟨hb, ?_⟩
  rcases this with h1 | h1
  · exact Or.inl h1
  · exact Or.inr (by omega)

theorem structWF_of_inv (n : CNetlist) (h : BodyInv n.libs n.top) : StructWF n := by
  have hall : ∀ L l, n.libs[L]? = some l → ∀ D d, l.defs[D]? = some d →
      DefInv (lookAt (n.libs.take L) (l.defs.take D)) d :=
    fun L l hl D d hd => (h.hlibs L l hl).cells D d hd
  refine ⟨h.names, ?_, ?_, ?_⟩
  · intro p hp
    have hl := List.mem_zipIdx_iff_getElem?.mp hp
    exact (h.hlibs p.2 p.1 hl).names
  · intro p hp q hq
    have hl := List.mem_zipIdx_iff_getElem?.mp hp
    have hd := List.mem_zipIdx_iff_getElem?.mp hq
    obtain ⟨l, L⟩ := p
    obtain ⟨d, D⟩ := q
    simp only at hl hd ⊢
    obtain ⟨ht, hnd⟩ := hall L l hl D d hd
    refine ⟨ht.hports, List.all_eq_true.mpr ht.hshape, ht.hinsts, ?_, ht.hcabs.names, ?_, hnd⟩
    · rw [List.all_eq_true]
      intro i hi
      unfold InstRefOK
      obtain ⟨r, hr, d', hd'⟩ := ht.hrefs i hi
      obtain ⟨h1, h2⟩ := lookAt_defAt n.libs L D l hl r d' hd'
      simp [hr, h1, h2]
    · rw [List.all_eq_true]
      intro c hc
      simp only [CableOKB, Bool.and_eq_true, Bool.not_eq_true', List.isEmpty_eq_false_iff, List.all_eq_true]
      refine ⟨ht.hcabs.wires c hc, ?_⟩
      intro w hw pin hp
      have hpin := ht.hcabs.pins c hc pin (List.mem_flatten.mpr ⟨w, hw, hp⟩)
      cases pin with
      | port pi bi =>
        obtain ⟨p, hpp, hb⟩ := hpin
        exact portBitOK_of d.ports ht.hshape pi bi p hpp hb
      | inst ii pi bi =>
        obtain ⟨i, li, di, rd, p, hi, hr, hrd, hpp, hb⟩ := hpin
        obtain ⟨_, h2⟩ := lookAt_defAt n.libs L D l hl (li, di) rd hrd
        obtain ⟨l2, hl2, hrd2⟩ := defAt_some n.libs (li, di) rd h2
        have hshape2 := (hall li l2 hl2 di rd hrd2).1.hshape
        simp only [PinOKB, hi, hr, h2]
        exact portBitOK_of rd.ports hshape2 pi bi p hpp hb
  · unfold TopOKB
    cases ht : n.top with
    | none => rfl
    | some t =>
      obtain ⟨r, hr, hd⟩ := h.htop t ht
      simp [hr, hd]

/-- **reader_accepts_wellformed** (s-expression level) -/
theorem structWF_ofSExp (e : SExp) (n : CNetlist) (h : ofSExp e = .ok n) : StructWF n :=
  structWF_of_inv n (ofSExp_inv e n h)

theorem structWF_readEdif (text : List Char) (n : CNetlist) (h : readEdif text = .ok n) : StructWF n :=
  let ⟨e, _, _, he⟩ := readEdif_ok h
  structWF_ofSExp e n he

end Spydr.Edif

