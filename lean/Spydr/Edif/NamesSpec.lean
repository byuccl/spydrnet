/-
  C05 / C15, specification side of `reader_names_everything`: an element dictionary is `Named` if it carries an EDIF
  identifier and a name; `AllNamed` says so of every element of a netlist.  Definitions only.
-/
import Spydr.Edif.ModelNet
namespace Spydr.Edif

def Named (d : Data) : Prop := (identOf d).isSome = true ∧ (nameOf d).isSome = true

instance (d : Data) : Decidable (Named d) := by unfold Named; infer_instance

def KN : List Str := [kIDENT, kNAME]

/-- **every element is named** (decidable) -/
def AllNamed (n : CNetlist) : Prop :=
  Named n.data ∧ (∀ t ∈ n.top, Named t.data) ∧
  ∀ l ∈ n.libs, Named l.data ∧ ∀ d ∈ l.defs, Named d.data ∧ (∀ p ∈ d.ports, Named p.data) ∧
    (∀ i ∈ d.insts, Named i.data) ∧ (∀ c ∈ d.cables, Named c.data)

instance (n : CNetlist) : Decidable (AllNamed n) := by unfold AllNamed; infer_instance

end Spydr.Edif
