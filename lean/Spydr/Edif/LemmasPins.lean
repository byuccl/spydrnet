/-
  Keyword tests on the writer's own keywords (`headIs_A`, `headIs_S`), and member_index: `(member p k)` is pin k
  of port p; a portRef written by the writer is read back as the very pin it was written for.
-/
import Spydr.Edif.LemmasNames
import Spydr.Edif.ReadBasics
namespace Spydr.Edif

theorem pyIndex_nat (len k : Nat) (h : k < len) : pyIndex len (Int.ofNat k) = some k := by
  unfold pyIndex
  simp [h]

theorem intOfS_natStr (k : Nat) : intOfS (.atom (natStr k)) = .ok (Int.ofNat k) := by
  simp [intOfS, intTok_natStr, pure_ok]

theorem identOfS_atom (s : Str) (h : validIdentTok s = true) : identOfS (.atom s) = .ok s := by
  simp [identOfS, h, pure_ok]

theorem headIs_cons (s : String) (k : String) (xs : List SExp) :
    headIs (A s :: xs) k = (lower s.toList == k.toList) := by
  simp [headIs, isKw, A, S]

theorem headIs_A (s k : String) (xs : List SExp) (b : Bool) (h : (lower s.toList == k.toList) = b) :
    headIs (A s :: xs) k = b := (headIs_cons s k xs).trans h

theorem S_beq (a b : String) : (S a == S b) = (a == b) := by
  rw [Bool.eq_iff_iff]; simp [S, String.toList_inj]

/-- several tests on one keyword `s`: its lower-case form `s'` is computed once (`hs`, by `decide`), and each test
    then compares two string literals, which is much quicker to check than turning both into characters again -/
theorem headIs_S {s s' : String} (hs : lower (S s) = S s') (k : String) (xs : List SExp) (b : Bool)
    (h : (s' == k) = b) : headIs (A s :: xs) k = b := by
  rw [headIs_cons]
  exact (show (lower (S s) == S k) = b by rw [hs, S_beq, h])

/-- **member_index** (port of the cell itself): `(portRef (member P k))`, `P` any spelling that
    resolves to port `pi` of width > k, is pin `k` of that port. -/
theorem member_index_port (cx : DefCtx) (P : Str) (k pi : Nat) (p : CPort)
    (hid : validIdentTok P = true)
    (hf : findIdent (cx.ports.map (·.data)) P = some pi) (hp : cx.ports[pi]? = some p) (hk : k < p.width) :
    parsePortRef cx [A "portref", .list [A "member", .atom P, .atom (natStr k)]] = .ok (.port pi k) := by
  have hm := fun xs => headIs_A "member" "member" xs true rfl
  simp only [parsePortRef, List.tail_cons, parseMember, hm, Bool.not_true, Bool.false_eq_true, if_false,
    identOfS_atom P hid, intOfS_natStr, loopC, endC, ok_bind, pure_ok, hf, hp,
    pyIndex_nat p.width k hk]

theorem scalar_index_port (cx : DefCtx) (P : Str) (pi : Nat) (p : CPort)
    (hid : validIdentTok P = true)
    (hf : findIdent (cx.ports.map (·.data)) P = some pi) (hp : cx.ports[pi]? = some p) (hk : 0 < p.width) :
    parsePortRef cx [A "portref", .atom P] = .ok (.port pi 0) := by
  have h0 : pyIndex p.width 0 = some 0 := pyIndex_nat p.width 0 hk
  simp only [parsePortRef, List.tail_cons, identOfS_atom P hid, loopC, endC, ok_bind, pure_ok, hf, hp, h0]

theorem instanceRefOf_atom (cx : DefCtx) (I : Str) (ii : Nat) (hid : validIdentTok I = true)
    (hf : findIdent (cx.insts.map (·.data)) I = some ii) :
    instanceRefOf cx [A "instanceref", .atom I] = .ok ii := by
  simp [instanceRefOf, identOfS_atom I hid, hf, ok_bind, pure_ok]

theorem portRefTail_instanceref (cx : DefCtx) (cur : Option Nat) (I : Str) (ii : Nat) (hid : validIdentTok I = true)
    (hf : findIdent (cx.insts.map (·.data)) I = some ii) :
    portRefTail cx cur [A "instanceref", .atom I] = .ok (some ii) := by
  have hlow : lower (S "instanceref") = S "instanceref" := by decide
  have h1 := fun xs => headIs_S hlow "portref" xs false rfl
  have h2 := fun xs => headIs_S hlow "instanceref" xs true rfl
  simp [portRefTail, h1, h2, instanceRefOf_atom cx I ii hid hf, ok_bind, pure_ok]

/-- **member_index** (pin of an instance): `(portRef (member P k) (instanceRef I))` is pin `k` of
    port `P` of the cell that instance `I` references. -/
theorem member_index_inst (cx : DefCtx) (P I : Str) (k pi ii li di : Nat) (inst : CInst) (d : CDef) (p : CPort)
    (hP : validIdentTok P = true) (hI : validIdentTok I = true)
    (hfi : findIdent (cx.insts.map (·.data)) I = some ii) (hi : cx.insts[ii]? = some inst)
    (hr : inst.ref = some (li, di)) (hd : (defsOfLib cx.sc li)[di]? = some d)
    (hf : findIdent (d.ports.map (·.data)) P = some pi) (hp : d.ports[pi]? = some p) (hk : k < p.width) :
    parsePortRef cx [A "portref", .list [A "member", .atom P, .atom (natStr k)], .list [A "instanceref", .atom I]]
      = .ok (.inst ii pi k) := by
  have hm := fun xs => headIs_A "member" "member" xs true rfl
  simp only [parsePortRef, List.tail_cons, parseMember, hm, Bool.not_true, Bool.false_eq_true, if_false,
    identOfS_atom P hP, intOfS_natStr, loopC, portRefTail_instanceref cx none I ii hI hfi, endC, ok_bind, pure_ok, hi, hr, hd, hf, hp, pyIndex_nat p.width k hk]

theorem scalar_index_inst (cx : DefCtx) (P I : Str) (pi ii li di : Nat) (inst : CInst) (d : CDef) (p : CPort)
    (hP : validIdentTok P = true) (hI : validIdentTok I = true)
    (hfi : findIdent (cx.insts.map (·.data)) I = some ii) (hi : cx.insts[ii]? = some inst)
    (hr : inst.ref = some (li, di)) (hd : (defsOfLib cx.sc li)[di]? = some d)
    (hf : findIdent (d.ports.map (·.data)) P = some pi) (hp : d.ports[pi]? = some p) (hk : 0 < p.width) :
    parsePortRef cx [A "portref", .atom P, .list [A "instanceref", .atom I]] = .ok (.inst ii pi 0) := by
  have h0 : pyIndex p.width 0 = some 0 := pyIndex_nat p.width 0 hk
  simp only [parsePortRef, List.tail_cons, identOfS_atom P hP, loopC,
    portRefTail_instanceref cx none I ii hI hfi, endC, ok_bind, pure_ok, hi, hr, hd, hf, hp, h0]

end Spydr.Edif
