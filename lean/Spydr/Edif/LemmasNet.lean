/-
  File level: status block, the libraries one after the other, the design construct, the file.
-/
import Spydr.Edif.LemmasLib
namespace Spydr.Edif

theorem ofDigits_zero_cons (ds : Str) : ofDigits ('0' :: ds) = ofDigits ds := by
  simp [ofDigits, Nat.ofDigitChars_cons]

theorem intOfS_pad2 (n : Nat) : intOfS (.atom (pad2 n)) = .ok (Int.ofNat n) := by
  unfold pad2
  split
  · have hall : ('0' :: natStr n).all isAsciiDigit = true := by rw [List.all_cons, all_digits_natStr]; rfl
    simp only [intOfS, intTok_digits _ (List.cons_ne_nil _ _) hall, ofDigits_zero_cons, ofDigits_natStr, pure_ok]
  · exact intOfS_natStr n

theorem intsOf_ts (y mo d h mi s : Nat) :
    intsOf [SExp.atom (natStr y), .atom (pad2 mo), .atom (pad2 d), .atom (pad2 h), .atom (pad2 mi), .atom (pad2 s)] =
      .ok [Int.ofNat y, Int.ofNat mo, Int.ofNat d, Int.ofNat h, Int.ofNat mi, Int.ofNat s] := by
  simp [intsOf, List.mapM_cons, intOfS_natStr, intOfS_pad2, ok_bind, pure_ok]

def kTS : Str := S "EDIF.status.written.timeStamp"
def kPROG : Str := S "EDIF.status.written.program"
def kVER : Str := S "EDIF.status.written.program.version"
def kCOMM : Str := S "EDIF.status.written.comments"

def builtBy : Str := "Built by 'BYU spydrnet tool'".toList

/-- what reading the writer's status block adds to the netlist dictionary -/
def statusData (D : Data) (ts : List Int) (prog ver : Option Str) : Data :=
  let D1 := D.set kTS (.list (ts.map .int))
  let D2 := match prog, ver with
    | some p, some v => (D1.set kPROG (.str p)).set kVER (.str v)
    | some p, none => D1.set kPROG (.str p)
    | none, _ => D1
  match D2.get? kCOMM with
  | some (.list xs) => D2.set kCOMM (.list (xs ++ [.list [.str builtBy]]))
  | _ => D2.set kCOMM (.list [.list [.str builtBy]])

theorem statusData_keeps (D : Data) (ts : List Int) (prog ver : Option Str) (k : Str)
    (h1 : k ≠ kTS) (h2 : k ≠ kPROG) (h3 : k ≠ kVER) (h4 : k ≠ kCOMM) :
    (statusData D ts prog ver).get? k = D.get? k := by
  unfold statusData
  simp only
  split <;> rename_i hm <;>
    (cases prog <;> cases ver <;>
      simp [Data.get?_set_other _ _ _ _ h1, Data.get?_set_other _ _ _ _ h2, Data.get?_set_other _ _ _ _ h3,
        Data.get?_set_other _ _ _ _ h4])

theorem joinDot_ts : joinDot [S "EDIF", S "status", S "written", S "timeStamp"] = kTS := joinDot_S ["EDIF", "status", "written", "timeStamp"]
theorem joinDot_prog : joinDot [S "EDIF", S "status", S "written", S "program"] = kPROG := joinDot_S ["EDIF", "status", "written", "program"]
theorem joinDot_ver : joinDot [S "EDIF", S "status", S "written", S "program", S "version"] = kVER := joinDot_S ["EDIF", "status", "written", "program", "version"]
theorem joinDot_comm : joinDot [S "EDIF", S "status", S "written", S "comments"] = kCOMM := joinDot_S ["EDIF", "status", "written", "comments"]

theorem builtBy_ok : builtBy.all isStringChar = true := by decide

theorem parseComment_builtBy (D : Data) :
    parseComment { data := D, pfx := [S "EDIF", S "status", S "written"] } [A "comment", qtok builtBy] =
      .ok { data := (match D.get? kCOMM with
              | some (.list xs) => D.set kCOMM (.list (xs ++ [.list [.str builtBy]]))
              | _ => D.set kCOMM (.list [.list [.str builtBy]])),
            pfx := [S "EDIF", S "status", S "written"] } := by
  simp only [parseComment, push_mk, List.cons_append, List.nil_append, List.tail_cons, List.mapM_cons, List.mapM_nil,
    stringTok_qtok builtBy builtBy_ok, ok_bind, pure_ok, appendAttr, key_mk, joinDot_comm, List.map_cons,
    List.map_nil]
  split <;> simp_all [Meta.pop, List.dropLast]

/-- the writer's view of the program / version entries of the netlist dictionary -/
structure StatusOK (Dn : Data) (prog ver : Option Str) : Prop where
  hp : Dn.get? kPROG = prog.map Val.str
  hv : prog.isSome = true → Dn.get? kVER = ver.map Val.str
  hps : ∀ p, prog = some p → p.all isStringChar = true
  hvs : ∀ v, ver = some v → v.all isStringChar = true

def statusTail (y mo d h mi s : Nat) (prog : List SExp) : List SExp :=
  [.list ([A "written", .list [A "timeStamp", .atom (natStr y), .atom (pad2 mo), .atom (pad2 d), .atom (pad2 h),
    .atom (pad2 mi), .atom (pad2 s)]] ++ prog ++ [.list [A "comment", qtok builtBy]])]

/-- the optional `(program …)` item of `(written …)` -/
def progItems : Option Str → Option Str → List SExp
  | none, _ => []
  | some p, none => [.list [A "program", qtok p]]
  | some p, some v => [.list [A "program", qtok p, .list [A "version", qtok v]]]

theorem statusSExp_shape (Dn : Data) (prog ver : Option Str) (y mo d h mi s : Nat) (hok : StatusOK Dn prog ver) :
    statusSExp [y, mo, d, h, mi, s] Dn = .ok (.list (A "status" :: statusTail y mo d h mi s (progItems prog ver))) := by
  have hkp : S "EDIF.status.written.program" = kPROG := rfl
  have hkver : S "EDIF.status.written.program.version" = kVER := rfl
  have hp : Dn.get? kPROG = prog.map Val.str := hok.hp
  cases prog with
  | none =>
    simp only [statusSExp, hkp, hp, Option.map_none, List.map_cons, List.map_nil, ok_bind, pure_ok]
    rfl
  | some p =>
    have hv : Dn.get? kVER = ver.map Val.str := hok.hv rfl
    cases ver <;>
      simp only [statusSExp, hkp, hkver, hp, hv, Option.map_none, Option.map_some, List.map_cons, List.map_nil, ok_bind,
        pure_ok] <;> rfl

theorem written_tail (D0 : Data) (ts : List Int) (prog ver : Option Str)
    (hps : ∀ p, prog = some p → p.all isStringChar = true) (hvs : ∀ v, ver = some v → v.all isStringChar = true) :
    loopC writtenItem { m := { data := D0.set kTS (.list (ts.map .int)), pfx := [S "EDIF", S "status", S "written"] } }
        (progItems prog ver ++ [.list [A "comment", qtok builtBy]]) =
      .ok ({ m := { data := statusData D0 ts prog ver, pfx := [S "EDIF", S "status", S "written"] },
             program := prog.isSome }, []) := by
  have hlowp : lower (S "program") = S "program" := by decide
  have hpa := fun xs => headIs_S hlowp "author" xs false rfl
  have hpp := fun xs => headIs_S hlowp "program" xs true rfl
  have hlowc : lower (S "comment") = S "comment" := by decide
  have hc1 := fun xs => headIs_S hlowc "author" xs false rfl
  have hc2 := fun xs => headIs_S hlowc "program" xs false rfl
  have hc3 := fun xs => headIs_S hlowc "dataorigin" xs false rfl
  have hc4 := fun xs => headIs_S hlowc "property" xs false rfl
  have hc5 := fun xs => headIs_S hlowc "metax" xs false rfl
  have hc6 := fun xs => headIs_S hlowc "comment" xs true rfl
  have hkv : isKw (A "version") "version" = true := by decide
  have hprog := fun D v => setAttr_key D _ kPROG v joinDot_prog (S_ne rfl) (S_ne rfl)
  have hver := fun D v => setAttr_key D _ kVER v joinDot_ver (S_ne rfl) (S_ne rfl)
  cases prog with
  | none =>
    simp only [progItems, List.nil_append, loopC, writtenItem, hc1, hc2, hc3, hc4, hc5, hc6, Bool.false_eq_true, if_false,
      if_true, parseComment_builtBy, ok_bind, pure_ok, statusData, Option.isSome]
  | some p =>
    have hp := hps p rfl
    cases ver with
    | none =>
      simp only [progItems, List.cons_append, List.nil_append, loopC, writtenItem, hpa, hpp, hc1, hc2, hc3, hc4, hc5, hc6,
        Bool.false_eq_true, if_false, if_true, stringTok_qtok p hp, push_mk, pop_mk, List.dropLast, hprog,
        parseComment_builtBy, ok_bind, pure_ok, statusData, Option.isSome]
    | some v =>
      simp only [progItems, List.cons_append, List.nil_append, loopC, writtenItem, hpa, hpp, hkv, hc1, hc2, hc3, hc4, hc5,
        hc6, Bool.false_eq_true, if_false, if_true, stringTok_qtok p hp, stringTok_qtok v (hvs v rfl), push_mk, pop_mk,
        List.dropLast, hprog, hver, parseComment_builtBy, ok_bind, pure_ok, statusData, Option.isSome]

/-- **status_roundtrip**: the `(status (written …))` block the writer emits is accepted and only adds
    status entries to the dictionary -/
theorem status_roundtrip (Dn : Data) (prog ver : Option Str) (y mo d h mi s : Nat) (hok : StatusOK Dn prog ver) :
    ∃ r, statusSExp [y, mo, d, h, mi, s] Dn = .ok (.list (A "status" :: r)) ∧
      ∀ D0 : Data, parseStatus { data := D0, pfx := [S "EDIF"] } (A "status" :: r) =
        .ok { data := statusData D0 [Int.ofNat y, Int.ofNat mo, Int.ofNat d, Int.ofNat h, Int.ofNat mi, Int.ofNat s] prog ver,
              pfx := [S "EDIF"] } := by
  refine ⟨_, statusSExp_shape Dn prog ver y mo d h mi s hok, fun D0 => ?_⟩
  have hw := fun xs => headIs_A "written" "written" xs true rfl
  have hts := fun xs => headIs_A "timeStamp" "timestamp" xs true rfl
  simp only [statusTail, parseStatus, List.tail_cons, push_mk, List.cons_append, List.nil_append, loopC, statusItem, hw,
    if_true, parseWritten, hts, intsOf_ts, List.length_cons, List.length_nil,
    setAttr_key _ _ kTS _ joinDot_ts (S_ne rfl) (S_ne rfl), pop_mk, List.dropLast, written_tail _ _ prog ver hok.hps hok.hvs,
    endC, ok_bind, pure_ok]
  rfl

theorem identOf_LWread (l : CLib) (w : LW) : identOf (LW.read l w).data = some w.ident := identOf_withName _ _ _
theorem nameOf_LWread (l : CLib) (w : LW) : nameOf (LW.read l w).data = some w.name := nameOf_withName _ _ _

/-- the libraries one after the other; each is read with the libraries read so far in scope -/
def LibsOK (libs : List CLib) : List (Str × Str) → List CLib → List CLib → List LW → Prop
  | _, _, [], [] => True
  | prev, rlibs, l :: r, w :: ws =>
      LibOK libs rlibs l w ∧ FreshIn prev w.ident w.name ∧
      LibsOK libs ((w.ident, w.name) :: prev) (rlibs ++ [LW.read l w]) r ws
  | _, _, _, _ => False

def readLibs : List CLib → List LW → List CLib
  | l :: r, w :: ws => LW.read l w :: readLibs r ws
  | _, _ => []

theorem bodyItem_library (st : BodySt) (ys : List SExp) (ext : Bool) (l : CLib)
    (h1 : headIs ys "status" = false) (h2 : (headIs ys "library" || headIs ys "external") = true)
    (h3 : headIs ys "external" = ext) (hp : parseLibrary st.libs ext ys = .ok l)
    (hc : conflicts (st.libs.map (·.data)) l.data = false) :
    bodyItem st ys = .ok { st with libs := st.libs ++ [l] } := by
  subst h3
  simp only [bodyItem, h1, h2, Bool.false_eq_true, if_false, if_true, hp, hc, ok_bind, pure_ok]

theorem libs_roundtrip (libs : List CLib) (ls : List CLib) (ws : List LW) (prev : List (Str × Str)) (rlibs : List CLib)
    (hok : LibsOK libs prev rlibs ls ws) (hk : KnownBy prev (rlibs.map (·.data))) :
    ∃ yss : List (List SExp), ls.mapM (libSExp libs) = .ok (yss.map SExp.list) ∧
      ∀ st : BodySt, st.libs = rlibs → yss.foldlM bodyItem st = .ok { st with libs := rlibs ++ readLibs ls ws } := by
  induction ls generalizing prev rlibs ws with
  | nil =>
    cases ws with
    | nil => exact ⟨[], rfl, by rintro st rfl; simp [readLibs, pure_ok]⟩
    | cons _ _ => exact absurd hok (by simp [LibsOK])
  | cons l r ih =>
    cases ws with
    | nil => exact absurd hok (by simp [LibsOK])
    | cons w ws =>
      obtain ⟨hl, hfresh, hrest⟩ := hok
      obtain ⟨t, hw1, hrd⟩ := lib_roundtrip libs rlibs l w hl
      have hlow : lower (S "Library") = S "library" := by decide
      have h1 := fun xs => headIs_S hlow "status" xs false rfl
      have h2 := fun xs => headIs_S hlow "library" xs true rfl
      have h3 := fun xs => headIs_S hlow "external" xs false rfl
      obtain ⟨hconf, hk'⟩ := fresh_step (·.data) prev rlibs (LW.read l w) _ _ hk hfresh (identOf_LWread l w)
        (nameOf_LWread l w)
      obtain ⟨yss, hws, hfs⟩ := ih ws _ _ hrest hk'
      refine ⟨(A "Library" :: t) :: yss, ?_, ?_⟩
      · simp only [List.mapM_cons, hw1, hws, ok_bind, pure_ok, List.map_cons]
      · rintro st rfl
        have hstep : bodyItem st (A "Library" :: t) = .ok { st with libs := st.libs ++ [LW.read l w] } :=
          bodyItem_library st _ false _ (h1 t) (by rw [h2, h3]; rfl) (h3 t) hrd hconf
        simp only [List.foldlM_cons, hstep, ok_bind]
        rw [hfs _ rfl]
        simp [readLibs]

/-- the top instance the reader builds from the writer's `(design …)` -/
def readTop (ident name : Str) (li di : Nat) : CInst :=
  { data := (withName [] ident name).set (S "metadata_prefix") (.list []), ref := some (li, di) }

/-- **the reader on a written design**: `parse_design` reads `(kw name (kw name (kw name)))` by position, so the three
    keywords are free; the two references may be spelled in any letter case.  It reads the name item with its own copy of
    `nameDef`'s two branches, which `nameDef_iff` hands over -/
theorem parseDesign_written (rlibs : List CLib) (kw nm : SExp) (ident name : Str) (kc kl : String) (csp lsp : Str)
    (li di : Nat) (l' : CLib)
    (hnm : nameDef Meta.new [nm] = .ok ({ data := withName [] ident name, pfx := [S "EDIF"] }, []))
    (hvd : validIdentTok csp = true) (hvl : validIdentTok lsp = true)
    (hfl : findIdent (rlibs.map (·.data)) lsp = some li) (hl : rlibs[li]? = some l')
    (hfd : findIdent (l'.defs.map (·.data)) csp = some di) :
    parseDesign rlibs [kw, nm, .list [A kc, .atom csp, .list [A kl, .atom lsp]]] = .ok (readTop ident name li di) := by
  obtain ⟨_, hx, hn⟩ := nameDef_iff.mp hnm
  cases hx
  rcases hn with ⟨ys, rfl, hr⟩ | ⟨i, m1, hi, hm1, he⟩
  · simp only [parseDesign, List.tail_cons, A, hr, hvd, hvl, Bool.and_self, Bool.not_true, Bool.false_eq_true, if_false, hfl,
      hl, hfd, readTop, ok_bind, pure_ok]
  · cases nm with
    | list _ => cases hi
    | atom a =>
      simp only [parseDesign, List.tail_cons, A, hi, hm1, ← he, hvd, hvl, Bool.and_self, Bool.not_true, Bool.false_eq_true,
        if_false, hfl, hl, hfd, readTop, ok_bind, pure_ok]

theorem design_roundtrip (rlibs : List CLib) (tdata : Data) (ident name did lid : Str) (li di : Nat) (l' : CLib)
    (hn : NamedOK tdata ident name) (hvd : validIdentTok did = true) (hvl : validIdentTok lid = true)
    (hfl : findIdent (rlibs.map (·.data)) lid = some li) (hl : rlibs[li]? = some l')
    (hfd : findIdent (l'.defs.map (·.data)) did = some di) :
    ∃ nm, nameSExp tdata "top instance" = .ok nm ∧
      parseDesign rlibs [A "design", nm, .list [A "cellref", .atom did, .list [A "libraryref", .atom lid]]] =
        .ok (readTop ident name li di) := by
  obtain ⟨nm, hnm, -, hdef⟩ := nameDef_nameSExp tdata ident name hn "top instance"
  exact ⟨nm, hnm, parseDesign_written rlibs _ nm ident name _ _ did lid li di l' (hdef [] [] rfl) hvd hvl hfl hl hfd⟩

def kVERSION : Str := S "EDIF.edifVersion"

structure NetOK (n : CNetlist) (nident nname : Str) (prog ver : Option Str) (lws : List LW) (t : CInst)
    (tident tname : Str) (li di : Nat) : Prop where
  named : NamedOK n.data nident nname
  status : StatusOK n.data prog ver
  libs : LibsOK n.libs [] [] n.libs lws
  top : n.top = some t
  tnamed : NamedOK t.data tident tname
  tref : t.ref = some (li, di)
  target : ∃ l d did lid l', n.libs[li]? = some l ∧ l.defs[di]? = some d ∧ identOf d.data = some did ∧
    identOf l.data = some lid ∧ validIdentTok did = true ∧ validIdentTok lid = true ∧
    findIdent ((readLibs n.libs lws).map (·.data)) lid = some li ∧ (readLibs n.libs lws)[li]? = some l' ∧
    findIdent (l'.defs.map (·.data)) did = some di

/-- the netlist the reader builds from the writer's file -/
def readNetlist (n : CNetlist) (nident nname : Str) (ts : List Int) (prog ver : Option Str) (lws : List LW)
    (tident tname : Str) (li di : Nat) : CNetlist :=
  { data := statusData ((withName [] nident nname).set kVERSION (.list [.int 2, .int 0, .int 0])) ts prog ver,
    libs := readLibs n.libs lws, top := some (readTop tident tname li di) }

theorem intsOf_200 : intsOf [A "2", A "0", A "0"] = .ok [2, 0, 0] := by
  show intsOf [.atom (natStr 2), .atom (natStr 0), .atom (natStr 0)] = _
  simp [intsOf, List.mapM_cons, intOfS_natStr, ok_bind, pure_ok]

theorem joinDot_version : joinDot [S "EDIF", S "edifVersion"] = kVERSION := joinDot_S ["EDIF", "edifVersion"]

theorem bodyItem_design (st : BodySt) (r : List SExp) :
    bodyItem st (A "design" :: r) = parseDesign st.libs (A "design" :: r) >>= fun t => pure { st with top := some t } := by
  have hlow : lower (S "design") = S "design" := by decide
  simp only [bodyItem, headIs_S hlow "status" r false rfl, headIs_S hlow "library" r false rfl,
    headIs_S hlow "external" r false rfl, headIs_S hlow "design" r true rfl, Bool.false_eq_true, if_false, Bool.or_self, if_true]

theorem ofSExp_written (nm : SExp) (sv skm skl : String) (D0 : Data)
    (hnm : ∀ rest, nameDef Meta.new (nm :: rest) = .ok ({ data := D0, pfx := [S "EDIF"] }, rest))
    (hv : isKw (A sv) "edifversion" = true) (hkm : isKw (A skm) "keywordmap" = true)
    (hkl : isKw (A skl) "keywordlevel" = true) (body : List SExp) (items : List (List SExp)) (hb : body = items.map SExp.list)
    (st : BodySt)
    (hbody : items.foldlM bodyItem { m := ⟨D0.set kVERSION (.list [.int 2, .int 0, .int 0]), [S "EDIF"]⟩ } = .ok st) :
    ofSExp (.list (A "edif" :: nm :: .list [A sv, A "2", A "0", A "0"] :: .list [A "edifLevel", A "0"] ::
      .list [A skm, .list [A skl, A "0"]] :: body)) = .ok { data := st.m.data, libs := st.libs, top := st.top } :=
  ofSExp_iff.mpr ⟨_, _, _, _, _, _, _, _, _, _, _, st, [], rfl, headIs_A "edif" "edif" _ true rfl, hnm _, hv, intsOf_200, rfl,
    setAttr_key _ _ kVERSION _ joinDot_version (S_ne rfl) (S_ne rfl),
    levelOf_zero _ "edifLevel" "ediflevel" "edifLevel" (by decide +kernel), hkm, levelOf_zero _ skl "keywordlevel" "keywordLevel" hkl,
    by rw [hb, loopC_lists_nil]; exact congrArg (· >>= _) hbody, rfl, rfl⟩

/-- **netlist_roundtrip** (file level): the reader applied to the s-expression the writer emits for a
    whole netlist returns the netlist whose libraries are the re-read images `readLibs`, whose top
    instance has the same name and reference, and whose own name is the same -/
theorem netlist_roundtrip (n : CNetlist) (nident nname : Str) (prog ver : Option Str) (lws : List LW) (t : CInst)
    (tident tname : Str) (li di : Nat) (y mo d h mi s : Nat)
    (hok : NetOK n nident nname prog ver lws t tident tname li di) :
    ∃ e, toSExp [y, mo, d, h, mi, s] n = .ok e ∧
      ofSExp e = .ok (readNetlist n nident nname
        [Int.ofNat y, Int.ofNat mo, Int.ofNat d, Int.ofNat h, Int.ofNat mi, Int.ofNat s] prog ver lws tident tname li di) := by
  obtain ⟨nm, hnm, _, hdef⟩ := nameDef_nameSExp n.data nident nname hok.named "netlist"
  obtain ⟨sr, hst, hsread⟩ := status_roundtrip n.data prog ver y mo d h mi s hok.status
  obtain ⟨l, dd, did, lid, l', hl, hd, hdid, hlid, hvd, hvl, hfl, hl', hfd⟩ := hok.target
  obtain ⟨tn, htn, hdes⟩ := design_roundtrip (readLibs n.libs lws) t.data tident tname did lid li di l' hok.tnamed hvd hvl hfl hl' hfd
  obtain ⟨yss, hw, hlf⟩ := libs_roundtrip n.libs n.libs lws [] [] hok.libs KnownBy_nil
  refine ⟨_, by simp only [toSExp, hnm, hst, hw, hok.top, htn, hok.tref, hl, hd, needIdent, hdid, hlid, ok_bind, pure_ok]; rfl,
    ofSExp_written nm "edifversion" "keywordmap" "keywordlevel" _ (fun rest => hdef [] rest rfl) (by decide) (by decide) (by decide) _
      ((A "status" :: sr) :: yss ++ [[A "design", tn, .list [A "cellref", .atom did, .list [A "libraryref", .atom lid]]]])
      (by simp) { m := ⟨_, [S "EDIF"]⟩, libs := readLibs n.libs lws, top := some (readTop tident tname li di), hasStatus := true } ?_⟩
  simp only [List.foldlM_cons, List.foldlM_append, List.foldlM_nil, bodyItem_design]
  simp only [bodyItem, headIs_A "status" "status" sr true rfl, if_true, Bool.false_eq_true, if_false, hsread, ok_bind, pure_ok]
  rw [hlf _ rfl]
  simp only [ok_bind, List.nil_append, hdes]
  rfl

end Spydr.Edif
