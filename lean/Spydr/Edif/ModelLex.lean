/-
  EDIF, from characters up: the tokenizer state machine of
  spydrnet/parsers/edif/tokenizer.py (`EdifTokenizer.generate_tokens`), s-expressions, and the
  token-level reader.  No Mathlib (linked into drv_edif).
-/
namespace Spydr.Edif

abbrev Str := List Char

/-- A token as the Python generator yields it: "(" , ")" or any other string (a quoted string keeps
    its quotes; `abc"d e"` is ONE token, as in the implementation). -/
inductive Tok where
  | lp | rp
  | atom (s : Str)
  deriving DecidableEq, Repr, Inhabited

def isWs (c : Char) : Bool := c == '\r' || c == '\n' || c == '\t' || c == ' '

/-- emit the pending buffer (kept reversed) -/
def flush (buf : Str) : List Tok := if buf.isEmpty then [] else [Tok.atom buf.reverse]

/-- `generate_tokens`: `inQ` = inside a quoted string, `buf` = token_buffer (reversed). Chunk
    boundaries of the 32 kB reads are irrelevant (state is carried across them). -/
def lexGo : Bool → Str → List Char → List Tok
  | _, buf, [] => flush buf
  | true, buf, c :: cs =>
      if c == '\n' || c == '\r' then lexGo true buf cs
      else if c == '"' then Tok.atom (c :: buf).reverse :: lexGo false [] cs
      else lexGo true (c :: buf) cs
  | false, buf, c :: cs =>
      if c == '"' then lexGo true (c :: buf) cs
      else if c == '(' then flush buf ++ Tok.lp :: lexGo false [] cs
      else if c == ')' then flush buf ++ Tok.rp :: lexGo false [] cs
      else if isWs c then flush buf ++ lexGo false [] cs
      else lexGo false (c :: buf) cs

def lexE (cs : List Char) : List Tok := lexGo false [] cs

/-- s-expressions -/
inductive SExp where
  | atom (s : Str)
  | list (xs : List SExp)
  deriving Repr, Inhabited

mutual
/-- structural equality test (used by examples) -/
def SExp.beq : SExp → SExp → Bool
  | .atom a, .atom b => a == b
  | .list xs, .list ys => SExp.beqL xs ys
  | _, _ => false
def SExp.beqL : List SExp → List SExp → Bool
  | [], [] => true
  | x :: xs, y :: ys => SExp.beq x y && SExp.beqL xs ys
  | _, _ => false
end

mutual
def flattenS : SExp → List Tok
  | .atom s => [Tok.atom s]
  | .list xs => Tok.lp :: (flattenL xs ++ [Tok.rp])
def flattenL : List SExp → List Tok
  | [] => []
  | x :: xs => flattenS x ++ flattenL xs
end

mutual
def SExp.size : SExp → Nat
  | .atom _ => 1
  | .list xs => 2 + sizeL xs
def sizeL : List SExp → Nat
  | [] => 1
  | x :: xs => 1 + x.size + sizeL xs
end

mutual
/-- read one expression; the fuel bounds the recursion (see `readS_flatten`, `readTop`) -/
def readSF : Nat → List Tok → Option (SExp × List Tok)
  | 0, _ => none
  | _+1, [] => none
  | _+1, Tok.rp :: _ => none
  | _+1, Tok.atom s :: r => some (.atom s, r)
  | f+1, Tok.lp :: r =>
    match readLF f r with
    | some (xs, r') => some (.list xs, r')
    | none => none
/-- read expressions up to the matching `)` (consumed) -/
def readLF : Nat → List Tok → Option (List SExp × List Tok)
  | 0, _ => none
  | _+1, [] => none
  | _+1, Tok.rp :: r => some ([], r)
  | f+1, t :: ts =>
    match readSF f (t :: ts) with
    | some (x, r) =>
      match readLF f r with
      | some (xs, r') => some (x :: xs, r')
      | none => none
    | none => none
end

/-- The reader's entry: one expression from the front of the token stream; what follows it is never
    looked at (the Python parser never reads past the closing parenthesis of `(edif …)`).
    Fuel `2 * length + 2` always suffices (`readS_flatten` in LemmasLex.lean). -/
def readS (ts : List Tok) : Option (SExp × List Tok) := readSF (2 * ts.length + 2) ts

end Spydr.Edif
