/-
  Erasure: the key sets that matter to later steps of the reader and to `view05`, the prefixes under
  which noise is stored (none of them reaches such a key), and what agreement on a key set gives.  Then the
  relation "same dictionary up to the noise keys" on two runs of the reader, and the two-run lemmas for the
  dictionary operations that both runs perform.  `Sim Q x y` says that `y` accepts whenever `x` does, with a
  `Q`-related result; its rules follow two runs of one function through its branches.
-/
import Spydr.Edif.NamesElem
import Spydr.Edif.LemmasCell
import Spydr.Edif.Abstract
namespace Spydr.Edif

/-- what later steps of the reader (and `view05`) look at in the dictionary of a port, cable, definition,
    library or netlist -/
def KO : List Str := [kIDENT, kNAME, kVIEWID, kEXT]

/-- … and in the dictionary of an instance (its properties are kept) -/
def KI : List Str := [kIDENT, kNAME, kPROPS, kPID, kPORIG]

theorem keys_KO : kIDENT = 'E' :: 'D' :: 'I' :: 'F' :: '.' :: 'i' :: "dentifier".toList ∧
    kORIG = 'E' :: 'D' :: 'I' :: 'F' :: '.' :: 'o' :: "riginal_identifier".toList ∧ kNAME = '.' :: "NAME".toList ∧
    kVIEWID = "EDIF.view.".toList ++ 'i' :: "dentifier".toList ∧
    kEXT = 'E' :: 'D' :: 'I' :: 'F' :: '.' :: 'e' :: "xternal".toList := ⟨keys_KN.1, keys_KN.2, by decide +kernel⟩

/-- the keys of `KO` that begin with `EDIF.` go on with `i`, `o`, `v` or `e`: no other `EDIF.<x>…` reaches them -/
theorem ns_O (x : Str) (h : (match x with | c :: _ => c != 'i' && c != 'o' && c != 'v' && c != 'e' | [] => false) = true) :
    NoSpecialK KO [S "EDIF", x] := by
  obtain _ | ⟨c, xs⟩ := x
  · cases h
  · obtain ⟨k1, k2, k0, k3, k4⟩ := keys_KO
    simp only [Bool.and_eq_true, bne_iff_ne, ne_eq] at h
    exact noSpecialK_lit6 KO c xs (by simp [KO, okKey6, k1, k2, k0, k3, k4, Ne.symm h.1.1.1, Ne.symm h.1.1.2, Ne.symm h.1.2, Ne.symm h.2])

/-- … and the only one that begins with `EDIF.view.` goes on with `i` -/
theorem ns_OV (x : Str) (h : (match x with | c :: _ => c != 'i' | [] => false) = true) :
    NoSpecialK KO [S "EDIF", S "view", x] := by
  obtain _ | ⟨c, xs⟩ := x
  · cases h
  · obtain ⟨k1, k2, k0, k3, k4⟩ := keys_KO
    simp only [bne_iff_ne, ne_eq] at h
    exact noSpecialK_view KO c xs (by simp [KO, okKey11, k1, k2, k0, k3, k4, Ne.symm h])

theorem ns_comments_O : NoSpecialK KO [S "EDIF", S "comments"] := ns_O _ (by decide)
theorem ns_properties_O : NoSpecialK KO [S "EDIF", S "properties"] := ns_O _ (by decide)
theorem ns_status_O : NoSpecialK KO [S "EDIF", S "status"] := ns_O _ (by decide)
theorem ns_cellType : NoSpecialK KO [S "EDIF", S "cellType"] := ns_O _ (by decide)
theorem ns_comments_V : NoSpecialK KO [S "EDIF", S "view", S "comments"] := ns_OV _ (by decide)
theorem ns_properties_V : NoSpecialK KO [S "EDIF", S "view", S "properties"] := ns_OV _ (by decide)
theorem ns_status_V : NoSpecialK KO [S "EDIF", S "view", S "status"] := ns_OV _ (by decide)
theorem ns_viewType : NoSpecialK KO [S "EDIF", S "view", S "viewType"] := ns_OV _ (by decide)
theorem ns_orig_V : NoSpecialK KO [S "EDIF", S "view", S "original_identifier"] := ns_OV _ (by decide)
theorem ns_comments_I : NoSpecialK KI [S "EDIF", S "comments"] := noSpecialK_lit6 KI 'c' "omments".toList (by decide +kernel)

theorem identOf_of_sameOn (K : List Str) (hk : kIDENT ∈ K) (d d' : Data) (h : SameOn K d d') : identOf d' = identOf d := by
  simp only [identOf, Data.getStr?, h kIDENT hk]

theorem nameOf_of_sameOn (K : List Str) (hk : kNAME ∈ K) (d d' : Data) (h : SameOn K d d') : nameOf d' = nameOf d := by
  simp only [nameOf, Data.getStr?, h kNAME hk]

theorem hasName_of_sameOn (K : List Str) (hk : kNAME ∈ K) (d d' : Data) (h : SameOn K d d') : d'.has kNAME = d.has kNAME := by
  simp only [Data.has, h kNAME hk]

theorem viewIdentOf_of_sameOn (d d' : Data) (h : SameOn KO d d') : viewIdentOf d' = viewIdentOf d := by
  have := h kVIEWID (by simp [KO])
  simp only [viewIdentOf, Data.getStr?]
  rw [show S "EDIF.view.identifier" = kVIEWID from rfl, this]

theorem sameOn_set_both (K : List Str) (d d' : Data) (k : Str) (v : Val) (h : SameOn K d d') : SameOn K (d.set k v) (d'.set k v) := by
  intro k' hk'
  by_cases e : k' = k
  · subst e; rw [Data.get?_set_self, Data.get?_set_self]
  · rw [Data.get?_set_other _ _ _ _ e, Data.get?_set_other _ _ _ _ e]; exact h k' hk'

theorem Data.get?_erase_self (d : Data) (k : Str) : (d.erase k).get? k = none := by
  induction d with
  | nil => rfl
  | cons a r ih =>
    obtain ⟨k', v'⟩ := a
    by_cases h1 : k' = k
    · subst h1
      have : Data.erase ((k', v') :: r) k' = Data.erase r k' := by simp [Data.erase]
      rw [this]; exact ih
    · have : Data.erase ((k', v') :: r) k = (k', v') :: Data.erase r k := by simp [Data.erase, h1]
      rw [this]
      simp only [Data.get?, h1, if_false]; exact ih

theorem sameOn_erase_both (K : List Str) (d d' : Data) (k : Str) (h : SameOn K d d') : SameOn K (d.erase k) (d'.erase k) := by
  intro k' hk'
  by_cases e : k' = k
  · subst e; rw [Data.get?_erase_self, Data.get?_erase_self]
  · rw [Data.get?_erase_other _ _ _ e, Data.get?_erase_other _ _ _ e]; exact h k' hk'

def MRel (K : List Str) (m m' : Meta) : Prop := m.pfx = m'.pfx ∧ SameOn K m.data m'.data

theorem MRel.refl (K : List Str) (m : Meta) : MRel K m m := ⟨rfl, SameOn.refl K _⟩

/-- a noise step on the first run only -/
theorem MRel.noise {K : List Str} {m m1 m' : Meta} (h : MRel K m m') (hn : m1.pfx = m.pfx ∧ SameOn K m.data m1.data) :
    MRel K m1 m' :=
  ⟨hn.1.trans h.1, fun k hk => (h.2 k hk).trans ((hn.2 k hk).symm)⟩

theorem MRel.push {K : List Str} {m m' : Meta} (h : MRel K m m') (s : String) : MRel K (m.push s) (m'.push s) :=
  ⟨by simp [Meta.push, h.1], h.2⟩

theorem MRel.pop {K : List Str} {m m' : Meta} (h : MRel K m m') : MRel K m.pop m'.pop :=
  ⟨by simp [Meta.pop, h.1], h.2⟩

/-- unfolds to a function: `h : Sim Q x y` applied to `a` and a proof of `x = .ok a` is the accepted run of `y`, and a lemma of
    the shape `x = .ok a → ∃ b, y = .ok b ∧ Q a b` is a `Sim`; both spellings are used -/
def Sim {α β : Type} (Q : α → β → Prop) (x : R α) (y : R β) : Prop := ∀ a, x = .ok a → ∃ b, y = .ok b ∧ Q a b

theorem Sim.throw {α β : Type} {Q : α → β → Prop} {e : Err} {y : R β} : Sim Q (throw e) y := by
  intro a h
  cases h

theorem Sim.pure {α β : Type} {Q : α → β → Prop} {a : α} {b : β} (h : Q a b) : Sim Q (pure a) (pure b) := by
  intro _ e
  cases e
  exact ⟨b, rfl, h⟩

theorem Sim.ite {α β : Type} {Q : α → β → Prop} {c : Prop} [Decidable c] {x y : R α} {x' y' : R β}
    (hx : Sim Q x x') (hy : Sim Q y y') : Sim Q (if c then x else y) (if c then x' else y') := by
  split
  · exact hx
  · exact hy

theorem Sim.refl {α : Type} (x : R α) : Sim Eq x x := fun a h => ⟨a, h, rfl⟩

theorem Sim.bind {α α' β β' : Type} {P : α → α' → Prop} {Q : β → β' → Prop} {x : R α} {x' : R α'} {f : α → R β}
    {g : α' → R β'} (hx : Sim P x x') (hf : ∀ a a', P a a' → Sim Q (f a) (g a')) : Sim Q (x >>= f) (x' >>= g) := by
  intro b h
  obtain ⟨a, ha, hb⟩ := bind_eq_ok.mp h
  obtain ⟨a', ha', hp⟩ := hx a ha
  rw [ha', ok_bind]
  exact hf a a' hp b hb

theorem Sim.eq {α : Type} {x y : R α} {a : α} (h : Sim Eq x y) (hs : x = .ok a) : y = .ok a := by
  obtain ⟨_, h, rfl⟩ := h a hs
  exact h

theorem setAttr_rel (K : List Str) (hn : kNAME ∈ K) (m m' m1 : Meta) (v : Val) (h : MRel K m m')
    (hs : setAttr m v = .ok m1) : ∃ m1', setAttr m' v = .ok m1' ∧ MRel K m1 m1' := by
  obtain ⟨hp, hd⟩ := h
  have hkey : m'.key = m.key := by simp [Meta.key, hp]
  have hset : ∀ k w, MRel K { m with data := m.data.set k w } { m' with data := m'.data.set k w } :=
    fun _ _ => ⟨hp, sameOn_set_both K _ _ _ _ hd⟩
  suffices Sim (MRel K) (setAttr m v) (setAttr m' v) from this m1 hs
  unfold setAttr
  dsimp only
  rw [hkey, hasName_of_sameOn K hn _ _ hd]
  refine Sim.ite (Sim.pure (hset _ _)) (Sim.ite ?_ (Sim.pure (hset _ _)))
  split
  · refine Sim.ite (Sim.pure ⟨hp, ?_⟩) Sim.throw
    split
    · exact sameOn_set_both K _ _ _ _ hd
    · exact sameOn_set_both K _ _ _ _ (sameOn_set_both K _ _ _ _ hd)
  · exact Sim.throw

theorem appendAttr_rel (K : List Str) (m m' : Meta) (v : Val) (h : MRel K m m') (hk : m.key ∈ K) :
    MRel K (appendAttr m v) (appendAttr m' v) := by
  obtain ⟨hp, hd⟩ := h
  have hkey : m'.key = m.key := by simp [Meta.key, hp]
  have hget : m'.data.get? m.key = m.data.get? m.key := hd _ hk
  unfold appendAttr
  rw [hkey]
  simp only [hget]
  split <;> exact ⟨hp, sameOn_set_both K _ _ _ _ hd⟩

theorem parseRename_rel (K : List Str) (hn : kNAME ∈ K) (m m' m1 : Meta) (ys : List SExp) (h : MRel K m m')
    (hs : parseRename m ys = .ok m1) : ∃ m1', parseRename m' ys = .ok m1' ∧ MRel K m1 m1' := by
  obtain ⟨kw, i, o, ident, ma, orig, mb, rfl, hkw, hi, hma, ho, hmb, rfl⟩ := parseRename_iff.mp hs
  obtain ⟨ma', hma', hra⟩ := setAttr_rel K hn _ _ _ _ (h.push "identifier") hma
  obtain ⟨mb', hmb', hrb⟩ := setAttr_rel K hn _ _ _ _ (hra.pop.push "original_identifier") hmb
  exact ⟨_, parseRename_iff.mpr ⟨kw, i, o, ident, ma', orig, mb', rfl, hkw, hi, hma', ho, hmb', rfl⟩, hrb.pop⟩

theorem nameDef_rel (K : List Str) (hn : kNAME ∈ K) (m m' m1 : Meta) (xs rest : List SExp) (h : MRel K m m')
    (hs : nameDef m xs = .ok (m1, rest)) : ∃ m1', nameDef m' xs = .ok (m1', rest) ∧ MRel K m1 m1' := by
  obtain ⟨x, rfl, ⟨ys, rfl, hr⟩ | ⟨ident, ma, hi, hma, rfl⟩⟩ := nameDef_iff.mp hs
  · obtain ⟨m1', hr', hrel⟩ := parseRename_rel K hn _ _ _ _ h hr
    exact ⟨m1', nameDef_iff.mpr ⟨_, rfl, .inl ⟨ys, rfl, hr'⟩⟩, hrel⟩
  · obtain ⟨ma', hma', hra⟩ := setAttr_rel K hn _ _ _ _ (h.push "identifier") hma
    exact ⟨_, nameDef_iff.mpr ⟨_, rfl, .inr ⟨ident, ma', hi, hma', rfl⟩⟩, hra.pop⟩

end Spydr.Edif
