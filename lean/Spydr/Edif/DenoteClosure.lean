/-
  The netlist the reader builds for a well-formed abstract design is inside C03's quantifier
  (`WFNet`): the writer can write it back and the reader reads that back to the same view.
-/
import Spydr.Edif.Closure
import Spydr.Edif.DenoteView
import Spydr.Edif.StructNet
namespace Spydr.Edif

theorem namedOK_elab (D : Data) (a : AName) (ha : a.okB = true) (hi : identOf D = some a.ident)
    (hn : nameOf D = some a.name) : NamedOK D (idOf D) (nmOf D) := by
  rw [idOf_of_identOf _ _ hi, nmOf_of_nameOf _ _ hn]
  exact ⟨hi, a.okB_id ha, get?_of_getStr? _ _ _ hn, a.okB_str ha⟩

theorem APort_elab_isArray (p : APort) : p.elab.isArray = p.array.isSome := by
  have := view05Port_elab p
  simp only [view05Port, APort.den] at this
  exact congrArg V05Port.array this

theorem APort.width_of_scalar (p : APort) (h : p.elab.isArray = false) : p.width = 1 := by
  rw [APort_elab_isArray] at h
  obtain ⟨nm, dir, arr⟩ := p
  cases arr with
  | none => rfl
  | some k => simp at h

theorem portWF_elab (p : APort) (hn : p.name.okB = true) (hk : p.okB = true) : PortWF p.elab := by
  refine ⟨namedOK_elab _ p.name hn (identOf_APort_elab p) (nameOf_APort_elab p), ?_, p.width_of_scalar⟩
  show 1 ≤ p.width
  obtain ⟨nm, dir, arr⟩ := p
  cases arr with
  | none => simp [APort.width]
  | some k => simpa [APort.okB, APort.width] using hk

def elabLibs (d : ADesign) : List CLib := d.libs.map ALib.elab

theorem mem_elabLibs (d : ADesign) (l : CLib) (h : l ∈ elabLibs d) : ∃ (L : Nat) (l0 : ALib), d.libs[L]? = some l0 ∧ l = l0.elab := by
  obtain ⟨l0, hl0, rfl⟩ := List.mem_map.mp h
  obtain ⟨L, hL, rfl⟩ := List.getElem_of_mem hl0
  exact ⟨L, _, List.getElem?_eq_getElem hL, rfl⟩

theorem mem_elab_defs (l : ALib) (dd : CDef) (h : dd ∈ l.elab.defs) : ∃ (D : Nat) (c : ACell), l.cells[D]? = some c ∧ dd = c.elab := by
  obtain ⟨c, hc, rfl⟩ := List.mem_map.mp h
  obtain ⟨D, hD, rfl⟩ := List.getElem_of_mem hc
  exact ⟨D, _, List.getElem?_eq_getElem hD, rfl⟩

/-- the names are legal because `wf` says so; that siblings differ holds of everything the reader returns (`hsd`) -/
theorem netNames_elab (d : ADesign) (hw : WFParts d)
    (hsd : ∀ l ∈ elabLibs d, Distinct (l.defs.map (·.data)) ∧ ∀ dd ∈ l.defs, Distinct (dd.ports.map (·.data)) ∧
      Distinct (dd.insts.map (·.data)) ∧ Distinct (dd.cables.map (·.data)))
    (hl : Distinct ((elabLibs d).map (·.data))) : NetNames (elabLibs d) := by
  refine ⟨?_, hl, ?_, fun l hl => (hsd l hl).1, ?_, fun l hl dd hdd => ((hsd l hl).2 dd hdd).1⟩
  · intro l hl
    obtain ⟨L, l0, hl0, rfl⟩ := mem_elabLibs d l hl
    exact namedOK_elab _ l0.name (namesOKB_ok _ hw.libNames _ (List.mem_map_of_mem (List.mem_of_getElem? hl0)))
      (identOf_ALib_data l0) (nameOf_ALib_data l0)
  · intro l hl dd hdd
    obtain ⟨L, l0, hl0, rfl⟩ := mem_elabLibs d l hl
    obtain ⟨D, c, hc, rfl⟩ := mem_elab_defs l0 dd hdd
    exact namedOK_elab _ c.name (namesOKB_ok _ (lib_cellNames d L l0 (hw.libs L l0 hl0)) _
      (List.mem_map_of_mem (List.mem_of_getElem? hc))) (identOf_ACell_data c) (nameOf_ACell_data c)
  · intro l hl dd hdd p hp
    obtain ⟨L, l0, hl0, rfl⟩ := mem_elabLibs d l hl
    obtain ⟨D, c, hc, rfl⟩ := mem_elab_defs l0 dd hdd
    have hcp := hw.cell hl0 hc
    obtain ⟨p0, hp0, rfl⟩ := List.mem_map.mp hp
    exact portWF_elab p0 (namesOKB_ok _ hcp.portNames _ (List.mem_map_of_mem hp0)) (hcp.ports p0 hp0)

theorem instWF_elab (d : ADesign) (L D : Nat) (i : AInst) (hn : i.name.okB = true) (h : i.okB d L D = true) :
    InstWF (elabLibs d) L D i.elab := by
  obtain ⟨hb, ⟨tl, tc, htl, htc, _⟩, hps, _⟩ := AInst.okB_inv h
  refine ⟨namedOK_elab _ i.name hn (identOf_AInst_elab i) (nameOf_AInst_elab i),
    ⟨i.li, i.di, tl.elab, tc.elab, rfl, getElem?_map_some _ htl, getElem?_map_some _ htc, hb⟩, ?_⟩
  · cases hpl : i.props with
    | nil =>
      left
      simp only [AInst.elab, readInst, hpl, List.map_nil, withProps]
      exact withName_nil_props _ _
    | cons a r =>
      right
      refine ⟨(i.props.map AProp.t).map PropT.obj, ?_, ?_⟩
      · simp only [AInst.elab, readInst, hpl, List.map_cons, withProps, Data.get?_set_self]
      · intro v hv
        obtain ⟨t, ht, rfl⟩ := List.mem_map.mp hv
        obtain ⟨p, hp, rfl⟩ := List.mem_map.mp ht
        exact ⟨p.t, decodeProp_obj_inv p.t, p.propOK (hps p hp)⟩

theorem busBits_mem (nm : Str) (nets : List ANet) (x : Nat) (h : x ∈ (busBits nm nets).map (·.1)) :
    ∃ n ∈ nets, ∃ bi j, n.kind = .bit bi nm x j := by
  obtain ⟨b, hb, rfl⟩ := List.mem_map.mp h
  unfold busBits at hb
  rw [List.mem_filterMap] at hb
  obtain ⟨n, hn, hnb⟩ := hb
  obtain ⟨kind, pins⟩ := n
  cases kind with
  | scalar a => simp at hnb
  | bit bi bn i j =>
    simp only at hnb
    by_cases hbn : bn = nm
    · subst hbn
      simp only [if_true, Option.some.injEq] at hnb
      subst hnb
      exact ⟨_, hn, bi, j, rfl⟩
    · simp [hbn] at hnb

theorem cableWF_elab (d : ADesign) (L D : Nat) (c : ACell) (hcp : CellParts d L D c) (cab : CCable)
    (hcab : cab ∈ c.elab.cables) (hpins : ∀ w ∈ cab.wires, ∀ pin ∈ w, PinWF (elabLibs d) c.elab pin) :
    CableWF (elabLibs d) c.elab cab := by
  have hwf := netsWF_of_okB c.nets hcp.nets
  have hk := kind_okB_of_nets c.nets hcp.nets
  obtain ⟨n0, hfind, hname, hident, hflag, hext⟩ := cable_at c.nets hcp.nets cab hcab
  have hn0 : n0 ∈ c.nets := List.mem_of_find?_eq_some hfind
  have hkn0 := hk n0 hn0
  have hnm : nmOf cab.data = n0.cname := nmOf_of_nameOf _ _ hname
  have hid : idOf cab.data = n0.item.ident := idOf_of_identOf _ _ hident
  obtain ⟨kind, pins⟩ := n0
  cases kind with
  | scalar a =>
    obtain ⟨ha, hsep, hane⟩ := ANetKind.okB_scalar hkn0
    obtain ⟨hl, hw⟩ := hext
    have hf : cab.scalarFlag = true := hflag
    have hnotarr : cab.isArray = false := by simp [CCable.isArray, CCable.isScalar, hw, hf]
    refine ⟨?_, by rw [hw]; simp, hpins, ?_, ?_⟩
    · rw [hnm, hid]
      exact ⟨hident, a.okB_id ha, get?_of_getStr? _ _ _ hname, a.okB_str ha⟩
    · intro _ _
      rw [hnm]
      exact ⟨hsep, hane⟩
    · intro hnot
      exact absurd ⟨by rw [hw]; rfl, hnotarr⟩ hnot
  | bit bi bn i j =>
    obtain ⟨hbi, _, hstr, hbr, _, _⟩ := ANetKind.okB_bit hkn0
    obtain ⟨hne, _, hlo, _, xh, hxh, hxe⟩ := hext
    have hf : cab.scalarFlag = false := hflag
    have harr : cab.isArray = true := by simp [CCable.isArray, CCable.isScalar, hf]
    have hnm' : nmOf cab.data = bn := hnm
    have hid' : idOf cab.data = bi := hid
    refine ⟨?_, hne, hpins, ?_, ?_⟩
    · rw [hnm', hid']
      exact ⟨hident, hbi, get?_of_getStr? _ _ _ hname, name_stringChars_of_bit bn i hstr⟩
    · intro _ ha
      rw [harr] at ha; cases ha
    · intro _ k hklt
      rw [hnm', hid']
      -- the greatest declared index of the bus
      obtain ⟨nx, hnx, bix, jx, hkx⟩ := busBits_mem bn c.nets xh hxh
      have hsame := hwf.same nx.item (List.mem_map_of_mem hnx) (ANet.item ⟨.bit bi bn i j, pins⟩) (List.mem_map_of_mem hn0)
        (by rw [item_name, item_name]; simp [ANet.cname, hkx, ANetKind.key])
      have hbix : bix = bi := by
        have := hsame.1
        rw [item_ident, item_ident] at this
        simpa [hkx, ANetKind.key] using this
      have hkx' := hk nx hnx
      rw [hkx, hbix] at hkx'
      have hle : k + cab.lower ≤ xh := by omega
      exact ⟨bracketAllowed_bitName bn i _ hbr, bitIdent_check bi xh _ hle (ANetKind.okB_bit hkx').2.1,
        bitName_stringChars bn i _ hstr⟩

/-- of C03's clauses for one cell, those about spellings come from `wf`; the others hold of every cell the reader
    returns (`hdw`, `hdi`, `hdc`) -/
theorem cellWF_elab (d : ADesign) (L D : Nat) (c : ACell) (hcp : CellParts d L D c) (hdw : DefWF (elabLibs d) L D c.elab)
    (hdi : Distinct (c.elab.insts.map (·.data))) (hdc : Distinct (c.elab.cables.map (·.data))) :
    CellWF (elabLibs d) L D c.elab := by
  refine ⟨?_, hdi, fun cab hcab => cableWF_elab d L D c hcp cab hcab (hdw.cablesWF cab hcab).2, hdc, hdw.once⟩
  intro i hi
  obtain ⟨i0, hi0, rfl⟩ := List.mem_map.mp hi
  exact instWF_elab d L D i0 (namesOKB_ok _ hcp.instNames _ (List.mem_map_of_mem hi0)) (hcp.insts i0 hi0)

theorem wfNet_elab (d : ADesign) (h : d.wf = true) :
    WFNet d.elab none none (readTop d.top.ident d.top.name d.topLi d.topDi) d.topLi d.topDi := by
  have hw := wfParts d h
  obtain ⟨l, c, hl, hc, _, _⟩ := hw.target
  -- `d.elab` is what the reader returns on `render d`
  have hacc := ofSExp_render d (design_ok d h)
  have hs := structWF_ofSExp _ _ hacc
  have hsd := siblings_distinct hs (ofSExp_names _ _ hacc)
  refine ⟨netNames_elab d hw hsd.2 hsd.1, ?_, namedOK_elab _ d.name hw.name (identOf_ADesign_data d) (nameOf_ADesign_data d), ?_, rfl,
    namedOK_elab _ d.top hw.top (identOf_readTop _ _ _ _) (nameOf_readTop _ _ _ _), rfl,
    ⟨l.elab, c.elab, getElem?_map_some _ hl, getElem?_map_some _ hc⟩⟩
  · intro L l' hl' D dd hdd
    simp only [ADesign.elab, List.getElem?_map, Option.map_eq_some_iff] at hl'
    obtain ⟨l0, hl0, rfl⟩ := hl'
    simp only [ALib.elab, List.getElem?_map, Option.map_eq_some_iff] at hdd
    obtain ⟨c0, hc0, rfl⟩ := hdd
    have hd := ((hsd.2 _ (List.mem_of_getElem? (getElem?_map_some ALib.elab hl0))).2 _
      (List.mem_of_getElem? (getElem?_map_some ACell.elab hc0))).2
    exact cellWF_elab d L D c0 (hw.cell hl0 hc0)
      (structWF_get hs (getElem?_map_some ALib.elab hl0) (getElem?_map_some ACell.elab hc0)).2 hd.1 hd.2
  · obtain ⟨n1, n2, n3⟩ : kPROG ≠ kVERSION ∧ kPROG ≠ kNAME ∧ kPROG ≠ kIDENT := ⟨S_ne rfl, S_ne rfl, S_ne rfl⟩
    refine ⟨?_, (by intro h; cases h), (by intro p hp; cases hp), (by intro v hv; cases hv)⟩
    simp only [ADesign.elab, ADesign.data, Option.map_none]
    rw [Data.get?_set_other _ _ _ _ n1, get?_withName_other _ _ _ _ n2 n3]
    rfl

theorem scalarLower0_elab (d : ADesign) (h : d.wf = true) : ScalarLower0 d.elab := by
  have hw := wfParts d h
  intro l hl dd hdd cab hcab hlen harr
  obtain ⟨L, l0, hl0, rfl⟩ := mem_elabLibs d l hl
  obtain ⟨D, c, hc, rfl⟩ := mem_elab_defs l0 dd hdd
  have hcp := hw.cell hl0 hc
  obtain ⟨n0, hn0, _, _, hflag, hext⟩ := cable_at c.nets hcp.nets cab hcab
  obtain ⟨kind, pins⟩ := n0
  cases kind with
  | scalar a => exact hext.1
  | bit bi bn i j =>
    have hf : cab.scalarFlag = false := hflag
    simp [CCable.isArray, CCable.isScalar, hf] at harr

end Spydr.Edif
