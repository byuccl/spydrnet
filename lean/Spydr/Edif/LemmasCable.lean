/-
  multibit_add_cable on a cell's cable list: the three situations (scalar net, first bit of a bus,
  further bit of a bus) and the fold over the bit nets the writer emits for one cable.
-/
import Spydr.Edif.LemmasRound
import Spydr.Edif.ReadForms
namespace Spydr.Edif

theorem findIdent_lt (sibs : List Data) (x : Str) (k : Nat) (h : findIdent sibs x = some k) : k < sibs.length := by
  unfold findIdent at h
  rw [List.findIdx?_eq_some_iff_getElem] at h
  exact h.1

theorem findName_lt (sibs : List Data) (x : Str) (k : Nat) (h : findName sibs x = some k) : k < sibs.length := by
  unfold findName at h
  rw [List.findIdx?_eq_some_iff_getElem] at h
  exact h.1

theorem sepName_snd_of_none (name : Str) (h : (sepName name).1 = none) : sepName name = (none, name) := by
  unfold sepName at *
  by_cases hb : bracketAllowed name = true
  · simp only [hb, if_true] at h ⊢
    cases hs : splitIdx '[' ']' name with
    | none => rfl
    | some x => obtain ⟨i, short⟩ := x; simp [hs] at h
  · simp [hb]

def scalarCable (d : Data) (pins : List CPin) : CCable := { data := d, scalarFlag := true, lower := 0, wires := [pins] }

/-- **scalar net**: a net whose name the reader does not take for a bus bit, with a fresh name and
    identifier, becomes one more scalar cable -/
theorem multibitAdd_scalar (cs : List CCable) (d : Data) (ident name : Str) (pins : List CPin)
    (hi : identOf d = some ident) (hn : nameOf d = some name) (hne : name ≠ [])
    (hplain : (sepName name).1 = none)
    (hfresh : findName (cs.map (·.data)) name = none)
    (hconf : conflicts (cs.map (·.data)) d = false) :
    multibitAdd cs d pins = .ok (cs ++ [scalarCable d pins]) := by
  have hsn := sepName_snd_of_none name hplain
  unfold multibitAdd
  simp only [hi, hn, hne, if_false, hsn, hfresh, hconf, Bool.false_eq_true]
  have hidx : (if (sepIdent ident).fst.isNone = true then (none : Option Nat) else none) = none := by split <;> rfl
  simp only [hidx]
  cases hf : findIdent (cs.map (·.data)) (sepIdent ident).2 with
  | none => simp [scalarCable, pure_ok]
  | some k =>
    have hk := findIdent_lt _ _ _ hf
    simp only [List.length_map] at hk
    have : cs[k]? = some cs[k] := List.getElem?_eq_getElem hk
    simp [this, scalarCable, pure_ok]

/-- the array cable the reader creates for the first bit net of a bus -/
def busCable (ident name : Str) (lower : Nat) (wires : List (List CPin)) : CCable :=
  { data := ((withName [] (bitIdent ident lower) (bitName name lower)).set kIDENT (.str ident)).set kNAME (.str name),
    scalarFlag := false, lower := lower, wires := wires }

theorem bitName_ne_nil (name : Str) (i : Nat) : bitName name i ≠ [] := by
  unfold bitName; simp

theorem withName_nil_setIdent (a b n x : Str) :
    (withName [] a n).set kIDENT (.str x) = (withName [] b n).set kIDENT (.str x) := by
  have h1 : ¬ (kNAME = kIDENT) := S_ne rfl
  have h2 : ¬ (kIDENT = kNAME) := S_ne rfl
  simp only [withName, Data.set, h1, h2, if_false, if_true]

/-- **first bit of a bus**: no cable of that name / identifier yet → a new array cable whose lower
    index is the bit's index `i` in the name; the index `j` in the identifier does not count -/
theorem multibitAdd_newBus (cs : List CCable) (ident name : Str) (i j : Nat) (pins : List CPin)
    (hba : bracketAllowed (bitName name i) = true)
    (hc : checkEdifIdentifier ident = true)
    (hfn : findName (cs.map (·.data)) name = none)
    (hfi : findIdent (cs.map (·.data)) ident = none)
    (hconf : conflicts (cs.map (·.data)) (busCable ident name i [pins]).data = false) :
    multibitAdd cs (withName [] (bitIdent ident j) (bitName name i)) pins =
      .ok (cs ++ [busCable ident name i [pins]]) := by
  unfold multibitAdd
  simp only [identOf_withName, nameOf_withName, bitName_ne_nil, if_false, sepIdent_bitIdent,
    sepName_bitName name i hba, Option.isNone_some, Bool.false_eq_true, hfn, hfi, hc, Bool.not_true]
  simp only [busCable] at hconf
  rw [withName_nil_setIdent (bitIdent ident j) (bitIdent ident i)]
  simp [hconf, busCable, pure_ok]

/-- **further bit of a bus**: the cable of that name exists and is an array → merged into it at the name's index -/
theorem multibitAdd_merge (cs : List CCable) (ident name : Str) (i j k : Nat) (ex : CCable) (pins : List CPin)
    (hba : bracketAllowed (bitName name i) = true)
    (hfn : findName (cs.map (·.data)) name = some k) (hk : cs[k]? = some ex) (harr : ex.isArray = true) :
    multibitAdd cs (withName [] (bitIdent ident j) (bitName name i)) pins = .ok (cs.set k (mergeInto ex i pins)) := by
  unfold multibitAdd
  simp only [identOf_withName, nameOf_withName, bitName_ne_nil, if_false, sepIdent_bitIdent,
    sepName_bitName name i hba, Option.isNone_some, Bool.false_eq_true, hfn, hk, harr, Bool.not_true,
    pure_ok]

theorem loopC_lists {σ : Type} (h : σ → List SExp → R σ) (s : σ) (yss : List (List SExp)) (rest : List SExp) :
    loopC h s (yss.map SExp.list ++ rest) = (yss.foldlM h s) >>= fun s' => loopC h s' rest := by
  induction yss generalizing s with
  | nil => simp [pure_ok, ok_bind]
  | cons ys r ih =>
    simp only [List.map_cons, List.cons_append, loopC, List.foldlM_cons]
    cases h s ys with
    | error e => rfl
    | ok s' => simpa [ok_bind] using ih s'

theorem contentsItem_net (sc : Scope) (st : CellSt) (nm : SExp) (D : Data) (es : List SExp) (pins : List CPin)
    (hnm : ∀ rest, nameDef Meta.new (nm :: rest) = .ok ({ data := D, pfx := [S "EDIF"] }, rest))
    (hpins : loopC (joinedItem { sc := sc, ports := st.ports, insts := st.insts }) [] es = .ok (pins, [])) :
    contentsItem sc st [A "net", nm, .list (A "joined" :: es)] =
      (multibitAdd st.cables D pins) >>= fun cs => pure { st with cables := cs } := by
  have hlow : lower (S "net") = S "net" := by decide
  have h1 := fun xs => headIs_S hlow "instance" xs false rfl
  have h2 := fun xs => headIs_S hlow "net" xs true rfl
  have hnet : parseNet { sc := sc, ports := st.ports, insts := st.insts } [A "net", nm, .list (A "joined" :: es)] = .ok (D, pins) :=
    parseNet_iff.mpr ⟨_, _, _, _, _, _, hnm _, headIs_A "joined" "joined" _ true rfl, hpins, rfl, rfl, rfl, rfl⟩
  simp only [contentsItem, h1, h2, Bool.false_eq_true, if_false, if_true, hnet, ok_bind]

theorem conflicts_false_of_fresh (sibs : List Data) (d : Data) (ident name : Str)
    (hi : identOf d = some ident) (hn : nameOf d = some name)
    (hfn : findName sibs name = none) (hfi : findIdent sibs ident = none) : conflicts sibs d = false := by
  unfold conflicts
  rw [List.any_eq_false]
  intro s hs
  have h1 := findName_eq_none.mp hfn s hs
  have h2 := findIdent_eq_none.mp hfi s hs
  simp only [hi, hn]
  cases hsi : identOf s <;> cases hsn : nameOf s <;> simp_all

def bitNameSExp (ident name : Str) (idx : Nat) : SExp :=
  .list [A "rename", .atom (bitIdent ident idx), qtok (bitName name idx)]

theorem nameDef_bit (ident name : Str) (idx : Nat)
    (hc : checkEdifIdentifier (bitIdent ident idx) = true) (hs : (bitName name idx).all isStringChar = true) :
    ∀ rest, nameDef Meta.new (bitNameSExp ident name idx :: rest) =
      .ok ({ data := withName [] (bitIdent ident idx) (bitName name idx), pfx := [S "EDIF"] }, rest) := by
  intro rest
  have := parseRename_ok [] (bitIdent ident idx) (bitName name idx) hc hs rfl
  simp only [nameDef, bitNameSExp, Meta.new, this, ok_bind, pure_ok]

theorem nameOf_busCable (ident name : Str) (lo : Nat) (ws : List (List CPin)) :
    nameOf (busCable ident name lo ws).data = some name := by
  simp only [busCable, nameOf, Data.getStr?, Data.get?_set_self]

theorem identOf_busCable (ident name : Str) (lo : Nat) (ws : List (List CPin)) :
    identOf (busCable ident name lo ws).data = some ident := by
  show identOf ((Data.set _ kIDENT (.str ident)).set kNAME (.str name)) = some ident
  rw [identOf_set _ kNAME _ kNAME_ne_kIDENT, identOf, Data.getStr?, Data.get?_set_self]

theorem busCable_isArray (ident name : Str) (lo : Nat) (ws : List (List CPin)) :
    (busCable ident name lo ws).isArray = true := by
  simp [busCable, CCable.isArray, CCable.isScalar]

theorem findName_append_fresh (ds : List Data) (d : Data) (n : Str) (h : findName ds n = none)
    (hn : nameOf d = some n) : findName (ds ++ [d]) n = some ds.length := by
  unfold findName at *
  rw [List.findIdx?_append, h]
  simp [List.findIdx?_cons, hn]

theorem netSExp_bus (libs : List CLib) (d : CDef) (cx : DefCtx) (c : CCable) (ident name : Str) (w : List CPin) (k : Nat)
    (hname : nameOf c.data = some name) (hpins : ∀ pin ∈ w, PinOK libs d cx pin) :
    ∃ es, netSExp libs d c ident false w k = .ok (.list [A "net", bitNameSExp ident name (k + c.lower), .list (A "joined" :: es)]) ∧
      loopC (joinedItem cx) [] es = .ok (w, []) := by
  obtain ⟨es, hes, hl⟩ := pins_roundtrip libs d cx w [] hpins
  refine ⟨es, ?_, by simpa using hl⟩
  simp [netSExp, hname, hes, bitNameSExp, ok_bind, pure_ok]

/-- the nets of wires `ws` (positions `done.length …`) of a bus, on top of the cable holding `done` -/
theorem bus_tail (libs : List CLib) (d : CDef) (sc : Scope) (c : CCable) (ident name : Str) (cs : List CCable)
    (ws done : List (List CPin)) (st : CellSt)
    (hd : done ≠ [])
    (hst : st.cables = cs ++ [busCable ident name c.lower done])
    (hfresh : findName (cs.map (·.data)) name = none)
    (hname : nameOf c.data = some name)
    (hpins : ∀ w ∈ ws, ∀ pin ∈ w, PinOK libs d { sc := sc, ports := st.ports, insts := st.insts } pin)
    (hbits : ∀ k, done.length ≤ k → k < done.length + ws.length →
      bracketAllowed (bitName name (k + c.lower)) = true ∧ checkEdifIdentifier (bitIdent ident (k + c.lower)) = true ∧
      (bitName name (k + c.lower)).all isStringChar = true) :
    ∃ yss : List (List SExp), (ws.zipIdx done.length).mapM (fun (x : List CPin × Nat) => netSExp libs d c ident false x.1 x.2) = .ok (yss.map SExp.list) ∧
      yss.foldlM (contentsItem sc) st = .ok { st with cables := cs ++ [busCable ident name c.lower (done ++ ws)] } := by
  induction ws generalizing done st with
  | nil =>
    refine ⟨[], by simp [pure_ok], ?_⟩
    simp [pure_ok, ← hst]
  | cons w ws ih =>
    have hb := hbits done.length (Nat.le_refl _) (by simp)
    obtain ⟨es, hnet, hl⟩ := netSExp_bus libs d { sc := sc, ports := st.ports, insts := st.insts } c ident name w
      done.length hname (hpins w (by simp))
    have hlen : 0 < done.length := List.length_pos_iff.mpr hd
    have hfind : findName (st.cables.map (·.data)) name = some cs.length := by
      rw [hst, List.map_append, List.map_cons, List.map_nil]
      have := findName_append_fresh (cs.map (·.data)) (busCable ident name c.lower done).data name hfresh (nameOf_busCable _ _ _ _)
      simpa using this
    have hget : st.cables[cs.length]? = some (busCable ident name c.lower done) := by
      rw [hst]; simp
    have hmerge : mergeInto (busCable ident name c.lower done) (done.length + c.lower) w =
        busCable ident name c.lower (done ++ [w]) := by
      unfold mergeInto
      have h1 : done.length + c.lower ≥ (busCable ident name c.lower done).lower := by simp [busCable]
      have h2 : ¬ (done.length + c.lower < (busCable ident name c.lower done).lower + (busCable ident name c.lower done).wires.length) := by
        simp [busCable]; omega
      simp only [h1, h2, if_true, if_false]
      simp [busCable]
    have hstep : contentsItem sc st [A "net", bitNameSExp ident name (done.length + c.lower), .list (A "joined" :: es)] =
        .ok { st with cables := cs ++ [busCable ident name c.lower (done ++ [w])] } := by
      rw [contentsItem_net sc st _ _ es w (nameDef_bit ident name _ hb.2.1 hb.2.2) hl]
      rw [multibitAdd_merge st.cables ident name (done.length + c.lower) _ cs.length _ w hb.1 hfind hget (busCable_isArray _ _ _ _)]
      simp only [hmerge, ok_bind, pure_ok, hst]
      simp
    obtain ⟨yss, hm, hf⟩ := ih (done ++ [w]) { st with cables := cs ++ [busCable ident name c.lower (done ++ [w])] }
      (by simp) rfl (fun w' hw' => hpins w' (by simp [hw']))
      (fun k hk1 hk2 => hbits k (by simp at hk1; omega) (by simp at hk1 hk2 ⊢; omega))
    refine ⟨[A "net", bitNameSExp ident name (done.length + c.lower), .list (A "joined" :: es)] :: yss, ?_, ?_⟩
    · simp only [List.zipIdx_cons, List.mapM_cons, hnet, ok_bind]
      have hm' : (ws.zipIdx (done.length + 1)).mapM (fun (x : List CPin × Nat) => netSExp libs d c ident false x.1 x.2) = .ok (yss.map SExp.list) := by
        simpa using hm
      simp only [hm', ok_bind, pure_ok, List.map_cons]
    · simp only [List.foldlM_cons, hstep, ok_bind]
      simpa using hf

/-- what the reader assembles from the nets the writer emits for cable `c` -/
def readCable (c : CCable) (ident name : Str) : CCable :=
  if c.wires.length = 1 ∧ c.isArray = false then scalarCable (withName [] ident name) (c.wires.headD [])
  else busCable ident name c.lower c.wires

/-- hypotheses on one cable (C03's quantifier: named, non-empty, scalar cables not named like a bus
    bit; plus the writer's per-bit identifiers being legal) -/
structure CableOK (libs : List CLib) (d : CDef) (cx : DefCtx) (c : CCable) (ident name : Str) : Prop where
  named : NamedOK c.data ident name
  wires_ne : c.wires ≠ []
  pins : ∀ w ∈ c.wires, ∀ pin ∈ w, PinOK libs d cx pin
  scalar_plain : c.wires.length = 1 → c.isArray = false → (sepName name).1 = none ∧ name ≠ []
  bus_ok : ¬ (c.wires.length = 1 ∧ c.isArray = false) → ∀ k, k < c.wires.length →
    bracketAllowed (bitName name (k + c.lower)) = true ∧ checkEdifIdentifier (bitIdent ident (k + c.lower)) = true ∧
    (bitName name (k + c.lower)).all isStringChar = true

theorem nameOf_of_NamedOK (d : Data) (ident name : Str) (h : NamedOK d ident name) : nameOf d = some name := by
  simp [nameOf, Data.getStr?, h.hn]

/-- **cable_roundtrip**: the nets the writer emits for one cable are re-assembled by the reader
    (parse_net + multibit_add_cable) into one cable with the same name, identifier, base index and
    the same pins on every wire, appended to the cell's cables -/
theorem cable_roundtrip (libs : List CLib) (d : CDef) (sc : Scope) (c : CCable) (ident name : Str) (st : CellSt)
    (hok : CableOK libs d { sc := sc, ports := st.ports, insts := st.insts } c ident name)
    (hfn : findName (st.cables.map (·.data)) name = none)
    (hfi : findIdent (st.cables.map (·.data)) ident = none) :
    ∃ yss : List (List SExp), cableSExps libs d c = .ok (yss.map SExp.list) ∧
      yss.foldlM (contentsItem sc) st = .ok { st with cables := st.cables ++ [readCable c ident name] } := by
  have hname := nameOf_of_NamedOK _ _ _ hok.named
  unfold cableSExps
  simp only [needIdent, hok.named.hi, ok_bind, pure_ok]
  by_cases hs : c.wires.length = 1 ∧ c.isArray = false
  · -- scalar: one net under the cable's own name
    obtain ⟨hl, ha⟩ := hs
    obtain ⟨hplain, hne⟩ := hok.scalar_plain hl ha
    obtain ⟨w, hw⟩ := List.length_eq_one_iff.mp hl
    obtain ⟨nm, hnm, _, hdef⟩ := nameDef_nameSExp c.data ident name hok.named "cable"
    obtain ⟨es, hes, hloop⟩ := pins_roundtrip libs d { sc := sc, ports := st.ports, insts := st.insts } w []
      (fun pin hp => hok.pins w (by simp [hw]) pin hp)
    refine ⟨[[A "net", nm, .list (A "joined" :: es)]], ?_, ?_⟩
    · simp [hw, ha, netSExp, hnm, hes, ok_bind, pure_ok]
    · have hD : ∀ rest, nameDef Meta.new (nm :: rest) = .ok ({ data := withName [] ident name, pfx := [S "EDIF"] }, rest) :=
        fun rest => hdef [] rest rfl
      have hconf := conflicts_false_of_fresh (st.cables.map (·.data)) (withName [] ident name) ident name
        (identOf_withName _ _ _) (nameOf_withName _ _ _) hfn hfi
      simp only [List.foldlM_cons, List.foldlM_nil, contentsItem_net sc st nm _ es w hD (by simpa using hloop),
        multibitAdd_scalar st.cables _ ident name w (identOf_withName _ _ _) (nameOf_withName _ _ _) hne hplain hfn hconf,
        ok_bind, pure_ok]
      simp [readCable, ha, hw]
  · -- bus: first bit creates the array cable, the others extend it upwards
    have hb := hok.bus_ok hs
    have hsingle : (decide (c.wires.length = 1) && !c.isArray) = false := by simpa using hs
    simp only [hsingle]
    cases hc : c.wires with
    | nil => exact absurd hc hok.wires_ne
    | cons w ws =>
      have hb0 := hb 0 (by simp [hc])
      simp only [Nat.zero_add] at hb0
      obtain ⟨es, hnet, hl⟩ := netSExp_bus libs d { sc := sc, ports := st.ports, insts := st.insts } c ident name w 0
        hname (hok.pins w (by simp [hc]))
      simp only [Nat.zero_add] at hnet
      have hconf := conflicts_false_of_fresh (st.cables.map (·.data)) (busCable ident name c.lower [w]).data ident name
        (identOf_busCable _ _ _ _) (nameOf_busCable _ _ _ _) hfn hfi
      have hstep : contentsItem sc st [A "net", bitNameSExp ident name c.lower, .list (A "joined" :: es)] =
          .ok { st with cables := st.cables ++ [busCable ident name c.lower [w]] } := by
        rw [contentsItem_net sc st _ _ es w (nameDef_bit ident name _ hb0.2.1 hb0.2.2) hl]
        rw [multibitAdd_newBus st.cables ident name c.lower _ w hb0.1 hok.named.hc hfn hfi hconf]
        rfl
      obtain ⟨yss, hm, hf⟩ := bus_tail libs d sc c ident name st.cables ws [w]
        { st with cables := st.cables ++ [busCable ident name c.lower [w]] } (by simp) rfl hfn hname
        (fun w' hw' => hok.pins w' (by simp [hc, hw']))
        (fun k hk1 hk2 => hb k (by simp [hc] at hk2 ⊢; omega))
      refine ⟨[A "net", bitNameSExp ident name c.lower, .list (A "joined" :: es)] :: yss, ?_, ?_⟩
      · simp only [List.zipIdx_cons, List.mapM_cons]
        have hm' : (ws.zipIdx (0 + 1)).mapM (fun (x : List CPin × Nat) => netSExp libs d c ident false x.1 x.2) = .ok (yss.map SExp.list) := by
          simpa using hm
        rw [hnet]
        simp only [hm', ok_bind, pure_ok, List.map_cons]
      · have hrc : readCable c ident name = busCable ident name c.lower (w :: ws) := by
          unfold readCable; rw [if_neg hs, hc]
        simp only [List.foldlM_cons, hstep, ok_bind]
        rw [hf, hrc]
        simp

def KnownBy (prev : List (Str × Str)) (sibs : List Data) : Prop :=
  ∀ s ∈ sibs, ∃ p ∈ prev, identOf s = some p.1 ∧ nameOf s = some p.2

def FreshIn (prev : List (Str × Str)) (ident name : Str) : Prop :=
  ∀ p ∈ prev, p.2 ≠ name ∧ lower p.1 ≠ lower ident

theorem findName_none_of_fresh (prev : List (Str × Str)) (sibs : List Data) (ident name : Str)
    (hk : KnownBy prev sibs) (hf : FreshIn prev ident name) : findName sibs name = none := by
  refine findName_eq_none.mpr fun s hs => ?_
  obtain ⟨p, hp, _, hn⟩ := hk s hs
  exact hn ▸ fun e => (hf p hp).1 (Option.some.inj e)

theorem findIdent_none_of_fresh (prev : List (Str × Str)) (sibs : List Data) (ident name : Str)
    (hk : KnownBy prev sibs) (hf : FreshIn prev ident name) : findIdent sibs ident = none := by
  refine findIdent_eq_none.mpr fun s hs b hb => ?_
  obtain ⟨p, hp, hi, _⟩ := hk s hs
  cases hi.symm.trans hb
  exact (hf p hp).2

theorem KnownBy_append (prev : List (Str × Str)) (sibs : List Data) (d : Data) (ident name : Str)
    (hk : KnownBy prev sibs) (hi : identOf d = some ident) (hn : nameOf d = some name) :
    KnownBy ((ident, name) :: prev) (sibs ++ [d]) := by
  intro s hs
  rcases List.mem_append.mp hs with h | h
  · obtain ⟨p, hp, h1, h2⟩ := hk s h
    exact ⟨p, List.mem_cons_of_mem _ hp, h1, h2⟩
  · simp only [List.mem_singleton] at h
    subst h
    exact ⟨(ident, name), by simp, hi, hn⟩

theorem fresh_step {α : Type} (f : α → Data) (prev : List (Str × Str)) (xs : List α) (x : α) (ident name : Str)
    (hk : KnownBy prev (xs.map f)) (hf : FreshIn prev ident name)
    (hi : identOf (f x) = some ident) (hn : nameOf (f x) = some name) :
    conflicts (xs.map f) (f x) = false ∧ KnownBy ((ident, name) :: prev) ((xs ++ [x]).map f) :=
  ⟨conflicts_false_of_fresh _ _ ident name hi hn (findName_none_of_fresh prev _ _ _ hk hf)
      (findIdent_none_of_fresh prev _ _ _ hk hf),
    by rw [List.map_append]; exact KnownBy_append prev _ _ ident name hk hi hn⟩

theorem nameOf_readCable (c : CCable) (ident name : Str) : nameOf (readCable c ident name).data = some name := by
  unfold readCable
  split
  · simp [scalarCable, nameOf_withName]
  · exact nameOf_busCable _ _ _ _

theorem identOf_readCable (c : CCable) (ident name : Str) : identOf (readCable c ident name).data = some ident := by
  unfold readCable
  split
  · simp [scalarCable, identOf_withName]
  · exact identOf_busCable _ _ _ _

def idOf (d : Data) : Str := (identOf d).getD []
def nmOf (d : Data) : Str := (nameOf d).getD []

def readCable1 (c : CCable) : CCable := readCable c (idOf c.data) (nmOf c.data)

def CablesOK (libs : List CLib) (d : CDef) (cx : DefCtx) : List (Str × Str) → List CCable → Prop
  | _, [] => True
  | prev, c :: r => CableOK libs d cx c (idOf c.data) (nmOf c.data) ∧ FreshIn prev (idOf c.data) (nmOf c.data) ∧
      CablesOK libs d cx ((idOf c.data, nmOf c.data) :: prev) r

theorem cables_roundtrip (libs : List CLib) (d : CDef) (sc : Scope) (cs : List CCable) (prev : List (Str × Str))
    (st : CellSt)
    (hok : CablesOK libs d { sc := sc, ports := st.ports, insts := st.insts } prev cs)
    (hk : KnownBy prev (st.cables.map (·.data))) :
    ∃ ysss : List (List (List SExp)), cs.mapM (cableSExps libs d) = .ok (ysss.map (·.map SExp.list)) ∧
      ysss.flatten.foldlM (contentsItem sc) st = .ok { st with cables := st.cables ++ cs.map readCable1 } := by
  induction cs generalizing prev st with
  | nil => exact ⟨[], rfl, by simp [pure_ok]⟩
  | cons c r ih =>
    obtain ⟨hc, hfresh, hrest⟩ := hok
    have hfn := findName_none_of_fresh prev _ _ _ hk hfresh
    have hfi := findIdent_none_of_fresh prev _ _ _ hk hfresh
    obtain ⟨yss, hw, hf⟩ := cable_roundtrip libs d sc c (idOf c.data) (nmOf c.data) st hc hfn hfi
    have hk' : KnownBy ((idOf c.data, nmOf c.data) :: prev)
        (({ st with cables := st.cables ++ [readCable c (idOf c.data) (nmOf c.data)] } : CellSt).cables.map (·.data)) := by
      simp only [List.map_append, List.map_cons, List.map_nil]
      exact KnownBy_append prev _ _ _ _ hk (identOf_readCable _ _ _) (nameOf_readCable _ _ _)
    obtain ⟨ysss, hws, hfs⟩ := ih ((idOf c.data, nmOf c.data) :: prev)
      { st with cables := st.cables ++ [readCable c (idOf c.data) (nmOf c.data)] } hrest hk'
    refine ⟨yss :: ysss, ?_, ?_⟩
    · simp only [List.mapM_cons, hw, hws, ok_bind, pure_ok, List.map_cons]
    · simp only [List.flatten_cons, List.foldlM_append, hf, ok_bind]
      rw [hfs]
      simp [readCable1]

theorem adjDup_false_of_nodup (l : List CPin) (h : l.Nodup) : adjDup l = false := by
  induction l with
  | nil => rfl
  | cons a r ih =>
    cases r with
    | nil => rfl
    | cons b r' =>
      simp only [adjDup, Bool.or_eq_false_iff]
      have hn := List.nodup_cons.mp h
      refine ⟨?_, ih hn.2⟩
      have : a ≠ b := fun e => hn.1 (by simp [e])
      simpa using this

theorem hasDupPin_false (cables : List CCable) (h : (cables.flatMap (fun c => c.wires.flatten)).Nodup) :
    hasDupPin cables = false := by
  unfold hasDupPin
  apply adjDup_false_of_nodup
  exact (List.mergeSort_perm _ _).nodup_iff.mpr h

end Spydr.Edif
