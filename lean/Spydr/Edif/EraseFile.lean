/-
  Erasure: libraries, the design construct, the file.
-/
import Spydr.Edif.EraseCell
namespace Spydr.Edif

theorem headIs_stripCell (ys : List SExp) (k : String) : headIs (stripCell ys) k = headIs ys k := by
  rcases ys with _ | ⟨a, _ | ⟨b, _ | ⟨c, d⟩⟩⟩ <;> rfl

theorem headIs_stripLib (ys : List SExp) (k : String) : headIs (stripLib ys) k = headIs ys k := by
  rcases ys with _ | ⟨a, _ | ⟨b, _ | ⟨c, _ | ⟨d, e⟩⟩⟩⟩ <;> rfl

theorem headIs_stripDesign (ys : List SExp) (k : String) : headIs (stripDesign ys) k = headIs ys k := by
  rcases ys with _ | ⟨a, _ | ⟨b, _ | ⟨c, d⟩⟩⟩ <;> rfl

theorem levelOf_pfx (m m1 : Meta) (ys : List SExp) (kw pfx : String) (h : levelOf m ys kw pfx = .ok m1) : m1.pfx = m.pfx := by
  unfold levelOf at h
  peel h
  · rename_i m2 hm2
    simp only [Except.ok.injEq] at h
    subst h
    exact pop_pfx _ _ _ (setAttr_pfx _ _ _ hm2)
  · simp only [Except.ok.injEq] at h
    subst h
    rfl

structure RelLibSt (st st' : LibSt) : Prop where
  pfx : st.m.pfx = pE
  m : MRel KO st.m st'.m
  defs : All2 RelDef st.defs st'.defs

theorem libItem_kept (libs libs' : List CLib) (hl : All2 RelLib libs libs') (st st' : LibSt) (ys : List SExp) (st1 : LibSt)
    (hr : RelLibSt st st') (hnz : noiseIn ["status", "comment"] ys = false) (hs : libItem libs st ys = .ok st1) :
    ∃ st1', libItem libs' st' (subLib ys) = .ok st1' ∧ RelLibSt st1 st1' := by
  obtain ⟨c, d, hc, hpc, hd, rfl⟩ | ⟨m, b, hm, -⟩ := libItem_ok hs
  · obtain ⟨c', hpc', hrc⟩ := parseCell_strip { libs := libs, curLib := st.m.data, curDefs := st.defs }
      { libs := libs', curLib := st'.m.data, curDefs := st'.defs } ⟨hl, hr.m.2, hr.defs⟩ ys c hpc
    obtain ⟨d', hd', hrd⟩ := addRetry_rel KO kI_O kN_O _ _ (nameEq_defs hr.defs) c.data c'.data d hrc.data hd
    refine ⟨{ st' with defs := st'.defs ++ [{ c' with data := d' }] }, ?_, hr.pfx, hr.m,
      forall₂_snoc hr.defs ⟨hrd, hrc.ports, hrc.insts, hrc.cables⟩⟩
    simp only [libItem, subLib, hc, if_true, headIs_stripCell, not_noise hnz List.mem_cons_self, if_false, Bool.false_eq_true,
      hpc', hd', ok_bind, pure_ok]
  · exact absurd (hnz.symm.trans hm.1) Bool.false_ne_true

theorem libItem_noise (libs : List CLib) (st st' : LibSt) (ys : List SExp) (st1 : LibSt)
    (hr : RelLibSt st st') (hnz : noiseIn ["status", "comment"] ys = true) (hs : libItem libs st ys = .ok st1) :
    RelLibSt st1 st' := by
  obtain ⟨c, d, hc, -⟩ | ⟨m, b, hm, rfl⟩ := libItem_ok hs
  · exact (noise_kept hnz hc (by decide)).elim
  · have h := hm.same (.inl hr.pfx)
    exact ⟨h.1.trans hr.pfx, hr.m.noise h, hr.defs⟩

theorem parseLibrary_strip (libs libs' : List CLib) (hl : All2 RelLib libs libs') (ext : Bool) (ys : List SExp) (l : CLib)
    (hs : parseLibrary libs ext ys = .ok l) : ∃ l', parseLibrary libs' ext (stripLib ys) = .ok l' ∧ RelLib l l' := by
  obtain ⟨m, lv, tk, nd, rest, m2, st, rest2, hv, hm2, htk, hnd, hl3, he, rfl⟩ := parseLibrary_iff.mp hs
  obtain ⟨kw, nm, rfl, hall⟩ := nameDef_tail hv
  have hpfx : m2.pfx = pE := (levelOf_pfx _ _ _ _ _ hm2).trans ((nameDef_pfx _ _ _ _ hv).trans (by cases ext <;> rfl))
  obtain ⟨st', hl3', hr3⟩ := loopC_strip (libItem libs) (libItem libs') (noiseIn ["status", "comment"]) subLib RelLibSt
    (libItem_kept libs libs' hl) (libItem_noise libs) rest { m := m2 } { m := m2 } st rest2
    ⟨hpfx, MRel.refl KO _, All2.nil⟩ hl3
  exact ⟨_, parseLibrary_iff.mpr ⟨m, lv, tk, nd, _, m2, st', rest2, hall _, hm2, htk, hnd, hl3', he, rfl⟩, hr3.m.2, hr3.defs⟩

theorem parseDesign_strip (libs libs' : List CLib) (hl : All2 RelLib libs libs') (ys : List SExp) (t : CInst)
    (hs : parseDesign libs ys = .ok t) : parseDesign libs' (stripDesign ys) = .ok t := by
  refine Sim.eq ?_ hs
  unfold parseDesign
  rcases ys with _ | ⟨kw, _ | ⟨nm, _ | ⟨cr, more⟩⟩⟩
  · exact Sim.throw
  · exact Sim.throw
  · exact Sim.throw
  · cases cr with
    | atom a => exact Sim.throw
    | list crl =>
      refine Sim.bind (Sim.refl _) ?_
      rintro m _ rfl
      split
      · rename_i cid lid
        rw [← findIdent_congr _ _ (nameEq_libs hl)]
        refine Sim.ite Sim.throw ?_
        split
        · exact Sim.throw
        · rename_i li _
          cases hlib : libs[li]? with
          | none => exact Sim.throw
          | some l =>
            obtain ⟨l', hl', hrl⟩ := forall₂_get hl li l hlib
            rw [hl']
            dsimp only
            rw [← findIdent_congr _ _ (nameEq_defs hrl.defs)]
            exact Sim.refl _
      · exact Sim.throw

structure RelBody (st st' : BodySt) : Prop where
  pfx : st.m.pfx = pE
  m : MRel KO st.m st'.m
  libs : All2 RelLib st.libs st'.libs
  top : st.top = st'.top

theorem bodyItem_kept (st st' : BodySt) (ys : List SExp) (st1 : BodySt)
    (hr : RelBody st st') (hnz : noiseIn ["status", "comment"] ys = false) (hs : bodyItem st ys = .ok st1) :
    ∃ st1', bodyItem st' (subBody ys) = .ok st1' ∧ RelBody st1 st1' := by
  have hst := not_noise hnz List.mem_cons_self
  obtain ⟨l, hlib, hpl, hc, rfl⟩ | ⟨t, hlib, hdes, ht, rfl⟩ | ⟨m, b, hm, -⟩ := bodyItem_ok hs
  · obtain ⟨l', hpl', hrl⟩ := parseLibrary_strip st.libs st'.libs hr.libs _ ys l hpl
    rw [conflicts_congr _ _ (nameEq_libs hr.libs) _ _ (nameEq_of_sameOn KO kI_O kN_O _ _ hrl.data)] at hc
    refine ⟨{ st' with libs := st'.libs ++ [l'] }, ?_, hr.pfx, hr.m, forall₂_snoc hr.libs hrl, hr.top⟩
    simp only [bodyItem, subBody, hlib, if_true, headIs_stripLib, hst, if_false, Bool.false_eq_true, hpl', hc, ok_bind, pure_ok]
  · have ht' := parseDesign_strip st.libs st'.libs hr.libs ys t ht
    refine ⟨{ st' with top := some t }, ?_, hr.pfx, hr.m, hr.libs, rfl⟩
    simp only [bodyItem, subBody, hlib, hdes, if_true, headIs_stripDesign, hst, if_false, Bool.false_eq_true, ht', ok_bind,
      pure_ok]
  · exact absurd (hnz.symm.trans hm.1) Bool.false_ne_true

theorem bodyItem_noise (st st' : BodySt) (ys : List SExp) (st1 : BodySt)
    (hr : RelBody st st') (hnz : noiseIn ["status", "comment"] ys = true) (hs : bodyItem st ys = .ok st1) :
    RelBody st1 st' := by
  obtain ⟨l, hlib, -⟩ | ⟨t, -, hdes, -⟩ | ⟨m, b, hm, rfl⟩ := bodyItem_ok hs
  · rw [not_kept_of_noise _ ys "library" hnz (by decide), not_kept_of_noise _ ys "external" hnz (by decide)] at hlib
    cases hlib
  · exact (noise_kept hnz hdes (by decide)).elim
  · have h := hm.same (.inl hr.pfx)
    exact ⟨h.1.trans hr.pfx, hr.m.noise h, hr.libs, hr.top⟩

/-- two netlists that agree up to the noise keys -/
structure RelNet (n n' : CNetlist) : Prop where
  data : SameOn KO n.data n'.data
  libs : All2 RelLib n.libs n'.libs
  top : n.top = n'.top

theorem ofSExp_strip (e : SExp) (n : CNetlist) (hs : ofSExp e = .ok n) :
    ∃ n', ofSExp (strip e) = .ok n' ∧ RelNet n n' := by
  obtain ⟨ys, m, ver, lvl, kk, kl, rest, vs, m2, m3, m4, st, rest2, rfl, hedif, hv, hver, hvs, hlen, hm2, hm3, hkk, hm4, hl, he,
    rfl⟩ := ofSExp_iff.mp hs
  obtain ⟨kw, nm, rfl, hall⟩ := nameDef_tail hv
  have hpfx : m4.pop.pfx = pE := by
    have h4 := levelOf_pfx _ _ _ _ _ hm4
    have h3 := levelOf_pfx _ _ _ _ _ hm3
    have h2 := setAttr_pfx _ _ _ hm2
    simp only [Meta.pop, Meta.push] at h2 h3 h4 ⊢
    rw [h4, List.dropLast_concat, h3, h2, List.dropLast_concat, nameDef_pfx _ _ _ _ hv]
    rfl
  obtain ⟨st', hl', hr⟩ := loopC_strip bodyItem bodyItem (noiseIn ["status", "comment"]) subBody RelBody
    bodyItem_kept bodyItem_noise rest { m := m4.pop } { m := m4.pop } st rest2 ⟨hpfx, MRel.refl KO _, All2.nil, rfl⟩ hl
  exact ⟨_, ofSExp_iff.mpr ⟨_, m, ver, lvl, kk, kl, _, vs, m2, m3, m4, st', rest2, rfl, hedif, hall _, hver, hvs, hlen, hm2, hm3,
    hkk, hm4, hl', he, rfl⟩, hr.m.2, hr.libs, hr.top⟩

theorem all2_map_eq {α β γ : Type} {R : α → β → Prop} (f : α → γ) (g : β → γ) {xs : List α} {ys : List β}
    (h : All2 R xs ys) (hf : ∀ a b, R a b → f a = g b) : xs.map f = ys.map g := by
  induction h with
  | nil => rfl
  | cons hh _ ih => simp only [List.map_cons, hf _ _ hh, ih]

theorem view05Port_rel {p p' : CPort} (h : RelPort p p') : view05Port p = view05Port p' := by
  simp only [view05Port, CPort.isArray, CPort.isScalar, h.dir, h.width, h.flag,
    nameOf_of_sameOn KO kN_O _ _ h.data, identOf_of_sameOn KO kI_O _ _ h.data]

theorem view05Inst_rel {i i' : CInst} (h : RelInst i i') : view05Inst i = view05Inst i' := by
  have hp : i'.data.get? (S "EDIF.properties") = i.data.get? (S "EDIF.properties") := h.data kPROPS kPROPS_I
  simp only [view05Inst, v05Props, h.ref, hp, nameOf_of_sameOn KI kN_I _ _ h.data, identOf_of_sameOn KI kI_I _ _ h.data]

theorem view05Cable_rel {c c' : CCable} (h : RelCable c c') : view05Cable c = view05Cable c' := by
  simp only [view05Cable, h.isArray, h.lower, h.wires, nameOf_of_sameOn KO kN_O _ _ h.data, identOf_of_sameOn KO kI_O _ _ h.data]

theorem view05Cell_rel {d d' : CDef} (h : RelDef d d') : view05Cell d = view05Cell d' := by
  have hv := viewIdentOf_of_sameOn _ _ h.data
  simp only [viewIdentOf] at hv
  simp only [view05Cell, hv, nameOf_of_sameOn KO kN_O _ _ h.data, identOf_of_sameOn KO kI_O _ _ h.data,
    all2_map_eq _ _ h.ports (fun _ _ => view05Port_rel), all2_map_eq _ _ h.insts (fun _ _ => view05Inst_rel),
    all2_map_eq _ _ h.cables (fun _ _ => view05Cable_rel)]

theorem view05Lib_rel {l l' : CLib} (h : RelLib l l') : view05Lib l = view05Lib l' := by
  have he : extOf l'.data = extOf l.data := by simp only [extOf, h.data kEXT (by simp [KO])]
  simp only [view05Lib, he, nameOf_of_sameOn KO kN_O _ _ h.data, identOf_of_sameOn KO kI_O _ _ h.data,
    all2_map_eq _ _ h.defs (fun _ _ => view05Cell_rel)]

theorem view05_rel {n n' : CNetlist} (h : RelNet n n') : view05 n = view05 n' := by
  simp only [view05, h.top, nameOf_of_sameOn KO kN_O _ _ h.data, identOf_of_sameOn KO kI_O _ _ h.data,
    all2_map_eq _ _ h.libs (fun _ _ => view05Lib_rel)]

end Spydr.Edif
