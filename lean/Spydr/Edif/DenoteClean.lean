/-
  The s-expression `render` emits for a well-formed abstract design is clean (plain words, strings
  without double quote / line break): `lex_layout` applies to its text.
-/
import Spydr.Edif.DenoteWF
import Spydr.Edif.LemmasClean
namespace Spydr.Edif

theorem cleanL_map {α : Type} (xs : List α) (f : α → SExp) (h : ∀ x ∈ xs, (f x).clean) : cleanL (xs.map f) :=
  cleanL_of_forall _ (by
    intro y hy
    obtain ⟨x, hx, rfl⟩ := List.mem_map.mp hy
    exact h x hx)

theorem AName.sexp_clean (a : AName) (h : a.okB = true) : a.sexp.clean := by
  have hc := a.okB_id h
  have hs := a.okB_str h
  obtain ⟨i, o⟩ := a
  cases o with
  | none => exact clean_ident i hc
  | some o =>
    simp only [AName.name] at hs
    exact clean_node ⟨clean_ident i hc, clean_qtok o hs, trivial⟩

theorem AProp.sexp_clean (p : AProp) (h : p.okB = true) : p.sexp.clean := by
  simp only [AProp.okB, Bool.and_eq_true] at h
  refine clean_node ⟨p.name.sexp_clean h.1, ?_, trivial⟩
  obtain ⟨nm, v⟩ := p
  cases v with
  | str s => exact clean_node ⟨clean_qtok s (by simpa using h.2), trivial⟩
  | int i => exact clean_node ⟨clean_intStr i, trivial⟩
  | bool b => cases b <;> exact clean_node ⟨cleanB_sound _ (by decide +kernel), trivial⟩

theorem dirSexp_clean (d : Dir) : cleanL (dirSexp d) :=
  cleanLB_sound _ (by cases d <;> decide +kernel)

theorem APort.sexp_clean (p : APort) (h : p.name.okB = true) : p.sexp.clean := by
  obtain ⟨nm, dir, arr⟩ := p
  cases arr with
  | none => exact clean_node ⟨nm.sexp_clean h, dirSexp_clean dir⟩
  | some k =>
    exact clean_node
      ⟨clean_node ⟨nm.sexp_clean h, clean_natStr k, trivial⟩, dirSexp_clean dir⟩

theorem AInst.sexp_clean (i : AInst) (hn : i.name.okB = true) (h1 : checkEdifIdentifier i.viewSp = true)
    (h2 : checkEdifIdentifier i.cellSp = true) (h3 : checkEdifIdentifier i.libSp = true)
    (hp : ∀ p ∈ i.props, p.okB = true) : i.sexp.clean := by
  have hcr : i.cellRefSexp.clean := by
    unfold AInst.cellRefSexp
    cases i.libOmit with
    | false =>
      exact clean_node
        ⟨clean_ident _ h2, clean_node ⟨clean_ident _ h3, trivial⟩, trivial⟩
    | true => exact clean_node ⟨clean_ident _ h2, trivial⟩
  exact clean_node ⟨i.name.sexp_clean hn,
    clean_node ⟨clean_ident _ h1, hcr, trivial⟩,
    cleanL_map _ _ (fun p hpm => p.sexp_clean (hp p hpm))⟩

def APin.SpOK : APin → Prop
  | .port _ _ sp => checkEdifIdentifier sp = true
  | .inst _ _ _ sp isp => checkEdifIdentifier sp = true ∧ checkEdifIdentifier isp = true

theorem APin.spOK_of_okB (d : ADesign) (c : ACell) (pin : APin) (h : pin.okB d c = true) : pin.SpOK := by
  cases pin with
  | port pi b sp =>
    obtain ⟨_, _, hsp, _⟩ := APin.okB_port h
    exact spellsB_id _ _ hsp
  | inst ii pi b sp isp =>
    obtain ⟨_, _, _, _, _, hisp, _, _, _, hsp, _⟩ := APin.okB_inst h
    exact ⟨spellsB_id _ _ hsp, spellsB_id _ _ hisp⟩

theorem APin.sexp_clean (pin : APin) (h : pin.SpOK) : pin.sexp.clean := by
  have hmem : ∀ sp k, checkEdifIdentifier sp = true → (SExp.list [A "member", .atom sp, .atom (natStr k)]).clean :=
    fun sp k hsp => clean_node ⟨clean_ident _ hsp, clean_natStr k, trivial⟩
  have hiref : ∀ isp, checkEdifIdentifier isp = true → (SExp.list [A "instanceref", .atom isp]).clean :=
    fun isp hisp => clean_node ⟨clean_ident _ hisp, trivial⟩
  cases pin with
  | port pi b sp =>
    cases b with
    | none => exact clean_node ⟨clean_ident _ h, trivial⟩
    | some k => exact clean_node ⟨hmem sp k h, trivial⟩
  | inst ii pi b sp isp =>
    cases b with
    | none => exact clean_node ⟨clean_ident _ h.1, hiref isp h.2, trivial⟩
    | some k => exact clean_node ⟨hmem sp k h.1, hiref isp h.2, trivial⟩

theorem ANetKind.sexp_clean (k : ANetKind) (h : k.okB = true) : k.sexp.clean := by
  cases k with
  | scalar a => exact a.sexp_clean (ANetKind.okB_scalar h).1
  | bit bi bn i j =>
    obtain ⟨_, _, hs, _, _, hj⟩ := ANetKind.okB_bit h
    exact clean_node ⟨clean_ident _ hj, clean_qtok _ hs, trivial⟩

theorem ANet.sexp_clean (n : ANet) (hk : n.kind.okB = true) (hp : ∀ pin ∈ n.pins, pin.SpOK) : n.sexp.clean :=
  clean_node ⟨n.kind.sexp_clean hk,
    clean_node (cleanL_map _ _ (fun pin hpm => pin.sexp_clean (hp pin hpm))), trivial⟩

theorem ACell.sexp_clean (d : ADesign) (L D : Nat) (c : ACell) (hn : c.name.okB = true) (h : CellParts d L D c) :
    c.sexp.clean := by
  have hcont : cleanL c.contentsSexp → c.sexp.clean := fun hcs =>
    clean_node ⟨c.name.sexp_clean hn, cleanB_sound _ (by decide +kernel),
      clean_node ⟨clean_ident _ h.view, cleanB_sound _ (by decide +kernel),
        clean_node (cleanL_map _ _ (fun p hp =>
          p.sexp_clean (namesOKB_ok _ h.portNames _ (List.mem_map_of_mem hp)))),
        hcs⟩, trivial⟩
  apply hcont
  unfold ACell.contentsSexp
  split
  · trivial
  show cleanL [SExp.list (A "contents" :: (c.insts.map AInst.sexp ++ c.nets.map ANet.sexp))]
  refine ⟨clean_node (cleanL_append _ _ (cleanL_map _ _ ?_) (cleanL_map _ _ ?_)), trivial⟩
  · intro i hi
    have hin := namesOKB_ok _ h.instNames _ (List.mem_map_of_mem hi)
    obtain ⟨_, ⟨_, _, _, _, h1, h2, h3⟩, hps, _⟩ := AInst.okB_inv (h.insts i hi)
    exact i.sexp_clean hin (spellsB_id _ _ h3) (spellsB_id _ _ h1) (spellsB_id _ _ h2) hps
  · intro n hn'
    exact n.sexp_clean (kind_okB_of_nets _ h.nets n hn') (fun pin hp => pin.spOK_of_okB d c (h.pins n hn' pin hp))

theorem ALib.sexp_clean (d : ADesign) (hw : WFParts d) (L : Nat) (l : ALib) (hl : d.libs[L]? = some l) :
    l.sexp.clean := by
  have hlok := hw.libs L l hl
  have hln : l.name.okB = true := namesOKB_ok _ hw.libNames _ (List.mem_map_of_mem (List.mem_of_getElem? hl))
  have hkw : (A (if l.external then "external" else "library")).cleanB = true := by
    cases l.external <;> decide +kernel
  unfold ALib.sexp
  refine clean_node ⟨l.name.sexp_clean hln, cleanB_sound _ (by decide +kernel), cleanB_sound _ (by decide +kernel),
    cleanL_map _ _ ?_⟩ hkw
  intro c hc
  obtain ⟨D, hD, rfl⟩ := List.getElem_of_mem hc
  exact ACell.sexp_clean d L D _ (namesOKB_ok _ (lib_cellNames d L l hlok) _ (List.mem_map_of_mem hc))
    (hw.cell hl (List.getElem?_eq_getElem hD))

theorem render_clean (d : ADesign) (h : d.wf = true) : (render d).clean := by
  have hw := wfParts d h
  obtain ⟨l, c, _, _, hcs, hls⟩ := hw.target
  refine clean_node ⟨d.name.sexp_clean hw.name, cleanB_sound _ (by decide +kernel),
    cleanB_sound _ (by decide +kernel), cleanB_sound _ (by decide +kernel),
    cleanL_append _ _ (cleanL_map _ _ ?_) ⟨clean_node ⟨d.top.sexp_clean hw.top,
      clean_node ⟨clean_ident _ (spellsB_id _ _ hcs),
        clean_node ⟨clean_ident _ (spellsB_id _ _ hls), trivial⟩, trivial⟩, trivial⟩, trivial⟩⟩
  intro l' hl'
  obtain ⟨L, hL, rfl⟩ := List.getElem_of_mem hl'
  exact ALib.sexp_clean d hw L _ (List.getElem?_eq_getElem hL)

end Spydr.Edif
