/-
  C05 — the EDIF reader builds exactly the design the file describes.
  Only the property theorems and their non-vacuity examples; proofs are in ../Lemmas*.lean,
  definitions in ../Model*.lean.
-/
import Spydr.Edif.LemmasLex
import Spydr.Edif.LemmasBits
import Spydr.Edif.LemmasPins
import Spydr.Edif.LemmasNets
import Spydr.Edif.LemmasNet
namespace Spydr.Edif.C05
open Spydr.Edif

/-- Reading the tokens of any expression followed by any further tokens returns exactly that
    expression and leaves the rest untouched (so the streaming reader and the tree model see the
    same structure on balanced input; what follows `(edif …)` is never looked at). -/
theorem readS_flatten (e : SExp) (r : List Tok) : readS (flattenS e ++ r) = some (e, r) :=
  Spydr.Edif.readS_flatten e r

example : (match readS (lexE "(edif n (net (rename a_3_ \"a[3]\") (joined)))) trailing".toList) with
    | some (e, rest) => e.beq (.list [.atom "edif".toList, .atom "n".toList,
        .list [.atom "net".toList, .list [.atom "rename".toList, .atom "a_3_".toList, .atom "\"a[3]\"".toList],
          .list [.atom "joined".toList]]]) && rest == [Tok.rp, Tok.atom "trailing".toList]
    | none => false) = true := by decide +kernel

/-- **multibit_merge** — C05's central sentence.  Any cable (base index, wires); any sub-list of
    its bit nets; any order of them: folding multibit_add_cable's merge step yields ONE bus in
    which every bit present sits at position `index − lower` with exactly its pins, every other
    position is empty, the lower index is the least index present and the last wire the greatest. -/
theorem multibit_merge {P : Type} (base : Nat) (ws : List (List P)) (sub bits : List (Nat × List P))
    (hsub : sub.Sublist (bitNetsOf base ws)) (hperm : bits.Perm sub) (hne : bits ≠ []) :
    ∃ c, foldBits bits = some c ∧
      (∀ b ∈ sub, c.lo ≤ b.1 ∧ b.1 < c.lo + c.ws.length ∧ c.ws.getD (b.1 - c.lo) [] = b.2) ∧
      (∀ j, j < c.ws.length → (∀ b ∈ sub, b.1 ≠ c.lo + j) → c.ws.getD j [] = []) ∧
      (∃ b ∈ sub, b.1 = c.lo) ∧ (∃ b ∈ sub, b.1 + 1 = c.lo + c.ws.length) :=
  multibit_merge_perm base ws sub bits hsub hperm hne

/-- the same for an arbitrary list of bit nets with pairwise distinct indices -/
theorem multibit_merge_general {P : Type} (bits : List (Nat × List P)) (hne : bits ≠ [])
    (hnd : (bits.map (·.1)).Nodup) :
    ∃ c, foldBits bits = some c ∧ c.ws ≠ [] ∧
      (∀ k, c.bit k = pinsAt bits k) ∧
      (∀ j, j < c.ws.length → c.ws.getD j [] = pinsAt bits (c.lo + j)) ∧
      c.lo ∈ bits.map (·.1) ∧ (∀ i ∈ bits.map (·.1), c.lo ≤ i ∧ i < c.lo + c.ws.length) ∧
      (∃ i ∈ bits.map (·.1), c.lo + c.ws.length = i + 1) :=
  Spydr.Edif.multibit_merge bits hne hnd

/-- the merge step the theorem folds is the one inside `multibitAdd`, the model of `multibit_add_cable` -/
theorem mergeInto_is_mergeBus (ex : CCable) (i : Nat) (ps : List CPin) :
    (mergeInto ex i ps).lower = (mergeBus ⟨ex.lower, ex.wires⟩ i ps).lo ∧
    (mergeInto ex i ps).wires = (mergeBus ⟨ex.lower, ex.wires⟩ i ps).ws ∧
    (mergeInto ex i ps).data = ex.data ∧ (mergeInto ex i ps).scalarFlag = ex.scalarFlag :=
  mergeInto_eq ex i ps

/-- non-vacuity: a four-bit bus based at 4 arriving as bits 6, 4, 7 (bit 5 missing) -/
example : (foldBits [(6, [CPin.port 0 2]), (4, [CPin.port 0 0]), (7, [CPin.port 0 3])]).map
    (fun c => (c.lo, c.ws)) = some (4, [[CPin.port 0 0], [], [CPin.port 0 2], [CPin.port 0 3]]) := by decide

example : [(6, [CPin.port 0 2]), (4, [CPin.port 0 0]), (7, [CPin.port 0 3])].Perm
    [(4, [CPin.port 0 0]), (6, [CPin.port 0 2]), (7, [CPin.port 0 3])] ∧
    [(4, [CPin.port 0 0]), (6, [CPin.port 0 2]), (7, [CPin.port 0 3])].Sublist
      (bitNetsOf 4 [[CPin.port 0 0], [CPin.port 0 1], [CPin.port 0 2], [CPin.port 0 3]]) := by
  constructor
  · decide
  · decide

/-- **name_index_roundtrip** (reader side of the bit-net naming): -/
theorem name_index_ident (ident : Str) (i : Nat) : sepIdent (bitIdent ident i) = (some i, ident) :=
  sepIdent_bitIdent ident i

theorem name_index_name (name : Str) (i : Nat) (c : Char) (r : Str) (hn : name = c :: r) (hc : c ≠ '\\') :
    sepName (bitName name i) = (some i, name) :=
  sepName_bitName name i (bracketAllowed_of_head name i c r hn hc)

example : sepIdent "&_x_12_".toList = (some 12, "&_x".toList) ∧ sepName "_x[12]".toList = (some 12, "_x".toList) ∧
    sepName "q[".toList = (none, "q[".toList) ∧ sepIdent "a_sdn_1_".toList = (some 1, "a_sdn".toList) := by decide

/-- **member_index**: `(portRef (member P k))` ↔ pin `k` of the port that `P` resolves to -/
theorem member_index (cx : DefCtx) (P : Str) (k pi : Nat) (p : CPort)
    (hid : validIdentTok P = true)
    (hf : findIdent (cx.ports.map (·.data)) P = some pi) (hp : cx.ports[pi]? = some p) (hk : k < p.width) :
    parsePortRef cx [A "portref", .list [A "member", .atom P, .atom (natStr k)]] = .ok (.port pi k) :=
  member_index_port cx P k pi p hid hf hp hk

/-- … and with an instanceRef: pin `k` of port `P` of the cell instance `I` references -/
theorem member_index_instance (cx : DefCtx) (P I : Str) (k pi ii li di : Nat) (inst : CInst) (d : CDef) (p : CPort)
    (hP : validIdentTok P = true) (hI : validIdentTok I = true)
    (hfi : findIdent (cx.insts.map (·.data)) I = some ii) (hi : cx.insts[ii]? = some inst)
    (hr : inst.ref = some (li, di)) (hd : (defsOfLib cx.sc li)[di]? = some d)
    (hf : findIdent (d.ports.map (·.data)) P = some pi) (hp : d.ports[pi]? = some p) (hk : k < p.width) :
    parsePortRef cx [A "portref", .list [A "member", .atom P, .atom (natStr k)], .list [A "instanceref", .atom I]]
      = .ok (.inst ii pi k) :=
  member_index_inst cx P I k pi ii li di inst d p hP hI hfi hi hr hd hf hp hk

/-- **resolve_ci**: resolution by EDIF identifier is a case-insensitive lookup — total on declared
    names (any spelling of a declared identifier finds its first carrier) … -/
theorem resolve_ci_declared (sibs : List Data) (i : Nat) (a spelling : Str) (hi : i < sibs.length)
    (ha : identOf sibs[i] = some a) (hs : lower spelling = lower a)
    (hfirst : ∀ j, (hj : j < i) → ∀ b, identOf (sibs[j]'(by omega)) = some b → lower b ≠ lower a) :
    findIdent sibs spelling = some i :=
  findIdent_declared sibs i a spelling hi ha hs hfirst

/-- … nothing is found for an undeclared identifier (all callers — cellRef, libraryRef, portRef,
    instanceRef, design — then reject with `Err.assert`) … -/
theorem resolve_ci_undeclared (sibs : List Data) (spelling : Str)
    (h : ∀ s ∈ sibs, ∀ b, identOf s = some b → lower b ≠ lower spelling) :
    findIdent sibs spelling = none :=
  findIdent_undeclared sibs spelling h

/-- … and whatever is found carries the identifier asked for, ignoring case. -/
theorem resolve_ci_sound (sibs : List Data) (spelling : Str) (i : Nat) (h : findIdent sibs spelling = some i) :
    ∃ (hi : i < sibs.length) (b : Str), identOf sibs[i] = some b ∧ lower b = lower spelling :=
  findIdent_sound sibs spelling i h

example : findIdent [[(kIDENT, .str "Work".toList)], [(kIDENT, .str "LIB2".toList)]] "lib2".toList = some 1 ∧
    findIdent [[(kIDENT, .str "Work".toList)]] "other".toList = none := by decide

/-- the `design` construct selects the top cell: `(design name (cellRef C (libraryRef L)))`, `C`/`L` any
    spellings that resolve (case-insensitively) to cell `di` of library `li`, yields a top instance
    carrying both identifier and original name and referencing exactly that cell (as repaired) -/
theorem design_selects_top (rlibs : List CLib) (tdata : Data) (ident name did lid : Str) (li di : Nat) (l' : CLib)
    (hn : NamedOK tdata ident name) (hvd : validIdentTok did = true) (hvl : validIdentTok lid = true)
    (hfl : findIdent (rlibs.map (·.data)) lid = some li) (hl : rlibs[li]? = some l')
    (hfd : findIdent (l'.defs.map (·.data)) did = some di) :
    ∃ nm, nameSExp tdata "top instance" = .ok nm ∧
      parseDesign rlibs [A "design", nm, .list [A "cellref", .atom did, .list [A "libraryref", .atom lid]]] =
        .ok (readTop ident name li di) :=
  design_roundtrip rlibs tdata ident name did lid li di l' hn hvd hvl hfl hl hfd

/-- cellRef / libraryRef / viewRef of an instance, in any spelling that resolves, select cell `(li, di)` -/
theorem viewRef_resolves (sc : Scope) (D : Data) (did lid : Str) (li di : Nat) (d' : CDef) (dv : Str)
    (hvd : validIdentTok did = true) (hvl : validIdentTok lid = true) (hres : LibResolves sc lid li)
    (hf : findIdent ((defsOfLib sc li).map (·.data)) did = some di)
    (hd : (defsOfLib sc li)[di]? = some d') (hview : viewIdentOf d'.data = some dv) (hdv : lower dv = S "netlist") :
    parseViewRef sc { data := D, pfx := [S "EDIF"] }
      [A "viewref", A "netlist", .list [A "cellref", .atom did, .list [A "libraryref", .atom lid]]] = .ok (li, di) :=
  parseViewRef_ok sc D did lid li di d' dv hvd hvl hres hf hd hview hdv

/-- renamed objects carry both identifier and original name: `(rename id "orig")` on a fresh element -/
theorem rename_carries_both (d0 : Data) (ident name : Str) (hc : checkEdifIdentifier ident = true)
    (hs : name.all isStringChar = true) (hd0 : d0.has kNAME = false) :
    ∃ m, parseRename { data := d0, pfx := [S "EDIF"] } [A "rename", .atom ident, qtok name] = .ok m ∧
      nameOf m.data = some name ∧ identOf m.data = some ident :=
  ⟨_, parseRename_ok d0 ident name hc hs hd0, nameOf_withName _ _ _, identOf_withName _ _ _⟩

/-!
### edif_reader_spec

Full statement (C05, stretch goal of DESIGN §6):

    theorem edif_reader_spec (d : ADesign) (h : d.wf = true) :
        ∃ n, readEdif (renderText d) = .ok n ∧ view05 n = denote d

It is PROVED for a fragment in `Props/C05Denote.lean` (definitions in `Abstract.lean`): libraries,
cells, ports (direction, array size, rename), instances whose viewRef / cellRef / libraryRef are
spelled in any letter case with typed properties, scalar nets and bus-bit nets in any order with any
bits missing, pin references in any letter case, the design construct.  `Props/C05Kw.lean` adds
keywords in any letter case, `Props/C05Erase.lean` comments, status blocks and properties on objects
other than instances.  Outside (covered by the correspondence check and by P on the implementation):
several views per cell, instances after nets, repeated bit nets.

The theorems of this file are the construct-level statements it is assembled from: the NET part on the
reader's own `multibit_add_cable` (`nets_any_order`), references construct by construct
(`member_index`, `member_index_instance`, `resolve_ci_*`), tokens (`readS_flatten`, C03.`lex_layout`).
-/

/-- **edif_reader_spec_partial / nets_any_order** — for every well-formed list of nets of a cell
    (scalar nets and bit nets `name[i]`/`id_i_` of any number of buses, interleaved in any order,
    any bits missing) the reader's net loop (`parse_net` results fed to `multibit_add_cable`) succeeds
    and every bus whose bit indices are pairwise distinct ends up as ONE cable with bit `k` at
    position `k − lower` carrying exactly the pins the text gives for index `k`, gaps empty. -/
theorem edif_reader_spec_partial (items : List NetItem) (hwf : NetsWF items) :
    ∃ cs, items.foldlM (fun cs it => multibitAdd cs it.data it.pins) [] = .ok cs ∧
      ∀ it ∈ items, ∀ i, it.idx = some i → ((bitsOf it.name items).map (·.1)).Nodup →
        ∃ c, busOf it.name cs = some c ∧ c.ws ≠ [] ∧
          (∀ k, c.bit k = pinsAt (bitsOf it.name items) k) ∧
          (∀ j, j < c.ws.length → c.ws.getD j [] = pinsAt (bitsOf it.name items) (c.lo + j)) ∧
          c.lo ∈ (bitsOf it.name items).map (·.1) ∧
          (∀ x ∈ (bitsOf it.name items).map (·.1), c.lo ≤ x ∧ x < c.lo + c.ws.length) ∧
          (∃ x ∈ (bitsOf it.name items).map (·.1), c.lo + c.ws.length = x + 1) :=
  nets_any_order items hwf

/-- … every SCALAR net of the list survives as the one-wire cable of its name with exactly its pins,
    wherever it stands among the bit nets … -/
theorem edif_reader_spec_scalars (items : List NetItem) (hwf : NetsWF items) (it : NetItem) (hit : it ∈ items)
    (hidx : it.idx = none) : busOf it.name (items.foldl netStep []) = some ⟨0, [it.pins]⟩ :=
  scalar_survives items hwf it hit hidx

/-- … and there is exactly one cable per declared (cable-level) name: the resulting names are pairwise
    different and are exactly the names the nets declare (so the number of cables is the number of
    distinct names).  `items.foldl netStep []` is the value the reader's loop returns
    (`reader_loop_is_netStep`). -/
theorem edif_reader_spec_names (items : List NetItem) (hwf : NetsWF items) :
    (cableNames (items.foldl netStep [])).Nodup ∧
    (∀ x ∈ items, some x.name ∈ cableNames (items.foldl netStep [])) ∧
    (∀ o ∈ cableNames (items.foldl netStep []), ∃ x ∈ items, o = some x.name) :=
  one_cable_per_name items hwf

theorem reader_loop_is_netStep (items : List NetItem) (hwf : NetsWF items) :
    items.foldlM (fun cs it => multibitAdd cs it.data it.pins) [] = .ok (items.foldl netStep []) :=
  foldlM_multibitAdd items hwf [] items [] rfl (by intro c hc; cases hc)

/-!
Scope of `NetsWF` (and so of the three theorems above): nets with the same cable-level name are bits
of one bus with one identifier stem, different names have identifiers that differ ignoring case, a
scalar net is declared once and is not named like a bus bit.  Outside it — a scalar net carrying the
name of a bus assembled from bit nets, two buses sharing an identifier stem (`foo_0_ "x[0]"`,
`foo_1_ "y[1]"`), a net declared twice under one name — the reader's result depends on the order of
the nets (findings `edif.reader.scalar_net_shorted_to_bus`, `edif.reader.bus_identity_by_identifier_stem`)
and the model's `multibitAdd` answers `Err.unsupported` on the ValueError fallback.
`multibit_merge` states positions with `getD … []` together with `lower ≤ index < lower + length`.
-/

/-- non-vacuity: bus `a` arrives as bits 2, 0, 3 (bit 1 missing), interleaved with a scalar net `clk`
    and a bit of another bus; the reader's loop yields cable `a` based at 0 with four wires -/
def exItems : List NetItem :=
  [⟨"a".toList, "a".toList, some 2, [.port 0 2], 2⟩, ⟨"clk".toList, "clk".toList, none, [.port 1 0], 0⟩,
   ⟨"a".toList, "a".toList, some 0, [.port 0 0], 9⟩, ⟨"&_b".toList, "_b".toList, some 5, [], 5⟩,
   ⟨"a".toList, "a".toList, some 3, [.port 0 3], 3⟩]

example : (match exItems.foldlM (fun cs it => multibitAdd cs it.data it.pins) [] with
    | .ok cs => (busOf "a".toList cs).map (fun c => (c.lo, c.ws)) ==
        some (0, [[CPin.port 0 0], [], [CPin.port 0 2], [CPin.port 0 3]]) && cs.length == 3
    | .error _ => false) = true := by decide +kernel

example : NetsWF exItems := by
  refine ⟨?_, by decide +kernel, by decide +kernel, by decide⟩
  intro it hit
  simp only [exItems, List.mem_cons, List.not_mem_nil, or_false] at hit
  rcases hit with rfl | rfl | rfl | rfl | rfl <;> refine ⟨by decide, by decide, by decide +kernel⟩

end Spydr.Edif.C05
