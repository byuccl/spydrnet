/-
  C05 — `edif_reader_spec` for a fragment: the reader applied to the text of an abstract design
  builds exactly the design the text describes.  Only the property theorems and a non-vacuity example;
  definitions (`ADesign`, `render`, `denote`, `view05`, `wf`) are in ../Abstract.lean, proofs in
  ../Denote*.lean.
-/
import Spydr.Edif.DenoteView
import Spydr.Edif.DenoteClean
namespace Spydr.Edif.C05
open Spydr.Edif

/-- **edif_reader_spec** (fragment, from characters): for every abstract design satisfying the decidable
    well-formedness predicate `wf` — libraries, cells with ports (direction, array size, rename),
    instances whose viewRef / cellRef / libraryRef are spelled in ANY letter case and carry typed
    properties, scalar nets and bus-bit nets in ANY order with any bits missing, pin references
    `(portRef p)`, `(portRef (member p k))`, with or without `(instanceRef i)`, spelled in any letter
    case, a design construct selecting the top cell — the model reader (tokenizer `lexE`, s-expression
    reader `readS`, `ofSExp`) accepts the text `renderText d` and the netlist it builds has exactly
    the view the design denotes: every library, cell, port (name, identifier, direction, width,
    array-ness), instance (name, identifier, referenced (library, cell), property dictionaries), cable
    (name, identifier, array-ness, base index, every wire's pins in order; one cable per bus, bit `k`
    at `k − lower`, gaps unconnected, in order of first occurrence) and the top instance. -/
theorem edif_reader_spec (d : ADesign) (h : d.wf = true) :
    ∃ n, readEdif (renderText d) = .ok n ∧ view05 n = denote d := by
  refine ⟨d.elab, ?_, view05_elab d h⟩
  exact (readEdif_layout (render d) (render_clean d h)).trans (ofSExp_render d (design_ok d h))

/-- the same on the s-expression, with the netlist in closed form (`ADesign.elab`: every dictionary) -/
theorem edif_reader_spec_closed_form (d : ADesign) (h : d.wf = true) :
    ofSExp (render d) = .ok d.elab ∧ view05 d.elab = denote d :=
  ⟨ofSExp_render d (design_ok d h), view05_elab d h⟩

/-- what `wf` is used for, made explicit: the statement under the per-cell resolution hypotheses
    `ADesign.OK` (every reference of every cell resolves, in the scope the reader has when it reaches
    the cell, to the position the abstract design names) -/
theorem edif_reader_spec_of_resolution (d : ADesign) (h : d.OK) : ofSExp (render d) = .ok d.elab :=
  ofSExp_render d h

theorem wf_resolves (d : ADesign) (h : d.wf = true) : d.OK := design_ok d h

/-- **edif_reader_spec_contents** — `edif_reader_spec_partial` stated on the reader's contents loop, pins
    going through `parse_portRef`: for any cell state `st` without cables (its ports and instances are
    what the pin references are resolved against) and any well-formed list of `(net …)` constructs
    whose pin references resolve in that state, the loop `contentsItem` over the rendered nets — each
    one through `parse_net`, every `(portRef …)` through `parse_portRef`, `multibit_add_cable` for the
    result — succeeds, consumes everything, touches nothing but the cables, and ends with exactly the
    cables the text declares (`cablesDen`): one per cable name in order of first occurrence, a scalar
    net as a one-wire cable at 0, the bit nets of a bus — in any order, anything in between, any bits
    missing — as one array cable based at the least index with bit `k` at `k − lower`. -/
theorem edif_reader_spec_contents (sc : Scope) (st : CellSt) (nets : List ANet) (hst : st.cables = [])
    (hnets : netsOKB nets = true)
    (hp : ∀ n ∈ nets, ∀ pin ∈ n.pins, pin.Resolves { sc := sc, ports := st.ports, insts := st.insts }) :
    ∃ cs, loopC (contentsItem sc) st (nets.map ANet.sexp) = .ok ({ st with cables := cs }, []) ∧
      cs.map view05Cable = cablesDen nets := by
  obtain ⟨yss, hy, hf⟩ := foldlM_contents_ANets_ok sc nets st hst hnets hp
  refine ⟨(nets.map ANet.item).foldl netStep [], ?_, cables_view nets hnets⟩
  rw [hy, loopC_lists_nil, hf]
  rfl

theorem portRef_resolves (cx : DefCtx) (pin : APin) (h : pin.Resolves cx) :
    ∃ r, pin.sexp = .list (A "portref" :: r) ∧ parsePortRef cx (A "portref" :: r) = .ok pin.pin :=
  parsePortRef_APin cx pin h

/-! ### non-vacuity: a design with two libraries, a leaf cell with an array port, a renamed scalar port,
    a top cell instantiating the leaf twice through references in other letter cases, a bus whose
    bits come out of order around a scalar net with a missing bit, typed properties, a renamed top -/
namespace Example

def S' (s : String) : Str := s.toList

def leaf : ACell :=
  { name := ⟨S' "BUF", none⟩, view := S' "netlist",
    ports := [⟨⟨S' "i", none⟩, .inp, none⟩, ⟨⟨S' "o_2_", some (S' "o[2]")⟩, .out, none⟩, ⟨⟨S' "d", none⟩, .inout, some 2⟩] }

def top : ACell :=
  { name := ⟨S' "top", some (S' "Top Cell")⟩, view := S' "netlist",
    ports := [⟨⟨S' "a", none⟩, .inp, some 3⟩, ⟨⟨S' "y", none⟩, .out, none⟩],
    insts := [⟨⟨S' "u1", none⟩, 0, 0, S' "NETLIST", S' "buf", S' "PRIMS",
                [⟨⟨S' "INIT", none⟩, .str (S' "8'h00")⟩, ⟨⟨S' "w", some (S' "W x")⟩, .int (-3)⟩], false⟩,
              ⟨⟨S' "u2", some (S' "u[2]")⟩, 0, 0, S' "netlist", S' "Buf", S' "prims", [⟨⟨S' "keep", none⟩, .bool true⟩], false⟩],
    nets := [⟨.bit (S' "n") (S' "n") 3 3, [.port 0 (some 2) (S' "A"), .inst 0 2 (some 1) (S' "D") (S' "U1")]⟩,
             ⟨.scalar ⟨S' "s", some (S' "s net")⟩, [.port 1 none (S' "Y"), .inst 1 1 none (S' "O_2_") (S' "U2")]⟩,
             ⟨.bit (S' "n") (S' "n") 1 7, [.port 0 (some 0) (S' "a"), .inst 0 0 none (S' "I") (S' "u1")]⟩,
             ⟨.bit (S' "m") (S' "m") 0 0, [.inst 1 0 none (S' "i") (S' "u2")]⟩] }

/-- a second cell of library `work`: instantiates `top` of the same library without `(libraryRef …)` -/
def top2 : ACell :=
  { name := ⟨S' "wrap", none⟩, view := S' "netlist",
    insts := [⟨⟨S' "t", none⟩, 1, 0, S' "netlist", S' "TOP", S' "work", [], true⟩] }

def exD : ADesign :=
  { name := ⟨S' "demo", none⟩,
    libs := [⟨⟨S' "prims", none⟩, [leaf], true⟩, ⟨⟨S' "work", some (S' "work lib")⟩, [top, top2], false⟩],
    top := ⟨S' "top_i", some (S' "the top")⟩, topLi := 1, topDi := 0, topCellSp := S' "TOP", topLibSp := S' "Work" }

theorem exD_wf : exD.wf = true := by decide +kernel

/-- the reader accepts the text of the example and builds what it denotes -/
example : ∃ n, readEdif (renderText exD) = .ok n ∧ view05 n = denote exD := edif_reader_spec exD exD_wf

/-- what it denotes for bus `n`: bits 1 and 3 declared (3 first), so one array cable based at 1 of
    three wires, the middle one unconnected; it is the first cable of the cell -/
example : ((denote exD).libs.getD 1 ⟨none, none, [], false⟩).cells.head?.map (fun c => c.cables.head?) =
    some (some ⟨some (S' "n"), some (S' "n"), true, 1,
      [[.port 0 0, .inst 0 0 0], [], [.port 0 2, .inst 0 2 1]]⟩) := by rfl

end Example

end Spydr.Edif.C05
