/-
  C05 — the ERASURE theorem: comments, status blocks and the properties of everything but instances are
  invisible in the view C05 speaks about (`view05`).

  `strip e` removes from the s-expression of a file
    * every `(comment …)` item of the file, of a library, a cell, a view, an interface, a contents block,
      a port, an instance, a net;
    * every `(status …)` block of the file, of a library, a cell, a view;
    * every `(property …)` of a cell, a view, an interface, a port, a net, and whatever follows the
      `cellRef` inside `(design …)` (the design's properties and comments — the reader skips them);
    * the `(owner …)` of an instance property (the reader checks it and stores nothing) and the original
      name of a renamed view (`(view (rename v "o") …)` → `(view v …)`: stored under a key nothing reads);
    * a `(contents …)` block holding nothing but comments;
  and it writes in one spelling what the reader reads in several and does not keep: `(cellType X)` → `(celltype GENERIC)`,
  `(viewType X)` → `(viewtype NETLIST)` (the keyword's spelling is stored under `EDIF.cellType` / `EDIF.view.viewType`, which
  `view05` does not show; the value is only checked), `(direction input)` → `(direction INPUT)`;
  it keeps the properties of instances (they are part of `view05`).

  DIRECTION PROVED: whatever the reader makes of `e`, it makes of `strip e` a netlist with the same
  view.  Acceptance of `e` is a hypothesis (a malformed comment or status block makes the reader reject
  a file whose stripped form it accepts; the converse direction would need a well-formedness predicate
  on the erased items and is not proved).

  What `view05` does not show (so the theorem is silent about it): the dictionary entries the erased
  constructs leave behind (`EDIF.comments`, `EDIF.status.…`, `EDIF.properties` of ports / cables / cells /
  libraries / the netlist, `EDIF.view.comments|properties|status.…`), `cellType`, `viewType`, `edifVersion`,
  `edifLevel`, `keywordMap`, `metadata_prefix`.
  No Mathlib.
-/
import Spydr.Edif.EraseFile
import Spydr.Edif.Props.C05Kw
import Spydr.Edif.Props.Fragment
import Spydr.Edif.Unrender
namespace Spydr.Edif.C05

/-- **edif_erasure** — for EVERY s-expression `e` the reader accepts, it accepts `strip e` too and the two
    netlists have the same view (names, identifiers, directions, widths, array flags, instance references
    and properties, cables with their wires and pins, view identifiers, the top instance). -/
theorem edif_erasure (e : SExp) (n : CNetlist) (h : ofSExp e = .ok n) :
    ∃ n', ofSExp (strip e) = .ok n' ∧ view05 n = view05 n' := by
  obtain ⟨n', h1, h2⟩ := ofSExp_strip e n h
  exact ⟨n', h1, view05_rel h2⟩

/-- … stated on the two netlists key by key: every dictionary agrees on the keys `view05` reads (`KO`: name,
    identifier, view identifier; `KI` for instances: those plus the property keys), every other field
    is equal -/
theorem edif_erasure_rel (e : SExp) (n : CNetlist) (h : ofSExp e = .ok n) :
    ∃ n', ofSExp (strip e) = .ok n' ∧ RelNet n n' := ofSExp_strip e n h

theorem edif_erasure_text (text : List Char) (n : CNetlist) (h : readEdif text = .ok n) :
    ∃ e r n', readS (lexE text) = some (e, r) ∧ ofSExp (strip e) = .ok n' ∧ view05 n = view05 n' := by
  obtain ⟨e, r, he, h⟩ := readEdif_ok h
  obtain ⟨n', h1, h2⟩ := edif_erasure e n h
  exact ⟨e, r, n', he, h1, h2⟩

/-- **edif_reader_spec_erased** — `edif_reader_spec` for files WITH comments, status blocks and erased
    properties, keywords in any letter case: if the reader accepts `e`, and `strip e` agrees with the
    rendering of a well-formed abstract design `d` up to the letter case of keywords, then the view of
    what the reader built is the denotation of `d`. -/
theorem edif_reader_spec_erased (d : ADesign) (hwf : d.wf = true) (e : SExp) (n : CNetlist)
    (hacc : ofSExp e = .ok n) (he : norm (strip e) = norm (render d)) : view05 n = denote d := by
  obtain ⟨n', h1, h2⟩ := edif_erasure e n hacc
  obtain ⟨h3, h4⟩ := edif_reader_spec_kwcase d hwf (strip e) he
  rw [h1] at h3
  cases h3
  exact h2.trans h4

theorem edif_reader_spec_erased_text (d : ADesign) (hwf : d.wf = true) (text : List Char) (n : CNetlist)
    (hacc : readEdif text = .ok n) (e : SExp) (r : List Tok) (hp : readS (lexE text) = some (e, r))
    (he : norm (strip e) = norm (render d)) : view05 n = denote d := by
  unfold readEdif at hacc
  rw [hp] at hacc
  exact edif_reader_spec_erased d hwf e n hacc he

/-- **the evidence counter is sound**: when the driver's check `insideClause e` answers `none` ("inside"), the reader
    accepts `e` and the view of what it builds is the denotation of an abstract design — whatever the untrusted
    `unrender` guessed, the check has established the hypotheses of `edif_reader_spec_erased` -/
theorem inside_check_sound (e : SExp) (h : Unr.insideClause e = none) :
    ∃ n d, ofSExp e = .ok n ∧ d.wf = true ∧ norm (strip e) = norm (render d) ∧ view05 n = denote d := by
  unfold Unr.insideClause at h
  split at h
  · cases h
  · rename_i n hn
    split at h
    · cases h
    · rename_i d hd
      split at h
      · cases h
      · rename_i hb
        split at h
        · cases h
        · rename_i hwf
          have he := Unr.beq_sound (norm (strip e)) (norm (render d)) (by simpa using hb)
          have hw := wfClause_sound d hwf
          exact ⟨n, d, hn, hw, he, edif_reader_spec_erased d hw e n hn he⟩

namespace ErasureExample

def isOk {α : Type} : R α → Bool
  | .ok _ => true
  | .error _ => false

abbrev L (xs : List SExp) : SExp := .list xs

/-- a file with a status block, comments and properties in every place `strip` visits (no net: the
    duplicate-pin check sorts with `mergeSort`, which the kernel does not evaluate):
```
    (edif demo (edifVersion 2 0 0) (edifLevel 0) (keywordMap (keywordLevel 0))
     (status (written (timeStamp 2020 1 1 0 0 0) (program "p" (version "1")) (comment "w")))
     (comment "top" "two")
     (library prims (edifLevel 0) (technology (numberDefinition))
      (status (written (timeStamp 1 2 3 4 5 6))) (comment "lib")
      (cell BUF (cellType GENERIC)
       (status (written (timeStamp 1 2 3 4 5 6))) (comment "cell") (property cp (integer 3) (owner "me"))
       (view (rename netlist "the view") (viewType NETLIST)
        (interface (port i (direction INPUT) (property pp (string "x")) (comment "port"))
         (comment "iface") (property ip (boolean (true))))
        (status (written (timeStamp 1 2 3 4 5 6))) (comment "view") (property vp (integer 1))
        (contents (comment "in contents")))))
     (library work (edifLevel 0) (technology (numberDefinition))
      (cell top (cellType GENERIC)
       (view netlist (viewType NETLIST)
        (interface (port a (direction input)))
        (contents (comment "before")
         (instance u1 (viewRef netlist (cellRef BUF (libraryRef prims)))
          (comment "inst") (property INIT (string "8'h00") (owner "o")))))))
     (design top_i (cellRef top (libraryRef work)) (property dp (string "d")) (comment "design")))
``` -/
def noisy : SExp :=
  L [A "edif",
    A "demo",
    L [A "edifVersion", A "2", A "0", A "0"],
    L [A "edifLevel", A "0"],
    L [A "keywordMap", L [A "keywordLevel", A "0"]],
    L [A "status",
      L [A "written",
        L [A "timeStamp", A "2020", A "1", A "1", A "0", A "0", A "0"],
        L [A "program", A "\"p\"", L [A "version", A "\"1\""]],
        L [A "comment", A "\"w\""]]],
    L [A "comment", A "\"top\"", A "\"two\""],
    L [A "library",
      A "prims",
      L [A "edifLevel", A "0"],
      L [A "technology", L [A "numberDefinition"]],
      L [A "status", L [A "written", L [A "timeStamp", A "1", A "2", A "3", A "4", A "5", A "6"]]],
      L [A "comment", A "\"lib\""],
      L [A "cell",
        A "BUF",
        L [A "cellType", A "GENERIC"],
        L [A "status", L [A "written", L [A "timeStamp", A "1", A "2", A "3", A "4", A "5", A "6"]]],
        L [A "comment", A "\"cell\""],
        L [A "property", A "cp", L [A "integer", A "3"], L [A "owner", A "\"me\""]],
        L [A "view",
          L [A "rename", A "netlist", A "\"the view\""],
          L [A "viewType", A "NETLIST"],
          L [A "interface",
            L [A "port",
              A "i",
              L [A "direction", A "INPUT"],
              L [A "property", A "pp", L [A "string", A "\"x\""]],
              L [A "comment", A "\"port\""]],
            L [A "comment", A "\"iface\""],
            L [A "property", A "ip", L [A "boolean", L [A "true"]]]],
          L [A "status", L [A "written", L [A "timeStamp", A "1", A "2", A "3", A "4", A "5", A "6"]]],
          L [A "comment", A "\"view\""],
          L [A "property", A "vp", L [A "integer", A "1"]],
          L [A "contents", L [A "comment", A "\"in contents\""]]]]],
    L [A "library",
      A "work",
      L [A "edifLevel", A "0"],
      L [A "technology", L [A "numberDefinition"]],
      L [A "cell",
        A "top",
        L [A "cellType", A "GENERIC"],
        L [A "view",
          A "netlist",
          L [A "viewType", A "NETLIST"],
          L [A "interface", L [A "port", A "a", L [A "direction", A "input"]]],
          L [A "contents",
            L [A "comment", A "\"before\""],
            L [A "instance",
              A "u1",
              L [A "viewRef", A "netlist", L [A "cellRef", A "BUF", L [A "libraryRef", A "prims"]]],
              L [A "comment", A "\"inst\""],
              L [A "property", A "INIT", L [A "string", A "\"8'h00\""], L [A "owner", A "\"o\""]]]]]]],
    L [A "design",
      A "top_i",
      L [A "cellRef", A "top", L [A "libraryRef", A "work"]],
      L [A "property", A "dp", L [A "string", A "\"d\""]],
      L [A "comment", A "\"design\""]]]

/-- the same file without them -/
def core : SExp :=
  L [A "edif",
    A "demo",
    L [A "edifVersion", A "2", A "0", A "0"],
    L [A "edifLevel", A "0"],
    L [A "keywordMap", L [A "keywordLevel", A "0"]],
    L [A "library",
      A "prims",
      L [A "edifLevel", A "0"],
      L [A "technology", L [A "numberDefinition"]],
      L [A "cell",
        A "BUF",
        L [A "celltype", A "GENERIC"],
        L [A "view",
          A "netlist",
          L [A "viewtype", A "NETLIST"],
          L [A "interface", L [A "port", A "i", L [A "direction", A "INPUT"]]]]]],
    L [A "library",
      A "work",
      L [A "edifLevel", A "0"],
      L [A "technology", L [A "numberDefinition"]],
      L [A "cell",
        A "top",
        L [A "celltype", A "GENERIC"],
        L [A "view",
          A "netlist",
          L [A "viewtype", A "NETLIST"],
          L [A "interface", L [A "port", A "a", L [A "direction", A "INPUT"]]],
          L [A "contents",
            L [A "instance",
              A "u1",
              L [A "viewRef", A "netlist", L [A "cellRef", A "BUF", L [A "libraryRef", A "prims"]]],
              L [A "property", A "INIT", L [A "string", A "\"8'h00\""]]]]]]],
    L [A "design", A "top_i", L [A "cellRef", A "top", L [A "libraryRef", A "work"]]]]

/-- non-vacuity: the reader accepts the noisy file … -/
theorem noisy_accepted : isOk (ofSExp noisy) = true := by decide +kernel

/-- … `strip` of it is the core file (and `strip` does remove something) … -/
theorem strip_noisy : strip noisy = core := by rfl

theorem noisy_ne_core : noisy.beq core = false := by decide +kernel

/-- … and the theorem applies: same view with and without the noise -/
example : ∀ n, ofSExp noisy = .ok n → ∃ n', ofSExp core = .ok n' ∧ view05 n = view05 n' :=
  fun n h => strip_noisy ▸ edif_erasure noisy n h

end ErasureExample

end Spydr.Edif.C05
