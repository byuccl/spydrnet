/-
  C03 ∧ C05 — `parse_compose_parse` for texts the WRITER DID NOT PRODUCE: every text of the C05 fragment
  (`renderText d`, `d` a well-formed abstract design: references in any letter case, bit nets in any
  order, renames) is accepted, what the reader returns is inside C03's quantifier, the composer's text
  for it is accepted again and the second reading has the same C03 view as the first.
-/
import Spydr.Edif.DenoteClosure
import Spydr.Edif.DenoteClean
import Spydr.Edif.Props.C03
import Spydr.Edif.Props.C05Denote
namespace Spydr.Edif.C03
open Spydr.Edif

/-- **reader_output_in_quantifier** — closure of the reader's image on the C05 fragment: the netlist the
    reader builds for the text of any well-formed abstract design satisfies `WFNet` (legal identifiers,
    names, distinct siblings ignoring case, references to preceding cells, pins in range and used once,
    scalar cables not named like a bus bit, every bit identifier of every bus legal — gaps included —,
    canonical property dictionaries) and its scalar cables are based at 0. -/
theorem reader_output_in_quantifier (d : ADesign) (h : d.wf = true) :
    ∃ pf, readEdif (renderText d) = .ok pf ∧
      WFNet pf none none (readTop d.top.ident d.top.name d.topLi d.topDi) d.topLi d.topDi ∧ ScalarLower0 pf := by
  exact ⟨d.elab, (readEdif_layout (render d) (render_clean d h)).trans (ofSExp_render d (design_ok d h)),
    wfNet_elab d h, scalarLower0_elab d h⟩

/-- **parse_compose_parse_accepted** — `parse(compose(parse f))` has the same C03 view as `parse f` for
    every text `f` of the C05 fragment (not only for `f = compose(n)`): `f` is accepted, `compose(parse f)`
    succeeds and is accepted, and libraries, cells, ports, instances with their references and
    properties, nets with width, base index and every wire's pins, the top design and all original
    names are the same in both readings — whatever the time stamp of the write. -/
theorem parse_compose_parse_accepted (d : ADesign) (h : d.wf = true) (y mo dd hh mi s : Nat) :
    ∃ pf, readEdif (renderText d) = .ok pf ∧
      ∃ f' pcpf, composeE [y, mo, dd, hh, mi, s] pf = .ok f' ∧ readEdif f' = .ok pcpf ∧ view03 pcpf = view03 pf := by
  obtain ⟨pf, hr, hwf, h0⟩ := reader_output_in_quantifier d h
  obtain ⟨f', pcpf, hc, hr', hv⟩ := edif_roundtrip_text pf none none _ d.topLi d.topDi y mo dd hh mi s hwf h0
  exact ⟨pf, hr, f', pcpf, hc, hr', hv⟩

/-- non-vacuity: the example design of Props/C05Denote.lean (references in other letter cases, bus bits
    out of order around a scalar net, a missing bit, renames, typed properties) -/
example : ∃ pf, readEdif (renderText C05.Example.exD) = .ok pf ∧
    ∃ f' pcpf, composeE [2026, 9, 28, 1, 2, 3] pf = .ok f' ∧ readEdif f' = .ok pcpf ∧ view03 pcpf = view03 pf :=
  parse_compose_parse_accepted C05.Example.exD C05.Example.exD_wf 2026 9 28 1 2 3

end Spydr.Edif.C03
