/-
  C03 — `parse_compose_parse` on the model.  The property theorems; the closure and fixed-point lemmas
  are in ../Closure.lean, the two phases of `_edifify_netlist` in ../ClosureEdifify.lean.
-/
import Spydr.Edif.ClosureEdifify
import Spydr.Edif.Props.C03
namespace Spydr.Edif.C03
open Spydr.Edif

/-- the six numbers of a time stamp as the reader stores them -/
def tsInts (y mo d h mi s : Nat) : List Int :=
  [Int.ofNat y, Int.ofNat mo, Int.ofNat d, Int.ofNat h, Int.ofNat mi, Int.ofNat s]

theorem text_img (n : CNetlist) (prog ver : Option Str) (t : CInst) (li di : Nat) (y mo d h mi s : Nat)
    (hwf : WFNet n prog ver t li di) :
    ∃ f, composeE [y, mo, d, h, mi, s] n = .ok f ∧
      readEdif f = .ok (imgNet n (tsInts y mo d h mi s) prog ver t li di) := by
  obtain ⟨e, hw, hr⟩ := edif_roundtrip_wf n prog ver t li di y mo d h mi s hwf
  exact ⟨layoutE e, by simp [composeE, hw, bind, Except.bind, pure, Except.pure],
    (readEdif_layout e (toSExp_clean n prog ver t li di y mo d h mi s hwf e hw)).trans hr⟩

theorem img_ts (n : CNetlist) (ts ts' : List Int) (prog ver : Option Str) (t : CInst) (li di : Nat) :
    view03 (imgNet n ts' prog ver t li di) = view03 (imgNet n ts prog ver t li di) ∧
      (imgNet n ts' prog ver t li di).libs = (imgNet n ts prog ver t li di).libs ∧
      (imgNet n ts' prog ver t li di).top = (imgNet n ts prog ver t li di).top ∧
      (ts' = ts → imgNet n ts' prog ver t li di = imgNet n ts prog ver t li di) :=
  ⟨view03_imgNet_ts n ts ts' prog ver t li di, by rw [imgNet_libs, imgNet_libs], rfl, fun hts => by rw [hts]⟩

/-- **reader_image_closed** — closure of the reader's image: for every netlist inside C03's quantifier
    (`WFNet`) the netlist the reader returns for the written s-expression is again inside the
    quantifier (legal identifiers, names, distinct siblings ignoring case, references to preceding
    cells, pins in range and used once, canonical property dictionaries, named top instance) and its
    scalar cables are based at 0. -/
theorem reader_image_closed (n : CNetlist) (prog ver : Option Str) (t : CInst) (li di : Nat) (y mo d h mi s : Nat)
    (hwf : WFNet n prog ver t li di) :
    ∃ e n', toSExp [y, mo, d, h, mi, s] n = .ok e ∧ ofSExp e = .ok n' ∧
      WFNet n' prog ver (readTop (idOf t.data) (nmOf t.data) li di) li di ∧ ScalarLower0 n' := by
  obtain ⟨e, hw, hr⟩ := edif_roundtrip_wf n prog ver t li di y mo d h mi s hwf
  exact ⟨e, _, hw, hr, wfNet_img n (tsInts y mo d h mi s) prog ver t li di hwf,
    scalarLower0_img n (tsInts y mo d h mi s) prog ver t li di⟩

/-- **reader_image_fixed_point** — what the reader returns is a fixed point of read ∘ write: writing it
    (any time stamp) is accepted and reading that back gives the same netlist up to the stored time
    stamp; with the same time stamp it gives the very same netlist (equality of netlists, every
    dictionary included). -/
theorem reader_image_fixed_point (n : CNetlist) (prog ver : Option Str) (t : CInst) (li di : Nat)
    (y mo d h mi s y' mo' d' h' mi' s' : Nat) (hwf : WFNet n prog ver t li di) :
    ∃ e n', toSExp [y, mo, d, h, mi, s] n = .ok e ∧ ofSExp e = .ok n' ∧
      ∃ e' n'', toSExp [y', mo', d', h', mi', s'] n' = .ok e' ∧ ofSExp e' = .ok n'' ∧
        n''.libs = n'.libs ∧ n''.top = n'.top ∧ view03 n'' = view03 n' ∧
        (tsInts y' mo' d' h' mi' s' = tsInts y mo d h mi s → n'' = n') := by
  obtain ⟨e, hw, hr⟩ := edif_roundtrip_wf n prog ver t li di y mo d h mi s hwf
  obtain ⟨e', hw', hr'⟩ := edif_roundtrip_wf _ prog ver _ li di y' mo' d' h' mi' s'
    (wfNet_img n (tsInts y mo d h mi s) prog ver t li di hwf)
  obtain ⟨hv, hl, ht, hts⟩ := img_ts n (tsInts y mo d h mi s) (tsInts y' mo' d' h' mi' s') prog ver t li di
  exact ⟨e, _, hw, hr, e', _, hw', (imgNet_idem n _ _ prog ver t li di ▸ hr'), hl, ht, hv, hts⟩

/-- what `_edifify_netlist` does, as one predicate: its naming phase and its ordering phase both leave `n` as it is -/
def EdififyFixed (mk : Data → Str) (fuel : Nat) (n : CNetlist) : Prop :=
  mapData (addRename mk) n = n ∧
  topoSort (libDeps n) (fuel + 1) (List.range n.libs.length) = List.range n.libs.length ∧
  ∀ L l, n.libs[L]? = some l → topoSort (defDeps n L) (fuel + 1) (List.range l.defs.length) = List.range l.defs.length

/-- **compose_after_parse** — the implementation's `compose` is `_edifify_netlist` followed by the writer; `composeE` is the
    writer alone.  In ONE statement: for `f = compose(n)`, `n` inside `WFNet`, the reader accepts `f`, returns `pf`;
    `_edifify_netlist` (naming phase for any `make_valid`, ordering phase for any fuel ≥ 1 and any order of the
    dependency sets) leaves `pf` unchanged; the writer's text for `pf` is accepted again and read back as `pf` itself
    when the time stamps agree (same view, libraries and top instance otherwise). -/
theorem compose_after_parse (mk : Data → Str) (fuel : Nat) (n : CNetlist) (prog ver : Option Str) (t : CInst) (li di : Nat)
    (y mo d h mi s y' mo' d' h' mi' s' : Nat) (hwf : WFNet n prog ver t li di) :
    ∃ f pf, composeE [y, mo, d, h, mi, s] n = .ok f ∧ readEdif f = .ok pf ∧ EdififyFixed mk fuel pf ∧
      ∃ f' pcpf, composeE [y', mo', d', h', mi', s'] pf = .ok f' ∧ readEdif f' = .ok pcpf ∧
        view03 pcpf = view03 pf ∧ pcpf.libs = pf.libs ∧ pcpf.top = pf.top ∧
        (tsInts y' mo' d' h' mi' s' = tsInts y mo d h mi s → pcpf = pf) := by
  have hwf' := wfNet_img n (tsInts y mo d h mi s) prog ver t li di hwf
  obtain ⟨f, hc, hr⟩ := text_img n prog ver t li di y mo d h mi s hwf
  obtain ⟨f', hc', hr'⟩ := text_img _ prog ver _ li di y' mo' d' h' mi' s' hwf'
  rw [imgNet_idem] at hr'
  exact ⟨f, _, hc, hr,
    ⟨edifify_names_img mk n _ prog ver t li di, topoSort_libs _ _ _ _ _ _ hwf' fuel,
      fun L l hl => topoSort_defs _ _ _ _ _ _ hwf' L l hl fuel⟩,
    f', _, hc', hr', img_ts n _ _ prog ver t li di⟩

/-- **parse_compose_parse** (from characters) — for `f = compose(n)`, `n` any netlist inside C03's
    quantifier: `f` is accepted, `compose(parse f)` is accepted, and `parse(compose(parse f))` has the
    same C03 view as `parse f` — indeed the same libraries and top instance, and it IS `parse f` when
    the two writes carry the same time stamp. -/
theorem parse_compose_parse (n : CNetlist) (prog ver : Option Str) (t : CInst) (li di : Nat)
    (y mo d h mi s y' mo' d' h' mi' s' : Nat) (hwf : WFNet n prog ver t li di) :
    ∃ f pf, composeE [y, mo, d, h, mi, s] n = .ok f ∧ readEdif f = .ok pf ∧
      ∃ f' pcpf, composeE [y', mo', d', h', mi', s'] pf = .ok f' ∧ readEdif f' = .ok pcpf ∧
        view03 pcpf = view03 pf ∧ pcpf.libs = pf.libs ∧ pcpf.top = pf.top ∧
        (tsInts y' mo' d' h' mi' s' = tsInts y mo d h mi s → pcpf = pf) := by
  obtain ⟨f, pf, hc, hr, _, h⟩ :=
    compose_after_parse (fun _ => []) 0 n prog ver t li di y mo d h mi s y' mo' d' h' mi' s' hwf
  exact ⟨f, pf, hc, hr, h⟩

/-- **edifify_names_identity** — identifier facts: every element of the reader's output carries an
    `EDIF.identifier`, so the naming phase of `_edifify_netlist` (`_add_rename_property`, which
    returns at once for such an element) leaves the reader's output unchanged, whatever `make_valid`
    is: the netlist the composer writes after `parse` is the parsed netlist itself. -/
theorem edifify_names_identity (mk : Data → Str) (n : CNetlist) (prog ver : Option Str) (t : CInst) (li di : Nat)
    (y mo d h mi s : Nat) (hwf : WFNet n prog ver t li di) :
    ∃ e n', toSExp [y, mo, d, h, mi, s] n = .ok e ∧ ofSExp e = .ok n' ∧ mapData (addRename mk) n' = n' := by
  obtain ⟨e, hw, hr⟩ := edif_roundtrip_wf n prog ver t li di y mo d h mi s hwf
  exact ⟨e, _, hw, hr, edifify_names_img mk n (tsInts y mo d h mi s) prog ver t li di⟩

/-- **edifify_order_identity** — the ordering phase of `_edifify_netlist` (`_topological_sort` with its
    stack-based `iterate`, dependencies listed in any order) leaves the reader's output as it is:
    libraries stay in their order, and the definitions of every library stay in theirs.  Together with
    `edifify_names_identity`: on what `parse` returned, `compose` writes the parsed netlist itself. -/
theorem edifify_order_identity (n : CNetlist) (prog ver : Option Str) (t : CInst) (li di : Nat)
    (y mo d h mi s fuel : Nat) (hwf : WFNet n prog ver t li di) :
    ∃ e n', toSExp [y, mo, d, h, mi, s] n = .ok e ∧ ofSExp e = .ok n' ∧
      topoSort (libDeps n') (fuel + 1) (List.range n'.libs.length) = List.range n'.libs.length ∧
      ∀ L l, n'.libs[L]? = some l →
        topoSort (defDeps n' L) (fuel + 1) (List.range l.defs.length) = List.range l.defs.length := by
  obtain ⟨e, hw, hr⟩ := edif_roundtrip_wf n prog ver t li di y mo d h mi s hwf
  have hwf' := wfNet_img n (tsInts y mo d h mi s) prog ver t li di hwf
  exact ⟨e, _, hw, hr, topoSort_libs _ _ _ _ _ _ hwf' fuel, fun L l hl => topoSort_defs _ _ _ _ _ _ hwf' L l hl fuel⟩

/-! non-vacuity: the hypothesis holds for the example netlist of Props/C03.lean (one library: a leaf
    cell and a renamed cell instantiating it, with a scalar net and a two-bit bus) -/
namespace Example

example : ∃ f pf, composeE [2026, 9, 27, 8, 5, 3] n0 = .ok f ∧ readEdif f = .ok pf ∧
    ∃ f' pcpf, composeE [2026, 9, 28, 1, 2, 3] pf = .ok f' ∧ readEdif f' = .ok pcpf ∧
      view03 pcpf = view03 pf ∧ pcpf.libs = pf.libs ∧ pcpf.top = pf.top ∧
      (tsInts 2026 9 28 1 2 3 = tsInts 2026 9 27 8 5 3 → pcpf = pf) :=
  parse_compose_parse n0 none none _ 0 1 2026 9 27 8 5 3 2026 9 28 1 2 3 n0_WFNet

example : ∃ e n', toSExp [2026, 9, 27, 8, 5, 3] n0 = .ok e ∧ ofSExp e = .ok n' ∧
    WFNet n' none none (readTop (idOf (nd "top")) (nmOf (nd "top")) 0 1) 0 1 ∧ ScalarLower0 n' :=
  reader_image_closed n0 none none _ 0 1 2026 9 27 8 5 3 n0_WFNet

end Example

end Spydr.Edif.C03
