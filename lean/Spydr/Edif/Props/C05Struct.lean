/-
  C05 / C15 — whatever the reader accepts is structurally well-formed, for ANY text.
  Only the property theorems, the witnesses for the clauses that do NOT hold, and non-vacuity examples;
  `StructWF` is in ../StructWF.lean, what an accepted run consists of in ../ReadForms.lean, the invariants in
  ../StructCell.lean, ../StructFile.lean.
-/
import Spydr.Edif.StructNet
import Spydr.Edif.Props.C05Denote
namespace Spydr.Edif.C05
open Spydr.Edif

/-- **reader_accepts_wellformed** — for EVERY text on which the MODEL reader answers with a netlist (no other
    hypothesis; inputs on which the model answers `Err.unsupported` — e.g. a net declared twice, which the real
    reader accepts through its `ValueError` fallback — are outside the statement): if the model reader — tokenizer
    `lexE`, s-expression reader `readS`, `ofSExp` — returns a netlist, that netlist satisfies the decidable
    predicate `StructWF`:
      * libraries, the definitions of each library, and the ports, instances and cables of each
        definition carry pairwise different EDIF identifiers ignoring letter case and pairwise
        different names;
      * EVERY instance has a reference, to a cell declared in the netlist BEFORE the cell it stands in
        (no instance without reference, no dangling or forward reference, no cell instantiating itself);
      * every cable has at least one wire, and every pin on a wire is an existing bit of a port of the
        enclosing cell or of a port of the cell referenced by an instance of the enclosing cell (bit 0
        when the port is not an array);
      * no port bit / instance pin sits on two wires;
      * a non-array port has exactly one pin;
      * the top instance, when the file has a design construct, references a declared cell.
    Proved by invariants over the reader's own folds (`bodyItem` / `parseLibrary` / `libItem` /
    `parseCell` / `parseView` / `ifaceItem` / `viewItem` / `contentsItem` / `parseNet` / `parsePortRef` /
    `multibitAdd`), each analysed on arbitrary input.  Outcomes `Err.unsupported` of the model (inputs
    outside the modelled subset: duplicate net declarations, `(number (e …))`,
    …) are errors, so nothing is claimed for them. -/
theorem reader_accepts_wellformed (text : List Char) (n : CNetlist) (h : readEdif text = .ok n) : StructWF n :=
  structWF_readEdif text n h

theorem reader_accepts_wellformed_sexp (e : SExp) (n : CNetlist) (h : ofSExp e = .ok n) : StructWF n :=
  structWF_ofSExp e n h

/-- one cell: whatever `parse_cell` returns, in any scope, has clash-free ports / instances / cables,
    resolved references, pins in range and every pin joined once -/
theorem parseCell_wellformed (sc : Scope) (ys : List SExp) (d : CDef) (h : parseCell sc ys = .ok d) :
    DefInv (defsOfLib sc) d := parseCell_inv sc ys d h

/-- the net loop: `multibit_add_cable` keeps the cable names clash-free, every cable non-empty and every
    pin a pin of the cell, whatever it is given -/
theorem multibitAdd_wellformed (look : Nat → List CDef) (ports : List CPort) (insts : List CInst)
    (cs cs' : List CCable) (d : Data) (ps : List CPin) (h : CabsInv look ports insts cs)
    (hp : ∀ p ∈ ps, PinIn look ports insts p) (ha : multibitAdd cs d ps = .ok cs') : CabsInv look ports insts cs' :=
  multibitAdd_inv look ports insts cs cs' d ps h hp ha

/-- the reader's pin check is exact: `hasDupPin` is false exactly when no pin occurs twice -/
theorem hasDupPin_iff (cables : List CCable) :
    hasDupPin cables = false ↔ (cables.flatMap fun c => c.wires.flatten).Nodup :=
  ⟨nodup_of_hasDupPin cables, hasDupPin_false cables⟩

/-- **reader_names_everything** — for EVERY text: every element of the netlist the reader returns — the netlist
    itself, the top instance, every library, definition, port, instance and cable — carries an EDIF
    identifier and a name (`AllNamed`, decidable).  Whatever follows the name of an element in the text
    (properties, comments, status blocks, levels, view data — `ReadFrame.lean`: all of it is stored under keys
    other than `EDIF.identifier` / `EDIF.original_identifier` / `.NAME`) leaves both in place. -/
theorem reader_names_everything (text : List Char) (n : CNetlist) (h : readEdif text = .ok n) : AllNamed n :=
  allNamed_readEdif text n h

/-- **reader_siblings_distinct** — for every accepted text, the libraries of the netlist carry pairwise
    different names and pairwise different identifiers ignoring case; likewise the definitions of every
    library and the ports, instances and cables of every definition -/
theorem reader_siblings_distinct (text : List Char) (n : CNetlist) (h : readEdif text = .ok n) :
    Distinct (n.libs.map (·.data)) ∧
    ∀ l ∈ n.libs, Distinct (l.defs.map (·.data)) ∧
      ∀ d ∈ l.defs, Distinct (d.ports.map (·.data)) ∧ Distinct (d.insts.map (·.data)) ∧ Distinct (d.cables.map (·.data)) :=
  siblings_distinct (reader_accepts_wellformed text n h) (reader_names_everything text n h)

/-- **all_instances_referenced** — for EVERY text: every instance of the netlist the reader returns HAS a reference
    (and, by `StructWF`, it is a cell declared before the cell the instance stands in).  True of the reader as
    repaired (e720278, 84106d8); the unrepaired reader accepts `(instance u1)` without `viewRef` and returns
    an instance without reference (finding `edif.reader.instance_without_reference`). -/
theorem all_instances_referenced (text : List Char) (n : CNetlist) (h : readEdif text = .ok n) :
    AllInstancesReferenced n :=
  (reader_accepts_wellformed text n h).allInstancesReferenced

/-- an accepted text (the example design of Props/C05Denote.lean) … -/
example : ∃ n, readEdif (renderText Example.exD) = .ok n ∧ StructWF n := by
  obtain ⟨n, hn, _⟩ := edif_reader_spec Example.exD Example.exD_wf
  exact ⟨n, hn, reader_accepts_wellformed _ n hn⟩

def oneCell (d : CDef) : CNetlist := { data := [], libs := [{ data := [], defs := [d] }] }

def nm (s : String) : Data := [(kNAME, .str s.toList)]

def pt (s : String) : CPort := { data := nm s, width := 1 }
def cb (s : String) (w : List (List CPin)) : CCable := { data := nm s, wires := w }

/-- … and `StructWF` is not trivially true: two ports called `a` … -/
example : ¬ StructWF (oneCell ⟨[], [pt "a", pt "a"], [], []⟩) := by decide

/-- … a pin beyond the width of its port … -/
example : ¬ StructWF (oneCell ⟨[], [pt "a"], [cb "x" [[.port 0 1]]], []⟩) := by decide

/-- … a port bit on two cables -/
example : ¬ StructWF (oneCell ⟨[], [pt "a"], [cb "x" [[.port 0 0]], cb "y" [[.port 0 0]]], []⟩) := by decide

/-- … while a cell with two differently named ports and a net on one of them is fine -/
example : StructWF (oneCell ⟨[], [pt "a", pt "b"], [cb "x" [[.port 1 0]]], []⟩) := by decide

/-! ### clauses that do NOT hold for every accepted text -/

namespace Witness

/-- a file whose only instance has no `viewRef` -/
def noViewRef : List Char :=
  "(edif n (edifVersion 2 0 0) (edifLevel 0) (keywordMap (keywordLevel 0)) (library work (edifLevel 0) (technology (numberDefinition)) (cell top (cellType GENERIC) (view netlist (viewType NETLIST) (interface (port a (direction INPUT))) (contents (instance u1))))) (design top (cellRef top (libraryRef work))))".toList

/-- a file whose only instance has a `viewRef` without `cellRef` (it would name the cell being read) -/
def noCellRef : List Char :=
  "(edif n (edifVersion 2 0 0) (edifLevel 0) (keywordMap (keywordLevel 0)) (library work (edifLevel 0) (technology (numberDefinition)) (cell top (cellType GENERIC) (view netlist (viewType NETLIST) (interface (port a (direction INPUT))) (contents (instance u1 (viewRef netlist)))))) (design top (cellRef top (libraryRef work))))".toList

/-- a file without a design construct -/
def noDesign : List Char :=
  "(edif n (edifVersion 2 0 0) (edifLevel 0) (keywordMap (keywordLevel 0)) (library work (edifLevel 0) (technology (numberDefinition)) (cell top (cellType GENERIC) (view netlist (viewType NETLIST) (interface (port a))))))".toList

/-! A string literal is `String.ofList` of its characters; the elaborator (at reducible transparency, where it does
    not unfold `String.ofList`) and the kernel both take that step without evaluating anything.  So
    `String.toList_ofList` names the characters of a text given as a literal and nothing is decoded (`String.toList`
    on a literal costs the kernel time quadratic in its length); the reader is then run on that list. -/

/-- `(instance u1)` without `(viewRef …)` is REJECTED (as repaired, e720278; finding
    `edif.reader.instance_without_reference`): no instance is left without a reference -/
theorem instance_without_viewref_rejected :
    (match readEdif noViewRef with
     | .ok _ => false
     | .error _ => true) = true := by
  rw [show noViewRef = _ by unfold noViewRef; with_reducible exact String.toList_ofList]
  decide +kernel

/-- `(instance u1 (viewRef netlist))` without `(cellRef …)` is REJECTED (as repaired, 84106d8; finding
    `edif.reader.instance_of_enclosing_cell`): no cell instantiates itself -/
theorem viewref_without_cellref_rejected :
    (match readEdif noCellRef with
     | .ok _ => false
     | .error _ => true) = true := by
  rw [show noCellRef = _ by unfold noCellRef; with_reducible exact String.toList_ofList]
  decide +kernel

/-- **FALSE: "the netlist has a top instance"** — a file without `(design …)` is accepted and the netlist
    has no top instance -/
theorem not_always_top : ∃ n, readEdif noDesign = .ok n ∧ n.top = none := by
  have h : (match readEdif noDesign with
     | .ok n => n.top.isNone
     | .error _ => false) = true := by
    rw [show noDesign = _ by unfold noDesign; with_reducible exact String.toList_ofList]
    decide +kernel
  cases hr : readEdif noDesign with
  | error e => rw [hr] at h; cases h
  | ok n =>
    rw [hr] at h
    exact ⟨n, rfl, by simpa using h⟩

/-- the two bit nets `(rename foo_0_ "x[0]")` and `(rename foo_1_ "y[1]")` as `parse_net` hands them to
    `multibit_add_cable` -/
def stemNets : R (List CCable) := do
  let cs ← multibitAdd [] (withName [] "foo_0_".toList "x[0]".toList) [.port 0 0]
  multibitAdd cs (withName [] "foo_1_".toList "y[1]".toList) [.port 1 0]

/-- **FALSE: "one cable per net name"** (finding `edif.reader.bus_identity_by_identifier_stem`) — two bit
    nets with DIFFERENT names `x[0]`, `y[1]` that share the identifier stem `foo` end in ONE cable, named `x`,
    of two wires; no cable is called `y`.  (The result is still `StructWF`; what is lost is the net's name.) -/
theorem stem_merges_two_names :
    (match stemNets with
     | .ok cs => cs.length == 1 && cs.all (fun c => nameOf c.data == some "x".toList && c.wires.length == 2)
     | .error _ => false) = true := by decide +kernel

/-- the bit nets `x[0]`, `x[1]` followed by a scalar net called `x` -/
def scalarAfterBus : R (List CCable) := do
  let cs ← multibitAdd [] (withName [] "x_0_".toList "x[0]".toList) [.port 0 0]
  let cs ← multibitAdd cs (withName [] "x_1_".toList "x[1]".toList) [.port 0 1]
  multibitAdd cs (withName [] "x".toList "x".toList) [.port 1 0]

/-- a scalar net carrying the name of an assembled bus is REJECTED by the model (as by the
    implementation repaired by 758603e): never shorted into the bus -/
theorem scalar_after_bus_rejected :
    (match scalarAfterBus with
     | .ok _ => false
     | .error _ => true) = true := by decide +kernel

end Witness

end Spydr.Edif.C05
