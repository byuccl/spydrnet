/-
  C05 — keyword letter case: the reader does not see it (for ANY s-expression), hence `edif_reader_spec`
  holds for the fragment with every construct keyword in ANY letter case, each occurrence on its own.
-/
import Spydr.Edif.KwRespell
import Spydr.Edif.Props.C05Denote
namespace Spydr.Edif.C05
open Spydr.Edif

/-- **keyword_case_invisible** — for EVERY s-expression `e`: `ofSExp (norm e) = ofSExp e`, where `norm` lowercases
    the keyword (head atom) of every construct of `e`, at any depth, except the two keywords whose
    spelling the reader stores in the netlist (`cellType`, `viewType`).  Proved function by function on
    arbitrary input (`KwNorm.lean`, `KwLeaf.lean`, `KwFile.lean`). -/
theorem keyword_case_invisible (e : SExp) : ofSExp (norm e) = ofSExp e := ofSExp_norm e

/-- two s-expressions that agree up to the letter case of construct keywords get the same result — the same
    netlist or the same error -/
theorem keyword_case_congr (e e' : SExp) (h : norm e' = norm e) : ofSExp e' = ofSExp e := ofSExp_of_norm_eq e e' h

/-- any re-spelling `f` of the keywords that only changes letter case (`lower (f a) = lower a`) and leaves
    `cellType` / `viewType` alone is invisible -/
theorem keyword_respelling_invisible (f : Str → Str) (hf : CaseOnly f) (e : SExp) : ofSExp (recase f e) = ofSExp e :=
  ofSExp_recase f hf e

/-- **edif_reader_spec_kwcase** — `edif_reader_spec` with keywords in any letter case: for every well-formed abstract
    design `d` and EVERY s-expression `e'` that agrees with `render d` up to the letter case of construct
    keywords (each occurrence independently; `cellType` / `viewType` as `render` spells them), the reader
    accepts `e'` and builds exactly the netlist `d.elab`, whose view is the design's denotation. -/
theorem edif_reader_spec_kwcase (d : ADesign) (h : d.wf = true) (e' : SExp) (he : norm e' = norm (render d)) :
    ofSExp e' = .ok d.elab ∧ view05 d.elab = denote d := by
  obtain ⟨h1, h2⟩ := edif_reader_spec_closed_form d h
  exact ⟨(keyword_case_congr (render d) e' he).trans h1, h2⟩

/-- … from characters, for the layout of any such `e'` whose atoms are clean (decidable flag `cleanB`) -/
theorem edif_reader_spec_kwcase_text (d : ADesign) (h : d.wf = true) (e' : SExp) (he : norm e' = norm (render d))
    (hc : e'.cleanB = true) : ∃ n, readEdif (layoutE e') = .ok n ∧ view05 n = denote d := by
  obtain ⟨h1, h2⟩ := edif_reader_spec_kwcase d h e' he
  refine ⟨d.elab, ?_, h2⟩
  exact (readEdif_layout e' (cleanB_sound e' hc)).trans h1

/-- non-vacuity: the example design with every keyword in upper case (`EDIF`, `LIBRARY`, `CELL`, `VIEW`, `INTERFACE`,
    `PORT`, `ARRAY`, `RENAME`, `CONTENTS`, `INSTANCE`, `VIEWREF`, `CELLREF`, `LIBRARYREF`, `PROPERTY`, `NET`, `JOINED`,
    `PORTREF`, `MEMBER`, `INSTANCEREF`, `DESIGN`, …) -/
example : ∃ n, readEdif (layoutE (recase upperKw (render Example.exD))) = .ok n ∧ view05 n = denote Example.exD :=
  edif_reader_spec_kwcase_text Example.exD Example.exD_wf _ (norm_recase upperKw caseOnly_upperKw _) (by decide +kernel)

end Spydr.Edif.C05
