/-
  `ComposeEdif._edifify_netlist` on the reader's image is the identity.

  Its ordering phase (`_topological_sort`, the stack-based `iterate`) leaves libraries and definitions in
  the order they have on every netlist whose references all point to preceding cells — in particular on
  every netlist the reader returns for a written text (`wfNet_img`) or for a text of the C05 fragment
  (`wfNet_elab`).  Its naming phase (`_add_rename_property`) returns at once for an object that already
  carries `EDIF.identifier`; every element of a netlist the reader built carries one, so the phase is the
  identity there, whatever `make_valid` is.
-/
import Spydr.Edif.Closure
import Spydr.Common.List
namespace Spydr.Edif

/-- `iterate(o)` of `_topological_sort`: the stack (top first), the visited / output list; `deps` lists
    the dependencies of an object in the order the Python set happens to iterate -/
def topoIterate {α : Type} [DecidableEq α] (deps : α → List α) : Nat → List α → List α → List α
  | 0, _, out => out
  | _ + 1, [], out => out
  | f + 1, o :: st, out =>
    -- `for child in get_dependents(o): if child not in visited: stack.append(child)`
    let pushed := (deps o).filter fun c => !(out.contains c)
    match pushed.reverse ++ o :: st with
    | [] => out
    | t :: rest =>
      -- `if stack[-1] == o: stack.pop(); if o not in visited: visited.add(o); output_list.append(o)`
      if t = o then topoIterate deps f rest (if out.contains o then out else out ++ [o])
      else topoIterate deps f (t :: rest) out

/-- `_topological_sort(list_of_objects, dependency_function)` -/
def topoSort {α : Type} [DecidableEq α] (deps : α → List α) (fuel : Nat) (xs : List α) : List α :=
  xs.foldl (fun out o => if out.contains o then out else topoIterate deps fuel [o] out) []

theorem topoIterate_done {α : Type} [DecidableEq α] (deps : α → List α) (f : Nat) (out : List α) :
    topoIterate deps f [] out = out := by
  cases f <;> rfl

theorem topoIterate_ready {α : Type} [DecidableEq α] (deps : α → List α) (f : Nat) (o : α) (out : List α)
    (hdeps : ∀ c ∈ deps o, c ∈ out) (ho : o ∉ out) : topoIterate deps (f + 1) [o] out = out ++ [o] := by
  have hp : ((deps o).filter fun c => !(out.contains c)) = [] := by
    rw [List.filter_eq_nil_iff]
    intro c hc
    simp [hdeps c hc]
  have hc : out.contains o = false := by simpa using ho
  simp only [topoIterate, hp, List.reverse_nil, List.nil_append, if_true, hc, Bool.false_eq_true, if_false]
  exact topoIterate_done deps f _

theorem topoSort_sorted {α : Type} [DecidableEq α] (deps : α → List α) (fuel : Nat) (xs : List α)
    (hnd : xs.Nodup) (hdeps : ∀ (k : Nat) (hk : k < xs.length), ∀ c ∈ deps xs[k], c ∈ xs.take k) :
    topoSort deps (fuel + 1) xs = xs := by
  have key : ∀ (rest done : List α), xs = done ++ rest →
      rest.foldl (fun out o => if out.contains o then out else topoIterate deps (fuel + 1) [o] out) done = done ++ rest := by
    intro rest
    induction rest with
    | nil => intro done _; simp
    | cons o r ih =>
      intro done hsplit
      subst hsplit
      have hnot : o ∉ done := fun hm => (List.nodup_append.mp hnd).2.2 o hm o List.mem_cons_self rfl
      have hd : ∀ c ∈ deps o, c ∈ done := fun c hc => by
        simpa using hdeps done.length (by simp) c (by simpa using hc)
      have hc : done.contains o = false := by simpa using hnot
      simp only [List.foldl_cons, hc, Bool.false_eq_true, if_false, topoIterate_ready deps fuel o done hd hnot]
      simpa using ih (done ++ [o]) (by simp)
  have := key xs [] rfl
  simpa [topoSort] using this

theorem topoSort_range (deps : Nat → List Nat) (fuel n : Nat) (h : ∀ k < n, ∀ c ∈ deps k, c < k) :
    topoSort deps (fuel + 1) (List.range n) = List.range n := by
  refine topoSort_sorted _ _ _ List.nodup_range fun k hk c hc => ?_
  rw [List.length_range] at hk
  rw [List.getElem_range] at hc
  rw [List.take_range, Nat.min_eq_left (Nat.le_of_lt hk), List.mem_range]
  exact h k hk c hc

/-- `_get_library_dependency`: the libraries (other than `L` itself) that instances inside library `L`
    reference -/
def libDeps (n : CNetlist) (L : Nat) : List Nat :=
  match n.libs[L]? with
  | none => []
  | some l => (l.defs.flatMap fun d => d.insts.filterMap fun i => i.ref.map (·.1)).filter (· ≠ L)

/-- `_get_definition_dependency_same_library`: the definitions of library `L` that instances inside
    definition `D` of that library reference -/
def defDeps (n : CNetlist) (L D : Nat) : List Nat :=
  match n.libs[L]? with
  | none => []
  | some l =>
    match l.defs[D]? with
    | none => []
    | some d => d.insts.filterMap fun i => match i.ref with
      | some (li, di) => if li = L then some di else none
      | none => none

/-- **the ordering phase is the identity inside C03's quantifier**: libraries stay in order … -/
theorem topoSort_libs (n : CNetlist) (prog ver : Option Str) (t : CInst) (li di : Nat)
    (h : WFNet n prog ver t li di) (fuel : Nat) :
    topoSort (libDeps n) (fuel + 1) (List.range n.libs.length) = List.range n.libs.length := by
  refine topoSort_range _ _ _ fun k hk c hc => ?_
  unfold libDeps at hc
  have hl : n.libs[k]? = some n.libs[k] := List.getElem?_eq_getElem hk
  rw [hl] at hc
  simp only [List.mem_filter, List.mem_flatMap, List.mem_filterMap, decide_eq_true_eq] at hc
  obtain ⟨⟨d, hd, i, hi, hr⟩, hne⟩ := hc
  obtain ⟨D, hD, rfl⟩ := List.getElem_of_mem hd
  have hcell := h.cells k _ hl D _ (List.getElem?_eq_getElem hD)
  obtain ⟨li', di', _, _, href, _, _, hb⟩ := (hcell.insts i hi).ref
  rw [href] at hr
  simp only [Option.map_some, Option.some.injEq] at hr
  subst hr
  rcases hb with hlt | ⟨heq, _⟩
  · exact hlt
  · exact absurd heq hne

/-- … and so do the definitions of every library -/
theorem topoSort_defs (n : CNetlist) (prog ver : Option Str) (t : CInst) (li di : Nat)
    (h : WFNet n prog ver t li di) (L : Nat) (l : CLib) (hl : n.libs[L]? = some l) (fuel : Nat) :
    topoSort (defDeps n L) (fuel + 1) (List.range l.defs.length) = List.range l.defs.length := by
  refine topoSort_range _ _ _ fun k hk c hc => ?_
  unfold defDeps at hc
  have hd : l.defs[k]? = some l.defs[k] := List.getElem?_eq_getElem hk
  rw [hl] at hc
  simp only [hd, List.mem_filterMap] at hc
  obtain ⟨i, hi, hr⟩ := hc
  have hcell := h.cells L l hl k _ hd
  obtain ⟨li', di', _, _, href, _, _, hb⟩ := (hcell.insts i hi).ref
  rw [href] at hr
  simp only at hr
  by_cases hli : li' = L
  · rw [if_pos hli] at hr
    cases hr
    rcases hb with hlt | ⟨_, hlt⟩
    · omega
    · exact hlt
  · rw [if_neg hli] at hr
    cases hr

/-- `_add_rename_property(obj, …)` on the element dictionary, for an arbitrary `make_valid` -/
def addRename (mk : Data → Str) (d : Data) : Data :=
  if d.has kIDENT then d
  else
    let r := mk d
    let d1 := d.set kIDENT (.str r)
    if nameOf d = some r then d1 else d1.set (S "EDIF.rename") (.bool true)

/-- apply `f` to the dictionary of every element `_edifify_netlist` visits: the netlist, the top
    instance, libraries, definitions, cables, instances, ports -/
def mapData (f : Data → Data) (n : CNetlist) : CNetlist :=
  { data := f n.data,
    top := n.top.map fun t => { t with data := f t.data },
    libs := n.libs.map fun l =>
      { data := f l.data,
        defs := l.defs.map fun d =>
          { data := f d.data,
            ports := d.ports.map fun p => { p with data := f p.data },
            cables := d.cables.map fun c => { c with data := f c.data },
            insts := d.insts.map fun i => { i with data := f i.data } } } }

structure AllData (P : Data → Prop) (n : CNetlist) : Prop where
  net : P n.data
  top : ∀ t, n.top = some t → P t.data
  lib : ∀ l ∈ n.libs, P l.data
  df : ∀ l ∈ n.libs, ∀ d ∈ l.defs, P d.data
  port : ∀ l ∈ n.libs, ∀ d ∈ l.defs, ∀ p ∈ d.ports, P p.data
  cable : ∀ l ∈ n.libs, ∀ d ∈ l.defs, ∀ c ∈ d.cables, P c.data
  inst : ∀ l ∈ n.libs, ∀ d ∈ l.defs, ∀ i ∈ d.insts, P i.data

theorem mapData_id (f : Data → Data) (n : CNetlist) (h : AllData (fun d => f d = d) n) : mapData f n = n := by
  obtain ⟨nd, libs, top⟩ := n
  simp only [mapData]
  congr 1
  · exact h.net
  · refine map_id_of_mem fun ⟨ld, defs⟩ hl => ?_
    simp only
    congr 1
    · exact h.lib _ hl
    · refine map_id_of_mem fun ⟨dd, ports, cables, insts⟩ hd => ?_
      simp only
      congr 1
      · exact h.df _ hl _ hd
      · exact map_id_of_mem fun p hp => by rw [h.port _ hl _ hd p hp]
      · exact map_id_of_mem fun c hc => by rw [h.cable _ hl _ hd c hc]
      · exact map_id_of_mem fun i hi => by rw [h.inst _ hl _ hd i hi]
  · cases top with
    | none => rfl
    | some t => rw [Option.map_some, h.top t rfl]

theorem addRename_of_ident (mk : Data → Str) (d : Data) (i : Str) (h : identOf d = some i) : addRename mk d = d := by
  simp [addRename, Data.has, get?_of_getStr? d kIDENT i h]

theorem allIdent_img (n : CNetlist) (ts : List Int) (prog ver : Option Str) (t : CInst) (li di : Nat) :
    AllData (fun d => ∃ i, identOf d = some i) (imgNet n ts prog ver t li di) := by
  refine ⟨⟨_, identOf_netData _ _ _ _ _⟩, ?_, ?_, ?_, ?_, ?_, ?_⟩ <;>
    simp only [imgNet_top, imgNet_libs, List.forall_mem_map, imgLib_defs, imgDef_ports, imgDef_cables, imgDef_insts,
      Option.some.injEq, forall_eq']
  · exact ⟨_, identOf_readTop _ _ _ _⟩
  · exact fun l _ => ⟨_, imgLib_ident l⟩
  · exact fun l _ d _ => ⟨_, imgDef_ident d⟩
  · exact fun l _ d _ p _ => ⟨_, identOf_readPort _ _ _⟩
  · exact fun l _ d _ c _ => ⟨_, identOf_readCable _ _ _⟩
  · exact fun l _ d _ i _ => ⟨_, identOf_readInst _⟩

theorem AllData.mono {P Q : Data → Prop} (n : CNetlist) (h : AllData P n) (hpq : ∀ d, P d → Q d) : AllData Q n :=
  ⟨hpq _ h.net, fun t ht => hpq _ (h.top t ht), fun l hl => hpq _ (h.lib l hl),
    fun l hl d hd => hpq _ (h.df l hl d hd), fun l hl d hd p hp => hpq _ (h.port l hl d hd p hp),
    fun l hl d hd c hc => hpq _ (h.cable l hl d hd c hc), fun l hl d hd i hi => hpq _ (h.inst l hl d hd i hi)⟩

/-- **the naming phase of `_edifify_netlist` is the identity on the reader's image**, for every
    `make_valid` -/
theorem edifify_names_img (mk : Data → Str) (n : CNetlist) (ts : List Int) (prog ver : Option Str) (t : CInst)
    (li di : Nat) : mapData (addRename mk) (imgNet n ts prog ver t li di) = imgNet n ts prog ver t li di :=
  mapData_id _ _ ((allIdent_img n ts prog ver t li di).mono _ (fun d ⟨i, hi⟩ => addRename_of_ident mk d i hi))

end Spydr.Edif
