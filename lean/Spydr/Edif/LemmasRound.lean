/-
  Writer → reader, construct by construct: names, ports, pins.  The reader is run on the name and port
  constructs of the abstract syntax (`nameDef_AName`, `parsePort_APort`); the writer emits such constructs
  (`nameSExp_written`), so the round trip of a name or a port is an instance.
-/
import Spydr.Edif.LemmasPins
import Spydr.Edif.Abstract
namespace Spydr.Edif

theorem Data.get?_set_self (d : Data) (k : Str) (v : Val) : (d.set k v).get? k = some v := by
  induction d with
  | nil => simp [Data.set, Data.get?]
  | cons a r ih =>
    obtain ⟨k', v'⟩ := a
    by_cases h : k' = k
    · simp [Data.set, Data.get?, h]
    · simp [Data.set, Data.get?, h, ih]

theorem Data.get?_set_other (d : Data) (k k2 : Str) (v : Val) (h : k2 ≠ k) : (d.set k v).get? k2 = d.get? k2 := by
  induction d with
  | nil => simp [Data.set, Data.get?, Ne.symm h]
  | cons a r ih =>
    obtain ⟨k', v'⟩ := a
    by_cases h1 : k' = k
    · subst h1
      simp [Data.set, Data.get?, Ne.symm h]
    · by_cases h2 : k' = k2
      · subst h2
        simp [Data.set, Data.get?, h1]
      · simp [Data.set, Data.get?, h1, h2, ih]

theorem get?_of_getStr? (d : Data) (k s : Str) (h : d.getStr? k = some s) : d.get? k = some (.str s) := by
  unfold Data.getStr? at h
  split at h
  · rename_i s' hs
    cases h
    exact hs
  · cases h

theorem Data.set_of_get? (d : Data) (k : Str) (v : Val) (h : d.get? k = some v) : d.set k v = d := by
  induction d with
  | nil => simp [Data.get?] at h
  | cons a r ih =>
    obtain ⟨k', v'⟩ := a
    by_cases h1 : k' = k
    · subst h1
      simp only [Data.get?, if_true, Option.some.injEq] at h
      simp [Data.set, h]
    · simp only [Data.get?, h1, if_false] at h
      simp [Data.set, h1, ih h]

/-! The kernel is slow at turning a string literal into its characters and quick at comparing two
literals, so facts about dictionary keys are reduced to facts about the strings. -/

theorem S_ne {a b : String} (h : (a == b) = false) : S a ≠ S b :=
  fun e => by simp [String.toList_inj.mp e] at h

theorem joinDot_S (l : List String) : joinDot (l.map S) = S (".".intercalate l) := by
  induction l with
  | nil => rfl
  | cons a r ih =>
    cases r with
    | nil => simp [joinDot]
    | cons b r =>
      simp only [List.map_cons, joinDot, String.intercalate_cons_cons] at ih ⊢
      rw [ih]; simp [S, String.toList_append]

theorem joinDot_S_ne (l : List String) (b : String) (h : (".".intercalate l == b) = false) :
    joinDot (l.map S) ≠ S b := joinDot_S l ▸ S_ne h

theorem kNAME_ne_kIDENT : kNAME ≠ kIDENT := S_ne rfl

theorem identOf_set (d : Data) (k : Str) (v : Val) (h : k ≠ kIDENT) : identOf (d.set k v) = identOf d := by
  simp only [identOf, Data.getStr?, Data.get?_set_other d k kIDENT v h.symm]

theorem nameOf_set (d : Data) (k : Str) (v : Val) (h : k ≠ kNAME) : nameOf (d.set k v) = nameOf d := by
  simp only [nameOf, Data.getStr?, Data.get?_set_other d k kNAME v h.symm]

/-- the dictionary the reader builds for `name` / `(rename ident "name")` on top of `d` -/
def withName (d : Data) (ident name : Str) : Data :=
  ((d.set kNAME (.str ident)).set kIDENT (.str ident)).set kNAME (.str name)

theorem nameOf_withName (d : Data) (i n : Str) : nameOf (withName d i n) = some n := by
  simp [nameOf, Data.getStr?, withName, Data.get?_set_self]

theorem identOf_withName (d : Data) (i n : Str) : identOf (withName d i n) = some i := by
  simp [identOf, Data.getStr?, withName, Data.get?_set_other _ _ _ _ kNAME_ne_kIDENT.symm, Data.get?_set_self]

theorem get?_withName_other (d : Data) (i n k : Str) (h1 : k ≠ kNAME) (h2 : k ≠ kIDENT) :
    (withName d i n).get? k = d.get? k := by
  simp [withName, Data.get?_set_other _ _ _ _ h1, Data.get?_set_other _ _ _ _ h2]

theorem validIdentTok_of_check (s : Str) (h : checkEdifIdentifier s = true) : validIdentTok s = true := by
  cases s with
  | nil => cases h
  | cons c r =>
    obtain ⟨-, hc, hl⟩ := checkEdifIdentifier_head h
    simp only [validIdentTok, List.length_cons, Bool.and_eq_true, Bool.or_eq_true, beq_iff_eq, decide_eq_true_eq]
    exact ⟨hc.symm, by omega⟩

theorem stringTok_qtok (s : Str) (h : s.all isStringChar = true) : stringOfS (qtok s) = .ok s := by
  unfold qtok stringOfS stringTok
  simp [h, pure_ok]

/-- what the writer needs of an element dictionary, and the C03 quantifier's "names free of double
    quotes / newlines" (here: printable ASCII, DESIGN.md decision 8) -/
structure NamedOK (d : Data) (ident name : Str) : Prop where
  hi : identOf d = some ident
  hc : checkEdifIdentifier ident = true
  hn : d.get? kNAME = some (.str name)
  hs : name.all isStringChar = true

theorem key_push (m : Meta) (s : String) : (m.push s).key = joinDot (m.pfx ++ [S s]) := rfl
theorem key_mk (d : Data) (p : List Str) : ({ data := d, pfx := p } : Meta).key = joinDot p := rfl

theorem joinDot_ident : joinDot [S "EDIF", S "identifier"] = kIDENT := joinDot_S ["EDIF", "identifier"]
theorem joinDot_orig : joinDot [S "EDIF", S "original_identifier"] = S "EDIF.original_identifier" :=
  joinDot_S ["EDIF", "original_identifier"]
theorem kIDENT_ne_orig : kIDENT ≠ S "EDIF.original_identifier" := S_ne rfl

/-- setting the identifier on a fresh element (explicit-structure form: `Meta.push/pop` unfolded) -/
theorem setAttr_ident (d0 : Data) (ident : Str) (hc : checkEdifIdentifier ident = true) (h0 : d0.has kNAME = false) :
    setAttr { data := d0, pfx := [S "EDIF", S "identifier"] } (.str ident) =
      .ok { data := (d0.set kNAME (.str ident)).set kIDENT (.str ident), pfx := [S "EDIF", S "identifier"] } := by
  simp only [setAttr, key_mk, joinDot_ident, kIDENT_ne_orig, if_false, if_true, hc, h0, Bool.false_eq_true,
    pure_ok]

theorem setAttr_orig (d1 : Data) (name : Str) :
    setAttr { data := d1, pfx := [S "EDIF", S "original_identifier"] } (.str name) =
      .ok { data := d1.set kNAME (.str name), pfx := [S "EDIF", S "original_identifier"] } := by
  simp only [setAttr, key_mk, joinDot_orig, if_true, pure_ok]

theorem setAttr_plain (D : Data) (p : List Str) (v : Val) (h1 : joinDot p ≠ S "EDIF.original_identifier")
    (h2 : joinDot p ≠ kIDENT) : setAttr { data := D, pfx := p } v = .ok { data := D.set (joinDot p) v, pfx := p } := by
  simp only [setAttr, key_mk, h1, h2, if_false, pure_ok]

theorem setAttr_key (D : Data) (p : List Str) (k : Str) (v : Val) (hk : joinDot p = k)
    (h1 : k ≠ S "EDIF.original_identifier") (h2 : k ≠ kIDENT) :
    setAttr { data := D, pfx := p } v = .ok { data := D.set k v, pfx := p } := by
  subst hk; exact setAttr_plain D p v h1 h2

theorem push_mk (d : Data) (p : List Str) (s : String) :
    Meta.push { data := d, pfx := p } s = { data := d, pfx := p ++ [S s] } := rfl
theorem pop_mk (d : Data) (p : List Str) :
    Meta.pop { data := d, pfx := p } = { data := d, pfx := p.dropLast } := rfl

theorem parseRename_ok (d0 : Data) (ident name : Str) (hc : checkEdifIdentifier ident = true)
    (hs : name.all isStringChar = true) (hd0 : d0.has kNAME = false) :
    parseRename { data := d0, pfx := [S "EDIF"] } [A "rename", .atom ident, qtok name] =
      .ok { data := withName d0 ident name, pfx := [S "EDIF"] } := by
  have hv := validIdentTok_of_check ident hc
  have hr : isKw (A "rename") "rename" = true := by decide
  simp only [parseRename, hr, if_true, identOfS, hv, ok_bind, pure_ok, push_mk,
    pop_mk, List.cons_append, List.nil_append, setAttr_ident d0 ident hc hd0, stringTok_qtok name hs,
    List.dropLast, setAttr_orig, withName]

theorem AName.okB_id (a : AName) (h : a.okB = true) : checkEdifIdentifier a.ident = true := by
  simp only [AName.okB, Bool.and_eq_true] at h; exact h.1

theorem AName.okB_str (a : AName) (h : a.okB = true) : a.name.all isStringChar = true := by
  simp only [AName.okB, Bool.and_eq_true] at h; exact h.2

theorem nameDef_AName (a : AName) (h : a.okB = true) (d0 : Data) (rest : List SExp) (hd0 : d0.has kNAME = false) :
    nameDef { data := d0, pfx := [S "EDIF"] } (a.sexp :: rest) =
      .ok ({ data := withName d0 a.ident a.name, pfx := [S "EDIF"] }, rest) := by
  have hc := a.okB_id h
  have hs := a.okB_str h
  have hv := validIdentTok_of_check a.ident hc
  obtain ⟨ident, orig⟩ := a
  cases orig with
  | none =>
    simp only [AName.name] at hs ⊢
    have hself : ((d0.set kNAME (.str ident)).set kIDENT (.str ident)).set kNAME (.str ident) =
        (d0.set kNAME (.str ident)).set kIDENT (.str ident) := by
      apply Data.set_of_get?
      rw [Data.get?_set_other _ _ _ _ kNAME_ne_kIDENT, Data.get?_set_self]
    simp only [AName.sexp, nameDef, identOfS, hv, if_true, bind, Except.bind, pure, Except.pure, push_mk, pop_mk,
      List.cons_append, List.nil_append, setAttr_ident d0 ident hc hd0, withName, hself]
    simp
  | some o =>
    simp only [AName.name] at hs ⊢
    simp only [AName.sexp, nameDef, parseRename_ok d0 ident o hc hs hd0, bind, Except.bind, pure, Except.pure]

theorem nameDef_AName_new (a : AName) (h : a.okB = true) (rest : List SExp) :
    nameDef Meta.new (a.sexp :: rest) = .ok ({ data := withName [] a.ident a.name, pfx := [S "EDIF"] }, rest) :=
  nameDef_AName a h [] rest rfl

/-- the writer's `_output_name_of_object_` is a name construct of the abstract syntax -/
theorem nameSExp_written {d : Data} {ident name : Str} (h : NamedOK d ident name) (what : String) :
    ∃ a : AName, nameSExp d what = .ok a.sexp ∧ a.ident = ident ∧ a.name = name ∧ a.okB = true := by
  have hk : ∀ o, (⟨ident, o⟩ : AName).name = name → (⟨ident, o⟩ : AName).okB = true := fun o e => by
    rw [AName.okB, e, h.hc, h.hs]; rfl
  unfold nameSExp needIdent
  simp only [h.hi, h.hn, ok_bind, pure_ok]
  by_cases hcond : name = ident ∧ renameFlagOf d = false
  · rw [if_pos hcond]; exact ⟨⟨ident, none⟩, rfl, rfl, hcond.1.symm, hk none hcond.1.symm⟩
  · rw [if_neg hcond]; exact ⟨⟨ident, some name⟩, rfl, rfl, rfl, hk _ rfl⟩

theorem nameDef_nameSExp (d : Data) (ident name : Str) (h : NamedOK d ident name) (what : String) :
    ∃ e, nameSExp d what = .ok e ∧
      (e = .atom ident ∨ e = .list [A "rename", .atom ident, qtok name]) ∧
      ∀ (d0 : Data) (rest : List SExp), d0.has kNAME = false →
        nameDef { data := d0, pfx := [S "EDIF"] } (e :: rest) =
          .ok ({ data := withName d0 ident name, pfx := [S "EDIF"] }, rest) := by
  obtain ⟨⟨i, o⟩, hnm, rfl, rfl, hk⟩ := nameSExp_written h what
  refine ⟨_, hnm, ?_, nameDef_AName _ hk⟩
  cases o
  · exact .inl rfl
  · exact .inr rfl

theorem toNat_ofNat' (n : Nat) : (Int.ofNat n).toNat = n := rfl

theorem has_nil (k : Str) : Data.has [] k = false := rfl

/-- the port the reader builds from what the writer emits for `p` -/
def readPort (p : CPort) (ident name : Str) : CPort :=
  { data := (withName [] ident name).set (S "metadata_prefix") (.list [.str (S "EDIF")]),
    dir := p.dir, width := p.width, scalarFlag := !p.isArray, lower := 0 }

theorem loopC_nil {σ : Type} (h : σ → List SExp → R σ) (s : σ) : loopC h s [] = .ok (s, []) := rfl

theorem portItem_direction (m : Meta) (a : SExp) (d : Dir)
    (hd : parseDirection [A "direction", a] = .ok d) :
    portItem { m := m } [A "direction", a] = .ok { m := m, dir := d, hasDir := true } := by
  have h1 := fun xs => headIs_A "direction" "direction" xs true rfl
  simp [portItem, h1, hd, ok_bind, pure_ok]

theorem parseDirection_dirAtom (d : Dir) (a : SExp) (h : dirAtom d = some a) :
    parseDirection [A "direction", a] = .ok d := by
  cases d with
  | undefined => simp [dirAtom] at h
  | inout =>
    simp only [dirAtom, Option.some.injEq] at h; subst h
    have h1 : isKw (A "INOUT") "inout" = true := by decide
    simp [parseDirection, h1, pure_ok]
  | inp =>
    simp only [dirAtom, Option.some.injEq] at h; subst h
    have h0 : isKw (A "INPUT") "inout" = false := by decide
    have h1 : isKw (A "INPUT") "input" = true := by decide
    simp [parseDirection, h0, h1, pure_ok]
  | out =>
    simp only [dirAtom, Option.some.injEq] at h; subst h
    have h0 : isKw (A "OUTPUT") "inout" = false := by decide
    have h1 : isKw (A "OUTPUT") "input" = false := by decide
    have h2 : isKw (A "OUTPUT") "output" = true := by decide
    simp [parseDirection, h0, h1, h2, pure_ok]

theorem portSExp_eq (p : CPort) : portSExp p = (do
    let nm ← nameSExp p.data "port"
    if p.isArray then pure (.list ([A "port", .list [A "array", nm, .atom (natStr p.width)]] ++ dirSexp p.dir))
    else pure (.list ([A "port", nm] ++ dirSexp p.dir))) := by
  obtain ⟨_, dir, _, _, _⟩ := p
  cases dir <;> rfl

theorem loopC_dirSexp (m : Meta) (d : Dir) :
    loopC portItem { m := m } (dirSexp d) = .ok ({ m := m, dir := d, hasDir := d != .undefined }, []) := by
  have step := fun a (h : dirAtom d = some a) => portItem_direction m a d (parseDirection_dirAtom d a h)
  cases d
  · rfl
  all_goals simp only [dirSexp, loopC, step _ rfl, ok_bind]; rfl

/-- the port the reader builds for an abstract port -/
def APort.elab (p : APort) : CPort :=
  { data := (withName [] p.name.ident p.name.name).set (S "metadata_prefix") (.list [.str (S "EDIF")]),
    dir := p.dir, width := p.width, scalarFlag := p.array.isNone, lower := 0 }

theorem parsePort_APort (p : APort) (hn : p.name.okB = true) (hk : p.okB = true) :
    ∃ body, p.sexp = .list (A "port" :: body) ∧ parsePort (A "port" :: body) = .ok p.elab := by
  have hc := p.name.okB_id hn
  have hs := p.name.okB_str hn
  obtain ⟨nm, dir, arr⟩ := p
  cases arr with
  | some k =>
    refine ⟨_, rfl, ?_⟩
    have harr0 : isKw (A "array") "rename" = false := by decide +kernel
    have harr1 : isKw (A "array") "array" = true := by decide +kernel
    have hnd := nameDef_AName nm hn [] [SExp.atom (natStr k)] rfl
    simp only [parsePort, headIs, List.tail_cons, harr0, harr1, Bool.false_eq_true,
      if_false, if_true, Meta.new, hnd, intOfS_natStr, bind, Except.bind, pure, Except.pure, loopC_dirSexp, endC,
      APort.elab, APort.width, toNat_ofNat', Option.isNone, Bool.not_true]
  | none =>
    refine ⟨_, rfl, ?_⟩
    obtain ⟨ident, orig⟩ := nm
    cases orig with
    | none =>
      have hnd := nameDef_AName ⟨ident, none⟩ hn [] (dirSexp dir) rfl
      simp only [AName.sexp] at hnd
      simp only [parsePort, AName.sexp, List.tail_cons, Meta.new, hnd, bind,
        Except.bind, pure, Except.pure, loopC_dirSexp, endC, APort.elab, APort.width, Option.isNone, Bool.not_false]
    | some o =>
      have hren : isKw (A "rename") "rename" = true := by decide +kernel
      simp only [AName.name] at hs
      have hnd := parseRename_ok [] ident o hc hs rfl
      simp only [parsePort, headIs, AName.sexp, List.tail_cons, Meta.new, hren, if_true, hnd,
        bind, Except.bind, pure, Except.pure, loopC_dirSexp, endC, APort.elab, APort.width, Option.isNone, Bool.not_false,
        AName.name]

/-- **port_roundtrip**: the reader applied to the writer's `(port …)` gives back a port with the
    same name, identifier, direction, width and array-ness (non-empty ports; `lower_index` is not
    carried by the format). -/
theorem port_roundtrip (p : CPort) (ident name : Str) (h : NamedOK p.data ident name)
    (hw : 1 ≤ p.width) (hsc : p.isArray = false → p.width = 1) :
    ∃ r, portSExp p = .ok (.list (A "port" :: r)) ∧ parsePort (A "port" :: r) = .ok (readPort p ident name) := by
  obtain ⟨a, hnm, rfl, rfl, hk⟩ := nameSExp_written h "port"
  obtain ⟨r, hs, hr⟩ := parsePort_APort ⟨a, p.dir, if p.isArray then some p.width else none⟩ hk
    (by unfold APort.okB; cases p.isArray <;> simp [hw])
  refine ⟨r, ?_, hr.trans ?_⟩
  · rw [portSExp_eq, hnm, ok_bind, ← hs]
    unfold APort.sexp
    cases p.isArray <;> rfl
  · unfold APort.elab readPort APort.width
    cases ha : p.isArray
    · simp [hsc ha]
    · simp

/-- the writer-side and reader-side views of the cell a net belongs to agree on what a pin
    reference needs: identifiers resolve to the same positions and widths are the same -/
structure PinOK (libs : List CLib) (d : CDef) (cx : DefCtx) (pin : CPin) : Prop where
  ok : match pin with
    | .port pi bi =>
      ∃ p p' pid, d.ports[pi]? = some p ∧ identOf p.data = some pid ∧ validIdentTok pid = true ∧
        (p.isArray = false → bi = 0) ∧
        findIdent (cx.ports.map (·.data)) pid = some pi ∧ cx.ports[pi]? = some p' ∧ bi < p'.width
    | .inst ii pi bi =>
      ∃ inst li di rd p p' pid iid inst' d',
        d.insts[ii]? = some inst ∧ inst.ref = some (li, di) ∧
        (libs[li]?).bind (fun l => l.defs[di]?) = some rd ∧ rd.ports[pi]? = some p ∧
        identOf p.data = some pid ∧ validIdentTok pid = true ∧
        identOf inst.data = some iid ∧ validIdentTok iid = true ∧
        (p.isArray = false → bi = 0) ∧
        findIdent (cx.insts.map (·.data)) iid = some ii ∧ cx.insts[ii]? = some inst' ∧
        inst'.ref = some (li, di) ∧ (defsOfLib cx.sc li)[di]? = some d' ∧
        findIdent (d'.ports.map (·.data)) pid = some pi ∧ d'.ports[pi]? = some p' ∧ bi < p'.width

theorem pin_roundtrip (libs : List CLib) (d : CDef) (cx : DefCtx) (pin : CPin) (h : PinOK libs d cx pin) :
    ∃ r, pinSExp libs d pin = .ok (.list (A "portref" :: r)) ∧ parsePortRef cx (A "portref" :: r) = .ok pin := by
  cases pin with
  | port pi bi =>
    obtain ⟨p, p', pid, hp, hid, hv, hsc, hf, hp', hb⟩ := h.ok
    by_cases ha : p.isArray = true
    · refine ⟨_, ?_, member_index_port cx pid bi pi p' hv hf hp' hb⟩
      simp [pinSExp, hp, needIdent, hid, ha, ok_bind, pure_ok]
    · have ha' : p.isArray = false := by simpa using ha
      have hb0 := hsc ha'
      subst hb0
      refine ⟨_, ?_, scalar_index_port cx pid pi p' hv hf hp' hb⟩
      simp [pinSExp, hp, needIdent, hid, ha', ok_bind, pure_ok]
  | inst ii pi bi =>
    obtain ⟨inst, li, di, rd, p, p', pid, iid, inst', d', hi, hr, hrd, hp, hid, hv, hiid, hiv, hsc, hfi, hi', hr', hd', hf, hp', hb⟩ := h.ok
    by_cases ha : p.isArray = true
    · refine ⟨_, ?_, member_index_inst cx pid iid bi pi ii li di inst' d' p' hv hiv hfi hi' hr' hd' hf hp' hb⟩
      simp [pinSExp, hi, hr, hrd, hp, needIdent, hid, hiid, ha, ok_bind, pure_ok]
    · have ha' : p.isArray = false := by simpa using ha
      have hb0 := hsc ha'
      subst hb0
      refine ⟨_, ?_, scalar_index_inst cx pid iid pi ii li di inst' d' p' hv hiv hfi hi' hr' hd' hf hp' hb⟩
      simp [pinSExp, hi, hr, hrd, hp, needIdent, hid, hiid, ha', ok_bind, pure_ok]

theorem joinedItem_portref (cx : DefCtx) (pins : List CPin) (t : List SExp) (pin : CPin)
    (hp : parsePortRef cx (A "portref" :: t) = .ok pin) :
    joinedItem cx pins (A "portref" :: t) = .ok (pins ++ [pin]) := by
  have hh := fun xs => headIs_A "portref" "portref" xs true rfl
  simp only [joinedItem, hh, if_true, hp, ok_bind, pure_ok]

theorem pins_roundtrip (libs : List CLib) (d : CDef) (cx : DefCtx) (pins acc : List CPin)
    (h : ∀ pin ∈ pins, PinOK libs d cx pin) :
    ∃ es, pins.mapM (pinSExp libs d) = .ok es ∧
      loopC (joinedItem cx) acc es = .ok (acc ++ pins, []) := by
  induction pins generalizing acc with
  | nil => exact ⟨[], rfl, by simp [loopC, pure_ok]⟩
  | cons pin rest ih =>
    obtain ⟨r, hw, hr⟩ := pin_roundtrip libs d cx pin (h pin (by simp))
    obtain ⟨es, hes, hl⟩ := ih (acc ++ [pin]) (fun q hq => h q (by simp [hq]))
    refine ⟨.list (A "portref" :: r) :: es, ?_, ?_⟩
    · simp only [List.mapM_cons, hw, hes, ok_bind, pure_ok]
    · simp only [loopC, joinedItem_portref cx acc r pin hr, ok_bind]
      simpa using hl

theorem allIdx_get {α : Type} (xs : List α) (f : Nat → α → Bool) (h : allIdx xs f = true) (k : Nat) (x : α)
    (hk : xs[k]? = some x) : f k x = true := by
  simp only [allIdx, List.all_eq_true] at h
  exact h (x, k) (List.mem_zipIdx_iff_getElem?.mpr hk)

end Spydr.Edif
