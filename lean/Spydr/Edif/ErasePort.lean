/-
  Erasure: the simulation of the reader's loop on a stripped item list (`loopC_strip`), and the simulation for ports.
-/
import Spydr.Edif.EraseScope
import Spydr.Edif.EraseSpec
namespace Spydr.Edif

/-- the loop on the stripped list simulates the loop on the original list; the step function of the stripped side may be another
    one (the same construct read in a related scope) -/
theorem loopC_strip {σ : Type} (h h' : σ → List SExp → R σ) (isNoise : List SExp → Bool) (sub : List SExp → List SExp)
    (Rl : σ → σ → Prop)
    (hk : ∀ s s' ys s1, Rl s s' → isNoise ys = false → h s ys = .ok s1 → ∃ s1', h' s' (sub ys) = .ok s1' ∧ Rl s1 s1')
    (hn : ∀ s s' ys s1, Rl s s' → isNoise ys = true → h s ys = .ok s1 → Rl s1 s') :
    ∀ (xs : List SExp) (s s' s1 : σ) (rest : List SExp), Rl s s' → loopC h s xs = .ok (s1, rest) →
      ∃ s1', loopC h' s' (stripItems isNoise sub xs) = .ok (s1', rest) ∧ Rl s1 s1' := by
  intro xs
  induction xs with
  | nil =>
    intro s s' s1 rest hr hl
    simp only [loopC, pure, Except.pure, Except.ok.injEq, Prod.mk.injEq] at hl
    obtain ⟨rfl, rfl⟩ := hl
    exact ⟨s', rfl, hr⟩
  | cons x r ih =>
    intro s s' s1 rest hr hl
    cases x with
    | atom a =>
      simp only [loopC, pure, Except.pure, Except.ok.injEq, Prod.mk.injEq] at hl
      obtain ⟨rfl, rfl⟩ := hl
      exact ⟨s', rfl, hr⟩
    | list ys =>
      obtain ⟨s2, hs2, hl⟩ := bind_eq_ok.mp hl
      cases hnz : isNoise ys with
      | true =>
        simp only [stripItems, hnz, if_true]
        exact ih s2 s' s1 rest (hn s s' ys s2 hr hnz hs2) hl
      | false =>
        obtain ⟨s2', hs2', hr2⟩ := hk s s' ys s2 hr hnz hs2
        simp only [stripItems, hnz, Bool.false_eq_true, if_false, loopC, hs2', ok_bind]
        exact ih s2 s2' s1 rest hr2 hl

theorem loopC_mono {σ : Type} {h h' : σ → List SExp → R σ} (hh : ∀ s ys, Sim Eq (h s ys) (h' s ys)) :
    ∀ (xs : List SExp) (s : σ), Sim Eq (loopC h s xs) (loopC h' s xs) := by
  intro xs
  induction xs with
  | nil => exact fun _ => Sim.refl _
  | cons x t ih =>
    intro s
    cases x with
    | atom a => exact Sim.refl _
    | list ys => exact Sim.bind (hh s ys) fun s2 _ e => e ▸ ih s2

structure PortStRel (s s' : PortSt) : Prop where
  pfx : s.m.pfx = [S "EDIF"]
  m : MRel KO s.m s'.m
  dir : s.dir = s'.dir
  hasDir : s.hasDir = s'.hasDir

theorem headIs_two (ys : List SExp) (a b : String) (ha : headIs ys a = true) (hb : headIs ys b = true) : S a = S b := by
  cases ys with
  | nil => simp [headIs] at ha
  | cons x r =>
    cases x with
    | list zs => simp [headIs, isKw] at ha
    | atom s =>
      simp only [headIs, isKw, beq_iff_eq] at ha hb
      rw [← ha, ← hb]

theorem not_kept_of_noise (ks : List String) (ys : List SExp) (k : String) (hn : noiseIn ks ys = true)
    (hk : k ∉ ks) : headIs ys k = false := by
  cases hh : headIs ys k with
  | false => rfl
  | true =>
    simp only [noiseIn, List.any_eq_true] at hn
    obtain ⟨x, hx, hxs⟩ := hn
    exact absurd (String.toList_inj.mp (headIs_two ys x k hxs hh) ▸ hx) hk

theorem noise_kept {ks : List String} {ys : List SExp} {k : String} (hn : noiseIn ks ys = true) (h : headIs ys k = true)
    (hk : k ∉ ks) : False :=
  Bool.false_ne_true ((not_kept_of_noise ks ys k hn hk).symm.trans h)

theorem not_noise {ks : List String} {ys : List SExp} {k : String} (h : noiseIn ks ys = false) (hk : k ∈ ks) :
    headIs ys k = false := by
  simp only [noiseIn, List.any_eq_false, Bool.not_eq_true] at h
  exact h k hk

theorem headIs_subPort (ys : List SExp) (k : String) : headIs (subPort ys) k = headIs ys k := by
  unfold subPort
  split
  · split <;> rfl
  · rfl

theorem parseDirection_subPort (ys : List SExp) : parseDirection (subPort ys) = parseDirection ys := by
  unfold subPort
  split
  · rename_i k t
    split
    · unfold canonDirTok parseDirection
      by_cases h1 : isKw t "inout" = true
      · simp only [h1, if_true]; rfl
      · by_cases h2 : isKw t "input" = true
        · simp only [h1, h2, if_true]; rfl
        · by_cases h3 : isKw t "output" = true
          · simp only [h1, h2, h3, if_true]; rfl
          · simp only [h1, h2, h3, Bool.false_eq_true, if_false]
    · rfl
  · rfl

theorem portItem_kept (s s' : PortSt) (ys : List SExp) (s1 : PortSt) (hr : PortStRel s s')
    (hnz : noiseIn ["property", "comment"] ys = false) (hs : portItem s ys = .ok s1) :
    ∃ s1', portItem s' (subPort ys) = .ok s1' ∧ PortStRel s1 s1' := by
  simp only [noiseIn, List.any_cons, List.any_nil, Bool.or_false, Bool.or_eq_false_iff] at hnz
  obtain ⟨hp, hc⟩ := hnz
  obtain ⟨h0, h1, h2, h3⟩ := hr
  unfold portItem at hs ⊢
  simp only [headIs_subPort, hp, hc, Bool.false_eq_true, if_false] at hs ⊢
  rw [← h3]
  peel hs
  rename_i hdir hnd _ d hd
  simp only [Except.ok.injEq] at hs
  subst hs
  refine ⟨{ s' with dir := d, hasDir := true }, ?_, h0, h1, rfl, rfl⟩
  simp only [hdir, hnd, if_true, Bool.false_eq_true, if_false, parseDirection_subPort, hd, bind, Except.bind, pure, Except.pure]

theorem portItem_noise (s s' : PortSt) (ys : List SExp) (s1 : PortSt) (hr : PortStRel s s')
    (hnz : noiseIn ["property", "comment"] ys = true) (hs : portItem s ys = .ok s1) : PortStRel s1 s' := by
  obtain ⟨h0, h1, h2, h3⟩ := hr
  have hdir := not_kept_of_noise _ ys "direction" hnz (by decide)
  unfold portItem at hs
  simp only [hdir, Bool.false_eq_true, if_false] at hs
  peel hs
  all_goals (simp only [Except.ok.injEq] at hs; subst hs)
  · have := parseProperty_sameK KO s.m _ ys (by rw [h0]; exact ns_properties_O) (by assumption)
    exact ⟨this.1.trans h0, h1.noise this, h2, h3⟩
  · have := parseComment_sameK KO s.m _ ys (by rw [h0]; exact ns_comments_O.plain) (by assumption)
    exact ⟨this.1.trans h0, h1.noise this, h2, h3⟩

theorem parsePort_strip (ys : List SExp) (p : CPort) (hs : parsePort ys = .ok p) :
    ∃ p', parsePort (stripPort ys) = .ok p' ∧ RelPort p p' := by
  obtain ⟨m, w, a, rest, s, rest', hh, hl, he, rfl⟩ := parsePort_iff.mp hs
  obtain ⟨⟨nm, hx, hall⟩, -, _, _, hn⟩ := portHeader_ok hh
  obtain ⟨s', hl', hrel⟩ := loopC_strip portItem portItem (noiseIn ["property", "comment"]) subPort PortStRel
    portItem_kept portItem_noise rest { m := m } { m := m } s rest'
    ⟨(nameDef_named _ _ _ _ rfl rfl hn).1, MRel.refl KO m, rfl, rfl⟩ hl
  cases ys with
  | nil => cases hx
  | cons kw t =>
    cases hx
    exact ⟨_, parsePort_iff.mpr ⟨m, w, a, _, s', rest', hall _, hl', he, rfl⟩, hrel.dir, rfl, rfl, rfl,
      sameOn_set_both KO _ _ _ _ hrel.m.2⟩

end Spydr.Edif
