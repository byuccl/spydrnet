/-
  Invariants of the reader's cell-level folds on arbitrary input, read off the accepted forms.  The net loop: every
  pin an existing port bit in the reader's view of the cell, cables clash-free and non-empty, the pin check exact.
  Ports, instances, nets, views: siblings clash-free, port shapes, every instance with a reference in scope.
-/
import Spydr.Edif.StructWF
import Spydr.Edif.LemmasBits
import Spydr.Edif.ReadForms
namespace Spydr.Edif

theorem pyIndex_lt (len : Nat) (i : Int) (b : Nat) (h : pyIndex len i = some b) : b < len := by
  unfold pyIndex at h
  split at h
  · split at h
    · cases h; assumption
    · cases h
  · split at h
    · rename_i h1 h2
      cases h
      have : 0 < (-i).toNat := by omega
      omega
    · cases h

/-- a pin is an existing port bit in the reader's view of the cell -/
def PinIn (look : Nat → List CDef) (ports : List CPort) (insts : List CInst) : CPin → Prop
  | .port pi bi => ∃ p, ports[pi]? = some p ∧ bi < p.width
  | .inst ii pi bi => ∃ i li di d p, insts[ii]? = some i ∧ i.ref = some (li, di) ∧
      (look li)[di]? = some d ∧ d.ports[pi]? = some p ∧ bi < p.width

abbrev PinCx (cx : DefCtx) : CPin → Prop := PinIn (defsOfLib cx.sc) cx.ports cx.insts

theorem parsePortRef_in (cx : DefCtx) (ys : List SExp) (pin : CPin) (h : parsePortRef cx ys = .ok pin) : PinCx cx pin := by
  unfold parsePortRef at h
  split at h
  · cases h
  obtain ⟨⟨ident, idx⟩, -, h⟩ := bind_ok h
  obtain ⟨⟨target, rest⟩, -, h⟩ := bind_ok h
  obtain ⟨-, -, h⟩ := bind_ok h
  -- a pin comes out only where every lookup succeeds: of a port of the cell, or of an instance's cell
  repeat' split at h
  all_goals cases h
  · exact ⟨_, ‹_›, pyIndex_lt _ _ _ ‹_›⟩
  · exact ⟨_, _, _, _, _, ‹_›, ‹_›, ‹_›, ‹_›, pyIndex_lt _ _ _ ‹_›⟩

theorem joinedItem_in (cx : DefCtx) {pins : List CPin} {ys : List SExp} {pins' : List CPin}
    (hp : ∀ p ∈ pins, PinCx cx p) (h : joinedItem cx pins ys = .ok pins') : ∀ p ∈ pins', PinCx cx p := by
  unfold joinedItem at h
  obtain h | h := ok_of_ite h
  · obtain ⟨pin, hpin, h⟩ := bind_ok h
    cases ok_of_pure h
    exact mem_snoc_all _ pins pin hp (parsePortRef_in cx ys _ hpin)
  · repeat' split at h
    all_goals cases h

theorem parseNet_in (cx : DefCtx) (ys : List SExp) (d : Data) (pins : List CPin)
    (h : parseNet cx ys = .ok (d, pins)) : ∀ p ∈ pins, PinCx cx p := by
  obtain ⟨_, _, _, _, _, _, -, -, hv, -⟩ := parseNet_iff.mp h
  exact loopC_ind (fun ps => ∀ p ∈ ps, PinCx cx p) (joinedItem_in cx) (by intro p hp; cases hp) hv

theorem conflicts_eq_any (sibs : List Data) (d : Data) : conflicts sibs d = sibs.any fun s => clash s d := rfl

theorem noClash_snoc (ds : List Data) (d : Data) (h : NoClash ds) (hc : conflicts ds d = false) : NoClash (ds ++ [d]) := by
  unfold NoClash at *
  rw [List.pairwise_append]
  refine ⟨h, by simp, ?_⟩
  intro a ha b hb
  simp only [List.mem_singleton] at hb
  subst hb
  rw [conflicts_eq_any, List.any_eq_false] at hc
  simpa using hc a ha

theorem addRetry_noClash (sibs : List Data) (d d' : Data) (h : NoClash sibs) (ha : addRetry sibs d = .ok d') :
    NoClash (sibs ++ [d']) := by
  obtain ⟨hc, rfl⟩ | ⟨_, _, -, -, -, -, hc, rfl⟩ := addRetry_iff.mp ha
  · exact noClash_snoc sibs _ h hc
  · exact noClash_snoc sibs _ h hc

structure CabsInv (look : Nat → List CDef) (ports : List CPort) (insts : List CInst) (cs : List CCable) : Prop where
  names : NoClash (cs.map (·.data))
  wires : ∀ c ∈ cs, c.wires ≠ []
  pins : ∀ c ∈ cs, ∀ p ∈ c.wires.flatten, PinIn look ports insts p

theorem cabsInv_snoc (look : Nat → List CDef) (ports : List CPort) (insts : List CInst) (cs : List CCable) (c : CCable) (h : CabsInv look ports insts cs)
    (hc : conflicts (cs.map (·.data)) c.data = false) (hw : c.wires ≠ []) (hp : ∀ p ∈ c.wires.flatten, PinIn look ports insts p) :
    CabsInv look ports insts (cs ++ [c]) :=
  ⟨by simpa using noClash_snoc _ _ h.names hc, mem_snoc_all _ cs c h.wires hw, mem_snoc_all _ cs c h.pins hp⟩

theorem mergeInto_wires_ne (ex : CCable) (i : Nat) (ps : List CPin) : (mergeInto ex i ps).wires ≠ [] := by
  obtain ⟨hlo, hlen⟩ := mergeBus_range ⟨ex.lower, ex.wires⟩ i ps
  rw [(mergeInto_eq ex i ps).2.1]
  intro e
  rw [e, hlo] at hlen
  simp only [List.length_nil] at hlen
  omega

theorem map_data_set (cs : List CCable) (k : Nat) (c' ex : CCable) (hk : cs[k]? = some ex) (hd : c'.data = ex.data) :
    (cs.set k c').map (·.data) = cs.map (·.data) := by
  obtain ⟨hlt, rfl⟩ := List.getElem?_eq_some_iff.mp hk
  rw [List.map_set, hd]
  exact (List.getElem_map (·.data) (l := cs) (h := by simpa using hlt)) ▸ List.set_getElem_self _

theorem cabsInv_merge (look : Nat → List CDef) (ports : List CPort) (insts : List CInst) (cs : List CCable) (k : Nat) (ex : CCable) (i : Nat) (ps : List CPin)
    (h : CabsInv look ports insts cs) (hk : cs[k]? = some ex) (hp : ∀ p ∈ ps, PinIn look ports insts p) :
    CabsInv look ports insts (cs.set k (mergeInto ex i ps)) := by
  have hm := mergeInto_eq ex i ps
  have hex : ex ∈ cs := List.mem_of_getElem? hk
  refine ⟨by rw [map_data_set cs k _ ex hk hm.2.2.1]; exact h.names, ?_, ?_⟩
  · intro c hc
    rcases List.mem_or_eq_of_mem_set hc with h1 | h1
    · exact h.wires c h1
    · subst h1; exact mergeInto_wires_ne ex i ps
  · intro c hc p hpm
    rcases List.mem_or_eq_of_mem_set hc with h1 | h1
    · exact h.pins c h1 p hpm
    · subst h1
      rw [hm.2.1] at hpm
      have := (flatten_mergeBus_perm ⟨ex.lower, ex.wires⟩ i ps).mem_iff.mp hpm
      rcases List.mem_append.mp this with h2 | h2
      · exact h.pins ex hex p h2
      · exact hp p h2

theorem multibitAdd_inv (look : Nat → List CDef) (ports : List CPort) (insts : List CInst) (cs cs' : List CCable) (d : Data) (ps : List CPin) (h : CabsInv look ports insts cs)
    (hp : ∀ p ∈ ps, PinIn look ports insts p) (ha : multibitAdd cs d ps = .ok cs') : CabsInv look ports insts cs' := by
  obtain ⟨c, rfl, hc, hw, -⟩ | ⟨k, ex, i, hk, rfl⟩ := (multibitAdd_ok ha).2
  · exact cabsInv_snoc look ports insts cs c h hc (by simp [hw]) (by simpa [hw] using hp)
  · exact cabsInv_merge look ports insts cs k ex i ps h hk hp

theorem encodePin_inj (a b : CPin) (h : encodePin a = encodePin b) : a = b := by
  cases a <;> cases b <;> simp [encodePin] at h ⊢ <;> omega

/-- `pinLe` compares these keys lexicographically: a linear order -/
def pinKey (a : CPin) : List Nat := [(encodePin a).1, (encodePin a).2.1, (encodePin a).2.2.1, (encodePin a).2.2.2]

theorem pinLe_iff (a b : CPin) : pinLe a b = true ↔ pinKey a ≤ pinKey b := by
  simp [pinLe, pinKey, List.cons_le_cons_iff, Nat.le_iff_lt_or_eq]

theorem pinLe_antisymm (a b : CPin) (h1 : pinLe a b = true) (h2 : pinLe b a = true) : a = b := by
  rw [pinLe_iff] at h1 h2
  have := List.le_antisymm h1 h2
  simp only [pinKey, List.cons.injEq, and_true] at this
  exact encodePin_inj a b (Prod.ext this.1 (Prod.ext this.2.1 (Prod.ext this.2.2.1 this.2.2.2)))

theorem pinLe_trans (a b c : CPin) (h1 : pinLe a b = true) (h2 : pinLe b c = true) : pinLe a c = true := by
  rw [pinLe_iff] at *
  exact List.le_trans h1 h2

theorem pinLe_total (a b : CPin) : (pinLe a b || pinLe b a) = true := by
  rw [Bool.or_eq_true, pinLe_iff, pinLe_iff]
  exact List.le_total _ _

theorem nodup_of_sorted_adjDup (l : List CPin) (hs : l.Pairwise fun a b => pinLe a b = true) (h : adjDup l = false) :
    l.Nodup := by
  induction l with
  | nil => exact List.nodup_nil
  | cons a r ih =>
    cases r with
    | nil => simp
    | cons b t =>
      simp only [adjDup, Bool.or_eq_false_iff, beq_eq_false_iff_ne, ne_eq] at h
      have hs' := List.pairwise_cons.mp hs
      have ihr := ih hs'.2 h.2
      rw [List.nodup_cons]
      refine ⟨?_, ihr⟩
      intro hm
      rcases List.mem_cons.mp hm with rfl | hm
      · exact h.1 rfl
      · -- a ≤ b ≤ a
        have hab := hs'.1 b (by simp)
        have hba := (List.pairwise_cons.mp hs'.2).1 a hm
        exact h.1 (pinLe_antisymm a b hab hba)

theorem nodup_of_hasDupPin (cables : List CCable) (h : hasDupPin cables = false) :
    (cables.flatMap fun c => c.wires.flatten).Nodup := by
  unfold hasDupPin at h
  have hp := List.mergeSort_perm (cables.flatMap fun c => c.wires.flatten) pinLe
  have hs := List.pairwise_mergeSort pinLe_trans pinLe_total (cables.flatMap fun c => c.wires.flatten)
  rw [← hp.nodup_iff]
  exact nodup_of_sorted_adjDup _ hs h

theorem pinIn_mono (look : Nat → List CDef) (ports ports' : List CPort) (insts insts' : List CInst) (pin : CPin)
    (h : PinIn look ports insts pin) : PinIn look (ports ++ ports') (insts ++ insts') pin := by
  cases pin with
  | port pi bi =>
    obtain ⟨p, hp, hb⟩ := h
    exact ⟨p, by rw [List.getElem?_append_left (List.getElem?_eq_some_iff.mp hp).1]; exact hp, hb⟩
  | inst ii pi bi =>
    obtain ⟨i, li, di, d, p, hi, hr, hd, hp, hb⟩ := h
    exact ⟨i, li, di, d, p, by rw [List.getElem?_append_left (List.getElem?_eq_some_iff.mp hi).1]; exact hi, hr, hd, hp, hb⟩

theorem cabsInv_mono (look : Nat → List CDef) (ports ports' : List CPort) (insts insts' : List CInst) (cs : List CCable)
    (h : CabsInv look ports insts cs) : CabsInv look (ports ++ ports') (insts ++ insts') cs :=
  ⟨h.names, h.wires, fun c hc p hp => pinIn_mono look ports ports' insts insts' p (h.pins c hc p hp)⟩

def RefIn (look : Nat → List CDef) (r : Nat × Nat) : Prop := ∃ d, (look r.1)[r.2]? = some d

structure TripInv (look : Nat → List CDef) (ports : List CPort) (insts : List CInst) (cables : List CCable) : Prop where
  hports : NoClash (ports.map (·.data))
  hshape : ∀ p ∈ ports, PortShapeB p = true
  hinsts : NoClash (insts.map (·.data))
  hrefs : ∀ i ∈ insts, ∃ r, i.ref = some r ∧ RefIn look r
  hcabs : CabsInv look ports insts cables

def CellInv (sc : Scope) (st : CellSt) : Prop := TripInv (defsOfLib sc) st.ports st.insts st.cables

/-- between `contents` blocks every pin is joined once: `hasDupPin` is tested at the end of each block -/
def ViewInv (sc : Scope) (st : CellSt) : Prop :=
  CellInv sc st ∧ (st.cables.flatMap fun c => c.wires.flatten).Nodup

theorem parseViewRef_ref (sc : Scope) (m : Meta) (ys : List SExp) (r : Nat × Nat) (h : parseViewRef sc m ys = .ok r) :
    RefIn (defsOfLib sc) r := by
  unfold parseViewRef at h
  split at h
  · obtain ⟨_, -, h⟩ := bind_ok h
    obtain ⟨r', -, h⟩ := bind_ok h
    split at h
    · cases h
    split at h
    · cases h
    obtain h | h := ok_of_ite h
    · cases ok_of_pure h
      exact ⟨_, ‹_›⟩
    · cases h
  · cases h
  · cases h

theorem parseInstance_ref (sc : Scope) (ys : List SExp) (i : CInst) (h : parseInstance sc ys = .ok i) :
    ∃ r, i.ref = some r ∧ RefIn (defsOfLib sc) r := by
  obtain ⟨m, zs, _, r, _, _, -, -, hr, -, -, rfl⟩ := parseInstance_iff.mp h
  exact ⟨r, rfl, parseViewRef_ref sc m zs r hr⟩

theorem contentsItem_inv (sc : Scope) {st : CellSt} {ys : List SExp} {st' : CellSt} (h : CellInv sc st)
    (hs : contentsItem sc st ys = .ok st') : CellInv sc st' := by
  obtain ⟨i, d, -, hi, hd, rfl⟩ | ⟨d, pins, cs, -, -, hv, hcs, rfl⟩ | ⟨m, -, rfl⟩ := contentsItem_ok hs
  · refine ⟨h.hports, h.hshape, ?_, ?_, ?_⟩
    · simpa using addRetry_noClash _ _ _ h.hinsts hd
    · exact mem_snoc_all _ _ _ h.hrefs (parseInstance_ref sc ys i hi)
    · simpa using cabsInv_mono (defsOfLib sc) st.ports [] st.insts [{ i with data := d }] st.cables h.hcabs
  · exact ⟨h.hports, h.hshape, h.hinsts, h.hrefs, multibitAdd_inv _ _ _ _ _ d pins h.hcabs (parseNet_in _ ys d pins hv) hcs⟩
  · exact h

theorem parsePort_shape (ys : List SExp) (p : CPort) (h : parsePort ys = .ok p) : PortShapeB p = true := by
  obtain ⟨_, width, isArr, _, _, _, hh, -, -, rfl⟩ := parsePort_iff.mp h
  obtain ⟨-, rfl | rfl, -⟩ := portHeader_ok hh
  · simp [PortShapeB, CPort.isArray, CPort.isScalar]
  · simp [PortShapeB]

theorem ifaceItem_inv (sc : Scope) {s : CellSt × Bool} {ys : List SExp} {s' : CellSt × Bool} (h : ViewInv sc s.1)
    (hs : ifaceItem s ys = .ok s') : ViewInv sc s'.1 := by
  obtain ⟨p, -, hp, hc, rfl⟩ | ⟨-, -, -, rfl⟩ | ⟨m, -, rfl⟩ := ifaceItem_ok hs
  · refine ⟨⟨?_, ?_, h.1.hinsts, h.1.hrefs, ?_⟩, h.2⟩
    · simpa using noClash_snoc _ _ h.1.hports hc
    · exact mem_snoc_all _ _ _ h.1.hshape (parsePort_shape ys p hp)
    · simpa using cabsInv_mono (defsOfLib sc) s.1.ports [p] s.1.insts [] s.1.cables h.1.hcabs
  · exact h
  · exact h

theorem viewItem_inv (sc : Scope) {s : CellSt × Bool × Bool} {ys : List SExp} {s' : CellSt × Bool × Bool}
    (h : ViewInv sc s.1) (hs : viewItem sc s ys = .ok s') : ViewInv sc s'.1 := by
  obtain ⟨st, rest, -, -, hv, -, hdup, rfl⟩ | ⟨m, b, -, rfl⟩ := viewItem_ok hs
  · exact ⟨loopC_ind (CellInv sc) (contentsItem_inv sc) h.1 hv, nodup_of_hasDupPin _ hdup⟩
  · exact h

theorem parseView_inv (sc : Scope) {st : CellSt} {ys : List SExp} {st' : CellSt} (h : ViewInv sc st)
    (hs : parseView sc st ys = .ok st') : ViewInv sc st' := by
  obtain ⟨_, _, _, _, _, _, s1, _, s2, _, -, -, -, -, -, h1, -, h2, -, rfl⟩ := parseView_iff.mp hs
  have i1 : ViewInv sc s1.1 := loopC_ind (fun s => ViewInv sc s.1) (ifaceItem_inv sc) h h1
  exact loopC_ind (fun s => ViewInv sc s.1) (viewItem_inv sc) i1 h2

theorem cellItem_inv (sc : Scope) {st : CellSt} {ys : List SExp} {st' : CellSt} (h : ViewInv sc st)
    (hs : cellItem sc st ys = .ok st') : ViewInv sc st' := by
  obtain ⟨-, hv⟩ | ⟨m, b, -, rfl⟩ := cellItem_ok hs
  · exact parseView_inv sc h hv
  · exact h

def DefInv (look : Nat → List CDef) (d : CDef) : Prop :=
  TripInv look d.ports d.insts d.cables ∧ (d.cables.flatMap fun c => c.wires.flatten).Nodup

theorem viewInv_empty (sc : Scope) (m : Meta) : ViewInv sc { m := m } := by
  exact ⟨⟨List.Pairwise.nil, (by intro p hp; cases hp), List.Pairwise.nil, (by intro i hi; cases hi),
    ⟨List.Pairwise.nil, (by intro c hc; cases hc), (by intro c hc; cases hc)⟩⟩, List.nodup_nil⟩

theorem parseCell_inv (sc : Scope) (ys : List SExp) (d : CDef) (h : parseCell sc ys = .ok d) : DefInv (defsOfLib sc) d := by
  obtain ⟨_, _, _, _, _, st, _, -, -, -, -, hl, -, rfl⟩ := parseCell_iff.mp h
  exact loopC_ind (ViewInv sc) (cellItem_inv sc) (viewInv_empty sc _) hl

end Spydr.Edif
