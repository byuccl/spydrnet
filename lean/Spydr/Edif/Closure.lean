/-
  Closure of the reader's image: the netlist the model reader returns for the text the model writer
  produced from a netlist inside C03's quantifier (`WFNet`) is again inside the quantifier, with the
  same identifiers, names, widths, references and pins.  Consequence (Props/C03Closure.lean):
  parse ∘ compose ∘ parse ∘ compose = parse ∘ compose on the model.
-/
import Spydr.Edif.LemmasView
namespace Spydr.Edif

theorem namedOK_img (d d' : Data) (h : NamedOK d (idOf d) (nmOf d)) (hi : identOf d' = some (idOf d))
    (hn : nameOf d' = some (nmOf d)) : NamedOK d' (idOf d') (nmOf d') := by
  have e1 : idOf d' = idOf d := idOf_of_identOf _ _ hi
  have e2 : nmOf d' = nmOf d := nmOf_of_nameOf _ _ hn
  rw [e1, e2]
  exact ⟨hi, h.hc, get?_of_getStr? _ _ _ hn, h.hs⟩

theorem readPort1_width (p : CPort) : (readPort1 p).width = p.width := by rw [readPort1, readPort]
theorem readPort1_dir (p : CPort) : (readPort1 p).dir = p.dir := by rw [readPort1, readPort]

theorem readPort1_isArray (p : CPort) : (readPort1 p).isArray = p.isArray := isArray_readPort p _ _

theorem portWF_img (p : CPort) (h : PortWF p) : PortWF (readPort1 p) := by
  refine ⟨namedOK_img p.data _ h.named (identOf_readPort _ _ _) (nameOf_readPort _ _ _), ?_, ?_⟩
  · rw [readPort1_width]; exact h.width
  · rw [readPort1_isArray, readPort1_width]; exact h.scalar

theorem imgLib_data_named (l : CLib) (h : NamedOK l.data (idOf l.data) (nmOf l.data)) :
    NamedOK (imgLib l).data (idOf (imgLib l).data) (nmOf (imgLib l).data) :=
  namedOK_img l.data _ h (imgLib_ident l) (nameOf_withName _ _ _)

theorem imgDef_data_named (d : CDef) (h : NamedOK d.data (idOf d.data) (nmOf d.data)) :
    NamedOK (imgDef d).data (idOf (imgDef d).data) (nmOf (imgDef d).data) :=
  namedOK_img d.data _ h (imgDef_ident d) (by simp only [imgDef, DW.read, dwOf, readCell, nameOf_cellData])

theorem netNames_img (libs : List CLib) (hn : NetNames libs) : NetNames (libs.map imgLib) := by
  refine ⟨?_, ?_, ?_, ?_, ?_, ?_⟩ <;>
    simp only [List.forall_mem_map, imgLib_defs, imgDef_ports, List.map_map]
  · exact fun l hl => imgLib_data_named l (hn.libNamed l hl)
  · exact (distinct_congr (fun l => (imgLib l).data) (·.data) _ idOf_imgLib nmOf_imgLib).mpr hn.libDistinct
  · exact fun l hl d hd => imgDef_data_named d (hn.defNamed l hl d hd)
  · exact fun l hl =>
      (distinct_congr (fun d => (imgDef d).data) (·.data) _ idOf_imgDef nmOf_imgDef).mpr (hn.defDistinct l hl)
  · exact fun l hl d hd p hp => portWF_img p (hn.portWF l hl d hd p hp)
  · exact fun l hl d hd =>
      (distinct_congr (fun p => (readPort1 p).data) (·.data) _ idOf_readPort1 nmOf_readPort1).mpr
        (hn.portDistinct l hl d hd)

def imgInst (i : CInst) : CInst := (iwOf i).read

theorem imgDef_insts (d : CDef) : (imgDef d).insts = d.insts.map imgInst := by
  simp [imgDef, DW.read, readCell, dwOf, imgInst]

theorem imgDef_cables (d : CDef) : (imgDef d).cables = d.cables.map readCable1 := rfl

theorem decodeProp_obj_inv (t : PropT) : decodeProp t.obj = some t := by
  obtain ⟨i, o, v⟩ := t
  cases o with
  | none => simp [PropT.obj, propKV, decodeProp]
  | some o => simp [PropT.obj, propKV, decodeProp]

theorem imgInst_ref (i : CInst) (li di : Nat) (h : i.ref = some (li, di)) : (imgInst i).ref = some (li, di) := by
  simp [imgInst, IW.read, readInst, iwOf, h]

theorem getElem?_imgLibs (libs : List CLib) (li : Nat) (l : CLib) (h : libs[li]? = some l) :
    (libs.map imgLib)[li]? = some (imgLib l) := by
  rw [List.getElem?_map, h]; rfl

theorem getElem?_imgDefs (l : CLib) (di : Nat) (d : CDef) (h : l.defs[di]? = some d) :
    (imgLib l).defs[di]? = some (imgDef d) := by
  rw [imgLib_defs, List.getElem?_map, h]; rfl

theorem props_withProps (D : Data) (ts : List PropT) (h : D.get? kPROPS = none) :
    (withProps D ts).get? kPROPS = none ∨ (withProps D ts).get? kPROPS = some (.list (ts.map PropT.obj)) := by
  cases ts with
  | nil => exact .inl h
  | cons a b => exact .inr (Data.get?_set_self _ _ _)

theorem instWF_img (libs : List CLib) (L D : Nat) (i : CInst) (h : InstWF libs L D i) :
    InstWF (libs.map imgLib) L D (imgInst i) := by
  refine ⟨namedOK_img i.data _ h.named (identOf_readInst _) (nameOf_readInst _), ?_, ?_⟩
  · obtain ⟨li, di, l2, rd, href, h2, hrd, hb⟩ := h.ref
    exact ⟨li, di, imgLib l2, imgDef rd, imgInst_ref i li di href, getElem?_imgLibs libs li l2 h2,
      getElem?_imgDefs l2 di rd hrd, hb⟩
  · have hok : ∀ t ∈ decodeProps i.data, PropOK t.1 t.2.1 t.2.2 := by
      unfold decodeProps
      rcases h.props with hp | ⟨ps, hp, hall⟩ <;> rw [hp]
      · exact fun _ ht => nomatch ht
      · exact (filterMap_decode ps hall).2
    refine (props_withProps _ (decodeProps i.data) (withName_nil_props _ _)).imp id fun hp => ⟨_, hp, ?_⟩
    simp only [List.forall_mem_map]
    exact fun t ht => ⟨t, decodeProp_obj_inv t, hok t ht⟩

theorem getElem?_imgPorts (d : CDef) (pi : Nat) (p : CPort) (h : d.ports[pi]? = some p) :
    (imgDef d).ports[pi]? = some (readPort1 p) := by
  rw [imgDef_ports, List.getElem?_map, h]; rfl

theorem pinWF_img (libs : List CLib) (d : CDef) (pin : CPin) (h : PinWF libs d pin) :
    PinWF (libs.map imgLib) (imgDef d) pin := by
  cases pin with
  | port pi bi =>
    obtain ⟨p, hp, hb, hsc⟩ := h
    exact ⟨readPort1 p, getElem?_imgPorts d pi p hp, by rw [readPort1_width]; exact hb,
      by rw [readPort1_isArray]; exact hsc⟩
  | inst ii pi bi =>
    obtain ⟨inst, li, di, l2, rd, p, hi, href, h2, hrd, hp, hb, hsc⟩ := h
    refine ⟨imgInst inst, li, di, imgLib l2, imgDef rd, readPort1 p, ?_, imgInst_ref inst li di href,
      getElem?_imgLibs libs li l2 h2, getElem?_imgDefs l2 di rd hrd, getElem?_imgPorts rd pi p hp,
      by rw [readPort1_width]; exact hb, by rw [readPort1_isArray]; exact hsc⟩
    rw [imgDef_insts, List.getElem?_map, hi]; rfl

theorem readCable_isArray_false (c : CCable) (i n : Str) :
    (readCable c i n).isArray = false ↔ c.wires.length = 1 ∧ c.isArray = false := by
  unfold readCable
  split
  · rename_i h; exact ⟨fun _ => h, fun _ => rfl⟩
  · rename_i h
    exact ⟨fun e => Bool.noConfusion ((busCable_isArray _ _ _ _).symm.trans e), fun hc => absurd hc h⟩

theorem readCable_lower (c : CCable) (i n : Str) :
    (readCable c i n).lower = if c.wires.length = 1 ∧ c.isArray = false then 0 else c.lower := by
  unfold readCable
  split <;> rfl

theorem idOf_readCable1 (c : CCable) : idOf (readCable1 c).data = idOf c.data :=
  idOf_of_identOf _ _ (identOf_readCable _ _ _)
theorem nmOf_readCable1 (c : CCable) : nmOf (readCable1 c).data = nmOf c.data :=
  nmOf_of_nameOf _ _ (nameOf_readCable _ _ _)

theorem cableWF_img (libs : List CLib) (d : CDef) (c : CCable) (h : CableWF libs d c) :
    CableWF (libs.map imgLib) (imgDef d) (readCable1 c) := by
  have hw : (readCable1 c).wires = c.wires := readCable_wires _ _ _
  refine ⟨namedOK_img c.data _ h.named (identOf_readCable _ _ _) (nameOf_readCable _ _ _), ?_, ?_, ?_, ?_⟩
  · rw [hw]; exact h.wires_ne
  · intro w hwm pin hp
    rw [hw] at hwm
    exact pinWF_img libs d pin (h.pins w hwm pin hp)
  · intro _ harr
    obtain ⟨h1, h2⟩ := (readCable_isArray_false c _ _).mp harr
    rw [nmOf_readCable1]
    exact h.scalar_plain h1 h2
  · intro hnot k hk
    have hc : ¬ (c.wires.length = 1 ∧ c.isArray = false) := fun hc =>
      hnot ⟨hw ▸ hc.1, (readCable_isArray_false c _ _).mpr hc⟩
    rw [nmOf_readCable1, idOf_readCable1, readCable1, readCable_lower, if_neg hc]
    exact h.bus_ok hc k (hw ▸ hk)

theorem cellWF_img (libs : List CLib) (L D : Nat) (d : CDef) (h : CellWF libs L D d) :
    CellWF (libs.map imgLib) L D (imgDef d) := by
  refine ⟨?_, ?_, ?_, ?_, ?_⟩ <;> simp only [imgDef_insts, imgDef_cables, List.forall_mem_map, List.map_map]
  · exact fun i hi => instWF_img libs L D i (h.insts i hi)
  · exact (distinct_congr (fun i => (imgInst i).data) (·.data) _ idOf_iwRead nmOf_iwRead).mpr h.instDistinct
  · exact fun c hc => cableWF_img libs d c (h.cables c hc)
  · exact (distinct_congr (fun c => (readCable1 c).data) (·.data) _ idOf_readCable1 nmOf_readCable1).mpr h.cableDistinct
  · rw [pins_readCables]; exact h.nodup

/-- the netlist the model reader returns for the text written from `n` (closed form of
    `edif_roundtrip_wf`) -/
def imgNet (n : CNetlist) (ts : List Int) (prog ver : Option Str) (t : CInst) (li di : Nat) : CNetlist :=
  readNetlist n (idOf n.data) (nmOf n.data) ts prog ver (n.libs.map lwOf) (idOf t.data) (nmOf t.data) li di

theorem imgNet_libs (n : CNetlist) (ts : List Int) (prog ver : Option Str) (t : CInst) (li di : Nat) :
    (imgNet n ts prog ver t li di).libs = n.libs.map imgLib := readNetlist_libs _ _ _ _ _ _ _ _ _ _

theorem imgNet_top (n : CNetlist) (ts : List Int) (prog ver : Option Str) (t : CInst) (li di : Nat) :
    (imgNet n ts prog ver t li di).top = some (readTop (idOf t.data) (nmOf t.data) li di) := rfl

def netData (i nm : Str) (ts : List Int) (prog ver : Option Str) : Data :=
  statusData ((withName [] i nm).set kVERSION (.list [.int 2, .int 0, .int 0])) ts prog ver

theorem imgNet_data (n : CNetlist) (ts : List Int) (prog ver : Option Str) (t : CInst) (li di : Nat) :
    (imgNet n ts prog ver t li di).data = netData (idOf n.data) (nmOf n.data) ts prog ver := rfl

theorem identOf_netData (i nm : Str) (ts : List Int) (prog ver : Option Str) :
    identOf (netData i nm ts prog ver) = some i := by
  rw [identOf, Data.getStr?, netData, statusData_keeps _ ts prog ver kIDENT (S_ne rfl) (S_ne rfl) (S_ne rfl) (S_ne rfl)]
  exact (identOf_set (withName [] i nm) kVERSION (.list [.int 2, .int 0, .int 0]) (S_ne rfl)).trans (identOf_withName [] i nm)

theorem nameOf_netData (i nm : Str) (ts : List Int) (prog ver : Option Str) :
    nameOf (netData i nm ts prog ver) = some nm :=
  (specName_status _ _ _ _).trans ((nameOf_set _ kVERSION _ (S_ne rfl)).trans (nameOf_withName [] i nm))

theorem get?_statusData (D : Data) (ts : List Int) (prog ver : Option Str) (k : Str) (hk : k ≠ kCOMM) :
    (statusData D ts prog ver).get? k =
      (match prog, ver with
        | some p, some v => ((D.set kTS (.list (ts.map .int))).set kPROG (.str p)).set kVER (.str v)
        | some p, none => (D.set kTS (.list (ts.map .int))).set kPROG (.str p)
        | none, _ => D.set kTS (.list (ts.map .int))).get? k := by
  unfold statusData
  simp only
  split <;> exact Data.get?_set_other _ _ _ _ hk

theorem statusOK_netData (i nm : Str) (ts : List Int) (prog ver : Option Str)
    (hps : ∀ p, prog = some p → p.all isStringChar = true) (hvs : ∀ v, ver = some v → v.all isStringChar = true) :
    StatusOK (netData i nm ts prog ver) prog ver := by
  refine ⟨?_, fun hsome => ?_, hps, hvs⟩
  · rw [netData, get?_statusData _ _ _ _ kPROG (S_ne rfl)]
    cases prog with
    | none =>
      dsimp only
      rw [Data.get?_set_other _ kTS kPROG _ (S_ne rfl), Data.get?_set_other _ kVERSION kPROG _ (S_ne rfl),
        get?_withName_other _ _ _ kPROG (S_ne rfl) (S_ne rfl)]
      rfl
    | some p =>
      cases ver with
      | none => exact Data.get?_set_self _ _ _
      | some v => exact (Data.get?_set_other _ _ _ _ (S_ne rfl)).trans (Data.get?_set_self _ _ _)
  · obtain ⟨p, rfl⟩ := Option.isSome_iff_exists.mp hsome
    rw [netData, get?_statusData _ _ _ _ kVER (S_ne rfl)]
    cases ver with
    | none =>
      dsimp only
      rw [Data.get?_set_other _ kPROG kVER _ (S_ne rfl), Data.get?_set_other _ kTS kVER _ (S_ne rfl),
        Data.get?_set_other _ kVERSION kVER _ (S_ne rfl), get?_withName_other _ _ _ kVER (S_ne rfl) (S_ne rfl)]
      rfl
    | some v => exact Data.get?_set_self _ _ _

theorem identOf_readTop (i nm : Str) (li di : Nat) : identOf (readTop i nm li di).data = some i :=
  (identOf_set _ (S "metadata_prefix") _ (S_ne rfl)).trans (identOf_withName [] i nm)

theorem nameOf_readTop (i nm : Str) (li di : Nat) : nameOf (readTop i nm li di).data = some nm :=
  (nameOf_set _ (S "metadata_prefix") _ (S_ne rfl)).trans (nameOf_withName [] i nm)

/-- **closure**: the reader's output on the text written from a netlist inside C03's quantifier is
    inside the quantifier — every element again carries a legal identifier and its name, siblings stay
    distinct (identifiers ignoring case), references still point to preceding cells, pins stay in range
    and on one wire, property dictionaries stay canonical. -/
theorem wfNet_img (n : CNetlist) (ts : List Int) (prog ver : Option Str) (t : CInst) (li di : Nat)
    (h : WFNet n prog ver t li di) :
    WFNet (imgNet n ts prog ver t li di) prog ver (readTop (idOf t.data) (nmOf t.data) li di) li di := by
  refine ⟨?_, ?_, ?_, ?_, imgNet_top _ _ _ _ _ _ _, ?_, rfl, ?_⟩
  · rw [imgNet_libs]; exact netNames_img n.libs h.names
  · intro L l hl D d hd
    rw [imgNet_libs, List.getElem?_map, Option.map_eq_some_iff] at hl
    obtain ⟨l0, hl0, rfl⟩ := hl
    rw [imgLib_defs, List.getElem?_map, Option.map_eq_some_iff] at hd
    obtain ⟨d0, hd0, rfl⟩ := hd
    rw [imgNet_libs]
    exact cellWF_img n.libs L D d0 (h.cells L l0 hl0 D d0 hd0)
  · rw [imgNet_data]
    exact namedOK_img n.data _ h.named (identOf_netData _ _ _ _ _) (nameOf_netData _ _ _ _ _)
  · rw [imgNet_data]
    exact statusOK_netData _ _ _ _ _ h.status.hps h.status.hvs
  · exact namedOK_img t.data _ h.tnamed (identOf_readTop _ _ _ _) (nameOf_readTop _ _ _ _)
  · obtain ⟨l, d, hl, hd⟩ := h.ttarget
    rw [imgNet_libs]
    exact ⟨imgLib l, imgDef d, getElem?_imgLibs _ _ _ hl, getElem?_imgDefs _ _ _ hd⟩

theorem scalarLower0_img (n : CNetlist) (ts : List Int) (prog ver : Option Str) (t : CInst) (li di : Nat) :
    ScalarLower0 (imgNet n ts prog ver t li di) := by
  simp only [ScalarLower0, imgNet_libs, List.forall_mem_map, imgLib_defs, imgDef_cables]
  intro l _ d _ c _ _ harr
  rw [readCable1, readCable_lower, if_pos ((readCable_isArray_false c _ _).mp harr)]

theorem map_idem {α : Type} (f : α → α) (h : ∀ x, f (f x) = f x) (l : List α) : (l.map f).map f = l.map f := by
  rw [List.map_map]; exact List.map_congr_left fun x _ => h x

theorem readPort1_idem (p : CPort) : readPort1 (readPort1 p) = readPort1 p := by
  rw [readPort1, idOf_readPort1, nmOf_readPort1, readPort, readPort1_isArray]; rfl

theorem readCable_scalarCable (D : Data) (w : List CPin) (i n : Str) :
    readCable (scalarCable D w) i n = scalarCable (withName [] i n) w := if_pos ⟨rfl, rfl⟩

theorem readCable_busCable (i n i' n' : Str) (lo : Nat) (ws : List (List CPin)) :
    readCable (busCable i n lo ws) i' n' = busCable i' n' lo ws :=
  if_neg fun h => Bool.noConfusion ((busCable_isArray i n lo ws).symm.trans h.2)

theorem readCable_idem (c : CCable) (i n : Str) : readCable (readCable c i n) i n = readCable c i n := by
  by_cases h : c.wires.length = 1 ∧ c.isArray = false
  · rw [show readCable c i n = scalarCable _ _ from if_pos h]; exact readCable_scalarCable _ _ i n
  · rw [show readCable c i n = busCable _ _ _ _ from if_neg h]; exact readCable_busCable i n i n _ _

theorem readCable1_idem (c : CCable) : readCable1 (readCable1 c) = readCable1 c := by
  rw [readCable1, idOf_readCable1, nmOf_readCable1]
  exact readCable_idem c _ _

theorem filterMap_decode_objs (ps : List PropT) : (ps.map PropT.obj).filterMap decodeProp = ps := by
  induction ps with
  | nil => rfl
  | cons a r ih => simp [decodeProp_obj_inv, ih]

theorem decodeProps_withProps (D : Data) (ps : List PropT) (h : D.get? kPROPS = none) :
    decodeProps (withProps D ps) = ps := by
  cases ps with
  | nil => simp [withProps, decodeProps, h]
  | cons a r =>
    simp only [withProps, decodeProps, Data.get?_set_self]
    exact filterMap_decode_objs (a :: r)

theorem imgInst_eq (i : CInst) : imgInst i =
    readInst (idOf i.data) (nmOf i.data) (decodeProps i.data) (i.ref.getD (0, 0)).1 (i.ref.getD (0, 0)).2 := rfl

theorem imgInst_idem (i : CInst) : imgInst (imgInst i) = imgInst i := by
  rw [imgInst_eq (imgInst i), show idOf (imgInst i).data = _ from idOf_iwRead i,
    show nmOf (imgInst i).data = _ from nmOf_iwRead i,
    show decodeProps (imgInst i).data = _ from decodeProps_withProps _ _ (withName_nil_props _ _)]
  rfl

theorem imgDef_eq (d : CDef) : imgDef d = readCell d (idOf d.data) (nmOf d.data) (d.insts.map iwOf) := rfl

theorem imgDef_idem (d : CDef) : imgDef (imgDef d) = imgDef d := by
  rw [imgDef_eq (imgDef d), idOf_imgDef, nmOf_imgDef, imgDef_eq d]
  simp only [readCell, List.map_map]
  congr 1
  · exact List.map_congr_left (fun p _ => readPort1_idem p)
  · exact List.map_congr_left (fun c _ => readCable1_idem c)
  · exact List.map_congr_left (fun i _ => imgInst_idem i)

theorem imgLib_idem (l : CLib) : imgLib (imgLib l) = imgLib l := by
  have e : ∀ l : CLib, imgLib l = { data := withName [] (idOf l.data) (nmOf l.data), defs := l.defs.map imgDef } :=
    fun l => by simp only [imgLib, LW.read, lwOf, readDefs_map]
  rw [e (imgLib l), idOf_imgLib, nmOf_imgLib, imgLib_defs, map_idem _ imgDef_idem, e l]

/-- **the image is a fixed point** (unconditionally): writing the reader's output and reading it again,
    with the same time stamp, gives the reader's output itself -/
theorem imgNet_idem (n : CNetlist) (ts ts' : List Int) (prog ver : Option Str) (t : CInst) (li di : Nat) :
    imgNet (imgNet n ts prog ver t li di) ts' prog ver (readTop (idOf t.data) (nmOf t.data) li di) li di =
      imgNet n ts' prog ver t li di := by
  rw [imgNet, imgNet_data, imgNet_libs, idOf_of_identOf _ _ (identOf_netData _ _ _ _ _),
    nmOf_of_nameOf _ _ (nameOf_netData _ _ _ _ _), idOf_of_identOf _ _ (identOf_readTop _ _ _ _),
    nmOf_of_nameOf _ _ (nameOf_readTop _ _ _ _)]
  simp only [imgNet, readNetlist, readLibs_map, map_idem _ imgLib_idem]

theorem view03_imgNet_ts (n : CNetlist) (ts ts' : List Int) (prog ver : Option Str) (t : CInst) (li di : Nat) :
    view03 (imgNet n ts' prog ver t li di) = view03 (imgNet n ts prog ver t li di) := by
  simp only [view03, imgNet_libs, imgNet_top, imgNet_data, specName_eq_nameOf, nameOf_netData]

end Spydr.Edif
