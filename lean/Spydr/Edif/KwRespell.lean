/-
  Re-spelling the keywords of an s-expression: any re-spelling that keeps the letters (up to case)
  is invisible to the reader.
-/
import Spydr.Edif.KwFile
namespace Spydr.Edif

theorem keepCase_congr (a b : Str) (h : lower a = lower b) : keepCase a = keepCase b := by
  simp [keepCase, h]

theorem normHead_recase (f : Str → Str) (hf : CaseOnly f) (a : Str) : normHead (f a) = normHead a := by
  unfold normHead
  rw [keepCase_congr (f a) a (hf.lower a)]
  by_cases hk : keepCase a = true
  · simp [hk, hf.kept a hk]
  · simp [hk, hf.lower a]

mutual
theorem norm_recase (f : Str → Str) (hf : CaseOnly f) (e : SExp) : norm (recase f e) = norm e := by
  cases e with
  | atom a => simp [recase]
  | list xs => simp [recase, normC_recaseC f hf xs]
theorem normC_recaseC (f : Str → Str) (hf : CaseOnly f) (xs : List SExp) : normC (recaseC f xs) = normC xs := by
  cases xs with
  | nil => simp [recaseC]
  | cons x r =>
    cases x with
    | atom a =>
      have h2 := normL_recaseL f hf r
      simp [recaseC, normH_atom, normHead_recase f hf a, h2]
    | list ys =>
      have h1 := normC_recaseC f hf ys
      have h2 := normL_recaseL f hf r
      simp [recaseC, normH_list, h1, h2]
theorem normL_recaseL (f : Str → Str) (hf : CaseOnly f) (xs : List SExp) : normL (recaseL f xs) = normL xs := by
  cases xs with
  | nil => simp [recaseL]
  | cons x r =>
    have h1 := norm_recase f hf x
    have h2 := normL_recaseL f hf r
    simp [recaseL, h1, h2]
end

theorem ofSExp_recase (f : Str → Str) (hf : CaseOnly f) (e : SExp) : ofSExp (recase f e) = ofSExp e :=
  ofSExp_of_norm_eq e (recase f e) (norm_recase f hf e)

def upperKw (a : Str) : Str := if keepCase a then a else a.map Char.toUpper

theorem caseOnly_upperKw : CaseOnly upperKw := by
  refine ⟨?_, ?_⟩
  · intro a
    unfold upperKw
    split
    · rfl
    · unfold Spydr.Edif.lower
      rw [List.map_map]
      apply List.map_congr_left
      intro c _
      exact toUpper_toLower c
  · intro a h
    simp [upperKw, h]

end Spydr.Edif
