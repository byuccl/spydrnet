/-
  multibit_merge: folding bit nets into one cable, in any order, with any bits missing.
-/
import Spydr.Edif.ModelRead
import Spydr.Common.List
namespace Spydr.Edif

variable {P : Type}

/-- the (lower index, wires) part of a cable; `mergeInto` only touches these -/
structure Bus (P : Type) where
  lo : Nat
  ws : List (List P)

/-- pins at absolute bit index j -/
def Bus.bit (c : Bus P) (j : Nat) : List P :=
  if j < c.lo then [] else c.ws.getD (j - c.lo) []

/-- the three branches of multibit_add_cable on (lower, wires) -/
def mergeBus (c : Bus P) (i : Nat) (ps : List P) : Bus P :=
  if i ≥ c.lo then
    if i < c.lo + c.ws.length then
      ⟨c.lo, c.ws.set (i - c.lo) (c.ws.getD (i - c.lo) [] ++ ps)⟩
    else
      ⟨c.lo, c.ws ++ List.replicate (i - c.lo - c.ws.length) [] ++ [ps]⟩
  else
    ⟨i, [ps] ++ List.replicate (c.lo - i - 1) [] ++ c.ws⟩

theorem mergeInto_eq (ex : CCable) (i : Nat) (ps : List CPin) :
    (mergeInto ex i ps).lower = (mergeBus ⟨ex.lower, ex.wires⟩ i ps).lo ∧
    (mergeInto ex i ps).wires = (mergeBus ⟨ex.lower, ex.wires⟩ i ps).ws ∧
    (mergeInto ex i ps).data = ex.data ∧ (mergeInto ex i ps).scalarFlag = ex.scalarFlag := by
  unfold mergeInto mergeBus
  by_cases h1 : i ≥ ex.lower
  · by_cases h2 : i < ex.lower + ex.wires.length <;> simp [h1, h2]
  · simp [h1]

theorem getD_set {α} (l : List α) (n k : Nat) (x d : α) (hn : n < l.length) :
    (l.set n x).getD k d = if k = n then x else l.getD k d := by
  simp only [List.getD_eq_getElem?_getD, List.getElem?_set, hn, if_true, eq_comm (a := n)]
  split <;> rfl

theorem getD_append {α} (l₁ l₂ : List α) (k : Nat) (d : α) :
    (l₁ ++ l₂).getD k d = if k < l₁.length then l₁.getD k d else l₂.getD (k - l₁.length) d := by
  simp only [List.getD_eq_getElem?_getD, List.getElem?_append]
  split <;> rfl

theorem getD_replicate {α} (n k : Nat) (d : α) : (List.replicate n d).getD k d = d := by
  simp only [List.getD_eq_getElem?_getD, List.getElem?_replicate]
  split <;> rfl

theorem getD_singleton {α} (k : Nat) (x d : α) : [x].getD k d = if k = 0 then x else d := by
  cases k <;> rfl

/-- the padding wires are empty, which is what `getD · []` reads outside the list anyway.  In each branch the
    lemmas above turn both sides into `if`s over positions; once `j` is placed relative to `i` and the old bus,
    arithmetic decides every condition. -/
theorem mergeBus_bit (c : Bus P) (i : Nat) (ps : List P) (j : Nat) :
    (mergeBus c i ps).bit j = if j = i then c.bit j ++ ps else c.bit j := by
  unfold mergeBus
  split
  · split
    · simp (disch := omega) only [Bus.bit, getD_set]
      by_cases hj : j = i
      · subst hj; simp (disch := omega) only [if_neg, if_true]
      · by_cases hlo : j < c.lo <;> simp (disch := omega) only [if_pos, if_neg]
    · simp only [Bus.bit, getD_append, getD_replicate, getD_singleton, List.length_append, List.length_replicate]
      by_cases hj : j = i
      · subst hj
        simp (disch := omega) only [if_pos, if_neg, getD_of_le, List.nil_append, if_true]
      · by_cases hlo : j < c.lo
        · simp (disch := omega) only [if_pos, if_neg]
        · by_cases hin : j - c.lo < c.ws.length <;>
            simp (disch := omega) only [if_pos, if_neg, getD_of_le, ite_self]
  · simp only [Bus.bit, getD_append, getD_replicate, getD_singleton, List.length_append, List.length_replicate,
      List.length_singleton]
    rcases Nat.lt_trichotomy j i with hj | rfl | hj
    · simp (disch := omega) only [if_pos, if_neg]
    · simp (disch := omega) only [if_pos, if_neg, List.nil_append, if_true]
    · by_cases hlo : j < c.lo
      · simp (disch := omega) only [if_pos, if_neg]
      · simp (disch := omega) only [if_pos, if_neg, show j - i - (1 + (c.lo - i - 1)) = j - c.lo by omega]

theorem mergeBus_range (c : Bus P) (i : Nat) (ps : List P) :
    (mergeBus c i ps).lo = min c.lo i ∧
      (mergeBus c i ps).lo + (mergeBus c i ps).ws.length = max (c.lo + c.ws.length) (i + 1) := by
  unfold mergeBus
  split
  · split
    · simp only [List.length_set]; omega
    · simp only [List.length_append, List.length_replicate, List.length_singleton]; omega
  · simp only [List.length_append, List.length_replicate, List.length_singleton]; omega

/-- one arriving bit net: the first one creates the cable (`lower_index := index`), later ones merge -/
def stepBit (c : Option (Bus P)) (b : Nat × List P) : Option (Bus P) :=
  match c with
  | none => some ⟨b.1, [b.2]⟩
  | some c => some (mergeBus c b.1 b.2)

def foldBits (bits : List (Nat × List P)) : Option (Bus P) := bits.foldl stepBit none

/-- what the text says about bit k: the pins of the bit net with that index, nothing if there is none -/
def pinsAt (bits : List (Nat × List P)) (k : Nat) : List P :=
  match bits.find? (fun b => b.1 == k) with
  | some b => b.2
  | none => []

def minIdx : List (Nat × List P) → Nat
  | [] => 0
  | [b] => b.1
  | b :: r => min b.1 (minIdx r)

def maxIdx : List (Nat × List P) → Nat
  | [] => 0
  | b :: r => max b.1 (maxIdx r)

theorem pinsAt_of_not_mem (bits : List (Nat × List P)) (k : Nat) (h : k ∉ bits.map (·.1)) :
    pinsAt bits k = [] := by
  unfold pinsAt
  rw [List.find?_eq_none.mpr fun x hx hxe => h (List.mem_map.mpr ⟨x, hx, beq_iff_eq.mp hxe⟩)]

theorem pinsAt_append_single (done : List (Nat × List P)) (b : Nat × List P)
    (hnew : b.1 ∉ done.map (·.1)) (k : Nat) :
    pinsAt (done ++ [b]) k = if k = b.1 then pinsAt done k ++ b.2 else pinsAt done k := by
  by_cases hk : k = b.1
  · subst hk
    have hnone := List.find?_eq_none.mpr fun x hx (hxe : (x.1 == b.1) = true) =>
      hnew (List.mem_map.mpr ⟨x, hx, beq_iff_eq.mp hxe⟩)
    simp [pinsAt, List.find?_append, hnone]
  · have hb : (b.1 == k) = false := beq_false_of_ne (Ne.symm hk)
    simp [pinsAt, List.find?_append, hb, hk]

/-- invariant of the fold: after the bits `done`, the bus holds at every index exactly what `done`
    says, starts at the least index seen, ends at the greatest -/
structure BusInv (done : List (Nat × List P)) (c : Bus P) : Prop where
  bit : ∀ k, c.bit k = pinsAt done k
  lo_mem : c.lo ∈ done.map (·.1)
  range : ∀ i ∈ done.map (·.1), c.lo ≤ i ∧ i < c.lo + c.ws.length
  hi_mem : ∃ i ∈ done.map (·.1), c.lo + c.ws.length = i + 1

theorem stepBit_inv (done : List (Nat × List P)) (c : Bus P) (b : Nat × List P)
    (h : BusInv done c) (hnew : b.1 ∉ done.map (·.1)) :
    BusInv (done ++ [b]) (mergeBus c b.1 b.2) := by
  obtain ⟨hlo, hhi⟩ := mergeBus_range c b.1 b.2
  have hr := h.range _ h.lo_mem
  have hmem : ∀ i, i ∈ (done ++ [b]).map (·.1) ↔ i ∈ done.map (·.1) ∨ i = b.1 := fun i => by
    simp only [List.map_append, List.map_cons, List.map_nil, List.mem_append, List.mem_singleton]
  refine ⟨fun k => by rw [mergeBus_bit, pinsAt_append_single done b hnew k, h.bit k], ?_, ?_, ?_⟩ <;>
    simp only [hmem]
  · rcases Nat.le_total c.lo b.1 with hc | hc
    · exact .inl (by rw [hlo, Nat.min_eq_left hc]; exact h.lo_mem)
    · exact .inr (by rw [hlo, Nat.min_eq_right hc])
  · rintro i (hi | rfl)
    · have := h.range i hi; omega
    · omega
  · obtain ⟨i, hi, he⟩ := h.hi_mem
    rcases Nat.le_total (b.1 + 1) (c.lo + c.ws.length) with hc | hc
    · exact ⟨i, .inl hi, by omega⟩
    · exact ⟨b.1, .inr rfl, by omega⟩

theorem first_inv (b : Nat × List P) : BusInv [b] (⟨b.1, [b.2]⟩ : Bus P) := by
  refine ⟨fun k => ?_, by simp, by simp, ⟨b.1, by simp, by simp⟩⟩
  rw [show pinsAt [b] k = _ from pinsAt_append_single [] b List.not_mem_nil k]
  simp only [Bus.bit, getD_singleton, pinsAt, List.find?_nil, List.nil_append]
  rcases Nat.lt_trichotomy k b.1 with h | rfl | h <;> simp (disch := omega) only [if_pos, if_neg, if_true]

theorem foldl_stepBit_inv (done rest : List (Nat × List P)) (c : Bus P) (h : BusInv done c)
    (hnd : ((done ++ rest).map (·.1)).Nodup) :
    ∃ c', rest.foldl stepBit (some c) = some c' ∧ BusInv (done ++ rest) c' := by
  induction rest generalizing done c with
  | nil => exact ⟨c, rfl, by simpa using h⟩
  | cons b r ih =>
    have hnew : b.1 ∉ done.map (·.1) := fun hm => by
      rw [List.map_append, List.map_cons] at hnd
      exact (List.nodup_append.mp hnd).2.2 _ hm _ List.mem_cons_self rfl
    rw [List.append_cons] at hnd ⊢
    exact ih (done ++ [b]) _ (stepBit_inv done c b h hnew) hnd

/-- **multibit_merge** (general form).  For ANY non-empty list of bit nets with pairwise distinct
    indices — any order, any gaps, any base — folding `multibit_add_cable`'s merge step yields ONE
    bus whose bit `k` holds exactly the pins the text gives for index `k` (nothing for a missing
    bit), whose lower index is the least index present and whose last wire is the greatest. -/
theorem multibit_merge (bits : List (Nat × List P)) (hne : bits ≠ [])
    (hnd : (bits.map (·.1)).Nodup) :
    ∃ c, foldBits bits = some c ∧ c.ws ≠ [] ∧
      (∀ k, c.bit k = pinsAt bits k) ∧
      (∀ j, j < c.ws.length → c.ws.getD j [] = pinsAt bits (c.lo + j)) ∧
      c.lo ∈ bits.map (·.1) ∧ (∀ i ∈ bits.map (·.1), c.lo ≤ i ∧ i < c.lo + c.ws.length) ∧
      (∃ i ∈ bits.map (·.1), c.lo + c.ws.length = i + 1) := by
  cases bits with
  | nil => exact absurd rfl hne
  | cons b r =>
    obtain ⟨c, hf, hinv⟩ := foldl_stepBit_inv [b] r ⟨b.1, [b.2]⟩ (first_inv b) hnd
    have hlen := (hinv.range _ hinv.lo_mem).2
    refine ⟨c, hf, List.ne_nil_of_length_pos (by omega), hinv.bit, fun j _ => ?_, hinv.lo_mem, hinv.range,
      hinv.hi_mem⟩
    have := hinv.bit (c.lo + j)
    rwa [Bus.bit, if_neg (by omega), Nat.add_sub_cancel_left] at this

/-- the bit nets of a cable with base index `base` and wires `ws`: bit `base + j` carries `ws[j]` -/
def bitNetsOf (base : Nat) (ws : List (List P)) : List (Nat × List P) :=
  ws.zipIdx.map (fun (w, j) => (base + j, w))

theorem bitNetsOf_idx (base : Nat) (ws : List (List P)) :
    (bitNetsOf base ws).map (·.1) = (List.range ws.length).map (base + ·) := by
  unfold bitNetsOf
  apply List.ext_getElem
  · simp
  · intro n h1 h2
    simp

theorem bitNetsOf_nodup (base : Nat) (ws : List (List P)) : ((bitNetsOf base ws).map (·.1)).Nodup := by
  rw [bitNetsOf_idx]
  exact List.Pairwise.map _ (fun a b h => by omega) (List.nodup_range (n := ws.length))

theorem pinsAt_of_mem (bits : List (Nat × List P)) (hnd : (bits.map (·.1)).Nodup)
    (b : Nat × List P) (hb : b ∈ bits) : pinsAt bits b.1 = b.2 := by
  unfold pinsAt
  rw [find?_key (·.1) hnd hb]

/-- **multibit_merge** in the words of C05: take any cable (base index `base`, wires `ws`), any
    sub-list of its bit nets, in any order (`bits` is a permutation of that sub-list).  Folding
    `multibit_add_cable` over `bits` yields one bus in which, for every original wire `j`:
    if bit `base + j` was among the nets it sits at position `(base + j) - lower` with exactly the
    pins `ws[j]`; every other position inside the bus (a gap) is empty. -/
theorem multibit_merge_perm (base : Nat) (ws : List (List P)) (sub bits : List (Nat × List P))
    (hsub : sub.Sublist (bitNetsOf base ws)) (hperm : bits.Perm sub) (hne : bits ≠ []) :
    ∃ c, foldBits bits = some c ∧
      (∀ b ∈ sub, c.lo ≤ b.1 ∧ b.1 < c.lo + c.ws.length ∧ c.ws.getD (b.1 - c.lo) [] = b.2) ∧
      (∀ j, j < c.ws.length → (∀ b ∈ sub, b.1 ≠ c.lo + j) → c.ws.getD j [] = []) ∧
      (∃ b ∈ sub, b.1 = c.lo) ∧ (∃ b ∈ sub, b.1 + 1 = c.lo + c.ws.length) := by
  have hnd_sub : (sub.map (·.1)).Nodup := (bitNetsOf_nodup base ws).sublist (hsub.map _)
  have hnd : (bits.map (·.1)).Nodup := (hperm.map _).nodup_iff.mpr hnd_sub
  obtain ⟨c, hf, _, hbit, hpos, hlo, hrange, hhi⟩ := multibit_merge bits hne hnd
  refine ⟨c, hf, ?_, ?_, ?_, ?_⟩
  · intro b hb
    have hb' : b ∈ bits := hperm.mem_iff.mpr hb
    have hr := hrange b.1 (List.mem_map_of_mem hb')
    refine ⟨hr.1, hr.2, ?_⟩
    have := hpos (b.1 - c.lo) (by omega)
    rw [this, show c.lo + (b.1 - c.lo) = b.1 by omega]
    exact pinsAt_of_mem bits hnd b hb'
  · intro j hj hgap
    rw [hpos j hj]
    refine pinsAt_of_not_mem bits _ fun hm => ?_
    obtain ⟨x, hx, hxe⟩ := List.mem_map.mp hm
    exact hgap x (hperm.mem_iff.mp hx) hxe
  · obtain ⟨b, hb, he⟩ := List.mem_map.mp hlo
    exact ⟨b, hperm.mem_iff.mp hb, he⟩
  · obtain ⟨i, hi, he⟩ := hhi
    obtain ⟨b, hb, hbe⟩ := List.mem_map.mp hi
    exact ⟨b, hperm.mem_iff.mp hb, by omega⟩

theorem flatMap_set_perm {α β : Type} (f : α → List β) (l : List α) (k : Nat) (x x' : α) (hk : l[k]? = some x)
    (ps : List β) (h : (f x').Perm (f x ++ ps)) : ((l.set k x').flatMap f).Perm (l.flatMap f ++ ps) := by
  induction l generalizing k with
  | nil => simp at hk
  | cons a r ih =>
    cases k with
    | zero =>
      simp only [List.getElem?_cons_zero, Option.some.injEq] at hk
      subst hk
      simp only [List.set_cons_zero, List.flatMap_cons]
      refine (List.Perm.append_right (r.flatMap f) h).trans ?_
      simp only [List.append_assoc]
      exact List.Perm.append_left _ List.perm_append_comm
    | succ k =>
      simp only [List.getElem?_cons_succ] at hk
      simp only [List.set_cons_succ, List.flatMap_cons, List.append_assoc]
      exact List.Perm.append_left _ (ih k hk)

theorem flatten_set_perm {α : Type} (ws : List (List α)) (j : Nat) (hj : j < ws.length) (ps : List α) :
    (ws.set j (ws.getD j [] ++ ps)).flatten.Perm (ws.flatten ++ ps) := by
  have hk : ws[j]? = some ws[j] := List.getElem?_eq_getElem hj
  have := flatMap_set_perm id ws j ws[j] (ws.getD j [] ++ ps) hk ps (by simp [List.getD_eq_getElem?_getD, hk])
  simpa using this

theorem flatten_mergeBus_perm (c : Bus CPin) (i : Nat) (ps : List CPin) :
    (mergeBus c i ps).ws.flatten.Perm (c.ws.flatten ++ ps) := by
  unfold mergeBus
  by_cases h1 : i ≥ c.lo
  · by_cases h2 : i < c.lo + c.ws.length
    · simp only [h1, h2, if_true]
      exact flatten_set_perm c.ws (i - c.lo) (by omega) ps
    · simp only [h1, h2, if_true, if_false]
      simp [List.flatten_append]
  · simp only [h1, if_false]
    simp only [List.flatten_append, List.flatten_replicate_nil, List.flatten_cons, List.flatten_nil, List.append_nil]
    exact List.perm_append_comm

end Spydr.Edif
