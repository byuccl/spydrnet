/-
  The two rewriting steps every run of the reader on a known input consists of.
-/
import Spydr.Edif.ModelRead
import Spydr.Common.Except
namespace Spydr.Edif

/-! Sequencing in `Except`.  Proved by `(rfl)` so that `simp` records each use as a rewrite step: as a
    definitional step it would leave the kernel to compare a `do` block with its continuation by
    evaluating the reader, dictionary keys included, and converting a string literal to its characters is
    slow there. -/
theorem ok_bind {ε α β : Type} (a : α) (f : α → Except ε β) : (Except.ok a >>= f) = f a := (rfl)
theorem pure_ok {ε α : Type} (a : α) : (pure a : Except ε α) = .ok a := (rfl)

end Spydr.Edif
