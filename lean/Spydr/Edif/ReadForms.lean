/-
  What the reader accepts, function by function, on arbitrary input: `f x = .ok y ↔ …` names the pieces an accepted
  run consists of (the sub-runs and the checks passed); for the item functions of the loops, which of the constructs
  an accepted item is.  Read from left to right this is the inversion every statement about ALL accepted texts starts
  from; from right to left it puts the run on a given text together from the runs on its parts.  The composite functions have
  a form here; the item functions of ports, instances and nets, the reference functions and the metadata functions are
  ladders of a few tests and are followed directly where a fact about them is needed.
-/
import Spydr.Edif.ReadBasics
namespace Spydr.Edif

theorem ok_of_pure {α : Type} {a b : α} (h : (pure a : R α) = .ok b) : b = a := by
  cases h; rfl

theorem ok_of_ite {α : Type} {c : Prop} [Decidable c] {x y : R α} {a : α} (h : (if c then x else y) = .ok a) :
    x = .ok a ∨ y = .ok a :=
  (ok_of_if h).imp And.right And.right

theorem ok_of_guard {α : Type} {b : Bool} {e : Err} {y : R α} {a : α}
    (h : (if !b then throw e else y) = .ok a) : b = true ∧ y = .ok a := by
  cases b
  · cases h
  · exact ⟨rfl, h⟩

theorem parseRename_iff {m m' : Meta} {ys : List SExp} : parseRename m ys = .ok m' ↔
    ∃ kw i o ident m1 orig m2, ys = [kw, i, o] ∧ isKw kw "rename" = true ∧ identOfS i = .ok ident ∧
      setAttr (m.push "identifier") (.str ident) = .ok m1 ∧ stringOfS o = .ok orig ∧
      setAttr (m1.pop.push "original_identifier") (.str orig) = .ok m2 ∧ m' = m2.pop := by
  constructor
  · intro h
    unfold parseRename at h
    split at h
    · obtain ⟨hk, h⟩ | ⟨-, h⟩ := ok_of_if h
      · obtain ⟨ident, hi, h⟩ := bind_ok h
        obtain ⟨m1, hm1, h⟩ := bind_ok h
        obtain ⟨orig, ho, h⟩ := bind_ok h
        obtain ⟨m2, hm2, h⟩ := bind_ok h
        exact ⟨_, _, _, ident, m1, orig, m2, rfl, hk, hi, hm1, ho, hm2, ok_of_pure h⟩
      · cases h
    · cases h
  · rintro ⟨kw, i, o, ident, m1, orig, m2, rfl, hk, hi, hm1, ho, hm2, rfl⟩
    simp only [parseRename, hk, hi, hm1, ho, hm2, ok_bind, pure_ok, if_true]

theorem nameDef_iff {m m' : Meta} {xs rest : List SExp} : nameDef m xs = .ok (m', rest) ↔
    ∃ x, xs = x :: rest ∧ ((∃ ys, x = .list ys ∧ parseRename m ys = .ok m') ∨
      ∃ ident m1, identOfS x = .ok ident ∧ setAttr (m.push "identifier") (.str ident) = .ok m1 ∧ m' = m1.pop) := by
  constructor
  · intro h
    unfold nameDef at h
    split at h
    · obtain ⟨m1, hm1, h⟩ := bind_ok h
      cases ok_of_pure h
      exact ⟨_, rfl, .inl ⟨_, rfl, hm1⟩⟩
    · obtain ⟨ident, hi, h⟩ := bind_ok h
      obtain ⟨m1, hm1, h⟩ := bind_ok h
      cases ok_of_pure h
      exact ⟨_, rfl, .inr ⟨ident, m1, hi, hm1, rfl⟩⟩
    · cases h
  · rintro ⟨x, rfl, ⟨ys, rfl, h⟩ | ⟨ident, m1, hi, hm1, rfl⟩⟩
    · simp only [nameDef, h, ok_bind, pure_ok]
    · cases x with
      | list ys => cases hi
      | atom a => simp only [nameDef, hi, hm1, ok_bind, pure_ok]

theorem nameDef_rest (m m1 : Meta) (x : SExp) (rest r : List SExp) (h : nameDef m (x :: rest) = .ok (m1, r)) :
    r = rest ∧ ∀ rest', nameDef m (x :: rest') = .ok (m1, rest') := by
  obtain ⟨_, hx, hn⟩ := nameDef_iff.mp h
  cases hx
  exact ⟨rfl, fun _ => nameDef_iff.mpr ⟨_, rfl, hn⟩⟩

theorem nameDef_tail {m m1 : Meta} {ys r : List SExp} (h : nameDef m ys.tail = .ok (m1, r)) :
    ∃ kw nm, ys = kw :: nm :: r ∧ ∀ r', nameDef m (nm :: r') = .ok (m1, r') := by
  obtain ⟨x, hx, hn⟩ := nameDef_iff.mp h
  cases ys with
  | nil => cases hx
  | cons kw t => exact ⟨kw, x, by rw [← hx]; rfl, fun _ => nameDef_iff.mpr ⟨_, rfl, hn⟩⟩

theorem mem_snoc_all {α : Type} (P : α → Prop) (xs : List α) (x : α) (h : ∀ a ∈ xs, P a) (hx : P x) :
    ∀ a ∈ xs ++ [x], P a :=
  List.forall_mem_append.mpr ⟨h, List.forall_mem_singleton.mpr hx⟩

theorem loopC_inv {σ : Type} (h : σ → List SExp → R σ) (P : σ → Prop)
    (hstep : ∀ s ys s', P s → h s ys = .ok s' → P s') :
    ∀ (xs : List SExp) (s s' : σ) (rest : List SExp), P s → loopC h s xs = .ok (s', rest) → P s' := by
  intro xs
  induction xs with
  | nil => intro s s' rest hp hl; cases hl; exact hp
  | cons x r ih =>
    intro s s' rest hp hl
    cases x with
    | atom a => cases hl; exact hp
    | list ys =>
      obtain ⟨s1, hs1, hl⟩ := bind_ok hl
      exact ih s1 s' rest (hstep s ys s1 hp hs1) hl

theorem loopC_ind {σ : Type} {h : σ → List SExp → R σ} (P : σ → Prop)
    (hstep : ∀ {s ys s'}, P s → h s ys = .ok s' → P s') {xs : List SExp} {s s' : σ} {rest : List SExp}
    (hp : P s) (hl : loopC h s xs = .ok (s', rest)) : P s' :=
  loopC_inv h P (fun _ _ _ => hstep) xs s s' rest hp hl

theorem parseNet_iff {cx : DefCtx} {ys : List SExp} {d : Data} {pins : List CPin} : parseNet cx ys = .ok (d, pins) ↔
    ∃ m js rest jr m' rest', nameDef Meta.new ys.tail = .ok (m, .list js :: rest) ∧ headIs js "joined" = true ∧
      loopC (joinedItem cx) [] js.tail = .ok (pins, jr) ∧ endC "joined" jr = .ok () ∧
      loopC netItem m rest = .ok (m', rest') ∧ endC "net" rest' = .ok () ∧ d = m'.data := by
  constructor
  · intro h
    unfold parseNet at h
    obtain ⟨⟨m, rest⟩, hm, h⟩ := bind_ok h
    dsimp only at h
    split at h
    · obtain ⟨hj, h⟩ | ⟨-, h⟩ := ok_of_if h
      · obtain ⟨⟨pl, jr⟩, hv, h⟩ := bind_ok h
        obtain ⟨⟨⟩, he, h⟩ := bind_ok h
        obtain ⟨⟨m', rest'⟩, hl, h⟩ := bind_ok h
        obtain ⟨⟨⟩, he', h⟩ := bind_ok h
        cases ok_of_pure h
        exact ⟨m, _, _, jr, m', rest', hm, hj, hv, he, hl, he', rfl⟩
      · cases h
    · cases h
  · rintro ⟨m, js, rest, jr, m', rest', hm, hj, hv, he, hl, he', rfl⟩
    simp only [parseNet, hm, hj, hv, he, hl, he', ok_bind, pure_ok, if_true]

theorem addRetry_iff {sibs : List Data} {d d' : Data} : addRetry sibs d = .ok d' ↔
    conflicts sibs d = false ∧ d' = d ∨
    ∃ n i, conflicts sibs d = true ∧ nameOf d = some n ∧ identOf d = some i ∧ n ≠ i ∧
      conflicts sibs (d.set kNAME (.str i)) = false ∧ d' = d.set kNAME (.str i) := by
  constructor
  · intro h
    unfold addRetry at h
    obtain ⟨hc, h⟩ | ⟨hc, h⟩ := ok_of_if h
    · exact .inl ⟨by simpa using hc, ok_of_pure h⟩
    split at h
    · rename_i n i hn hi
      obtain ⟨hni, h⟩ | ⟨-, h⟩ := ok_of_if h
      · obtain ⟨hc2, h⟩ | ⟨-, h⟩ := ok_of_if h
        · exact .inr ⟨n, i, by simpa using hc, hn, hi, hni, by simpa using hc2, ok_of_pure h⟩
        · cases h
      · cases h
    · cases h
  · rintro (⟨hc, rfl⟩ | ⟨n, i, hc, hn, hi, hni, hc2, rfl⟩)
    · simp only [addRetry, hc, Bool.not_false, if_true, pure_ok]
    · simp only [addRetry, hc, hn, hi, hni, hc2, Bool.not_true, Bool.not_false, Bool.false_eq_true, ne_eq, not_false_eq_true,
        if_true, if_false, pure_ok]

theorem multibitAdd_ok {cs cs' : List CCable} {d : Data} {ps : List CPin} (h : multibitAdd cs d ps = .ok cs') :
    (∃ i n, identOf d = some i ∧ nameOf d = some n) ∧
    ((∃ c, cs' = cs ++ [c] ∧ conflicts (cs.map (·.data)) c.data = false ∧ c.wires = [ps] ∧
        (c.data = d ∨ ∃ i n, c.data = (d.set kIDENT (.str i)).set kNAME (.str n))) ∨
      ∃ k ex i, cs[k]? = some ex ∧ cs' = cs.set k (mergeInto ex i ps)) := by
  unfold multibitAdd at h
  split at h
  · rename_i i n hi hn
    refine ⟨⟨i, n, hi, hn⟩, ?_⟩
    obtain ⟨-, h⟩ := ok_of_else h
    dsimp only at h
    split at h
    · split at h
      · obtain ⟨hc, h⟩ := ok_of_else h
        exact .inl ⟨_, ok_of_pure h, by simpa using hc, rfl, .inl rfl⟩
      · obtain ⟨-, h⟩ := ok_of_else h
        obtain ⟨hc, h⟩ := ok_of_else h
        exact .inl ⟨_, ok_of_pure h, by simpa using hc, rfl, .inr ⟨_, _, rfl⟩⟩
    · split at h
      · cases h
      split at h
      · obtain ⟨hc, h⟩ := ok_of_else h
        exact .inl ⟨_, ok_of_pure h, by simpa using hc, rfl, .inl rfl⟩
      obtain h | h := ok_of_ite h
      · obtain ⟨hc, h⟩ := ok_of_else h
        exact .inl ⟨_, ok_of_pure h, by simpa using hc, rfl, .inl rfl⟩
      · rename_i hk _ _ _ _
        exact .inr ⟨_, _, _, hk, ok_of_pure h⟩
  · cases h

theorem parseInstance_iff {sc : Scope} {ys : List SExp} {i : CInst} : parseInstance sc ys = .ok i ↔
    ∃ m zs rest r m' rest', nameDef Meta.new ys.tail = .ok (m, .list zs :: rest) ∧ headIs zs "viewref" = true ∧
      parseViewRef sc m zs = .ok r ∧ loopC instItem m rest = .ok (m', rest') ∧ endC "instance" rest' = .ok () ∧
      i = { data := m'.data, ref := some r } := by
  constructor
  · intro h
    unfold parseInstance at h
    obtain ⟨⟨m, rest0⟩, hm, h⟩ := bind_ok h
    obtain ⟨⟨ref, rest⟩, hv, h⟩ := bind_ok h
    obtain ⟨⟨m', rest'⟩, hl, h⟩ := bind_ok h
    obtain ⟨⟨⟩, he, h⟩ := bind_ok h
    cases ok_of_pure h
    split at hv
    · obtain ⟨hz, hv⟩ | ⟨-, hv⟩ := ok_of_if hv
      · obtain ⟨r, hr, hv⟩ := bind_ok hv
        cases ok_of_pure hv
        exact ⟨m, _, _, r, m', rest', hm, hz, hr, hl, he, rfl⟩
      · split at hv <;> cases hv
    · cases hv
  · rintro ⟨m, zs, rest, r, m', rest', hm, hz, hr, hl, he, rfl⟩
    simp only [parseInstance, hm, hz, hr, hl, he, ok_bind, pure_ok, if_true]

/-- what the element loops do to the dictionary of their element: the item is one of the constructs `ks`, and a comment, a
    property or a status block is read -/
def MetaStep (ks : List String) (m : Meta) (ys : List SExp) (m' : Meta) : Prop :=
  headAny ys ks = true ∧ (parseComment m ys = .ok m' ∨ parseProperty m ys = .ok m' ∨ parseStatus m ys = .ok m')

theorem contentsItem_ok {sc : Scope} {st st' : CellSt} {ys : List SExp} (h : contentsItem sc st ys = .ok st') :
    (∃ i d, headIs ys "instance" = true ∧ parseInstance sc ys = .ok i ∧ addRetry (st.insts.map (·.data)) i.data = .ok d ∧
      st' = { st with insts := st.insts ++ [{ i with data := d }] }) ∨
    (∃ d pins cs, ¬headIs ys "instance" = true ∧ headIs ys "net" = true ∧
      parseNet { sc := sc, ports := st.ports, insts := st.insts } ys = .ok (d, pins) ∧
      multibitAdd st.cables d pins = .ok cs ∧ st' = { st with cables := cs }) ∨
    ∃ m, MetaStep ["comment"] st.m ys m ∧ st' = { st with m := m } := by
  unfold contentsItem at h
  obtain ⟨hi, h⟩ | ⟨hi, h⟩ := ok_of_if h
  · obtain ⟨i, hp, h⟩ := bind_ok h
    obtain ⟨d, hd, h⟩ := bind_ok h
    exact .inl ⟨i, d, hi, hp, hd, ok_of_pure h⟩
  obtain ⟨hn, h⟩ | ⟨-, h⟩ := ok_of_if h
  · obtain ⟨⟨d, pins⟩, hv, h⟩ := bind_ok h
    obtain ⟨cs, hcs, h⟩ := bind_ok h
    exact .inr (.inl ⟨d, pins, cs, hi, hn, hv, hcs, ok_of_pure h⟩)
  obtain ⟨-, h⟩ := ok_of_else h
  obtain ⟨hc, h⟩ | ⟨-, h⟩ := ok_of_if h
  · obtain ⟨m, hm, h⟩ := bind_ok h
    exact .inr (.inr ⟨m, ⟨by simp [headAny, hc], .inl hm⟩, ok_of_pure h⟩)
  · cases (ok_of_else h).2

/-- the name part of `parse_port` (up to the items) -/
def portHeader (xs : List SExp) : R (Meta × Nat × Bool × List SExp) :=
  match xs with
  | .list zs :: rest =>
    if headIs zs "rename" then do
      let m ← parseRename Meta.new zs
      pure (m, 1, false, rest)
    else if headIs zs "array" then
      match zs.tail with
      | [] => throw (.syntax "array: expecting name")
      | zs1 => do
        let (m, r2) ← nameDef Meta.new zs1
        match r2 with
        | [n] => do
            let k ← intOfS n
            pure (m, k.toNat, true, rest)
        | _ => throw (.syntax "array: expecting one dimension")
    else throw (.syntax "expecting rename|array")
  | xs => do
    let (m, rest) ← nameDef Meta.new xs
    pure (m, 1, false, rest)

theorem portHeader_ok {xs : List SExp} {m : Meta} {w : Nat} {a : Bool} {rest : List SExp}
    (h : portHeader xs = .ok (m, w, a, rest)) :
    (∃ x, xs = x :: rest ∧ ∀ rest', portHeader (x :: rest') = .ok (m, w, a, rest')) ∧ (a = true ∨ w = 1) ∧
      ∃ zs r, nameDef Meta.new zs = .ok (m, r) := by
  rcases xs with _ | ⟨x, items⟩
  · cases h
  cases x with
  | atom s =>
    simp only [portHeader] at h
    obtain ⟨⟨m1, r1⟩, hm1, h⟩ := bind_ok h
    cases ok_of_pure h
    obtain ⟨rfl, hall⟩ := nameDef_rest _ _ _ _ _ hm1
    exact ⟨⟨_, rfl, fun r' => by simp only [portHeader, hall r', ok_bind, pure_ok]⟩, .inr rfl, _, _, hm1⟩
  | list zs =>
    simp only [portHeader] at h
    obtain ⟨hren, h⟩ | ⟨hren, h⟩ := ok_of_if h
    · obtain ⟨m1, hm1, h⟩ := bind_ok h
      cases ok_of_pure h
      exact ⟨⟨_, rfl, fun _ => by simp only [portHeader, hren, hm1, if_true, ok_bind, pure_ok]⟩, .inr rfl, [.list zs], [],
        nameDef_iff.mpr ⟨_, rfl, .inl ⟨_, rfl, hm1⟩⟩⟩
    obtain ⟨harr, h⟩ | ⟨-, h⟩ := ok_of_if h
    · split at h
      · cases h
      obtain ⟨⟨m1, r2⟩, hm1, h⟩ := bind_ok h
      dsimp only at h
      split at h
      · obtain ⟨k, hk, h⟩ := bind_ok h
        cases ok_of_pure h
        refine ⟨⟨_, rfl, fun _ => ?_⟩, .inl rfl, _, _, hm1⟩
        simp only [portHeader, hren, harr, Bool.false_eq_true, if_true, if_false, hm1, hk, ok_bind, pure_ok]
      · cases h
    · cases h

theorem parsePort_iff {ys : List SExp} {p : CPort} : parsePort ys = .ok p ↔
    ∃ m w a rest s rest', portHeader ys.tail = .ok (m, w, a, rest) ∧ loopC portItem { m := m } rest = .ok (s, rest') ∧
      endC "port" rest' = .ok () ∧
      p = { data := s.m.data.set (S "metadata_prefix") (.list [.str (S "EDIF")]), dir := s.dir, width := w,
            scalarFlag := !a, lower := 0 } := by
  show (do
    let (m, width, isArr, rest) ← portHeader ys.tail
    let (s, rest) ← loopC portItem { m := m } rest
    endC "port" rest
    pure { data := s.m.data.set (S "metadata_prefix") (.list [.str (S "EDIF")]),
           dir := s.dir, width := width, scalarFlag := !isArr, lower := 0 } : R CPort) = .ok p ↔ _
  constructor
  · intro h
    obtain ⟨⟨m, w, a, rest⟩, hh, h⟩ := bind_ok h
    obtain ⟨⟨s, rest'⟩, hl, h⟩ := bind_ok h
    obtain ⟨⟨⟩, he, h⟩ := bind_ok h
    exact ⟨m, w, a, rest, s, rest', hh, hl, he, ok_of_pure h⟩
  · rintro ⟨m, w, a, rest, s, rest', hh, hl, he, rfl⟩
    simp only [hh, hl, he, ok_bind, pure_ok]

theorem ifaceItem_ok {s s' : CellSt × Bool} {ys : List SExp} (h : ifaceItem s ys = .ok s') :
    (∃ p, headIs ys "port" = true ∧ parsePort ys = .ok p ∧ conflicts (s.1.ports.map (·.data)) p.data = false ∧
      s' = ({ s.1 with ports := s.1.ports ++ [p] }, s.2)) ∨
    (¬headIs ys "port" = true ∧ headIs ys "designator" = true ∧ (∀ st : CellSt, ifaceItem (st, s.2) ys = .ok (st, true)) ∧
      s' = (s.1, true)) ∨
    ∃ m, MetaStep ["property", "comment"] s.1.m ys m ∧ s' = ({ s.1 with m := m }, s.2) := by
  obtain ⟨st, hasDes⟩ := s
  unfold ifaceItem at h
  dsimp only at h
  obtain ⟨hp, h⟩ | ⟨hp, h⟩ := ok_of_if h
  · obtain ⟨p, hpp, h⟩ := bind_ok h
    obtain ⟨hc, h⟩ := ok_of_else h
    exact .inl ⟨p, hp, hpp, by simpa using hc, ok_of_pure h⟩
  obtain ⟨ha, h⟩ := ok_of_else h
  obtain ⟨hd, h⟩ | ⟨-, h⟩ := ok_of_if h
  · obtain ⟨hn, h⟩ := ok_of_else h
    exact .inr (.inl ⟨hp, hd, fun st => by simp only [ifaceItem, hp, ha, hd, hn, Bool.false_eq_true, if_true, if_false, pure_ok], ok_of_pure h⟩)
  obtain ⟨hc, h⟩ | ⟨-, h⟩ := ok_of_if h
  · obtain ⟨m, hm, h⟩ := bind_ok h
    exact .inr (.inr ⟨m, ⟨by simp [headAny, hc], .inr (.inl hm)⟩, ok_of_pure h⟩)
  obtain ⟨hc, h⟩ | ⟨-, h⟩ := ok_of_if h
  · obtain ⟨m, hm, h⟩ := bind_ok h
    exact .inr (.inr ⟨m, ⟨by simp [headAny, hc], .inl hm⟩, ok_of_pure h⟩)
  · cases (ok_of_else h).2

theorem viewItem_ok {sc : Scope} {s s' : CellSt × Bool × Bool} {ys : List SExp} (h : viewItem sc s ys = .ok s') :
    (∃ st rest, headIs ys "contents" = true ∧ s.2.2 = false ∧ loopC (contentsItem sc) s.1 ys.tail = .ok (st, rest) ∧
      endC "contents" rest = .ok () ∧ hasDupPin st.cables = false ∧ s' = (st, s.2.1, true)) ∨
    ∃ m b, MetaStep ["status", "comment", "property"] s.1.m ys m ∧ s' = ({ s.1 with m := m }, b, s.2.2) := by
  obtain ⟨st, hasStatus, hasContents⟩ := s
  unfold viewItem at h
  dsimp only at h
  obtain ⟨hc, h⟩ | ⟨-, h⟩ := ok_of_if h
  · obtain ⟨m, hm, h⟩ := bind_ok (ok_of_else h).2
    exact .inr ⟨m, _, ⟨by simp [headAny, hc], .inr (.inr hm)⟩, ok_of_pure h⟩
  obtain ⟨hc, h⟩ | ⟨-, h⟩ := ok_of_if h
  · obtain ⟨hn, h⟩ := ok_of_else h
    obtain ⟨⟨st1, rest⟩, hv, h⟩ := bind_ok h
    obtain ⟨⟨⟩, he, h⟩ := bind_ok h
    obtain ⟨hd, h⟩ := ok_of_else h
    exact .inl ⟨st1, rest, hc, by simpa using hn, hv, he, by simpa using hd, ok_of_pure h⟩
  obtain ⟨hc, h⟩ | ⟨-, h⟩ := ok_of_if h
  · obtain ⟨m, hm, h⟩ := bind_ok h
    exact .inr ⟨m, _, ⟨by simp [headAny, hc], .inl hm⟩, ok_of_pure h⟩
  obtain ⟨hc, h⟩ | ⟨-, h⟩ := ok_of_if h
  · obtain ⟨m, hm, h⟩ := bind_ok h
    exact .inr ⟨m, _, ⟨by simp [headAny, hc], .inr (.inl hm)⟩, ok_of_pure h⟩
  · cases (ok_of_else h).2

theorem parseView_iff {sc : Scope} {st st' : CellSt} {ys : List SExp} : parseView sc st ys = .ok st' ↔
    ∃ m k t ifc rest m2 s1 ir s2 rest2,
      nameDef (st.m.push "view") ys.tail = .ok (m, .list [k, t] :: .list ifc :: rest) ∧ isKw k "viewtype" = true ∧
      viewTypes.any (isKw t) = true ∧ setAttr (m.push "viewType") (.str (atomText k)) = .ok m2 ∧
      headIs ifc "interface" = true ∧ loopC ifaceItem ({ st with m := m2.pop }, false) ifc.tail = .ok (s1, ir) ∧
      endC "interface" ir = .ok () ∧ loopC (viewItem sc) (s1.1, false, false) rest = .ok (s2, rest2) ∧
      endC "view" rest2 = .ok () ∧ st' = { s2.1 with m := s2.1.m.pop } := by
  constructor
  · intro h
    unfold parseView at h
    obtain ⟨⟨m, rest⟩, hm, h⟩ := bind_ok h
    dsimp only at h
    split at h
    · split at h
      · obtain ⟨hk, h⟩ := ok_of_guard h
        obtain ⟨ht, h⟩ := ok_of_guard h
        obtain ⟨m2, hm2, h⟩ := bind_ok h
        obtain ⟨hi, h⟩ := ok_of_guard h
        obtain ⟨⟨⟨st1, b1⟩, ir⟩, h1, h⟩ := bind_ok h
        obtain ⟨⟨⟩, he1, h⟩ := bind_ok h
        obtain ⟨⟨⟨st2, b2, b3⟩, rest2⟩, h2, h⟩ := bind_ok h
        obtain ⟨⟨⟩, he2, h⟩ := bind_ok h
        exact ⟨m, _, _, _, _, m2, (st1, b1), ir, (st2, b2, b3), rest2, hm, hk, ht, hm2, hi, h1, he1, h2, he2, ok_of_pure h⟩
      · cases h
    · cases h
  · rintro ⟨m, k, t, ifc, rest, m2, ⟨st1, b1⟩, ir, ⟨st2, b2, b3⟩, rest2, hm, hk, ht, hm2, hi, h1, he1, h2, he2, rfl⟩
    simp only [parseView, hm, hk, ht, hm2, hi, h1, he1, h2, he2, ok_bind, Bool.not_true, Bool.false_eq_true, if_false]
    rfl

theorem cellItem_ok {sc : Scope} {st st' : CellSt} {ys : List SExp} (h : cellItem sc st ys = .ok st') :
    headIs ys "view" = true ∧ parseView sc st ys = .ok st' ∨
    ∃ m b, MetaStep ["status", "property", "comment"] st.m ys m ∧ st' = { st with m := m, hasStatus := b } := by
  unfold cellItem at h
  obtain ⟨hc, h⟩ | ⟨-, h⟩ := ok_of_if h
  · obtain ⟨m, hm, h⟩ := bind_ok (ok_of_else h).2
    exact .inr ⟨m, _, ⟨by simp [headAny, hc], .inr (.inr hm)⟩, ok_of_pure h⟩
  obtain h | ⟨-, h⟩ := ok_of_if h
  · exact .inl h
  obtain h | h := ok_of_ite h
  · cases (ok_of_else h).2
  obtain ⟨hc, h⟩ | ⟨-, h⟩ := ok_of_if h
  · obtain ⟨m, hm, h⟩ := bind_ok h
    exact .inr ⟨m, _, ⟨by simp [headAny, hc], .inr (.inl hm)⟩, ok_of_pure h⟩
  obtain ⟨hc, h⟩ | ⟨-, h⟩ := ok_of_if h
  · obtain ⟨m, hm, h⟩ := bind_ok h
    exact .inr ⟨m, _, ⟨by simp [headAny, hc], .inl hm⟩, ok_of_pure h⟩
  · cases (ok_of_else h).2

theorem parseCell_iff {sc : Scope} {ys : List SExp} {d : CDef} : parseCell sc ys = .ok d ↔
    ∃ m k t rest m2 st rest2, nameDef Meta.new ys.tail = .ok (m, .list [k, t] :: rest) ∧ isKw k "celltype" = true ∧
      ["generic", "tie", "ripper"].any (isKw t) = true ∧ setAttr (m.push "cellType") (.str (atomText k)) = .ok m2 ∧
      loopC (cellItem sc) { m := m2.pop } rest = .ok (st, rest2) ∧ endC "cell" rest2 = .ok () ∧
      d = { data := st.m.data, ports := st.ports, cables := st.cables, insts := st.insts } := by
  constructor
  · intro h
    unfold parseCell at h
    obtain ⟨⟨m, rest⟩, hm, h⟩ := bind_ok h
    dsimp only at h
    split at h
    · obtain ⟨hk, h⟩ := ok_of_guard h
      obtain ⟨ht, h⟩ := ok_of_guard h
      obtain ⟨m2, hm2, h⟩ := bind_ok h
      obtain ⟨⟨st, rest2⟩, hl, h⟩ := bind_ok h
      obtain ⟨⟨⟩, he, h⟩ := bind_ok h
      exact ⟨m, _, _, _, m2, st, rest2, hm, hk, ht, hm2, hl, he, ok_of_pure h⟩
    · cases h
  · rintro ⟨m, k, t, rest, m2, st, rest2, hm, hk, ht, hm2, hl, he, rfl⟩
    simp only [parseCell, hm, hk, ht, hm2, hl, he, ok_bind, Bool.not_true, Bool.false_eq_true, if_false]
    rfl

theorem libItem_ok {libs : List CLib} {st st' : LibSt} {ys : List SExp} (h : libItem libs st ys = .ok st') :
    (∃ c d, headIs ys "cell" = true ∧ parseCell { libs := libs, curLib := st.m.data, curDefs := st.defs } ys = .ok c ∧
      addRetry (st.defs.map (·.data)) c.data = .ok d ∧ st' = { st with defs := st.defs ++ [{ c with data := d }] }) ∨
    ∃ m b, MetaStep ["status", "comment"] st.m ys m ∧ st' = { st with m := m, hasStatus := b } := by
  unfold libItem at h
  obtain ⟨hc, h⟩ | ⟨-, h⟩ := ok_of_if h
  · obtain ⟨m, hm, h⟩ := bind_ok (ok_of_else h).2
    exact .inr ⟨m, _, ⟨by simp [headAny, hc], .inr (.inr hm)⟩, ok_of_pure h⟩
  obtain ⟨hc, h⟩ | ⟨-, h⟩ := ok_of_if h
  · obtain ⟨c, hp, h⟩ := bind_ok h
    obtain ⟨d, hd, h⟩ := bind_ok h
    exact .inl ⟨c, d, hc, hp, hd, ok_of_pure h⟩
  obtain ⟨hc, h⟩ | ⟨-, h⟩ := ok_of_if h
  · obtain ⟨m, hm, h⟩ := bind_ok h
    exact .inr ⟨m, _, ⟨by simp [headAny, hc], .inl hm⟩, ok_of_pure h⟩
  · cases (ok_of_else h).2

theorem parseLibrary_iff {libs : List CLib} {ext : Bool} {ys : List SExp} {l : CLib} : parseLibrary libs ext ys = .ok l ↔
    ∃ m lv tk nd rest m2 st rest2,
      nameDef (if ext then { Meta.new with data := [(S "EDIF.external", .bool true)] } else Meta.new) ys.tail =
        .ok (m, .list lv :: .list [tk, .list nd] :: rest) ∧
      levelOf m lv "ediflevel" "edifLevel" = .ok m2 ∧ isKw tk "technology" = true ∧ headIs nd "numberdefinition" = true ∧
      loopC (libItem libs) { m := m2 } rest = .ok (st, rest2) ∧ endC "library" rest2 = .ok () ∧
      l = { data := st.m.data, defs := st.defs } := by
  constructor
  · intro h
    unfold parseLibrary at h
    obtain ⟨⟨m, rest⟩, hm, h⟩ := bind_ok h
    dsimp only at h
    split at h
    · obtain ⟨m2, hm2, h⟩ := bind_ok h
      obtain ⟨htk, h⟩ := ok_of_guard h
      obtain ⟨hnd, h⟩ := ok_of_guard h
      obtain ⟨⟨st, rest2⟩, hl, h⟩ := bind_ok h
      obtain ⟨⟨⟩, he, h⟩ := bind_ok h
      exact ⟨m, _, _, _, _, m2, st, rest2, hm, hm2, htk, hnd, hl, he, ok_of_pure h⟩
    · cases h
  · rintro ⟨m, lv, tk, nd, rest, m2, st, rest2, hm, hm2, htk, hnd, hl, he, rfl⟩
    simp only [parseLibrary, hm, hm2, htk, hnd, hl, he, ok_bind, Bool.not_true, Bool.false_eq_true, if_false]
    rfl

theorem parseDesign_ok {libs : List CLib} {ys : List SExp} {t : CInst} (h : parseDesign libs ys = .ok t) :
    ∃ nm m li l cid di, nameDef Meta.new [nm] = .ok (m, []) ∧ libs[li]? = some l ∧
      findIdent (l.defs.map (·.data)) cid = some di ∧
      t = { data := m.data.set (S "metadata_prefix") (.list []), ref := some (li, di) } := by
  unfold parseDesign at h
  split at h
  · rename_i nm _ _ _
    obtain ⟨m, hm, h⟩ := bind_ok h
    have hn : nameDef Meta.new [nm] = .ok (m, []) := by
      cases nm with
      | list zs => rw [nameDef, show parseRename Meta.new zs = .ok m from hm]; rfl
      | atom a =>
        obtain ⟨ident, hi, hm⟩ := bind_ok hm
        obtain ⟨m1, hm1, hm⟩ := bind_ok hm
        cases ok_of_pure hm
        simp only [nameDef, hi, hm1, bind, Except.bind, pure, Except.pure]
    split at h
    · obtain ⟨-, h⟩ := ok_of_else h
      split at h
      · cases h
      split at h
      · cases h
      split at h
      · cases h
      · rename_i li _ _ l hl _ di hdi
        exact ⟨nm, m, li, l, _, di, hn, hl, hdi, ok_of_pure h⟩
    · cases h
  · cases h

theorem bodyItem_ok {st st' : BodySt} {ys : List SExp} (h : bodyItem st ys = .ok st') :
    (∃ l, (headIs ys "library" || headIs ys "external") = true ∧ parseLibrary st.libs (headIs ys "external") ys = .ok l ∧
      conflicts (st.libs.map (·.data)) l.data = false ∧ st' = { st with libs := st.libs ++ [l] }) ∨
    (∃ t, ¬(headIs ys "library" || headIs ys "external") = true ∧ headIs ys "design" = true ∧
      parseDesign st.libs ys = .ok t ∧ st' = { st with top := some t }) ∨
    ∃ m b, MetaStep ["status", "comment"] st.m ys m ∧ st' = { st with m := m, hasStatus := b } := by
  unfold bodyItem at h
  obtain ⟨hc, h⟩ | ⟨-, h⟩ := ok_of_if h
  · obtain ⟨m, hm, h⟩ := bind_ok (ok_of_else h).2
    exact .inr (.inr ⟨m, _, ⟨by simp [headAny, hc], .inr (.inr hm)⟩, ok_of_pure h⟩)
  obtain ⟨hlib, h⟩ | ⟨hlib, h⟩ := ok_of_if h
  · obtain ⟨l, hl, h⟩ := bind_ok h
    obtain ⟨hc, h⟩ := ok_of_else h
    exact .inl ⟨l, hlib, hl, by simpa using hc, ok_of_pure h⟩
  obtain ⟨hd, h⟩ | ⟨-, h⟩ := ok_of_if h
  · obtain ⟨t, ht, h⟩ := bind_ok h
    exact .inr (.inl ⟨t, hlib, hd, ht, ok_of_pure h⟩)
  obtain ⟨hc, h⟩ | ⟨-, h⟩ := ok_of_if h
  · obtain ⟨m, hm, h⟩ := bind_ok h
    exact .inr (.inr ⟨m, _, ⟨by simp [headAny, hc], .inl hm⟩, ok_of_pure h⟩)
  · cases (ok_of_else h).2

theorem ofSExp_iff {e : SExp} {n : CNetlist} : ofSExp e = .ok n ↔
    ∃ ys m ver lvl kk kl rest vs m2 m3 m4 st rest2, e = .list ys ∧ headIs ys "edif" = true ∧
      nameDef Meta.new ys.tail = .ok (m, .list ver :: .list lvl :: .list [kk, .list kl] :: rest) ∧
      headIs ver "edifversion" = true ∧ intsOf ver.tail = .ok vs ∧ vs.length = 3 ∧
      setAttr (m.push "edifVersion") (.list (vs.map .int)) = .ok m2 ∧
      levelOf m2.pop lvl "ediflevel" "edifLevel" = .ok m3 ∧ isKw kk "keywordmap" = true ∧
      levelOf (m3.push "keywordMap") kl "keywordlevel" "keywordLevel" = .ok m4 ∧
      loopC bodyItem { m := m4.pop } rest = .ok (st, rest2) ∧ endC "edif" rest2 = .ok () ∧
      n = { data := st.m.data, libs := st.libs, top := st.top } := by
  constructor
  · intro h
    unfold ofSExp at h
    split at h
    · cases h
    obtain ⟨hedif, h⟩ := ok_of_guard h
    obtain ⟨⟨m, rest⟩, hm, h⟩ := bind_ok h
    dsimp only at h
    split at h
    · obtain ⟨hver, h⟩ := ok_of_guard h
      obtain ⟨vs, hvs, h⟩ := bind_ok h
      obtain ⟨hlen, h⟩ := ok_of_else h
      obtain ⟨m2, hm2, h⟩ := bind_ok h
      obtain ⟨m3, hm3, h⟩ := bind_ok h
      split at h
      · obtain ⟨hkk, h⟩ := ok_of_guard h
        obtain ⟨m4, hm4, h⟩ := bind_ok h
        obtain ⟨⟨st, rest2⟩, hl, h⟩ := bind_ok h
        obtain ⟨⟨⟩, he, h⟩ := bind_ok h
        exact ⟨_, m, _, _, _, _, _, vs, m2, m3, m4, st, rest2, rfl, hedif, hm, hver, hvs, Decidable.not_not.mp hlen, hm2, hm3,
          hkk, hm4, hl, he, ok_of_pure h⟩
      · cases h
      · cases h
    · cases h
  · rintro ⟨ys, m, ver, lvl, kk, kl, rest, vs, m2, m3, m4, st, rest2, rfl, hedif, hm, hver, hvs, hlen, hm2, hm3, hkk, hm4, hl, he,
      rfl⟩
    simp only [ofSExp, hedif, hm, hver, hvs, hlen, hm2, hm3, hkk, hm4, hl, he, ok_bind, Bool.not_true, Bool.false_eq_true,
      if_false, ne_eq, not_true_eq_false]
    rfl

theorem readEdif_ok {text : List Char} {n : CNetlist} (h : readEdif text = .ok n) :
    ∃ e r, readS (lexE text) = some (e, r) ∧ ofSExp e = .ok n := by
  unfold readEdif at h
  split at h
  · exact ⟨_, _, ‹_›, h⟩
  · cases h

end Spydr.Edif
