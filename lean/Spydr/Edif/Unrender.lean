/-
  `unrender`: from the s-expression of a (stripped) EDIF file back to an abstract design.

  UNTRUSTED helper of the evidence counters: nothing is proved about it and nothing needs to be. The driver
  uses it to decide whether a given text lies inside `C05.edif_reader_spec_erased`: it parses the text to `e`,
  computes `d := unrender (strip e)` and then CHECKS the hypotheses of the theorem themselves —
  `d.wf = true` and `norm (strip e) = norm (render d)` (`insideClause` below; both decidable). A wrong guess
  here can only make the check fail.
  No Mathlib.
-/
import Spydr.Edif.EraseSpec
import Spydr.Edif.Fragment
import Spydr.Edif.KwSpec
namespace Spydr.Edif.Unr

abbrev U := Except String

def atomOf (what : String) : SExp → U Str
  | .atom s => pure s
  | .list _ => throw (what ++ ": atom expected")

def unq (s : Str) : U Str :=
  match stringTok s with
  | some t => pure t
  | none => throw "string token expected"

def natOf (s : Str) : U Nat :=
  match intTok s with
  | .ok i => if 0 ≤ i then pure i.toNat else throw "negative number"
  | _ => throw "number expected"

def nameOfS (x : SExp) : U AName :=
  match x with
  | .atom s => pure ⟨s, none⟩
  | .list [k, .atom i, .atom o] => if isKw k "rename" then do pure ⟨i, some (← unq o)⟩ else throw "name: rename expected"
  | _ => throw "name"

def valOfS (x : SExp) : U AVal :=
  match x with
  | .list [k, .atom v] =>
    if isKw k "string" then do pure (.str (← unq v))
    else if isKw k "integer" then
      match intTok v with
      | .ok i => pure (.int i)
      | _ => throw "property: integer"
    else throw "property_type"
  | .list [k, .list [.atom b]] =>
    if isKw k "boolean" then
      if lower b == S "true" then pure (.bool true)
      else if lower b == S "false" then pure (.bool false)
      else throw "property: boolean"
    else throw "property_type"
  | _ => throw "property_type"

def propOfS (ys : List SExp) : U AProp :=
  match ys with
  | [_, nm, v] => do pure ⟨← nameOfS nm, ← valOfS v⟩
  | _ => throw "property: shape"

def dirOfS (items : List SExp) : U Dir :=
  match items with
  | [] => pure .undefined
  | [.list [k, t]] =>
    if !isKw k "direction" then throw "port: unexpected item"
    else if isKw t "inout" then pure .inout
    else if isKw t "input" then pure .inp
    else if isKw t "output" then pure .out
    else throw "port: direction"
  | _ => throw "port: unexpected items"

def portOfS (ys : List SExp) : U APort :=
  match ys with
  | _ :: .list [k, nm, .atom n] :: items =>
    if isKw k "array" then do pure { name := ← nameOfS nm, dir := ← dirOfS items, array := some (← natOf n) }
    else do pure { name := ← nameOfS (.list [k, nm, .atom n]), dir := ← dirOfS items }
  | _ :: nm :: items => do pure { name := ← nameOfS nm, dir := ← dirOfS items }
  | _ => throw "port: shape"

def findCI {α : Type} (f : α → Str) (xs : List α) (s : Str) : Option Nat := xs.findIdx? fun x => lower (f x) == lower s

/-- what has been read when a cell is reached: the libraries before, the library being read (its
    name and the cells so far) -/
structure Ctx where
  libs : List ALib
  cur : AName
  cells : List ACell

def Ctx.cellsOf (cx : Ctx) (li : Nat) : List ACell :=
  if li = cx.libs.length then cx.cells else
  match cx.libs[li]? with
  | some l => l.cells
  | none => []

def instOfS (cx : Ctx) (ys : List SExp) : U AInst :=
  match ys with
  | _ :: nm :: .list [_, .atom v, .list (_ :: .atom c :: lr)] :: props => do
    let (li, lsp, om) ← (match lr with
      | [] => pure (cx.libs.length, cx.cur.ident, true)
      | [.list [_, .atom l]] =>
        if lower cx.cur.ident == lower l then pure (cx.libs.length, l, false)
        else match findCI (fun (x : ALib) => x.name.ident) cx.libs l with
          | some i => pure (i, l, false)
          | none => throw "instance: library not found"
      | _ => throw "instance: cellRef shape" : U (Nat × Str × Bool))
    match findCI (fun (x : ACell) => x.name.ident) (cx.cellsOf li) c with
    | none => throw "instance: cell not found"
    | some di =>
      let ps ← props.mapM fun p => match p with
        | .list zs => if headIs zs "property" then propOfS zs else throw "instance: unexpected item"
        | _ => throw "instance: unexpected atom"
      pure { name := ← nameOfS nm, li := li, di := di, viewSp := v, cellSp := c, libSp := lsp, props := ps, libOmit := om }
  | _ => throw "instance_without_complete_reference"

def pinOfS (cx : Ctx) (ports : List APort) (insts : List AInst) (ys : List SExp) : U APin :=
  match ys with
  | _ :: first :: rest => do
    let (sp, bit) ← (match first with
      | .atom s => pure (s, none)
      | .list [_, .atom s, .atom k] => do pure (s, some (← natOf k))
      | _ => throw "portRef: shape" : U (Str × Option Nat))
    match rest with
    | [] =>
      match findCI (fun (p : APort) => p.name.ident) ports sp with
      | some pi => pure (.port pi bit sp)
      | none => throw "portRef: port not found"
    | [.list [_, .atom isp]] =>
      match findCI (fun (i : AInst) => i.name.ident) insts isp with
      | none => throw "portRef: instance not found"
      | some ii =>
        match insts[ii]? with
        | none => throw "portRef: instance"
        | some i =>
          match (cx.cellsOf i.li)[i.di]? with
          | none => throw "portRef: referenced cell"
          | some rc =>
            match findCI (fun (p : APort) => p.name.ident) rc.ports sp with
            | some pi => pure (.inst ii pi bit sp isp)
            | none => throw "portRef: port of the referenced cell not found"
    | _ => throw "portRef: shape"
  | _ => throw "portRef: shape"

def kindOfS (nm : SExp) : U ANetKind := do
  let a ← nameOfS nm
  match a.orig with
  | none => pure (.scalar a)
  | some o =>
    match sepIdent a.ident, sepName o with
    | (some j, bi), (some i, bn) => pure (.bit bi bn i j)
    | _, _ => pure (.scalar a)

def netOfS (cx : Ctx) (ports : List APort) (insts : List AInst) (ys : List SExp) : U ANet :=
  match ys with
  | [_, nm, .list (_ :: pins)] => do
    let ps ← pins.mapM fun p => match p with
      | .list zs => pinOfS cx ports insts zs
      | _ => throw "joined: atom"
    pure ⟨← kindOfS nm, ps⟩
  | _ => throw "net: shape"

def cellOfS (cx : Ctx) (ys : List SExp) : U ACell :=
  match ys with
  | [_, nm, _, .list (_ :: .atom v :: _ :: .list (_ :: ports) :: more)] => do
    let ps ← ports.mapM fun p => match p with
      | .list zs => if headIs zs "port" then portOfS zs else throw "interface: unexpected item"
      | _ => throw "interface: atom"
    let items ← (match more with
      | [] => pure []
      | [.list (_ :: items)] => pure items
      | _ => throw "view: unexpected items" : U (List SExp))
    let is := items.filter fun x => match x with | .list zs => headIs zs "instance" | _ => false
    let ns := items.filter fun x => match x with | .list zs => !headIs zs "instance" | _ => true
    let insts ← is.mapM fun x => match x with
      | .list zs => instOfS cx zs
      | _ => throw "contents: atom"
    let nets ← ns.mapM fun x => match x with
      | .list zs => if headIs zs "net" then netOfS cx ps insts zs else throw "contents: unexpected item"
      | _ => throw "contents: atom"
    pure { name := ← nameOfS nm, view := v, ports := ps, insts := insts, nets := nets }
  | _ => throw "cell: shape"

def libOfS (libs : List ALib) (ys : List SExp) : U ALib :=
  match ys with
  | kw :: nm :: _ :: _ :: cells => do
    let a ← nameOfS nm
    let cs ← cells.foldlM (fun (acc : List ACell) x => match x with
      | .list zs => do
          let c ← cellOfS { libs := libs, cur := a, cells := acc } zs
          pure (acc ++ [c])
      | _ => throw "library: atom") []
    pure { name := a, cells := cs, external := isKw kw "external" }
  | _ => throw "library: shape"

/-- the abstract design a stripped file would be the rendering of, if it is one -/
def unrender (e : SExp) : U ADesign :=
  match e with
  | .list (_ :: nm :: _ :: _ :: _ :: items) => do
    let name ← nameOfS nm
    let libItems := items.filter fun x => match x with | .list zs => !headIs zs "design" | _ => true
    let desItems := items.filter fun x => match x with | .list zs => headIs zs "design" | _ => false
    let libs ← libItems.foldlM (fun (acc : List ALib) x => match x with
      | .list zs => do
          let l ← libOfS acc zs
          pure (acc ++ [l])
      | _ => throw "edif: atom") []
    match desItems with
    | [.list [_, top, .list [_, .atom c, .list [_, .atom l]]]] =>
      match findCI (fun (x : ALib) => x.name.ident) libs l with
      | none => throw "design: library not found"
      | some li =>
        match findCI (fun (x : ACell) => x.name.ident) ((libs[li]?.map (·.cells)).getD []) c with
        | none => throw "design: cell not found"
        | some di => pure { name := name, libs := libs, top := ← nameOfS top, topLi := li, topDi := di, topCellSp := c, topLibSp := l }
    | [] => throw "no_design"
    | _ => throw "design: shape"
  | _ => throw "edif: shape"

/-- is the file `e` inside `C05.edif_reader_spec_erased`?  `none`: yes — the model accepts `e`, `strip e` is
    (up to keyword case) the rendering of `d := unrender (strip e)` and `d.wf`; `some reason`: the first
    hypothesis that fails -/
def insideClause (e : SExp) : Option String :=
  match ofSExp e with
  | .error _ => some "rejected_by_the_model"
  | .ok _ =>
    match unrender (strip e) with
    | .error why => some ("unrender." ++ why)
    | .ok d =>
      if !(norm (strip e)).beq (norm (render d)) then some "strip_is_not_a_rendering"
      else match wfClause d with
        | some c => some ("wf." ++ c)
        | none => none

mutual
theorem beq_sound : ∀ (a b : SExp), a.beq b = true → a = b
  | .atom x, .atom y, h => by simp only [SExp.beq, beq_iff_eq] at h; rw [h]
  | .list xs, .list ys, h => by simp only [SExp.beq] at h; rw [beqL_sound xs ys h]
  | .atom _, .list _, h => by simp [SExp.beq] at h
  | .list _, .atom _, h => by simp [SExp.beq] at h
theorem beqL_sound : ∀ (xs ys : List SExp), SExp.beqL xs ys = true → xs = ys
  | [], [], _ => rfl
  | x :: xs, y :: ys, h => by
      simp only [SExp.beqL, Bool.and_eq_true] at h
      rw [beq_sound x y h.1, beqL_sound xs ys h.2]
  | [], _ :: _, h => by simp [SExp.beqL] at h
  | _ :: _, [], h => by simp [SExp.beqL] at h
end

end Spydr.Edif.Unr
