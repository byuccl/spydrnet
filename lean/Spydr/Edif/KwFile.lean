/-
  Keyword case: cells, libraries, the design construct, the file — `ofSExp (norm e) = ofSExp e`.
-/
import Spydr.Edif.KwLeaf
namespace Spydr.Edif

theorem ifaceItem_norm (s : CellSt × Bool) (ys : List SExp) : ifaceItem s (normC ys) = ifaceItem s ys := by
  obtain ⟨st, hd⟩ := s
  simp [ifaceItem, parsePort_norm, parseProperty_norm, parseComment_norm]

theorem contentsItem_norm (sc : Scope) (st : CellSt) (ys : List SExp) :
    contentsItem sc st (normC ys) = contentsItem sc st ys := by
  simp [contentsItem, parseInstance_norm, parseNet_norm, parseComment_norm]

theorem viewItem_norm (sc : Scope) (s : CellSt × Bool × Bool) (ys : List SExp) :
    viewItem sc s (normC ys) = viewItem sc s ys := by
  simp only [viewItem, headIs_normC, parseStatus_norm, parseComment_norm, parseProperty_norm, tail_normC,
    loopC_normL (contentsItem sc) (contentsItem_norm sc), bind_mapRest, endC_normL]

theorem any_isKw_norm (ks : List String) (t : SExp) : ks.any (isKw (norm t)) = ks.any (isKw t) :=
  congrArg ks.any (funext (isKw_norm t))

theorem parseView_norm (sc : Scope) (st : CellSt) (ys : List SExp) : parseView sc st (normC ys) = parseView sc st ys := by
  unfold parseView
  simp only [tail_normC, nameDef_norm, bind_mapRest]
  refine bind_congr fun (m, rest) => ?_
  rcases rest with _ | ⟨_ | vt, _ | ⟨_ | ifc, r⟩⟩
  case cons.list.cons.list =>
    simp only [normL_cons, norm_list]
    rcases vt with _ | ⟨k, _ | ⟨t, _ | ⟨u, vr⟩⟩⟩
    case cons.cons.nil =>
      simp only [normC_cons, normL_cons, normL_nil, isKw_normH, any_isKw_norm, headIs_normC, tail_normC]
      by_cases hk : isKw k "viewtype" = true
      · -- the keyword that is stored keeps its spelling
        simp only [normH_of_kept k "viewtype" (Or.inr rfl) hk, loopC_normL ifaceItem ifaceItem_norm,
          loopC_normL (viewItem sc) (viewItem_norm sc), bind_mapRest, endC_normL]
      · simp only [hk, Bool.not_false, if_true]
    all_goals simp only [normC_cons, normL_cons, normL_nil, normC_nil]
  all_goals rfl

theorem cellItem_norm (sc : Scope) (st : CellSt) (ys : List SExp) : cellItem sc st (normC ys) = cellItem sc st ys := by
  simp [cellItem, parseStatus_norm, parseView_norm, parseProperty_norm, parseComment_norm]

theorem parseCell_norm (sc : Scope) (ys : List SExp) : parseCell sc (normC ys) = parseCell sc ys := by
  unfold parseCell
  simp only [tail_normC, nameDef_norm, bind_mapRest]
  refine bind_congr fun (m, rest) => ?_
  rcases rest with _ | ⟨_ | kt, r⟩
  · rfl
  · rfl
  · simp only [normL_cons, norm_list]
    rcases kt with _ | ⟨k, _ | ⟨t, _ | ⟨u, vr⟩⟩⟩
    case cons.cons.nil =>
      simp only [normC_cons, normL_cons, normL_nil, isKw_normH, any_isKw_norm]
      by_cases hk : isKw k "celltype" = true
      · simp only [normH_of_kept k "celltype" (Or.inl rfl) hk, loopC_normL (cellItem sc) (cellItem_norm sc), bind_mapRest,
          endC_normL]
      · simp only [hk, Bool.not_false, if_true]
    all_goals simp only [normC_cons, normL_cons, normL_nil, normC_nil]

theorem libItem_norm (libs : List CLib) (st : LibSt) (ys : List SExp) : libItem libs st (normC ys) = libItem libs st ys := by
  simp [libItem, parseStatus_norm, parseCell_norm, parseComment_norm]

theorem parseLibrary_norm (libs : List CLib) (ext : Bool) (ys : List SExp) :
    parseLibrary libs ext (normC ys) = parseLibrary libs ext ys := by
  unfold parseLibrary
  simp only [tail_normC, nameDef_norm, bind_mapRest]
  refine bind_congr fun (m, rest) => ?_
  rcases rest with _ | ⟨_ | lv, _ | ⟨_ | tn, r⟩⟩
  case cons.list.cons.list =>
    simp only [normL_cons, norm_list]
    rcases tn with _ | ⟨tk, _ | ⟨_ | nd, _ | ⟨u, vr⟩⟩⟩ <;>
      simp only [normC_cons, normL_cons, normL_nil, normC_nil, norm_atom, norm_list, isKw_normH, headIs_normC, levelOf_norm,
        loopC_normL (libItem libs) (libItem_norm libs), bind_mapRest, endC_normL]
  all_goals rfl

theorem parseDesign_norm (libs : List CLib) (ys : List SExp) : parseDesign libs (normC ys) = parseDesign libs ys := by
  unfold parseDesign
  simp only [tail_normC]
  rcases ys.tail with _ | ⟨nm, _ | ⟨_ | cr, r⟩⟩
  · rfl
  · rfl
  · rfl
  · simp only [normL_cons, norm_list]
    refine bind_congr_both ?_ fun m => ?_
    · cases nm <;> simp only [norm_atom, norm_list, parseRename_norm]
    · -- the reference is read by position, `(_ c (_ l))`, so the two keywords do not matter
      rcases cr with _ | ⟨_ | l1, _ | ⟨_ | l2, _ | ⟨_ | l3, tl⟩⟩⟩
      case cons.atom.cons.atom.cons.list =>
        rcases l3 with _ | ⟨_ | e1, _ | ⟨_ | e2, _ | ⟨d3, dr⟩⟩⟩ <;> cases tl <;> rfl
      all_goals simp only [normC_cons, normL_cons, normL_nil, normC_nil, normH_atom, normH_list, norm_atom, norm_list]

theorem bodyItem_norm (st : BodySt) (ys : List SExp) : bodyItem st (normC ys) = bodyItem st ys := by
  simp [bodyItem, parseStatus_norm, parseLibrary_norm, parseDesign_norm, parseComment_norm]

theorem ofSExp_norm (e : SExp) : ofSExp (norm e) = ofSExp e := by
  cases e with
  | atom a => rfl
  | list ys =>
    simp only [norm_list]
    unfold ofSExp
    simp only [headIs_normC, tail_normC, nameDef_norm, bind_mapRest]
    by_cases he : headIs ys "edif" = true
    · simp only [he, Bool.not_true, Bool.false_eq_true, if_false]
      refine bind_congr fun (m, rest) => ?_
      rcases rest with _ | ⟨_ | ver, _ | ⟨_ | lvl, _ | ⟨_ | km, r⟩⟩⟩
      case cons.list.cons.list.cons.list =>
        simp only [normL_cons, norm_list, headIs_normC, tail_normC, intsOf_norm, levelOf_norm]
        rcases km with _ | ⟨kk, _ | ⟨_ | kll, _ | ⟨k3, kr⟩⟩⟩ <;>
          simp only [normC_cons, normL_cons, normL_nil, normC_nil, norm_atom, norm_list, isKw_normH, levelOf_norm,
            loopC_normL bodyItem bodyItem_norm, bind_mapRest, endC_normL]
      all_goals rfl
    · simp only [he, Bool.not_false, if_true]


theorem ofSExp_of_norm_eq (e e' : SExp) (h : norm e' = norm e) : ofSExp e' = ofSExp e := by
  rw [← ofSExp_norm e', h, ofSExp_norm]

end Spydr.Edif
