/-
  `view05` of the netlist the reader builds for an abstract design is the design's denotation.
-/
import Spydr.Edif.DenoteWF
import Spydr.Edif.Closure
namespace Spydr.Edif

theorem view05Port_elab (p : APort) : view05Port p.elab = p.den := by
  simp only [view05Port, APort.den, nameOf_APort_elab, identOf_APort_elab]
  obtain ⟨nm, dir, arr⟩ := p
  cases arr with
  | none => simp [APort.elab, APort.width, CPort.isArray, CPort.isScalar]
  | some k =>
    simp only [APort.elab, APort.width, CPort.isArray, CPort.isScalar, Option.isNone, Option.isSome]
    by_cases hk : k > 1 <;> simp [hk]

theorem v05Props_withProps (D : Data) (ts : List PropT) (h : D.get? kPROPS = none) :
    v05Props (withProps D ts) = ts.map PropT.obj := by
  cases ts with
  | nil => simp [withProps, v05Props, show S "EDIF.properties" = kPROPS from rfl, h]
  | cons a r => simp [withProps, v05Props, show S "EDIF.properties" = kPROPS from rfl, Data.get?_set_self]

theorem view05Inst_elab (i : AInst) : view05Inst i.elab = i.den := by
  simp only [view05Inst, AInst.den, nameOf_AInst_elab, identOf_AInst_elab]
  have hp : v05Props i.elab.data = i.props.map AProp.den := by
    simp only [AInst.elab, readInst]
    rw [v05Props_withProps _ _ (withName_nil_props _ _), List.map_map]
    apply List.map_congr_left
    intro p _
    exact (AProp.den_eq p).symm
  rw [hp]
  rfl

theorem view05Cell_elab (c : ACell) (h : netsOKB c.nets = true) : view05Cell c.elab = c.den := by
  have hv : c.elab.data.getStr? (S "EDIF.view.identifier") = some c.view := viewIdentOf_ACell_data c
  simp only [view05Cell, ACell.den, hv]
  have e1 : nameOf c.elab.data = some c.name.name := nameOf_ACell_data c
  have e2 : identOf c.elab.data = some c.name.ident := identOf_ACell_data c
  have e3 : c.elab.ports.map view05Port = c.ports.map APort.den := by
    simp only [ACell.elab, List.map_map]
    exact List.map_congr_left (fun p _ => view05Port_elab p)
  have e4 : c.elab.insts.map view05Inst = c.insts.map AInst.den := by
    simp only [ACell.elab, List.map_map]
    exact List.map_congr_left (fun i _ => view05Inst_elab i)
  have e5 : c.elab.cables.map view05Cable = cablesDen c.nets := cables_view c.nets h
  rw [e1, e2, e3, e4, e5]

theorem view05Lib_elab (l : ALib) (h : ∀ c ∈ l.cells, netsOKB c.nets = true) : view05Lib l.elab = l.den := by
  simp only [view05Lib, ALib.den, identOf_ALib_data, nameOf_ALib_data]
  have : l.elab.defs.map view05Cell = l.cells.map ACell.den := by
    simp only [ALib.elab, List.map_map]
    exact List.map_congr_left (fun c hc => view05Cell_elab c (h c hc))
  rw [this]
  have he : extOf l.elab.data = l.external := by
    have hk : (withName l.base l.name.ident l.name.name).get? kEXT = l.base.get? kEXT :=
      get?_withName_other _ _ _ kEXT (S_ne rfl) (S_ne rfl)
    rw [extOf, ALib.elab, ALib.data, hk, ALib.base]
    cases l.external
    · rfl
    · rw [if_pos rfl, show S "EDIF.external" = kEXT from rfl,
        show [(kEXT, Val.bool true)] = Data.set [] kEXT (.bool true) from rfl, Data.get?_set_self]
  rw [he]

theorem view05_elab (d : ADesign) (h : d.wf = true) : view05 d.elab = denote d := by
  have hw := wfParts d h
  have e3 : d.elab.libs.map view05Lib = d.libs.map ALib.den := by
    simp only [ADesign.elab, List.map_map]
    apply List.map_congr_left
    intro l hl
    apply view05Lib_elab
    intro c hc
    obtain ⟨L, hL, rfl⟩ := List.getElem_of_mem hl
    obtain ⟨D, hD, rfl⟩ := List.getElem_of_mem hc
    exact (hw.cell (List.getElem?_eq_getElem hL) (List.getElem?_eq_getElem hD)).nets
  simp only [view05, denote, nameOf_ADesign_data, identOf_ADesign_data, e3]
  simp only [ADesign.elab, Option.map_some, identOf_readTop, nameOf_readTop]
  rfl

end Spydr.Edif
