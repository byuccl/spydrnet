/-
  The nets of a cell in any order: the reader's `multibit_add_cable` loop computes, for every bus,
  the fold of the merge step over that bus's bit nets (whatever is interleaved), hence
  `multibit_merge` applies to the reader's own function.
-/
import Spydr.Edif.LemmasCell
import Spydr.Edif.LemmasBits
namespace Spydr.Edif

/-- one `(net …)` of a cell as the text declares it: a scalar net (`idx = none`) called
    (ident, name), or bit `i` of the bus called (ident, name), written `(rename ident_j_ "name[i]")`: the index `j`
    in the identifier (`iidx`) need not be the index in the name — the reader takes the bit position from the
    name and only looks whether the identifier has an index at all -/
structure NetItem where
  ident : Str
  name : Str
  idx : Option Nat
  pins : List CPin
  iidx : Nat := 0

/-- the dictionary `parse_net` hands to `multibit_add_cable` -/
def NetItem.data (it : NetItem) : Data :=
  match it.idx with
  | none => withName [] it.ident it.name
  | some i => withName [] (bitIdent it.ident it.iidx) (bitName it.name i)

/-- what the text means, one net at a time: a scalar net is a new cable; the first bit of a bus is a
    new array cable based at that bit; a further bit goes into the bus's cable at its index -/
def netStep (cs : List CCable) (it : NetItem) : List CCable :=
  match it.idx with
  | none => cs ++ [scalarCable (withName [] it.ident it.name) it.pins]
  | some i =>
    match findName (cs.map (·.data)) it.name with
    | none => cs ++ [busCable it.ident it.name i [it.pins]]
    | some k =>
      match cs[k]? with
      | some ex => cs.set k (mergeInto ex i it.pins)
      | none => cs

/-- the (lower index, wires) of the cable called `name`, if there is one -/
def busOf (name : Str) (cs : List CCable) : Option (Bus CPin) :=
  match findName (cs.map (·.data)) name with
  | some k => (cs[k]?).map fun c => ⟨c.lower, c.wires⟩
  | none => none

/-- the bit nets of the bus called `name`, in the order they appear in the text -/
def bitsOf (name : Str) (items : List NetItem) : List (Nat × List CPin) :=
  items.filterMap fun it => match it.idx with
    | some i => if it.name = name then some (i, it.pins) else none
    | none => none

theorem findName_append_other (ds : List Data) (d : Data) (n : Str) (h : nameOf d ≠ some n) :
    findName (ds ++ [d]) n = findName ds n := by
  unfold findName
  rw [List.findIdx?_append]
  cases hf : List.findIdx? (fun s => match nameOf s with | some a => a == n | none => false) ds with
  | some k => simp
  | none =>
    cases hd : nameOf d with
    | none => simp [List.findIdx?_cons, hd]
    | some a =>
      have hne : a ≠ n := fun e => h (by rw [hd, e])
      simp [List.findIdx?_cons, hd, hne]

theorem map_set_same {α β : Type} (f : α → β) (cs : List α) (k : Nat) (c' ex : α) (hk : cs[k]? = some ex)
    (hd : f c' = f ex) : (cs.set k c').map f = cs.map f := by
  obtain ⟨hlt, rfl⟩ := List.getElem?_eq_some_iff.mp hk
  rw [List.map_set, hd, ← List.getElem_map f (h := by simpa using hlt), List.set_getElem_self]

theorem findName_set_same (cs : List CCable) (k : Nat) (c' : CCable) (n : Str) (ex : CCable) (hk : cs[k]? = some ex)
    (hd : c'.data = ex.data) : findName ((cs.set k c').map (·.data)) n = findName (cs.map (·.data)) n := by
  rw [map_set_same (·.data) cs k c' ex hk hd]

theorem findName_sound (ds : List Data) (n : Str) (k : Nat) (h : findName ds n = some k) :
    ∃ hk : k < ds.length, nameOf ds[k] = some n := by
  unfold findName at h
  rw [List.findIdx?_eq_some_iff_getElem] at h
  obtain ⟨hk, hp, _⟩ := h
  refine ⟨hk, ?_⟩
  cases hn : nameOf ds[k] with
  | none => simp [hn] at hp
  | some a => simp [hn] at hp; rw [hp]

theorem nameOf_scalarCable (d : Data) (p : List CPin) : nameOf (scalarCable d p).data = nameOf d := rfl

theorem netStep_cases (cs : List CCable) (it : NetItem) :
    (it.idx = none ∧ netStep cs it = cs ++ [scalarCable (withName [] it.ident it.name) it.pins]) ∨
    (∃ i, it.idx = some i ∧ findName (cs.map (·.data)) it.name = none ∧
      netStep cs it = cs ++ [busCable it.ident it.name i [it.pins]]) ∨
    (∃ i k, ∃ hk : k < cs.length, it.idx = some i ∧ findName (cs.map (·.data)) it.name = some k ∧
      netStep cs it = cs.set k (mergeInto cs[k] i it.pins)) := by
  unfold netStep
  cases it.idx with
  | none => exact Or.inl ⟨rfl, rfl⟩
  | some i =>
    cases hf : findName (cs.map (·.data)) it.name with
    | none => exact Or.inr (Or.inl ⟨i, rfl, rfl, rfl⟩)
    | some k =>
      have hlt : k < cs.length := by simpa using findName_lt _ _ _ hf
      exact Or.inr (Or.inr ⟨i, k, hlt, rfl, rfl, by simp [List.getElem?_eq_getElem hlt]⟩)

theorem busOf_append_other (cs : List CCable) (c : CCable) (name : Str) (h : nameOf c.data ≠ some name) :
    busOf name (cs ++ [c]) = busOf name cs := by
  unfold busOf
  have hf : findName ((cs ++ [c]).map (·.data)) name = findName (cs.map (·.data)) name := by
    rw [List.map_append]; exact findName_append_other _ _ _ h
  rw [hf]
  cases hk : findName (cs.map (·.data)) name with
  | none => rfl
  | some k =>
    have hlt := findName_lt _ _ _ hk
    simp only [List.length_map] at hlt
    simp [List.getElem?_append_left hlt]

theorem busOf_append_new (cs : List CCable) (c : CCable) (name : Str) (h : nameOf c.data = some name)
    (hnone : findName (cs.map (·.data)) name = none) :
    busOf name (cs ++ [c]) = some ⟨c.lower, c.wires⟩ := by
  unfold busOf
  have hf : findName ((cs ++ [c]).map (·.data)) name = some cs.length := by
    rw [List.map_append]
    have := findName_append_fresh (cs.map (·.data)) c.data name hnone h
    simpa using this
  rw [hf]
  simp

theorem busOf_netStep_other (cs : List CCable) (it : NetItem) (name : Str) (h : it.name ≠ name) :
    busOf name (netStep cs it) = busOf name cs := by
  rcases netStep_cases cs it with ⟨_, he⟩ | ⟨i, _, _, he⟩ | ⟨i, k, hk, _, hf, he⟩ <;> rw [he]
  · exact busOf_append_other _ _ _ (by rw [nameOf_scalarCable, nameOf_withName]; exact fun e => h (Option.some.inj e))
  · exact busOf_append_other _ _ _ (by rw [nameOf_busCable]; exact fun e => h (Option.some.inj e))
  · unfold busOf
    rw [findName_set_same cs k _ name cs[k] (List.getElem?_eq_getElem hk) (mergeInto_eq cs[k] i it.pins).2.2.1]
    cases hn : findName (cs.map (·.data)) name with
    | none => rfl
    | some k' =>
      have hne : k ≠ k' := by
        rintro rfl
        obtain ⟨_, h2⟩ := findName_sound _ _ _ hf
        obtain ⟨_, h4⟩ := findName_sound _ _ _ hn
        rw [h2] at h4
        exact h (Option.some.inj h4)
      simp [hne]

theorem busOf_netStep_bit (cs : List CCable) (it : NetItem) (i : Nat) (hidx : it.idx = some i) :
    busOf it.name (netStep cs it) = stepBit (busOf it.name cs) (i, it.pins) := by
  rcases netStep_cases cs it with ⟨hi, _⟩ | ⟨j, hi, hf, he⟩ | ⟨j, k, hk, hi, hf, he⟩ <;> rw [hidx] at hi <;> cases hi
  · rw [he, busOf_append_new cs _ it.name (nameOf_busCable _ _ _ _) hf]
    simp [busOf, hf, stepBit, busCable]
  · have hk' : cs[k]? = some cs[k] := List.getElem?_eq_getElem hk
    have hm := mergeInto_eq cs[k] i it.pins
    rw [he]
    unfold busOf
    rw [findName_set_same cs k _ it.name cs[k] hk' hm.2.2.1, hf]
    simp only [hk', Option.map_some, stepBit]
    simp [hk, hm.1, hm.2.1]

theorem busOf_foldl (items : List NetItem) (cs : List CCable) (name : Str)
    (hbus : ∀ it ∈ items, it.name = name → it.idx.isSome = true) :
    busOf name (items.foldl netStep cs) = (bitsOf name items).foldl stepBit (busOf name cs) := by
  induction items generalizing cs with
  | nil => rfl
  | cons it r ih =>
    simp only [List.foldl_cons]
    rw [ih _ (fun x hx => hbus x (by simp [hx]))]
    by_cases hn : it.name = name
    · have hs := hbus it (by simp) hn
      cases hi : it.idx with
      | none => simp [hi] at hs
      | some i =>
        subst hn
        rw [busOf_netStep_bit cs it i hi]
        simp [bitsOf, hi]
    · rw [busOf_netStep_other cs it name hn]
      have : bitsOf name (it :: r) = bitsOf name r := by
        simp only [bitsOf, List.filterMap_cons]
        cases hi : it.idx with
        | none => rfl
        | some i => simp [hn]
      rw [this]

/-- what the text must satisfy (C05's abstract designs do): every net named, identifiers legal; a
    scalar net is not named like a bus bit; nets with the same (cable) name are bits of one bus;
    different cables have identifiers that differ even ignoring case; scalar nets occur once -/
structure NetsWF (items : List NetItem) : Prop where
  each : ∀ it ∈ items, it.name ≠ [] ∧ checkEdifIdentifier it.ident = true ∧
    (match it.idx with
     | none => (sepName it.name).1 = none
     | some i => bracketAllowed (bitName it.name i) = true)
  same : ∀ a ∈ items, ∀ b ∈ items, a.name = b.name → a.ident = b.ident ∧ a.idx.isSome = b.idx.isSome
  diff : ∀ a ∈ items, ∀ b ∈ items, a.name ≠ b.name → lower a.ident ≠ lower b.ident
  scalar_once : ((items.filter (fun it => it.idx.isNone)).map (·.name)).Nodup

theorem NetsWF.scalar_unique {items done rest : List NetItem} {it : NetItem} (hwf : NetsWF items)
    (hsplit : items = done ++ it :: rest) (hidx : it.idx = none) :
    ∀ x, x ∈ done ∨ x ∈ rest → x.name ≠ it.name := by
  intro x hx hxn
  have hit : it ∈ items := by rw [hsplit]; simp
  have hxmem : x ∈ items := by rw [hsplit]; rcases hx with h | h <;> simp [h]
  have hsame := (hwf.same x hxmem it hit hxn).2
  rw [hidx] at hsame
  have hxs : x.idx.isNone = true := by
    cases hxi : x.idx with
    | none => rfl
    | some _ => simp [hxi] at hsame
  have hnd := hwf.scalar_once
  rw [hsplit, List.filter_append, List.map_append, List.filter_cons_of_pos (by simp [hidx]), List.map_cons] at hnd
  obtain ⟨_, hnd2, hdisj⟩ := List.nodup_append.mp hnd
  rcases hx with h | h
  · exact hdisj _ (List.mem_map_of_mem (List.mem_filter.mpr ⟨h, hxs⟩)) _ (List.mem_cons_self) hxn
  · exact (List.nodup_cons.mp hnd2).1 (hxn ▸ List.mem_map_of_mem (List.mem_filter.mpr ⟨h, hxs⟩))

def FromItems (done : List NetItem) (cs : List CCable) : Prop :=
  ∀ c ∈ cs, ∃ it ∈ done, nameOf c.data = some it.name ∧ identOf c.data = some it.ident ∧
    (it.idx.isSome = true → c.scalarFlag = false)

theorem findName_none_of_fromItems (done : List NetItem) (cs : List CCable) (name : Str)
    (hfrom : FromItems done cs) (h : ∀ x ∈ done, x.name ≠ name) : findName (cs.map (·.data)) name = none := by
  refine findName_eq_none.mpr fun s hs => ?_
  obtain ⟨c, hc, rfl⟩ := List.mem_map.mp hs
  obtain ⟨x, hx, h1, _, _⟩ := hfrom c hc
  exact h1 ▸ fun e => h x hx (Option.some.inj e)

theorem isArray_of_flag (c : CCable) (h : c.scalarFlag = false) : c.isArray = true := by
  simp [CCable.isArray, CCable.isScalar, h]

/-- one step of the net loop keeps "every cable comes from a net read so far, and carries its name, its identifier and,
    as far as `Q` says, its kind": a new cable is scalar exactly if its net has no index, a merge leaves the kind alone -/
theorem info_netStep (Q : NetItem → Bool → Prop) (done : List NetItem) (cs : List CCable) (it : NetItem)
    (hQ : Q it it.idx.isNone)
    (h : ∀ c ∈ cs, ∃ x ∈ done, nameOf c.data = some x.name ∧ identOf c.data = some x.ident ∧ Q x c.scalarFlag) :
    ∀ c ∈ netStep cs it, ∃ x ∈ done ++ [it], nameOf c.data = some x.name ∧ identOf c.data = some x.ident ∧
      Q x c.scalarFlag := by
  have hmono : ∀ c ∈ cs, ∃ x ∈ done ++ [it], nameOf c.data = some x.name ∧ identOf c.data = some x.ident ∧
      Q x c.scalarFlag := fun c hc =>
    let ⟨x, hx, hr⟩ := h c hc
    ⟨x, by simp [hx], hr⟩
  have happend : ∀ c' : CCable, nameOf c'.data = some it.name → identOf c'.data = some it.ident →
      c'.scalarFlag = it.idx.isNone → ∀ c ∈ cs ++ [c'], ∃ x ∈ done ++ [it], nameOf c.data = some x.name ∧
        identOf c.data = some x.ident ∧ Q x c.scalarFlag := by
    intro c' h1 h2 h3 c hc
    rcases List.mem_append.mp hc with hc | hc
    · exact hmono c hc
    · rw [List.mem_singleton.mp hc]
      exact ⟨it, by simp, h1, h2, h3 ▸ hQ⟩
  rcases netStep_cases cs it with ⟨hi, he⟩ | ⟨i, hi, _, he⟩ | ⟨i, k, hk, _, _, he⟩ <;> rw [he]
  · exact happend _ (by rw [nameOf_scalarCable, nameOf_withName]) (by simp [scalarCable, identOf_withName])
      (by simp [scalarCable, hi])
  · exact happend _ (nameOf_busCable _ _ _ _) (identOf_busCable _ _ _ _) (by simp [busCable, hi])
  · intro c hc
    rcases List.mem_or_eq_of_mem_set hc with hc | rfl
    · exact hmono c hc
    · have hm := mergeInto_eq cs[k] i it.pins
      obtain ⟨x, hx, h1, h2, h3⟩ := hmono cs[k] (List.getElem_mem hk)
      exact ⟨x, hx, by rw [hm.2.2.1]; exact h1, by rw [hm.2.2.1]; exact h2, by rw [hm.2.2.2]; exact h3⟩

theorem FromItems_netStep (done : List NetItem) (cs : List CCable) (it : NetItem) (h : FromItems done cs) :
    FromItems (done ++ [it]) (netStep cs it) :=
  info_netStep (fun x f => x.idx.isSome = true → f = false) done cs it (by cases it.idx <;> simp) h

theorem multibitAdd_netStep (items done : List NetItem) (it : NetItem) (rest : List NetItem) (cs : List CCable)
    (hwf : NetsWF items) (hsplit : items = done ++ it :: rest) (hfrom : FromItems done cs) :
    multibitAdd cs it.data it.pins = .ok (netStep cs it) := by
  have hit : it ∈ items := by rw [hsplit]; simp
  have hdone : ∀ x ∈ done, x ∈ items := by intro x hx; rw [hsplit]; simp [hx]
  obtain ⟨hne, hc, hkind⟩ := hwf.each it hit
  -- a cable with the identifier of `it` (ignoring case) has the name of `it`
  have hident_name : findName (cs.map (·.data)) it.name = none → findIdent (cs.map (·.data)) it.ident = none := by
    intro hfn
    apply findIdent_undeclared
    intro s hs b hb
    obtain ⟨c, hcmem, rfl⟩ := List.mem_map.mp hs
    obtain ⟨x, hx, h1, h2, _⟩ := hfrom c hcmem
    rw [h2] at hb
    cases hb
    by_cases hnm : x.name = it.name
    · exact absurd (h1.trans (congrArg some hnm)) (findName_eq_none.mp hfn c.data (List.mem_map_of_mem hcmem))
    · exact hwf.diff x (hdone x hx) it hit hnm
  rcases netStep_cases cs it with ⟨hi, he⟩ | ⟨i, hi, hf, he⟩ | ⟨i, k, hk, hi, hf, he⟩ <;> rw [he] <;>
    simp only [hi] at hkind
  · have hfn := findName_none_of_fromItems done cs it.name hfrom
      (fun x hx => hwf.scalar_unique hsplit hi x (Or.inl hx))
    have hconf := conflicts_false_of_fresh (cs.map (·.data)) (withName [] it.ident it.name) it.ident it.name
      (identOf_withName _ _ _) (nameOf_withName _ _ _) hfn (hident_name hfn)
    rw [show it.data = withName [] it.ident it.name by simp [NetItem.data, hi]]
    exact multibitAdd_scalar cs _ it.ident it.name it.pins (identOf_withName _ _ _) (nameOf_withName _ _ _) hne hkind hfn hconf
  · rw [show it.data = withName [] (bitIdent it.ident it.iidx) (bitName it.name i) by simp [NetItem.data, hi]]
    have hfi := hident_name hf
    exact multibitAdd_newBus cs it.ident it.name i it.iidx it.pins hkind hc hf hfi
      (conflicts_false_of_fresh _ _ it.ident it.name (identOf_busCable _ _ _ _) (nameOf_busCable _ _ _ _) hf hfi)
  · rw [show it.data = withName [] (bitIdent it.ident it.iidx) (bitName it.name i) by simp [NetItem.data, hi]]
    obtain ⟨_, hnk⟩ := findName_sound _ _ _ hf
    simp only [List.getElem_map] at hnk
    obtain ⟨x, hx, h1, _, h3⟩ := hfrom cs[k] (List.getElem_mem hk)
    rw [hnk] at h1
    have hsame := (hwf.same x (hdone x hx) it hit (Option.some.inj h1).symm).2
    rw [hi] at hsame
    exact multibitAdd_merge cs it.ident it.name i it.iidx k cs[k] it.pins hkind hf (List.getElem?_eq_getElem hk)
      (isArray_of_flag _ (h3 (by simpa using hsame)))

theorem foldlM_multibitAdd (items : List NetItem) (hwf : NetsWF items) :
    ∀ (done rest : List NetItem) (cs : List CCable), items = done ++ rest → FromItems done cs →
      rest.foldlM (fun cs it => multibitAdd cs it.data it.pins) cs = .ok (rest.foldl netStep cs) := by
  intro done rest
  induction rest generalizing done with
  | nil => intro cs _ _; rfl
  | cons it r ih =>
    intro cs hsplit hfrom
    simp only [List.foldlM_cons, List.foldl_cons, multibitAdd_netStep items done it r cs hwf hsplit hfrom, ok_bind]
    exact ih (done ++ [it]) (netStep cs it) (by simp [hsplit]) (FromItems_netStep done cs it hfrom)

theorem busOf_nil (name : Str) : busOf name [] = none := rfl

theorem bitsOf_ne_nil (name : Str) (items : List NetItem) (it : NetItem) (hit : it ∈ items) (hn : it.name = name)
    (i : Nat) (hi : it.idx = some i) : bitsOf name items ≠ [] := by
  intro h
  have : (i, it.pins) ∈ bitsOf name items := by
    unfold bitsOf
    rw [List.mem_filterMap]
    exact ⟨it, hit, by simp [hi, hn]⟩
  rw [h] at this
  cases this

/-- **nets_any_order** — C05's central sentence on the reader's own `multibit_add_cable`:
    for every well-formed list of nets of a cell (scalar nets and bit nets `name[i]` / `id_i_` of any
    number of buses, interleaved in ANY order, with ANY bits missing) the reader's net loop succeeds,
    and for every bus whose bit indices are pairwise distinct the result contains ONE cable of that
    name in which bit `k` holds exactly the pins the text gives for index `k` (nothing for a missing
    bit), based at the least index present and ending at the greatest. -/
theorem nets_any_order (items : List NetItem) (hwf : NetsWF items) :
    ∃ cs, items.foldlM (fun cs it => multibitAdd cs it.data it.pins) [] = .ok cs ∧
      ∀ it ∈ items, ∀ i, it.idx = some i → ((bitsOf it.name items).map (·.1)).Nodup →
        ∃ c, busOf it.name cs = some c ∧ c.ws ≠ [] ∧
          (∀ k, c.bit k = pinsAt (bitsOf it.name items) k) ∧
          (∀ j, j < c.ws.length → c.ws.getD j [] = pinsAt (bitsOf it.name items) (c.lo + j)) ∧
          c.lo ∈ (bitsOf it.name items).map (·.1) ∧
          (∀ x ∈ (bitsOf it.name items).map (·.1), c.lo ≤ x ∧ x < c.lo + c.ws.length) ∧
          (∃ x ∈ (bitsOf it.name items).map (·.1), c.lo + c.ws.length = x + 1) := by
  refine ⟨items.foldl netStep [], ?_, ?_⟩
  · exact foldlM_multibitAdd items hwf [] items [] rfl (by intro c hc; cases hc)
  · intro it hit i hi hnd
    have hbus : ∀ x ∈ items, x.name = it.name → x.idx.isSome = true := by
      intro x hx hxn
      have := (hwf.same x hx it hit hxn).2
      rw [hi] at this
      simpa using this
    rw [busOf_foldl items [] it.name hbus, busOf_nil]
    exact multibit_merge (bitsOf it.name items) (bitsOf_ne_nil it.name items it hit rfl i hi) hnd

theorem busOf_netStep_scalar (cs : List CCable) (it : NetItem) (hidx : it.idx = none)
    (hnone : findName (cs.map (·.data)) it.name = none) :
    busOf it.name (netStep cs it) = some ⟨0, [it.pins]⟩ := by
  unfold netStep
  simp only [hidx]
  rw [busOf_append_new cs _ it.name (by rw [nameOf_scalarCable, nameOf_withName]) hnone]
  rfl

theorem fromItems_foldl (items done : List NetItem) (cs : List CCable) (h : FromItems done cs) :
    FromItems (done ++ items) (items.foldl netStep cs) := by
  induction items generalizing done cs with
  | nil => simpa using h
  | cons it r ih =>
    have := ih (done ++ [it]) (netStep cs it) (FromItems_netStep done cs it h)
    simpa using this

/-- **scalar nets survive**: in a well-formed net list every scalar net ends as the one-wire cable of
    its name carrying exactly its pins, wherever it stands among the bit nets -/
theorem scalar_survives (items : List NetItem) (hwf : NetsWF items) (it : NetItem) (hit : it ∈ items)
    (hidx : it.idx = none) : busOf it.name (items.foldl netStep []) = some ⟨0, [it.pins]⟩ := by
  obtain ⟨done, rest, hsplit⟩ := List.append_of_mem hit
  have hother := hwf.scalar_unique hsplit hidx
  rw [hsplit, List.foldl_append, List.foldl_cons]
  have hfrom : FromItems done (done.foldl netStep []) := by
    have := fromItems_foldl done [] [] (by intro c hc; cases hc)
    simpa using this
  have hnone := findName_none_of_fromItems done _ it.name hfrom (fun x hx => hother x (Or.inl hx))
  -- the nets after it leave the cable alone
  have hrest : ∀ (r : List NetItem) (cs : List CCable), (∀ x ∈ r, x.name ≠ it.name) →
      busOf it.name (r.foldl netStep cs) = busOf it.name cs := by
    intro r
    induction r with
    | nil => intro cs _; rfl
    | cons y r ih =>
      intro cs h
      rw [List.foldl_cons, ih _ (fun x hx => h x (by simp [hx])), busOf_netStep_other cs y it.name (h y (by simp))]
  rw [hrest rest _ (fun x hx => hother x (Or.inr hx)), busOf_netStep_scalar _ it hidx hnone]

def cableNames (cs : List CCable) : List (Option Str) := cs.map fun c => nameOf c.data

theorem findName_none_iff (cs : List CCable) (n : Str) :
    findName (cs.map (·.data)) n = none ↔ some n ∉ cableNames cs := by
  simp only [findName_eq_none, cableNames, List.mem_map, forall_exists_index, and_imp, forall_apply_eq_imp_iff₂, not_exists,
    not_and]

theorem cableNames_set (cs : List CCable) (k : Nat) (c' ex : CCable) (hk : cs[k]? = some ex) (hd : c'.data = ex.data) :
    cableNames (cs.set k c') = cableNames cs :=
  map_set_same (fun c : CCable => nameOf c.data) cs k c' ex hk (by rw [hd])

/-- names of the cables = names the nets read so far declare, each once -/
structure NamesInv (done : List NetItem) (cs : List CCable) : Prop where
  nodup : (cableNames cs).Nodup
  complete : ∀ x ∈ done, some x.name ∈ cableNames cs
  sound : ∀ o ∈ cableNames cs, ∃ x ∈ done, o = some x.name

/-- what the loop maintains besides `NamesInv`: the cables stand in the order their names first occur,
    and each carries the identifier and the kind of the nets of its name -/
structure CabInv (done : List NetItem) (cs : List CCable) : Prop where
  order : cableNames cs = ((done.map (·.name)).foldl addName []).map some
  info : ∀ c ∈ cs, ∃ it ∈ done, nameOf c.data = some it.name ∧ identOf c.data = some it.ident ∧
    c.scalarFlag = it.idx.isNone

/-- **one step of the net loop**: the names stay those declared so far, each once, and in the order of first
    occurrence; what a cable carries is `info_netStep` -/
theorem netStep_inv (items done : List NetItem) (it : NetItem) (rest : List NetItem) (cs : List CCable)
    (hwf : NetsWF items) (hsplit : items = done ++ it :: rest) (hinv : NamesInv done cs) :
    NamesInv (done ++ [it]) (netStep cs it) ∧ (CabInv done cs → CabInv (done ++ [it]) (netStep cs it)) := by
  suffices h : NamesInv (done ++ [it]) (netStep cs it) ∧
      (cableNames cs = ((done.map (·.name)).foldl addName []).map some →
        cableNames (netStep cs it) = (((done ++ [it]).map (·.name)).foldl addName []).map some) from
    ⟨h.1, fun hc => ⟨h.2 hc.order, info_netStep (fun x f => f = x.idx.isNone) done cs it rfl hc.info⟩⟩
  have hfold : ((done ++ [it]).map (·.name)).foldl addName [] =
      addName ((done.map (·.name)).foldl addName []) it.name := by
    simp [List.foldl_append]
  -- a new cable, under a name no cable has yet, goes to the end
  have happend : ∀ c : CCable, nameOf c.data = some it.name → some it.name ∉ cableNames cs →
      NamesInv (done ++ [it]) (cs ++ [c]) ∧
      (cableNames cs = ((done.map (·.name)).foldl addName []).map some →
        cableNames (cs ++ [c]) = (((done ++ [it]).map (·.name)).foldl addName []).map some) := by
    intro c hc hnot
    have hcn : cableNames (cs ++ [c]) = cableNames cs ++ [some it.name] := by simp [cableNames, hc]
    refine ⟨⟨?_, ?_, ?_⟩, fun ho => ?_⟩ <;> rw [hcn]
    · refine List.nodup_append.mpr ⟨hinv.nodup, by simp, ?_⟩
      rintro a ha b hb rfl
      exact hnot ((List.mem_singleton.mp hb) ▸ ha)
    · intro x hx
      rcases List.mem_append.mp hx with h | h
      · exact List.mem_append_left _ (hinv.complete x h)
      · rw [List.mem_singleton.mp h]; simp
    · intro o ho
      rcases List.mem_append.mp ho with h | h
      · obtain ⟨x, hx, e⟩ := hinv.sound o h
        exact ⟨x, by simp [hx], e⟩
      · exact ⟨it, by simp, List.mem_singleton.mp h⟩
    · rw [hfold, addName, if_neg fun hm => hnot (ho ▸ List.mem_map_of_mem hm), List.map_append, ho]
      rfl
  rcases netStep_cases cs it with ⟨hi, he⟩ | ⟨i, _, hf, he⟩ | ⟨i, k, hk, _, hf, he⟩ <;> rw [he]
  · refine happend _ (by rw [nameOf_scalarCable, nameOf_withName]) (fun hm => ?_)
    obtain ⟨x, hx, e⟩ := hinv.sound _ hm
    exact hwf.scalar_unique hsplit hi x (Or.inl hx) (Option.some.inj e).symm
  · exact happend _ (nameOf_busCable _ _ _ _) ((findName_none_iff cs it.name).mp hf)
  · -- a further bit of a bus: the cable is there, under its name
    have hnames := cableNames_set cs k (mergeInto cs[k] i it.pins) cs[k] (List.getElem?_eq_getElem hk)
      (mergeInto_eq cs[k] i it.pins).2.2.1
    obtain ⟨_, hnk⟩ := findName_sound _ _ _ hf
    simp only [List.getElem_map] at hnk
    have hpresent : some it.name ∈ cableNames cs := List.mem_map.mpr ⟨cs[k], List.getElem_mem hk, hnk⟩
    refine ⟨⟨?_, ?_, ?_⟩, fun ho => ?_⟩ <;> rw [hnames]
    · exact hinv.nodup
    · intro x hx
      rcases List.mem_append.mp hx with h | h
      · exact hinv.complete x h
      · rw [List.mem_singleton.mp h]; exact hpresent
    · intro o ho
      obtain ⟨x, hx, e⟩ := hinv.sound o ho
      exact ⟨x, by simp [hx], e⟩
    · rw [ho] at hpresent
      obtain ⟨x, hx, e⟩ := List.mem_map.mp hpresent
      cases e
      rw [hfold, addName, if_pos hx, ho]

theorem namesInv_step (items done : List NetItem) (it : NetItem) (rest : List NetItem) (cs : List CCable)
    (hwf : NetsWF items) (hsplit : items = done ++ it :: rest) (hinv : NamesInv done cs) :
    NamesInv (done ++ [it]) (netStep cs it) :=
  (netStep_inv items done it rest cs hwf hsplit hinv).1

theorem cabInv_foldl (items : List NetItem) (hwf : NetsWF items) :
    ∀ (done rest : List NetItem) (cs : List CCable), items = done ++ rest → NamesInv done cs → CabInv done cs →
      NamesInv (done ++ rest) (rest.foldl netStep cs) ∧ CabInv (done ++ rest) (rest.foldl netStep cs) := by
  intro done rest
  induction rest generalizing done with
  | nil => intro cs _ h1 h2; simpa using ⟨h1, h2⟩
  | cons it r ih =>
    intro cs hsplit h1 h2
    have hs := netStep_inv items done it r cs hwf hsplit h1
    simpa using ih (done ++ [it]) (netStep cs it) (by simp [hsplit]) hs.1 (hs.2 h2)

theorem cabInv_all (items : List NetItem) (hwf : NetsWF items) :
    NamesInv items (items.foldl netStep []) ∧ CabInv items (items.foldl netStep []) := by
  have := cabInv_foldl items hwf [] items [] rfl
    ⟨(by simp [cableNames]), (fun x hx => by cases hx), (fun o ho => by simp [cableNames] at ho)⟩
    ⟨rfl, (fun c hc => by cases hc)⟩
  simpa using this

/-- **one cable per declared name**: after a well-formed net list the cables carry pairwise different
    names and these are exactly the (cable-level) names the nets declare — nothing is lost, nothing is
    invented, nothing is merged across names -/
theorem one_cable_per_name (items : List NetItem) (hwf : NetsWF items) :
    (cableNames (items.foldl netStep [])).Nodup ∧
    (∀ x ∈ items, some x.name ∈ cableNames (items.foldl netStep [])) ∧
    (∀ o ∈ cableNames (items.foldl netStep []), ∃ x ∈ items, o = some x.name) := by
  have := (cabInv_all items hwf).1
  exact ⟨this.nodup, this.complete, this.sound⟩

end Spydr.Edif
