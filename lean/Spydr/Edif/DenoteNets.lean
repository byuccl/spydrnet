/-
  The nets of a cell of an abstract design, through `contentsItem` / `parse_net` / `parse_portRef` /
  `multibit_add_cable`: the reader's loop on the rendered nets computes `netStep`.
-/
import Spydr.Edif.DenoteLeaf
namespace Spydr.Edif

theorem foldlM_contents_ANets (sc : Scope) (nets : List ANet) (st : CellSt)
    (hk : ∀ n ∈ nets, n.kind.okB = true)
    (hp : ∀ n ∈ nets, ∀ pin ∈ n.pins, pin.Resolves { sc := sc, ports := st.ports, insts := st.insts }) :
    ∃ yss : List (List SExp), nets.map ANet.sexp = yss.map SExp.list ∧
      yss.foldlM (contentsItem sc) st =
        ((nets.map ANet.item).foldlM (fun cs it => multibitAdd cs it.data it.pins) st.cables) >>=
          fun cs => pure { st with cables := cs } := by
  induction nets generalizing st with
  | nil => exact ⟨[], rfl, by simp [pure, Except.pure, bind, Except.bind]⟩
  | cons n r ih =>
    obtain ⟨ys, hys, hstep⟩ := contentsItem_ANet sc st n (hk n (by simp)) (hp n (by simp))
    cases hm : multibitAdd st.cables n.item.data n.item.pins with
    | error e =>
      obtain ⟨yss, hyss, _⟩ := ih st (fun m hm => hk m (by simp [hm])) (fun m hm => hp m (by simp [hm]))
      refine ⟨ys :: yss, by simp [hys, hyss], ?_⟩
      simp only [List.foldlM_cons, hstep, hm, List.map_cons, bind, Except.bind]
    | ok cs =>
      obtain ⟨yss, hyss, hfold⟩ := ih { st with cables := cs } (fun m hm => hk m (by simp [hm]))
        (fun m hm => hp m (by simp [hm]))
      refine ⟨ys :: yss, by simp [hys, hyss], ?_⟩
      simp only [List.foldlM_cons, hstep, hm, List.map_cons, bind, Except.bind, pure, Except.pure]
      exact hfold

theorem item_name (n : ANet) : n.item.name = n.cname := by
  obtain ⟨k, p⟩ := n; cases k <;> rfl

theorem item_ident (n : ANet) : n.item.ident = n.kind.key.1 := by
  obtain ⟨k, p⟩ := n; cases k <;> rfl

theorem item_isSome (n : ANet) : n.item.idx.isSome = n.kind.isBit := by
  obtain ⟨k, p⟩ := n; cases k <;> rfl

theorem item_isNone (n : ANet) : n.item.idx.isNone = !n.kind.isBit := by
  obtain ⟨k, p⟩ := n; cases k <;> rfl

theorem kind_okB_of_nets (nets : List ANet) (h : netsOKB nets = true) : ∀ n ∈ nets, n.kind.okB = true := by
  simp only [netsOKB, Bool.and_eq_true, List.all_eq_true] at h
  exact h.1.1.1

theorem netsWF_of_okB (nets : List ANet) (h : netsOKB nets = true) : NetsWF (nets.map ANet.item) := by
  simp only [netsOKB, Bool.and_eq_true, List.all_eq_true, decide_eq_true_eq] at h
  obtain ⟨⟨⟨heach, hpair⟩, hsc⟩, _⟩ := h
  refine ⟨?_, ?_, ?_, ?_⟩
  · intro it hit
    obtain ⟨n, hn, rfl⟩ := List.mem_map.mp hit
    have := heach n hn
    obtain ⟨k, p⟩ := n
    cases k with
    | scalar a =>
      obtain ⟨ha, hsep, hne⟩ := ANetKind.okB_scalar this
      exact ⟨hne, a.okB_id ha, hsep⟩
    | bit bi bn i j =>
      obtain ⟨hbi, _, _, hbr, hne, _⟩ := ANetKind.okB_bit this
      exact ⟨hne, hbi, hbr⟩
  · intro a ha b hb hab
    obtain ⟨na, hna, rfl⟩ := List.mem_map.mp ha
    obtain ⟨nb, hnb, rfl⟩ := List.mem_map.mp hb
    have := hpair na hna nb hnb
    rw [item_name, item_name] at hab
    have hab' : na.kind.key.2 = nb.kind.key.2 := hab
    rw [if_pos hab'] at this
    simp only [Bool.and_eq_true, decide_eq_true_eq, beq_iff_eq] at this
    rw [item_ident, item_ident, item_isSome, item_isSome]
    exact this
  · intro a ha b hb hab
    obtain ⟨na, hna, rfl⟩ := List.mem_map.mp ha
    obtain ⟨nb, hnb, rfl⟩ := List.mem_map.mp hb
    have := hpair na hna nb hnb
    rw [item_name, item_name] at hab
    have hab' : ¬ na.kind.key.2 = nb.kind.key.2 := hab
    rw [if_neg hab'] at this
    rw [item_ident, item_ident]
    simpa using this
  · have e : (nets.map ANet.item).filter (fun it => it.idx.isNone) =
        (nets.filter fun n => !n.kind.isBit).map ANet.item := by
      rw [List.filter_map]
      congr 1
      apply List.filter_congr
      intro n _
      simp [Function.comp, item_isNone]
    rw [e, List.map_map]
    have e2 : ((fun x : NetItem => x.name) ∘ ANet.item) = ANet.cname := by
      funext n; exact item_name n
    rw [e2]
    exact hsc

theorem foldlM_contents_ANets_ok (sc : Scope) (nets : List ANet) (st : CellSt) (hst : st.cables = [])
    (hn : netsOKB nets = true)
    (hp : ∀ n ∈ nets, ∀ pin ∈ n.pins, pin.Resolves { sc := sc, ports := st.ports, insts := st.insts }) :
    ∃ yss : List (List SExp), nets.map ANet.sexp = yss.map SExp.list ∧
      yss.foldlM (contentsItem sc) st = .ok { st with cables := (nets.map ANet.item).foldl netStep [] } := by
  obtain ⟨yss, hy, hf⟩ := foldlM_contents_ANets sc nets st (kind_okB_of_nets nets hn) hp
  refine ⟨yss, hy, ?_⟩
  rw [hf, hst, foldlM_multibitAdd (nets.map ANet.item) (netsWF_of_okB nets hn) [] _ [] rfl (by intro x hx; cases hx)]
  rfl

theorem bitsOf_items (nm : Str) (nets : List ANet) : bitsOf nm (nets.map ANet.item) = busBits nm nets := by
  unfold bitsOf busBits
  rw [List.filterMap_map]
  congr 1
  funext n
  obtain ⟨k, p⟩ := n
  cases k <;> rfl

theorem mem_addName (acc : List Str) (n x : Str) : x ∈ addName acc n ↔ x ∈ acc ∨ x = n := by
  unfold addName
  by_cases h : n ∈ acc
  · rw [if_pos h]
    constructor
    · exact Or.inl
    · rintro (h1 | rfl)
      · exact h1
      · exact h
  · rw [if_neg h]; simp

theorem mem_firstNames (l : List Str) (x : Str) : x ∈ firstNames l ↔ x ∈ l := by
  unfold firstNames
  have : ∀ acc, x ∈ l.foldl addName acc ↔ x ∈ acc ∨ x ∈ l := by
    induction l with
    | nil => intro acc; simp
    | cons a r ih =>
      intro acc
      rw [List.foldl_cons, ih, mem_addName, List.mem_cons, or_assoc]
  simpa using this []

end Spydr.Edif
