/-
  The reader is insensitive to the letter case of construct keywords: `ofSExp (norm e) = ofSExp e` for
  EVERY s-expression, where `norm` lowercases the head atom of every list (except the two keywords whose
  spelling the reader stores, `cellType` and `viewType`).
-/
import Spydr.Edif.ModelRead
import Spydr.Common.Char
import Spydr.Edif.KwSpec
namespace Spydr.Edif

theorem toLower_of_not_upper (c : Char) (h : ¬ (c.val ≥ 'A'.val ∧ c.val ≤ 'Z'.val)) : c.toLower = c :=
  Spydr.toLower_of_not_upper c (by simpa [Char.isUpper] using h)

theorem toLower_val_of_upper (c : Char) (h : c.val ≥ 'A'.val ∧ c.val ≤ 'Z'.val) :
    c.toLower.val = c.val + ('a'.val - 'A'.val) := by
  unfold Char.toLower
  rw [dif_pos h]

theorem lower_idem (s : Str) : lower (lower s) = lower s := by
  unfold lower
  rw [List.map_map]
  apply List.map_congr_left
  intro c _
  exact toLower_idem c

theorem lower_normHead (a : Str) : lower (normHead a) = lower a := by
  unfold normHead
  split
  · rfl
  · exact lower_idem a

def normH : SExp → SExp
  | .atom a => .atom (normHead a)
  | .list ys => .list (normC ys)

theorem normH_atom (a : Str) : normH (.atom a) = .atom (normHead a) := rfl
theorem normH_list (ys : List SExp) : normH (.list ys) = .list (normC ys) := rfl

@[simp] theorem normC_nil : normC [] = [] := by simp [normC]
@[simp] theorem normL_nil : normL [] = [] := by simp [normL]
@[simp] theorem normC_cons (x : SExp) (r : List SExp) : normC (x :: r) = normH x :: normL r := by
  cases x <;> simp [normC, normH]
@[simp] theorem normL_cons (x : SExp) (r : List SExp) : normL (x :: r) = norm x :: normL r := by simp [normL]
@[simp] theorem norm_atom (a : Str) : norm (.atom a) = .atom a := by simp [norm]
@[simp] theorem norm_list (xs : List SExp) : norm (.list xs) = .list (normC xs) := by simp [norm]

@[simp] theorem isKw_normH (x : SExp) (k : String) : isKw (normH x) k = isKw x k := by
  cases x with
  | atom a => simp [normH, isKw, lower_normHead]
  | list ys => simp [normH, isKw]

@[simp] theorem headIs_normC (ys : List SExp) (k : String) : headIs (normC ys) k = headIs ys k := by
  cases ys with
  | nil => rfl
  | cons x r => simp [headIs]

theorem headIs_cons_isKw (x : SExp) (r : List SExp) (k : String) : headIs (x :: r) k = isKw x k := rfl

@[simp] theorem headIs_normH_cons (x : SExp) (r : List SExp) (k : String) : headIs (normH x :: r) k = headIs (x :: r) k := by
  simp [headIs]

@[simp] theorem headAny_normH_cons (x : SExp) (r : List SExp) (ks : List String) :
    headAny (normH x :: r) ks = headAny (x :: r) ks := by
  unfold headAny
  congr 1
  funext k
  exact headIs_normH_cons x r k

@[simp] theorem headAny_normC (ys : List SExp) (ks : List String) : headAny (normC ys) ks = headAny ys ks := by
  unfold headAny
  congr 1
  funext k
  exact headIs_normC ys k

@[simp] theorem tail_normC (ys : List SExp) : (normC ys).tail = normL ys.tail := by
  cases ys <;> simp

@[simp] theorem tail_normL (ys : List SExp) : (normL ys).tail = normL ys.tail := by
  cases ys <;> simp

@[simp] theorem isKw_norm (x : SExp) (k : String) : isKw (norm x) k = isKw x k := by cases x <;> simp [isKw]

@[simp] theorem identOfS_norm (x : SExp) : identOfS (norm x) = identOfS x := by cases x <;> simp [identOfS]
@[simp] theorem stringOfS_norm (x : SExp) : stringOfS (norm x) = stringOfS x := by cases x <;> simp [stringOfS]
@[simp] theorem intOfS_norm (x : SExp) : intOfS (norm x) = intOfS x := by cases x <;> simp [intOfS]

theorem normH_of_kept (x : SExp) (k : String) (hk : k = "celltype" ∨ k = "viewtype") (h : isKw x k = true) : normH x = x := by
  cases x with
  | list ys => simp [isKw] at h
  | atom a =>
    simp only [isKw, beq_iff_eq] at h
    have : keepCase a = true := by
      unfold keepCase
      rcases hk with rfl | rfl <;> simp [h]
    simp [normH, normHead, this]

theorem mapM_normL {α : Type} (f : SExp → R α) (hf : ∀ x, f (norm x) = f x) (xs : List SExp) :
    (normL xs).mapM f = xs.mapM f := by
  induction xs with
  | nil => rfl
  | cons x r ih => simp [List.mapM_cons, hf, ih]

@[simp] theorem endC_normL (w : String) (xs : List SExp) : endC w (normL xs) = endC w xs := by
  cases xs <;> simp [endC]

def mapRest {σ : Type} (r : R (σ × List SExp)) : R (σ × List SExp) :=
  match r with
  | .ok (s, rest) => .ok (s, normL rest)
  | .error e => .error e

/-- running on with a result whose remaining items are normalised: every `…_norm` equation about a
    construct is this rewrite, the equations of its sub-parsers, and `bind_congr` -/
@[simp] theorem bind_mapRest {σ β : Type} (r : R (σ × List SExp)) (f : σ × List SExp → R β) :
    (mapRest r >>= f) = (r >>= fun p => f (p.1, normL p.2)) := by
  rcases r with e | ⟨s, rest⟩ <;> rfl

theorem bind_congr_both {α β : Type} {x x' : R α} {f g : α → R β} (hx : x = x') (h : ∀ a, f a = g a) :
    x >>= f = x' >>= g := hx ▸ bind_congr h

@[simp] theorem mapRest_pure {σ : Type} (s : σ) (rest : List SExp) : mapRest (pure (s, rest)) = pure (s, normL rest) := rfl

@[simp] theorem mapRest_bind {α σ : Type} (x : R α) (f : α → R (σ × List SExp)) :
    mapRest (x >>= f) = (x >>= fun a => mapRest (f a)) := by
  cases x <;> rfl

theorem loopC_normL {σ : Type} (h : σ → List SExp → R σ) (hh : ∀ s ys, h s (normC ys) = h s ys) :
    ∀ (xs : List SExp) (s : σ), loopC h s (normL xs) = mapRest (loopC h s xs)
  | [], _ => rfl
  | .atom _ :: _, _ => rfl
  | .list ys :: r, s => by
    simp only [normL_cons, norm_list, loopC, hh, mapRest_bind]
    exact bind_congr fun s' => loopC_normL h hh r s'

end Spydr.Edif
