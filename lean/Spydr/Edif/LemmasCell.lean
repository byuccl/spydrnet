/-
  The cell level: the reader on a written cell, whoever wrote it (`parseCell_written`: the three blocks of
  items and what they are read as are hypotheses), and the writer's `(Cell …)` as an instance.
-/
import Spydr.Edif.LemmasInst
namespace Spydr.Edif

theorem readCable_wires (c : CCable) (ident name : Str) : (readCable c ident name).wires = c.wires := by
  unfold readCable
  split
  · rename_i h
    obtain ⟨w, hw⟩ := List.length_eq_one_iff.mp h.1
    simp [scalarCable, hw]
  · rfl

theorem pins_readCables (cs : List CCable) :
    (cs.map readCable1).flatMap (fun c => c.wires.flatten) = cs.flatMap (fun c => c.wires.flatten) := by
  induction cs with
  | nil => rfl
  | cons c r ih => simp [List.flatMap_cons, readCable1, readCable_wires, ih]

structure CellOK (libs : List CLib) (sc : Scope) (d : CDef) (ident name : Str) (iws : List IW) : Prop where
  named : NamedOK d.data ident name
  ports : PortsOK [] d.ports
  insts : InstsOK libs sc [] d.insts iws
  cables : CablesOK libs d { sc := sc, ports := d.ports.map readPort1, insts := iws.map IW.read } [] d.cables
  nodup : (d.cables.flatMap (fun c => c.wires.flatten)).Nodup

def kCELLTYPE : Str := S "EDIF.cellType"
def kVIEWID : Str := S "EDIF.view.identifier"
def kVIEWTYPE : Str := S "EDIF.view.viewType"

/-- the definition dictionary the reader builds for a cell the writer wrote -/
def cellData (ident name : Str) : Data :=
  (((withName [] ident name).set kCELLTYPE (.str (S "celltype"))).set kVIEWID (.str (S "netlist"))).set kVIEWTYPE
    (.str (S "viewtype"))

def readCell (d : CDef) (ident name : Str) (iws : List IW) : CDef :=
  { data := cellData ident name, ports := d.ports.map readPort1, cables := d.cables.map readCable1,
    insts := iws.map IW.read }

theorem InstsOK_length (libs : List CLib) (sc : Scope) (prev : List (Str × Str)) (is : List CInst) (ws : List IW)
    (h : InstsOK libs sc prev is ws) : is.length = ws.length := by
  induction is generalizing prev ws with
  | nil => cases ws with
    | nil => rfl
    | cons _ _ => exact absurd h (by simp [InstsOK])
  | cons i r ih => cases ws with
    | nil => exact absurd h (by simp [InstsOK])
    | cons w ws => simp [ih _ _ h.2.2]

theorem KnownBy_nil : KnownBy [] ([] : List Data) := by intro s hs; cases hs

theorem loopC_lists_nil {σ : Type} (h : σ → List SExp → R σ) (s : σ) (yss : List (List SExp)) :
    loopC h s (yss.map SExp.list) = (yss.foldlM h s) >>= fun s' => pure (s', []) := by
  have := loopC_lists h s yss []
  simpa [loopC] using this

theorem joinDot_viewid : joinDot [S "EDIF", S "view", S "identifier"] = kVIEWID := joinDot_S ["EDIF", "view", "identifier"]
theorem joinDot_viewtype : joinDot [S "EDIF", S "view", S "viewType"] = kVIEWTYPE := joinDot_S ["EDIF", "view", "viewType"]
theorem joinDot_celltype : joinDot [S "EDIF", S "cellType"] = kCELLTYPE := joinDot_S ["EDIF", "cellType"]

theorem nameDef_atom (m : Meta) (v : Str) (rest : List SExp) :
    nameDef m (.atom v :: rest) = (do
      let ident ← identOfS (.atom v)
      let m ← setAttr (m.push "identifier") (.str ident)
      pure (m.pop, rest)) := rfl

theorem nameDef_A (m : Meta) (s : String) (rest : List SExp) :
    nameDef m (A s :: rest) = (do
      let ident ← identOfS (A s)
      let m ← setAttr (m.push "identifier") (.str ident)
      pure (m.pop, rest)) := nameDef_atom m s.toList rest

/-- the dictionary of a cell read from `(cell name (celltype …) (view v (viewtype …) …))`; `cellData i n` is
    `cellDataV i n (S "netlist")` -/
def cellDataV (ident name v : Str) : Data :=
  (((withName [] ident name).set kCELLTYPE (.str (S "celltype"))).set kVIEWID (.str v)).set kVIEWTYPE (.str (S "viewtype"))

theorem identOf_cellDataV (ident name v : Str) : identOf (cellDataV ident name v) = some ident := by
  rw [cellDataV, identOf_set _ kVIEWTYPE _ (S_ne rfl), identOf_set _ kVIEWID _ (S_ne rfl),
    identOf_set _ kCELLTYPE _ (S_ne rfl), identOf_withName]

theorem nameOf_cellDataV (ident name v : Str) : nameOf (cellDataV ident name v) = some name := by
  rw [cellDataV, nameOf_set _ kVIEWTYPE _ (S_ne rfl), nameOf_set _ kVIEWID _ (S_ne rfl),
    nameOf_set _ kCELLTYPE _ (S_ne rfl), nameOf_withName]

theorem viewIdentOf_cellDataV (ident name v : Str) : viewIdentOf (cellDataV ident name v) = some v := by
  have h3 : kVIEWID ≠ kVIEWTYPE := S_ne rfl
  show Data.getStr? _ kVIEWID = _
  rw [cellDataV, Data.getStr?, Data.get?_set_other _ _ _ _ h3, Data.get?_set_self]

theorem identOf_cellData (ident name : Str) : identOf (cellData ident name) = some ident := identOf_cellDataV _ _ _
theorem nameOf_cellData (ident name : Str) : nameOf (cellData ident name) = some name := nameOf_cellDataV _ _ _
theorem viewIdentOf_cellData (ident name : Str) : viewIdentOf (cellData ident name) = some (S "netlist") :=
  viewIdentOf_cellDataV _ _ _

theorem parseCell_written (sc : Scope) (kw nm : SExp) (ident name v : Str)
    (hnm : ∀ rest, nameDef Meta.new (nm :: rest) = .ok ({ data := withName [] ident name, pfx := [S "EDIF"] }, rest))
    (hv : validIdentTok v = true) (pyss iyss nyss : List (List SExp))
    (ports : List CPort) (insts : List CInst) (cables : List CCable)
    (m : Meta) (hm : m = ⟨cellDataV ident name v, [S "EDIF", S "view"]⟩)
    (hp : pyss.foldlM ifaceItem ({ m := m }, false) = .ok ({ m := m, ports := ports }, false))
    (hi : iyss.foldlM (contentsItem sc) { m := m, ports := ports } = .ok { m := m, ports := ports, insts := insts })
    (hc : nyss.foldlM (contentsItem sc) { m := m, ports := ports, insts := insts } =
      .ok { m := m, ports := ports, insts := insts, cables := cables })
    (hdup : hasDupPin cables = false) (contents : List SExp)
    (hcont : contents = [.list (A "contents" :: (iyss ++ nyss).map SExp.list)] ∨
      (contents = [] ∧ insts = [] ∧ cables = [])) :
    parseCell sc [kw, nm, .list [A "celltype", A "GENERIC"],
        .list (A "view" :: .atom v :: .list [A "viewtype", A "NETLIST"] ::
          .list (A "interface" :: pyss.map SExp.list) :: contents)] =
      .ok { data := cellDataV ident name v, ports := ports, cables := cables, insts := insts } := by
  have hk : isKw (A "celltype") "celltype" = true := by decide +kernel
  have ht : (["generic", "tie", "ripper"].any (isKw (A "GENERIC"))) = true := by decide +kernel
  have hvw : isKw (A "view") "view" = true := by decide +kernel
  have hs : isKw (A "view") "status" = false := by decide +kernel
  have hk2 : isKw (A "viewtype") "viewtype" = true := by decide +kernel
  have ht2 : (viewTypes.any (isKw (A "NETLIST"))) = true := by decide +kernel
  have hif : isKw (A "interface") "interface" = true := by decide +kernel
  have hc1 : isKw (A "contents") "status" = false := by decide +kernel
  have hc2 : isKw (A "contents") "contents" = true := by decide +kernel
  have hat : ∀ s, atomText (A s) = S s := fun _ => rfl
  -- the items of the view after the interface: a contents block (instances, then nets) or nothing
  have hitems : loopC (viewItem sc) ({ m := m, ports := ports }, false, false) contents =
      .ok (({ m := m, ports := ports, insts := insts, cables := cables }, false, !contents.isEmpty), []) := by
    rcases hcont with rfl | ⟨rfl, rfl, rfl⟩
    · simp only [loopC, viewItem, headIs, hc1, hc2, Bool.false_eq_true, if_false, if_true, List.tail_cons, loopC_lists_nil,
        List.foldlM_append, hi, hc, hdup, endC, ok_bind, pure_ok]
      rfl
    · rfl
  -- `m` is the state inside the view, in which the three blocks are read
  subst hm
  simp only [cellDataV] at hp hitems
  simp only [parseCell, headIs, List.tail_cons, hnm, hk, ht, Bool.not_true, Bool.false_eq_true, if_false, push_mk, pop_mk,
    List.cons_append, List.nil_append, List.dropLast, hat,
    setAttr_key _ _ kCELLTYPE _ joinDot_celltype (S_ne rfl) (S_ne rfl), loopC, cellItem, hs, hvw, if_true, parseView,
    nameDef_atom, identOfS_atom v hv, setAttr_key _ _ kVIEWID _ joinDot_viewid (S_ne rfl) (S_ne rfl), hk2, ht2,
    setAttr_key _ _ kVIEWTYPE _ joinDot_viewtype (S_ne rfl) (S_ne rfl), hif, loopC_lists_nil, hp, hitems, endC, ok_bind, pure_ok,
    cellDataV]

/-- C03 at cell level (`C03.edif_roundtrip_cell`) -/
theorem cell_roundtrip (libs : List CLib) (sc : Scope) (d : CDef) (ident name : Str) (iws : List IW)
    (h : CellOK libs sc d ident name iws) :
    ∃ r, defSExp libs d = .ok (.list (A "Cell" :: r)) ∧
      parseCell sc (A "Cell" :: r) = .ok (readCell d ident name iws) := by
  obtain ⟨nm, hnm, _, hdef⟩ := nameDef_nameSExp d.data ident name h.named "definition"
  obtain ⟨pyss, hp, hpf⟩ := ports_roundtrip d.ports [] { m := ⟨cellDataV ident name (S "netlist"), [S "EDIF", S "view"]⟩ } false
    h.ports KnownBy_nil
  obtain ⟨iyss, hi, hif⟩ := insts_roundtrip libs sc d.insts iws []
    { m := ⟨cellDataV ident name (S "netlist"), [S "EDIF", S "view"]⟩, ports := d.ports.map readPort1 } h.insts KnownBy_nil
  obtain ⟨cysss, hc, hcf⟩ := cables_roundtrip libs d sc d.cables []
    { m := ⟨cellDataV ident name (S "netlist"), [S "EDIF", S "view"]⟩, ports := d.ports.map readPort1, insts := iws.map IW.read }
    h.cables KnownBy_nil
  refine ⟨_, by simp only [defSExp, hnm, hp, hi, hc, ok_bind, pure_ok]; rfl,
    parseCell_written sc _ nm ident name (S "netlist") (fun rest => hdef [] rest rfl) (by decide) pyss iyss cysss.flatten
      _ _ _ _ rfl hpf hif hcf (hasDupPin_false _ ((pins_readCables d.cables).symm ▸ h.nodup)) _ ?_⟩
  by_cases hcnt : d.insts.length + d.cables.length > 0
  · rw [if_pos hcnt]; exact .inl (by simp [List.map_flatten])
  · have hlen := InstsOK_length _ _ _ _ _ h.insts
    rw [if_neg hcnt]
    exact .inr ⟨rfl, by rw [List.length_eq_zero_iff.mp (by omega : iws.length = 0)]; rfl,
      by rw [List.length_eq_zero_iff.mp (by omega : d.cables.length = 0)]; rfl⟩

end Spydr.Edif
