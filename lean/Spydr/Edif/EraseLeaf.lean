/-
  Erasure: instances, nets, the cable builder.  For each construct the first run is taken apart by its accepted
  form (`…_iff`), its loops are carried over by `loopC_strip`, and the second run is put together by the same
  equivalence.  The property reader and the cable builder are decision trees whose tests see identifiers and
  names only: there the two runs are followed branch by branch (`Sim`).
-/
import Spydr.Edif.ErasePort
namespace Spydr.Edif

theorem setAttr_pfx (m m1 : Meta) (v : Val) (h : setAttr m v = .ok m1) : m1.pfx = m.pfx := by
  unfold setAttr at h
  peel h
  all_goals (simp only [Except.ok.injEq] at h; subst h; rfl)

theorem parseRename_pfx (m m1 : Meta) (ys : List SExp) (h : parseRename m ys = .ok m1) : m1.pfx = m.pfx := by
  obtain ⟨_, _, _, _, _, _, _, -, -, -, ha, -, hb, rfl⟩ := parseRename_iff.mp h
  exact (pop_pfx _ _ _ (setAttr_pfx _ _ _ hb)).trans (pop_pfx _ _ _ (setAttr_pfx _ _ _ ha))

theorem nameDef_pfx (m m1 : Meta) (xs rest : List SExp) (h : nameDef m xs = .ok (m1, rest)) : m1.pfx = m.pfx := by
  obtain ⟨_, -, ⟨_, -, hr⟩ | ⟨_, _, -, ha, rfl⟩⟩ := nameDef_iff.mp h
  · exact parseRename_pfx _ _ _ hr
  · exact pop_pfx _ _ _ (setAttr_pfx _ _ _ ha)

theorem kPID_I : kPID ∈ KI := by simp [KI]
theorem kPORIG_I : kPORIG ∈ KI := by simp [KI]
theorem kPROPS_I : kPROPS ∈ KI := by simp [KI]

theorem key_PID (p : List Str) (h : p = [S "EDIF", S "properties"]) : joinDot (p ++ [S "identifier"]) = kPID := by
  subst h; exact joinDot_pid

theorem key_PORIG (p : List Str) (h : p = [S "EDIF", S "properties"]) : joinDot (p ++ [S "original_identifier"]) = kPORIG := by
  subst h; exact joinDot_porig

theorem propTail_kept (s s' : Bool) (ys : List SExp) (s1 : Bool) (_hr : True) (hnz : noiseIn ["owner"] ys = false)
    (hs : propTail s ys = .ok s1) : ∃ s1', propTail s' (id ys) = .ok s1' ∧ True := by
  simp only [noiseIn, List.any_cons, List.any_nil, Bool.or_false] at hnz
  unfold propTail at hs ⊢
  simp only [id, hnz, Bool.false_eq_true, if_false] at hs ⊢
  peel hs
  rename_i h1 h2 h3
  simp only [h1, h2, h3]
  exact ⟨s', rfl, trivial⟩

/-- both runs record the same entry; the second run may read another tail, as long as its `owner` loop ends alike -/
theorem propLike_rel (m m' : Meta) (nm v : SExp) (tail tail' : List SExp) (h : MRel KI m m')
    (hp : m.pfx = [S "EDIF", S "properties"])
    (ht : Sim (fun a b => a.2 = b.2) (loopC propTail false tail) (loopC propTail false tail')) :
    Sim (MRel KI) (propLike m (nm :: v :: tail)) (propLike m' (nm :: v :: tail')) := by
  unfold propLike
  refine Sim.bind (P := fun a b => MRel KI a.1 b.1 ∧ a.1.pfx = [S "EDIF", S "properties"] ∧ a.2 = v :: tail ∧ b.2 = v :: tail')
    ?_ ?_
  · intro ⟨m2, r2⟩ hv
    obtain ⟨m2', hv', hr2⟩ := nameDef_rel KI kN_I m m' m2 _ r2 h hv
    obtain ⟨rfl, -⟩ := nameDef_rest _ _ _ _ _ hv
    exact ⟨(m2', v :: tail'), (nameDef_rest _ _ _ _ _ hv').2 _, hr2, (nameDef_pfx _ _ _ _ hv).trans hp, rfl, rfl⟩
  · rintro ⟨m2, _⟩ ⟨m2', _⟩ ⟨(hr2 : MRel KI m2 m2'), (hp2 : m2.pfx = _), rfl, rfl⟩
    dsimp only
    rw [key_PID _ hp2, key_PID _ (hr2.1 ▸ hp2), key_PORIG _ hp2, key_PORIG _ (hr2.1 ▸ hp2), hr2.2 kPID kPID_I,
      hr2.2 kPORIG kPORIG_I]
    cases m2.data.get? kPID with
    | none => exact Sim.throw
    | some iv =>
      cases v with
      | atom a => exact Sim.throw
      | list vs =>
        simp only [pure_ok, ok_bind]
        refine Sim.bind (Sim.refl _) ?_
        rintro tv _ rfl
        refine Sim.bind ht ?_
        rintro ⟨_, lrest⟩ ⟨_, _⟩ rfl
        refine Sim.bind (Sim.refl _) ?_
        rintro _ _ -
        have hk : ∀ d, Meta.key { data := d, pfx := m2.pfx } ∈ KI := fun _ => by
          simp only [Meta.key, hp2]
          exact kPROPS_I
        cases m2.data.get? kPORIG with
        | none => exact Sim.pure (MRel.pop (appendAttr_rel KI _ _ _ ⟨hr2.1, sameOn_erase_both KI _ _ _ hr2.2⟩ (hk _)))
        | some o =>
          exact Sim.pure (MRel.pop (appendAttr_rel KI _ _ _
            ⟨hr2.1, sameOn_erase_both KI _ _ _ (sameOn_erase_both KI _ _ _ hr2.2)⟩ (hk _)))

theorem headIs_stripProp (ys : List SExp) (k : String) : headIs (stripProp ys) k = headIs ys k := by
  rcases ys with _ | ⟨a, _ | ⟨b, _ | ⟨c, d⟩⟩⟩ <;> rfl

theorem parseProperty_rel (m m' m1 : Meta) (ys : List SExp) (h : MRel KI m m') (hp : m.pfx = [S "EDIF"])
    (hs : parseProperty m ys = .ok m1) : ∃ m1', parseProperty m' (stripProp ys) = .ok m1' ∧ MRel KI m1 m1' := by
  obtain ⟨m2, vs, r, _, hv, _⟩ := propLike_ok _ _ _ hs
  -- an accepted property has a name and a value: `ys = kw :: nm :: (vs) :: r`
  obtain ⟨kw, nm, rfl, -⟩ := nameDef_tail hv
  refine propLike_rel _ _ nm (.list vs) r _ (h.push "properties") (by simp [Meta.push, hp]) ?_ m1 hs
  intro ⟨lb, lrest⟩ hl
  obtain ⟨lb', hl', _⟩ := loopC_strip propTail propTail (noiseIn ["owner"]) id (fun _ _ => True)
    propTail_kept (fun _ _ _ _ _ _ _ => trivial) r false false lb lrest trivial hl
  exact ⟨_, hl', rfl⟩

def InstRel (m m' : Meta) : Prop := m.pfx = [S "EDIF"] ∧ MRel KI m m'

theorem instItem_kept (m m' : Meta) (ys : List SExp) (m1 : Meta) (hr : InstRel m m')
    (hnz : noiseIn ["comment"] ys = false) (hs : instItem m ys = .ok m1) :
    ∃ m1', instItem m' (subInst ys) = .ok m1' ∧ InstRel m1 m1' := by
  simp only [noiseIn, List.any_cons, List.any_nil, Bool.or_false] at hnz
  unfold instItem at hs
  simp only [hnz, Bool.false_eq_true, if_false] at hs
  split at hs
  · rename_i hprop
    obtain ⟨m1', h1, h2⟩ := parseProperty_rel m m' m1 ys hr.2 hr.1 hs
    have e : subInst ys = stripProp ys := by simp [subInst, hprop]
    refine ⟨m1', ?_, ?_, h2⟩
    · unfold instItem
      simp only [e, headIs_stripProp, hprop, if_true, h1]
    · have := parseProperty_sameK KO m m1 ys (by rw [hr.1]; exact ns_properties_O) hs
      exact this.1.trans hr.1
  · peel hs

theorem instItem_noise (m m' : Meta) (ys : List SExp) (m1 : Meta) (hr : InstRel m m')
    (hnz : noiseIn ["comment"] ys = true) (hs : instItem m ys = .ok m1) : InstRel m1 m' := by
  have hprop := not_kept_of_noise _ ys "property" hnz (by decide)
  unfold instItem at hs
  simp only [hprop, Bool.false_eq_true, if_false] at hs
  peel hs
  have := parseComment_sameK KI m m1 ys (by rw [hr.1]; exact ns_comments_I.plain) hs
  exact ⟨this.1.trans hr.1, hr.2.noise this⟩

theorem RelInst.refl (i : CInst) : RelInst i i := ⟨rfl, SameOn.refl KI _⟩

theorem parseInstance_strip (sc sc' : Scope) (h : RelScope sc sc') (ys : List SExp) (i : CInst)
    (hs : parseInstance sc ys = .ok i) : ∃ i', parseInstance sc' (stripInst ys) = .ok i' ∧ RelInst i i' := by
  obtain ⟨m, zs, rest, r, m3, rest3, hv, hz, hr, hl, he, rfl⟩ := parseInstance_iff.mp hs
  obtain ⟨kw, nm, rfl, hall⟩ := nameDef_tail hv
  obtain ⟨m3', hl', hrel⟩ := loopC_strip instItem instItem (noiseIn ["comment"]) subInst InstRel
    instItem_kept instItem_noise rest m m m3 rest3 ⟨nameDef_pfx _ _ _ _ hv, MRel.refl KI m⟩ hl
  exact ⟨_, parseInstance_iff.mpr ⟨m, zs, _, r, m3', rest3, hall _, hz, parseViewRef_scope sc sc' h m zs r hr, hl', he, rfl⟩,
    rfl, hrel.2.2⟩

def NetRel (m m' : Meta) : Prop := m.pfx = [S "EDIF"] ∧ MRel KO m m'

theorem netItem_kept (m m' : Meta) (ys : List SExp) (m1 : Meta) (_hr : NetRel m m')
    (hnz : noiseIn ["property", "comment"] ys = false) (hs : netItem m ys = .ok m1) :
    ∃ m1', netItem m' (id ys) = .ok m1' ∧ NetRel m1 m1' := by
  simp only [noiseIn, List.any_cons, List.any_nil, Bool.or_false, Bool.or_eq_false_iff] at hnz
  unfold netItem at hs
  simp only [hnz.1, hnz.2, Bool.false_eq_true, if_false] at hs
  -- `netItem` accepts properties and comments only, and both are noise for a net: no item is kept
  peel hs

theorem netItem_noise (m m' : Meta) (ys : List SExp) (m1 : Meta) (hr : NetRel m m')
    (_hnz : noiseIn ["property", "comment"] ys = true) (hs : netItem m ys = .ok m1) : NetRel m1 m' := by
  unfold netItem at hs
  peel hs
  · have := parseProperty_sameK KO m m1 ys (by rw [hr.1]; exact ns_properties_O) hs
    exact ⟨this.1.trans hr.1, hr.2.noise this⟩
  · have := parseComment_sameK KO m m1 ys (by rw [hr.1]; exact ns_comments_O.plain) hs
    exact ⟨this.1.trans hr.1, hr.2.noise this⟩

theorem joinedItem_ctx (cx cx' : DefCtx) (h : RelCtx cx cx') (pins : List CPin) (ys : List SExp) :
    Sim Eq (joinedItem cx pins ys) (joinedItem cx' pins ys) := by
  unfold joinedItem
  refine Sim.ite (Sim.bind (P := Eq) (fun p hp => ⟨p, parsePortRef_ctx cx cx' h ys p hp, rfl⟩) ?_) (Sim.refl _)
  rintro p _ rfl
  exact Sim.refl _

theorem parseNet_strip (cx cx' : DefCtx) (h : RelCtx cx cx') (ys : List SExp) (d : Data) (pins : List CPin)
    (hs : parseNet cx ys = .ok (d, pins)) : ∃ d', parseNet cx' (stripNet ys) = .ok (d', pins) ∧ SameOn KO d d' := by
  obtain ⟨m, js, rest, jr, m3, rest3, hv, hj, hp, he, hl, he', rfl⟩ := parseNet_iff.mp hs
  obtain ⟨kw, nm, rfl, hall⟩ := nameDef_tail hv
  obtain ⟨m3', hl', hrel⟩ := loopC_strip netItem netItem (noiseIn ["property", "comment"]) id NetRel
    netItem_kept netItem_noise rest m m m3 rest3 ⟨nameDef_pfx _ _ _ _ hv, MRel.refl KO m⟩ hl
  exact ⟨_, parseNet_iff.mpr ⟨m, js, _, jr, m3', rest3, hall _, hj,
    (loopC_mono (joinedItem_ctx cx cx' h) js.tail []).eq hp, he, hl', he', rfl⟩, hrel.2.2⟩

theorem addRetry_rel (K : List Str) (hi : kIDENT ∈ K) (hn : kNAME ∈ K) (sibs sibs' : List Data) (hsib : All2 NameEq sibs sibs')
    (d d' r : Data) (hd : SameOn K d d') (hs : addRetry sibs d = .ok r) :
    ∃ r', addRetry sibs' d' = .ok r' ∧ SameOn K r r' := by
  have hne := nameEq_of_sameOn K hi hn d d' hd
  obtain ⟨hc, he⟩ | ⟨n, i, hc, hnm, hid, hni, hc2, he⟩ := addRetry_iff.mp hs
  · rw [conflicts_congr sibs sibs' hsib d d' hne] at hc
    exact ⟨d', addRetry_iff.mpr (.inl ⟨hc, rfl⟩), he ▸ hd⟩
  · have hd2 : SameOn K (d.set kNAME (.str i)) (d'.set kNAME (.str i)) := sameOn_set_both K _ _ _ _ hd
    rw [conflicts_congr sibs sibs' hsib d d' hne] at hc
    rw [conflicts_congr sibs sibs' hsib _ _ (nameEq_of_sameOn K hi hn _ _ hd2)] at hc2
    exact ⟨_, addRetry_iff.mpr (.inr ⟨n, i, hc, hne.2 ▸ hnm, hne.1 ▸ hid, hni, hc2, rfl⟩), he ▸ hd2⟩

theorem RelCable.isArray {c c' : CCable} (h : RelCable c c') : c.isArray = c'.isArray := by
  simp [CCable.isArray, CCable.isScalar, h.flag, h.wires]

theorem mergeInto_rel (ex ex' : CCable) (h : RelCable ex ex') (i : Nat) (pins : List CPin) :
    RelCable (mergeInto ex i pins) (mergeInto ex' i pins) := by
  obtain ⟨hl, hw, hd, hf⟩ := mergeInto_eq ex i pins
  obtain ⟨hl', hw', hd', hf'⟩ := mergeInto_eq ex' i pins
  rw [← h.lower, ← h.wires] at hl' hw'
  exact ⟨hf.trans (h.flag.trans hf'.symm), hl.trans hl'.symm, hw.trans hw'.symm, hd ▸ hd' ▸ h.data⟩

/-- the two runs take the same branch at every test, since the tests read identifiers and names only -/
theorem multibitAdd_rel (cs cs' : List CCable) (h : All2 RelCable cs cs') (d d' : Data) (hd : SameOn KO d d')
    (pins : List CPin) : Sim (All2 RelCable) (multibitAdd cs d pins) (multibitAdd cs' d' pins) := by
  have hne := nameEq_of_sameOn KO kI_O kN_O d d' hd
  have hcd := nameEq_cables h
  unfold multibitAdd
  rw [← hne.1, ← hne.2]
  split
  · rename_i ident name _ _
    dsimp only
    rw [← findName_congr _ _ hcd, ← findIdent_congr _ _ hcd, ← conflicts_congr _ _ hcd d d' hne]
    have hplain : ∀ {c : Prop} [Decidable c] {e : Err}, Sim (All2 RelCable)
        (if c then throw e else pure (cs ++ [⟨d, true, 0, [pins]⟩]))
        (if c then throw e else pure (cs' ++ [⟨d', true, 0, [pins]⟩])) :=
      Sim.ite Sim.throw (Sim.pure (forall₂_snoc h ⟨rfl, rfl, rfl, hd⟩))
    refine Sim.ite Sim.throw ?_
    split
    · split
      · exact hplain
      · have hd2 := sameOn_set_both KO _ _ kNAME (.str (sepName name).snd)
          (sameOn_set_both KO _ _ kIDENT (.str (sepIdent ident).snd) hd)
        rw [← conflicts_congr _ _ hcd _ _ (nameEq_of_sameOn KO kI_O kN_O _ _ hd2)]
        exact Sim.ite Sim.throw (Sim.ite Sim.throw (Sim.pure (forall₂_snoc h ⟨rfl, rfl, rfl, hd2⟩)))
    · rename_i k _
      cases hex : cs[k]? with
      | none => exact Sim.throw
      | some ex =>
        obtain ⟨ex', hex', hrex⟩ := forall₂_get h k ex hex
        rw [hex']
        dsimp only
        split
        · exact hplain
        · rw [← hrex.isArray]
          exact Sim.ite hplain (Sim.pure (forall₂_set h k (mergeInto_rel ex ex' hrex _ pins)))
  · exact Sim.throw

end Spydr.Edif
