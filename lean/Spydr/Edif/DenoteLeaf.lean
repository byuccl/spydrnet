/-
  The reader on the constructs `render` emits, one construct at a time: properties, instances, pin
  references, nets (names and ports: LemmasRound.lean, where the round trip uses the same lemmas).
-/
import Spydr.Edif.Abstract
import Spydr.Edif.LemmasNets
import Spydr.Edif.LemmasWF
namespace Spydr.Edif

theorem identOf_APort_elab (p : APort) : identOf p.elab.data = some p.name.ident :=
  (identOf_set _ (S "metadata_prefix") _ (S_ne rfl)).trans (identOf_withName [] _ _)

theorem nameOf_APort_elab (p : APort) : nameOf p.elab.data = some p.name.name :=
  (nameOf_set _ (S "metadata_prefix") _ (S_ne rfl)).trans (nameOf_withName [] _ _)

def AProp.t (p : AProp) : PropT := (p.name.ident, p.name.orig, p.value.val)

theorem AProp.den_eq (p : AProp) : p.den = p.t.obj := by
  obtain ⟨⟨i, o⟩, v⟩ := p
  cases o <;> rfl

theorem AProp.propOK (p : AProp) (h : p.okB = true) : PropOK p.t.1 p.t.2.1 p.t.2.2 := by
  simp only [AProp.okB, Bool.and_eq_true] at h
  obtain ⟨hn, hv⟩ := h
  refine ⟨p.name.okB_id hn, ?_, ?_⟩
  · intro o ho
    have := p.name.okB_str hn
    simp only [AProp.t] at ho
    simpa [AName.name, ho] using this
  · obtain ⟨nm, v⟩ := p
    cases v with
    | str s => exact Or.inl ⟨s, rfl, by simpa using hv⟩
    | int i => exact Or.inr (Or.inr ⟨i, rfl⟩)
    | bool b => exact Or.inr (Or.inl ⟨b, rfl⟩)

theorem typedValue_AVal (v : AVal) (h : ∀ s, v = .str s → s.all isStringChar = true) :
    ∃ tv, v.sexp = .list tv ∧ typedValue tv = .ok v.val := by
  cases v with
  | str s => exact ⟨_, rfl, typedValue_string s (h s rfl)⟩
  | int i => exact ⟨_, rfl, typedValue_integer i⟩
  | bool b =>
    cases b with
    | true => exact ⟨_, rfl, by rfl⟩
    | false => exact ⟨_, rfl, by rfl⟩

theorem parseProperty_AProp (p : AProp) (h : p.okB = true) :
    ∃ r, p.sexp = .list (A "property" :: r) ∧ ∀ D : Data, D.has kPID = false → D.has kPORIG = false →
      parseProperty { data := D, pfx := [S "EDIF"] } (A "property" :: r) =
        .ok { data := addProp D p.t.obj, pfx := [S "EDIF"] } := by
  have hok := p.propOK h
  obtain ⟨tv, htv, hread⟩ := typedValue_AVal p.value (fun s hs => by
    simp only [AProp.okB, Bool.and_eq_true] at h
    simpa [hs] using h.2)
  exact ⟨[p.name.sexp, p.value.sexp], rfl, htv ▸ parseProperty_written _ p.name.ident p.name.orig tv p.value.val hok.hid
    hok.horig hread⟩

theorem loopC_AProps (ps : List AProp) (hok : ∀ p ∈ ps, p.okB = true) (D : Data) (acc : List PropT)
    (h1 : D.has kPID = false) (h2 : D.has kPORIG = false) (h3 : D.get? kPROPS = none) :
    loopC instItem { data := withProps D acc, pfx := [S "EDIF"] } (ps.map AProp.sexp) =
      .ok ({ data := withProps D (acc ++ ps.map AProp.t), pfx := [S "EDIF"] }, []) := by
  induction ps generalizing acc with
  | nil => simp [loopC, pure_ok]
  | cons p r ih =>
    obtain ⟨x, hx, hr⟩ := parseProperty_AProp p (hok p (by simp))
    simp only [List.map_cons, hx, loopC, instItem_property D acc p.t x h1 h2 h3 hr, ok_bind]
    simpa using ih (fun q hq => hok q (by simp [hq])) (acc ++ [p.t])

def AInst.elab (i : AInst) : CInst := readInst i.name.ident i.name.name (i.props.map AProp.t) i.li i.di

theorem parseViewRef_spelled_omit (sc : Scope) (D : Data) (vsp did : Str) (di : Nat) (d' : CDef) (dv : Str)
    (hvv : validIdentTok vsp = true) (hvd : validIdentTok did = true)
    (hf : findIdent ((defsOfLib sc sc.libs.length).map (·.data)) did = some di)
    (hd : (defsOfLib sc sc.libs.length)[di]? = some d') (hview : viewIdentOf d'.data = some dv) (hdv : lower dv = lower vsp) :
    parseViewRef sc { data := D, pfx := [S "EDIF"] }
      [A "viewref", .atom vsp, .list [A "cellref", .atom did]] = .ok (sc.libs.length, di) := by
  have hl : (lower dv == lower vsp) = true := by rw [hdv]; simp
  have h1 : isKw (A "cellref") "cellref" = true := by decide +kernel
  simp only [parseViewRef, parseCellRef, headIs, h1, Bool.not_true, Bool.false_eq_true, if_false, List.tail_cons, identOfS_atom vsp hvv,
    identOfS_atom did hvd, hf, hd, hview, hl, if_true, bind, Except.bind, pure, Except.pure]

theorem parseInstance_AInst (sc : Scope) (i : AInst) (hn : i.name.okB = true) (hps : ∀ p ∈ i.props, p.okB = true)
    (d' : CDef) (dv : Str)
    (hvv : validIdentTok i.viewSp = true) (hvd : validIdentTok i.cellSp = true) (hvl : validIdentTok i.libSp = true)
    (hres : LibResolves sc i.libSp i.li)
    (hf : findIdent ((defsOfLib sc i.li).map (·.data)) i.cellSp = some i.di)
    (hd : (defsOfLib sc i.li)[i.di]? = some d') (hview : viewIdentOf d'.data = some dv)
    (hdv : lower dv = lower i.viewSp) (homit : i.libOmit = true → i.li = sc.libs.length) :
    ∃ r, i.sexp = .list (A "instance" :: r) ∧ parseInstance sc (A "instance" :: r) = .ok i.elab := by
  refine ⟨_, rfl, ?_⟩
  have hpv : parseViewRef sc { data := withName [] i.name.ident i.name.name, pfx := [S "EDIF"] }
      [A "viewref", SExp.atom i.viewSp, i.cellRefSexp] = .ok (i.li, i.di) := by
    unfold AInst.cellRefSexp
    cases ho : i.libOmit with
    | false =>
      simp only [Bool.false_eq_true, if_false]
      exact parseViewRef_spelled sc _ i.viewSp i.cellSp i.libSp i.li i.di d' dv hvv hvd hvl hres hf hd hview hdv
    | true =>
      have hli := homit ho
      simp only [if_true]
      rw [hli] at hf hd ⊢
      exact parseViewRef_spelled_omit sc _ i.viewSp i.cellSp i.di d' dv hvv hvd hf hd hview hdv
  exact parseInstance_written sc _ _ _ _ _ _ (i.li, i.di) _ (nameDef_AName_new i.name hn)
    (headIs_A "viewref" "viewref" _ true rfl) hpv (loopC_AProps i.props hps)

theorem identOf_AInst_elab (i : AInst) : identOf i.elab.data = some i.name.ident := by
  simp [AInst.elab, readInst, identOf_withProps, identOf_withName]

theorem nameOf_AInst_elab (i : AInst) : nameOf i.elab.data = some i.name.name := by
  simp [AInst.elab, readInst, nameOf_withProps, nameOf_withName]

/-- what a pin reference needs of the reader's view `cx` of the cell: the spellings resolve to the
    positions the abstract pin names, and the bit is inside the port -/
def APin.Resolves (cx : DefCtx) : APin → Prop
  | .port pi b sp =>
    ∃ p, validIdentTok sp = true ∧ findIdent (cx.ports.map (·.data)) sp = some pi ∧ cx.ports[pi]? = some p ∧
      b.getD 0 < p.width
  | .inst ii pi b sp isp =>
    ∃ inst li di d p, validIdentTok sp = true ∧ validIdentTok isp = true ∧
      findIdent (cx.insts.map (·.data)) isp = some ii ∧ cx.insts[ii]? = some inst ∧ inst.ref = some (li, di) ∧
      (defsOfLib cx.sc li)[di]? = some d ∧ findIdent (d.ports.map (·.data)) sp = some pi ∧ d.ports[pi]? = some p ∧
      b.getD 0 < p.width

theorem parsePortRef_APin (cx : DefCtx) (pin : APin) (h : pin.Resolves cx) :
    ∃ r, pin.sexp = .list (A "portref" :: r) ∧ parsePortRef cx (A "portref" :: r) = .ok pin.pin := by
  cases pin with
  | port pi b sp =>
    obtain ⟨p, hv, hf, hp, hb⟩ := h
    cases b with
    | none => exact ⟨_, rfl, scalar_index_port cx sp pi p hv hf hp hb⟩
    | some k => exact ⟨_, rfl, member_index_port cx sp k pi p hv hf hp hb⟩
  | inst ii pi b sp isp =>
    obtain ⟨inst, li, di, d, p, hv, hiv, hfi, hi, hr, hd, hf, hp, hb⟩ := h
    cases b with
    | none => exact ⟨_, rfl, scalar_index_inst cx sp isp pi ii li di inst d p hv hiv hfi hi hr hd hf hp hb⟩
    | some k => exact ⟨_, rfl, member_index_inst cx sp isp k pi ii li di inst d p hv hiv hfi hi hr hd hf hp hb⟩

theorem loopC_APins (cx : DefCtx) (pins : List APin) (acc : List CPin) (h : ∀ pin ∈ pins, pin.Resolves cx) :
    loopC (joinedItem cx) acc (pins.map APin.sexp) = .ok (acc ++ pins.map APin.pin, []) := by
  induction pins generalizing acc with
  | nil => simp [loopC, pure, Except.pure]
  | cons pin rest ih =>
    obtain ⟨r, hs, hr⟩ := parsePortRef_APin cx pin (h pin (by simp))
    simp only [List.map_cons, hs, loopC, joinedItem_portref cx acc r pin.pin hr, ok_bind]
    have := ih (acc ++ [pin.pin]) (fun q hq => h q (by simp [hq]))
    simpa using this

def ANet.item (n : ANet) : NetItem :=
  match n.kind with
  | .scalar a => ⟨a.ident, a.name, none, n.pins.map APin.pin, 0⟩
  | .bit bi bn i j => ⟨bi, bn, some i, n.pins.map APin.pin, j⟩

theorem ANetKind.okB_scalar {a : AName} (h : (ANetKind.scalar a).okB = true) :
    a.okB = true ∧ (sepName a.name).1 = none ∧ a.name ≠ [] := by
  simpa [ANetKind.okB, and_assoc] using h

theorem ANetKind.okB_bit {bi bn : Str} {i j : Nat} (h : (ANetKind.bit bi bn i j).okB = true) :
    checkEdifIdentifier bi = true ∧ checkEdifIdentifier (bitIdent bi i) = true ∧
      (bitName bn i).all isStringChar = true ∧ bracketAllowed (bitName bn i) = true ∧ bn ≠ [] ∧
      checkEdifIdentifier (bitIdent bi j) = true := by
  simpa [ANetKind.okB, and_assoc] using h

theorem nameDef_ANetKind (k : ANetKind) (h : k.okB = true) (pins : List CPin) :
    ∀ rest, nameDef Meta.new (k.sexp :: rest) =
      .ok ({ data := (match k with
        | .scalar a => (⟨a.ident, a.name, none, pins, 0⟩ : NetItem)
        | .bit bi bn i j => ⟨bi, bn, some i, pins, j⟩).data, pfx := [S "EDIF"] }, rest) := by
  intro rest
  cases k with
  | scalar a => exact nameDef_AName_new a (ANetKind.okB_scalar h).1 rest
  | bit bi bn i j =>
    obtain ⟨_, _, hs, _, _, hj⟩ := ANetKind.okB_bit h
    have := parseRename_ok [] (bitIdent bi j) (bitName bn i) hj hs rfl
    simp only [ANetKind.sexp, nameDef, Meta.new, this, bind, Except.bind, pure, Except.pure, NetItem.data]

/-- **one net through `parse_portRef`**: the `(net …)` of an abstract design whose pin references
    resolve in the reader's view of the cell hands `multibit_add_cable` exactly the net's dictionary and
    its pins -/
theorem contentsItem_ANet (sc : Scope) (st : CellSt) (n : ANet) (hk : n.kind.okB = true)
    (hp : ∀ pin ∈ n.pins, pin.Resolves { sc := sc, ports := st.ports, insts := st.insts }) :
    ∃ ys, n.sexp = .list ys ∧
      contentsItem sc st ys = (multibitAdd st.cables n.item.data n.item.pins) >>= fun cs => pure { st with cables := cs } := by
  refine ⟨_, rfl, ?_⟩
  have hpins := loopC_APins { sc := sc, ports := st.ports, insts := st.insts } n.pins [] hp
  rw [List.nil_append] at hpins
  have hnm := nameDef_ANetKind n.kind hk (n.pins.map APin.pin)
  have := contentsItem_net sc st n.kind.sexp _ (n.pins.map APin.sexp) (n.pins.map APin.pin) hnm hpins
  rw [this]
  obtain ⟨kind, pins⟩ := n
  cases kind <;> rfl

end Spydr.Edif
