/-
  From hypotheses on the ORIGINAL netlist (C03's quantifier as the predicate `WFNet`) to the chain of
  resolution hypotheses the file-level theorem uses: canonical witnesses, sibling distinctness, the
  reader's scope at every cell, and `edif_roundtrip_wf`.
-/
import Spydr.Edif.LemmasNet
namespace Spydr.Edif

def decodeProp : Val → Option PropT
  | .obj [(k1, .str i), (k2, v)] => if k1 = S "identifier" ∧ k2 = S "value" then some (i, none, v) else none
  | .obj [(k1, .str i), (k2, .str o), (k3, v)] =>
      if k1 = S "identifier" ∧ k2 = S "original_identifier" ∧ k3 = S "value" then some (i, some o, v) else none
  | _ => none

theorem decodeProp_obj (v : Val) (t : PropT) (h : decodeProp v = some t) : t.obj = v := by
  unfold decodeProp at h
  split at h
  · split at h
    · rename_i hc
      obtain ⟨rfl, rfl⟩ := hc
      cases h
      rfl
    · cases h
  · split at h
    · rename_i hc
      obtain ⟨rfl, rfl, rfl⟩ := hc
      cases h
      rfl
    · cases h
  · cases h

def decodeProps (d : Data) : List PropT :=
  match d.get? kPROPS with
  | some (.list ps) => ps.filterMap decodeProp
  | _ => []

def iwOf (i : CInst) : IW :=
  ⟨idOf i.data, nmOf i.data, decodeProps i.data, (i.ref.getD (0, 0)).1, (i.ref.getD (0, 0)).2⟩
def dwOf (d : CDef) : DW := ⟨idOf d.data, nmOf d.data, d.insts.map iwOf⟩
def lwOf (l : CLib) : LW := ⟨idOf l.data, nmOf l.data, l.defs.map dwOf⟩

def imgDef (d : CDef) : CDef := DW.read d (dwOf d)
def imgLib (l : CLib) : CLib := LW.read l (lwOf l)

theorem readDefs_map (ds : List CDef) : readDefs ds (ds.map dwOf) = ds.map imgDef := by
  induction ds with
  | nil => rfl
  | cons d r ih => simp [readDefs, imgDef, ih]

theorem readLibs_map (ls : List CLib) : readLibs ls (ls.map lwOf) = ls.map imgLib := by
  induction ls with
  | nil => rfl
  | cons l r ih => simp [readLibs, imgLib, ih]

theorem imgLib_defs (l : CLib) : (imgLib l).defs = l.defs.map imgDef := by
  simp [imgLib, LW.read, lwOf, readDefs_map]

theorem imgDef_ports (d : CDef) : (imgDef d).ports = d.ports.map readPort1 := rfl
theorem imgDef_ident (d : CDef) : identOf (imgDef d).data = some (idOf d.data) := by
  simp only [imgDef, DW.read, dwOf, readCell, identOf_cellData]
theorem imgLib_ident (l : CLib) : identOf (imgLib l).data = some (idOf l.data) := identOf_withName _ _ _
theorem imgDef_view (d : CDef) : viewIdentOf (imgDef d).data = some (S "netlist") := by
  simp only [imgDef, DW.read, dwOf, readCell, viewIdentOf_cellData]

def Distinct (ds : List Data) : Prop :=
  ds.Pairwise fun a b => nmOf a ≠ nmOf b ∧ lower (idOf a) ≠ lower (idOf b)

def pairsOf (ds : List Data) : List (Str × Str) := (ds.map fun d => (idOf d, nmOf d)).reverse

theorem freshIn_of_distinct {α : Type} (f : α → Data) (done : List α) (x : α) (rest : List α)
    (h : Distinct ((done ++ x :: rest).map f)) : FreshIn (pairsOf (done.map f)) (idOf (f x)) (nmOf (f x)) := by
  intro p hp
  simp only [pairsOf, List.mem_reverse, List.mem_map] at hp
  obtain ⟨_, ⟨a, ha, rfl⟩, rfl⟩ := hp
  rw [List.map_append, List.map_cons] at h
  exact (List.pairwise_append.mp h).2.2 (f a) (List.mem_map_of_mem ha) (f x) (by simp)

theorem pairsOf_snoc (done : List Data) (d : Data) : pairsOf (done ++ [d]) = (idOf d, nmOf d) :: pairsOf done := by
  simp [pairsOf]

structure PortWF (p : CPort) : Prop where
  named : NamedOK p.data (idOf p.data) (nmOf p.data)
  width : 1 ≤ p.width
  scalar : p.isArray = false → p.width = 1

theorem portsOK_of_wf (done rest : List CPort) (hwf : ∀ p ∈ rest, PortWF p)
    (hd : Distinct ((done ++ rest).map (·.data))) : PortsOK (pairsOf (done.map (·.data))) rest := by
  induction rest generalizing done with
  | nil => trivial
  | cons p r ih =>
    have hp := hwf p (by simp)
    refine ⟨hp.named, hp.width, hp.scalar, ?_, ?_⟩
    · exact freshIn_of_distinct (·.data) done p r hd
    · have := ih (done ++ [p]) (fun q hq => hwf q (by simp [hq])) (by simpa using hd)
      simpa [pairsOf_snoc] using this

theorem idOf_of_identOf (d : Data) (i : Str) (h : identOf d = some i) : idOf d = i := by simp [idOf, h]
theorem nmOf_of_nameOf (d : Data) (n : Str) (h : nameOf d = some n) : nmOf d = n := by simp [nmOf, h]

theorem idOf_imgLib (l : CLib) : idOf (imgLib l).data = idOf l.data := idOf_of_identOf _ _ (imgLib_ident l)
theorem nmOf_imgLib (l : CLib) : nmOf (imgLib l).data = nmOf l.data := nmOf_of_nameOf _ _ (nameOf_withName _ _ _)
theorem idOf_imgDef (d : CDef) : idOf (imgDef d).data = idOf d.data := idOf_of_identOf _ _ (imgDef_ident d)
theorem nmOf_imgDef (d : CDef) : nmOf (imgDef d).data = nmOf d.data :=
  nmOf_of_nameOf _ _ (by simp only [imgDef, DW.read, dwOf, readCell, nameOf_cellData])
theorem idOf_readPort1 (p : CPort) : idOf (readPort1 p).data = idOf p.data := idOf_of_identOf _ _ (identOf_readPort _ _ _)
theorem nmOf_readPort1 (p : CPort) : nmOf (readPort1 p).data = nmOf p.data := nmOf_of_nameOf _ _ (nameOf_readPort _ _ _)
theorem idOf_iwRead (i : CInst) : idOf (iwOf i).read.data = idOf i.data := idOf_of_identOf _ _ (identOf_readInst _)
theorem nmOf_iwRead (i : CInst) : nmOf (iwOf i).read.data = nmOf i.data := nmOf_of_nameOf _ _ (nameOf_readInst _)

theorem distinct_congr {α : Type} (f g : α → Data) (xs : List α)
    (hi : ∀ x, idOf (f x) = idOf (g x)) (hn : ∀ x, nmOf (f x) = nmOf (g x)) :
    Distinct (xs.map f) ↔ Distinct (xs.map g) := by
  unfold Distinct
  rw [List.pairwise_map, List.pairwise_map]
  simp only [hi, hn]

theorem distinct_take {α : Type} (f : α → Data) (xs : List α) (k : Nat) (h : Distinct (xs.map f)) :
    Distinct ((xs.take k).map f) := by
  unfold Distinct at *
  rw [List.pairwise_map] at *
  exact h.sublist (List.take_sublist k xs)

theorem findIdent_of_img {α β : Type} (img : α → β) (f : β → Data) (orig : α → Data)
    (hi : ∀ x, identOf (f (img x)) = some (idOf (orig x))) (xs : List α) (k : Nat) (x : α) (hk : xs[k]? = some x)
    (hd : Distinct (xs.map orig)) : findIdent ((xs.map img).map f) (idOf (orig x)) = some k := by
  obtain ⟨hlt, rfl⟩ := List.getElem?_eq_some_iff.mp hk
  refine findIdent_declared _ k _ _ (by simpa using hlt) (by simp only [List.getElem_map]; exact hi _) rfl ?_
  intro j hj b hb
  simp only [List.getElem_map, hi] at hb
  cases hb
  have := (List.pairwise_iff_getElem.mp hd j k (by simp; omega) (by simpa using hlt) hj).2
  simpa using this

/-- position (li, di) precedes the cell at (L, D) in the file (the writer's topological order) -/
def Before (L D li di : Nat) : Prop := li < L ∨ (li = L ∧ di < D)

def scopeAt (libs : List CLib) (L D : Nat) (l : CLib) : Scope :=
  { libs := (libs.take L).map imgLib, curLib := withName [] (idOf l.data) (nmOf l.data),
    curDefs := (l.defs.take D).map imgDef }

structure NetNames (libs : List CLib) : Prop where
  libNamed : ∀ l ∈ libs, NamedOK l.data (idOf l.data) (nmOf l.data)
  libDistinct : Distinct (libs.map (·.data))
  defNamed : ∀ l ∈ libs, ∀ d ∈ l.defs, NamedOK d.data (idOf d.data) (nmOf d.data)
  defDistinct : ∀ l ∈ libs, Distinct (l.defs.map (·.data))
  portWF : ∀ l ∈ libs, ∀ d ∈ l.defs, ∀ p ∈ d.ports, PortWF p
  portDistinct : ∀ l ∈ libs, ∀ d ∈ l.defs, Distinct (d.ports.map (·.data))

theorem getElem?_lt {α : Type} (xs : List α) (k : Nat) (x : α) (h : xs[k]? = some x) : k < xs.length :=
  (List.getElem?_eq_some_iff.mp h).1

theorem scope_lookup (libs : List CLib) (hn : NetNames libs) (L D : Nat) (l : CLib) (hl : libs[L]? = some l)
    (li di : Nat) (hb : Before L D li di) (l2 : CLib) (h2 : libs[li]? = some l2) (rd : CDef)
    (hrd : l2.defs[di]? = some rd) :
    LibResolves (scopeAt libs L D l) (idOf l2.data) li ∧
    findIdent ((defsOfLib (scopeAt libs L D l) li).map (·.data)) (idOf rd.data) = some di ∧
    (defsOfLib (scopeAt libs L D l) li)[di]? = some (imgDef rd) := by
  have hL := getElem?_lt _ _ _ hl
  have hlen : (scopeAt libs L D l).libs.length = L := by simp [scopeAt]; omega
  have hl2mem : l2 ∈ libs := List.mem_of_getElem? h2
  rcases hb with hlt | ⟨heq, hdi⟩
  · -- an earlier library
    have htake : (libs.take L)[li]? = some l2 := by rw [List.getElem?_take]; simp [hlt, h2]
    have hdefs : defsOfLib (scopeAt libs L D l) li = l2.defs.map imgDef :=
      (defsOfLib_lib (l := imgLib l2) (by
        show ((libs.take L).map imgLib)[li]? = _
        rw [List.getElem?_map, htake]; rfl)).trans (imgLib_defs l2)
    refine ⟨?_, ?_, ?_⟩
    · refine ⟨idOf l.data, identOf_withName _ _ _, ?_⟩
      obtain ⟨hli, e1⟩ := List.getElem?_eq_some_iff.mp h2
      obtain ⟨_, e2⟩ := List.getElem?_eq_some_iff.mp hl
      have hpw := List.pairwise_iff_getElem.mp hn.libDistinct li L (by simpa using hli) (by simpa using hL) hlt
      simp only [List.getElem_map, e1, e2] at hpw
      have hc : (lower (idOf l.data) == lower (idOf l2.data)) = false := by
        simp only [beq_eq_false_iff_ne, ne_eq]; exact fun e => hpw.2 e.symm
      rw [if_neg (by simp [hc])]
      exact findIdent_of_img imgLib (·.data) (·.data) imgLib_ident _ li l2 htake
        (distinct_take (·.data) libs L hn.libDistinct)
    · rw [hdefs]
      exact findIdent_of_img imgDef (·.data) (·.data) imgDef_ident _ di rd hrd
        (hn.defDistinct l2 hl2mem)
    · rw [hdefs, List.getElem?_map, hrd]; rfl
  · -- the library being read
    subst heq
    have hl2 : l2 = l := by rw [hl] at h2; exact (Option.some.inj h2).symm
    subst hl2
    have hdefs : defsOfLib (scopeAt libs li D l2) li = (l2.defs.take D).map imgDef :=
      (congrArg (defsOfLib _) hlen.symm).trans (defsOfLib_cur _)
    have htake : (l2.defs.take D)[di]? = some rd := by rw [List.getElem?_take]; simp [hdi, hrd]
    refine ⟨?_, ?_, ?_⟩
    · refine ⟨idOf l2.data, identOf_withName _ _ _, ?_⟩
      simp [hlen]
    · rw [hdefs]
      exact findIdent_of_img imgDef (·.data) (·.data) imgDef_ident _ di rd htake
        (distinct_take (·.data) l2.defs D (hn.defDistinct l2 hl2mem))
    · rw [hdefs, List.getElem?_map, htake]; rfl

structure InstWF (libs : List CLib) (L D : Nat) (i : CInst) : Prop where
  named : NamedOK i.data (idOf i.data) (nmOf i.data)
  ref : ∃ li di l2 rd, i.ref = some (li, di) ∧ libs[li]? = some l2 ∧ l2.defs[di]? = some rd ∧ Before L D li di
  props : i.data.get? kPROPS = none ∨
    ∃ ps, i.data.get? kPROPS = some (.list ps) ∧ ∀ v ∈ ps, ∃ t, decodeProp v = some t ∧ PropOK t.1 t.2.1 t.2.2

theorem filterMap_decode (ps : List Val) (h : ∀ v ∈ ps, ∃ t, decodeProp v = some t ∧ PropOK t.1 t.2.1 t.2.2) :
    (ps.filterMap decodeProp).map PropT.obj = ps ∧ ∀ t ∈ ps.filterMap decodeProp, PropOK t.1 t.2.1 t.2.2 := by
  induction ps with
  | nil => exact ⟨rfl, by intro t ht; cases ht⟩
  | cons v r ih =>
    obtain ⟨t, ht, hok⟩ := h v (by simp)
    obtain ⟨h1, h2⟩ := ih (fun w hw => h w (by simp [hw]))
    refine ⟨?_, ?_⟩
    · simp [ht, decodeProp_obj v t ht, h1]
    · intro t' ht'
      simp only [List.filterMap_cons, ht, List.mem_cons] at ht'
      rcases ht' with rfl | ht'
      · exact hok
      · exact h2 t' ht'

theorem instOK_of_wf (libs : List CLib) (hn : NetNames libs) (L D : Nat) (l : CLib) (hl : libs[L]? = some l)
    (i : CInst) (h : InstWF libs L D i) :
    InstOK libs (scopeAt libs L D l) i (iwOf i).ident (iwOf i).name (iwOf i).ps (iwOf i).li (iwOf i).di := by
  obtain ⟨li, di, l2, rd, href, h2, hrd, hb⟩ := h.ref
  obtain ⟨hres, hf, hget⟩ := scope_lookup libs hn L D l hl li di hb l2 h2 rd hrd
  have hl2mem : l2 ∈ libs := List.mem_of_getElem? h2
  have hrdmem : rd ∈ l2.defs := List.mem_of_getElem? hrd
  have hli : (iwOf i).li = li := by simp [iwOf, href]
  have hdi : (iwOf i).di = di := by simp [iwOf, href]
  refine ⟨h.named, by rw [hli, hdi]; exact href, ?_, ?_⟩
  · rw [hli, hdi]
    exact ⟨l2, rd, idOf rd.data, idOf l2.data, imgDef rd, S "netlist", h2, hrd, (hn.defNamed l2 hl2mem rd hrdmem).hi,
      (hn.libNamed l2 hl2mem).hi, validIdentTok_of_check _ (hn.defNamed l2 hl2mem rd hrdmem).hc,
      validIdentTok_of_check _ (hn.libNamed l2 hl2mem).hc, hres, hf, hget, imgDef_view rd, by decide⟩
  · rcases h.props with hp | ⟨ps, hp, hall⟩
    · have : (iwOf i).ps = [] := by simp [iwOf, decodeProps, hp]
      rw [this]
      exact ⟨Or.inr ⟨hp, rfl⟩, by intro t ht; cases ht⟩
    · obtain ⟨h1, h2'⟩ := filterMap_decode ps hall
      have : (iwOf i).ps = ps.filterMap decodeProp := by simp [iwOf, decodeProps, hp]
      rw [this]
      exact ⟨Or.inl (by rw [h1]; exact hp), h2'⟩

theorem instsOK_of_wf (libs : List CLib) (hn : NetNames libs) (L D : Nat) (l : CLib) (hl : libs[L]? = some l)
    (done rest : List CInst) (hwf : ∀ i ∈ rest, InstWF libs L D i)
    (hd : Distinct ((done ++ rest).map (·.data))) :
    InstsOK libs (scopeAt libs L D l) (pairsOf (done.map (·.data))) rest (rest.map iwOf) := by
  induction rest generalizing done with
  | nil => trivial
  | cons i r ih =>
    refine ⟨instOK_of_wf libs hn L D l hl i (hwf i (by simp)), ?_, ?_⟩
    · exact freshIn_of_distinct (·.data) done i r hd
    · have := ih (done ++ [i]) (fun q hq => hwf q (by simp [hq])) (by simpa using hd)
      simpa [pairsOf_snoc, iwOf] using this

def PinWF (libs : List CLib) (d : CDef) : CPin → Prop
  | .port pi bi => ∃ p, d.ports[pi]? = some p ∧ bi < p.width ∧ (p.isArray = false → bi = 0)
  | .inst ii pi bi => ∃ inst li di l2 rd p, d.insts[ii]? = some inst ∧ inst.ref = some (li, di) ∧
      libs[li]? = some l2 ∧ l2.defs[di]? = some rd ∧ rd.ports[pi]? = some p ∧ bi < p.width ∧
      (p.isArray = false → bi = 0)

/-- the reader's view of cell `d` at (L, D) while it reads the nets -/
def ctxAt (libs : List CLib) (L D : Nat) (l : CLib) (d : CDef) : DefCtx :=
  { sc := scopeAt libs L D l, ports := d.ports.map readPort1, insts := (d.insts.map iwOf).map IW.read }

theorem pinOK_of_wf (libs : List CLib) (hn : NetNames libs) (L D : Nat) (l : CLib) (hl : libs[L]? = some l)
    (d : CDef) (hd : l.defs[D]? = some d)
    (hinsts : ∀ i ∈ d.insts, InstWF libs L D i) (hidist : Distinct (d.insts.map (·.data)))
    (pin : CPin) (h : PinWF libs d pin) : PinOK libs d (ctxAt libs L D l d) pin := by
  have hlmem : l ∈ libs := List.mem_of_getElem? hl
  have hdmem : d ∈ l.defs := List.mem_of_getElem? hd
  cases pin with
  | port pi bi =>
    obtain ⟨p, hp, hb, hsc⟩ := h
    have hpm : p ∈ d.ports := List.mem_of_getElem? hp
    have hpw := hn.portWF l hlmem d hdmem p hpm
    have hf := findIdent_of_img readPort1 (·.data) (·.data) (fun p => identOf_readPort p _ _)
      d.ports pi p hp (hn.portDistinct l hlmem d hdmem)
    refine ⟨p, readPort1 p, idOf p.data, hp, hpw.named.hi, validIdentTok_of_check _ hpw.named.hc, hsc, hf, ?_, hb⟩
    · show (d.ports.map readPort1)[pi]? = _
      rw [List.getElem?_map, hp]; rfl
  | inst ii pi bi =>
    obtain ⟨inst, li, di, l2, rd, p, hi, href, h2, hrd, hp, hb, hsc⟩ := h
    have him : inst ∈ d.insts := List.mem_of_getElem? hi
    have hiw := hinsts inst him
    obtain ⟨li', di', l2', rd', href', _, _, hbefore⟩ := hiw.ref
    rw [href] at href'
    obtain ⟨rfl, rfl⟩ : li = li' ∧ di = di' := by
      have := Option.some.inj href'; exact ⟨congrArg Prod.fst this, congrArg Prod.snd this⟩
    obtain ⟨_, _, hget⟩ := scope_lookup libs hn L D l hl li di hbefore l2 h2 rd hrd
    have hl2mem : l2 ∈ libs := List.mem_of_getElem? h2
    have hrdmem : rd ∈ l2.defs := List.mem_of_getElem? hrd
    have hpm : p ∈ rd.ports := List.mem_of_getElem? hp
    have hpw := hn.portWF l2 hl2mem rd hrdmem p hpm
    have hfp := findIdent_of_img readPort1 (·.data) (·.data) (fun p => identOf_readPort p _ _)
      rd.ports pi p hp (hn.portDistinct l2 hl2mem rd hrdmem)
    have hfi := findIdent_of_img (fun i => (iwOf i).read) (·.data) (·.data) (fun i => identOf_readInst (iwOf i))
      d.insts ii inst hi hidist
    refine ⟨inst, li, di, rd, p, readPort1 p, idOf p.data, idOf inst.data, (iwOf inst).read, imgDef rd,
      hi, href, by simp [h2, hrd], hp, hpw.named.hi, validIdentTok_of_check _ hpw.named.hc, hiw.named.hi,
      validIdentTok_of_check _ hiw.named.hc, hsc, ?_, ?_, ?_, hget, hfp, ?_, hb⟩
    · show findIdent (((d.insts.map iwOf).map IW.read).map (·.data)) (idOf inst.data) = some ii
      rw [List.map_map (l := d.insts)]; exact hfi
    · show ((d.insts.map iwOf).map IW.read)[ii]? = _
      rw [List.getElem?_map, List.getElem?_map, hi]; rfl
    · simp [IW.read, readInst, iwOf, href]
    · show (rd.ports.map readPort1)[pi]? = _
      rw [List.getElem?_map, hp]; rfl

structure CableWF (libs : List CLib) (d : CDef) (c : CCable) : Prop where
  named : NamedOK c.data (idOf c.data) (nmOf c.data)
  wires_ne : c.wires ≠ []
  pins : ∀ w ∈ c.wires, ∀ pin ∈ w, PinWF libs d pin
  scalar_plain : c.wires.length = 1 → c.isArray = false → (sepName (nmOf c.data)).1 = none ∧ nmOf c.data ≠ []
  bus_ok : ¬ (c.wires.length = 1 ∧ c.isArray = false) → ∀ k, k < c.wires.length →
    bracketAllowed (bitName (nmOf c.data) (k + c.lower)) = true ∧
    checkEdifIdentifier (bitIdent (idOf c.data) (k + c.lower)) = true ∧
    (bitName (nmOf c.data) (k + c.lower)).all isStringChar = true

/-- what C03's quantifier says about one cell at position (L, D): everything named, siblings distinct,
    ports and cables non-empty, references to earlier cells, pins in range and used once -/
structure CellWF (libs : List CLib) (L D : Nat) (d : CDef) : Prop where
  insts : ∀ i ∈ d.insts, InstWF libs L D i
  instDistinct : Distinct (d.insts.map (·.data))
  cables : ∀ c ∈ d.cables, CableWF libs d c
  cableDistinct : Distinct (d.cables.map (·.data))
  nodup : (d.cables.flatMap (fun c => c.wires.flatten)).Nodup

theorem cablesOK_of_wf (libs : List CLib) (d : CDef) (cx : DefCtx)
    (hpin : ∀ pin, PinWF libs d pin → PinOK libs d cx pin)
    (done rest : List CCable) (hwf : ∀ c ∈ rest, CableWF libs d c)
    (hd : Distinct ((done ++ rest).map (·.data))) :
    CablesOK libs d cx (pairsOf (done.map (·.data))) rest := by
  induction rest generalizing done with
  | nil => trivial
  | cons c r ih =>
    have hc := hwf c (by simp)
    refine ⟨⟨hc.named, hc.wires_ne, fun w hw pin hp => hpin pin (hc.pins w hw pin hp), hc.scalar_plain, hc.bus_ok⟩, ?_, ?_⟩
    · exact freshIn_of_distinct (·.data) done c r hd
    · have := ih (done ++ [c]) (fun q hq => hwf q (by simp [hq])) (by simpa using hd)
      simpa [pairsOf_snoc] using this

theorem cellOK_of_wf (libs : List CLib) (hn : NetNames libs) (L D : Nat) (l : CLib) (hl : libs[L]? = some l)
    (d : CDef) (hd : l.defs[D]? = some d) (h : CellWF libs L D d) :
    CellOK libs (scopeAt libs L D l) d (idOf d.data) (nmOf d.data) (d.insts.map iwOf) := by
  have hlmem : l ∈ libs := List.mem_of_getElem? hl
  have hdmem : d ∈ l.defs := List.mem_of_getElem? hd
  refine ⟨hn.defNamed l hlmem d hdmem, ?_, ?_, ?_, h.nodup⟩
  · have := portsOK_of_wf [] d.ports (hn.portWF l hlmem d hdmem) (by simpa using hn.portDistinct l hlmem d hdmem)
    simpa [pairsOf] using this
  · have := instsOK_of_wf libs hn L D l hl [] d.insts h.insts (by simpa using h.instDistinct)
    simpa [pairsOf] using this
  · have := cablesOK_of_wf libs d (ctxAt libs L D l d)
      (pinOK_of_wf libs hn L D l hl d hd h.insts h.instDistinct) [] d.cables h.cables (by simpa using h.cableDistinct)
    simpa [pairsOf, ctxAt] using this

theorem defsOK_of_wf (libs : List CLib) (hn : NetNames libs) (L : Nat) (l : CLib) (hl : libs[L]? = some l)
    (hcells : ∀ D d, l.defs[D]? = some d → CellWF libs L D d)
    (done rest : List CDef) (hsplit : l.defs = done ++ rest) :
    DefsOK libs ((libs.take L).map imgLib) (withName [] (idOf l.data) (nmOf l.data))
      (pairsOf (done.map (·.data))) (done.map imgDef) rest (rest.map dwOf) := by
  have hlmem : l ∈ libs := List.mem_of_getElem? hl
  induction rest generalizing done with
  | nil => trivial
  | cons d r ih =>
    have hget : l.defs[done.length]? = some d := by rw [hsplit]; simp
    have hsc : scopeAt libs L done.length l =
        { libs := (libs.take L).map imgLib, curLib := withName [] (idOf l.data) (nmOf l.data), curDefs := done.map imgDef } := by
      simp [scopeAt, hsplit]
    have hcell := cellOK_of_wf libs hn L done.length l hl d hget (hcells _ _ hget)
    rw [hsc] at hcell
    refine ⟨hcell, ?_, ?_⟩
    · exact freshIn_of_distinct (·.data) done d r (hsplit ▸ hn.defDistinct l hlmem)
    · have := ih (done ++ [d]) (by simp [hsplit])
      simpa [pairsOf_snoc, DW.read, imgDef, dwOf] using this

theorem libsOK_of_wf (libs : List CLib) (hn : NetNames libs)
    (hcells : ∀ L l, libs[L]? = some l → ∀ D d, l.defs[D]? = some d → CellWF libs L D d)
    (done rest : List CLib) (hsplit : libs = done ++ rest) :
    LibsOK libs (pairsOf (done.map (·.data))) (done.map imgLib) rest (rest.map lwOf) := by
  induction rest generalizing done with
  | nil => trivial
  | cons l r ih =>
    have hget : libs[done.length]? = some l := by rw [hsplit]; simp
    have hlmem : l ∈ libs := List.mem_of_getElem? hget
    have htake : (libs.take done.length).map imgLib = done.map imgLib := by simp [hsplit]
    have hdefs := defsOK_of_wf libs hn done.length l hget (hcells _ _ hget) [] l.defs (by simp)
    rw [htake] at hdefs
    refine ⟨⟨hn.libNamed l hlmem, by simpa [pairsOf, lwOf] using hdefs⟩, ?_, ?_⟩
    · exact freshIn_of_distinct (·.data) done l r (hsplit ▸ hn.libDistinct)
    · have := ih (done ++ [l]) (by simp [hsplit])
      simpa [pairsOf_snoc, LW.read, imgLib, lwOf] using this

/-- **C03's quantifier as a predicate on the (edifified) netlist**: every element named with a legal
    identifier and a printable name, siblings distinct (identifiers ignoring case), ports and cables
    non-empty, scalar cables not named like a bus bit, references to cells that precede (acyclic
    dependencies in the writer's order), pins in range and on at most one wire, canonical property
    dictionaries, status strings printable, a named top instance referencing a cell of the netlist -/
structure WFNet (n : CNetlist) (prog ver : Option Str) (t : CInst) (li di : Nat) : Prop where
  names : NetNames n.libs
  cells : ∀ L l, n.libs[L]? = some l → ∀ D d, l.defs[D]? = some d → CellWF n.libs L D d
  named : NamedOK n.data (idOf n.data) (nmOf n.data)
  status : StatusOK n.data prog ver
  top : n.top = some t
  tnamed : NamedOK t.data (idOf t.data) (nmOf t.data)
  tref : t.ref = some (li, di)
  ttarget : ∃ l d, n.libs[li]? = some l ∧ l.defs[di]? = some d

theorem netOK_of_wf (n : CNetlist) (prog ver : Option Str) (t : CInst) (li di : Nat) (h : WFNet n prog ver t li di) :
    NetOK n (idOf n.data) (nmOf n.data) prog ver (n.libs.map lwOf) t (idOf t.data) (nmOf t.data) li di := by
  obtain ⟨l, d, hl, hd⟩ := h.ttarget
  have hlmem : l ∈ n.libs := List.mem_of_getElem? hl
  have hdmem : d ∈ l.defs := List.mem_of_getElem? hd
  have hlibs := libsOK_of_wf n.libs h.names h.cells [] n.libs (by simp)
  refine ⟨h.named, h.status, by simpa [pairsOf] using hlibs, h.top, h.tnamed, h.tref, ?_⟩
  refine ⟨l, d, idOf d.data, idOf l.data, imgLib l, hl, hd, (h.names.defNamed l hlmem d hdmem).hi,
    (h.names.libNamed l hlmem).hi, validIdentTok_of_check _ (h.names.defNamed l hlmem d hdmem).hc,
    validIdentTok_of_check _ (h.names.libNamed l hlmem).hc, ?_, ?_, ?_⟩
  · rw [readLibs_map]
    exact findIdent_of_img imgLib (·.data) (·.data) imgLib_ident _ li l hl h.names.libDistinct
  · rw [readLibs_map, List.getElem?_map, hl]; rfl
  · rw [imgLib_defs]
    exact findIdent_of_img imgDef (·.data) (·.data) imgDef_ident _ di d hd
      (h.names.defDistinct l hlmem)

/-- **edif_roundtrip_wf** (file level, hypotheses on the ORIGINAL netlist only): for every netlist inside
    C03's quantifier, the s-expression the model writer emits is accepted by the model reader, which
    returns the netlist `readNetlist` — the same libraries (`imgLib`), cells (`imgDef` = `readCell`),
    ports, instances, cables, top instance and names. -/
theorem edif_roundtrip_wf (n : CNetlist) (prog ver : Option Str) (t : CInst) (li di : Nat) (y mo d h mi s : Nat)
    (hwf : WFNet n prog ver t li di) :
    ∃ e, toSExp [y, mo, d, h, mi, s] n = .ok e ∧
      ofSExp e = .ok (readNetlist n (idOf n.data) (nmOf n.data)
        [Int.ofNat y, Int.ofNat mo, Int.ofNat d, Int.ofNat h, Int.ofNat mi, Int.ofNat s] prog ver (n.libs.map lwOf)
        (idOf t.data) (nmOf t.data) li di) :=
  netlist_roundtrip n _ _ prog ver _ t _ _ li di y mo d h mi s (netOK_of_wf n prog ver t li di hwf)

theorem readNetlist_libs (n : CNetlist) (ni nn : Str) (ts : List Int) (p v : Option Str) (ti tn : Str) (li di : Nat) :
    (readNetlist n ni nn ts p v (n.libs.map lwOf) ti tn li di).libs = n.libs.map imgLib := by
  simp only [readNetlist, readLibs_map]

end Spydr.Edif
