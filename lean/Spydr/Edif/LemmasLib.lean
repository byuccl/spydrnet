/-
  Library level: the cells of a library one after the other, each read in the scope built so far.
-/
import Spydr.Edif.LemmasCell
namespace Spydr.Edif

/-- per-cell witnesses -/
structure DW where
  ident : Str
  name : Str
  iws : List IW

def DW.read (d : CDef) (w : DW) : CDef := readCell d w.ident w.name w.iws

/-- the cells of a library, one after the other; each is read in the scope made of the libraries read
    before (`rlibs`), the library's own dictionary and the cells read so far -/
def DefsOK (libs rlibs : List CLib) (ldata : Data) : List (Str × Str) → List CDef → List CDef → List DW → Prop
  | _, _, [], [] => True
  | prev, rdefs, d :: r, w :: ws =>
      CellOK libs { libs := rlibs, curLib := ldata, curDefs := rdefs } d w.ident w.name w.iws ∧
      FreshIn prev w.ident w.name ∧
      DefsOK libs rlibs ldata ((w.ident, w.name) :: prev) (rdefs ++ [DW.read d w]) r ws
  | _, _, _, _ => False

def readDefs : List CDef → List DW → List CDef
  | d :: r, w :: ws => DW.read d w :: readDefs r ws
  | _, _ => []

theorem libItem_cell (rlibs : List CLib) (st : LibSt) (kw : SExp) (t : List SExp) (c : CDef)
    (h1 : isKw kw "status" = false) (h2 : isKw kw "cell" = true)
    (hp : parseCell { libs := rlibs, curLib := st.m.data, curDefs := st.defs } (kw :: t) = .ok c)
    (hc : conflicts (st.defs.map (·.data)) c.data = false) :
    libItem rlibs st (kw :: t) = .ok { st with defs := st.defs ++ [c] } := by
  simp only [libItem, headIs, h1, h2, Bool.false_eq_true, if_false, if_true, hp, addRetry_fresh _ _ hc, ok_bind, pure_ok]

theorem defs_roundtrip (libs rlibs : List CLib) (ldata : Data) (ds : List CDef) (ws : List DW)
    (prev : List (Str × Str)) (st : LibSt)
    (hm : st.m = { data := ldata, pfx := [S "EDIF"] })
    (hok : DefsOK libs rlibs ldata prev st.defs ds ws) (hk : KnownBy prev (st.defs.map (·.data))) :
    ∃ yss : List (List SExp), ds.mapM (defSExp libs) = .ok (yss.map SExp.list) ∧
      yss.foldlM (libItem rlibs) st = .ok { st with defs := st.defs ++ readDefs ds ws } := by
  induction ds generalizing prev st ws with
  | nil =>
    cases ws with
    | nil => exact ⟨[], rfl, by simp [readDefs, pure_ok]⟩
    | cons _ _ => exact absurd hok (by simp [DefsOK])
  | cons d r ih =>
    cases ws with
    | nil => exact absurd hok (by simp [DefsOK])
    | cons w ws =>
      obtain ⟨hc, hfresh, hrest⟩ := hok
      obtain ⟨t, hw1, hrd⟩ := cell_roundtrip libs _ d w.ident w.name w.iws hc
      obtain ⟨hconf, hk'⟩ := fresh_step (·.data) prev st.defs (DW.read d w) w.ident w.name hk hfresh
        (by simp only [DW.read, readCell, identOf_cellData]) (by simp only [DW.read, readCell, nameOf_cellData])
      have hstep : libItem rlibs st (A "Cell" :: t) = .ok { st with defs := st.defs ++ [DW.read d w] } :=
        libItem_cell rlibs st _ t _ (by decide) (by decide) (by rw [hm]; exact hrd) hconf
      obtain ⟨yss, hws, hfs⟩ := ih ws _ { st with defs := st.defs ++ [DW.read d w] } hm hrest hk'
      refine ⟨(A "Cell" :: t) :: yss, ?_, ?_⟩
      · simp only [List.mapM_cons, hw1, hws, ok_bind, pure_ok, List.map_cons]
      · simp only [List.foldlM_cons, hstep, ok_bind]
        rw [hfs]
        simp [readDefs]

/-- per-library witnesses -/
structure LW where
  ident : Str
  name : Str
  dws : List DW

def LW.read (l : CLib) (w : LW) : CLib := { data := withName [] w.ident w.name, defs := readDefs l.defs w.dws }

structure LibOK (libs rlibs : List CLib) (l : CLib) (w : LW) : Prop where
  named : NamedOK l.data w.ident w.name
  defs : DefsOK libs rlibs (withName [] w.ident w.name) [] [] l.defs w.dws

theorem levelOf_zero (m : Meta) (kwA kw pfx : String) (h : isKw (A kwA) kw = true) :
    levelOf m [A kwA, A "0"] kw pfx = .ok m := by
  have h0 : intOfS (A "0") = .ok 0 := by
    show intOfS (.atom (natStr 0)) = _
    exact intOfS_natStr 0
  simp [levelOf, h, h0, ok_bind, pure_ok]

theorem parseLibrary_written (rlibs : List CLib) (ext : Bool) (kw nm : SExp) (m0 m : Meta)
    (hm0 : m0 = if ext then { Meta.new with data := [(S "EDIF.external", .bool true)] } else Meta.new)
    (hnm : ∀ rest, nameDef m0 (nm :: rest) = .ok (m, rest)) (yss : List (List SExp)) (defs : List CDef)
    (hf : yss.foldlM (libItem rlibs) { m := m } = .ok { m := m, defs := defs }) :
    parseLibrary rlibs ext (kw :: nm :: .list [A "edifLevel", A "0"] ::
        .list [A "technology", .list [A "numberDefinition"]] :: yss.map SExp.list) = .ok { data := m.data, defs := defs } :=
  parseLibrary_iff.mpr ⟨m, _, _, _, _, m, _, [], hm0 ▸ hnm _,
    levelOf_zero _ "edifLevel" "ediflevel" "edifLevel" (by decide +kernel), by decide +kernel, by decide +kernel,
    by rw [loopC_lists_nil, hf]; rfl, rfl, rfl⟩

theorem lib_roundtrip (libs rlibs : List CLib) (l : CLib) (w : LW) (h : LibOK libs rlibs l w) :
    ∃ r, libSExp libs l = .ok (.list (A "Library" :: r)) ∧
      parseLibrary rlibs false (A "Library" :: r) = .ok (LW.read l w) := by
  obtain ⟨nm, hnm, _, hdef⟩ := nameDef_nameSExp l.data w.ident w.name h.named "library"
  obtain ⟨yss, hw, hf⟩ := defs_roundtrip libs rlibs (withName [] w.ident w.name) l.defs w.dws []
    { m := { data := withName [] w.ident w.name, pfx := [S "EDIF"] } } rfl h.defs KnownBy_nil
  exact ⟨_, by simp only [libSExp, hnm, hw, ok_bind, pure_ok]; rfl,
    parseLibrary_written rlibs false _ nm _ _ rfl (fun rest => hdef [] rest rfl) yss _ hf⟩

end Spydr.Edif
