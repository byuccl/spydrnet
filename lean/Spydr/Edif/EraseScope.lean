/-
  Erasure: netlists that agree up to the noise keys; lookups, reference resolution and pin
  references see no difference.
-/
import Spydr.Edif.EraseRel
namespace Spydr.Edif

inductive All2 {α β : Type} (R : α → β → Prop) : List α → List β → Prop where
  | nil : All2 R [] []
  | cons {a : α} {b : β} {xs : List α} {ys : List β} : R a b → All2 R xs ys → All2 R (a :: xs) (b :: ys)

theorem All2.length_eq {α β : Type} {R : α → β → Prop} {xs : List α} {ys : List β} (h : All2 R xs ys) : xs.length = ys.length := by
  induction h with
  | nil => rfl
  | cons _ _ ih => simp [ih]

def NameEq (d d' : Data) : Prop := identOf d = identOf d' ∧ nameOf d = nameOf d'

theorem nameEq_of_sameOn (K : List Str) (h1 : kIDENT ∈ K) (h2 : kNAME ∈ K) (d d' : Data) (h : SameOn K d d') : NameEq d d' :=
  ⟨(identOf_of_sameOn K h1 d d' h).symm, (nameOf_of_sameOn K h2 d d' h).symm⟩

theorem findIdent_congr (ds ds' : List Data) (h : All2 NameEq ds ds') (s : Str) : findIdent ds s = findIdent ds' s := by
  unfold findIdent
  induction h with
  | nil => rfl
  | cons hd _ ih => simp only [List.findIdx?_cons, hd.1, ih]

theorem findName_congr (ds ds' : List Data) (h : All2 NameEq ds ds') (s : Str) : findName ds s = findName ds' s := by
  unfold findName
  induction h with
  | nil => rfl
  | cons hd _ ih => simp only [List.findIdx?_cons, hd.2, ih]

theorem conflicts_congr_left (ds ds' : List Data) (h : All2 NameEq ds ds') (d : Data) : conflicts ds d = conflicts ds' d := by
  unfold conflicts
  induction h with
  | nil => rfl
  | cons hh _ ih => simp only [List.any_cons, hh.1, hh.2, ih]

theorem conflicts_congr_right (ds : List Data) (d d' : Data) (hd : NameEq d d') : conflicts ds d = conflicts ds d' := by
  unfold conflicts
  simp only [hd.1, hd.2]

theorem conflicts_congr (ds ds' : List Data) (h : All2 NameEq ds ds') (d d' : Data) (hd : NameEq d d') :
    conflicts ds d = conflicts ds' d' :=
  (conflicts_congr_left ds ds' h d).trans (conflicts_congr_right ds' d d' hd)

theorem forall₂_get {α β : Type} {R : α → β → Prop} {xs : List α} {ys : List β} (h : All2 R xs ys) (i : Nat) (a : α)
    (ha : xs[i]? = some a) : ∃ b, ys[i]? = some b ∧ R a b := by
  induction h generalizing i with
  | nil => simp at ha
  | cons hh _ ih =>
    cases i with
    | zero => simp only [List.getElem?_cons_zero, Option.some.injEq] at ha; subst ha; exact ⟨_, rfl, hh⟩
    | succ j => simp only [List.getElem?_cons_succ] at ha ⊢; exact ih j ha

theorem forall₂_snoc {α β : Type} {R : α → β → Prop} {xs : List α} {ys : List β} (h : All2 R xs ys) {a : α} {b : β}
    (hab : R a b) : All2 R (xs ++ [a]) (ys ++ [b]) := by
  induction h with
  | nil => exact All2.cons hab All2.nil
  | cons hh _ ih => exact All2.cons hh ih

theorem forall₂_set {α β : Type} {R : α → β → Prop} {xs : List α} {ys : List β} (h : All2 R xs ys) (k : Nat) {a : α} {b : β}
    (hab : R a b) : All2 R (xs.set k a) (ys.set k b) := by
  induction h generalizing k with
  | nil => exact All2.nil
  | cons hh ht ih =>
    cases k with
    | zero => exact All2.cons hab ht
    | succ j => exact All2.cons hh (ih j)

theorem forall₂_map {α β : Type} {R : α → β → Prop} {Q : Data → Data → Prop} (f : α → Data) (g : β → Data) {xs : List α} {ys : List β}
    (h : All2 R xs ys) (hq : ∀ a b, R a b → Q (f a) (g b)) : All2 Q (xs.map f) (ys.map g) := by
  induction h with
  | nil => exact All2.nil
  | cons hh _ ih => exact All2.cons (hq _ _ hh) ih

structure RelPort (p p' : CPort) : Prop where
  dir : p.dir = p'.dir
  width : p.width = p'.width
  flag : p.scalarFlag = p'.scalarFlag
  lower : p.lower = p'.lower
  data : SameOn KO p.data p'.data

structure RelInst (i i' : CInst) : Prop where
  ref : i.ref = i'.ref
  data : SameOn KI i.data i'.data

structure RelCable (c c' : CCable) : Prop where
  flag : c.scalarFlag = c'.scalarFlag
  lower : c.lower = c'.lower
  wires : c.wires = c'.wires
  data : SameOn KO c.data c'.data

structure RelDef (d d' : CDef) : Prop where
  data : SameOn KO d.data d'.data
  ports : All2 RelPort d.ports d'.ports
  insts : All2 RelInst d.insts d'.insts
  cables : All2 RelCable d.cables d'.cables

structure RelLib (l l' : CLib) : Prop where
  data : SameOn KO l.data l'.data
  defs : All2 RelDef l.defs l'.defs

theorem kI_O : kIDENT ∈ KO := by simp [KO]
theorem kN_O : kNAME ∈ KO := by simp [KO]
theorem kI_I : kIDENT ∈ KI := by simp [KI]
theorem kN_I : kNAME ∈ KI := by simp [KI]

theorem nameEq_ports {ps ps' : List CPort} (h : All2 RelPort ps ps') :
    All2 NameEq (ps.map (·.data)) (ps'.map (·.data)) :=
  forall₂_map _ _ h (fun _ _ hab => nameEq_of_sameOn KO kI_O kN_O _ _ hab.data)

theorem nameEq_insts {is is' : List CInst} (h : All2 RelInst is is') :
    All2 NameEq (is.map (·.data)) (is'.map (·.data)) :=
  forall₂_map _ _ h (fun _ _ hab => nameEq_of_sameOn KI kI_I kN_I _ _ hab.data)

theorem nameEq_cables {cs cs' : List CCable} (h : All2 RelCable cs cs') :
    All2 NameEq (cs.map (·.data)) (cs'.map (·.data)) :=
  forall₂_map _ _ h (fun _ _ hab => nameEq_of_sameOn KO kI_O kN_O _ _ hab.data)

theorem nameEq_defs {ds ds' : List CDef} (h : All2 RelDef ds ds') :
    All2 NameEq (ds.map (·.data)) (ds'.map (·.data)) :=
  forall₂_map _ _ h (fun _ _ hab => nameEq_of_sameOn KO kI_O kN_O _ _ hab.data)

theorem nameEq_libs {ls ls' : List CLib} (h : All2 RelLib ls ls') :
    All2 NameEq (ls.map (·.data)) (ls'.map (·.data)) :=
  forall₂_map _ _ h (fun _ _ hab => nameEq_of_sameOn KO kI_O kN_O _ _ hab.data)

structure RelScope (sc sc' : Scope) : Prop where
  libs : All2 RelLib sc.libs sc'.libs
  cur : SameOn KO sc.curLib sc'.curLib
  defs : All2 RelDef sc.curDefs sc'.curDefs

theorem defsOfLib_rel (sc sc' : Scope) (h : RelScope sc sc') (li : Nat) :
    All2 RelDef (defsOfLib sc li) (defsOfLib sc' li) := by
  unfold defsOfLib
  rw [← h.libs.length_eq]
  split
  · exact h.defs
  · cases hl : sc.libs[li]? with
    | none =>
      have : sc'.libs[li]? = none := by
        rw [List.getElem?_eq_none_iff] at hl ⊢
        rw [← h.libs.length_eq]; exact hl
      rw [this]
      exact All2.nil
    | some l =>
      obtain ⟨l', hl', hr⟩ := forall₂_get h.libs li l hl
      rw [hl']
      exact hr.defs

theorem parseLibraryRef_scope (sc sc' : Scope) (h : RelScope sc sc') (m : Meta) (ys : List SExp) :
    parseLibraryRef sc' m ys = parseLibraryRef sc m ys := by
  unfold parseLibraryRef
  have e1 : identOf sc'.curLib = identOf sc.curLib := identOf_of_sameOn KO kI_O _ _ h.cur
  have e2 : ∀ s, findIdent (sc'.libs.map (·.data)) s = findIdent (sc.libs.map (·.data)) s :=
    fun s => (findIdent_congr _ _ (nameEq_libs h.libs) s).symm
  have e3 : sc'.libs.length = sc.libs.length := h.libs.length_eq.symm
  simp only [e1, e2, e3]

theorem parseCellRef_scope (sc sc' : Scope) (h : RelScope sc sc') (m : Meta) (ys : List SExp) :
    parseCellRef sc' m ys = parseCellRef sc m ys := by
  unfold parseCellRef
  have e2 : ∀ li s, findIdent ((defsOfLib sc' li).map (·.data)) s = findIdent ((defsOfLib sc li).map (·.data)) s :=
    fun li s => (findIdent_congr _ _ (nameEq_defs (defsOfLib_rel sc sc' h li)) s).symm
  have e3 : sc'.libs.length = sc.libs.length := h.libs.length_eq.symm
  simp only [parseLibraryRef_scope sc sc' h, e2, e3]

theorem parseViewRef_scope (sc sc' : Scope) (h : RelScope sc sc') (m : Meta) (ys : List SExp) (r : Nat × Nat)
    (hs : parseViewRef sc m ys = .ok r) : parseViewRef sc' m ys = .ok r := by
  refine Sim.eq ?_ hs
  unfold parseViewRef
  simp only [parseCellRef_scope sc sc' h]
  split
  · refine Sim.bind (Sim.refl _) ?_
    rintro vid _ rfl
    refine Sim.bind (Sim.refl _) ?_
    rintro r0 _ rfl
    cases hd : (defsOfLib sc r0.1)[r0.2]? with
    | none => exact Sim.throw
    | some d =>
      obtain ⟨d', hd', hrd⟩ := forall₂_get (defsOfLib_rel sc sc' h r0.1) r0.2 d hd
      rw [hd']
      dsimp only
      rw [viewIdentOf_of_sameOn _ _ hrd.data]
      exact Sim.refl _
  · exact Sim.throw
  · exact Sim.throw

structure RelCtx (cx cx' : DefCtx) : Prop where
  sc : RelScope cx.sc cx'.sc
  ports : All2 RelPort cx.ports cx'.ports
  insts : All2 RelInst cx.insts cx'.insts

theorem parsePortRef_ctx (cx cx' : DefCtx) (h : RelCtx cx cx') (ys : List SExp) (pin : CPin)
    (hs : parsePortRef cx ys = .ok pin) : parsePortRef cx' ys = .ok pin := by
  have e1 : ∀ s, findIdent (cx'.ports.map (·.data)) s = findIdent (cx.ports.map (·.data)) s :=
    fun s => (findIdent_congr _ _ (nameEq_ports h.ports) s).symm
  have e2 : ∀ s, findIdent (cx'.insts.map (·.data)) s = findIdent (cx.insts.map (·.data)) s :=
    fun s => (findIdent_congr _ _ (nameEq_insts h.insts) s).symm
  refine Sim.eq ?_ hs
  unfold parsePortRef
  split
  · exact Sim.throw
  · refine Sim.bind (Sim.refl _) ?_
    rintro ⟨ident, idx⟩ _ rfl
    -- the loop over instanceRef items uses the context only through `findIdent` on the instances
    have hloop : ∀ (xs : List SExp) (cur : Option Nat),
        loopC (portRefTail cx') cur xs = loopC (portRefTail cx) cur xs := by
      intro xs
      induction xs with
      | nil => intro cur; rfl
      | cons x r ih =>
        intro cur
        cases x with
        | atom a => rfl
        | list zs =>
          have : portRefTail cx' cur zs = portRefTail cx cur zs := by
            unfold portRefTail instanceRefOf
            simp only [e2]
          simp only [loopC, this, bind, Except.bind]
          cases portRefTail cx cur zs with
          | error e => rfl
          | ok c => exact ih c
    dsimp only
    rw [hloop]
    refine Sim.bind (Sim.refl _) ?_
    rintro ⟨target, rest⟩ _ rfl
    refine Sim.bind (Sim.refl _) ?_
    rintro _ _ -
    cases target with
    | none =>
      simp only [e1]
      split
      · exact Sim.throw
      · rename_i pi _
        cases hp : cx.ports[pi]? with
        | none => exact Sim.throw
        | some p =>
          obtain ⟨p', hp', hr⟩ := forall₂_get h.ports pi p hp
          simp only [hp', ← hr.width]
          exact Sim.refl _
    | some ii =>
      dsimp only
      cases hi : cx.insts[ii]? with
      | none => exact Sim.throw
      | some inst =>
        obtain ⟨inst', hi', hri⟩ := forall₂_get h.insts ii inst hi
        simp only [hi', ← hri.ref]
        split
        · exact Sim.throw
        · rename_i li di _
          cases hd : (defsOfLib cx.sc li)[di]? with
          | none => exact Sim.throw
          | some d =>
            obtain ⟨d', hd', hrd⟩ := forall₂_get (defsOfLib_rel _ _ h.sc li) di d hd
            simp only [hd', ← findIdent_congr _ _ (nameEq_ports hrd.ports)]
            split
            · exact Sim.throw
            · rename_i pi _
              cases hp : d.ports[pi]? with
              | none => exact Sim.throw
              | some p =>
                obtain ⟨p', hp', hr⟩ := forall₂_get hrd.ports pi p hp
                simp only [hp', ← hr.width]
                exact Sim.refl _

end Spydr.Edif
