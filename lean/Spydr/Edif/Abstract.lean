/-
  C05, specification side for a first fragment of `edif_reader_spec`:

    * abstract designs `ADesign` (libraries, cells with one view, ports with direction / array size /
      rename, instances with viewRef / cellRef / libraryRef spelled in any letter case and typed
      properties, scalar nets and bus-bit nets in any order, a design selecting the top cell);
    * `render` : an EDIF writer of its own for abstract designs (s-expression; `renderText` lays it out);
    * `denote` : what the design MEANS, as the view `V05` (names, identifiers, directions, widths,
      array-ness, references as (library, cell) positions, property dictionaries, cables with base
      index and every wire's pins), defined on the abstract design alone — no reader function is used;
    * `view05` : the same view extracted from a netlist value;
    * `wf` : the decidable well-formedness predicate under which the theorem is proved.

  Outside the fragment: keyword spellings (fixed here, the writer's own; any letter case is added by
  Props/C05Kw.lean), comments, status blocks and properties on objects other than instances (erased by
  Props/C05Erase.lean); left to the correspondence check: several views, instances after nets,
  repeated bit nets.  No Mathlib.
-/
import Spydr.Edif.ModelWrite
namespace Spydr.Edif

/-! ### abstract designs -/

/-- `ident` or `(rename ident "orig")` -/
structure AName where
  ident : Str
  orig : Option Str := none
  deriving Repr, Inhabited

/-- the name an element gets: the original name when there is a rename, else the identifier -/
def AName.name (a : AName) : Str :=
  match a.orig with
  | some o => o
  | none => a.ident

inductive AVal where
  | str (s : Str)
  | int (i : Int)
  | bool (b : Bool)
  deriving Repr, Inhabited

structure AProp where
  name : AName
  value : AVal
  deriving Repr, Inhabited

structure APort where
  name : AName
  dir : Dir := .undefined          -- `.undefined`: no `(direction …)`
  array : Option Nat := none       -- `some k`: `(array name k)`
  deriving Repr, Inhabited

/-- an instance of the cell at position (`li`, `di`), referenced in the text by the spellings
    `viewSp`, `cellSp`, `libSp`; `libOmit`: the text has no `(libraryRef …)` (the cell is looked up in the
    library being read; `libSp` is not written then) -/
structure AInst where
  name : AName
  li : Nat
  di : Nat
  viewSp : Str
  cellSp : Str
  libSp : Str
  props : List AProp := []
  libOmit : Bool := false
  deriving Repr, Inhabited

/-- a joined pin: bit `bit` (none: written without `member`) of port `pi` of the cell itself, or of
    the cell instance `ii` references; `sp`, `isp` are the spellings used in the text -/
inductive APin where
  | port (pi : Nat) (bit : Option Nat) (sp : Str)
  | inst (ii pi : Nat) (bit : Option Nat) (sp isp : Str)
  deriving Repr, Inhabited

inductive ANetKind where
  | scalar (name : AName)
  | bit (bident bname : Str) (idx : Nat) (iidx : Nat)   -- bit `idx` of the bus (`bident`, `bname`), written
                                                        -- `(rename bident_iidx_ "bname[idx]")`
  deriving Repr, Inhabited

structure ANet where
  kind : ANetKind
  pins : List APin
  deriving Repr, Inhabited

structure ACell where
  name : AName
  view : Str
  ports : List APort := []
  insts : List AInst := []
  nets : List ANet := []
  deriving Repr, Inhabited

/-- `external`: written `(external …)` instead of `(library …)` -/
structure ALib where
  name : AName
  cells : List ACell := []
  external : Bool := false
  deriving Repr, Inhabited

structure ADesign where
  name : AName
  libs : List ALib
  top : AName
  topLi : Nat
  topDi : Nat
  topCellSp : Str
  topLibSp : Str
  deriving Repr, Inhabited

/-! ### the writer for abstract designs -/

def AName.sexp (a : AName) : SExp :=
  match a.orig with
  | none => .atom a.ident
  | some o => .list [A "rename", .atom a.ident, qtok o]

def AVal.sexp : AVal → SExp
  | .str s => .list [A "string", qtok s]
  | .int i => .list [A "integer", .atom (intStr i)]
  | .bool b => .list [A "boolean", .list [A (if b then "true" else "false")]]

def AProp.sexp (p : AProp) : SExp := .list [A "property", p.name.sexp, p.value.sexp]

def dirSexp : Dir → List SExp
  | .undefined => []
  | .inout => [.list [A "direction", A "INOUT"]]
  | .inp => [.list [A "direction", A "INPUT"]]
  | .out => [.list [A "direction", A "OUTPUT"]]

def APort.sexp (p : APort) : SExp :=
  match p.array with
  | none => .list (A "port" :: p.name.sexp :: dirSexp p.dir)
  | some k => .list (A "port" :: .list [A "array", p.name.sexp, .atom (natStr k)] :: dirSexp p.dir)

def AInst.cellRefSexp (i : AInst) : SExp :=
  if i.libOmit then .list [A "cellref", .atom i.cellSp]
  else .list [A "cellref", .atom i.cellSp, .list [A "libraryref", .atom i.libSp]]

def AInst.sexp (i : AInst) : SExp :=
  .list (A "instance" :: i.name.sexp :: .list [A "viewref", .atom i.viewSp, i.cellRefSexp] :: i.props.map AProp.sexp)

def APin.sexp : APin → SExp
  | .port _ none sp => .list [A "portref", .atom sp]
  | .port _ (some k) sp => .list [A "portref", .list [A "member", .atom sp, .atom (natStr k)]]
  | .inst _ _ none sp isp => .list [A "portref", .atom sp, .list [A "instanceref", .atom isp]]
  | .inst _ _ (some k) sp isp =>
      .list [A "portref", .list [A "member", .atom sp, .atom (natStr k)], .list [A "instanceref", .atom isp]]

def ANetKind.sexp : ANetKind → SExp
  | .scalar a => a.sexp
  | .bit bi bn i j => .list [A "rename", .atom (bitIdent bi j), qtok (bitName bn i)]

def ANet.sexp (n : ANet) : SExp := .list [A "net", n.kind.sexp, .list (A "joined" :: n.pins.map APin.sexp)]

/-- a cell without instances and nets is written without `(contents …)` -/
def ACell.contentsSexp (c : ACell) : List SExp :=
  if c.insts.isEmpty && c.nets.isEmpty then []
  else [.list (A "contents" :: (c.insts.map AInst.sexp ++ c.nets.map ANet.sexp))]

def ACell.sexp (c : ACell) : SExp :=
  .list [A "cell", c.name.sexp, .list [A "celltype", A "GENERIC"],
    .list (A "view" :: .atom c.view :: .list [A "viewtype", A "NETLIST"] ::
      .list (A "interface" :: c.ports.map APort.sexp) :: c.contentsSexp)]

def ALib.sexp (l : ALib) : SExp :=
  .list (A (if l.external then "external" else "library") :: l.name.sexp :: .list [A "edifLevel", A "0"] ::
    .list [A "technology", .list [A "numberDefinition"]] :: l.cells.map ACell.sexp)

/-- the EDIF s-expression of an abstract design -/
def render (d : ADesign) : SExp :=
  .list (A "edif" :: d.name.sexp :: .list [A "edifVersion", A "2", A "0", A "0"] :: .list [A "edifLevel", A "0"] ::
    .list [A "keywordMap", .list [A "keywordLevel", A "0"]] :: (d.libs.map ALib.sexp ++
    [.list [A "design", d.top.sexp, .list [A "cellRef", .atom d.topCellSp, .list [A "libraryRef", .atom d.topLibSp]]]]))

/-- … and its text -/
def renderText (d : ADesign) : List Char := layoutE (render d)

/-! ### the view C05 speaks about -/

structure V05Port where
  name : Option Str
  ident : Option Str
  dir : Dir
  width : Nat
  array : Bool
  deriving Repr

structure V05Inst where
  name : Option Str
  ident : Option Str
  ref : Option (Nat × Nat)
  props : List Val
  deriving Repr

structure V05Cable where
  name : Option Str
  ident : Option Str
  array : Bool
  lower : Nat
  wires : List (List CPin)
  deriving Repr

structure V05Cell where
  name : Option Str
  ident : Option Str
  view : Option Str
  ports : List V05Port
  insts : List V05Inst
  cables : List V05Cable
  deriving Repr

structure V05Lib where
  name : Option Str
  ident : Option Str
  cells : List V05Cell
  external : Bool
  deriving Repr

structure V05Top where
  name : Option Str
  ident : Option Str
  ref : Option (Nat × Nat)
  deriving Repr

structure V05 where
  name : Option Str
  ident : Option Str
  libs : List V05Lib
  top : Option V05Top
  deriving Repr

/-! ### view05 of a netlist value -/

def v05Props (d : Data) : List Val :=
  match d.get? (S "EDIF.properties") with
  | some (.list ps) => ps
  | _ => []

def view05Port (p : CPort) : V05Port := ⟨nameOf p.data, identOf p.data, p.dir, p.width, p.isArray⟩
def view05Inst (i : CInst) : V05Inst := ⟨nameOf i.data, identOf i.data, i.ref, v05Props i.data⟩
def view05Cable (c : CCable) : V05Cable := ⟨nameOf c.data, identOf c.data, c.isArray, c.lower, c.wires⟩
def view05Cell (d : CDef) : V05Cell :=
  ⟨nameOf d.data, identOf d.data, d.data.getStr? (S "EDIF.view.identifier"),
    d.ports.map view05Port, d.insts.map view05Inst, d.cables.map view05Cable⟩
def kEXT : Str := S "EDIF.external"

/-- the library was written `(external …)` -/
def extOf (d : Data) : Bool :=
  match d.get? kEXT with
  | some (.bool true) => true
  | _ => false

def view05Lib (l : CLib) : V05Lib := ⟨nameOf l.data, identOf l.data, l.defs.map view05Cell, extOf l.data⟩
def view05 (n : CNetlist) : V05 :=
  ⟨nameOf n.data, identOf n.data, n.libs.map view05Lib,
    n.top.map fun t => ⟨nameOf t.data, identOf t.data, t.ref⟩⟩

/-! ### the denotation of an abstract design -/

def AVal.val : AVal → Val
  | .str s => .str s
  | .int i => .int i
  | .bool b => .bool b

/-- the property dictionary: identifier, original identifier (if renamed), value -/
def AProp.den (p : AProp) : Val :=
  .obj ([(S "identifier", .str p.name.ident)] ++
    (match p.name.orig with
     | some o => [(S "original_identifier", Val.str o)]
     | none => []) ++ [(S "value", p.value.val)])

def APort.width (p : APort) : Nat :=
  match p.array with
  | none => 1
  | some k => k

def APort.den (p : APort) : V05Port := ⟨some p.name.name, some p.name.ident, p.dir, p.width, p.array.isSome⟩

def AInst.den (i : AInst) : V05Inst := ⟨some i.name.name, some i.name.ident, some (i.li, i.di), i.props.map AProp.den⟩

def APin.pin : APin → CPin
  | .port pi b _ => .port pi (b.getD 0)
  | .inst ii pi b _ _ => .inst ii pi (b.getD 0)

/-- the cable-level (identifier, name) a net declares -/
def ANetKind.key : ANetKind → Str × Str
  | .scalar a => (a.ident, a.name)
  | .bit bi bn _ _ => (bi, bn)

def ANet.cname (n : ANet) : Str := n.kind.key.2

/-- scanning the text: a name is added when it has not been seen yet -/
def addName (seen : List Str) (n : Str) : List Str := if n ∈ seen then seen else seen ++ [n]

/-- cable names in the order they first occur in the text -/
def firstNames (l : List Str) : List Str := l.foldl addName []

/-- the bit nets of the bus called `nm`: (index, pins) in text order -/
def busBits (nm : Str) (nets : List ANet) : List (Nat × List CPin) :=
  nets.filterMap fun n => match n.kind with
    | .bit _ bn i _ => if bn = nm then some (i, n.pins.map APin.pin) else none
    | .scalar _ => none

def minOf : List Nat → Nat
  | [] => 0
  | [a] => a
  | a :: r => min a (minOf r)

def maxOf : List Nat → Nat
  | [] => 0
  | a :: r => max a (maxOf r)

/-- the pins the text gives for bit `k` -/
def bitPins (bits : List (Nat × List CPin)) (k : Nat) : List CPin :=
  match bits.find? (fun b => b.1 == k) with
  | some b => b.2
  | none => []

/-- the cable called `nm`: a scalar net is a one-wire cable at index 0; the bit nets of a bus are one
    array cable based at the least index present, ending at the greatest, a missing bit being an
    unconnected wire -/
def cableDen (nets : List ANet) (nm : Str) : Option V05Cable :=
  match nets.find? (fun n => n.cname == nm) with
  | none => none
  | some n =>
    match n.kind with
    | .scalar a => some ⟨some a.name, some a.ident, false, 0, [n.pins.map APin.pin]⟩
    | .bit bi bn _ _ =>
      let bits := busBits nm nets
      let lo := minOf (bits.map (·.1))
      let hi := maxOf (bits.map (·.1))
      some ⟨some bn, some bi, true, lo, (List.range (hi + 1 - lo)).map fun j => bitPins bits (lo + j)⟩

def cablesDen (nets : List ANet) : List V05Cable :=
  (firstNames (nets.map ANet.cname)).filterMap (cableDen nets)

def ACell.den (c : ACell) : V05Cell :=
  ⟨some c.name.name, some c.name.ident, some c.view, c.ports.map APort.den, c.insts.map AInst.den, cablesDen c.nets⟩

def ALib.den (l : ALib) : V05Lib := ⟨some l.name.name, some l.name.ident, l.cells.map ACell.den, l.external⟩

/-- **what the design means** -/
def denote (d : ADesign) : V05 :=
  ⟨some d.name.name, some d.name.ident, d.libs.map ALib.den,
    some ⟨some d.top.name, some d.top.ident, some (d.topLi, d.topDi)⟩⟩

/-! ### well-formedness (decidable) -/

def AName.okB (a : AName) : Bool := checkEdifIdentifier a.ident && a.name.all isStringChar

/-- sibling names: every one legal, identifiers pairwise different ignoring case, names pairwise different -/
def namesOKB (as : List AName) : Bool :=
  as.all AName.okB && decide ((as.map fun a => lower a.ident).Nodup) && decide ((as.map AName.name).Nodup)

/-- a reference spelling: a legal identifier equal to the target's identifier ignoring case -/
def spellsB (sp target : Str) : Bool := checkEdifIdentifier sp && (lower sp == lower target)

def AProp.okB (p : AProp) : Bool :=
  p.name.okB && (match p.value with
    | .str s => s.all isStringChar
    | _ => true)

def APort.okB (p : APort) : Bool :=
  match p.array with
  | none => true
  | some k => decide (1 ≤ k)

def cellAt (d : ADesign) (li di : Nat) : Option (ALib × ACell) :=
  match d.libs[li]? with
  | none => none
  | some l => (l.cells[di]?).map fun c => (l, c)

/-- the referenced cell precedes the cell at (L, D) in the text -/
def beforeB (L D li di : Nat) : Bool := decide (li < L) || (decide (li = L) && decide (di < D))

def AInst.okB (d : ADesign) (L D : Nat) (i : AInst) : Bool :=
  beforeB L D i.li i.di &&
  (match cellAt d i.li i.di with
   | none => false
   | some (l, c) => spellsB i.cellSp c.name.ident && spellsB i.libSp l.name.ident && spellsB i.viewSp c.view) &&
  i.props.all AProp.okB && (!i.libOmit || i.li == L)

def APin.okB (d : ADesign) (c : ACell) : APin → Bool
  | .port pi b sp =>
    (match c.ports[pi]? with
     | none => false
     | some p => spellsB sp p.name.ident && decide (b.getD 0 < p.width))
  | .inst ii pi b sp isp =>
    (match c.insts[ii]? with
     | none => false
     | some i =>
       spellsB isp i.name.ident &&
       (match cellAt d i.li i.di with
        | none => false
        | some (_, rc) =>
          (match rc.ports[pi]? with
           | none => false
           | some p => spellsB sp p.name.ident && decide (b.getD 0 < p.width))))

def ANetKind.okB : ANetKind → Bool
  | .scalar a => a.okB && (sepName a.name).1.isNone && !a.name.isEmpty
  | .bit bi bn i j =>
    checkEdifIdentifier bi && checkEdifIdentifier (bitIdent bi i) && (bitName bn i).all isStringChar &&
    bracketAllowed (bitName bn i) && !bn.isEmpty && checkEdifIdentifier (bitIdent bi j)

def ANetKind.isBit : ANetKind → Bool
  | .scalar _ => false
  | .bit _ _ _ _ => true

/-- the nets of a cell: each one legal; two nets with the same cable name are bits of one bus (same
    identifier), two with different names have different identifiers ignoring case; no bit twice -/
def netsOKB (nets : List ANet) : Bool :=
  nets.all (fun n => n.kind.okB) &&
  nets.all (fun a => nets.all fun b =>
    if a.kind.key.2 = b.kind.key.2 then a.kind.key.1 = b.kind.key.1 && a.kind.isBit == b.kind.isBit
    else lower a.kind.key.1 != lower b.kind.key.1) &&
  decide (((nets.filter fun n => !n.kind.isBit).map ANet.cname).Nodup) &&
  nets.all (fun n => decide (((busBits n.cname nets).map (·.1)).Nodup))

def ACell.okB (d : ADesign) (L D : Nat) (c : ACell) : Bool :=
  checkEdifIdentifier c.view &&
  namesOKB (c.ports.map (·.name)) && c.ports.all APort.okB &&
  namesOKB (c.insts.map (·.name)) && c.insts.all (AInst.okB d L D) &&
  netsOKB c.nets && c.nets.all (fun n => n.pins.all (APin.okB d c)) &&
  decide ((c.nets.flatMap fun n => n.pins.map APin.pin).Nodup)

def allIdx {α : Type} (xs : List α) (f : Nat → α → Bool) : Bool := (xs.zipIdx).all fun (x, k) => f k x

def ALib.okB (d : ADesign) (L : Nat) (l : ALib) : Bool :=
  namesOKB (l.cells.map (·.name)) && allIdx l.cells (fun D c => c.okB d L D)

/-- **the well-formedness predicate** of `edif_reader_spec` -/
def ADesign.wf (d : ADesign) : Bool :=
  d.name.okB && d.top.okB &&
  namesOKB (d.libs.map (·.name)) && allIdx d.libs (fun L l => l.okB d L) &&
  (match cellAt d d.topLi d.topDi with
   | none => false
   | some (l, c) => spellsB d.topCellSp c.name.ident && spellsB d.topLibSp l.name.ident)

end Spydr.Edif
