/-
  Every element the reader builds carries an EDIF identifier and a name — on arbitrary input.
-/
import Spydr.Edif.ReadFrame
import Spydr.Edif.LemmasBits
import Spydr.Edif.NamesSpec
namespace Spydr.Edif

theorem named_of_same (d d' : Data) (h : SameOn KN d d') (hn : Named d) : Named d' := by
  unfold Named identOf nameOf Data.getStr? at *
  rw [h kIDENT (by simp [KN]), h kNAME (by simp [KN])]; exact hn

theorem named_set (d : Data) (k : Str) (v : Val) (h1 : k ≠ kIDENT) (h2 : k ≠ kNAME) (hn : Named d) : Named (d.set k v) :=
  named_of_same d _ (sameOn_set KN d k v (by simp [KN, h1, h2])) hn

theorem named_prefix (d : Data) (v : Val) (hn : Named d) : Named (d.set (S "metadata_prefix") v) :=
  named_set d _ v (by decide +kernel) (by decide +kernel) hn

def goodLit (x : Str) : Bool :=
  match x with
  | c :: _ => c != 'i' && c != 'o'
  | [] => false

theorem keys_KN : kIDENT = 'E' :: 'D' :: 'I' :: 'F' :: '.' :: 'i' :: "dentifier".toList ∧
    kORIG = 'E' :: 'D' :: 'I' :: 'F' :: '.' :: 'o' :: "riginal_identifier".toList := by decide +kernel

/-- `EDIF.<x>…` is no name key unless `x` begins with `i` or `o` -/
theorem ns_N (x : Str) (h : goodLit x = true) : NoSpecialK KN [S "EDIF", x] := by
  obtain _ | ⟨c, xs⟩ := x
  · cases h
  · simp only [goodLit, Bool.and_eq_true, bne_iff_ne, ne_eq] at h
    exact noSpecialK_lit6 KN c xs (by simp [KN, okKey6, keys_KN.1, keys_KN.2, Ne.symm h.1, Ne.symm h.2])

theorem named_of_get (d : Data) (i n : Str) (hi : d.get? kIDENT = some (.str i)) (hn : d.get? kNAME = some (.str n)) :
    Named d := by
  simp [Named, identOf, nameOf, Data.getStr?, hi, hn]

theorem setAttr_ident_inv (m m1 : Meta) (v : Val) (hp : m.pfx = [S "EDIF"])
    (h : setAttr (m.push "identifier") v = .ok m1) :
    m1.pfx = [S "EDIF", S "identifier"] ∧ ∃ s, m1.data.get? kIDENT = some (.str s) ∧
      (m.data.has kNAME = false → m1.data.get? kNAME = some (.str s)) := by
  have hk : (m.push "identifier").key = kIDENT := by rw [key_push, hp]; exact joinDot_ident
  unfold setAttr at h
  simp only [hk, if_neg kIDENT_ne_orig, if_true] at h
  split at h
  · split at h
    · cases ok_of_pure h
      refine ⟨by simp [Meta.push, hp], _, Data.get?_set_self _ _ _, ?_⟩
      intro hn
      simp [Meta.push, hn, Data.get?_set_other _ _ _ _ kNAME_ne_kIDENT, Data.get?_set_self]
    · cases h
  · cases h

theorem setAttr_orig_inv (m m1 : Meta) (v : Str) (hp : m.pfx = [S "EDIF"])
    (h : setAttr (m.push "original_identifier") (.str v) = .ok m1) :
    m1.pfx = [S "EDIF", S "original_identifier"] ∧ m1.data.get? kNAME = some (.str v) ∧
      m1.data.get? kIDENT = m.data.get? kIDENT := by
  obtain ⟨D, p⟩ := m
  cases hp
  cases (setAttr_orig D v).symm.trans h
  exact ⟨rfl, Data.get?_set_self _ _ _, Data.get?_set_other _ _ _ _ kNAME_ne_kIDENT.symm⟩

theorem parseRename_named (m m' : Meta) (ys : List SExp) (hp : m.pfx = [S "EDIF"])
    (h : parseRename m ys = .ok m') : m'.pfx = [S "EDIF"] ∧ Named m'.data := by
  obtain ⟨_, _, _, _, m1, _, m2, -, -, -, hm1, -, hm2, rfl⟩ := parseRename_iff.mp h
  obtain ⟨e1, s, hs, _⟩ := setAttr_ident_inv m m1 _ hp hm1
  have e1' : m1.pop.pfx = [S "EDIF"] := by simp [Meta.pop, e1]
  obtain ⟨e2, hn, hi⟩ := setAttr_orig_inv m1.pop m2 _ e1' hm2
  exact ⟨by simp [Meta.pop, e2], named_of_get _ s _ (by simpa [Meta.pop] using hi.trans hs) (by simpa [Meta.pop] using hn)⟩

theorem nameDef_named (m m' : Meta) (xs rest : List SExp) (hp : m.pfx = [S "EDIF"]) (hn : m.data.has kNAME = false)
    (h : nameDef m xs = .ok (m', rest)) : m'.pfx = [S "EDIF"] ∧ Named m'.data := by
  obtain ⟨_, -, ⟨ys, -, hr⟩ | ⟨_, m1, -, hm1, rfl⟩⟩ := nameDef_iff.mp h
  · exact parseRename_named m _ _ hp hr
  · obtain ⟨e1, s, hs, hnm⟩ := setAttr_ident_inv m m1 _ hp hm1
    exact ⟨by simp [Meta.pop, e1], named_of_get _ s s (by simpa [Meta.pop] using hs) (by simpa [Meta.pop] using hnm hn)⟩

def MetaOK (p : List Str) (m : Meta) : Prop := m.pfx = p ∧ Named m.data

theorem MetaOK.step {p : List Str} {m m' : Meta} (h : MetaOK p m) (h' : m'.pfx = m.pfx ∧ SameOn KN m.data m'.data) :
    MetaOK p m' := ⟨h'.1.trans h.1, named_of_same _ _ h'.2 h.2⟩

def Elem (p : List Str) : Prop := ∀ x, goodLit x = true → NoSpecialK KN (p ++ [x])

theorem elem_edif : Elem [S "EDIF"] := ns_N

theorem elem_sub (x : Str) (hx : goodLit x = true) : Elem [S "EDIF", x] :=
  fun y _ ext => by simpa using ns_N x hx ([y] ++ ext)

theorem elem_view : Elem [S "EDIF", S "view"] := elem_sub _ (by decide +kernel)

theorem MetaOK.push {p : List Str} {m : Meta} (h : MetaOK p m) (x : String) : MetaOK (p ++ [S x]) (m.push x) :=
  ⟨by simp [Meta.push, h.1], h.2⟩

theorem MetaOK.pop {p : List Str} {x : Str} {m : Meta} (h : MetaOK (p ++ [x]) m) : MetaOK p m.pop :=
  ⟨by simp [Meta.pop, h.1], h.2⟩

theorem setAttr_pop_ok {p : List Str} (he : Elem p) {m m1 : Meta} {v : Val} (x : String) (hx : goodLit (S x) = true)
    (hm : MetaOK p m) (h : setAttr (m.push x) v = .ok m1) : MetaOK p m1.pop :=
  ((hm.push x).step (setAttr_sameK KN _ _ _ (by rw [(hm.push x).1]; exact (he (S x) hx).plain) h)).pop

theorem levelOf_ok {p : List Str} (he : Elem p) {m m' : Meta} {ys : List SExp} {kw : String} (x : String)
    (hx : goodLit (S x) = true) (hm : MetaOK p m) (h : levelOf m ys kw x = .ok m') : MetaOK p m' :=
  hm.step (levelOf_sameK KN _ _ _ _ _ (by rw [hm.1]; exact (he (S x) hx).plain) h)

theorem comment_ok (p : List Str) (he : Elem p) (m m' : Meta) (ys : List SExp) (hm : MetaOK p m)
    (h : parseComment m ys = .ok m') : MetaOK p m' :=
  hm.step (parseComment_sameK KN m m' ys (by rw [hm.1]; exact (he (S "comments") (by decide +kernel)).plain) h)

theorem property_ok (p : List Str) (he : Elem p) (m m' : Meta) (ys : List SExp) (hm : MetaOK p m)
    (h : parseProperty m ys = .ok m') : MetaOK p m' :=
  hm.step (parseProperty_sameK KN m m' ys (by rw [hm.1]; exact he (S "properties") (by decide +kernel)) h)

theorem status_ok (p : List Str) (he : Elem p) (m m' : Meta) (ys : List SExp) (hm : MetaOK p m)
    (h : parseStatus m ys = .ok m') : MetaOK p m' :=
  hm.step (parseStatus_sameK KN m m' ys (by rw [hm.1]; exact he (S "status") (by decide +kernel)) h)

theorem metaStep_ok {p : List Str} (he : Elem p) {ks : List String} {m m' : Meta} {ys : List SExp} (hm : MetaOK p m)
    (h : MetaStep ks m ys m') : MetaOK p m' := by
  obtain h | h | h := h.2
  · exact comment_ok p he m m' ys hm h
  · exact property_ok p he m m' ys hm h
  · exact status_ok p he m m' ys hm h

theorem metaNew_ok : Meta.new.pfx = [S "EDIF"] ∧ Meta.new.data.has kNAME = false := ⟨rfl, rfl⟩

theorem portItem_meta {s : PortSt} {ys : List SExp} {s' : PortSt} (hm : MetaOK [S "EDIF"] s.m)
    (h : portItem s ys = .ok s') : MetaOK [S "EDIF"] s'.m := by
  unfold portItem at h
  obtain h | h := ok_of_ite h
  · obtain ⟨_, -, h⟩ := bind_ok (ok_of_else h).2
    cases ok_of_pure h
    exact hm
  obtain ⟨-, h⟩ := ok_of_else h
  obtain h | h := ok_of_ite h
  · obtain ⟨m, hp, h⟩ := bind_ok h
    cases ok_of_pure h
    exact property_ok _ elem_edif _ _ _ hm hp
  obtain h | h := ok_of_ite h
  · obtain ⟨m, hc, h⟩ := bind_ok h
    cases ok_of_pure h
    exact comment_ok _ elem_edif _ _ _ hm hc
  · cases (ok_of_else h).2

theorem parsePort_named (ys : List SExp) (p : CPort) (h : parsePort ys = .ok p) : Named p.data := by
  obtain ⟨m, _, _, _, s, _, hh, hl, -, rfl⟩ := parsePort_iff.mp h
  obtain ⟨-, -, _, _, hn⟩ := portHeader_ok hh
  have : MetaOK [S "EDIF"] s.m :=
    loopC_ind (fun s => MetaOK [S "EDIF"] s.m) portItem_meta (nameDef_named _ _ _ _ rfl rfl hn) hl
  exact named_prefix _ _ this.2

theorem instItem_meta {m : Meta} {ys : List SExp} {m' : Meta} (hm : MetaOK [S "EDIF"] m)
    (h : instItem m ys = .ok m') : MetaOK [S "EDIF"] m' := by
  unfold instItem at h
  obtain h | h := ok_of_ite h
  · exact property_ok _ elem_edif _ _ _ hm h
  obtain h | h := ok_of_ite h
  · exact comment_ok _ elem_edif _ _ _ hm h
  · cases (ok_of_else h).2

theorem parseInstance_named (sc : Scope) (ys : List SExp) (i : CInst) (h : parseInstance sc ys = .ok i) : Named i.data := by
  obtain ⟨m, _, _, _, m', _, hn, -, -, hl, -, rfl⟩ := parseInstance_iff.mp h
  exact (loopC_ind (MetaOK [S "EDIF"]) instItem_meta (nameDef_named _ _ _ _ rfl rfl hn) hl).2

theorem addRetry_named (sibs : List Data) (d d' : Data) (hn : Named d) (h : addRetry sibs d = .ok d') : Named d' := by
  obtain ⟨-, rfl⟩ | ⟨_, i, -, -, hi, -, -, rfl⟩ := addRetry_iff.mp h
  · exact hn
  · refine named_of_get _ i i ?_ (Data.get?_set_self _ _ _)
    rw [Data.get?_set_other _ _ _ _ kNAME_ne_kIDENT.symm]
    exact get?_of_getStr? _ _ _ hi

theorem parseDesign_named (libs : List CLib) (ys : List SExp) (t : CInst) (h : parseDesign libs ys = .ok t) : Named t.data := by
  obtain ⟨_, m, _, _, _, _, hn, -, -, rfl⟩ := parseDesign_ok h
  exact named_prefix _ _ (nameDef_named _ _ _ _ rfl rfl hn).2

theorem multibitAdd_named (cs cs' : List CCable) (d : Data) (ps : List CPin) (hc : ∀ c ∈ cs, Named c.data)
    (h : multibitAdd cs d ps = .ok cs') : ∀ c ∈ cs', Named c.data := by
  obtain ⟨⟨i, n, hi, hn⟩, ⟨c, rfl, -, -, hd⟩ | ⟨k, ex, j, hk, rfl⟩⟩ := multibitAdd_ok h
  · refine mem_snoc_all _ cs c hc ?_
    obtain hd | ⟨i', n', hd⟩ := hd <;> rw [hd]
    · simp [Named, hi, hn]
    · exact named_of_get _ _ _ (by rw [Data.get?_set_other _ _ _ _ kNAME_ne_kIDENT.symm]; exact Data.get?_set_self _ _ _)
        (Data.get?_set_self _ _ _)
  · intro c hcm
    obtain h1 | rfl := List.mem_or_eq_of_mem_set hcm
    · exact hc c h1
    · rw [(mergeInto_eq _ _ _).2.2.1]
      exact hc _ (List.mem_of_getElem? hk)

end Spydr.Edif
