/-
  Libraries and the whole file of an abstract design through the reader, in closed
  form (`ADesign.elab`), under explicit per-cell hypotheses (`ACell.OKIn` in the scope the reader has
  when it reaches the cell).
-/
import Spydr.Edif.DenoteCell
namespace Spydr.Edif

/-- the dictionary a library starts with: `(external …)` is recorded before the name is read -/
def ALib.base (l : ALib) : Data := if l.external then [(S "EDIF.external", .bool true)] else []

def ALib.kw (l : ALib) : String := if l.external then "external" else "library"

def ALib.data (l : ALib) : Data := withName l.base l.name.ident l.name.name

def ALib.elab (l : ALib) : CLib := { data := l.data, defs := l.cells.map ACell.elab }

/-- the reader's scope when it reaches cell number `D` of library `l`, the libraries `rlibs` read -/
def cellScope (rlibs : List CLib) (l : ALib) (D : Nat) : Scope :=
  { libs := rlibs, curLib := l.data, curDefs := (l.cells.take D).map ACell.elab }

theorem foldlM_lib_ACells (rlibs : List CLib) (l : ALib) (hn : namesOKB (l.cells.map (·.name)) = true)
    (hcells : ∀ (D : Nat) (c : ACell), l.cells[D]? = some c → c.OKIn (cellScope rlibs l D)) :
    ∃ yss : List (List SExp), l.cells.map ACell.sexp = yss.map SExp.list ∧
      yss.foldlM (libItem rlibs) { m := { data := l.data, pfx := [S "EDIF"] } } =
        .ok { m := { data := l.data, pfx := [S "EDIF"] }, defs := l.cells.map ACell.elab } := by
  apply foldlM_siblings ACell.sexp (libItem rlibs) fun done =>
    { m := { data := l.data, pfx := [S "EDIF"] }, defs := done.map ACell.elab }
  intro done c rest hsplit
  have hok := hcells done.length c (by rw [hsplit]; simp)
  have hsc : cellScope rlibs l done.length = { libs := rlibs, curLib := l.data, curDefs := done.map ACell.elab } := by
    simp [cellScope, hsplit]
  rw [hsc] at hok
  obtain ⟨ys, hys, hparse⟩ := parseCell_ACell _ c hok
  refine ⟨ys, hys, ?_⟩
  obtain ⟨t, rfl⟩ : ∃ t, A "cell" :: t = ys := by
    simp only [ACell.sexp, SExp.list.injEq] at hys
    exact ⟨_, hys⟩
  have hconf := conflicts_false_of_okB ACell.name ACell.elab (·.data) l.cells done rest c hn hsplit identOf_ACell_data
    nameOf_ACell_data
  rw [libItem_cell rlibs { m := { data := l.data, pfx := [S "EDIF"] }, defs := done.map ACell.elab } _ t _ (by decide +kernel)
    (by decide +kernel) hparse hconf, List.map_append]
  rfl

theorem parseLibrary_ALib (rlibs : List CLib) (l : ALib) (hname : l.name.okB = true)
    (hn : namesOKB (l.cells.map (·.name)) = true)
    (hcells : ∀ (D : Nat) (c : ACell), l.cells[D]? = some c → c.OKIn (cellScope rlibs l D)) :
    ∃ t, l.sexp = .list (A l.kw :: t) ∧ parseLibrary rlibs l.external (A l.kw :: t) = .ok l.elab := by
  have hbase : l.base.has kNAME = false := by
    unfold ALib.base; cases l.external <;> decide +kernel
  obtain ⟨yss, hw, hfold⟩ := foldlM_lib_ACells rlibs l hn hcells
  exact ⟨_, by rw [ALib.sexp, hw]; rfl,
    parseLibrary_written rlibs l.external _ _ ⟨l.base, [S "EDIF"]⟩ _ (by unfold ALib.base Meta.new; cases l.external <;> rfl)
      (fun rest => nameDef_AName l.name hname l.base rest hbase) yss _ hfold⟩

theorem identOf_ALib_data (l : ALib) : identOf l.elab.data = some l.name.ident := identOf_withName _ _ _
theorem nameOf_ALib_data (l : ALib) : nameOf l.elab.data = some l.name.name := nameOf_withName _ _ _

theorem foldlM_body_ALibs (libs : List ALib) (hn : namesOKB (libs.map (·.name)) = true)
    (hlibs : ∀ (L : Nat) (l : ALib), libs[L]? = some l → namesOKB (l.cells.map (·.name)) = true ∧
      ∀ (D : Nat) (c : ACell), l.cells[D]? = some c → c.OKIn (cellScope ((libs.take L).map ALib.elab) l D))
    (m : Meta) :
    ∃ yss : List (List SExp), libs.map ALib.sexp = yss.map SExp.list ∧
      yss.foldlM bodyItem { m := m } = .ok { m := m, libs := libs.map ALib.elab } := by
  apply foldlM_siblings ALib.sexp bodyItem fun done => { m := m, libs := done.map ALib.elab }
  intro done l rest hsplit
  have hlm : l ∈ libs := by rw [hsplit]; simp
  obtain ⟨hcn, hcells⟩ := hlibs done.length l (by rw [hsplit]; simp)
  have htake : (libs.take done.length).map ALib.elab = done.map ALib.elab := by simp [hsplit]
  rw [htake] at hcells
  obtain ⟨t, hys, hparse⟩ := parseLibrary_ALib (done.map ALib.elab) l (namesOKB_ok _ hn _ (List.mem_map_of_mem hlm)) hcn
    hcells
  refine ⟨_, hys, ?_⟩
  have h1 : headIs (A l.kw :: t) "status" = false := by
    rw [headIs_cons]; unfold ALib.kw; cases l.external <;> decide +kernel
  have h2 : (headIs (A l.kw :: t) "library" || headIs (A l.kw :: t) "external") = true := by
    rw [headIs_cons, headIs_cons]; unfold ALib.kw; cases l.external <;> decide +kernel
  have h3 : headIs (A l.kw :: t) "external" = l.external := by
    rw [headIs_cons]; unfold ALib.kw; cases l.external <;> decide +kernel
  have hconf := conflicts_false_of_okB ALib.name ALib.elab (·.data) libs done rest l hn hsplit identOf_ALib_data
    nameOf_ALib_data
  rw [bodyItem_library { m := m, libs := done.map ALib.elab } _ l.external _ h1 h2 h3 hparse hconf, List.map_append]
  rfl

def ADesign.data (d : ADesign) : Data :=
  (withName [] d.name.ident d.name.name).set kVERSION (.list [.int 2, .int 0, .int 0])

/-- the netlist the reader builds for an abstract design -/
def ADesign.elab (d : ADesign) : CNetlist :=
  { data := d.data, libs := d.libs.map ALib.elab, top := some (readTop d.top.ident d.top.name d.topLi d.topDi) }

theorem identOf_ADesign_data (d : ADesign) : identOf d.elab.data = some d.name.ident :=
  (identOf_set _ kVERSION _ (S_ne rfl)).trans (identOf_withName [] _ _)

theorem nameOf_ADesign_data (d : ADesign) : nameOf d.elab.data = some d.name.name :=
  (nameOf_set _ kVERSION _ (S_ne rfl)).trans (nameOf_withName [] _ _)

/-- what the file-level statement needs: names, per-cell hypotheses in the reader's scope, the design's
    target -/
structure ADesign.OK (d : ADesign) : Prop where
  name : d.name.okB = true
  top : d.top.okB = true
  libNames : namesOKB (d.libs.map (·.name)) = true
  libs : ∀ (L : Nat) (l : ALib), d.libs[L]? = some l → namesOKB (l.cells.map (·.name)) = true ∧
    ∀ (D : Nat) (c : ACell), l.cells[D]? = some c → c.OKIn (cellScope ((d.libs.take L).map ALib.elab) l D)
  hvd : validIdentTok d.topCellSp = true
  hvl : validIdentTok d.topLibSp = true
  target : ∃ l', findIdent ((d.libs.map ALib.elab).map (·.data)) d.topLibSp = some d.topLi ∧
    (d.libs.map ALib.elab)[d.topLi]? = some l' ∧
    findIdent (l'.defs.map (·.data)) d.topCellSp = some d.topDi

theorem ofSExp_render (d : ADesign) (h : d.OK) : ofSExp (render d) = .ok d.elab := by
  obtain ⟨yss, hw, hlf⟩ := foldlM_body_ALibs d.libs h.libNames h.libs ⟨d.data, [S "EDIF"]⟩
  obtain ⟨l', hfl, hl', hfd⟩ := h.target
  have hdes := parseDesign_written (d.libs.map ALib.elab) (A "design") d.top.sexp d.top.ident d.top.name "cellRef" "libraryRef"
    d.topCellSp d.topLibSp d.topLi d.topDi l' (nameDef_AName_new d.top h.top []) h.hvd h.hvl hfl hl' hfd
  refine ofSExp_written _ "edifVersion" "keywordMap" "keywordLevel" _ (nameDef_AName_new d.name h.name) (by decide +kernel)
    (by decide +kernel) (by decide +kernel) _ (yss ++ [[A "design", d.top.sexp,
      .list [A "cellRef", .atom d.topCellSp, .list [A "libraryRef", .atom d.topLibSp]]]]) (by simp [hw])
    { m := ⟨d.data, [S "EDIF"]⟩, libs := d.libs.map ALib.elab, top := some (readTop d.top.ident d.top.name d.topLi d.topDi) } ?_
  simp only [List.foldlM_append, List.foldlM_cons, List.foldlM_nil, bodyItem_design]
  rw [← ADesign.data, hlf]
  simp only [ok_bind, hdes, pure_ok]

end Spydr.Edif
