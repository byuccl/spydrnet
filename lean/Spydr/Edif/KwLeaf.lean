/-
  Keyword case, construct by construct: names, comments, properties, status, levels, ports; references,
  instances, pin references, nets.
-/
import Spydr.Edif.KwNorm
namespace Spydr.Edif

theorem parseRename_norm (m : Meta) (ys : List SExp) : parseRename m (normC ys) = parseRename m ys := by
  rcases ys with _ | ⟨a, _ | ⟨b, _ | ⟨c, _ | ⟨d, r⟩⟩⟩⟩ <;> simp [parseRename]

theorem nameDef_norm (m : Meta) (xs : List SExp) : nameDef m (normL xs) = mapRest (nameDef m xs) := by
  rcases xs with _ | ⟨a | ys, r⟩
  · rfl
  · simp only [normL_cons, norm_atom, nameDef, mapRest_bind, mapRest_pure]
  · simp only [normL_cons, norm_list, nameDef, parseRename_norm, mapRest_bind, mapRest_pure]

theorem nameRef_norm (m : Meta) (xs : List SExp) : nameRef m (normL xs) = mapRest (nameRef m xs) := by
  rcases xs with _ | ⟨x, r⟩
  · rfl
  · simp only [normL_cons, nameRef, identOfS_norm, mapRest_bind, mapRest_pure]

theorem parseComment_norm (m : Meta) (ys : List SExp) : parseComment m (normC ys) = parseComment m ys := by
  simp [parseComment, mapM_normL stringOfS stringOfS_norm]

theorem typedValue_norm (ys : List SExp) : typedValue (normC ys) = typedValue ys := by
  rcases ys with _ | ⟨a, _ | ⟨b, _ | ⟨c, r⟩⟩⟩
  · rfl
  · simp [typedValue, headIs_cons_isKw]; rfl
  · cases b with
    | atom t => simp [typedValue, headIs_cons_isKw]
    | list zs =>
      rcases zs with _ | ⟨z, _ | ⟨z2, zr⟩⟩
      · simp [typedValue, headIs_cons_isKw, intOfS, stringOfS]
      · cases z with
        | atom t => simp [typedValue, normH_atom, headIs_cons_isKw, intOfS, stringOfS, lower_normHead]
        | list w => simp [typedValue, normH_list, headIs_cons_isKw, intOfS, stringOfS]
      · simp [typedValue, headIs_cons_isKw, intOfS, stringOfS]
  · simp [typedValue, headIs_cons_isKw]; rfl

theorem propTail_norm (b : Bool) (ys : List SExp) : propTail b (normC ys) = propTail b ys := by
  rcases ys with _ | ⟨a, _ | ⟨x, _ | ⟨c, r⟩⟩⟩ <;> simp [propTail, headIs_cons_isKw] <;> rfl

theorem propLike_norm (m : Meta) (xs : List SExp) : propLike m (normL xs) = propLike m xs := by
  unfold propLike
  rw [nameDef_norm, bind_mapRest]
  refine bind_congr fun (m1, rest) => ?_
  rcases rest with _ | ⟨_ | vs, r⟩
  · rfl
  · rfl
  · simp only [normL_cons, norm_list, typedValue_norm, loopC_normL propTail propTail_norm, bind_mapRest, endC_normL]

theorem parseProperty_norm (m : Meta) (ys : List SExp) : parseProperty m (normC ys) = parseProperty m ys := by
  simp [parseProperty, propLike_norm]

theorem parseMetax_norm (m : Meta) (ys : List SExp) : parseMetax m (normC ys) = parseMetax m ys := by
  simp [parseMetax, propLike_norm]

theorem intsOf_norm (xs : List SExp) : intsOf (normL xs) = intsOf xs := mapM_normL intOfS intOfS_norm xs

theorem writtenItem_norm (s : WrittenSt) (ys : List SExp) : writtenItem s (normC ys) = writtenItem s ys := by
  unfold writtenItem
  simp only [headIs_normC, parseProperty_norm, parseMetax_norm, parseComment_norm]
  -- what is left to compare are the two `match`es on the shape of the content, under `author` and `program`
  by_cases ha : headIs ys "author" = true
  · simp only [if_pos ha]
    rcases ys with _ | ⟨a, _ | ⟨x, _ | ⟨c, r⟩⟩⟩ <;>
      simp only [normC_cons, normL_cons, normL_nil, normC_nil, stringOfS_norm]
  · by_cases hp : headIs ys "program" = true
    · simp only [if_neg ha, if_pos hp]
      rcases ys with _ | ⟨a, _ | ⟨x, _ | ⟨t | zs, r⟩⟩⟩
      case cons.cons.cons.list =>
        rcases zs with _ | ⟨k, _ | ⟨v, _ | ⟨w, zr⟩⟩⟩ <;> cases r <;>
          simp only [normC_cons, normL_cons, normL_nil, normC_nil, norm_list, stringOfS_norm, isKw_normH]
      case cons.cons.cons.atom =>
        cases r <;> simp only [normC_cons, normL_cons, normL_nil, norm_atom]
      all_goals simp only [normC_cons, normL_cons, normL_nil, normC_nil, stringOfS_norm]
    · simp only [if_neg ha, if_neg hp]

theorem parseWritten_norm (m : Meta) (ys : List SExp) : parseWritten m (normC ys) = parseWritten m ys := by
  unfold parseWritten
  simp only [tail_normC]
  rcases ys.tail with _ | ⟨_ | ts, r⟩
  · rfl
  · rfl
  · simp only [normL_cons, norm_list, headIs_normC, tail_normC, intsOf_norm, loopC_normL writtenItem writtenItem_norm,
      bind_mapRest, endC_normL]

theorem statusItem_norm (m : Meta) (ys : List SExp) : statusItem m (normC ys) = statusItem m ys := by
  simp [statusItem, parseWritten_norm, parseComment_norm]

theorem parseStatus_norm (m : Meta) (ys : List SExp) : parseStatus m (normC ys) = parseStatus m ys := by
  simp only [parseStatus, tail_normC, loopC_normL statusItem statusItem_norm, bind_mapRest, endC_normL]

theorem levelOf_norm (m : Meta) (ys : List SExp) (kw pfx : String) : levelOf m (normC ys) kw pfx = levelOf m ys kw pfx := by
  rcases ys with _ | ⟨a, _ | ⟨x, _ | ⟨c, r⟩⟩⟩ <;> simp [levelOf]

theorem parseDirection_norm (ys : List SExp) : parseDirection (normC ys) = parseDirection ys := by
  rcases ys with _ | ⟨a, _ | ⟨x, _ | ⟨c, r⟩⟩⟩ <;> simp [parseDirection]

theorem portItem_norm (s : PortSt) (ys : List SExp) : portItem s (normC ys) = portItem s ys := by
  simp [portItem, parseDirection_norm, parseProperty_norm, parseComment_norm]

theorem parsePort_norm (ys : List SExp) : parsePort (normC ys) = parsePort ys := by
  unfold parsePort
  simp only [tail_normC]
  have hloop := loopC_normL portItem portItem_norm
  rcases ys.tail with _ | ⟨a | zs, r⟩
  · rfl
  · simp only [normL_cons, norm_atom, nameDef, bind_assoc, pure_bind, hloop, bind_mapRest, endC_normL]
  · simp only [normL_cons, norm_list, headIs_normC, parseRename_norm, tail_normC]
    by_cases hr : headIs zs "rename" = true
    · simp only [if_pos hr, bind_assoc, pure_bind, hloop, bind_mapRest, endC_normL]
    · by_cases ha : headIs zs "array" = true
      · simp only [if_neg hr, if_pos ha]
        rcases zs.tail with _ | ⟨z, zr⟩
        · rfl
        · simp only [normL_cons]
          rw [← normL_cons, nameDef_norm]
          simp only [bind_mapRest, bind_assoc]
          refine bind_congr fun (m1, r2) => ?_
          rcases r2 with _ | ⟨n, _ | ⟨n2, nr⟩⟩
          · rfl
          · simp only [normL_cons, normL_nil, intOfS_norm, bind_assoc, pure_bind, hloop, bind_mapRest, endC_normL]
          · rfl
      · simp only [if_neg hr, if_neg ha]

theorem parseLibraryRef_norm (sc : Scope) (m : Meta) (ys : List SExp) :
    parseLibraryRef sc m (normC ys) = parseLibraryRef sc m ys := by
  rcases ys with _ | ⟨a, _ | ⟨x, _ | ⟨c, r⟩⟩⟩
  · rfl
  · simp [parseLibraryRef]
  · have hn := nameRef_norm (m.push "libraryRef") [x]
    simp only [normL_cons, normL_nil] at hn
    simp only [parseLibraryRef, normC_cons, normL_cons, normL_nil, hn, identOfS_norm, bind_mapRest]
  · simp [parseLibraryRef]

theorem parseCellRef_norm (sc : Scope) (m : Meta) (ys : List SExp) :
    parseCellRef sc m (normC ys) = parseCellRef sc m ys := by
  unfold parseCellRef
  simp only [headIs_normC, tail_normC]
  rcases ys.tail with _ | ⟨x, _ | ⟨_ | zs, _ | ⟨z, r⟩⟩⟩ <;>
    simp only [normL_cons, normL_nil, norm_atom, norm_list, identOfS_norm, headIs_normC, parseLibraryRef_norm]

theorem parseViewRef_norm (sc : Scope) (m : Meta) (ys : List SExp) :
    parseViewRef sc m (normC ys) = parseViewRef sc m ys := by
  unfold parseViewRef
  simp only [tail_normC]
  rcases ys.tail with _ | ⟨v, _ | ⟨_ | zs, _ | ⟨z, r⟩⟩⟩ <;>
    simp only [normL_cons, normL_nil, norm_atom, norm_list, identOfS_norm, parseCellRef_norm]

theorem instItem_norm (m : Meta) (ys : List SExp) : instItem m (normC ys) = instItem m ys := by
  simp [instItem, parseProperty_norm, parseComment_norm]

theorem parseInstance_norm (sc : Scope) (ys : List SExp) : parseInstance sc (normC ys) = parseInstance sc ys := by
  unfold parseInstance
  simp only [tail_normC, nameDef_norm, bind_mapRest]
  refine bind_congr fun (m, rest) => ?_
  rcases rest with _ | ⟨_ | zs, r⟩
  · rfl
  · rfl
  · simp only [normL_cons, norm_list, headIs_normC, parseViewRef_norm]
    by_cases hv : headIs zs "viewref" = true
    · simp only [if_pos hv, bind_assoc, pure_bind, loopC_normL instItem instItem_norm, bind_mapRest, endC_normL]
    · simp only [if_neg hv]

theorem instanceRefOf_norm (cx : DefCtx) (ys : List SExp) : instanceRefOf cx (normC ys) = instanceRefOf cx ys := by
  rcases ys with _ | ⟨a, _ | ⟨x, _ | ⟨c, r⟩⟩⟩
  · rfl
  · simp [instanceRefOf]
  · cases x <;> simp [instanceRefOf]
  · simp [instanceRefOf]

theorem portRefTail_norm (cx : DefCtx) (cur : Option Nat) (ys : List SExp) :
    portRefTail cx cur (normC ys) = portRefTail cx cur ys := by
  unfold portRefTail
  simp only [headIs_normC, instanceRefOf_norm]
  cases ys <;> simp

theorem parseMember_norm (ys : List SExp) : parseMember (normC ys) = parseMember ys := by
  unfold parseMember
  simp only [headIs_normC, tail_normC]
  rcases ys.tail with _ | ⟨_ | xs, _ | ⟨n, _ | ⟨z, r⟩⟩⟩ <;>
    simp only [normL_cons, normL_nil, norm_atom, norm_list, intOfS_norm]

theorem parsePortRef_norm (cx : DefCtx) (ys : List SExp) : parsePortRef cx (normC ys) = parsePortRef cx ys := by
  unfold parsePortRef
  simp only [tail_normC]
  rcases ys.tail with _ | ⟨_ | zs, rest⟩
  · rfl
  · simp only [normL_cons, norm_atom, loopC_normL (portRefTail cx) (portRefTail_norm cx), bind_mapRest, endC_normL]
  · simp only [normL_cons, norm_list, parseMember_norm, loopC_normL (portRefTail cx) (portRefTail_norm cx), bind_mapRest,
      endC_normL]

theorem joinedItem_norm (cx : DefCtx) (pins : List CPin) (ys : List SExp) :
    joinedItem cx pins (normC ys) = joinedItem cx pins ys := by
  simp [joinedItem, parsePortRef_norm]

theorem netItem_norm (m : Meta) (ys : List SExp) : netItem m (normC ys) = netItem m ys := by
  simp [netItem, parseProperty_norm, parseComment_norm]

theorem parseNet_norm (cx : DefCtx) (ys : List SExp) : parseNet cx (normC ys) = parseNet cx ys := by
  unfold parseNet
  simp only [tail_normC, nameDef_norm, bind_mapRest]
  refine bind_congr fun (m, rest) => ?_
  rcases rest with _ | ⟨_ | js, r⟩
  · rfl
  · rfl
  · simp only [normL_cons, norm_list, headIs_normC, tail_normC, loopC_normL (joinedItem cx) (joinedItem_norm cx),
      loopC_normL netItem netItem_norm, bind_mapRest, endC_normL]

end Spydr.Edif
