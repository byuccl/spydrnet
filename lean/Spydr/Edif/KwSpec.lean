/-
  C05, specification side of the keyword-case theorems: `norm` lowercases the keyword (head atom) of every construct
  except the two whose spelling the reader stores; `recase f` re-spells every keyword by `f`, and `CaseOnly f` says
  that `f` changes letter case only.  Definitions only.
-/
import Spydr.Edif.ModelRead
namespace Spydr.Edif

/-- the keywords whose spelling is stored in the netlist (`EDIF.cellType`, `EDIF.view.viewType`) -/
def keepCase (a : Str) : Bool := lower a == S "celltype" || lower a == S "viewtype"

def normHead (a : Str) : Str := if keepCase a then a else lower a

mutual
/-- lowercase the keyword (head atom) of every construct -/
def norm : SExp → SExp
  | .atom a => .atom a
  | .list xs => .list (normC xs)
/-- the content of a construct: its head atom is the keyword -/
def normC : List SExp → List SExp
  | [] => []
  | .atom a :: r => .atom (normHead a) :: normL r
  | .list ys :: r => .list (normC ys) :: normL r
def normL : List SExp → List SExp
  | [] => []
  | x :: r => norm x :: normL r
end

mutual
/-- apply `f` to the keyword (head atom) of every construct -/
def recase (f : Str → Str) : SExp → SExp
  | .atom a => .atom a
  | .list xs => .list (recaseC f xs)
def recaseC (f : Str → Str) : List SExp → List SExp
  | [] => []
  | .atom a :: r => .atom (f a) :: recaseL f r
  | .list ys :: r => .list (recaseC f ys) :: recaseL f r
def recaseL (f : Str → Str) : List SExp → List SExp
  | [] => []
  | x :: r => recase f x :: recaseL f r
end

/-- a re-spelling that only changes letter case, and leaves `cellType` / `viewType` as they are -/
structure CaseOnly (f : Str → Str) : Prop where
  lower : ∀ a, lower (f a) = lower a
  kept : ∀ a, keepCase a = true → f a = a

end Spydr.Edif
