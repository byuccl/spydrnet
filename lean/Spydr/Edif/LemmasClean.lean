/-
  Inside C03's quantifier the s-expression the writer emits is clean (plain words, strings without
  double quote / line break): the hypothesis of `lex_layout` holds for every text the writer lays out.
-/
import Spydr.Edif.LemmasWF
import Spydr.Edif.LemmasLex
namespace Spydr.Edif

theorem mem_of_not_plain (c : Char) (h : plainChar c = false) : c = '"' ∨ c = '(' ∨ c = ')' ∨ c = '\r' ∨ c = '\n' ∨ c = '\t' ∨ c = ' ' := by
  simp only [plainChar, isWs, Bool.not_eq_false', Bool.or_eq_true, beq_iff_eq] at h
  rcases h with ((h | h) | h) | (((h | h) | h) | h) <;> simp [h]

theorem plain_of_idChar (c : Char) (h : isIdChar c = true) : plainChar c = true := by
  cases hp : plainChar c with
  | true => rfl
  | false =>
    rcases mem_of_not_plain c hp with rfl | rfl | rfl | rfl | rfl | rfl | rfl <;> exact absurd h (by decide)

theorem plain_of_alpha (c : Char) (h : isAsciiAlpha c = true) : plainChar c = true :=
  plain_of_idChar c (by simp [isIdChar, h])

theorem plain_of_digit (c : Char) (h : isAsciiDigit c = true) : plainChar c = true :=
  plain_of_idChar c (by simp [isIdChar, h])

theorem clean_ident (i : Str) (h : checkEdifIdentifier i = true) : (SExp.atom i).clean := by
  cases i with
  | nil => cases h
  | cons c r =>
    obtain ⟨hr, hc, -⟩ := checkEdifIdentifier_head h
    refine Or.inl ⟨by simp, fun x hx => ?_⟩
    rcases List.mem_cons.mp hx with rfl | hx
    · rcases hc with rfl | hc
      · decide
      · exact plain_of_alpha _ hc
    · exact plain_of_idChar x (List.all_eq_true.mp hr x hx)
theorem clean_natStr (n : Nat) : (SExp.atom (natStr n)).clean :=
  Or.inl ⟨natStr_ne_nil n, fun c hc => plain_of_digit c (natStr_digits n c hc)⟩

theorem clean_pad2 (n : Nat) : (SExp.atom (pad2 n)).clean := by
  unfold pad2
  split
  · refine Or.inl ⟨by simp, ?_⟩
    intro c hc
    rcases List.mem_cons.mp hc with rfl | hc
    · decide
    · exact plain_of_digit c (natStr_digits n c hc)
  · exact clean_natStr n

theorem clean_intStr (i : Int) : (SExp.atom (intStr i)).clean := by
  cases i with
  | ofNat n => exact clean_natStr n
  | negSucc n =>
    refine Or.inl ⟨by simp [intStr], ?_⟩
    intro c hc
    simp only [intStr] at hc
    rcases List.mem_cons.mp hc with rfl | hc
    · decide
    · exact plain_of_digit c (natStr_digits _ c hc)

theorem stringChar_ok (c : Char) (h : isStringChar c = true) : c ≠ '"' ∧ c ≠ '\n' ∧ c ≠ '\r' := by
  refine ⟨?_, ?_, ?_⟩ <;> (intro e; subst e; exact absurd h (by decide))

theorem clean_qtok (s : Str) (h : s.all isStringChar = true) : (qtok s).clean := by
  refine Or.inr ⟨s, rfl, ?_⟩
  intro c hc
  exact stringChar_ok c (List.all_eq_true.mp h c hc)

theorem cleanL_append (xs ys : List SExp) (hx : cleanL xs) (hy : cleanL ys) : cleanL (xs ++ ys) := by
  induction xs with
  | nil => exact hy
  | cons x r ih => exact ⟨hx.1, ih hx.2⟩

theorem cleanL_of_forall (xs : List SExp) (h : ∀ x ∈ xs, x.clean) : cleanL xs := by
  induction xs with
  | nil => trivial
  | cons x r ih => exact ⟨h x (by simp), ih (fun y hy => h y (by simp [hy]))⟩

theorem forall_of_cleanL (xs : List SExp) (h : cleanL xs) : ∀ x ∈ xs, x.clean := by
  induction xs with
  | nil => intro x hx; cases hx
  | cons x r ih =>
    intro y hy
    rcases List.mem_cons.mp hy with rfl | hy
    · exact h.1
    · exact ih h.2 y hy

theorem mapM_forall {α β : Type} (f : α → W β) (P : β → Prop) (xs : List α) (ys : List β)
    (h : ∀ x ∈ xs, ∀ y, f x = .ok y → P y) (hm : xs.mapM f = .ok ys) : ∀ y ∈ ys, P y := by
  intro y hy
  have : Except.ok y ∈ xs.map f := mapM_eq_ok.mp hm ▸ List.mem_map_of_mem hy
  obtain ⟨x, hx, hxy⟩ := List.mem_map.mp this
  exact h x hx y hxy

theorem mapM_clean {α : Type} (f : α → W SExp) (xs : List α) (ys : List SExp)
    (h : ∀ x ∈ xs, ∀ y, f x = .ok y → y.clean) (hm : xs.mapM f = .ok ys) : cleanL ys :=
  cleanL_of_forall ys (mapM_forall f SExp.clean xs ys h hm)

theorem clean_list (xs : List SExp) (h : cleanL xs) : (SExp.list xs).clean := by
  simpa [SExp.clean] using h

theorem cleanL_of_clean_list (xs : List SExp) (h : (SExp.list xs).clean) : cleanL xs := by
  simpa [SExp.clean] using h

theorem clean_kw (s : String) (h1 : s.toList ≠ []) (h2 : s.toList.all plainChar = true) : (A s).clean :=
  Or.inl ⟨h1, fun c hc => List.all_eq_true.mp h2 c hc⟩

/-- a keyword atom: the check is a finite fact about the characters of `k`, left to the kernel (the elaborator's own
    evaluation of `k.toList` on a literal is several times dearer) -/
theorem clean_A (k : String) (hk : cleanAtomB k.toList = true := by decide +kernel) : (A k).clean :=
  cleanAtomB_sound _ hk

theorem clean_node {s : String} {xs : List SExp} (h : cleanL xs) (hs : (A s).cleanB = true := by decide +kernel) :
    (SExp.list (A s :: xs)).clean :=
  clean_list _ ⟨cleanB_sound _ hs, h⟩

theorem nameSExp_clean (d : Data) (i n : Str) (h : NamedOK d i n) (what : String) (e : SExp)
    (he : nameSExp d what = .ok e) : e.clean := by
  obtain ⟨e', he', hshape, _⟩ := nameDef_nameSExp d i n h what
  cases he.symm.trans he'
  rcases hshape with rfl | rfl
  · exact clean_ident i h.hc
  · exact clean_node ⟨clean_ident i h.hc, clean_qtok n h.hs, trivial⟩

theorem portSExp_clean (p : CPort) (h : PortWF p) (e : SExp) (he : portSExp p = .ok e) : e.clean := by
  simp only [portSExp_eq, bind_eq_ok] at he
  obtain ⟨nm, hn, he⟩ := he
  have hnm := nameSExp_clean _ _ _ h.named "port" nm hn
  have hdir : cleanL (dirSexp p.dir) := by
    cases p.dir <;> first | trivial | exact ⟨clean_node ⟨clean_A _, trivial⟩, trivial⟩
  split at he <;> (simp only [pure_ok, Except.ok.injEq] at he; subst he)
  · exact clean_node ⟨clean_node ⟨hnm, clean_natStr _, trivial⟩, hdir⟩
  · exact clean_node ⟨hnm, hdir⟩

theorem valSExp_clean (v : Val) (h : (∃ s, v = .str s ∧ s.all isStringChar = true) ∨ (∃ b, v = .bool b) ∨ (∃ i, v = .int i))
    (e : SExp) (he : valSExp v = .ok e) : e.clean := by
  rcases h with ⟨s, rfl, hs⟩ | ⟨b, rfl⟩ | ⟨i, rfl⟩ <;>
    (simp only [valSExp, pure_ok, Except.ok.injEq] at he; subst he)
  · exact clean_node ⟨clean_qtok s hs, trivial⟩
  · exact clean_node ⟨clean_node trivial (by cases b <;> decide +kernel), trivial⟩
  · exact clean_node ⟨clean_intStr i, trivial⟩

theorem clean_validIdent_of_check (i : Str) (h : checkEdifIdentifier i = true) : (SExp.atom i).clean := clean_ident i h

theorem propSExp_clean (t : PropT) (h : PropOK t.1 t.2.1 t.2.2)
    (e : SExp) (he : propSExp t.obj = .ok e) : e.clean := by
  obtain ⟨ident, orig, v⟩ := t
  simp only [PropT.obj, propSExp_obj, bind_eq_ok, pure_ok, Except.ok.injEq] at he
  obtain ⟨tv, htv, rfl⟩ := he
  refine clean_node ⟨?_, valSExp_clean v h.hval _ htv, trivial⟩
  cases orig with
  | none => exact clean_ident ident h.hc
  | some o => exact clean_node ⟨clean_ident ident h.hc, clean_qtok o (h.horig o rfl), trivial⟩

theorem propsOf_clean (d : Data) (h : d.get? kPROPS = none ∨
      ∃ ps, d.get? kPROPS = some (.list ps) ∧ ∀ v ∈ ps, ∃ t, decodeProp v = some t ∧ PropOK t.1 t.2.1 t.2.2)
    (es : List SExp) (he : propsOf d = .ok es) : cleanL es := by
  unfold propsOf at he
  rw [show S "EDIF.properties" = kPROPS from rfl] at he
  rcases h with hp | ⟨ps, hp, hall⟩ <;> rw [hp] at he
  · cases he; trivial
  · refine mapM_clean propSExp ps es (fun v hv y hy => ?_) he
    obtain ⟨t, ht, hok⟩ := hall v hv
    rw [← decodeProp_obj v t ht] at hy
    exact propSExp_clean t hok y hy

theorem cellref_clean (did lid : Str) (hd : checkEdifIdentifier did = true) (hl : checkEdifIdentifier lid = true) :
    (SExp.list [A "cellref", .atom did, .list [A "libraryref", .atom lid]]).clean :=
  clean_node ⟨clean_ident _ hd, clean_node ⟨clean_ident _ hl, trivial⟩, trivial⟩

theorem instSExp_clean (libs : List CLib) (hn : NetNames libs) (L D : Nat) (i : CInst) (h : InstWF libs L D i)
    (e : SExp) (he : instSExp libs i = .ok e) : e.clean := by
  obtain ⟨li, di, l2, rd, href, h2, hrd, _⟩ := h.ref
  have hdn := hn.defNamed l2 (List.mem_of_getElem? h2) rd (List.mem_of_getElem? hrd)
  have hln := hn.libNamed l2 (List.mem_of_getElem? h2)
  simp only [instSExp, href, h2, hrd, needIdent, hdn.hi, hln.hi, bind_eq_ok, ok_bind, pure_ok, Except.ok.injEq] at he
  obtain ⟨nm, hnm, es, hp, rfl⟩ := he
  exact clean_node ⟨nameSExp_clean _ _ _ h.named "instance" nm hnm,
    clean_node ⟨clean_A _, cellref_clean _ _ hdn.hc hln.hc, trivial⟩, propsOf_clean i.data h.props es hp⟩

theorem pinSExp_clean (libs : List CLib) (hn : NetNames libs) (L D : Nat) (l : CLib) (hl : libs[L]? = some l)
    (d : CDef) (hd : l.defs[D]? = some d) (hinsts : ∀ i ∈ d.insts, InstWF libs L D i)
    (pin : CPin) (h : PinWF libs d pin) (e : SExp) (he : pinSExp libs d pin = .ok e) : e.clean := by
  have hlmem : l ∈ libs := List.mem_of_getElem? hl
  have hdmem : d ∈ l.defs := List.mem_of_getElem? hd
  have href : ∀ (p : CPort) (bi : Nat), checkEdifIdentifier (idOf p.data) = true →
      (if p.isArray = true then SExp.list [A "member", .atom (idOf p.data), .atom (natStr bi)]
        else SExp.atom (idOf p.data)).clean := by
    intro p bi hc
    split
    · exact clean_node ⟨clean_ident _ hc, clean_natStr _, trivial⟩
    · exact clean_ident _ hc
  cases pin with
  | port pi bi =>
    obtain ⟨p, hp, _, _⟩ := h
    have hpw := hn.portWF l hlmem d hdmem p (List.mem_of_getElem? hp)
    simp only [pinSExp, hp, needIdent, hpw.named.hi] at he
    split at he <;> (simp only [ok_bind, pure_ok, Except.ok.injEq] at he; subst he)
    · exact clean_node ⟨clean_node ⟨clean_ident _ hpw.named.hc, clean_natStr _, trivial⟩, trivial⟩
    · exact clean_node ⟨clean_ident _ hpw.named.hc, trivial⟩
  | inst ii pi bi =>
    obtain ⟨inst, li, di, l2, rd, p, hi, href', h2, hrd, hp, _, _⟩ := h
    have hiw := hinsts inst (List.mem_of_getElem? hi)
    have hpw := hn.portWF l2 (List.mem_of_getElem? h2) rd (List.mem_of_getElem? hrd) p (List.mem_of_getElem? hp)
    simp only [pinSExp, hi, href', h2, hrd, Option.bind_some, hp, needIdent, hpw.named.hi, hiw.named.hi, ok_bind,
      pure_ok, Except.ok.injEq] at he
    subst he
    exact clean_node ⟨href p bi hpw.named.hc, clean_node ⟨clean_ident _ hiw.named.hc, trivial⟩, trivial⟩

theorem cableSExps_clean (libs : List CLib) (hn : NetNames libs) (L D : Nat) (l : CLib) (hl : libs[L]? = some l)
    (d : CDef) (hd : l.defs[D]? = some d) (hinsts : ∀ i ∈ d.insts, InstWF libs L D i)
    (c : CCable) (h : CableWF libs d c) (es : List SExp) (he : cableSExps libs d c = .ok es) : cleanL es := by
  simp only [cableSExps, needIdent, h.named.hi] at he
  refine mapM_clean _ _ es ?_ he
  rintro ⟨w, k⟩ hx y hy
  have hmem := List.mem_zipIdx hx
  simp only [Nat.zero_add] at hmem
  have hk : k < c.wires.length := by have := hmem.2.1; omega
  have hw : w ∈ c.wires := by rw [hmem.2.2]; exact List.getElem_mem _
  simp only [netSExp, bind_eq_ok, pure_ok, Except.ok.injEq] at hy
  obtain ⟨nm, hnm, ps, hpins, rfl⟩ := hy
  have hps : cleanL ps := mapM_clean (pinSExp libs d) w ps
    (fun pin hp e' he' => pinSExp_clean libs hn L D l hl d hd hinsts pin (h.pins w hw pin hp) e' he') hpins
  refine clean_node ⟨?_, clean_node hps, trivial⟩
  by_cases hs : (decide (c.wires.length = 1) && !c.isArray) = true
  · rw [if_pos hs] at hnm
    exact nameSExp_clean _ _ _ h.named "cable" nm hnm
  · have hs' : ¬ (c.wires.length = 1 ∧ c.isArray = false) := fun ⟨h1, h2⟩ => hs (by simp [h1, h2])
    obtain ⟨_, hci, hcs⟩ := h.bus_ok hs' k hk
    simp only [hs, Bool.false_eq_true, if_false, nameOf_of_NamedOK _ _ _ h.named, Except.ok.injEq] at hnm
    subst hnm
    exact clean_node ⟨clean_ident _ hci, clean_qtok _ hcs, trivial⟩

theorem defSExp_clean (libs : List CLib) (hn : NetNames libs) (L D : Nat) (l : CLib) (hl : libs[L]? = some l)
    (d : CDef) (hd : l.defs[D]? = some d) (h : CellWF libs L D d)
    (e : SExp) (he : defSExp libs d = .ok e) : e.clean := by
  have hlmem : l ∈ libs := List.mem_of_getElem? hl
  have hdmem : d ∈ l.defs := List.mem_of_getElem? hd
  simp only [defSExp, bind_eq_ok, pure_ok, Except.ok.injEq] at he
  obtain ⟨nm, hnm, ps, hp, is, hi, css, hc, rfl⟩ := he
  have hps : cleanL ps := mapM_clean portSExp d.ports ps
    (fun p hpm e' he' => portSExp_clean p (hn.portWF l hlmem d hdmem p hpm) e' he') hp
  have his : cleanL is := mapM_clean (instSExp libs) d.insts is
    (fun i him e' he' => instSExp_clean libs hn L D i (h.insts i him) e' he') hi
  have hcs : cleanL css.flatten := cleanL_of_forall _ fun x hx => by
    obtain ⟨es, hes, hxm⟩ := List.mem_flatten.mp hx
    exact forall_of_cleanL es (mapM_forall (cableSExps libs d) cleanL d.cables css
      (fun c hcm es' hes' => cableSExps_clean libs hn L D l hl d hd h.insts c (h.cables c hcm) es' hes') hc es hes) x hxm
  have hcont : cleanL (if d.insts.length + d.cables.length > 0 then
      [SExp.list (A "contents" :: (is ++ css.flatten))] else []) := by
    split
    · exact ⟨clean_node (cleanL_append _ _ his hcs), trivial⟩
    · trivial
  exact clean_node ⟨nameSExp_clean _ _ _ (hn.defNamed l hlmem d hdmem) "definition" nm hnm,
    clean_node ⟨clean_A _, trivial⟩,
    clean_node ⟨clean_A _, clean_node ⟨clean_A _, trivial⟩, clean_node hps, hcont⟩, trivial⟩

theorem libSExp_clean (libs : List CLib) (hn : NetNames libs) (L : Nat) (l : CLib) (hl : libs[L]? = some l)
    (hcells : ∀ D d, l.defs[D]? = some d → CellWF libs L D d)
    (e : SExp) (he : libSExp libs l = .ok e) : e.clean := by
  simp only [libSExp, bind_eq_ok, pure_ok, Except.ok.injEq] at he
  obtain ⟨nm, hnm, cs, hc, rfl⟩ := he
  have hcs : cleanL cs := by
    refine mapM_clean (defSExp libs) l.defs cs (fun d hdm e' he' => ?_) hc
    obtain ⟨D, hget⟩ := List.mem_iff_getElem?.mp hdm
    exact defSExp_clean libs hn L D l hl d hget (hcells D d hget) e' he'
  exact clean_node ⟨nameSExp_clean _ _ _ (hn.libNamed l (List.mem_of_getElem? hl)) "library" nm hnm,
    clean_node ⟨clean_A _, trivial⟩, clean_node ⟨clean_node trivial, trivial⟩, hcs⟩

theorem statusSExp_clean (Dn : Data) (prog ver : Option Str) (y mo d h mi s : Nat) (hok : StatusOK Dn prog ver)
    (e : SExp) (he : statusSExp [y, mo, d, h, mi, s] Dn = .ok e) : e.clean := by
  rw [statusSExp_shape Dn prog ver y mo d h mi s hok] at he
  cases he
  have hprog : cleanL (progItems prog ver) := by
    cases prog with
    | none => trivial
    | some p =>
      cases ver with
      | none => exact ⟨clean_node ⟨clean_qtok p (hok.hps p rfl), trivial⟩, trivial⟩
      | some v =>
        exact ⟨clean_node ⟨clean_qtok p (hok.hps p rfl), clean_node ⟨clean_qtok v (hok.hvs v rfl), trivial⟩,
          trivial⟩, trivial⟩
  unfold statusTail
  exact clean_node ⟨clean_node ⟨clean_node ⟨clean_natStr _, clean_pad2 _, clean_pad2 _, clean_pad2 _,
    clean_pad2 _, clean_pad2 _, trivial⟩, cleanL_append _ _ hprog
      ⟨clean_node ⟨clean_qtok _ builtBy_ok, trivial⟩, trivial⟩⟩, trivial⟩

/-- **toSExp_clean**: inside the quantifier the writer's expression is clean — identifiers are
    `[0-9A-Za-z_&]`, names and strings printable without a double quote — so `lex_layout` applies -/
theorem toSExp_clean (n : CNetlist) (prog ver : Option Str) (t : CInst) (li di : Nat) (y mo d h mi s : Nat)
    (hwf : WFNet n prog ver t li di) (e : SExp)
    (he : toSExp [y, mo, d, h, mi, s] n = .ok e) : e.clean := by
  obtain ⟨l, dd, hl, hd⟩ := hwf.ttarget
  have hdn := hwf.names.defNamed l (List.mem_of_getElem? hl) dd (List.mem_of_getElem? hd)
  have hln := hwf.names.libNamed l (List.mem_of_getElem? hl)
  simp only [toSExp, hwf.top, hwf.tref, hl, hd, needIdent, hdn.hi, hln.hi, bind_eq_ok, ok_bind, pure_ok,
    Except.ok.injEq] at he
  obtain ⟨nm, hnm, st, hst, ls, hls, tn, htn, rfl⟩ := he
  have hlc : cleanL ls := by
    refine mapM_clean (libSExp n.libs) n.libs ls (fun l2 hl2 e' he' => ?_) hls
    obtain ⟨L, hget⟩ := List.mem_iff_getElem?.mp hl2
    exact libSExp_clean n.libs hwf.names L l2 hget (hwf.cells L l2 hget) e' he'
  refine clean_node ⟨nameSExp_clean _ _ _ hwf.named "netlist" nm hnm,
    clean_node ⟨clean_A _, clean_A _, clean_A _, trivial⟩,
    clean_node ⟨clean_A _, trivial⟩,
    clean_node ⟨clean_node ⟨clean_A _, trivial⟩, trivial⟩,
    statusSExp_clean n.data prog ver y mo d h mi s hwf.status st hst, ?_⟩
  exact cleanL_append _ _ hlc ⟨clean_node ⟨nameSExp_clean _ _ _ hwf.tnamed "top instance" tn htn,
    cellref_clean _ _ hdn.hc hln.hc, trivial⟩, trivial⟩

end Spydr.Edif
