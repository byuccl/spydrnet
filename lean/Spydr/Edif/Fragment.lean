/-
  Decidable forms of the hypotheses of the file-level theorems, for the evidence: the driver evaluates
  them on every generated case and reports the first failing clause.

    * `wfNetClause n = none`  implies  `WFNet n … ∧ ScalarLower0 n`  (hypotheses of C03.edif_roundtrip,
      edif_roundtrip_text, parse_compose_parse) — `wfNetClause_sound`;
    * `wfClause d = none`  implies  `d.wf = true`  (hypothesis of C05.edif_reader_spec / _kwcase) — `wfClause_sound`.
-/
import Spydr.Edif.LemmasView
import Spydr.Edif.Abstract
namespace Spydr.Edif

def firstFail : List (String × Bool) → Option String
  | [] => none
  | (nm, b) :: r => if b then firstFail r else some nm

theorem firstFail_none (cs : List (String × Bool)) (h : firstFail cs = none) : ∀ c ∈ cs, c.2 = true := by
  induction cs with
  | nil => intro c hc; cases hc
  | cons a r ih =>
    obtain ⟨nm, b⟩ := a
    intro c hc
    cases b with
    | false => simp [firstFail] at h
    | true =>
      simp only [firstFail, if_true] at h
      rcases List.mem_cons.mp hc with rfl | h1
      · rfl
      · exact ih h c h1

theorem firstFail_of_all (cs : List (String × Bool)) (h : ∀ c ∈ cs, c.2 = true) : firstFail cs = none := by
  induction cs with
  | nil => rfl
  | cons a r ih =>
    obtain ⟨nm, b⟩ := a
    have hb : b = true := h (nm, b) (by simp)
    subst hb
    simp only [firstFail, if_true]
    exact ih (fun c hc => h c (by simp [hc]))

def namedB (d : Data) : Bool :=
  match identOf d, d.get? kNAME with
  | some i, some (.str n) => checkEdifIdentifier i && n.all isStringChar
  | _, _ => false

theorem namedB_sound (d : Data) (h : namedB d = true) : NamedOK d (idOf d) (nmOf d) := by
  unfold namedB at h
  split at h
  · rename_i i n hi hn
    simp only [Bool.and_eq_true] at h
    have hno : nameOf d = some n := by simp [nameOf, Data.getStr?, hn]
    rw [idOf_of_identOf _ _ hi, nmOf_of_nameOf _ _ hno]
    exact ⟨hi, h.1, hn, h.2⟩
  · cases h

def distinctB (ds : List Data) : Bool :=
  decide (ds.Pairwise fun a b => nmOf a ≠ nmOf b ∧ lower (idOf a) ≠ lower (idOf b))

theorem distinctB_sound (ds : List Data) (h : distinctB ds = true) : Distinct ds := by
  simpa [distinctB, Distinct] using h

def portB (p : CPort) : Bool := namedB p.data && decide (1 ≤ p.width) && (p.isArray || decide (p.width = 1))

theorem portB_sound (p : CPort) (h : portB p = true) : PortWF p := by
  simp only [portB, Bool.and_eq_true, Bool.or_eq_true, decide_eq_true_eq] at h
  exact ⟨namedB_sound _ h.1.1, h.1.2, fun ha => h.2.resolve_left (by simp [ha])⟩

def propValB (v : Val) : Bool :=
  match v with
  | .str s => s.all isStringChar
  | .bool _ => true
  | .int _ => true
  | _ => false

def propB (v : Val) : Bool :=
  match decodeProp v with
  | none => false
  | some t => checkEdifIdentifier t.1 && (match t.2.1 with | some o => o.all isStringChar | none => true) && propValB t.2.2

theorem propB_sound (v : Val) (h : propB v = true) : ∃ t, decodeProp v = some t ∧ PropOK t.1 t.2.1 t.2.2 := by
  unfold propB at h
  split at h
  · cases h
  · rename_i t ht
    simp only [Bool.and_eq_true] at h
    refine ⟨t, ht, h.1.1, ?_, ?_⟩
    · intro o ho
      have := h.1.2
      rw [ho] at this
      exact this
    · have hv := h.2
      unfold propValB at hv
      cases hval : t.2.2 with
      | str s => rw [hval] at hv; exact Or.inl ⟨s, rfl, hv⟩
      | bool b => exact Or.inr (Or.inl ⟨b, rfl⟩)
      | int i => exact Or.inr (Or.inr ⟨i, rfl⟩)
      | null | list xs | obj kv => rw [hval] at hv; cases hv

def propsB (d : Data) : Bool :=
  match d.get? kPROPS with
  | none => true
  | some (.list ps) => ps.all propB
  | some _ => false

def refB (libs : List CLib) (L D : Nat) (i : CInst) : Bool :=
  match i.ref with
  | none => false
  | some (li, di) =>
    (match libs[li]? with
     | none => false
     | some l2 => (l2.defs[di]?).isSome) && (decide (li < L) || (decide (li = L) && decide (di < D)))

theorem instB_sound (libs : List CLib) (L D : Nat) (i : CInst)
    (h1 : namedB i.data = true) (h2 : refB libs L D i = true) (h3 : propsB i.data = true) : InstWF libs L D i := by
  refine ⟨namedB_sound _ h1, ?_, ?_⟩
  · unfold refB at h2
    split at h2
    · cases h2
    · rename_i li di hr
      simp only [Bool.and_eq_true, Bool.or_eq_true, decide_eq_true_eq] at h2
      cases hl : libs[li]? with
      | none => simp [hl] at h2
      | some l2 =>
        simp only [hl] at h2
        cases hd : l2.defs[di]? with
        | none => simp [hd] at h2
        | some rd => exact ⟨li, di, l2, rd, hr, hl, hd, h2.2⟩
  · unfold propsB at h3
    split at h3
    · left; assumption
    · rename_i ps hp
      right
      exact ⟨ps, hp, fun v hv => propB_sound v (List.all_eq_true.mp h3 v hv)⟩
    · cases h3

def portBitB (ps : List CPort) (pi bi : Nat) : Bool :=
  match ps[pi]? with
  | some p => decide (bi < p.width) && (p.isArray || decide (bi = 0))
  | none => false

def pinB (libs : List CLib) (d : CDef) : CPin → Bool
  | .port pi bi => portBitB d.ports pi bi
  | .inst ii pi bi =>
    match d.insts[ii]? with
    | none => false
    | some inst =>
      match inst.ref with
      | none => false
      | some (li, di) =>
        match libs[li]? with
        | none => false
        | some l2 =>
          match l2.defs[di]? with
          | none => false
          | some rd => portBitB rd.ports pi bi

theorem portBitB_sound (ps : List CPort) (pi bi : Nat) (h : portBitB ps pi bi = true) :
    ∃ p, ps[pi]? = some p ∧ bi < p.width ∧ (p.isArray = false → bi = 0) := by
  unfold portBitB at h
  split at h
  · rename_i p hp
    simp only [Bool.and_eq_true, Bool.or_eq_true, decide_eq_true_eq] at h
    exact ⟨p, hp, h.1, fun ha => h.2.resolve_left (by simp [ha])⟩
  · cases h

theorem pinB_sound (libs : List CLib) (d : CDef) (pin : CPin) (h : pinB libs d pin = true) : PinWF libs d pin := by
  cases pin with
  | port pi bi => exact portBitB_sound _ _ _ h
  | inst ii pi bi =>
    simp only [pinB] at h
    split at h
    · cases h
    · rename_i inst hi
      split at h
      · cases h
      · rename_i li di hr
        split at h
        · cases h
        · rename_i l2 hl
          split at h
          · cases h
          · rename_i rd hrd
            obtain ⟨p, hp, hb, hs⟩ := portBitB_sound _ _ _ h
            exact ⟨inst, li, di, l2, rd, p, hi, hr, hl, hrd, hp, hb, hs⟩

def isScalarCable (c : CCable) : Bool := decide (c.wires.length = 1) && !c.isArray

def cableShapeB (c : CCable) : Bool :=
  if isScalarCable c then (sepName (nmOf c.data)).1.isNone && !(nmOf c.data).isEmpty && decide (c.lower = 0)
  else (List.range c.wires.length).all fun k =>
    bracketAllowed (bitName (nmOf c.data) (k + c.lower)) && checkEdifIdentifier (bitIdent (idOf c.data) (k + c.lower)) &&
      (bitName (nmOf c.data) (k + c.lower)).all isStringChar

theorem cableB_sound (libs : List CLib) (d : CDef) (c : CCable) (h1 : namedB c.data = true)
    (h2 : (!c.wires.isEmpty) = true) (h3 : (c.wires.all fun w => w.all (pinB libs d)) = true)
    (h4 : cableShapeB c = true) : CableWF libs d c ∧ (c.wires.length = 1 → c.isArray = false → c.lower = 0) := by
  have hsc : isScalarCable c = true ↔ (c.wires.length = 1 ∧ c.isArray = false) := by
    simp [isScalarCable]
  refine ⟨⟨namedB_sound _ h1, by simpa using h2, ?_, ?_, ?_⟩, ?_⟩
  · intro w hw pin hp
    exact pinB_sound libs d pin (List.all_eq_true.mp (List.all_eq_true.mp h3 w hw) pin hp)
  · intro hl ha
    unfold cableShapeB at h4
    rw [if_pos (hsc.mpr ⟨hl, ha⟩)] at h4
    simp only [Bool.and_eq_true, Option.isNone_iff_eq_none, Bool.not_eq_true', List.isEmpty_eq_false_iff, decide_eq_true_eq] at h4
    exact ⟨h4.1.1, h4.1.2⟩
  · intro hnot k hk
    unfold cableShapeB at h4
    rw [if_neg (by rw [hsc]; exact hnot)] at h4
    have := List.all_eq_true.mp h4 k (List.mem_range.mpr hk)
    simp only [Bool.and_eq_true] at this
    exact ⟨this.1.1, this.1.2, this.2⟩
  · intro hl ha
    unfold cableShapeB at h4
    rw [if_pos (hsc.mpr ⟨hl, ha⟩)] at h4
    simp only [Bool.and_eq_true, decide_eq_true_eq] at h4
    exact h4.2

def cellChecks (libs : List CLib) (L D : Nat) (d : CDef) : List (String × Bool) :=
  [("definition.named", namedB d.data),
   ("port.named_nonempty", d.ports.all portB),
   ("ports.distinct", distinctB (d.ports.map (·.data))),
   ("instance.named", d.insts.all fun i => namedB i.data),
   ("instance.reference_before", d.insts.all (refB libs L D)),
   ("instance.properties_canonical", d.insts.all fun i => propsB i.data),
   ("instances.distinct", distinctB (d.insts.map (·.data))),
   ("cable.named", d.cables.all fun c => namedB c.data),
   ("cable.nonempty", d.cables.all fun c => !c.wires.isEmpty),
   ("cable.pins_in_range", d.cables.all fun c => c.wires.all fun w => w.all (pinB libs d)),
   ("cable.scalar_not_bitlike_bus_bits_legal", d.cables.all cableShapeB),
   ("cables.distinct", distinctB (d.cables.map (·.data))),
   ("pins.joined_once", decide ((d.cables.flatMap fun c => c.wires.flatten).Nodup))]

theorem cellChecks_sound (libs : List CLib) (L D : Nat) (d : CDef) (h : ∀ c ∈ cellChecks libs L D d, c.2 = true) :
    NamedOK d.data (idOf d.data) (nmOf d.data) ∧ (∀ p ∈ d.ports, PortWF p) ∧ Distinct (d.ports.map (·.data)) ∧
    CellWF libs L D d ∧ ∀ c ∈ d.cables, c.wires.length = 1 → c.isArray = false → c.lower = 0 := by
  simp only [cellChecks, List.forall_mem_cons] at h
  obtain ⟨h0, h1, h2, h3, h4, h5, h6, h7, h8, h9, h10, h11, h12, -⟩ := h
  have hcab := fun c hc => cableB_sound libs d c (List.all_eq_true.mp h7 c hc) (List.all_eq_true.mp h8 c hc)
    (List.all_eq_true.mp h9 c hc) (List.all_eq_true.mp h10 c hc)
  exact ⟨namedB_sound _ h0, fun p hp => portB_sound p (List.all_eq_true.mp h1 p hp), distinctB_sound _ h2,
    ⟨fun i hi => instB_sound libs L D i (List.all_eq_true.mp h3 i hi) (List.all_eq_true.mp h4 i hi)
        (List.all_eq_true.mp h5 i hi),
      distinctB_sound _ h6, fun c hc => (hcab c hc).1, distinctB_sound _ h11, by simpa using h12⟩,
    fun c hc => (hcab c hc).2⟩

def statusB (d : Data) : Bool :=
  (match d.get? kPROG with
   | none => true
   | some (.str p) =>
     p.all isStringChar &&
     (match d.get? kVER with
      | none => true
      | some (.str v) => v.all isStringChar
      | some _ => false)
   | some _ => false)

def topB (n : CNetlist) : Bool :=
  match n.top with
  | none => false
  | some t =>
    namedB t.data &&
    (match t.ref with
     | none => false
     | some (li, di) =>
       match n.libs[li]? with
       | none => false
       | some l => (l.defs[di]?).isSome)

def netChecks (n : CNetlist) : List (String × Bool) :=
  [("netlist.named", namedB n.data), ("status.strings", statusB n.data), ("top.named_and_declared", topB n),
   ("library.named", n.libs.all fun l => namedB l.data),
   ("libraries.distinct", distinctB (n.libs.map (·.data))),
   ("definitions.distinct", n.libs.all fun l => distinctB (l.defs.map (·.data)))] ++
  (n.libs.zipIdx.flatMap fun (l, L) => l.defs.zipIdx.flatMap fun (d, D) => cellChecks n.libs L D d)

/-- **first failing clause of `WFNet n ∧ ScalarLower0 n`** (`none`: inside the quantifier of
    edif_roundtrip / parse_compose_parse) -/
def wfNetClause (n : CNetlist) : Option String := firstFail (netChecks n)

theorem statusB_sound (d : Data) (h : statusB d = true) : ∃ prog ver, StatusOK d prog ver := by
  unfold statusB at h
  split at h
  · rename_i hp
    exact ⟨none, none, hp, (by intro hh; cases hh), (by intro p hp; cases hp), (by intro v hv; cases hv)⟩
  · rename_i p hp
    simp only [Bool.and_eq_true] at h
    obtain ⟨hps, hrest⟩ := h
    split at hrest
    · rename_i hv
      exact ⟨some p, none, hp, (fun _ => hv), (by intro q hq; cases hq; exact hps), (by intro v hv'; cases hv')⟩
    · rename_i v hv
      exact ⟨some p, some v, hp, (fun _ => hv), (by intro q hq; cases hq; exact hps), (by intro w hw; cases hw; exact hrest)⟩
    · cases hrest
  · cases h

theorem wfNetClause_sound (n : CNetlist) (h : wfNetClause n = none) :
    ∃ prog ver t li di, WFNet n prog ver t li di ∧ ScalarLower0 n := by
  have hall := firstFail_none _ h
  simp only [netChecks, List.cons_append, List.nil_append, List.forall_mem_cons] at hall
  obtain ⟨h1, h2, h3, h4, h5, h6, hrest⟩ := hall
  have hcell := fun (L : Nat) l (hl : n.libs[L]? = some l) (D : Nat) d (hd : l.defs[D]? = some d) =>
    cellChecks_sound n.libs L D d fun c hc => hrest c (List.mem_flatMap.mpr ⟨(l, L), List.mem_zipIdx_iff_getElem?.mpr hl,
      List.mem_flatMap.mpr ⟨(d, D), List.mem_zipIdx_iff_getElem?.mpr hd, hc⟩⟩)
  -- a cell given as a member has a position
  have hmem : ∀ l ∈ n.libs, ∀ d ∈ l.defs, ∃ L D : Nat, n.libs[L]? = some l ∧ l.defs[D]? = some d := by
    intro l hl d hd
    obtain ⟨L, hL⟩ := List.getElem?_of_mem hl
    obtain ⟨D, hD⟩ := List.getElem?_of_mem hd
    exact ⟨L, D, hL, hD⟩
  obtain ⟨prog, ver, hst⟩ := statusB_sound _ h2
  -- the top instance
  unfold topB at h3
  split at h3
  · cases h3
  · rename_i t ht
    simp only [Bool.and_eq_true] at h3
    obtain ⟨htn, h3⟩ := h3
    split at h3
    · cases h3
    · rename_i li di hr
      split at h3
      · cases h3
      · rename_i ltop hl
        obtain ⟨dtop, hd⟩ := Option.isSome_iff_exists.mp h3
        refine ⟨prog, ver, t, li, di, ⟨?_, ?_, namedB_sound _ h1, hst, ht, namedB_sound _ htn, hr, ⟨ltop, dtop, hl, hd⟩⟩, ?_⟩
        · -- NetNames
          refine ⟨fun l hl' => namedB_sound _ (List.all_eq_true.mp h4 l hl'), distinctB_sound _ h5, ?_,
            fun l hl' => distinctB_sound _ (List.all_eq_true.mp h6 l hl'), ?_, ?_⟩
          · intro l hl' d hd'
            obtain ⟨L, D, hL, hD⟩ := hmem l hl' d hd'
            exact (hcell L l hL D d hD).1
          · intro l hl' d hd'
            obtain ⟨L, D, hL, hD⟩ := hmem l hl' d hd'
            exact (hcell L l hL D d hD).2.1
          · intro l hl' d hd'
            obtain ⟨L, D, hL, hD⟩ := hmem l hl' d hd'
            exact (hcell L l hL D d hD).2.2.1
        · exact fun L l hl' D d hd' => (hcell L l hl' D d hd').2.2.2.1
        · -- ScalarLower0
          intro l hl' d hd'
          obtain ⟨L, D, hL, hD⟩ := hmem l hl' d hd'
          exact (hcell L l hL D d hD).2.2.2.2

def cellChecksA (d : ADesign) (L D : Nat) (c : ACell) : List (String × Bool) :=
  [("view.identifier", checkEdifIdentifier c.view),
   ("ports.names_legal_distinct", namesOKB (c.ports.map (·.name))),
   ("ports.array_size_positive", c.ports.all APort.okB),
   ("instances.names_legal_distinct", namesOKB (c.insts.map (·.name))),
   ("instances.reference_resolves_before", c.insts.all (AInst.okB d L D)),
   ("nets.names_and_bits", netsOKB c.nets),
   ("pins.resolve_in_range", c.nets.all fun n => n.pins.all (APin.okB d c)),
   ("pins.joined_once", decide ((c.nets.flatMap fun n => n.pins.map APin.pin).Nodup))]

def designChecks (d : ADesign) : List (String × Bool) :=
  [("design.name", d.name.okB), ("top.name", d.top.okB),
   ("libraries.names_legal_distinct", namesOKB (d.libs.map (·.name))),
   ("cells.names_legal_distinct", allIdx d.libs fun _ l => namesOKB (l.cells.map (·.name)))] ++
  (d.libs.zipIdx.flatMap fun (l, L) => l.cells.zipIdx.flatMap fun (c, D) => cellChecksA d L D c) ++
  [("design.target_resolves", match cellAt d d.topLi d.topDi with
     | none => false
     | some (l, c) => spellsB d.topCellSp c.name.ident && spellsB d.topLibSp l.name.ident)]

/-- **first failing clause of `d.wf`** -/
def wfClause (d : ADesign) : Option String := firstFail (designChecks d)

theorem allIdx_of {α : Type} (xs : List α) (f : Nat → α → Bool) (h : ∀ k x, xs[k]? = some x → f k x = true) :
    allIdx xs f = true := by
  simp only [allIdx, List.all_eq_true]
  intro p hp
  exact h p.2 p.1 (List.mem_zipIdx_iff_getElem?.mp hp)

theorem wfClause_sound (d : ADesign) (h : wfClause d = none) : d.wf = true := by
  have hall := firstFail_none _ h
  simp only [designChecks, List.cons_append, List.nil_append, List.forall_mem_append, List.forall_mem_cons] at hall
  obtain ⟨h1, h2, h3, h4, hrest, h5, -⟩ := hall
  have hcell : ∀ L l, d.libs[L]? = some l → ∀ D c, l.cells[D]? = some c → ∀ x ∈ cellChecksA d L D c, x.2 = true :=
    fun L l hl D c hc x hx => hrest x (List.mem_flatMap.mpr ⟨(l, L), List.mem_zipIdx_iff_getElem?.mpr hl,
      List.mem_flatMap.mpr ⟨(c, D), List.mem_zipIdx_iff_getElem?.mpr hc, hx⟩⟩)
  simp only [ADesign.wf, Bool.and_eq_true]
  refine ⟨⟨⟨⟨h1, h2⟩, h3⟩, ?_⟩, h5⟩
  apply allIdx_of
  intro L l hl
  simp only [ALib.okB, Bool.and_eq_true]
  refine ⟨allIdx_get _ _ h4 L l hl, ?_⟩
  apply allIdx_of
  intro D c hc
  have hk := hcell L l hl D c hc
  simp only [cellChecksA, List.forall_mem_cons] at hk
  obtain ⟨k1, k2, k3, k4, k5, k6, k7, k8, -⟩ := hk
  simp only [ACell.okB, Bool.and_eq_true]
  exact ⟨⟨⟨⟨⟨⟨⟨k1, k2⟩, k3⟩, k4⟩, k5⟩, k6⟩, k7⟩, k8⟩

end Spydr.Edif
