/-
  Instances: properties, cellRef/libraryRef/viewRef resolution, and what the reader makes of the
  writer's `(instance …)`.
-/
import Spydr.Edif.LemmasCable
namespace Spydr.Edif

theorem intTok_intStr (i : Int) : intTok (intStr i) = IntTok.ok i := by
  cases i with
  | ofNat n => simpa [intStr] using intTok_natStr n
  | negSucc n =>
    simp only [intStr, intTok, intBody_digits true _ (natStr_ne_nil _) (all_digits_natStr _), ofDigits_natStr, if_true]
    rfl

theorem intOfS_intStr (i : Int) : intOfS (.atom (intStr i)) = .ok i := by
  simp [intOfS, intTok_intStr, pure_ok]

theorem Data.erase_of_not_has (d : Data) (k : Str) (h : d.has k = false) : d.erase k = d := by
  induction d with
  | nil => rfl
  | cons a r ih =>
    obtain ⟨k', v'⟩ := a
    simp only [Data.has, Data.get?] at h
    by_cases hk : k' = k
    · simp [hk] at h
    · simp only [hk, if_false] at h
      simp only [Data.erase, List.filter_cons, ne_eq, hk, not_false_eq_true, decide_true, if_true]
      have := ih (by simpa [Data.has] using h)
      simp only [Data.erase] at this
      rw [this]

theorem Data.erase_set_of_not_has (d : Data) (k : Str) (v : Val) (h : d.has k = false) : (d.set k v).erase k = d := by
  induction d with
  | nil => simp [Data.set, Data.erase]
  | cons a r ih =>
    obtain ⟨k', v'⟩ := a
    simp only [Data.has, Data.get?] at h
    by_cases hk : k' = k
    · simp [hk] at h
    · simp only [hk, if_false] at h
      simp only [Data.set, hk, if_false, Data.erase, List.filter_cons, ne_eq, not_false_eq_true, decide_true, if_true]
      have := ih (by simpa [Data.has] using h)
      simp only [Data.erase] at this
      rw [this]

theorem Data.has_set_other (d : Data) (k k2 : Str) (v : Val) (h : k2 ≠ k) : (d.set k v).has k2 = d.has k2 := by
  simp [Data.has, Data.get?_set_other d k k2 v h]

theorem Data.erase_set_comm (d : Data) (k k2 : Str) (v : Val) (h : k2 ≠ k) : (d.set k v).erase k2 = (d.erase k2).set k v := by
  induction d with
  | nil => simp [Data.set, Data.erase, h.symm]
  | cons a r ih =>
    obtain ⟨k', v'⟩ := a
    by_cases h1 : k' = k
    · subst h1
      simp [Data.set, Data.erase, h.symm]
    · by_cases h2 : k' = k2
      · subst h2
        simp only [Data.set, h1, if_false, Data.erase, List.filter_cons, ne_eq, not_true_eq_false, decide_false,
          Bool.false_eq_true]
        simpa [Data.erase] using ih
      · simp only [Data.set, h1, if_false, Data.erase, List.filter_cons, ne_eq, h2, not_false_eq_true, decide_true, if_true]
        have := ih
        simp only [Data.erase] at this
        rw [this]

/-- the canonical form of a property dictionary (keys in the order canon / the reader produce) -/
def propKV (ident : Str) (orig : Option Str) (v : Val) : List (Str × Val) :=
  [(S "identifier", .str ident)] ++
    (match orig with | some o => [(S "original_identifier", Val.str o)] | none => []) ++ [(S "value", v)]

structure PropOK (ident : Str) (orig : Option Str) (v : Val) : Prop where
  hc : checkEdifIdentifier ident = true
  horig : ∀ o, orig = some o → o.all isStringChar = true
  hval : (∃ s, v = .str s ∧ s.all isStringChar = true) ∨ (∃ b, v = .bool b) ∨ (∃ i, v = .int i)

theorem PropOK.hid {ident : Str} {orig : Option Str} {v : Val} (h : PropOK ident orig v) :
    validIdentTok ident = true := validIdentTok_of_check _ h.hc

def kPROPS : Str := S "EDIF.properties"
def kPID : Str := S "EDIF.properties.identifier"
def kPORIG : Str := S "EDIF.properties.original_identifier"

def addProp (d : Data) (p : Val) : Data :=
  match d.get? kPROPS with
  | some (.list xs) => d.set kPROPS (.list (xs ++ [p]))
  | _ => d.set kPROPS (.list [p])

theorem typedValue_string (s : Str) (h : s.all isStringChar = true) :
    typedValue [A "string", qtok s] = .ok (.str s) := by
  have hlow : lower (S "string") = S "string" := by decide
  have h1 := fun xs => headIs_S hlow "boolean" xs false rfl
  have h2 := fun xs => headIs_S hlow "integer" xs false rfl
  have h3 := fun xs => headIs_S hlow "minomax" xs false rfl
  have h4 := fun xs => headIs_S hlow "number" xs false rfl
  have h5 := fun xs => headIs_S hlow "point" xs false rfl
  have h6 := fun xs => headIs_S hlow "string" xs true rfl
  simp only [typedValue, h1, h2, h3, h4, h5, h6, Bool.false_eq_true, if_false, if_true, stringTok_qtok s h, ok_bind,
    pure_ok]

theorem typedValue_integer (i : Int) : typedValue [A "integer", .atom (intStr i)] = .ok (.int i) := by
  have hlow : lower (S "integer") = S "integer" := by decide
  have h1 := fun xs => headIs_S hlow "boolean" xs false rfl
  have h2 := fun xs => headIs_S hlow "integer" xs true rfl
  simp only [typedValue, h1, h2, Bool.false_eq_true, if_false, if_true, intOfS_intStr, ok_bind, pure_ok]

theorem typedValue_bool_atom (t : Str) :
    typedValue [A "boolean", .list [.atom t]] =
      (if lower t == S "true" then .ok (.bool true)
       else if lower t == S "false" then .ok (.bool false) else .error (.syntax "expecting true|false")) := by
  have h1 := fun xs => headIs_A "boolean" "boolean" xs true rfl
  simp only [typedValue, h1, if_true, pure_ok, throw, throwThe, MonadExceptOf.throw]

theorem typedValue_boolean (b : Bool) :
    typedValue [A "boolean", .list [A (if b then "True" else "False")]] = .ok (.bool b) := by
  cases b with
  | true =>
    show typedValue [A "boolean", .list [.atom "True".toList]] = _
    rw [typedValue_bool_atom]
    have h2 : (lower "True".toList == S "true") = true := by decide
    rw [if_pos h2]
  | false =>
    show typedValue [A "boolean", .list [.atom "False".toList]] = _
    rw [typedValue_bool_atom]
    have h2 : (lower "False".toList == S "true") = false := by decide
    have h3 : (lower "False".toList == S "false") = true := by decide
    rw [if_neg (by rw [h2]; decide), if_pos h3]

theorem joinDot_pid : joinDot [S "EDIF", S "properties", S "identifier"] = kPID := joinDot_S ["EDIF", "properties", "identifier"]
theorem joinDot_porig : joinDot [S "EDIF", S "properties", S "original_identifier"] = kPORIG := joinDot_S ["EDIF", "properties", "original_identifier"]
theorem joinDot_props : joinDot [S "EDIF", S "properties"] = kPROPS := joinDot_S ["EDIF", "properties"]
theorem kPORIG_ne_kPID : kPORIG ≠ kPID := S_ne rfl

theorem setAttr_pid (D : Data) (v : Val) :
    setAttr { data := D, pfx := [S "EDIF", S "properties", S "identifier"] } v =
      .ok { data := D.set kPID v, pfx := [S "EDIF", S "properties", S "identifier"] } :=
  setAttr_key D _ kPID v joinDot_pid (S_ne rfl) (S_ne rfl)

theorem setAttr_porig (D : Data) (v : Val) :
    setAttr { data := D, pfx := [S "EDIF", S "properties", S "original_identifier"] } v =
      .ok { data := D.set kPORIG v, pfx := [S "EDIF", S "properties", S "original_identifier"] } :=
  setAttr_key D _ kPORIG v joinDot_porig (S_ne rfl) (S_ne rfl)

theorem appendAttr_props (D : Data) (p : Val) :
    appendAttr { data := D, pfx := [S "EDIF", S "properties"] } p = { data := addProp D p, pfx := [S "EDIF", S "properties"] } := by
  unfold appendAttr addProp
  simp only [key_mk, joinDot_props]
  split <;> simp_all

theorem typedValue_of_val (v : Val) (h : (∃ s, v = .str s ∧ s.all isStringChar = true) ∨ (∃ b, v = .bool b) ∨ (∃ i, v = .int i)) :
    ∃ tv, valSExp v = .ok (.list tv) ∧ typedValue tv = .ok v := by
  rcases h with ⟨s, rfl, hs⟩ | ⟨b, rfl⟩ | ⟨i, rfl⟩
  · exact ⟨_, rfl, typedValue_string s hs⟩
  · exact ⟨_, rfl, typedValue_boolean b⟩
  · exact ⟨_, rfl, typedValue_integer i⟩

theorem propSExp_obj (ident : Str) (orig : Option Str) (v : Val) :
    propSExp (.obj (propKV ident orig v)) = (valSExp v >>= fun t => pure (.list [A "property",
      (match orig with | some o => .list [A "rename", .atom ident, qtok o] | none => .atom ident), t])) := by
  have hne1 : S "value" ≠ S "identifier" := S_ne rfl
  have hne2 : S "original_identifier" ≠ S "identifier" := S_ne rfl
  have hne3 : S "value" ≠ S "original_identifier" := S_ne rfl
  cases orig <;>
    simp only [propSExp, propKV, List.append_nil, List.cons_append, List.nil_append, Data.get?, if_true, hne1.symm,
      hne2.symm, hne3.symm, hne1, hne3, if_false]

theorem parseProperty_written (kw : SExp) (ident : Str) (orig : Option Str) (tv : List SExp) (v : Val)
    (hid : validIdentTok ident = true) (ho : ∀ o, orig = some o → o.all isStringChar = true)
    (hread : typedValue tv = .ok v) (D : Data) (h1 : D.has kPID = false) (h2 : D.has kPORIG = false) :
    parseProperty { data := D, pfx := [S "EDIF"] } [kw, (⟨ident, orig⟩ : AName).sexp, .list tv] =
      .ok { data := addProp D (.obj (propKV ident orig v)), pfx := [S "EDIF"] } := by
  cases orig with
  | none =>
    simp only [AName.sexp, parseProperty, List.tail_cons, propLike, push_mk, List.cons_append, List.nil_append, nameDef, identOfS,
      hid, if_true, ok_bind, pure_ok, setAttr_pid, pop_mk, List.dropLast, joinDot_pid,
      joinDot_porig, Data.get?_set_self, Data.get?_set_other _ _ _ _ kPORIG_ne_kPID]
    have h2' : D.get? kPORIG = none := by simpa [Data.has] using h2
    simp only [h2', Data.erase_set_of_not_has D kPID _ h1, hread, appendAttr_props, loopC, endC, propKV,
      List.append_nil, List.cons_append, List.nil_append, pure_ok, ok_bind]
    rfl
  | some o =>
    have hr : isKw (A "rename") "rename" = true := by decide
    simp only [AName.sexp, parseProperty, List.tail_cons, propLike, push_mk, List.cons_append, List.nil_append, nameDef, parseRename,
      hr, identOfS, hid, if_true, ok_bind, pure_ok, setAttr_pid, setAttr_porig, pop_mk,
      List.dropLast, joinDot_pid, joinDot_porig, stringTok_qtok o (ho o rfl), Data.get?_set_self,
      Data.get?_set_other _ _ _ _ kPORIG_ne_kPID.symm]
    have e1 : (((D.set kPID (.str ident)).set kPORIG (.str o)).erase kPID).erase kPORIG = D := by
      rw [Data.erase_set_comm _ _ _ _ kPORIG_ne_kPID.symm, Data.erase_set_of_not_has D kPID _ h1,
        Data.erase_set_of_not_has D kPORIG _ h2]
    simp only [e1, hread, appendAttr_props, loopC, endC, propKV, List.cons_append, List.nil_append, pure_ok, ok_bind]
    rfl

theorem prop_roundtrip (ident : Str) (orig : Option Str) (v : Val) (h : PropOK ident orig v) :
    ∃ r, propSExp (.obj (propKV ident orig v)) = .ok (.list (A "property" :: r)) ∧
      ∀ D : Data, D.has kPID = false → D.has kPORIG = false →
        parseProperty { data := D, pfx := [S "EDIF"] } (A "property" :: r) =
          .ok { data := addProp D (.obj (propKV ident orig v)), pfx := [S "EDIF"] } := by
  obtain ⟨tv, htv, hread⟩ := typedValue_of_val v h.hval
  refine ⟨[(⟨ident, orig⟩ : AName).sexp, .list tv], ?_, parseProperty_written _ ident orig tv v h.hid h.horig hread⟩
  rw [propSExp_obj, htv]; cases orig <;> rfl

theorem Data.set_set (d : Data) (k : Str) (a b : Val) : (d.set k a).set k b = d.set k b := by
  induction d with
  | nil => simp [Data.set]
  | cons x r ih =>
    obtain ⟨k', v'⟩ := x
    by_cases h : k' = k
    · simp [Data.set, h]
    · simp [Data.set, h, ih]

abbrev PropT := Str × Option Str × Val
def PropT.obj (t : PropT) : Val := .obj (propKV t.1 t.2.1 t.2.2)

/-- the dictionary after reading the properties `ps` into `D` (which has none yet) -/
def withProps (D : Data) (ps : List PropT) : Data :=
  match ps with
  | [] => D
  | _ => D.set kPROPS (.list (ps.map PropT.obj))

theorem kPROPS_ne_kPID : kPROPS ≠ kPID := S_ne rfl
theorem kPROPS_ne_kPORIG : kPROPS ≠ kPORIG := S_ne rfl

theorem get?_withProps (D : Data) (ps : List PropT) (k : Str) (h : k ≠ kPROPS) : (withProps D ps).get? k = D.get? k := by
  cases ps with
  | nil => rfl
  | cons a b => exact Data.get?_set_other _ _ _ _ h

theorem instItem_property (D : Data) (acc : List PropT) (t : PropT) (r : List SExp)
    (h1 : D.has kPID = false) (h2 : D.has kPORIG = false) (h3 : D.get? kPROPS = none)
    (hr : ∀ D : Data, D.has kPID = false → D.has kPORIG = false →
      parseProperty { data := D, pfx := [S "EDIF"] } (A "property" :: r) = .ok { data := addProp D t.obj, pfx := [S "EDIF"] }) :
    instItem { data := withProps D acc, pfx := [S "EDIF"] } (A "property" :: r) =
      .ok { data := withProps D (acc ++ [t]), pfx := [S "EDIF"] } := by
  have hh := fun xs => headIs_A "property" "property" xs true rfl
  have hp1 : (withProps D acc).has kPID = false := by
    rw [Data.has, get?_withProps _ _ _ kPROPS_ne_kPID.symm]; exact h1
  have hp2 : (withProps D acc).has kPORIG = false := by
    rw [Data.has, get?_withProps _ _ _ kPROPS_ne_kPORIG.symm]; exact h2
  have hadd : addProp (withProps D acc) t.obj = withProps D (acc ++ [t]) := by
    cases acc with
    | nil => simp [withProps, addProp, h3]
    | cons a b =>
      simp only [withProps, addProp, Data.get?_set_self, Data.set_set, List.cons_append]
      simp
  simp only [instItem, hh, if_true, hr _ hp1 hp2, hadd]

theorem props_roundtrip (ps : List PropT) (hok : ∀ t ∈ ps, PropOK t.1 t.2.1 t.2.2) :
    ∃ es : List SExp, (ps.map PropT.obj).mapM propSExp = .ok es ∧
      ∀ (D : Data) (acc : List PropT), D.has kPID = false → D.has kPORIG = false → D.get? kPROPS = none →
        loopC instItem { data := withProps D acc, pfx := [S "EDIF"] } es =
          .ok ({ data := withProps D (acc ++ ps), pfx := [S "EDIF"] }, []) := by
  induction ps with
  | nil => exact ⟨[], rfl, by intro D acc _ _ _; simp [loopC, pure_ok]⟩
  | cons t r ih =>
    obtain ⟨x, hw, hr⟩ := prop_roundtrip t.1 t.2.1 t.2.2 (hok t (by simp))
    obtain ⟨es, hes, hl⟩ := ih (fun t ht => hok t (by simp [ht]))
    refine ⟨.list (A "property" :: x) :: es, by simp [List.mapM_cons, PropT.obj, hw, hes, ok_bind, pure_ok],
      fun D acc h1 h2 h3 => ?_⟩
    simp only [loopC, instItem_property D acc t x h1 h2 h3 hr, ok_bind]
    simpa using hl D (acc ++ [t]) h1 h2 h3

theorem joinDot_libref_ne1 : joinDot [S "EDIF", S "viewRef", S "cellRef", S "libraryRef", S "identifier"] ≠ S "EDIF.original_identifier" := joinDot_S_ne ["EDIF", "viewRef", "cellRef", "libraryRef", "identifier"] "EDIF.original_identifier" rfl
theorem joinDot_libref_ne2 : joinDot [S "EDIF", S "viewRef", S "cellRef", S "libraryRef", S "identifier"] ≠ kIDENT :=
  joinDot_S_ne ["EDIF", "viewRef", "cellRef", "libraryRef", "identifier"] "EDIF.identifier" rfl

theorem defsOfLib_cur (sc : Scope) : defsOfLib sc sc.libs.length = sc.curDefs := if_pos rfl

theorem defsOfLib_lib {sc : Scope} {li : Nat} {l : CLib} (h : sc.libs[li]? = some l) : defsOfLib sc li = l.defs := by
  rw [defsOfLib, if_neg (Nat.ne_of_lt (List.getElem?_eq_some_iff.mp h).1), h]

/-- how the reader resolves a libraryRef spelled `lid` to library index `li` in scope `sc` -/
def LibResolves (sc : Scope) (lid : Str) (li : Nat) : Prop :=
  ∃ cur, identOf sc.curLib = some cur ∧
    (if lower cur == lower lid then li = sc.libs.length else findIdent (sc.libs.map (·.data)) lid = some li)

theorem parseLibraryRef_ok (sc : Scope) (D : Data) (lid : Str) (li : Nat) (hv : validIdentTok lid = true)
    (hres : LibResolves sc lid li) :
    parseLibraryRef sc { data := D, pfx := [S "EDIF", S "viewRef", S "cellRef"] } [A "libraryref", .atom lid] = .ok li := by
  obtain ⟨cur, hcur, hif⟩ := hres
  simp only [parseLibraryRef, nameRef, identOfS, hv, if_true, push_mk, List.cons_append, List.nil_append,
    setAttr_plain _ _ _ joinDot_libref_ne1 joinDot_libref_ne2, ok_bind, pure_ok, hcur]
  by_cases hc : (lower cur == lower lid) = true
  · simp only [hc, if_true] at hif ⊢
    rw [hif]
  · simp only [hc, if_false, Bool.false_eq_true] at hif ⊢
    simp [hif]

theorem parseCellRef_ok (sc : Scope) (D : Data) (did lid : Str) (li di : Nat)
    (hvd : validIdentTok did = true) (hvl : validIdentTok lid = true) (hres : LibResolves sc lid li)
    (hf : findIdent ((defsOfLib sc li).map (·.data)) did = some di) :
    parseCellRef sc { data := D, pfx := [S "EDIF", S "viewRef"] }
      [A "cellref", .atom did, .list [A "libraryref", .atom lid]] = .ok (li, di) := by
  have h1 := fun xs => headIs_A "cellref" "cellref" xs true rfl
  have h2 := fun xs => headIs_A "libraryref" "libraryref" xs true rfl
  simp only [parseCellRef, h1, Bool.not_true, Bool.false_eq_true, if_false, List.tail_cons, identOfS, hvd, if_true, h2,
    push_mk, List.cons_append, List.nil_append, parseLibraryRef_ok sc D lid li hvl hres, hf, ok_bind, pure_ok]

theorem parseViewRef_spelled (sc : Scope) (D : Data) (vsp did lid : Str) (li di : Nat) (d' : CDef) (dv : Str)
    (hvv : validIdentTok vsp = true) (hvd : validIdentTok did = true) (hvl : validIdentTok lid = true)
    (hres : LibResolves sc lid li)
    (hf : findIdent ((defsOfLib sc li).map (·.data)) did = some di)
    (hd : (defsOfLib sc li)[di]? = some d') (hview : viewIdentOf d'.data = some dv) (hdv : lower dv = lower vsp) :
    parseViewRef sc { data := D, pfx := [S "EDIF"] }
      [A "viewref", .atom vsp, .list [A "cellref", .atom did, .list [A "libraryref", .atom lid]]] = .ok (li, di) := by
  have hl : (lower dv == lower vsp) = true := by rw [hdv]; simp
  simp only [parseViewRef, List.tail_cons, identOfS_atom vsp hvv, push_mk, List.cons_append, List.nil_append,
    parseCellRef_ok sc D did lid li di hvd hvl hres hf, hd, hview, hl, if_true, ok_bind, pure_ok]

theorem parseViewRef_ok (sc : Scope) (D : Data) (did lid : Str) (li di : Nat) (d' : CDef) (dv : Str)
    (hvd : validIdentTok did = true) (hvl : validIdentTok lid = true) (hres : LibResolves sc lid li)
    (hf : findIdent ((defsOfLib sc li).map (·.data)) did = some di)
    (hd : (defsOfLib sc li)[di]? = some d') (hview : viewIdentOf d'.data = some dv) (hdv : lower dv = S "netlist") :
    parseViewRef sc { data := D, pfx := [S "EDIF"] }
      [A "viewref", A "netlist", .list [A "cellref", .atom did, .list [A "libraryref", .atom lid]]] = .ok (li, di) :=
  parseViewRef_spelled sc D (S "netlist") did lid li di d' dv (by decide) hvd hvl hres hf hd hview
    (hdv.trans (by decide))

structure InstOK (libs : List CLib) (sc : Scope) (i : CInst) (ident name : Str) (ps : List PropT) (li di : Nat) : Prop where
  named : NamedOK i.data ident name
  ref : i.ref = some (li, di)
  target : ∃ l rd did lid d' dv, libs[li]? = some l ∧ l.defs[di]? = some rd ∧
    identOf rd.data = some did ∧ identOf l.data = some lid ∧ validIdentTok did = true ∧ validIdentTok lid = true ∧
    LibResolves sc lid li ∧ findIdent ((defsOfLib sc li).map (·.data)) did = some di ∧
    (defsOfLib sc li)[di]? = some d' ∧ viewIdentOf d'.data = some dv ∧ lower dv = S "netlist"
  props : (i.data.get? kPROPS = some (.list (ps.map PropT.obj)) ∨ (i.data.get? kPROPS = none ∧ ps = [])) ∧
    ∀ t ∈ ps, PropOK t.1 t.2.1 t.2.2

/-- the instance the reader builds from the writer's `(instance …)` -/
def readInst (ident name : Str) (ps : List PropT) (li di : Nat) : CInst :=
  { data := withProps (withName [] ident name) ps, ref := some (li, di) }

theorem withName_nil_has (ident name k : Str) (h1 : k ≠ kNAME) (h2 : k ≠ kIDENT) :
    (withName [] ident name).has k = false := by
  simp [Data.has, get?_withName_other [] ident name k h1 h2, Data.get?]

theorem withName_nil_props (ident name : Str) : (withName [] ident name).get? kPROPS = none := by
  rw [get?_withName_other _ _ _ kPROPS (S_ne rfl) (S_ne rfl)]; rfl

theorem parseInstance_written (sc : Scope) (kw nm : SExp) (ident name : Str) (zs es : List SExp) (r : Nat × Nat)
    (ps : List PropT)
    (hnm : ∀ rest, nameDef Meta.new (nm :: rest) = .ok ({ data := withName [] ident name, pfx := [S "EDIF"] }, rest))
    (hz : headIs zs "viewref" = true)
    (hr : parseViewRef sc { data := withName [] ident name, pfx := [S "EDIF"] } zs = .ok r)
    (hes : ∀ (D : Data) (acc : List PropT), D.has kPID = false → D.has kPORIG = false → D.get? kPROPS = none →
      loopC instItem { data := withProps D acc, pfx := [S "EDIF"] } es =
        .ok ({ data := withProps D (acc ++ ps), pfx := [S "EDIF"] }, [])) :
    parseInstance sc (kw :: nm :: .list zs :: es) = .ok (readInst ident name ps r.1 r.2) :=
  parseInstance_iff.mpr ⟨_, _, _, r, _, _, hnm _, hz, hr,
    hes (withName [] ident name) [] (withName_nil_has _ _ _ (S_ne rfl) (S_ne rfl))
      (withName_nil_has _ _ _ (S_ne rfl) (S_ne rfl))
      (withName_nil_props _ _), rfl, rfl⟩

theorem inst_roundtrip (libs : List CLib) (sc : Scope) (i : CInst) (ident name : Str) (ps : List PropT) (li di : Nat)
    (h : InstOK libs sc i ident name ps li di) :
    ∃ r, instSExp libs i = .ok (.list (A "instance" :: r)) ∧
      parseInstance sc (A "instance" :: r) = .ok (readInst ident name ps li di) := by
  obtain ⟨l, rd, did, lid, d', dv, hl, hrd, hdid, hlid, hvd, hvl, hres, hf, hd', hview, hdv⟩ := h.target
  obtain ⟨nm, hnm, _, hdef⟩ := nameDef_nameSExp i.data ident name h.named "instance"
  obtain ⟨es, hes, hloop⟩ := props_roundtrip ps h.props.2
  have hprops : propsOf i.data = .ok es := by
    unfold propsOf
    rcases h.props.1 with hp | ⟨hp, hnil⟩
    · rw [show S "EDIF.properties" = kPROPS from rfl, hp]; exact hes
    · subst hnil
      rw [show S "EDIF.properties" = kPROPS from rfl, hp]
      simpa using hes
  exact ⟨_, by simp [instSExp, hnm, h.ref, hl, hrd, needIdent, hdid, hlid, hprops, ok_bind, pure_ok],
    parseInstance_written sc _ nm ident name _ es (li, di) ps (fun rest => hdef [] rest rfl)
      (headIs_A "viewref" "viewref" _ true rfl)
      (parseViewRef_ok sc _ did lid li di d' dv hvd hvl hres hf hd' hview hdv) hloop⟩

def readPort1 (p : CPort) : CPort := readPort p (idOf p.data) (nmOf p.data)

theorem identOf_readPort (p : CPort) (ident name : Str) : identOf (readPort p ident name).data = some ident :=
  (identOf_set _ (S "metadata_prefix") _ (S_ne rfl)).trans (identOf_withName [] ident name)

theorem nameOf_readPort (p : CPort) (ident name : Str) : nameOf (readPort p ident name).data = some name :=
  (nameOf_set _ (S "metadata_prefix") _ (S_ne rfl)).trans (nameOf_withName [] ident name)

theorem isArray_readPort (p : CPort) (ident name : Str) : (readPort p ident name).isArray = p.isArray := by
  simp only [readPort, CPort.isArray, CPort.isScalar]
  by_cases hw : p.width > 1 <;> simp [hw]

theorem ifaceItem_port (st : CellSt) (hd : Bool) (t : List SExp) (p : CPort) (hp : parsePort (A "port" :: t) = .ok p)
    (hc : conflicts (st.ports.map (·.data)) p.data = false) :
    ifaceItem (st, hd) (A "port" :: t) = .ok ({ st with ports := st.ports ++ [p] }, hd) := by
  have hh := fun xs => headIs_A "port" "port" xs true rfl
  simp only [ifaceItem, hh, if_true, hp, hc, Bool.false_eq_true, if_false, ok_bind, pure_ok]

def PortsOK : List (Str × Str) → List CPort → Prop
  | _, [] => True
  | prev, p :: r => NamedOK p.data (idOf p.data) (nmOf p.data) ∧ 1 ≤ p.width ∧ (p.isArray = false → p.width = 1) ∧
      FreshIn prev (idOf p.data) (nmOf p.data) ∧ PortsOK ((idOf p.data, nmOf p.data) :: prev) r

theorem ports_roundtrip (ps : List CPort) (prev : List (Str × Str)) (st : CellSt) (hd : Bool)
    (hok : PortsOK prev ps) (hk : KnownBy prev (st.ports.map (·.data))) :
    ∃ yss : List (List SExp), ps.mapM portSExp = .ok (yss.map SExp.list) ∧
      yss.foldlM ifaceItem (st, hd) = .ok ({ st with ports := st.ports ++ ps.map readPort1 }, hd) := by
  induction ps generalizing prev st with
  | nil => exact ⟨[], rfl, by simp [pure_ok]⟩
  | cons p r ih =>
    obtain ⟨hn, hw, hsc, hfresh, hrest⟩ := hok
    obtain ⟨t, hw1, hrd⟩ := port_roundtrip p (idOf p.data) (nmOf p.data) hn hw hsc
    obtain ⟨hconf, hk'⟩ := fresh_step (·.data) prev st.ports (readPort p (idOf p.data) (nmOf p.data)) _ _ hk hfresh
      (identOf_readPort p _ _) (nameOf_readPort p _ _)
    have hstep : ifaceItem (st, hd) (A "port" :: t) = .ok ({ st with ports := st.ports ++ [readPort1 p] }, hd) :=
      ifaceItem_port st hd t _ hrd hconf
    obtain ⟨yss, hws, hfs⟩ := ih _ { st with ports := st.ports ++ [readPort1 p] } hrest hk'
    refine ⟨(A "port" :: t) :: yss, ?_, ?_⟩
    · simp only [List.mapM_cons, hw1, hws, ok_bind, pure_ok, List.map_cons]
    · simp only [List.foldlM_cons, hstep, ok_bind]
      rw [hfs]
      simp

/-- per-instance witnesses: identifier, name, properties, referenced (library, definition) -/
structure IW where
  ident : Str
  name : Str
  ps : List PropT
  li : Nat
  di : Nat

def IW.read (w : IW) : CInst := readInst w.ident w.name w.ps w.li w.di

def InstsOK (libs : List CLib) (sc : Scope) : List (Str × Str) → List CInst → List IW → Prop
  | _, [], [] => True
  | prev, i :: r, w :: ws => InstOK libs sc i w.ident w.name w.ps w.li w.di ∧ FreshIn prev w.ident w.name ∧
      InstsOK libs sc ((w.ident, w.name) :: prev) r ws
  | _, _, _ => False

theorem identOf_withProps (D : Data) (ps : List PropT) : identOf (withProps D ps) = identOf D := by
  rw [identOf, Data.getStr?, get?_withProps D ps kIDENT (S_ne rfl)]; rfl

theorem nameOf_withProps (D : Data) (ps : List PropT) : nameOf (withProps D ps) = nameOf D := by
  rw [nameOf, Data.getStr?, get?_withProps D ps kNAME (S_ne rfl)]; rfl

theorem identOf_readInst (w : IW) : identOf w.read.data = some w.ident := by
  simp [IW.read, readInst, identOf_withProps, identOf_withName]

theorem nameOf_readInst (w : IW) : nameOf w.read.data = some w.name := by
  simp [IW.read, readInst, nameOf_withProps, nameOf_withName]

theorem addRetry_fresh (sibs : List Data) (d : Data) (h : conflicts sibs d = false) : addRetry sibs d = .ok d := by
  simp [addRetry, h, pure_ok]

theorem contentsItem_instance (sc : Scope) (st : CellSt) (t : List SExp) (i : CInst)
    (hp : parseInstance sc (A "instance" :: t) = .ok i) (hc : conflicts (st.insts.map (·.data)) i.data = false) :
    contentsItem sc st (A "instance" :: t) = .ok { st with insts := st.insts ++ [i] } := by
  have hh := fun xs => headIs_A "instance" "instance" xs true rfl
  simp only [contentsItem, hh, if_true, hp, addRetry_fresh _ _ hc, ok_bind, pure_ok]

theorem insts_roundtrip (libs : List CLib) (sc : Scope) (is : List CInst) (ws : List IW) (prev : List (Str × Str))
    (st : CellSt) (hok : InstsOK libs sc prev is ws) (hk : KnownBy prev (st.insts.map (·.data))) :
    ∃ yss : List (List SExp), is.mapM (instSExp libs) = .ok (yss.map SExp.list) ∧
      yss.foldlM (contentsItem sc) st = .ok { st with insts := st.insts ++ ws.map IW.read } := by
  induction is generalizing prev st ws with
  | nil =>
    cases ws with
    | nil => exact ⟨[], rfl, by simp [pure_ok]⟩
    | cons _ _ => exact absurd hok (by simp [InstsOK])
  | cons i r ih =>
    cases ws with
    | nil => exact absurd hok (by simp [InstsOK])
    | cons w ws =>
      obtain ⟨hi, hfresh, hrest⟩ := hok
      obtain ⟨t, hw1, hrd⟩ := inst_roundtrip libs sc i w.ident w.name w.ps w.li w.di hi
      obtain ⟨hconf, hk'⟩ := fresh_step (·.data) prev st.insts w.read _ _ hk hfresh (identOf_readInst w)
        (nameOf_readInst w)
      have hstep : contentsItem sc st (A "instance" :: t) = .ok { st with insts := st.insts ++ [w.read] } :=
        contentsItem_instance sc st t _ hrd hconf
      obtain ⟨yss, hws, hfs⟩ := ih ws _ { st with insts := st.insts ++ [w.read] } hrest hk'
      refine ⟨(A "instance" :: t) :: yss, ?_, ?_⟩
      · simp only [List.mapM_cons, hw1, hws, ok_bind, pure_ok, List.map_cons]
      · simp only [List.foldlM_cons, hstep, ok_bind]
        rw [hfs]
        simp

end Spydr.Edif
