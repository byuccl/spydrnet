/-
  Names and references: the reader's separate_name_and_index inverts the writer's bit naming;
  decimal tokens; case-insensitive resolution; the spelling checks along the bits of a bus.
-/
import Spydr.Edif.ModelWrite
namespace Spydr.Edif

theorem natStr_digits (n : Nat) : ∀ c ∈ natStr n, isAsciiDigit c = true := by
  intro c hc
  exact Nat.isDigit_of_mem_toDigits (by omega) (by omega) hc

theorem natStr_stringChars (n : Nat) : (natStr n).all isStringChar = true := by
  rw [List.all_eq_true]
  intro c hc
  have hd := natStr_digits n c hc
  simp only [isStringChar, Bool.and_eq_true, bne_iff_ne, ne_eq]
  refine ⟨⟨?_, ?_⟩, ?_⟩ <;> (intro e; subst e; exact absurd hd (by decide))

/-- the `[k]` a per-wire name adds is quote-free, so the name is as quotable as its base -/
theorem bitName_all_stringChar (bn : Str) (k : Nat) : (bitName bn k).all isStringChar = bn.all isStringChar := by
  have h1 : isStringChar '[' = true := by decide
  have h2 : isStringChar ']' = true := by decide
  simp only [bitName, List.all_append, List.all_cons, List.all_nil, natStr_stringChars k, h1, h2, Bool.and_true]

theorem bitName_stringChars (bn : Str) (i j : Nat) (h : (bitName bn i).all isStringChar = true) :
    (bitName bn j).all isStringChar = true :=
  (bitName_all_stringChar bn j).trans ((bitName_all_stringChar bn i).symm.trans h)

theorem name_stringChars_of_bit (bn : Str) (i : Nat) (h : (bitName bn i).all isStringChar = true) :
    bn.all isStringChar = true :=
  (bitName_all_stringChar bn i).symm.trans h

theorem natStr_ne_nil (n : Nat) : natStr n ≠ [] := Nat.toDigits_ne_nil

theorem ofDigits_natStr (n : Nat) : ofDigits (natStr n) = n :=
  Nat.ofDigitChars_toDigits (by omega) (by omega)

theorem all_digits_natStr (n : Nat) : (natStr n).all isAsciiDigit = true := by
  rw [List.all_eq_true]; exact natStr_digits n

theorem intBody_digits (neg : Bool) (ds : Str) (hne : ds ≠ []) (hall : ds.all isAsciiDigit = true) :
    intBody neg ds = .ok (if neg then - Int.ofNat (ofDigits ds) else Int.ofNat (ofDigits ds)) := by
  cases ds with
  | nil => exact absurd rfl hne
  | cons c cs =>
    have hc : isAsciiDigit c = true := List.all_eq_true.mp hall c List.mem_cons_self
    simp only [intBody, hc, Bool.not_true, Bool.false_eq_true, if_false, hall, if_true]

theorem intTok_digit (c : Char) (cs : Str) (hc : isAsciiDigit c = true) : intTok (c :: cs) = intBody false (c :: cs) := by
  unfold intTok
  split
  · rename_i r heq; cases heq; exact absurd hc (by decide)
  · rename_i r heq; cases heq; exact absurd hc (by decide)
  · rfl

theorem intTok_digits (ds : Str) (hne : ds ≠ []) (hall : ds.all isAsciiDigit = true) :
    intTok ds = .ok (Int.ofNat (ofDigits ds)) := by
  cases ds with
  | nil => exact absurd rfl hne
  | cons c cs =>
    rw [intTok_digit c cs (List.all_eq_true.mp hall c List.mem_cons_self), intBody_digits false _ hne hall]
    rfl

theorem intTok_natStr (n : Nat) : intTok (natStr n) = IntTok.ok (Int.ofNat n) := by
  rw [intTok_digits _ (natStr_ne_nil n) (all_digits_natStr n), ofDigits_natStr]

theorem splitIdx_append (o c : Char) (s : Str) (i : Nat)
    (ho : isAsciiDigit o = false) :
    splitIdx o c (s ++ o :: natStr i ++ [c]) = some (i, s) := by
  unfold splitIdx
  have hrev : (s ++ o :: natStr i ++ [c]).reverse = c :: ((natStr i).reverse ++ o :: s.reverse) := by
    simp
  rw [hrev]
  have hdig : ∀ x ∈ (natStr i).reverse, isAsciiDigit x = true := by
    intro x hx; exact natStr_digits i x (List.mem_reverse.mp hx)
  have htw : ((natStr i).reverse ++ o :: s.reverse).takeWhile isAsciiDigit = (natStr i).reverse := by
    rw [List.takeWhile_append_of_pos hdig]
    simp [ho]
  have hdw : ((natStr i).reverse ++ o :: s.reverse).dropWhile isAsciiDigit = o :: s.reverse := by
    rw [List.dropWhile_append_of_pos hdig]
    simp [ho]
  simp only [if_true, htw, hdw]
  have hne : (natStr i).reverse ≠ [] := by
    intro h; exact natStr_ne_nil i (List.reverse_eq_nil_iff.mp h)
  simp [hne, ofDigits_natStr]

/-- **name_index_roundtrip**, identifier side: `separate_name_and_index(id_i_, "_")` gives back
    (i, id) for EVERY identifier `id` (no side condition). -/
theorem sepIdent_bitIdent (ident : Str) (i : Nat) : sepIdent (bitIdent ident i) = (some i, ident) := by
  unfold sepIdent bitIdent
  rw [splitIdx_append '_' '_' ident i (by decide)]

/-- **name_index_roundtrip**, name side: `separate_name_and_index(name[i], "[")` gives back
    (i, name) for every name that is not an escaped (backslash) name. -/
theorem sepName_bitName (name : Str) (i : Nat) (h : bracketAllowed (bitName name i) = true) :
    sepName (bitName name i) = (some i, name) := by
  unfold sepName
  rw [h]
  unfold bitName
  rw [splitIdx_append '[' ']' name i (by decide)]
  simp

theorem bracketAllowed_of_head (name : Str) (i : Nat) (c : Char) (r : Str) (hn : name = c :: r) (hc : c ≠ '\\') :
    bracketAllowed (bitName name i) = true := by
  subst hn
  simp [bracketAllowed, bitName, hc]

/-- a name the reader does not take for a bus bit: it is returned unchanged with no index
    (the sub-domain the known finding excludes from C03 is exactly the complement) -/
theorem sepName_plain (name : Str) (h : splitIdx '[' ']' name = none) : sepName name = (none, name) := by
  unfold sepName
  split <;> simp [h]

def lowerIdents (sibs : List Data) : List (Option Str) := sibs.map fun s => (identOf s).map lower

/-- **resolve_ci** (total on declared names): if sibling `i` carries identifier `a` and no earlier
    sibling has the same identifier ignoring case, then every spelling of `a` (any letter case)
    resolves to `i`. -/
theorem findIdent_declared (sibs : List Data) (i : Nat) (a spelling : Str) (hi : i < sibs.length)
    (ha : identOf sibs[i] = some a) (hs : lower spelling = lower a)
    (hfirst : ∀ j, (hj : j < i) → ∀ b, identOf (sibs[j]'(by omega)) = some b → lower b ≠ lower a) :
    findIdent sibs spelling = some i := by
  unfold findIdent
  rw [List.findIdx?_eq_some_iff_getElem]
  refine ⟨hi, ?_, ?_⟩
  · simp [ha, hs]
  · intro j hj
    cases hb : identOf (sibs[j]'(by omega)) with
    | none => simp
    | some b =>
      have := hfirst j hj b hb
      simp [hs, this]

theorem findIdent_eq_none {sibs : List Data} {x : Str} :
    findIdent sibs x = none ↔ ∀ s ∈ sibs, ∀ b, identOf s = some b → lower b ≠ lower x := by
  unfold findIdent
  rw [List.findIdx?_eq_none_iff]
  refine forall₂_congr fun s _ => ?_
  cases identOf s <;> simp

theorem findName_eq_none {sibs : List Data} {n : Str} : findName sibs n = none ↔ ∀ s ∈ sibs, nameOf s ≠ some n := by
  unfold findName
  rw [List.findIdx?_eq_none_iff]
  refine forall₂_congr fun s _ => ?_
  cases nameOf s <;> simp

/-- **resolve_ci** (error on undeclared): if no sibling carries the identifier (ignoring case),
    the lookup finds nothing — every caller turns that into a rejection (`Err.assert`). -/
theorem findIdent_undeclared (sibs : List Data) (spelling : Str)
    (h : ∀ s ∈ sibs, ∀ b, identOf s = some b → lower b ≠ lower spelling) :
    findIdent sibs spelling = none := findIdent_eq_none.mpr h

theorem findIdent_sound (sibs : List Data) (spelling : Str) (i : Nat) (h : findIdent sibs spelling = some i) :
    ∃ (hi : i < sibs.length) (b : Str), identOf sibs[i] = some b ∧ lower b = lower spelling := by
  unfold findIdent at h
  rw [List.findIdx?_eq_some_iff_getElem] at h
  obtain ⟨hi, hp, _⟩ := h
  refine ⟨hi, ?_⟩
  cases hb : identOf sibs[i] with
  | none => simp [hb] at hp
  | some b => exact ⟨b, rfl, by simpa [hb] using hp⟩

/-- the check, by the head: `&` opens an identifier of 2 to 256 characters, a letter one of at most 255 -/
theorem checkEdifIdentifier_cons (c : Char) (r : Str) :
    checkEdifIdentifier (c :: r) =
      (r.all isIdChar && if c = '&' then decide (1 ≤ r.length ∧ r.length ≤ 255)
                         else isAsciiAlpha c && decide (r.length ≤ 254)) := by
  by_cases hc : c = '&'
  · subst hc
    simp only [checkEdifIdentifier, List.length_cons, if_true]
    cases r.all isIdChar <;> simp <;> omega
  · have : checkEdifIdentifier (c :: r) = (decide ((c :: r).length ≤ 255) && isAsciiAlpha c && (c :: r).all isIdChar) := by
      unfold checkEdifIdentifier
      split
      · rename_i heq; cases heq
      · rename_i r' heq; exact absurd (List.cons.inj heq).1 hc
      · rename_i c' r' _ heq; obtain ⟨rfl, rfl⟩ := List.cons.inj heq; rfl
    have hid : isAsciiAlpha c = true → isIdChar c = true := fun h => by simp [isIdChar, h]
    rw [this, if_neg hc, List.all_cons, List.length_cons]
    generalize r.all isIdChar = b
    cases ha : isAsciiAlpha c <;> cases b <;> simp [hid, ha]

theorem checkEdifIdentifier_head {c : Char} {r : Str} (h : checkEdifIdentifier (c :: r) = true) :
    r.all isIdChar = true ∧ (c = '&' ∨ isAsciiAlpha c = true) ∧ r.length ≤ 255 := by
  rw [checkEdifIdentifier_cons, Bool.and_eq_true] at h
  refine ⟨h.1, ?_⟩
  have h2 := h.2
  split at h2 <;> simp only [Bool.and_eq_true, decide_eq_true_eq] at h2
  · exact ⟨Or.inl ‹_›, h2.2⟩
  · exact ⟨Or.inr h2.1, by omega⟩

/-- an identifier stays one when its tail is replaced by a shorter, non-empty run of identifier characters -/
theorem checkEdifIdentifier_tail {c : Char} {r r' : Str} (h : checkEdifIdentifier (c :: r) = true) (hall : r'.all isIdChar = true)
    (h1 : 1 ≤ r'.length) (hl : r'.length ≤ r.length) : checkEdifIdentifier (c :: r') = true := by
  rw [checkEdifIdentifier_cons] at h ⊢
  rw [hall, Bool.true_and]
  split at h <;> rename_i hc <;> simp only [hc, if_true, if_false, Bool.and_eq_true, decide_eq_true_eq] at h ⊢
  · exact ⟨h1, by omega⟩
  · exact ⟨h.2.1, by omega⟩

theorem natStr_no_space (n : Nat) : ∀ c ∈ natStr n, c ≠ ' ' := by
  intro c hc e
  subst e
  have := natStr_digits n _ hc
  exact absurd this (by decide)

theorem filter_space_bitName (bn : Str) (j : Nat) :
    ((bitName bn j).filter (· == ' ')).length = (bn.filter (· == ' ')).length := by
  have h1 : (natStr j).filter (· == ' ') = [] := by
    rw [List.filter_eq_nil_iff]
    intro c hc
    simpa using natStr_no_space j c hc
  simp [bitName, List.filter_append, h1]

theorem getLast_bitName (bn : Str) (k : Nat) : (bitName bn k).getLast? = some ']' := by
  have : bitName bn k = (bn ++ '[' :: natStr k) ++ [']'] := by simp [bitName]
  rw [this, List.getLast?_concat]

theorem bracketAllowed_bitName (bn : Str) (i j : Nat) (h : bracketAllowed (bitName bn i) = true) :
    bracketAllowed (bitName bn j) = true := by
  cases bn with
  | nil =>
    simp only [bitName, List.nil_append, bracketAllowed] at h ⊢
    simp
  | cons c r =>
    have hhead : ∀ k, ∃ t, bitName (c :: r) k = c :: t := fun k => ⟨_, rfl⟩
    obtain ⟨ti, hti⟩ := hhead i
    obtain ⟨tj, htj⟩ := hhead j
    have hi := filter_space_bitName (c :: r) i
    have hj := filter_space_bitName (c :: r) j
    have li := getLast_bitName (c :: r) i
    have lj := getLast_bitName (c :: r) j
    rw [hti] at h hi li
    rw [htj] at hj lj ⊢
    simp only [bracketAllowed] at h ⊢
    rw [hj, lj]
    rw [hi, li] at h
    exact h

theorem natStr_length_mono (j x : Nat) (h : j ≤ x) : (natStr j).length ≤ (natStr x).length := by
  have hx : 0 < (natStr x).length := Nat.length_toDigits_pos
  have key : ∀ n k : Nat, 0 < k → ((natStr n).length ≤ k ↔ n < 10 ^ k) :=
    fun n k hk => Nat.length_toDigits_le_iff (b := 10) (by decide) hk
  have h2 := (key x _ hx).mp (Nat.le_refl _)
  exact (key j _ hx).mpr (by omega)

theorem natStr_idChars (n : Nat) : (natStr n).all isIdChar = true := by
  rw [List.all_eq_true]
  intro c hc
  have hd := natStr_digits n c hc
  simp [isIdChar, hd]

theorem bitIdent_check (bi : Str) (x j : Nat) (hjx : j ≤ x) (h : checkEdifIdentifier (bitIdent bi x) = true) :
    checkEdifIdentifier (bitIdent bi j) = true := by
  have hlen := natStr_length_mono j x hjx
  cases bi with
  | nil =>
    rw [show bitIdent [] x = '_' :: (natStr x ++ ['_']) from rfl, checkEdifIdentifier_cons, if_neg (by decide),
      show isAsciiAlpha '_' = false by decide] at h
    simp at h
  | cons c r =>
    have e : ∀ k, bitIdent (c :: r) k = c :: (r ++ '_' :: natStr k ++ ['_']) := fun k => by simp [bitIdent]
    rw [e] at h ⊢
    have hall : (r ++ '_' :: natStr x ++ ['_']).all isIdChar = true := by
      rw [checkEdifIdentifier_cons] at h; exact (Bool.and_eq_true _ _ ▸ h).1
    refine checkEdifIdentifier_tail h ?_ (by simp; omega) (by simp; omega)
    simp only [List.all_append, List.all_cons, List.all_nil, Bool.and_eq_true, natStr_idChars] at hall ⊢
    exact hall

end Spydr.Edif
