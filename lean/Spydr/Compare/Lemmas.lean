/-
  C20 — lemmas about the comparer model (`Model.lean`) and the view (`Spec.lean`) that do not depend on
  the shape of a netlist: the sequencing combinators, look-ups by name (`byName`, also after a `List.set`, and where two
  look-up functions can differ at all), the loop "for every named element of the original, find the copy's element of
  that name and compare" (`Matched`) and the pigeonhole step.  `findNamed_eq_byName` ties the model's look-up to the
  specification's.
-/
import Spydr.Compare.Spec
import Mathlib.Data.List.Perm.Subperm

namespace Spydr.Compare

@[simp] theorem check_ok {b : Bool} : check b = .ok () ↔ b = true := by
  cases b <;> simp [check]

@[simp] theorem andThen_ok {x y : Res} : (x ;; y) = .ok () ↔ x = .ok () ∧ y = .ok () := by
  rcases x with _ | ⟨⟨⟩⟩ <;> simp [Res.andThen]

theorem exists_error_of_ne_ok {r : Res} (h : r ≠ .ok ()) : ∃ fam, r = .error fam := by
  rcases r with e | ⟨⟨⟩⟩
  exacts [⟨e, rfl⟩, absurd rfl h]

theorem allM_ok {α : Type} {l : List α} {f : α → Res} :
    allM l f = .ok () ↔ ∀ x ∈ l, f x = .ok () := by
  induction l <;> simp [allM, *]

/-- the `zip` loop, together with the length assertion that precedes it in the code -/
theorem allM2_ok {α β : Type} {f : α → β → Res} : ∀ {l1 : List α} {l2 : List β},
    l1.length = l2.length ∧ allM2 l1 l2 f = .ok () ↔ List.Forall₂ (fun x y => f x y = .ok ()) l1 l2
  | [], [] => by simp [allM2]
  | [], _ :: _ => by simp
  | _ :: _, [] => by simp
  | x :: xs, y :: ys => by simp [allM2, ← allM2_ok (l1 := xs), and_left_comm]

theorem map_eq_map_iff {α β γ : Type} {g : α → γ} {h : β → γ} {l1 : List α} {l2 : List β} :
    l1.map g = l2.map h ↔ List.Forall₂ (fun x y => g x = h y) l1 l2 := by
  rw [← List.forall₂_eq_eq_eq, List.forall₂_map_left_iff, List.forall₂_map_right_iff]

theorem forall₂_imp_mem {α β : Type} {R S : α → β → Prop} {l1 : List α} {l2 : List β}
    (h : List.Forall₂ R l1 l2) (H : ∀ x ∈ l1, ∀ y ∈ l2, R x y → S x y) : List.Forall₂ S l1 l2 := by
  induction h with
  | nil => exact .nil
  | cons hxy _ ih =>
    exact .cons (H _ (by simp) _ (by simp) hxy) (ih fun x hx y hy => H x (by simp [hx]) y (by simp [hy]))

theorem findNamed_eq_byName {α : Type} (name : α → Option String) (nm : String) (l : List α) :
    findNamed name nm l = byName name nm l := by
  induction l with
  | nil => rfl
  | cons x xs ih =>
    unfold findNamed at ih ⊢
    by_cases h : name x = some nm <;> simp [byName, h, ih]

theorem withFound_ok {α : Type} {name : α → Option String} {nm : String} {l : List α} {k : α → Res} :
    withFound name nm l k = .ok () ↔ ∃ y, byName name nm l = some y ∧ k y = .ok () := by
  unfold withFound
  rw [findNamed_eq_byName]
  cases byName name nm l <;> simp

theorem mem_namesOf {α : Type} {name : α → Option String} {nm : String} {l : List α} :
    nm ∈ namesOf name l ↔ ∃ x ∈ l, name x = some nm := by
  simp [namesOf, List.mem_filterMap]

theorem byName_some {α : Type} {name : α → Option String} {nm : String} {l : List α} {x : α}
    (h : byName name nm l = some x) : x ∈ l ∧ name x = some nm := by
  induction l with
  | nil => simp [byName] at h
  | cons y ys ih =>
    by_cases hy : name y = some nm <;> simp only [byName, hy, if_true, if_false, Option.some.injEq] at h
    · subst h; exact ⟨by simp, hy⟩
    · exact ⟨by simp [(ih h).1], (ih h).2⟩

theorem byName_none {α : Type} {name : α → Option String} {nm : String} {l : List α} :
    byName name nm l = none ↔ nm ∉ namesOf name l := by
  induction l with
  | nil => simp [byName, namesOf]
  | cons y ys ih =>
    rw [mem_namesOf] at ih
    by_cases hy : name y = some nm <;> simp [byName, mem_namesOf, hy, ih]

theorem namesOf_cons_nodup {α : Type} {name : α → Option String} {y : α} {ys : List α}
    (h : (namesOf name (y :: ys)).Nodup) :
    (namesOf name ys).Nodup ∧ ∀ nm, name y = some nm → nm ∉ namesOf name ys := by
  cases hy : name y <;> simp_all [namesOf]

theorem byName_of_mem_nodup {α : Type} {name : α → Option String} {nm : String} {l : List α} {x : α}
    (hnd : (namesOf name l).Nodup) (hx : x ∈ l) (hn : name x = some nm) : byName name nm l = some x := by
  induction l with
  | nil => simp at hx
  | cons y ys ih =>
    obtain ⟨hnd', hy⟩ := namesOf_cons_nodup hnd
    rcases List.mem_cons.1 hx with rfl | hx'
    · simp [byName, hn]
    · have : name y ≠ some nm := fun e => hy nm e (mem_namesOf.2 ⟨x, hx', hn⟩)
      simp only [byName, this, if_false]
      exact ih hnd' hx'

theorem byName_get {α : Type} {name : α → Option String}
    {l : List α} {i : Nat} {x : α} {nm : String} (hnd : (namesOf name l).Nodup)
    (hi : l[i]? = some x) (hn : name x = some nm) : byName name nm l = some x :=
  byName_of_mem_nodup hnd (List.mem_of_getElem? hi) hn

theorem named_of_mem {α : Type} {name : α → Option String} {l : List α} {x : α}
    (h : allNamed name l = true) (hx : x ∈ l) : ∃ nm, name x = some nm :=
  Option.isSome_iff_exists.1 (List.all_eq_true.1 h x hx)

theorem namesOf_length_of_named {α : Type} {name : α → Option String} {l : List α}
    (h : allNamed name l = true) : (namesOf name l).length = l.length := by
  induction l with
  | nil => rfl
  | cons y ys ih =>
    obtain ⟨n', hn⟩ := named_of_mem h (List.mem_cons_self ..)
    simp only [allNamed, List.all_cons, Bool.and_eq_true] at h
    simp [namesOf, hn, ← ih h.2]

theorem byName_name_eq {α β : Type} {na : α → Option String} {nb : β → Option String} {nm : String}
    {la : List α} {lb : List β} {x : α} {y : β} (hx : byName na nm la = some x) (hy : byName nb nm lb = some y) :
    na x = nb y :=
  (byName_some hx).2.trans (byName_some hy).2.symm

theorem getElem?_set_of_getElem? {α : Type} {l : List α} {i : Nat} {x y : α} (hi : l[i]? = some x) :
    (l.set i y)[i]? = some y :=
  List.getElem?_set_self (List.getElem?_eq_some_iff.1 hi).1

theorem namesOf_set {α : Type} {name : α → Option String} : ∀ {l : List α} {i : Nat} {x y : α},
    l[i]? = some x → name y = name x → namesOf name (l.set i y) = namesOf name l
  | z :: zs, 0, x, y, h, hn => by simp_all [namesOf, List.filterMap_cons]
  | z :: zs, i + 1, x, y, h, hn => by
    have := namesOf_set (l := zs) (i := i) (by simpa using h) hn
    simp_all [namesOf, List.filterMap_cons]

theorem byName_set {α : Type} {name : α → Option String}
    {l : List α} {i : Nat} {x y : α} {nm : String} (hnd : (namesOf name l).Nodup)
    (hi : l[i]? = some x) (hn : name x = some nm) (hy : name y = name x) :
    byName name nm (l.set i y) = some y :=
  byName_get (namesOf_set hi hy ▸ hnd) (getElem?_set_of_getElem? hi) (hy.trans hn)

theorem named_get {α : Type} {name : α → Option String} {l : List α} {i : Nat} {x : α}
    (h : allNamed name l = true) (hi : l[i]? = some x) : ∃ nm, name x = some nm :=
  named_of_mem h (List.mem_of_getElem? hi)

theorem set_map_ne {α β : Type} {f : α → β} {l : List α} {i : Nat} {x y : α} (hi : l[i]? = some x)
    (hne : f y ≠ f x) : (l.set i y).map f ≠ l.map f := fun h => by
  have := congrArg (·[i]?) h
  simp only [List.getElem?_map, getElem?_set_of_getElem? hi, hi, Option.map_some, Option.some.injEq] at this
  exact hne this

theorem idx_inj {α : Type} {name : α → Option String} {nm : String} : ∀ {l : List α} {i j : Nat} {x y : α},
    (namesOf name l).Nodup → l[i]? = some x → l[j]? = some y → name x = some nm → name y = some nm → i = j
  | _ :: _, 0, 0, _, _, _, _, _, _, _ => rfl
  | z :: zs, 0, j + 1, x, y, hnd, hi, hj, hx, hy => by
    cases Option.some.inj hi
    exact ((namesOf_cons_nodup hnd).2 nm hx (mem_namesOf.2 ⟨y, List.mem_of_getElem? (by simpa using hj), hy⟩)).elim
  | z :: zs, i + 1, 0, x, y, hnd, hi, hj, hx, hy => by
    cases Option.some.inj hj
    exact ((namesOf_cons_nodup hnd).2 nm hy (mem_namesOf.2 ⟨x, List.mem_of_getElem? (by simpa using hi), hx⟩)).elim
  | z :: zs, i + 1, j + 1, x, y, hnd, hi, hj, hx, hy =>
    congrArg (· + 1) (idx_inj (namesOf_cons_nodup hnd).1 (by simpa using hi) (by simpa using hj) hx hy)

theorem keyed_eq_iff {α β γ : Type} {na : α → Option String} {nb : β → Option String}
    {la : List α} {lb : List β} {va : String → α → γ} {vb : String → β → γ} :
    (∀ nm, (byName na nm la).map (va nm) = (byName nb nm lb).map (vb nm)) ↔
    (∀ nm ∈ namesOf na la ++ namesOf nb lb, (byName na nm la).map (va nm) = (byName nb nm lb).map (vb nm)) := by
  refine ⟨fun h nm _ => h nm, fun h nm => ?_⟩
  by_cases hm : nm ∈ namesOf na la ++ namesOf nb lb
  · exact h nm hm
  · simp only [List.mem_append, not_or] at hm
    rw [byName_none.2 hm.1, byName_none.2 hm.2]; rfl

theorem guard_eq_iff {α β : Type} {no : α → Option String} {lo : List α} {f g : String → Option β} :
    (∀ nm, guardBy (byName no nm lo) (f nm) = guardBy (byName no nm lo) (g nm)) ↔
    (∀ nm ∈ namesOf no lo, f nm = g nm) := by
  refine forall_congr' fun nm => ?_
  cases hb : byName no nm lo with
  | none => simp [guardBy, byName_none.1 hb]
  | some x => simp [guardBy, mem_namesOf.2 ⟨x, byName_some hb⟩]

/-- Every named element `x` of `la` has a partner of the same name in `lb`, and `R` relates the two: what
    the loop `for x in la: y = next(get(lb, x.name)); compare(x, y)` establishes. -/
def Matched {α β : Type} (na : α → Option String) (nb : β → Option String) (la : List α) (lb : List β)
    (R : String → α → β → Prop) : Prop :=
  ∀ nm x, byName na nm la = some x → ∃ y, byName nb nm lb = some y ∧ R nm x y

section Matched
variable {α β γ : Type} {na : α → Option String} {nb : β → Option String} {la : List α} {lb : List β}
  {R S : String → α → β → Prop}

theorem Matched.imp (h : Matched na nb la lb R)
    (H : ∀ nm x y, byName na nm la = some x → byName nb nm lb = some y → R nm x y → S nm x y) :
    Matched na nb la lb S := fun nm x hx =>
  let ⟨y, hy, hr⟩ := h nm x hx
  ⟨y, hy, H nm x y hx hy hr⟩

theorem Matched.and (h : Matched na nb la lb R) (h' : Matched na nb la lb S) :
    Matched na nb la lb fun nm x y => R nm x y ∧ S nm x y := fun nm x hx => by
  obtain ⟨y, hy, hr⟩ := h nm x hx
  obtain ⟨y', hy', hs⟩ := h' nm x hx
  cases hy.symm.trans hy'
  exact ⟨y, hy, hr, hs⟩

theorem Matched.refl {l : List α} {R : String → α → α → Prop} (h : ∀ nm, ∀ x ∈ l, R nm x x) :
    Matched na na l l R := fun nm x hx => ⟨x, hx, h nm x (byName_some hx).1⟩

theorem Matched.of_map_eq {va : String → α → γ} {vb : String → β → γ}
    (h : ∀ nm, (byName na nm la).map (va nm) = (byName nb nm lb).map (vb nm)) :
    Matched na nb la lb fun nm x y => va nm x = vb nm y := fun nm x hx => by
  have := h nm
  rw [hx] at this
  cases hy : byName nb nm lb <;> simp_all

theorem Matched.guard_eq {va : String → α → γ} {vb : String → β → γ}
    (h : Matched na nb la lb fun nm x y => va nm x = vb nm y) (nm : String) :
    guardBy (byName na nm la) ((byName na nm la).map (va nm))
      = guardBy (byName na nm la) ((byName nb nm lb).map (vb nm)) := by
  cases hA : byName na nm la with
  | none => rfl
  | some x =>
    obtain ⟨y, hy, hv⟩ := h nm x hA
    simp [guardBy, hy, hv]

/-- The pigeonhole step of the name-keyed comparison: every name of the original is found in the
    copy, the original's names are all present and distinct, the counts agree — then the two
    look-up functions agree at *every* name (also at names neither side uses, and the copy has no
    further names). -/
theorem Matched.map_eq {va : String → α → γ} {vb : String → β → γ}
    (h : Matched na nb la lb fun nm x y => va nm x = vb nm y)
    (hnamed : allNamed na la = true) (hnd : (namesOf na la).Nodup) (hlen : la.length = lb.length)
    (nm : String) : (byName na nm la).map (va nm) = (byName nb nm lb).map (vb nm) := by
  cases hA : byName na nm la with
  | some x =>
    obtain ⟨y, hy, hv⟩ := h nm x hA
    simp [hy, hv]
  | none =>
    have hsub : namesOf na la ⊆ namesOf nb lb := by
      intro k hk
      obtain ⟨x, hx, hxk⟩ := mem_namesOf.1 hk
      obtain ⟨y, hy, _⟩ := h k x (byName_of_mem_nodup hnd hx hxk)
      exact mem_namesOf.2 ⟨y, byName_some hy⟩
    have hle : (namesOf nb lb).length ≤ (namesOf na la).length := by
      rw [namesOf_length_of_named hnamed, hlen]; exact List.length_filterMap_le _ _
    have hperm := (List.subperm_of_subset hnd hsub).perm_of_length_le hle
    rw [byName_none.2 fun hmem => byName_none.1 hA (hperm.symm.subset hmem)]
    rfl

theorem matched_iff_loop {k : α → β → Res} (hnd : (namesOf na la).Nodup) :
    (∀ x ∈ la, (match na x with
      | none => ok
      | some nm => withFound nb nm lb (k x)) = .ok ()) ↔ Matched na nb la lb fun _ x y => k x y = .ok () := by
  constructor
  · intro h nm x hx
    have := h x (byName_some hx).1
    rwa [(byName_some hx).2, withFound_ok] at this
  · intro h x hx
    cases hn : na x with
    | none => rfl
    | some nm => exact withFound_ok.2 (h nm x (byName_of_mem_nodup hnd hx hn))

end Matched

end Spydr.Compare
