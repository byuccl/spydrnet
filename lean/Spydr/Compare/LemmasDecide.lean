/-
  C20 — towards "the Bool-valued `examinedEqB`, `examinedNEqB`, `identsEqB` (what the driver evaluates)
  decide the equations between views and between identifier records": the definition and library levels.
-/
import Spydr.Compare.LemmasNetlist

namespace Spydr.Compare

theorem optAgree_iff {α γ : Type} {eq : α → α → Bool} {f g : α → γ} (h : ∀ x y, eq x y = true ↔ f x = g y)
    (ox oy : Option α) : optAgree eq ox oy = true ↔ ox.map f = oy.map g := by
  cases ox <;> cases oy <;> simp [optAgree, h]

theorem defAgreeB_spec (a b : CNetlist) (oda odb : Option CDef) (da db : CDef) :
    defAgreeB a b oda odb da db = true ↔ defView a oda da = defView b odb db := by
  rw [DefView.eq_iff]
  simp only [defAgreeB, defView, Bool.and_eq_true, beq_iff_eq, List.all_eq_true, decide_eq_true_eq]
  rw [keyed_eq_iff (va := fun _ => portView) (vb := fun _ => portView),
      keyed_eq_iff (va := fun _ => cableView a da) (vb := fun _ => cableView b db),
      keyed_eq_iff (va := fun k => instView a (origInstProps oda k)) (vb := fun k => instView b (origInstProps odb k))]
  tauto

theorem libAgreeB_spec (a b : CNetlist) (ola olb : Option CLib) (la lb : CLib) :
    libAgreeB a b ola olb la lb = true ↔ libView a ola la = libView b olb lb := by
  rw [LibView.eq_iff]
  simp only [libAgreeB, libView, Bool.and_eq_true, beq_iff_eq, List.all_eq_true,
    optAgree_iff (defAgreeB_spec a b _ _)]
  rw [keyed_eq_iff (va := fun k => defView a (origDef ola k)) (vb := fun k => defView b (origDef olb k))]

theorem defAgreeNB_spec (a b : CNetlist) (od : Option CDef) (da db : CDef) :
    defAgreeNB a b od da db = true ↔ defViewN a od da = defViewN b od db := by
  rw [DefView.eq_iff]
  cases od with
  | none => simp [defAgreeNB, defViewN, guardBy]; tauto
  | some o =>
    simp only [defAgreeNB, defViewN, Option.bind_some, Bool.and_eq_true, beq_iff_eq, List.all_eq_true, decide_eq_true_eq]
    rw [guard_eq_iff, guard_eq_iff, guard_eq_iff]
    tauto

theorem libAgreeNB_spec (a b : CNetlist) (ol : Option CLib) (la lb : CLib) :
    libAgreeNB a b ol la lb = true ↔ libViewN a ol la = libViewN b ol lb := by
  rw [LibView.eq_iff]
  cases ol with
  | none => simp [libAgreeNB, libViewN, origDef, guardBy]
  | some o =>
    simp only [libAgreeNB, libViewN, origDef_some, Bool.and_eq_true, beq_iff_eq, List.all_eq_true,
      optAgree_iff (defAgreeNB_spec a b _), guard_eq_iff]

theorem defIdsEqB_spec (da db : CDef) : defIdsEqB da db = true ↔ defIds da = defIds db := by
  rw [DefIds.eq_iff]
  simp only [defIdsEqB, defIds, Bool.and_eq_true, List.all_eq_true, decide_eq_true_eq]
  rw [keyed_eq_iff (va := fun _ (p : CPort) => p.origId) (vb := fun _ (p : CPort) => p.origId),
      keyed_eq_iff (va := fun _ (c : CCable) => c.origId) (vb := fun _ (c : CCable) => c.origId),
      keyed_eq_iff (va := fun _ (i : CInst) => i.origId) (vb := fun _ (i : CInst) => i.origId)]
  tauto

theorem libIdsEqB_spec (la lb : CLib) : libIdsEqB la lb = true ↔ libIds la = libIds lb := by
  rw [LibIds.eq_iff]
  simp only [libIdsEqB, libIds, Bool.and_eq_true, List.all_eq_true, decide_eq_true_eq, optAgree_iff defIdsEqB_spec]
  rw [keyed_eq_iff (va := fun _ => defIds) (vb := fun _ => defIds)]

end Spydr.Compare
