/-
  C20 — specification side: what the comparer is documented to *examine*, and the hypotheses of the
  theorems.  Written without reference to any function of the model (`Model.lean` is imported for
  the `CNetlist` data type only; nothing below mentions `compare`, `cmp*`, `resolve*`, `Res`).

  The comparer is name-keyed (libraries, definitions, ports, cables and instances of the copy are
  looked up by the original's names, in any order), so the view is a record of *functions from names*:
  two netlists have the same view iff under every name path they show the same attributes.

  `examined o n` is the view of netlist `n` *with respect to the original `o`*: everything the C20
  statement lists —
    a port's direction, width, array-ness; a cable's width (number of wires) and, wire by wire and pin
    by pin, which instance (name), which port (name) and which bit the net touches; an instance's
    reference (definition name, library name) and the values `n` gives to the ORIGINAL's
    properties (`EDIF.properties` slots (index, key) present in `o`; DESIGN §5 decision 7: a property
    the copy *adds* is not examined, one it changes or drops is); the five counts —
  so that "the copy differs from the original in nothing that is examined" is the equation
  `examined a a = examined a b`.
-/
import Spydr.Compare.Model

namespace Spydr.Compare

/-! ## The view -/

structure PortView where
  dir     : String
  width   : Nat
  isArray : Bool
  deriving DecidableEq, Repr

/-- which instance / port / bit a pin on a net is -/
inductive PinView
  | inner (port : Option String) (bit : Nat)
  | outer (inst : Option String) (port : Option String) (bit : Nat)
  | unplaced
  deriving DecidableEq, Repr

/-- the value the copy gives to one property slot of the original (`none` = absent) -/
abbrev SlotView := List (List (String × Option String))

structure InstView where
  /-- `(definition name, library name)` of the reference, `none` = no reference -/
  ref   : Option (Option String × Option String)
  /-- `none`: the original has no `EDIF.properties`; `some none`: the original has, this one has not;
      `some (some s)`: per original slot the value found here -/
  props : Option (Option SlotView)
  deriving DecidableEq, Repr

structure DefView where
  nPorts  : Nat
  nCables : Nat
  nInsts  : Nat
  port    : String → Option PortView
  /-- wires of the cable, each the list of pins it touches; the cable's width is the length -/
  cable   : String → Option (List (List PinView))
  inst    : String → Option InstView

structure LibView where
  nDefs : Nat
  defn  : String → Option DefView

structure View where
  nLibs : Nat
  lib   : String → Option LibView
  top   : Option InstView

/-! ## Computing the view -/

def byName {α : Type} (name : α → Option String) (nm : String) : List α → Option α
  | [] => none
  | x :: r => if name x = some nm then some x else byName name nm r

def refView (n : CNetlist) : CRef → Option (Option String × Option String)
  | .none => none
  | .ext dn ln => some (dn, ln)
  | .idx li di =>
    match n.libs[li]? with
    | none => none
    | some L =>
      match L.defs[di]? with
      | none => none
      | some D => some (D.name, L.name)

def valueOf (k : String) : Dict → Option String
  | [] => none
  | (k', v) :: r => if k' = k then some v else valueOf k r

/-- values found in `pn` for the slots of the original's `po` -/
def slots : List Dict → List Dict → SlotView
  | [], _ => []
  | d :: ds, [] => d.map (fun kv => (kv.1, none)) :: slots ds []
  | d :: ds, c :: cs => d.map (fun kv => (kv.1, valueOf kv.1 c)) :: slots ds cs

def propsView (orig : Option (List Dict)) (here : Option (List Dict)) : Option (Option SlotView) :=
  match orig with
  | none => none
  | some po =>
    match here with
    | none => some none
    | some pn => some (some (slots po pn))

def instView (n : CNetlist) (origProps : Option (List Dict)) (i : CInst) : InstView :=
  { ref := refView n i.ref, props := propsView origProps i.props }

def portView (p : CPort) : PortView := { dir := p.dir, width := p.width, isArray := !p.scalar }

def refPorts (n : CNetlist) : CRef → List CPort
  | .idx li di =>
    match n.libs[li]? with
    | none => []
    | some L =>
      match L.defs[di]? with
      | none => []
      | some D => D.ports
  | _ => []

def pinView (n : CNetlist) (d : CDef) : CPin → PinView
  | .port pi bit =>
    match d.ports[pi]? with
    | none => .unplaced
    | some p => .inner p.name bit
  | .inst ii pi bit =>
    match d.insts[ii]? with
    | none => .unplaced
    | some i =>
      match (refPorts n i.ref)[pi]? with
      | none => .unplaced
      | some p => .outer i.name p.name bit
  | .bad => .unplaced

def cableView (n : CNetlist) (d : CDef) (c : CCable) : List (List PinView) :=
  c.wires.map fun w => w.map (pinView n d)

/-- properties of the original's instance of the same name (if the original has that instance) -/
def origInstProps (od : Option CDef) (nm : String) : Option (List Dict) :=
  match od with
  | none => none
  | some d =>
    match byName (·.name) nm d.insts with
    | none => none
    | some i => i.props

def defView (n : CNetlist) (od : Option CDef) (d : CDef) : DefView :=
  { nPorts := d.ports.length, nCables := d.cables.length, nInsts := d.insts.length,
    port := fun nm => (byName (·.name) nm d.ports).map portView,
    cable := fun nm => (byName (·.name) nm d.cables).map (cableView n d),
    inst := fun nm => (byName (·.name) nm d.insts).map (instView n (origInstProps od nm)) }

def origDef (ol : Option CLib) (nm : String) : Option CDef :=
  match ol with
  | none => none
  | some l => byName (·.name) nm l.defs

def libView (n : CNetlist) (ol : Option CLib) (l : CLib) : LibView :=
  { nDefs := l.defs.length,
    defn := fun nm => (byName (·.name) nm l.defs).map (defView n (origDef ol nm)) }

/-- The view of `n` with respect to the original `o`. -/
def examined (o n : CNetlist) : View :=
  { nLibs := n.libs.length,
    lib := fun nm => (byName (·.name) nm n.libs).map (libView n (byName (·.name) nm o.libs)),
    top := n.top.map (instView n (o.top.bind (·.props))) }

/-! ## The view restricted to the ORIGINAL's named elements ("among named elements")

  `examinedN o n` answers only at names the original `o` uses (an unnamed element of the original is
  never compared, so whatever the copy has in its place — named or not — is not examined); counts are
  still total.  For a fully named original with unique names `examined` is the stronger statement. -/

def guardBy {α β : Type} (o : Option α) (x : Option β) : Option β :=
  match o with
  | none => none
  | some _ => x

def defViewN (n : CNetlist) (od : Option CDef) (d : CDef) : DefView :=
  { nPorts := d.ports.length, nCables := d.cables.length, nInsts := d.insts.length,
    port := fun nm => guardBy (od.bind fun o => byName (·.name) nm o.ports) ((byName (·.name) nm d.ports).map portView),
    cable := fun nm => guardBy (od.bind fun o => byName (·.name) nm o.cables) ((byName (·.name) nm d.cables).map (cableView n d)),
    inst := fun nm => guardBy (od.bind fun o => byName (·.name) nm o.insts)
      ((byName (·.name) nm d.insts).map (instView n (origInstProps od nm))) }

def libViewN (n : CNetlist) (ol : Option CLib) (l : CLib) : LibView :=
  { nDefs := l.defs.length,
    defn := fun nm => guardBy (origDef ol nm) ((byName (·.name) nm l.defs).map (defViewN n (origDef ol nm))) }

def examinedN (o n : CNetlist) : View :=
  { nLibs := n.libs.length,
    lib := fun nm => guardBy (byName (·.name) nm o.libs)
      ((byName (·.name) nm n.libs).map (libViewN n (byName (·.name) nm o.libs))),
    top := n.top.map (instView n (o.top.bind (·.props))) }

/-! ## Identifiers: what the comparer checks besides the examined attributes

  names are the keys; the remaining identifier fields are the netlist's name, the top instance's
  name and every element's `EDIF.original_identifier`. -/

structure DefIds where
  origId : Option String
  port   : String → Option (Option String)
  cable  : String → Option (Option String)
  inst   : String → Option (Option String)

structure LibIds where
  origId : Option String
  defn   : String → Option DefIds

structure Ids where
  name    : Option String
  origId  : Option String
  topName : Option (Option String)
  topOrig : Option (Option String)
  lib     : String → Option LibIds

def defIds (d : CDef) : DefIds :=
  { origId := d.origId,
    port := fun nm => (byName (·.name) nm d.ports).map (·.origId),
    cable := fun nm => (byName (·.name) nm d.cables).map (·.origId),
    inst := fun nm => (byName (·.name) nm d.insts).map (·.origId) }

def libIds (l : CLib) : LibIds :=
  { origId := l.origId, defn := fun nm => (byName (·.name) nm l.defs).map defIds }

def idents (n : CNetlist) : Ids :=
  { name := n.name, origId := n.origId, topName := n.top.map (·.name), topOrig := n.top.map (·.origId),
    lib := fun nm => (byName (·.name) nm n.libs).map libIds }

/-! ## Hypotheses of the theorems (all decidable; the driver evaluates the `…B` forms) -/

def allNamed {α : Type} (name : α → Option String) (l : List α) : Bool := l.all fun x => (name x).isSome

/-- every library, definition, port, cable and instance has a name -/
def namedB (n : CNetlist) : Bool :=
  allNamed (·.name) n.libs && n.libs.all fun l =>
    allNamed (·.name) l.defs && l.defs.all fun d =>
      allNamed (·.name) d.ports && allNamed (·.name) d.cables && allNamed (·.name) d.insts

def Named (n : CNetlist) : Prop := namedB n = true
instance (n : CNetlist) : Decidable (Named n) := by unfold Named; infer_instance

def namesOf {α : Type} (name : α → Option String) (l : List α) : List String := l.filterMap name

/-- sibling names are unique (what the namespace manager enforces, C10) -/
def UniqueNames (n : CNetlist) : Prop :=
  (namesOf (·.name) n.libs).Nodup ∧ ∀ l ∈ n.libs,
    (namesOf (·.name) l.defs).Nodup ∧ ∀ d ∈ l.defs,
      (namesOf (·.name) d.ports).Nodup ∧ (namesOf (·.name) d.cables).Nodup ∧ (namesOf (·.name) d.insts).Nodup

instance (n : CNetlist) : Decidable (UniqueNames n) := by unfold UniqueNames; infer_instance

def startsWithAssign (s : String) : Bool := "SDN_Assignment_".toList.isPrefixOf s.toList

/-- no instance is named `SDN_Assignment_…` (the comparer is documented to skip those) -/
def noAssignB (n : CNetlist) : Bool :=
  n.libs.all fun l => l.defs.all fun d => d.insts.all fun i =>
    match i.name with
    | none => true
    | some nm => !startsWithAssign nm

def NoAssign (n : CNetlist) : Prop := noAssignB n = true
instance (n : CNetlist) : Decidable (NoAssign n) := by unfold NoAssign; infer_instance

def splitUnderscore (cs : List Char) : List (List Char) :=
  cs.foldr (fun c acc => if c = '_' then [] :: acc else
    match acc with
    | [] => [[c]]
    | h :: t => (c :: h) :: t) [[]]

/-- instances that follow the `SDN_Assignment_` naming convention carry a fourth `_`-separated token
    (`SDN_Assignment_<width>_<k>`): the comparer reads `name.split("_")[3]` of every such instance.
    Weaker than `NoAssign`. -/
def assignOkB (n : CNetlist) : Bool :=
  n.libs.all fun l => l.defs.all fun d => d.insts.all fun i =>
    match i.name with
    | none => true
    | some nm => !startsWithAssign nm || ((splitUnderscore nm.toList)[3]?).isSome

def AssignOK (n : CNetlist) : Prop := assignOkB n = true
instance (n : CNetlist) : Decidable (AssignOK n) := by unfold AssignOK; infer_instance

def keysNodupB (p : Option (List Dict)) : Bool :=
  match p with
  | none => true
  | some l => l.all fun d => decide (d.map (·.1)).Nodup

def pinOK (n : CNetlist) (d : CDef) : CPin → Bool
  | .port pi bit =>
    match d.ports[pi]? with
    | none => false
    | some p => decide (bit < p.width)
  | .inst ii pi bit =>
    match d.insts[ii]? with
    | none => false
    | some i =>
      match (refPorts n i.ref)[pi]? with
      | none => false
      | some p => decide (bit < p.width)
  | .bad => false

def refOK (n : CNetlist) : CRef → Bool
  | .idx li di =>
    match n.libs[li]? with
    | none => false
    | some L => (L.defs[di]?).isSome
  | _ => false

/-- well-formed as far as a comparison can notice: every pin listed by a wire is placed (it is a pin of
    a port of the definition, or of a port of the definition a child instance references), and the
    property dictionaries have unique keys (they are Python dicts).  Nothing is required of port widths
    (a port may have no pins) or of references of unconnected instances. -/
def wfB (n : CNetlist) : Bool :=
  (n.libs.all fun l => l.defs.all fun d =>
    (d.insts.all fun i => keysNodupB i.props) &&
    (d.cables.all fun c => c.wires.all fun w => w.all (pinOK n d))) &&
  (match n.top with
   | none => true
   | some t => keysNodupB t.props)

def WF (n : CNetlist) : Prop := wfB n = true
instance (n : CNetlist) : Decidable (WF n) := by unfold WF; infer_instance

/-- only the part of `WF` soundness needs from the original -/
def propKeysB (n : CNetlist) : Bool :=
  (n.libs.all fun l => l.defs.all fun d => d.insts.all fun i => keysNodupB i.props) &&
  (match n.top with
   | none => true
   | some t => keysNodupB t.props)

def PropKeys (n : CNetlist) : Prop := propKeysB n = true
instance (n : CNetlist) : Decidable (PropKeys n) := by unfold PropKeys; infer_instance

/-! ## Executable decision of `examined o a = examined o b`
    (views are functions of names; they can only differ at a name one of the two sides uses) -/

def optAgree {α : Type} (eq : α → α → Bool) : Option α → Option α → Bool
  | none, none => true
  | some x, some y => eq x y
  | _, _ => false

def defAgreeB (a b : CNetlist) (oda odb : Option CDef) (da db : CDef) : Bool :=
  da.ports.length == db.ports.length && da.cables.length == db.cables.length &&
  da.insts.length == db.insts.length &&
  ((namesOf (·.name) da.ports ++ namesOf (·.name) db.ports).all fun nm =>
    decide ((byName (·.name) nm da.ports).map portView = (byName (·.name) nm db.ports).map portView)) &&
  ((namesOf (·.name) da.cables ++ namesOf (·.name) db.cables).all fun nm =>
    decide ((byName (·.name) nm da.cables).map (cableView a da) = (byName (·.name) nm db.cables).map (cableView b db))) &&
  ((namesOf (·.name) da.insts ++ namesOf (·.name) db.insts).all fun nm =>
    decide ((byName (·.name) nm da.insts).map (instView a (origInstProps oda nm))
          = (byName (·.name) nm db.insts).map (instView b (origInstProps odb nm))))

def libAgreeB (a b : CNetlist) (ola olb : Option CLib) (la lb : CLib) : Bool :=
  la.defs.length == lb.defs.length &&
  ((namesOf (·.name) la.defs ++ namesOf (·.name) lb.defs).all fun nm =>
    optAgree (fun da db => defAgreeB a b (origDef ola nm) (origDef olb nm) da db)
      (byName (·.name) nm la.defs) (byName (·.name) nm lb.defs))

/-- decides `examined o a = examined o b` (see `C20.examinedEqB_iff`) -/
def examinedEqB (o a b : CNetlist) : Bool :=
  a.libs.length == b.libs.length &&
  decide (a.top.map (instView a (o.top.bind (·.props))) = b.top.map (instView b (o.top.bind (·.props)))) &&
  ((namesOf (·.name) a.libs ++ namesOf (·.name) b.libs).all fun nm =>
    optAgree (fun la lb => libAgreeB a b (byName (·.name) nm o.libs) (byName (·.name) nm o.libs) la lb)
      (byName (·.name) nm a.libs) (byName (·.name) nm b.libs))

/-! ## Executable decisions of `examinedN o a = examinedN o b` and `idents a = idents b` -/

def defAgreeNB (a b : CNetlist) (od : Option CDef) (da db : CDef) : Bool :=
  da.ports.length == db.ports.length && da.cables.length == db.cables.length &&
  da.insts.length == db.insts.length &&
  (match od with
   | none => true
   | some o =>
     ((namesOf (·.name) o.ports).all fun nm =>
       decide ((byName (·.name) nm da.ports).map portView = (byName (·.name) nm db.ports).map portView)) &&
     ((namesOf (·.name) o.cables).all fun nm =>
       decide ((byName (·.name) nm da.cables).map (cableView a da) = (byName (·.name) nm db.cables).map (cableView b db))) &&
     ((namesOf (·.name) o.insts).all fun nm =>
       decide ((byName (·.name) nm da.insts).map (instView a (origInstProps od nm))
             = (byName (·.name) nm db.insts).map (instView b (origInstProps od nm)))))

def libAgreeNB (a b : CNetlist) (ol : Option CLib) (la lb : CLib) : Bool :=
  la.defs.length == lb.defs.length &&
  (match ol with
   | none => true
   | some o =>
     (namesOf (·.name) o.defs).all fun nm =>
       optAgree (fun da db => defAgreeNB a b (origDef ol nm) da db)
         (byName (·.name) nm la.defs) (byName (·.name) nm lb.defs))

/-- decides `examinedN o a = examinedN o b` (see `C20.examinedNEqB_iff`) -/
def examinedNEqB (o a b : CNetlist) : Bool :=
  a.libs.length == b.libs.length &&
  decide (a.top.map (instView a (o.top.bind (·.props))) = b.top.map (instView b (o.top.bind (·.props)))) &&
  ((namesOf (·.name) o.libs).all fun nm =>
    optAgree (fun la lb => libAgreeNB a b (byName (·.name) nm o.libs) la lb)
      (byName (·.name) nm a.libs) (byName (·.name) nm b.libs))

def defIdsEqB (da db : CDef) : Bool :=
  decide (da.origId = db.origId) &&
  ((namesOf (·.name) da.ports ++ namesOf (·.name) db.ports).all fun nm =>
    decide ((byName (·.name) nm da.ports).map (·.origId) = (byName (·.name) nm db.ports).map (·.origId))) &&
  ((namesOf (·.name) da.cables ++ namesOf (·.name) db.cables).all fun nm =>
    decide ((byName (·.name) nm da.cables).map (·.origId) = (byName (·.name) nm db.cables).map (·.origId))) &&
  ((namesOf (·.name) da.insts ++ namesOf (·.name) db.insts).all fun nm =>
    decide ((byName (·.name) nm da.insts).map (·.origId) = (byName (·.name) nm db.insts).map (·.origId)))

def libIdsEqB (la lb : CLib) : Bool :=
  decide (la.origId = lb.origId) &&
  ((namesOf (·.name) la.defs ++ namesOf (·.name) lb.defs).all fun nm =>
    optAgree defIdsEqB (byName (·.name) nm la.defs) (byName (·.name) nm lb.defs))

/-- decides `idents a = idents b` (see `C20.identsEqB_iff`) -/
def identsEqB (a b : CNetlist) : Bool :=
  decide (a.name = b.name) && decide (a.origId = b.origId) &&
  decide (a.top.map (·.name) = b.top.map (·.name)) && decide (a.top.map (·.origId) = b.top.map (·.origId)) &&
  ((namesOf (·.name) a.libs ++ namesOf (·.name) b.libs).all fun nm =>
    optAgree libIdsEqB (byName (·.name) nm a.libs) (byName (·.name) nm b.libs))

end Spydr.Compare
