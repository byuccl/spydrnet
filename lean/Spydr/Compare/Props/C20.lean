/-
  C20 — the netlist comparer accepts equal netlists and rejects structural differences.

  `compare` (Model.lean) is the executable model of `Comparer(a, b).compare()` AS REPAIRED by
  docs/fixes/compare_*.diff (outer pins and exact look-ups have landed in /repo; the port-pin "DRC"
  assertion and the unnamed-instance repair are proposed); `compareUnrepaired` is the pinned commit.
  `examined o n` (Spec.lean) is the name-keyed view of `n` holding exactly what the statement lists
  (port direction / width / array-ness, cable width, per wire and pin which instance, port and bit,
  instance reference, the values given to the ORIGINAL's properties, the five counts).
-/
import Spydr.Compare.LemmasDecide
import Spydr.Compare.LemmasMut

namespace Spydr.Compare.C20
open Spydr.Compare

/-- **Accepts equal netlists.**  A netlist whose wires list placed pins, whose property dicts have
    unique keys (`WF`), whose named siblings have unique names and whose `SDN_Assignment_…` instances (if
    any) carry the width token the comparer reads is accepted when compared with itself — hence with any
    copy whose `CNetlist` value is equal.  No `Named` hypothesis (unnamed elements are skipped, a net may
    touch an unnamed instance), no hypothesis on port widths (a port may have no pins), no bound on sizes. -/
theorem compare_refl (n : CNetlist) (hW : WF n) (hU : UniqueNames n) (hA : AssignOK n) :
    compare n n = .ok () :=
  compareWith_refl hU (defWF_of hW hU) (assignOK_iff.1 hA) (propKeys_iff.1 (wf_iff.1 hW).1).2

/-- **Accepts every copy that shows the same view** (completeness; the copy may list its libraries,
    definitions, ports, cables and instances in any order).  If the original is fully named with unique
    sibling names and no `SDN_Assignment_…` instance, both netlists are `WF`, the copy's named siblings are
    unique, the copy shows the same examined view and the same identifier fields (netlist name, top
    instance name, original identifiers), then the comparer returns. -/
theorem compare_complete (a b : CNetlist) (hN : Named a) (hU : UniqueNames a) (hA : NoAssign a)
    (hWa : WF a) (hWb : WF b) (hUb : UniqueNames b)
    (hv : examined a a = examined a b) (hi : idents a = idents b) : compare a b = .ok () :=
  compareWith_complete (netHyp_of hN hU hA (wf_iff.1 hWa).1) (defWF_of hWa hU) (defWF_of hWb hUb) hv hi

/-- **Rejects structural differences** (full strength).  If the original `a` is fully named with
    unique sibling names, none of its instances is named `SDN_Assignment_…`, and its property
    dictionaries have unique keys (they are Python dicts), then for EVERY `b` — no hypothesis on the
    copy at all — acceptance implies that `b` shows the same examined view as `a`:
    same five counts under every name path, same direction / width / array-ness of every port, same
    width of every cable and, wire by wire and pin by pin, the same instance, port and bit, the same
    reference for every instance and for the top instance, and the original's values in all of the
    original's property slots. -/
theorem compare_sound (a b : CNetlist) (hN : Named a) (hU : UniqueNames a) (hA : NoAssign a) (hK : PropKeys a)
    (h : compare a b = .ok ()) : examined a a = examined a b :=
  compareWith_sound (netHyp_of hN hU hA hK) h

/-- Contrapositive, as the property is phrased: any difference in what is examined raises. -/
theorem compare_sound_contrapositive (a b : CNetlist) (hN : Named a) (hU : UniqueNames a) (hA : NoAssign a)
    (hK : PropKeys a) (hne : examined a a ≠ examined a b) : ∃ fam, compare a b = .error fam :=
  exists_error_of_ne_ok fun h => hne (compare_sound a b hN hU hA hK h)

/-- **Among named elements.**  The same without `Named`: for an original whose *named* siblings have
    unique names (unnamed libraries, definitions, ports, cables, instances are allowed and skipped),
    acceptance implies equality of the view restricted to the original's named elements (`examinedN`;
    the five counts remain total). -/
theorem compare_sound_named (a b : CNetlist) (hU : UniqueNames a) (hA : NoAssign a) (hK : PropKeys a)
    (h : compare a b = .ok ()) : examinedN a a = examinedN a b :=
  compareWith_soundN (netHypN_of hU hA hK) h

theorem compare_sound_named_contrapositive (a b : CNetlist) (hU : UniqueNames a) (hA : NoAssign a)
    (hK : PropKeys a) (hne : examinedN a a ≠ examinedN a b) : ∃ fam, compare a b = .error fam :=
  exists_error_of_ne_ok fun h => hne (compare_sound_named a b hU hA hK h)

/-- The executable form of "nothing examined differs" that the driver evaluates is exactly the
    equation between views. -/
theorem examinedEqB_iff (o a b : CNetlist) : examinedEqB o a b = true ↔ examined o a = examined o b := by
  rw [View.eq_iff]
  simp only [examinedEqB, examined, Bool.and_eq_true, beq_iff_eq, List.all_eq_true, decide_eq_true_eq,
    optAgree_iff (libAgreeB_spec a b _ _)]
  rw [keyed_eq_iff (va := fun k => libView a (byName (·.name) k o.libs)) (vb := fun k => libView b (byName (·.name) k o.libs))]
  tauto

theorem examinedNEqB_iff (o a b : CNetlist) : examinedNEqB o a b = true ↔ examinedN o a = examinedN o b := by
  rw [View.eq_iff]
  simp only [examinedNEqB, examinedN, Bool.and_eq_true, beq_iff_eq, List.all_eq_true, decide_eq_true_eq,
    optAgree_iff (libAgreeNB_spec a b _), guard_eq_iff]
  tauto

theorem identsEqB_iff (a b : CNetlist) : identsEqB a b = true ↔ idents a = idents b := by
  rw [Ids.eq_iff]
  simp only [identsEqB, idents, Bool.and_eq_true, List.all_eq_true, decide_eq_true_eq, optAgree_iff libIdsEqB_spec]
  rw [keyed_eq_iff (va := fun _ => libIds) (vb := fun _ => libIds)]
  tauto

/-! ## Non-vacuity: a two-level design with a bus port, two instances and properties -/

def leaf : CDef :=
  { name := some "leaf", origId := none,
    ports := [⟨some "A", none, "IN", 1, true⟩, ⟨some "B", none, "IN", 2, false⟩],
    cables := [], insts := [] }

def topDef (moved : Bool) : CDef :=
  { name := some "top", origId := none,
    ports := [⟨some "X", none, "IN", 1, true⟩],
    cables := [⟨some "n", none, [[.port 0 0, if moved then .inst 0 1 0 else .inst 0 0 0]]⟩,
               ⟨some "m", none, [[.inst 1 1 0], [.inst 1 1 1]]⟩],
    insts := [⟨some "u1", none, .idx 0 0, some [[("identifier", "\"INIT\""), ("value", "\"8'h01\"")]]⟩,
              ⟨some "u2", none, .idx 0 0, none⟩] }

def net (moved : Bool) : CNetlist :=
  { name := some "design", origId := none,
    libs := [⟨some "work", none, [leaf, topDef moved]⟩],
    top := some ⟨some "top_i", none, .idx 0 1, none⟩ }

/-- the original -/
def exA : CNetlist := net false
/-- the copy: the connection of net `n` to `u1.A[0]` moved to `u1.B[0]` (same instance, other port) -/
def exB : CNetlist := net true

/-! the hypotheses of the theorems on `exA` and `exB`, evaluated once for all the instances below -/
theorem exA_wf : WF exA := by decide
theorem exA_named : Named exA := by decide
theorem exA_unique : UniqueNames exA := by decide
theorem exA_noAssign : NoAssign exA := by decide
theorem exA_keys : PropKeys exA := (wf_iff.1 exA_wf).1
theorem exB_hyp : WF exB ∧ Named exB ∧ UniqueNames exB := by decide

example : WF exA ∧ Named exA ∧ UniqueNames exA ∧ NoAssign exA ∧ PropKeys exA :=
  ⟨exA_wf, exA_named, exA_unique, exA_noAssign, exA_keys⟩
example : WF exB ∧ Named exB ∧ UniqueNames exB ∧ NoAssign exB := ⟨exB_hyp.1, exB_hyp.2.1, exB_hyp.2.2, by decide⟩
example : compare exA exA = .ok () := compare_refl exA exA_wf exA_unique (assignOK_of_noAssign exA_noAssign)

/-- the two examined views really differ (at cable `n` of `work.top`) -/
theorem exA_exB_differ : examined exA exA ≠ examined exA exB := by
  intro h
  have h' := congrArg (fun v : View => (v.lib "work").bind fun l => (l.defn "top").bind fun d => d.cable "n") h
  revert h'
  decide

/-- so the repaired comparer raises on this pair -/
example : ∃ fam, compare exA exB = .error fam :=
  compare_sound_contrapositive exA exB exA_named exA_unique exA_noAssign exA_keys exA_exB_differ

example : compare exA exB = .error "assert" := by decide

/-- **The pinned commit violates C20** (kept until the fix lands): `compare_outer_pins` compares the
    original's inner pin with itself, so the comparer of the pinned commit accepts the pair although
    the views differ — moving a connection to another port/bit of the same instance goes unnoticed. -/
theorem unrepaired_accepts_moved_pin :
    compareUnrepaired exA exB = .ok () ∧ examined exA exA ≠ examined exA exB ∧
    WF exA ∧ Named exA ∧ UniqueNames exA ∧ NoAssign exA ∧ WF exB ∧ Named exB ∧ UniqueNames exB :=
  ⟨by decide, exA_exB_differ, exA_wf, exA_named, exA_unique, exA_noAssign, exB_hyp⟩


/-! a partly named netlist with a pin-less port and a net on an unnamed instance -/

def leafP : CDef :=
  { name := some "leaf", origId := none,
    ports := [⟨some "A", none, "IN", 1, true⟩, ⟨some "Z", none, "OUT", 0, true⟩, ⟨none, none, "IN", 1, true⟩],
    cables := [], insts := [] }

def topP : CDef :=
  { name := some "top", origId := none, ports := [⟨some "X", none, "IN", 1, true⟩],
    cables := [⟨some "n", none, [[.port 0 0, .inst 0 0 0]]⟩, ⟨none, none, [[.inst 0 2 0]]⟩],
    insts := [⟨none, none, .idx 0 0, none⟩] }

def exP : CNetlist :=
  { name := some "design", origId := none, libs := [⟨some "work", none, [leafP, topP]⟩, ⟨none, none, []⟩],
    top := some ⟨none, none, .idx 0 1, none⟩ }

example : WF exP ∧ UniqueNames exP ∧ AssignOK exP ∧ NoAssign exP ∧ PropKeys exP ∧ ¬ Named exP := by decide
example : compare exP exP = .ok () := compare_refl exP (by decide) (by decide) (by decide)

/-- **The pinned commit rejects this netlist compared with itself** (its "at least one pin" assertion;
    with that removed, `None.startswith` on the unnamed instance). -/
theorem pinned_rejects_self : compareUnrepaired exP exP = .error "assert" ∧
    compareWith ⟨true, true, false⟩ exP exP = .error "other" := by decide

/-- the connection on the unnamed instance moved to its third port: rejected (restricted view differs) -/
def exP' : CNetlist :=
  { exP with libs := [⟨some "work", none, [leafP, { topP with
      cables := [⟨some "n", none, [[.port 0 0, .inst 0 2 0]]⟩, ⟨none, none, [[.inst 0 0 0]]⟩] }]⟩, ⟨none, none, []⟩] }

example : ∃ fam, compare exP exP' = .error fam :=
  compare_sound_named_contrapositive exP exP' (by decide) (by decide) (by decide)
    (fun h => absurd ((examinedNEqB_iff exP exP exP').2 h) (by decide))

/-! completeness: `exA` with the definitions of `work`, the cables and the instances of `top` listed in
    another order (pins re-indexed accordingly) is accepted -/

def topDefR : CDef :=
  { name := some "top", origId := none,
    ports := [⟨some "X", none, "IN", 1, true⟩],
    cables := [⟨some "m", none, [[.inst 0 1 0], [.inst 0 1 1]]⟩, ⟨some "n", none, [[.port 0 0, .inst 1 0 0]]⟩],
    insts := [⟨some "u2", none, .idx 0 1, none⟩,
              ⟨some "u1", none, .idx 0 1, some [[("identifier", "\"INIT\""), ("value", "\"8'h01\"")]]⟩] }

def exR : CNetlist :=
  { name := some "design", origId := none,
    libs := [⟨some "work", none, [topDefR, leaf]⟩],
    top := some ⟨some "top_i", none, .idx 0 0, none⟩ }

example : exR ≠ exA := by decide
example : compare exA exR = .ok () :=
  compare_complete exA exR exA_named exA_unique exA_noAssign exA_wf (by decide) (by decide)
    ((examinedEqB_iff exA exA exR).1 (by decide)) ((identsEqB_iff exA exR).1 (by decide))

/-! ## Every single structural mutation of the statement's list raises

  The copy is `setDef a li di D'` / `setLib a li L'`: the original with ONE definition (library)
  replaced.  `a` is any netlist under the hypotheses of `compare_sound` (no bound on size); the position
  `(li, di)` and the mutated element are arbitrary.  All rest on `compareWith_sound`, the theorem behind `compare_sound`,
  those inside a definition through `def_mutation_raises`. -/

/-- change a port's direction, width or array-ness (`portView` = exactly these three) -/
theorem mutation_port_raises {a : CNetlist} {li di pi : Nat} {L : CLib} {D : CDef} {P P' : CPort}
    (hN : Named a) (hU : UniqueNames a) (hA : NoAssign a) (hK : PropKeys a)
    (hat : At a li di L D) (hP : D.ports[pi]? = some P) (hname : P'.name = P.name)
    (hdiff : P'.dir ≠ P.dir ∨ P'.width ≠ P.width ∨ P'.scalar ≠ P.scalar) :
    ∃ fam, compare a (setDef a li di { D with ports := D.ports.set pi P' }) = .error fam := by
  have ha := netHyp_of hN hU hA hK
  have hD := defHyp_at ha hat
  refine def_mutation_raises ha hat rfl fun h => ?_
  obtain ⟨pn, hpn⟩ := named_get hD.namedP hP
  have := (DefView.eq_iff.1 h).2.2.2.1 pn
  simp only [defView, byName_get hD.ndP hP hpn, byName_set hD.ndP hP hpn hname, Option.map_some,
    Option.some.injEq, portView, PortView.mk.injEq, Bool.not_eq_eq_eq_not, Bool.not_not] at this
  exact hdiff.elim (· this.1.symm) (·.elim (· this.2.1.symm) (· this.2.2.symm))

/-- change a cable's width -/
theorem mutation_cable_width_raises {a : CNetlist} {li di ci : Nat} {L : CLib} {D : CDef} {C C' : CCable}
    (hN : Named a) (hU : UniqueNames a) (hA : NoAssign a) (hK : PropKeys a)
    (hat : At a li di L D) (hC : D.cables[ci]? = some C) (hname : C'.name = C.name)
    (hdiff : C'.wires.length ≠ C.wires.length) :
    ∃ fam, compare a (setDef a li di { D with cables := D.cables.set ci C' }) = .error fam := by
  have ha := netHyp_of hN hU hA hK
  have hD := defHyp_at ha hat
  refine def_mutation_raises ha hat rfl fun h => ?_
  obtain ⟨cn, hcn⟩ := named_get hD.namedC hC
  have := congrArg (Option.map List.length) ((DefView.eq_iff.1 h).2.2.2.2.1 cn)
  simp only [defView, byName_get hD.ndC hC hcn, byName_set hD.ndC hC hcn hname, Option.map_some,
    Option.some.injEq, cableView, List.length_map] at this
  exact hdiff this.symm

/-- move one connection to another port, another bit or another instance: pin `k` of wire `wi` of
    cable `ci` becomes a *different* placed pin `p'` -/
theorem mutation_move_connection_raises {a : CNetlist} {li di ci wi k : Nat} {L : CLib} {D : CDef} {C : CCable}
    {w : List CPin} {p p' : CPin}
    (hN : Named a) (hU : UniqueNames a) (hA : NoAssign a) (hK : PropKeys a)
    (hat : At a li di L D) (hC : D.cables[ci]? = some C) (hw : C.wires[wi]? = some w) (hp : w[k]? = some p)
    (hpOK : pinOK a D p = true) (hp'OK : pinOK a D p' = true) (hne : p' ≠ p) :
    ∃ fam, compare a (setDef a li di
      { D with cables := D.cables.set ci { C with wires := C.wires.set wi (w.set k p') } }) = .error fam :=
  have ha := netHyp_of hN hU hA hK
  pin_move_raises ha hat hC hw hp (pinView_ne ha (defHyp_at ha hat) hp'OK hpOK hne)

/-- drop one connection of a net, add one, or move one to another net: any copy of the definition (same
    name, unique cable names) in which wire `wi` of the same-named cable lists another number of pins -/
theorem mutation_wire_pincount_raises {a : CNetlist} {li di ci ci' wi : Nat} {L : CLib} {D D' : CDef}
    {C C' : CCable} {w w' : List CPin}
    (hN : Named a) (hU : UniqueNames a) (hA : NoAssign a) (hK : PropKeys a)
    (hat : At a li di L D) (hname : D'.name = D.name) (hndC' : (namesOf (·.name) D'.cables).Nodup)
    (hC : D.cables[ci]? = some C) (hC' : D'.cables[ci']? = some C') (hcn : C'.name = C.name)
    (hw : C.wires[wi]? = some w) (hw' : C'.wires[wi]? = some w') (hne : w'.length ≠ w.length) :
    ∃ fam, compare a (setDef a li di D') = .error fam := by
  have ha := netHyp_of hN hU hA hK
  have hD := defHyp_at ha hat
  refine def_mutation_raises ha hat hname fun h => ?_
  obtain ⟨cn, hcn'⟩ := named_get hD.namedC hC
  have := congrArg (Option.bind · fun ws => (ws[wi]?).map List.length) ((DefView.eq_iff.1 h).2.2.2.2.1 cn)
  simp only [defView, byName_get hD.ndC hC hcn', byName_get hndC' hC' (hcn.trans hcn'), Option.map_some,
    Option.bind_some, cableView, List.getElem?_map, hw, hw', List.length_map, Option.some.injEq] at this
  exact hne this.symm

/-- re-point an instance to another definition of the netlist -/
theorem mutation_repoint_raises {a : CNetlist} {li di ki lj dj lk dk : Nat} {L K K' : CLib} {D E E' : CDef}
    {I : CInst}
    (hN : Named a) (hU : UniqueNames a) (hA : NoAssign a) (hK : PropKeys a)
    (hat : At a li di L D) (hI : D.insts[ki]? = some I) (hold : I.ref = .idx lj dj) (hE : At a lj dj K E)
    (hE' : At a lk dk K' E') (hne : (lk, dk) ≠ (lj, dj)) :
    ∃ fam, compare a (setDef a li di { D with insts := D.insts.set ki { I with ref := .idx lk dk } }) = .error fam :=
  have ha := netHyp_of hN hU hA hK
  inst_mutation_raises (I' := { I with ref := .idx lk dk }) ha hat hI rfl
    (Or.inl (by rw [hold]; exact refView_idx_ne ha hE' hE hne))

/-- change or drop a property of an instance: any new property list that gives one of the
    original's slots another value (or none), or no property list at all -/
theorem mutation_property_raises {a : CNetlist} {li di ki : Nat} {L : CLib} {D : CDef} {I : CInst}
    {newProps : Option (List Dict)}
    (hN : Named a) (hU : UniqueNames a) (hA : NoAssign a) (hK : PropKeys a)
    (hat : At a li di L D) (hI : D.insts[ki]? = some I)
    (hdiff : propsView I.props newProps ≠ propsView I.props I.props) :
    ∃ fam, compare a (setDef a li di { D with insts := D.insts.set ki { I with props := newProps } }) = .error fam :=
  inst_mutation_raises (I' := { I with props := newProps }) (netHyp_of hN hU hA hK) hat hI rfl (Or.inr hdiff)

/-- drop or add one port, cable or instance -/
theorem mutation_element_count_raises {a : CNetlist} {li di : Nat} {L : CLib} {D D' : CDef}
    (hN : Named a) (hU : UniqueNames a) (hA : NoAssign a) (hK : PropKeys a)
    (hat : At a li di L D) (hname : D'.name = D.name)
    (hdiff : D'.ports.length ≠ D.ports.length ∨ D'.cables.length ≠ D.cables.length ∨ D'.insts.length ≠ D.insts.length) :
    ∃ fam, compare a (setDef a li di D') = .error fam := by
  refine def_mutation_raises (netHyp_of hN hU hA hK) hat hname fun h => ?_
  obtain ⟨h1, h2, h3, _⟩ := DefView.eq_iff.1 h
  exact hdiff.elim (· h1.symm) (·.elim (· h2.symm) (· h3.symm))

/-- drop or add one definition -/
theorem mutation_definition_count_raises {a : CNetlist} {li : Nat} {L L' : CLib}
    (hN : Named a) (hU : UniqueNames a) (hA : NoAssign a) (hK : PropKeys a)
    (hL : a.libs[li]? = some L) (hname : L'.name = L.name) (hdiff : L'.defs.length ≠ L.defs.length) :
    ∃ fam, compare a (setLib a li L') = .error fam := by
  have ha := netHyp_of hN hU hA hK
  refine exists_error_of_ne_ok fun h => hdiff ?_
  obtain ⟨ln, hln⟩ := named_get ha.named hL
  have := congrArg (Option.map LibView.nDefs) ((View.eq_iff.1 (compareWith_sound ha h)).2.1 ln)
  simp only [examined, byName_get ha.nd hL hln, setLib, byName_set ha.nd hL hln hname, Option.map_some,
    libView, Option.some.injEq] at this
  exact this.symm

/-- drop or add one library (no hypothesis at all) -/
theorem mutation_library_count_raises {a b : CNetlist} (hdiff : b.libs.length ≠ a.libs.length) :
    ∃ fam, compare a b = .error fam := by
  refine exists_error_of_ne_ok fun h => hdiff ?_
  simp only [compare, compareWith, andThen_ok, check_ok, beq_iff_eq] at h
  exact h.2.2.2.1.symm

/-! non-vacuity: the mutations instantiated on `exA` -/

theorem exA_at : At exA 0 1 ⟨some "work", none, [leaf, topDef false]⟩ (topDef false) := ⟨rfl, rfl⟩

def cableN : CCable := ⟨some "n", none, [[.port 0 0, .inst 0 0 0]]⟩
def portX : CPort := ⟨some "X", none, "IN", 1, true⟩
def instU1 : CInst := ⟨some "u1", none, .idx 0 0, some [[("identifier", "\"INIT\""), ("value", "\"8'h01\"")]]⟩

def cableN' : CCable := { cableN with wires := cableN.wires.set 0 ([CPin.port 0 0, .inst 0 0 0].set 1 (.inst 0 1 0)) }
def topMoved : CDef := { (topDef false) with cables := (topDef false).cables.set 0 cableN' }
def topDirChanged : CDef := { (topDef false) with ports := (topDef false).ports.set 0 { portX with dir := "OUT" } }
def topPropsDropped : CDef := { (topDef false) with insts := (topDef false).insts.set 0 { instU1 with props := none } }
def topRepointed : CDef := { (topDef false) with insts := (topDef false).insts.set 0 { instU1 with ref := .idx 0 1 } }

/-- `exB` is `exA` with the connection `u1.A[0]` of net `n` moved to `u1.B[0]` -/
example : exB = setDef exA 0 1 topMoved := by decide

example : ∃ fam, compare exA (setDef exA 0 1 topMoved) = .error fam :=
  mutation_move_connection_raises (p := .inst 0 0 0) exA_named exA_unique exA_noAssign exA_keys exA_at
    (C := cableN) rfl rfl rfl (by decide) (by decide) (by decide)

/-- the connection `u2.B[1]` moved from wire 1 of net `m` to net `n` -/
def topMovedToOtherWire : CDef := { (topDef false) with
  cables := [⟨some "n", none, [[.port 0 0, .inst 0 0 0, .inst 1 1 1]]⟩, ⟨some "m", none, [[.inst 1 1 0], []]⟩] }

example : ∃ fam, compare exA (setDef exA 0 1 topMovedToOtherWire) = .error fam :=
  mutation_wire_pincount_raises (C := cableN) (ci := 0) (ci' := 0) (wi := 0) exA_named exA_unique exA_noAssign exA_keys
    exA_at rfl (by decide) rfl rfl rfl rfl rfl (by decide)

example : ∃ fam, compare exA (setDef exA 0 1 topDirChanged) = .error fam :=
  mutation_port_raises (P := portX) exA_named exA_unique exA_noAssign exA_keys
    exA_at rfl rfl (Or.inl (by decide))

example : ∃ fam, compare exA (setDef exA 0 1 topPropsDropped) = .error fam :=
  mutation_property_raises (I := instU1) exA_named exA_unique exA_noAssign exA_keys exA_at rfl (by decide)

example : ∃ fam, compare exA (setDef exA 0 1 topRepointed) = .error fam :=
  mutation_repoint_raises (I := instU1) exA_named exA_unique exA_noAssign exA_keys exA_at rfl rfl
    (⟨rfl, rfl⟩ : At exA 0 0 _ leaf) exA_at (by decide)

end Spydr.Compare.C20
