/-
  C20 — the (repaired) comparer model on definitions, libraries and netlists: an accepted copy shows the
  same view (`…_sound` for `examined`, `…_soundN` for the view restricted to the original's names), a
  netlist is accepted against itself (`…_refl`), and a copy that shows the same view and the same
  identifier fields is accepted (`…_complete`).  Each level is one name-keyed loop (`Matched`) over the
  level below.  The file opens with what the levels need: extensionality of the view records (`DefView.eq_iff` …), the
  Bool hypotheses of the theorems as quantified statements (`named_iff` … `wf_iff`), and the hypotheses cut to one level:
  `DefHyp` / `LibHyp` / `NetHyp` (original: named, unique, no `SDN_Assignment_…`, property keys), their `…N` forms
  without the `Named` part (for `…_soundN`), and `DefWF` (what `_refl` and `_complete` need of either netlist);
  `netHyp_of`, `netHypN_of`, `defWF_of` build them from the hypotheses of the C20 theorems.
-/
import Spydr.Compare.LemmasClauses

namespace Spydr.Compare

theorem DefView.eq_iff {x y : DefView} : x = y ↔
    x.nPorts = y.nPorts ∧ x.nCables = y.nCables ∧ x.nInsts = y.nInsts ∧ (∀ nm, x.port nm = y.port nm) ∧
    (∀ nm, x.cable nm = y.cable nm) ∧ (∀ nm, x.inst nm = y.inst nm) := by
  cases x; cases y; simp [funext_iff]

theorem LibView.eq_iff {x y : LibView} : x = y ↔ x.nDefs = y.nDefs ∧ (∀ nm, x.defn nm = y.defn nm) := by
  cases x; cases y; simp [funext_iff]

theorem View.eq_iff {x y : View} : x = y ↔ x.nLibs = y.nLibs ∧ (∀ nm, x.lib nm = y.lib nm) ∧ x.top = y.top := by
  cases x; cases y; simp [funext_iff]

theorem DefIds.eq_iff {x y : DefIds} : x = y ↔
    x.origId = y.origId ∧ (∀ nm, x.port nm = y.port nm) ∧ (∀ nm, x.cable nm = y.cable nm) ∧
    (∀ nm, x.inst nm = y.inst nm) := by
  cases x; cases y; simp [funext_iff]

theorem LibIds.eq_iff {x y : LibIds} : x = y ↔ x.origId = y.origId ∧ (∀ nm, x.defn nm = y.defn nm) := by
  cases x; cases y; simp [funext_iff]

theorem Ids.eq_iff {x y : Ids} : x = y ↔ x.name = y.name ∧ x.origId = y.origId ∧ x.topName = y.topName ∧
    x.topOrig = y.topOrig ∧ (∀ nm, x.lib nm = y.lib nm) := by
  cases x; cases y; simp [funext_iff]

theorem named_iff {n : CNetlist} : Named n ↔ allNamed (·.name) n.libs = true ∧ ∀ l ∈ n.libs,
    allNamed (·.name) l.defs = true ∧ ∀ d ∈ l.defs,
      allNamed (·.name) d.ports = true ∧ allNamed (·.name) d.cables = true ∧ allNamed (·.name) d.insts = true := by
  simp [Named, namedB, and_assoc]

theorem noAssign_iff {n : CNetlist} : NoAssign n ↔
    ∀ l ∈ n.libs, ∀ d ∈ l.defs, ∀ i ∈ d.insts, ∀ nm, i.name = some nm → isAssign nm = false := by
  simp only [NoAssign, noAssignB, List.all_eq_true]
  refine forall₂_congr fun l _ => forall₂_congr fun d _ => forall₂_congr fun i _ => ?_
  cases i.name <;> simp [isAssign_eq]

theorem assignOK_iff {n : CNetlist} : AssignOK n ↔
    ∀ l ∈ n.libs, ∀ d ∈ l.defs, ∀ i ∈ d.insts, ∀ nm, i.name = some nm → isAssign nm = true → (tok nm).isSome := by
  simp only [AssignOK, assignOkB, List.all_eq_true]
  refine forall₂_congr fun l _ => forall₂_congr fun d _ => forall₂_congr fun i _ => ?_
  cases i.name with
  | none => simp
  | some nm => cases h : startsWithAssign nm <;> simp [isAssign_eq, tok_eq, h]

theorem assignOK_of_noAssign {n : CNetlist} (h : NoAssign n) : AssignOK n := by
  refine assignOK_iff.2 fun l hl d hd i hi nm hnm hA => ?_
  rw [noAssign_iff.1 h l hl d hd i hi nm hnm] at hA
  cases hA

theorem propKeys_iff {n : CNetlist} : PropKeys n ↔
    (∀ l ∈ n.libs, ∀ d ∈ l.defs, ∀ i ∈ d.insts, keysNodupB i.props = true) ∧
    ∀ t, n.top = some t → keysNodupB t.props = true := by
  simp only [PropKeys, propKeysB, Bool.and_eq_true, List.all_eq_true]
  cases n.top <;> simp

theorem wf_iff {n : CNetlist} : WF n ↔ PropKeys n ∧
    ∀ l ∈ n.libs, ∀ d ∈ l.defs, ∀ c ∈ d.cables, ∀ w ∈ c.wires, ∀ p ∈ w, pinOK n d p = true := by
  simp only [WF, wfB, PropKeys, propKeysB, Bool.and_eq_true, List.all_eq_true]
  constructor
  · exact fun h => ⟨⟨fun l hl d hd => (h.1 l hl d hd).1, h.2⟩, fun l hl d hd => (h.1 l hl d hd).2⟩
  · exact fun h => ⟨fun l hl d hd => ⟨h.1.1 l hl d hd, h.2 l hl d hd⟩, h.1.2⟩

/-- hypotheses about one definition of the original -/
structure DefHyp (d : CDef) : Prop where
  namedP : allNamed (·.name) d.ports = true
  namedC : allNamed (·.name) d.cables = true
  namedI : allNamed (·.name) d.insts = true
  ndP : (namesOf (·.name) d.ports).Nodup
  ndC : (namesOf (·.name) d.cables).Nodup
  ndI : (namesOf (·.name) d.insts).Nodup
  noAssign : ∀ i ∈ d.insts, ∀ nm, i.name = some nm → isAssign nm = false
  keys : ∀ i ∈ d.insts, keysNodupB i.props = true

structure LibHyp (l : CLib) : Prop where
  named : allNamed (·.name) l.defs = true
  nd : (namesOf (·.name) l.defs).Nodup
  defs : ∀ d ∈ l.defs, DefHyp d

structure NetHyp (n : CNetlist) : Prop where
  named : allNamed (·.name) n.libs = true
  nd : (namesOf (·.name) n.libs).Nodup
  libs : ∀ l ∈ n.libs, LibHyp l
  topKeys : ∀ t, n.top = some t → keysNodupB t.props = true

/-! The same without the `Named` part: what soundness for the restricted view needs. -/

structure DefHypN (d : CDef) : Prop where
  ndP : (namesOf (·.name) d.ports).Nodup
  ndC : (namesOf (·.name) d.cables).Nodup
  ndI : (namesOf (·.name) d.insts).Nodup
  noAssign : ∀ i ∈ d.insts, ∀ nm, i.name = some nm → isAssign nm = false
  keys : ∀ i ∈ d.insts, keysNodupB i.props = true

structure LibHypN (l : CLib) : Prop where
  nd : (namesOf (·.name) l.defs).Nodup
  defs : ∀ d ∈ l.defs, DefHypN d

structure NetHypN (n : CNetlist) : Prop where
  nd : (namesOf (·.name) n.libs).Nodup
  libs : ∀ l ∈ n.libs, LibHypN l
  topKeys : ∀ t, n.top = some t → keysNodupB t.props = true

theorem DefHyp.toN {d : CDef} (h : DefHyp d) : DefHypN d := ⟨h.ndP, h.ndC, h.ndI, h.noAssign, h.keys⟩

theorem NetHyp.toN {n : CNetlist} (h : NetHyp n) : NetHypN n :=
  ⟨h.nd, fun l hl => ⟨(h.libs l hl).nd, fun d hd => ((h.libs l hl).defs d hd).toN⟩, h.topKeys⟩

theorem netHypN_of {n : CNetlist} (hU : UniqueNames n) (hA : NoAssign n) (hK : PropKeys n) : NetHypN n :=
  ⟨hU.1, fun l hl => ⟨(hU.2 l hl).1, fun d hd =>
    have hUd := (hU.2 l hl).2 d hd
    ⟨hUd.1, hUd.2.1, hUd.2.2, noAssign_iff.1 hA l hl d hd, (propKeys_iff.1 hK).1 l hl d hd⟩⟩,
   (propKeys_iff.1 hK).2⟩

theorem netHyp_of {n : CNetlist} (hN : Named n) (hU : UniqueNames n) (hA : NoAssign n) (hK : PropKeys n) :
    NetHyp n :=
  have hN := named_iff.1 hN
  have h := netHypN_of hU hA hK
  ⟨hN.1, h.nd, fun l hl => ⟨(hN.2 l hl).1, (h.libs l hl).nd, fun d hd =>
    have hNd := (hN.2 l hl).2 d hd
    have hd := (h.libs l hl).defs d hd
    ⟨hNd.1, hNd.2.1, hNd.2.2, hd.ndP, hd.ndC, hd.ndI, hd.noAssign, hd.keys⟩⟩, h.topKeys⟩

/-- what `WF` and `UniqueNames` say of one definition -/
structure DefWF (n : CNetlist) (d : CDef) : Prop where
  ndP : (namesOf (·.name) d.ports).Nodup
  ndC : (namesOf (·.name) d.cables).Nodup
  ndI : (namesOf (·.name) d.insts).Nodup
  keys : ∀ i ∈ d.insts, keysNodupB i.props = true
  pins : ∀ c ∈ d.cables, ∀ w ∈ c.wires, ∀ p ∈ w, pinOK n d p = true

theorem defWF_of {n : CNetlist} (hW : WF n) (hU : UniqueNames n) : ∀ l ∈ n.libs, ∀ d ∈ l.defs, DefWF n d :=
  fun l hl d hd =>
    have hUd := (hU.2 l hl).2 d hd
    ⟨hUd.1, hUd.2.1, hUd.2.2, (propKeys_iff.1 (wf_iff.1 hW).1).1 l hl d hd, (wf_iff.1 hW).2 l hl d hd⟩

theorem origInstProps_self {d : CDef} {nm : String} {i : CInst} (h : byName (·.name) nm d.insts = some i) :
    origInstProps (some d) nm = i.props := by
  simp [origInstProps, h]

theorem origDef_some (l : CLib) (nm : String) : origDef (some l) nm = byName (·.name) nm l.defs := rfl

theorem cmpDef_matched {a b : CNetlist} {lA lB : Option String} {dA dB : CDef} (hd : DefHypN dA)
    (h : cmpDef cfgFixed a b lA lB dA dB = .ok ()) :
    (dA.ports.length = dB.ports.length ∧ dA.cables.length = dB.cables.length ∧
      dA.insts.length = dB.insts.length) ∧
    Matched (·.name) (·.name) dA.ports dB.ports (fun _ p q => portView p = portView q) ∧
    Matched (·.name) (·.name) dA.cables dB.cables (fun _ c c' => cableView a dA c = cableView b dB c') ∧
    Matched (·.name) (·.name) dA.insts dB.insts (fun nm i j =>
      instView a (origInstProps (some dA) nm) i = instView b (origInstProps (some dA) nm) j) := by
  simp only [cmpDef, andThen_ok, check_ok, beq_iff_eq, allM_ok] at h
  obtain ⟨_, _, hlp, hP, hlc, hC, hli, hI, _⟩ := h
  refine ⟨⟨hlp, hlc, hli⟩, ?_, ?_, fun nm i hi => ?_⟩
  · exact ((matched_iff_loop hd.ndP).1 hP).imp fun _ _ _ _ _ h => (cmpPort_ok_iff.1 h).2.2.1
  · exact ((matched_iff_loop hd.ndC).1 hC).imp fun _ _ _ _ _ h => cmpCable_sound hd.noAssign h
  · obtain ⟨him, hin⟩ := byName_some hi
    have := hI i him
    simp only [hin, hd.noAssign i him nm hin, Bool.false_eq_true, if_false, withFound_ok] at this
    obtain ⟨j, hj, hij⟩ := this
    refine ⟨j, hj, ?_⟩
    simp only [origInstProps_self hi]
    exact ((cmpInst_ok_iff (hd.keys i him)).1 hij).2.2

theorem cmpDef_sound {a b : CNetlist} {lA lB : Option String} {dA dB : CDef} (hd : DefHyp dA)
    (h : cmpDef cfgFixed a b lA lB dA dB = .ok ()) : defView a (some dA) dA = defView b (some dA) dB := by
  obtain ⟨⟨hlp, hlc, hli⟩, hP, hC, hI⟩ := cmpDef_matched hd.toN h
  exact DefView.eq_iff.2 ⟨hlp, hlc, hli, hP.map_eq hd.namedP hd.ndP hlp, hC.map_eq hd.namedC hd.ndC hlc,
    hI.map_eq hd.namedI hd.ndI hli⟩

theorem cmpDef_soundN {a b : CNetlist} {lA lB : Option String} {dA dB : CDef} (hd : DefHypN dA)
    (h : cmpDef cfgFixed a b lA lB dA dB = .ok ()) : defViewN a (some dA) dA = defViewN b (some dA) dB := by
  obtain ⟨⟨hlp, hlc, hli⟩, hP, hC, hI⟩ := cmpDef_matched hd h
  exact DefView.eq_iff.2 ⟨hlp, hlc, hli, hP.guard_eq, hC.guard_eq, hI.guard_eq⟩

theorem toks_some : ∀ (l : List String), (∀ s ∈ l, (tok s).isSome) → ∃ ts, toks l = some ts
  | [], _ => ⟨[], rfl⟩
  | s :: r, h => by
    obtain ⟨t, ht⟩ := Option.isSome_iff_exists.1 (h s (by simp))
    obtain ⟨ts, hts⟩ := toks_some r fun x hx => h x (by simp [hx])
    exact ⟨t :: ts, by simp [toks, ht, hts]⟩

theorem assignCheck_refl {d : CDef}
    (htok : ∀ i ∈ d.insts, ∀ nm, i.name = some nm → isAssign nm = true → (tok nm).isSome) :
    assignCheck d d = .ok () := by
  have hall : ∀ s ∈ assignNames d, (tok s).isSome := by
    intro s hs
    obtain ⟨hs1, hs2⟩ := List.mem_filter.1 hs
    obtain ⟨i, hi, hin⟩ := List.mem_filterMap.1 hs1
    exact htok i hi s hin hs2
  obtain ⟨ts, hts⟩ := toks_some _ hall
  simp [assignCheck, hts]

theorem assignNames_nil {d : CDef} (hna : ∀ i ∈ d.insts, ∀ nm, i.name = some nm → isAssign nm = false) :
    assignNames d = [] := by
  refine List.filter_eq_nil_iff.2 fun nm hnm => ?_
  obtain ⟨i, hi, hin⟩ := List.mem_filterMap.1 hnm
  simp [hna i hi nm hin]

theorem cmpDef_refl {n : CNetlist} {ln : Option String} {d : CDef} (hd : DefWF n d)
    (htok : ∀ i ∈ d.insts, ∀ nm, i.name = some nm → isAssign nm = true → (tok nm).isSome) :
    cmpDef cfgFixed n n ln ln d d = .ok () := by
  simp only [cmpDef, andThen_ok, check_ok, beq_self_eq_true, true_and, allM_ok]
  refine ⟨?_, ?_, fun i hi => ?_, assignCheck_refl htok⟩
  · exact (matched_iff_loop hd.ndP).2 (.refl fun _ _ _ => cmpPort_ok_iff.2 ⟨rfl, rfl, rfl, rfl, rfl⟩)
  · exact (matched_iff_loop hd.ndC).2 (.refl fun _ c hc => cmpCable_refl htok (hd.pins c hc))
  · cases hn : i.name with
    | none => rfl
    | some nm =>
      dsimp only
      split
      · rfl
      · exact withFound_ok.2
          ⟨i, byName_of_mem_nodup hd.ndI hi hn, (cmpInst_ok_iff (hd.keys i hi)).2 ⟨rfl, rfl, rfl⟩⟩

theorem cmpDef_complete {a b : CNetlist} {lA lB : Option String} {dA dB : CDef}
    (hd : DefHyp dA) (hA : DefWF a dA) (hB : DefWF b dB) (hn : dA.name = dB.name) (hl : lA = lB)
    (hv : defView a (some dA) dA = defView b (some dA) dB) (hi : defIds dA = defIds dB) :
    cmpDef cfgFixed a b lA lB dA dB = .ok () := by
  obtain ⟨hlp, hlc, hli, hvP, hvC, hvI⟩ := DefView.eq_iff.1 hv
  obtain ⟨hiO, hiP, hiC, hiI⟩ := DefIds.eq_iff.1 hi
  have hrefs : ∀ i ∈ dA.insts, ∀ j ∈ dB.insts, i.name = j.name → refView a i.ref = refView b j.ref := by
    intro i hi j hj hij
    obtain ⟨nm, hnm⟩ := named_of_mem hd.namedI hi
    have := hvI nm
    simp only [defView, byName_of_mem_nodup hd.ndI hi hnm, byName_of_mem_nodup hB.ndI hj (hij ▸ hnm),
      Option.map_some, Option.some.injEq] at this
    exact congrArg InstView.ref this
  -- every instance name of the copy is one of the original's, none of which is an `SDN_Assignment_…` name
  have hnaB : ∀ j ∈ dB.insts, ∀ nm, j.name = some nm → isAssign nm = false := by
    intro j hj nm hjn
    cases hx : byName (·.name) nm dA.insts with
    | none =>
      have := hvI nm
      simp only [defView, hx, byName_of_mem_nodup hB.ndI hj hjn, Option.map_none, Option.map_some] at this
      cases this
    | some x => exact hd.noAssign x (byName_some hx).1 nm (byName_some hx).2
  simp only [cmpDef, andThen_ok, check_ok, beq_iff_eq, allM_ok]
  refine ⟨hn, hiO, hlp, ?_, hlc, ?_, hli, fun i him => ?_, ?_⟩
  · exact (matched_iff_loop hd.ndP).2 <| ((Matched.of_map_eq hvP).and (.of_map_eq hiP)).imp
      fun _ _ _ hp hq h => cmpPort_ok_iff.2 ⟨byName_name_eq hp hq, h.2, h.1, hn, hl⟩
  · exact (matched_iff_loop hd.ndC).2 <| ((Matched.of_map_eq hvC).and (.of_map_eq hiC)).imp
      fun _ c c' hc hc' h => cmpCable_complete hn hl (byName_name_eq hc hc') h.2 hd.noAssign hrefs
        (hA.pins c (byName_some hc).1) (hB.pins c' (byName_some hc').1) h.1
  · cases hin : i.name with
    | none => rfl
    | some nm =>
      have hx := byName_of_mem_nodup hd.ndI him hin
      obtain ⟨j, hj, hvj, hoj⟩ := ((Matched.of_map_eq hvI).and (.of_map_eq hiI)) nm i hx
      rw [origInstProps_self hx] at hvj
      simp only [hd.noAssign i him nm hin, Bool.false_eq_true, if_false, withFound_ok]
      exact ⟨j, hj, (cmpInst_ok_iff (hd.keys i him)).2 ⟨byName_name_eq hx hj, hoj, hvj⟩⟩
  · simp [assignCheck, assignNames_nil hd.noAssign, assignNames_nil hnaB, toks]

theorem cmpLib_ok_iff {cfg : Cfg} {a b : CNetlist} {lA lB : CLib} (hnd : (namesOf (·.name) lA.defs).Nodup) :
    cmpLib cfg a b lA lB = .ok () ↔
      lA.name = lB.name ∧ lA.origId = lB.origId ∧ lA.defs.length = lB.defs.length ∧
      Matched (·.name) (·.name) lA.defs lB.defs fun _ d d' => cmpDef cfg a b lA.name lB.name d d' = .ok () := by
  rw [← matched_iff_loop hnd]
  simp only [cmpLib, andThen_ok, check_ok, beq_iff_eq, allM_ok]
  rfl

theorem cmpLib_sound {a b : CNetlist} {lA lB : CLib} (hl : LibHyp lA)
    (h : cmpLib cfgFixed a b lA lB = .ok ()) : libView a (some lA) lA = libView b (some lA) lB := by
  obtain ⟨_, _, hlen, hD⟩ := (cmpLib_ok_iff hl.nd).1 h
  refine LibView.eq_iff.2 ⟨hlen, Matched.map_eq (hD.imp fun nm d _ hd _ h => ?_) hl.named hl.nd hlen⟩
  simp only [origDef_some, hd]
  exact cmpDef_sound (hl.defs d (byName_some hd).1) h

theorem cmpLib_soundN {a b : CNetlist} {lA lB : CLib} (hl : LibHypN lA)
    (h : cmpLib cfgFixed a b lA lB = .ok ()) : libViewN a (some lA) lA = libViewN b (some lA) lB := by
  obtain ⟨_, _, hlen, hD⟩ := (cmpLib_ok_iff hl.nd).1 h
  refine LibView.eq_iff.2 ⟨hlen, Matched.guard_eq (hD.imp fun nm d _ hd _ h => ?_)⟩
  simp only [origDef_some, hd]
  exact cmpDef_soundN (hl.defs d (byName_some hd).1) h

theorem cmpLib_complete {a b : CNetlist} {lA lB : CLib} (hl : LibHyp lA)
    (hA : ∀ d ∈ lA.defs, DefWF a d) (hB : ∀ d ∈ lB.defs, DefWF b d) (hn : lA.name = lB.name)
    (hv : libView a (some lA) lA = libView b (some lA) lB) (hi : libIds lA = libIds lB) :
    cmpLib cfgFixed a b lA lB = .ok () := by
  obtain ⟨hlen, hvD⟩ := LibView.eq_iff.1 hv
  obtain ⟨hiO, hiD⟩ := LibIds.eq_iff.1 hi
  refine (cmpLib_ok_iff hl.nd).2 ⟨hn, hiO, hlen, ((Matched.of_map_eq hvD).and (.of_map_eq hiD)).imp
    fun nm d d' hd hd' h => ?_⟩
  have hvd := h.1
  rw [origDef_some, hd] at hvd
  exact cmpDef_complete (hl.defs d (byName_some hd).1) (hA d (byName_some hd).1) (hB d' (byName_some hd').1)
    (byName_name_eq hd hd') hn hvd h.2

/-- the comparison of the two top instances (either may be absent) -/
theorem cmpTop_ok_iff {a b : CNetlist} (hk : ∀ t, a.top = some t → keysNodupB t.props = true) :
    (if b.top.isSome || a.top.isSome then cmpInst a b a.top b.top else ok) = .ok () ↔
      a.top.map (·.name) = b.top.map (·.name) ∧ a.top.map (·.origId) = b.top.map (·.origId) ∧
      a.top.map (instView a (a.top.bind (·.props))) = b.top.map (instView b (a.top.bind (·.props))) := by
  cases hta : a.top with
  | none => cases b.top <;> simp [cmpInst_none_left]
  | some t => cases b.top <;> simp [cmpInst_none_right, cmpInst_ok_iff (hk t hta)]

theorem compareWith_ok_iff {a b : CNetlist} (hnd : (namesOf (·.name) a.libs).Nodup)
    (hk : ∀ t, a.top = some t → keysNodupB t.props = true) :
    compareWith cfgFixed a b = .ok () ↔
      a.name = b.name ∧ a.origId = b.origId ∧
      (a.top.map (·.name) = b.top.map (·.name) ∧ a.top.map (·.origId) = b.top.map (·.origId) ∧
        a.top.map (instView a (a.top.bind (·.props))) = b.top.map (instView b (a.top.bind (·.props)))) ∧
      a.libs.length = b.libs.length ∧
      Matched (·.name) (·.name) a.libs b.libs fun _ l l' => cmpLib cfgFixed a b l l' = .ok () := by
  rw [← matched_iff_loop hnd, ← cmpTop_ok_iff hk]
  simp only [compareWith, andThen_ok, check_ok, beq_iff_eq, allM_ok]
  rfl

theorem compareWith_sound {a b : CNetlist} (ha : NetHyp a)
    (h : compareWith cfgFixed a b = .ok ()) : examined a a = examined a b := by
  obtain ⟨_, _, ⟨_, _, htop⟩, hlen, hL⟩ := (compareWith_ok_iff ha.nd ha.topKeys).1 h
  refine View.eq_iff.2 ⟨hlen, Matched.map_eq (hL.imp fun nm l _ hl _ h => ?_) ha.named ha.nd hlen, htop⟩
  simp only [hl]
  exact cmpLib_sound (ha.libs l (byName_some hl).1) h

theorem compareWith_soundN {a b : CNetlist} (ha : NetHypN a)
    (h : compareWith cfgFixed a b = .ok ()) : examinedN a a = examinedN a b := by
  obtain ⟨_, _, ⟨_, _, htop⟩, hlen, hL⟩ := (compareWith_ok_iff ha.nd ha.topKeys).1 h
  refine View.eq_iff.2 ⟨hlen, Matched.guard_eq (hL.imp fun nm l _ hl _ h => ?_), htop⟩
  simp only [hl]
  exact cmpLib_soundN (ha.libs l (byName_some hl).1) h

theorem compareWith_refl {n : CNetlist} (hU : UniqueNames n) (hD : ∀ l ∈ n.libs, ∀ d ∈ l.defs, DefWF n d)
    (htok : ∀ l ∈ n.libs, ∀ d ∈ l.defs, ∀ i ∈ d.insts, ∀ nm, i.name = some nm → isAssign nm = true →
      (tok nm).isSome)
    (hk : ∀ t, n.top = some t → keysNodupB t.props = true) : compareWith cfgFixed n n = .ok () :=
  (compareWith_ok_iff hU.1 hk).2 ⟨rfl, rfl, ⟨rfl, rfl, rfl⟩, rfl, .refl fun _ l hl =>
    (cmpLib_ok_iff (hU.2 l hl).1).2 ⟨rfl, rfl, rfl, .refl fun _ d hd =>
      cmpDef_refl (hD l hl d hd) (htok l hl d hd)⟩⟩

theorem compareWith_complete {a b : CNetlist} (ha : NetHyp a)
    (hA : ∀ l ∈ a.libs, ∀ d ∈ l.defs, DefWF a d) (hB : ∀ l ∈ b.libs, ∀ d ∈ l.defs, DefWF b d)
    (hv : examined a a = examined a b) (hi : idents a = idents b) : compareWith cfgFixed a b = .ok () := by
  obtain ⟨hlen, hvL, hvT⟩ := View.eq_iff.1 hv
  obtain ⟨hN, hO, hTn, hTo, hiL⟩ := Ids.eq_iff.1 hi
  refine (compareWith_ok_iff ha.nd ha.topKeys).2 ⟨hN, hO, ⟨hTn, hTo, hvT⟩, hlen,
    ((Matched.of_map_eq hvL).and (.of_map_eq hiL)).imp fun nm l l' hl hl' h => ?_⟩
  have hvl := h.1
  rw [hl] at hvl
  exact cmpLib_complete (ha.libs l (byName_some hl).1) (hA l (byName_some hl).1) (hB l' (byName_some hl').1)
    (byName_name_eq hl hl') hvl h.2

end Spydr.Compare
