/-
  C20 — what the clauses of the (repaired) comparer model accept, element by element: a port, an
  instance with its reference and properties, a pin, a cable.  Where the clause is an equivalence with
  an equation between views it is stated as one, so that "accepted ⇒ same view", "same view ⇒ accepted"
  and "accepted against itself" are its two directions and an instance.  The cable clause is not one: the pin comparison
  also checks the reference of the instance a pin sits on, which `pinView` does not hold, so "same view ⇒ accepted" needs
  hypotheses on the copy that "accepted ⇒ same view" must not have (`cmpCable_sound`, `cmpCable_complete`).
  The specification repeats some model functions under its own names; `isAssign_eq`, `tok_eq`, `resolve_spec`,
  `lookupKey_eq_valueOf`, `resolvePin_cases` are the bridges.
-/
import Spydr.Compare.Lemmas

namespace Spydr.Compare

theorem isAssign_eq (s : String) : isAssign s = startsWithAssign s := rfl

theorem tok_eq (nm : String) : tok nm = (splitUnderscore nm.toList)[3]? := rfl

theorem cmpPort_ok_iff {dA lA dB lB : Option String} {p q : CPort} :
    cmpPort cfgFixed dA lA dB lB p q = .ok () ↔
      p.name = q.name ∧ p.origId = q.origId ∧ portView p = portView q ∧ dA = dB ∧ lA = lB := by
  simp only [cmpPort, portView, andThen_ok, check_ok, beq_iff_eq, Bool.and_eq_true, PortView.mk.injEq,
    Bool.not_eq_eq_eq_not, Bool.not_not, if_true, true_and]
  tauto

theorem resolve_spec (n : CNetlist) (r : CRef) :
    refView n r = (resolve n r).map (fun i => (i.dname, i.lname)) ∧
    refPorts n r = ((resolve n r).map (·.ports)).getD [] := by
  cases r with
  | none => exact ⟨rfl, rfl⟩
  | ext dn ln => exact ⟨rfl, rfl⟩
  | idx li di =>
    simp only [refView, refPorts, resolve]
    cases n.libs[li]? with
    | none => exact ⟨rfl, rfl⟩
    | some L => dsimp only; cases L.defs[di]? <;> exact ⟨rfl, rfl⟩

theorem lookupKey_eq_valueOf (k : String) (d : Dict) : lookupKey k d = valueOf k d := by
  induction d with
  | nil => rfl
  | cons kv r ih => simp only [lookupKey, valueOf, ih]

theorem valueOf_of_mem_nodup {d : Dict} (hnd : (d.map (·.1)).Nodup) {kv : String × String} (hm : kv ∈ d) :
    valueOf kv.1 d = some kv.2 := by
  induction d with
  | nil => simp at hm
  | cons e r ih =>
    simp only [List.map_cons, List.nodup_cons] at hnd
    rcases List.mem_cons.1 hm with rfl | hm'
    · simp [valueOf]
    · have : e.1 ≠ kv.1 := fun h => hnd.1 (h ▸ List.mem_map.2 ⟨kv, hm', rfl⟩)
      simp only [valueOf, this, if_false]
      exact ih hnd.2 hm'

theorem cmpDict_ok_iff {d : Dict} {pc : Option Dict} :
    cmpDict d pc = .ok () ↔ ∀ kv ∈ d, some kv.2 = pc.bind (valueOf kv.1) := by
  unfold cmpDict
  rw [allM_ok]
  refine forall₂_congr fun kv _ => ?_
  cases pc with
  | none => simp
  | some c => cases h : valueOf kv.1 c <;> simp [lookupKey_eq_valueOf, h]

theorem keysNodup_some {l : List Dict} (h : keysNodupB (some l) = true) : ∀ d ∈ l, (d.map (·.1)).Nodup := by
  simpa [keysNodupB] using h

theorem cmpPropsL_ok_iff : ∀ {po pc : List Dict}, (∀ d ∈ po, (d.map (·.1)).Nodup) →
    (cmpPropsL po pc = .ok () ↔ slots po po = slots po pc)
  | [], pc, _ => by cases pc <;> simp [cmpPropsL, slots]
  | d :: ds, pc, hnd => by
    have hd : ∀ kv ∈ d, valueOf kv.1 d = some kv.2 := fun kv => valueOf_of_mem_nodup (hnd d (by simp))
    have ih := fun cs => cmpPropsL_ok_iff (po := ds) (pc := cs) fun e he => hnd e (by simp [he])
    cases pc <;>
      simp +contextual [cmpPropsL, slots, cmpDict_ok_iff, ih, hd]

theorem propsView_eq_iff {po pc : Option (List Dict)} :
    propsView po po = propsView po pc ↔
      ∀ l, po = some l → ∃ l', pc = some l' ∧ slots l l = slots l l' := by
  cases po <;> cases pc <;> simp [propsView]

theorem cmpInst_ok_iff {a b : CNetlist} {i j : CInst} (hk : keysNodupB i.props = true) :
    cmpInst a b (some i) (some j) = .ok () ↔
      i.name = j.name ∧ i.origId = j.origId ∧ instView a i.props i = instView b i.props j := by
  simp only [cmpInst, optName, optOrig, Option.bind_some, andThen_ok, check_ok, beq_iff_eq, instView,
    InstView.mk.injEq, (resolve_spec a _).1, (resolve_spec b _).1, propsView_eq_iff]
  refine and_congr_right fun _ => and_congr_right fun _ => and_congr ?_ ?_
  · cases resolve a i.ref <;> cases resolve b j.ref <;> simp
    all_goals split <;> simp
  · cases hp : i.props with
    | none => simp
    | some po => cases j.props <;> simp [cmpPropsL_ok_iff (keysNodup_some (hp ▸ hk))]

theorem cmpInst_none_left {a b : CNetlist} {ic : Option CInst} : cmpInst a b none ic ≠ .ok () := by
  simp [cmpInst]

theorem cmpInst_none_right {a b : CNetlist} {io : Option CInst} : cmpInst a b io none ≠ .ok () := by
  cases io <;> simp [cmpInst]

/-- what the Spec sees of a resolved pin -/
def viewOfR : PinR → PinView
  | .inner pn b => .inner pn b
  | .outer i _ _ pn b => .outer i pn b

def PinR.instName : PinR → Option String
  | .inner _ _ => none
  | .outer i _ _ _ _ => i

/-- One case analysis relates the model's `resolvePin` to the specification's `pinOK` and `pinView`:
    a pin is placed iff it resolves, its view is the view of what it resolves to, and an outer pin
    belongs to an instance of the definition whose reference is the one the pin carries. -/
theorem resolvePin_cases (n : CNetlist) (d : CDef) (p : CPin) :
    (pinOK n d p = false ∧ resolvePin n d p = none) ∨
    ∃ r, pinOK n d p = true ∧ resolvePin n d p = some r ∧ pinView n d p = viewOfR r ∧
      ∀ ia rd rl pn b, r = .outer ia rd rl pn b → ∃ i ∈ d.insts, i.name = ia ∧ refView n i.ref = some (rd, rl) := by
  cases p with
  | bad => exact .inl ⟨rfl, rfl⟩
  | port pi bit =>
    simp only [pinOK, resolvePin, pinView]
    cases d.ports[pi]? with
    | none => exact .inl ⟨rfl, rfl⟩
    | some q => by_cases h : bit < q.width <;> simp [h, viewOfR]
  | inst ii pi bit =>
    simp only [pinOK, resolvePin, pinView]
    cases hi : d.insts[ii]? with
    | none => exact .inl ⟨rfl, rfl⟩
    | some i =>
      simp only [(resolve_spec n i.ref).2]
      have hv := (resolve_spec n i.ref).1
      cases hr : resolve n i.ref with
      | none => exact .inl ⟨rfl, rfl⟩
      | some ri =>
        simp only [Option.map_some, Option.getD_some]
        cases ri.ports[pi]? with
        | none => exact .inl ⟨rfl, rfl⟩
        | some q =>
          by_cases h : bit < q.width <;> simp [h, viewOfR]
          rintro _ _ _ _ _ rfl rfl rfl - -
          exact ⟨i, List.mem_of_getElem? hi, rfl, by rw [hv, hr]; rfl⟩

theorem resolvePin_of_pinOK {n : CNetlist} {d : CDef} {p : CPin} (h : pinOK n d p = true) :
    ∃ r, resolvePin n d p = some r := by
  rcases resolvePin_cases n d p with ⟨h', _⟩ | ⟨r, _, hr, _⟩
  · rw [h] at h'; cases h'
  · exact ⟨r, hr⟩

theorem pinView_of_resolvePin {n : CNetlist} {d : CDef} {p : CPin} {r : PinR}
    (h : resolvePin n d p = some r) : pinView n d p = viewOfR r := by
  rcases resolvePin_cases n d p with ⟨_, h'⟩ | ⟨r', _, hr, hv, _⟩
  · rw [h] at h'; cases h'
  · cases h.symm.trans hr; exact hv

theorem resolvePin_outer {n : CNetlist} {d : CDef} {p : CPin} {ia rd rl pn : Option String} {b : Nat}
    (h : resolvePin n d p = some (.outer ia rd rl pn b)) :
    ∃ i ∈ d.insts, i.name = ia ∧ refView n i.ref = some (rd, rl) := by
  rcases resolvePin_cases n d p with ⟨_, h'⟩ | ⟨r', _, hr, _, ho⟩
  · rw [h] at h'; cases h'
  · exact ho _ _ _ _ _ (Option.some.inj (hr.symm.trans h))

theorem resolvePin_instName {n : CNetlist} {d : CDef} {p : CPin} {r : PinR} {nm : String}
    (h : resolvePin n d p = some r) (hnm : r.instName = some nm) : ∃ i ∈ d.insts, i.name = some nm := by
  cases r with
  | inner => cases hnm
  | outer ia rd rl pn b =>
    obtain ⟨i, hi, hin, _⟩ := resolvePin_outer h
    exact ⟨i, hi, hin.trans hnm⟩

theorem innerEquiv_ok_iff {pa pb da db la lb : Option String} {ba bb : Nat} :
    innerEquiv pa pb da db la lb ba bb = .ok () ↔ ba = bb ∧ pa = pb ∧ da = db ∧ la = lb := by
  simp only [innerEquiv, andThen_ok, check_ok, beq_iff_eq, Bool.and_eq_true, and_assoc]

/-- on a name that does not follow the `SDN_Assignment_…` convention the instance clause is plain equality -/
theorem instEquiv_ok_iff {ia ib rda rdb rla rlb dA dB lA lB : Option String}
    (hna : ∀ nm, ia = some nm → isAssign nm = false) :
    instEquiv cfgFixed ia ib rda rdb rla rlb dA dB lA lB = .ok () ↔
      ia = ib ∧ rda = rdb ∧ rla = rlb ∧ dA = dB ∧ lA = lB := by
  cases ia with
  | none => cases ib <;> simp [instEquiv, and_assoc]
  | some na => cases ib <;> simp [instEquiv, hna na rfl, and_assoc]

/-- against itself it holds also on an `SDN_Assignment_…` name, provided the name carries the width token -/
theorem instEquiv_self {ia rd rl dn ln : Option String}
    (htok : ∀ nm, ia = some nm → isAssign nm = true → (tok nm).isSome) :
    instEquiv cfgFixed ia ia rd rd rl rl dn dn ln ln = .ok () := by
  cases ia with
  | none => simp [instEquiv]
  | some na =>
    cases hA : isAssign na with
    | false => simp [instEquiv, hA]
    | true =>
      obtain ⟨t, ht⟩ := Option.isSome_iff_exists.1 (htok na rfl hA)
      simp [instEquiv, hA, ht]

theorem cmpPin_ok_iff {dA lA dB lB : Option String} {x : PinR} {ry : Option PinR}
    (hna : ∀ nm, x.instName = some nm → isAssign nm = false) :
    cmpPin cfgFixed dA lA dB lB (some x) ry = .ok () ↔ ry = some x ∧ dA = dB ∧ lA = lB := by
  rcases ry with _ | y
  · cases x <;> simp [cmpPin]
  cases x with
  | inner pa ba =>
    cases y with
    | outer => simp [cmpPin]
    | inner pb bb =>
      simp only [cmpPin, innerEquiv_ok_iff, Option.some.injEq, PinR.inner.injEq]
      constructor
      · rintro ⟨rfl, rfl, hd, hl⟩; exact ⟨⟨rfl, rfl⟩, hd, hl⟩
      · rintro ⟨⟨rfl, rfl⟩, hd, hl⟩; exact ⟨rfl, rfl, hd, hl⟩
  | outer ia rda rla pa ba =>
    cases y with
    | inner => simp [cmpPin]
    | outer ib rdb rlb pb bb =>
      have hna : ∀ nm, ia = some nm → isAssign nm = false := hna
      simp only [cmpPin, andThen_ok, innerEquiv_ok_iff, instEquiv_ok_iff hna, if_true, Option.some.injEq,
        PinR.outer.injEq]
      constructor
      · rintro ⟨⟨rfl, rfl, rfl, hd, hl⟩, rfl, rfl, -⟩; exact ⟨⟨rfl, rfl, rfl, rfl, rfl⟩, hd, hl⟩
      · rintro ⟨⟨rfl, rfl, rfl, rfl, rfl⟩, hd, hl⟩; exact ⟨⟨rfl, rfl, rfl, hd, hl⟩, rfl, rfl, rfl, rfl⟩

/-- a resolved pin is accepted against itself, also on an `SDN_Assignment_…` instance whose name carries
    the width token the comparer reads -/
theorem cmpPin_self {dn ln : Option String} {x : PinR}
    (htok : ∀ nm, x.instName = some nm → isAssign nm = true → (tok nm).isSome) :
    cmpPin cfgFixed dn ln dn ln (some x) (some x) = .ok () := by
  cases x with
  | inner => simp [cmpPin, innerEquiv_ok_iff]
  | outer ia rd rl pa ba =>
    have htok : ∀ nm, ia = some nm → isAssign nm = true → (tok nm).isSome := htok
    simp [cmpPin, innerEquiv_ok_iff, instEquiv_self htok]

theorem cmpCable_ok_iff {cfg : Cfg} {a b : CNetlist} {lA lB : Option String} {dA dB : CDef} {ca cb : CCable} :
    cmpCable cfg a b lA lB dA dB ca cb = .ok () ↔ ca.name = cb.name ∧ ca.origId = cb.origId ∧
      List.Forall₂ (List.Forall₂ fun pa pb =>
        cmpPin cfg dA.name lA dB.name lB (resolvePin a dA pa) (resolvePin b dB pb) = .ok ()) ca.wires cb.wires := by
  simp only [cmpCable, andThen_ok, check_ok, beq_iff_eq, allM2_ok]

theorem cableView_eq_iff {a b : CNetlist} {dA dB : CDef} {ca cb : CCable} :
    cableView a dA ca = cableView b dB cb ↔
      List.Forall₂ (List.Forall₂ fun pa pb => pinView a dA pa = pinView b dB pb) ca.wires cb.wires := by
  simp only [cableView, map_eq_map_iff]

theorem cmpCable_sound {a b : CNetlist} {lA lB : Option String} {dA dB : CDef} {ca cb : CCable}
    (hna : ∀ i ∈ dA.insts, ∀ nm, i.name = some nm → isAssign nm = false)
    (h : cmpCable cfgFixed a b lA lB dA dB ca cb = .ok ()) : cableView a dA ca = cableView b dB cb := by
  refine cableView_eq_iff.2 ((cmpCable_ok_iff.1 h).2.2.imp fun _ _ hw => hw.imp fun pa pb hp => ?_)
  cases hx : resolvePin a dA pa with
  | none => simp [hx, cmpPin] at hp
  | some x =>
    rw [hx, cmpPin_ok_iff] at hp
    · rw [pinView_of_resolvePin hx, pinView_of_resolvePin hp.1]
    · intro nm hnm
      obtain ⟨i, hi, hin⟩ := resolvePin_instName hx hnm
      exact hna i hi nm hin

theorem cmpCable_refl {n : CNetlist} {ln : Option String} {d : CDef} {c : CCable}
    (htok : ∀ i ∈ d.insts, ∀ nm, i.name = some nm → isAssign nm = true → (tok nm).isSome)
    (hpins : ∀ w ∈ c.wires, ∀ p ∈ w, pinOK n d p = true) :
    cmpCable cfgFixed n n ln ln d d c c = .ok () := by
  refine cmpCable_ok_iff.2 ⟨rfl, rfl, List.forall₂_same.2 fun w hw => List.forall₂_same.2 fun p hp => ?_⟩
  obtain ⟨r, hr⟩ := resolvePin_of_pinOK (hpins w hw p hp)
  rw [hr]
  refine cmpPin_self fun nm hnm => ?_
  obtain ⟨i, hi, hin⟩ := resolvePin_instName hr hnm
  exact htok i hi nm hin

theorem cmpCable_complete {a b : CNetlist} {lA lB : Option String} {dA dB : CDef} {ca cb : CCable}
    (hdn : dA.name = dB.name) (hl : lA = lB) (hcn : ca.name = cb.name) (hco : ca.origId = cb.origId)
    (hna : ∀ i ∈ dA.insts, ∀ nm, i.name = some nm → isAssign nm = false)
    (hrefs : ∀ i ∈ dA.insts, ∀ j ∈ dB.insts, i.name = j.name → refView a i.ref = refView b j.ref)
    (hpa : ∀ w ∈ ca.wires, ∀ p ∈ w, pinOK a dA p = true)
    (hpb : ∀ w ∈ cb.wires, ∀ p ∈ w, pinOK b dB p = true)
    (hv : cableView a dA ca = cableView b dB cb) :
    cmpCable cfgFixed a b lA lB dA dB ca cb = .ok () := by
  refine cmpCable_ok_iff.2 ⟨hcn, hco, forall₂_imp_mem (cableView_eq_iff.1 hv) fun wa hwa wb hwb hw =>
    forall₂_imp_mem hw fun pa hpa' pb hpb' hpv => ?_⟩
  obtain ⟨x, hx⟩ := resolvePin_of_pinOK (hpa wa hwa pa hpa')
  obtain ⟨y, hy⟩ := resolvePin_of_pinOK (hpb wb hwb pb hpb')
  rw [pinView_of_resolvePin hx, pinView_of_resolvePin hy] at hpv
  rw [hx, hy, cmpPin_ok_iff]
  · refine ⟨?_, hdn, hl⟩
    cases x with
    | inner => cases y <;> simp_all [viewOfR]
    | outer ia rd rl pn bt =>
      cases y with
      | inner => simp [viewOfR] at hpv
      | outer ib rd' rl' pn' bt' =>
        obtain ⟨i, hi, hin, hir⟩ := resolvePin_outer hx
        obtain ⟨j, hj, hjn, hjr⟩ := resolvePin_outer hy
        simp only [viewOfR, PinView.outer.injEq] at hpv
        have := hrefs i hi j hj (by rw [hin, hjn, hpv.1])
        simp_all
  · intro nm hnm
    obtain ⟨i, hi, hin⟩ := resolvePin_instName hx hnm
    exact hna i hi nm hin

end Spydr.Compare
