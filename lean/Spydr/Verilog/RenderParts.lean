/-
  The text the writer produces, part by part (body port declarations, net declarations, header ports), in terms of
  the written syntax: of a work module (`astPort`: `bodyPorts_fold`, `headerPorts_text`) and of a `celldefine` module
  (`astLeafPort`, and `astLeafPortU` for a port without direction: `leafU_ports_text`).
-/
import Spydr.Verilog.WriterSyntax
namespace Spydr.Verilog.Elab
open Spydr.Verilog
open Spydr.Verilog.Text (starConstraints fixName showInt dirString bracketsDefining)

/-- the options of the fragment: everything is written from the top, primitives are not written, parameters in `#( )` -/
def optsFrag : Text.Opts := ⟨none, false, false⟩

def starText (a : Attrs) : String := starConstraints (some a)

theorem starConstraints_getD (a : Option Attrs) : starConstraints a = starText (a.getD []) := by
  cases a with
  | none => rfl
  | some l => rfl

def brText : Option (Int × Int) → String
  | none => ""
  | some (a, b) => "[" ++ showInt a ++ ":" ++ showInt b ++ "]"

theorem bracketsDefining_eq (lower : Int) (width : Nat) (hw : 1 ≤ width) :
    bracketsDefining lower width = some (brText (emitDeclRange lower width)) := by
  unfold bracketsDefining
  cases h : emitDeclRange lower width with
  | none => rfl
  | some p =>
    obtain ⟨m, l⟩ := p
    have : ¬ width = 0 := by omega
    simp [this, brText]

def dirStr : Dir → String
  | .inp => "input"
  | .out => "output"
  | .inout => "inout"
  | .undef => "/* undefined port direction */ inout"

theorem dirString_of (s : String) (d : Dir) (h : dirOfS s = some d) : dirString s = dirStr d := by
  unfold dirOfS at h
  split at h <;> first | (cases h; rfl) | cases h

/-- one line of `_write_module_body_ports` -/
def portLine (p : PDecl) : String :=
  starText p.attrs ++ "    " ++ dirStr p.dir ++ " " ++ brText p.rng ++ fixName p.name ++ ";\n"

/-- one line of `_write_module_body_cables` -/
def wireLine (w : FWire) : String :=
  starText w.attrs ++ "    " ++ w.ty ++ " " ++ brText w.rng ++ fixName w.name ++ ";\n"

theorem cablesOfPins_same (nm : String) : ∀ (bs : List (Option Bit)) (acc : List String), acc = [nm] →
    (∀ b ∈ bs, ∃ i, b = some (⟨nm, i⟩ : Bit)) →
    bs.foldl (fun acc p => match p with
      | some b => if acc.contains b.cable then acc else acc ++ [b.cable]
      | none => acc) acc = [nm] := by
  intro bs
  induction bs with
  | nil => intro acc h _; simpa using h
  | cons b bs ih =>
    intro acc h hb
    obtain ⟨i, e⟩ := hb b List.mem_cons_self
    simp only [List.foldl_cons, e]
    apply ih _ _ (fun x hx => hb x (List.mem_cons_of_mem _ hx))
    rw [h]; simp

theorem cablesOfPins_whole (nm : String) (lo : Int) (w : Nat) (hw : 1 ≤ w) :
    Text.cablesOfPins ((cableBits nm lo w).items.map some) = [nm] := by
  unfold Text.cablesOfPins cableBits
  obtain ⟨w', hw'⟩ : ∃ w', w = w' + 1 := ⟨w - 1, by omega⟩
  subst hw'
  rw [List.range_succ_eq_map]
  simp only [List.map_cons, List.foldl_cons]
  apply cablesOfPins_same nm
  · simp
  · intro b hb
    simp only [List.map_map, List.mem_map] at hb
    obtain ⟨k, _, e⟩ := hb
    exact ⟨_, e.symm⟩

theorem join_cons (a : String) (l : List String) : String.join (a :: l) = a ++ String.join l :=
  String.join_cons

theorem join_nil : String.join [] = "" := rfl

theorem join_append (l1 l2 : List String) : String.join (l1 ++ l2) = String.join l1 ++ String.join l2 :=
  String.join_append

def PortFrag (T : Text.WDef) (p : Text.WPort) : Prop :=
  ∀ nm, p.name = some nm → ∀ c, T.cables.find? (fun c => c.name == nm) = some c →
    p.lower = c.lower ∧ p.width = c.width ∧ p.pins = (cableBits nm c.lower c.width).items.map some ∧ 1 ≤ c.width

/-- the loop body of `_write_module_body_ports` -/
def bpStep (T : Text.WDef) (acc : String × List String) (p : Text.WPort) : Except String (String × List String) := do
  let (txt, written) := acc
  let cs := Text.cablesOfPins p.pins
  let decls : List (String × Int × Nat) ←
    if cs.isEmpty then
      match p.name with
      | some n => pure [(n, p.lower, p.width)]
      | none => throw "name of o is not set"
    else pure (cs.filterMap (fun c => (T.cables.find? (fun x => x.name == c)).map (fun x => (x.name, x.lower, x.width))))
  decls.foldlM (fun (acc : String × List String) dc => do
    let (txt, written) := acc
    if written.contains dc.1 then pure (txt, written) else
    match bracketsDefining dc.2.1 dc.2.2 with
    | none => throw "assert: bundle has 0 width"
    | some br =>
      pure (txt ++ starConstraints p.attrs ++ "    " ++ dirString p.dir ++ " " ++ br ++ fixName dc.1 ++ ";\n", written ++ [dc.1])) (txt, written)

theorem bodyPortsText_eq (T : Text.WDef) :
    Text.bodyPortsText T = (do
      let r ← T.ports.foldlM (bpStep T) ("", [])
      pure (r.1 ++ "\n")) := rfl

theorem cablesOfPins_free : ∀ (pins : List (Option Bit)) (acc : List String), pins.all (fun x => x.isNone) = true →
    pins.foldl (fun acc p => match p with
      | some b => if acc.contains b.cable then acc else acc ++ [b.cable]
      | none => acc) acc = acc := by
  intro pins
  induction pins with
  | nil => intro acc _; rfl
  | cons p ps ih =>
    intro acc h
    simp only [List.all_cons, Bool.and_eq_true] at h
    cases p with
    | none => simp only [List.foldl_cons]; exact ih acc h.2
    | some v => simp at h

/-- one step of the body port declarations on a port whose pins are free or one whole net: one line, with the port's own
    range; the direction enters the text only through `dirString p.dir` -/
theorem bpStep_line (r : Text.WDef) (p : Text.WPort) (nm : String) (dq : Dir) (txt : String) (written : List String)
    (hn : p.name = some nm) (hds : Text.dirString p.dir = dirStr dq) (hw : 1 ≤ p.width)
    (hcase : p.pins.all (fun b => b.isNone) = true ∨
      ∃ c, r.cables.find? (fun c => c.name == nm) = some c ∧ p.lower = c.lower ∧ p.width = c.width ∧
        p.pins = (cableBits nm c.lower c.width).items.map some)
    (hnw : nm ∉ written) :
    bpStep r (txt, written) p =
      .ok (txt ++ portLine ⟨nm, dq, emitDeclRange p.lower p.width, p.attrs.getD []⟩, written ++ [nm]) := by
  have hnotw : written.contains nm = false := by simpa using hnw
  rcases hcase with hfree | ⟨c, hfc, hl, hwd, hpins⟩
  · have hcs : Text.cablesOfPins p.pins = [] := cablesOfPins_free p.pins [] hfree
    unfold bpStep
    simp only [bind, Except.bind, hcs, List.isEmpty_nil, if_true, hn, pure, Except.pure, List.foldlM_cons, List.foldlM_nil,
      hnotw, Bool.false_eq_true, if_false, bracketsDefining_eq p.lower p.width hw]
    simp only [portLine, starConstraints_getD, hds, String.append_assoc]
  · have hcw : 1 ≤ c.width := by rw [← hwd]; exact hw
    have hcs : Text.cablesOfPins p.pins = [nm] := by rw [hpins]; exact cablesOfPins_whole nm c.lower c.width hcw
    have hcn : c.name = nm := by simpa using List.find?_some hfc
    unfold bpStep
    simp only [bind, Except.bind, hcs, List.isEmpty_cons, Bool.false_eq_true, if_false, pure, Except.pure,
      List.filterMap_cons, hfc, Option.map_some, List.filterMap_nil, List.foldlM_cons, List.foldlM_nil, hcn, hnotw,
      bracketsDefining_eq c.lower c.width hcw]
    rw [hl, hwd]
    simp only [portLine, starConstraints_getD, hds, String.append_assoc]

theorem bpStep_port (T : Text.WDef) (p : Text.WPort) (mp : PDecl) (txt : String) (written : List String)
    (hfr : PortFrag T p) (hp : astPort T p = some mp) (hnw : mp.name ∉ written) :
    bpStep T (txt, written) p = .ok (txt ++ portLine mp, written ++ [mp.name]) := by
  obtain ⟨nm, c, dir, hn, hc, hd, rfl⟩ := astPort_spec T p mp hp
  obtain ⟨f1, f2, f3, f4⟩ := hfr nm hn c hc
  rw [← f1, ← f2]
  exact bpStep_line T p nm dir txt written hn (dirString_of p.dir dir hd) (f2 ▸ f4) (Or.inr ⟨c, hc, f1, f2, f3⟩) hnw

theorem bodyPorts_steps (r : Text.WDef) (ast : Text.WPort → Option PDecl) :
    ∀ (ps : List Text.WPort) (qs : List PDecl) (txt : String) (written : List String),
    (∀ p ∈ ps, ∀ q txt written, ast p = some q → q.name ∉ written →
      bpStep r (txt, written) p = .ok (txt ++ portLine q, written ++ [q.name])) →
    ps.mapM ast = some qs → (∀ q ∈ qs, q.name ∉ written) → (qs.map (·.name)).Nodup →
    ps.foldlM (bpStep r) (txt, written) = .ok (txt ++ String.join (qs.map portLine), written ++ qs.map (·.name)) := by
  intro ps
  induction ps with
  | nil =>
    intro qs txt written _ hm _ _
    cases hm
    simp [pure, Except.pure]
  | cons p ps ih =>
    intro qs txt written hstep hm hnw hnd
    obtain ⟨q, qs', hp, hrest, rfl⟩ := mapM_cons_some hm
    rw [List.map_cons, List.nodup_cons] at hnd
    have hrec := ih qs' (txt ++ portLine q) (written ++ [q.name]) (fun x hx => hstep x (List.mem_cons_of_mem _ hx)) hrest
      (by
        intro q' hq' hmem
        rcases List.mem_append.mp hmem with h | h
        · exact hnw q' (List.mem_cons_of_mem _ hq') h
        · simp only [List.mem_singleton] at h
          exact hnd.1 (List.mem_map.mpr ⟨q', hq', h⟩))
      hnd.2
    rw [List.foldlM_cons]
    simp only [bind, Except.bind, hstep p List.mem_cons_self q txt written hp (hnw q List.mem_cons_self)]
    rw [hrec]
    simp [String.append_assoc]

theorem bodyPorts_fold (T : Text.WDef) (ps : List Text.WPort) (mps : List PDecl) (txt : String) (written : List String)
    (hm : ps.mapM (astPort T) = some mps) (hfr : ∀ p ∈ ps, PortFrag T p)
    (hnw : ∀ p ∈ ps, ∀ nm, p.name = some nm → nm ∉ written) (hnd : (ps.map (·.name)).Nodup) :
    ps.foldlM (bpStep T) (txt, written) = .ok (txt ++ String.join (mps.map portLine), written ++ mps.map (·.name)) := by
  refine bodyPorts_steps T (astPort T) ps mps txt written (fun p hp q t w => bpStep_port T p q t w (hfr p hp)) hm ?_
    (astPorts_nodup T mps hm hnd)
  intro q hq
  have : some q.name ∈ ps.map (·.name) := astPorts_names T mps hm ▸ List.mem_map_of_mem (List.mem_map_of_mem hq)
  obtain ⟨p, hp, e⟩ := List.mem_map.mp this
  exact hnw p hp q.name e

def cabStep (txt : String) (c : Text.WCable) : Except String String :=
  match bracketsDefining c.lower c.width with
  | none => throw "assert: bundle has 0 width"
  | some br => pure (txt ++ starConstraints c.attrs ++ "    " ++ c.ctype.getD "wire" ++ " " ++ br ++ fixName c.name ++ ";\n")

theorem bodyCablesText_eq (T : Text.WDef) :
    Text.bodyCablesText T = (do let t ← T.cables.reverse.foldlM cabStep ""; pure (t ++ "\n")) := rfl

theorem cables_fold : ∀ (cs : List Text.WCable) (txt : String), (∀ c ∈ cs, 1 ≤ c.width) →
    cs.foldlM cabStep txt = .ok (txt ++ String.join ((cs.map astWire).map wireLine)) := by
  intro cs
  induction cs with
  | nil => intro txt _; simp [pure, Except.pure]
  | cons c cs ih =>
    intro txt h
    have hstep : cabStep txt c = .ok (txt ++ wireLine (astWire c)) := by
      unfold cabStep
      simp only [bracketsDefining_eq c.lower c.width (h c List.mem_cons_self), pure, Except.pure]
      simp [wireLine, astWire, starConstraints_getD, String.append_assoc]
    simp only [List.foldlM_cons, bind, Except.bind, hstep]
    rw [ih _ (fun x hx => h x (List.mem_cons_of_mem _ hx))]
    simp [String.append_assoc]

theorem bodyCables_text (T : Text.WDef) (h : ∀ c ∈ T.cables, 1 ≤ c.width) :
    Text.bodyCablesText T = .ok (String.join ((T.cables.reverse.map astWire).map wireLine) ++ "\n") := by
  rw [bodyCablesText_eq]
  simp only [bind, Except.bind]
  rw [cables_fold T.cables.reverse "" (fun c hc => h c (List.mem_reverse.mp hc))]
  simp [pure, Except.pure]

theorem mapM_opt_exc_mem {α β γ : Type} (fo : α → Option β) (fe : α → Except String γ) (g : β → γ) :
    ∀ (l : List α) (r : List β), l.mapM fo = some r → (∀ a ∈ l, ∀ b ∈ r, fo a = some b → fe a = .ok (g b)) →
    l.mapM fe = .ok (r.map g) := by
  intro l
  induction l with
  | nil => intro r hm _; cases hm; rfl
  | cons a l ih =>
    intro r hm h
    obtain ⟨b, r', ha, hr, rfl⟩ := mapM_cons_some hm
    rw [List.mapM_cons]
    simp only [bind, Except.bind, h a List.mem_cons_self b List.mem_cons_self ha, pure, Except.pure, List.map_cons,
      ih r' hr (fun x hx y hy => h x (List.mem_cons_of_mem _ hx) y (List.mem_cons_of_mem _ hy))]

theorem mapM_opt_exc {α β γ : Type} (fo : α → Option β) (fe : α → Except String γ) (g : β → γ)
    (h : ∀ a b, fo a = some b → fe a = .ok (g b)) : ∀ (l : List α) (r : List β), l.mapM fo = some r →
    l.mapM fe = .ok (r.map g) :=
  fun l r hm => mapM_opt_exc_mem fo fe g l r hm (fun a _ b _ => h a b)

theorem mapM_congr_some {α β : Type} {f g : α → Option β} : ∀ (l : List α) (r : List β),
    (∀ a ∈ l, ∀ b, f a = some b → g a = some b) → l.mapM f = some r → l.mapM g = some r
  | [], _, _, h => h
  | a :: l, r, hfg, h => by
    obtain ⟨b, r', ha, hr, rfl⟩ := mapM_cons_some h
    rw [List.mapM_cons, hfg a List.mem_cons_self b ha,
      mapM_congr_some l r' (fun x hx => hfg x (List.mem_cons_of_mem _ hx)) hr]; rfl

theorem headerPort_top (T : Text.WDef) (p : Text.WPort) (mp : PDecl) (hp : astPort T p = some mp) :
    Text.headerPortText T p = .ok ("    " ++ fixName mp.name) := by
  unfold astPort at hp
  split at hp
  · cases hp
  · rename_i nm hn
    split at hp
    · split at hp
      · rename_i he
        cases hp
        unfold Text.headerPortText
        simp only [hn, bind, Except.bind, pure, Except.pure, he]
      · cases hp
    · cases hp

theorem headerPorts_text (T : Text.WDef) : ∀ (ps : List Text.WPort) (mps : List PDecl), ps.mapM (astPort T) = some mps →
    ps.mapM (Text.headerPortText T) = .ok (mps.map (fun p => "    " ++ fixName p.name)) :=
  mapM_opt_exc (astPort T) _ _ (headerPort_top T)

def asgStep (n : Text.WNet) (T : Text.WDef) (txt : String) (i : Text.WInst) : Except String String :=
  match Text.refOf n i.ref with
  | some r =>
    if r.lib != "SDN_VERILOG_ASSIGNMENT" then pure txt else
    let idx (nm : String) := r.ports.findIdx? (fun p => p.name == some nm)
    match idx "i", idx "o" with
    | some ki, some ko =>
      match emitAssign (Text.envOf T) (i.pins.getD ko []) (i.pins.getD ki []) with
      | some (l, rr) => pure (txt ++ "assign " ++ Text.atomText l ++ " = " ++ Text.atomText rr ++ ";\n")
      | none => throw "assert: assignment"
    | _, _ => throw "assert: instance does not appear to be an assignment"
  | none => throw "attribute: reference"

theorem assignsText_eq (n : Text.WNet) (T : Text.WDef) : Text.assignsText n T = T.insts.foldlM (asgStep n T) "" := rfl

theorem headerPort_leaf (r : Text.WDef) (p : Text.WPort) (q : PDecl) (h : astLeafPort r p = some q) :
    Text.headerPortText r p = .ok ("    " ++ fixName q.name) := by
  obtain ⟨nm, dir, hn, _, _, _, e, hcase⟩ := astLeafPort_spec r p q h
  have he : emitHeaderPort (Text.envOf r) nm p.pins = some none := by
    rcases hcase with hfree | ⟨c, _, _, _, _, he⟩
    · unfold emitHeaderPort isConcatenated
      simp only [isConcatGo_none (some nm) p.pins false false none hfree, Bool.false_eq_true, if_false]
    · exact he
  unfold Text.headerPortText
  simp only [hn, bind, Except.bind, pure, Except.pure, he]
  rw [e]

theorem dirString_undef (s : String) (h : dirOfS s = none) : dirString s = dirStr .undef := by
  unfold dirOfS at h
  split at h
  · cases h
  · cases h
  · cases h
  · rename_i h1 h2 h3
    unfold dirString
    split
    · exact absurd rfl h1
    · exact absurd rfl h2
    · exact absurd rfl h3
    · rfl

theorem headerPort_leafU (r : Text.WDef) (p : Text.WPort) (q : PDecl) (h : astLeafPortU r p = some q) :
    Text.headerPortText r p = .ok ("    " ++ fixName q.name) := by
  unfold astLeafPortU at h
  split at h
  · exact headerPort_leaf r p q h
  · simp only [Option.map_eq_some_iff] at h
    obtain ⟨q0, hq0, e⟩ := h
    have := headerPort_leaf r { p with dir := "INOUT" } q0 hq0
    rw [← e]
    exact this

theorem bpStep_leaf (r : Text.WDef) (p : Text.WPort) (q : PDecl) (txt : String) (written : List String)
    (h : astLeafPort r p = some q) (hnw : q.name ∉ written) :
    bpStep r (txt, written) p = .ok (txt ++ portLine q, written ++ [q.name]) := by
  obtain ⟨nm, dir, hn, hd, hw, ha, e, hcase⟩ := astLeafPort_spec r p q h
  subst e
  exact ha ▸ bpStep_line r p nm dir txt written hn (dirString_of p.dir dir hd) hw
    (hcase.imp id fun ⟨c, h1, h2, h3, h4, _⟩ => ⟨c, h1, h2, h3, h4⟩) hnw

theorem bpStep_leafU (r : Text.WDef) (p : Text.WPort) (q : PDecl) (txt : String) (written : List String)
    (h : astLeafPortU r p = some q) (hnw : q.name ∉ written) :
    bpStep r (txt, written) p = .ok (txt ++ portLine q, written ++ [q.name]) := by
  unfold astLeafPortU at h
  split at h
  · exact bpStep_leaf r p q txt written h hnw
  · rename_i hd
    simp only [Option.map_eq_some_iff] at h
    obtain ⟨q0, hq0, e⟩ := h
    -- the port with direction `INOUT` in its place is a leaf port; only the direction string differs
    obtain ⟨nm, dir, hn, _, hw, ha, e0, hcase⟩ := astLeafPort_spec r { p with dir := "INOUT" } q0 hq0
    subst e0 e
    exact ha ▸ bpStep_line r p nm .undef txt written hn (dirString_undef p.dir hd) hw
      (hcase.imp id fun ⟨c, h1, h2, h3, h4, _⟩ => ⟨c, h1, h2, h3, h4⟩) hnw

theorem bodyPorts_leafU (r : Text.WDef) : ∀ (ps : List Text.WPort) (qs : List PDecl) (txt : String) (written : List String),
    ps.mapM (astLeafPortU r) = some qs → (∀ q ∈ qs, q.name ∉ written) → (qs.map (·.name)).Nodup →
    ps.foldlM (bpStep r) (txt, written) = .ok (txt ++ String.join (qs.map portLine), written ++ qs.map (·.name)) :=
  fun _ _ _ _ => bodyPorts_steps r (astLeafPortU r) _ _ _ _ fun p _ => bpStep_leafU r p

theorem leafU_ports_text (r : Text.WDef) (qs : List PDecl) (hqs : r.ports.mapM (astLeafPortU r) = some qs)
    (hnd : (qs.map (·.name)).Nodup) :
    r.ports.mapM (Text.headerPortText r) = .ok (qs.map (fun p => "    " ++ fixName p.name)) ∧
    Text.bodyPortsText r = .ok (String.join (qs.map portLine) ++ "\n") := by
  refine ⟨mapM_opt_exc (astLeafPortU r) (Text.headerPortText r) (fun p => "    " ++ fixName p.name)
    (fun a b h => headerPort_leafU r a b h) r.ports qs hqs, ?_⟩
  rw [bodyPortsText_eq]
  simp only [bind, Except.bind, bodyPorts_leafU r r.ports qs "" [] hqs (by intro q _ h; cases h) hnd, pure, Except.pure]
  simp

end Spydr.Verilog.Elab
