/-
  Verilog engine — expressions (the wires found belong to the definition; nets only grow; `Pres`) and the wiring of port
  pins.
-/
import Spydr.Verilog.WFWiresA
namespace Spydr.Verilog.Elab
open Spydr.Verilog

theorem evalAtomE_pres (s s' : St) (dn : String) (a : XAtom) (ws : List Nat) (hs : TableWF s)
    (h : evalAtomE s dn a = .ok (s', ws)) : Pres s s' ∧ Grow s s' ∧ ∀ w ∈ ws, w ∈ wiresIn s' dn := by
  unfold evalAtomE at h
  generalize atomParts a = p at h
  obtain ⟨n, l, r⟩ := p
  obtain ⟨s1, hc, h⟩ := bind_ok h
  obtain ⟨d, hg, h⟩ := bind_ok h
  have p1 := createOrUpdateCable_pres hs hc
  cases hf : d.cables.find? (fun c => c.name == n) with
  | none => simp [hf] at h
  | some c =>
    cases hw : getWires ⟨c.lower, c.wires⟩ l r with
    | none => simp [hf, hw] at h
    | some ws' =>
      simp only [hf, hw, pure, Except.pure, Except.ok.injEq, Prod.mk.injEq] at h
      obtain ⟨rfl, rfl⟩ := h
      refine ⟨p1, (createOrUpdateCable_spec s s1 dn n l r none false hs hc).2, fun w hwm => ?_⟩
      rw [wiresIn_has (getDef_ok p1.1 hg)]
      exact mem_wiresOf.mpr ⟨c, List.mem_of_find?_eq_some hf, getWires_mem _ _ _ _ hw w hwm⟩

theorem evalAtomsE_pres (dn : String) : ∀ (as : List XAtom) (s s' : St) (ws : List Nat), TableWF s →
    evalAtomsE s dn as = .ok (s', ws) → Pres s s' ∧ Grow s s' ∧ ∀ w ∈ ws, w ∈ wiresIn s' dn := by
  intro as
  induction as with
  | nil =>
    intro s s' ws hs h
    cases h
    exact ⟨.refl hs, Grow.refl _, fun w hw => by cases hw⟩
  | cons a as ih =>
    intro s s' ws hs h
    unfold evalAtomsE at h
    obtain ⟨⟨s1, x⟩, h1, h⟩ := bind_ok h
    obtain ⟨⟨s2, y⟩, h2, h⟩ := bind_ok h
    obtain ⟨p1, g1, m1⟩ := evalAtomE_pres s s1 dn a x hs h1
    obtain ⟨p2, g2, m2⟩ := ih s1 s2 y p1.1 h2
    cases h
    refine ⟨p1.trans p2, g1.trans g2, fun w hw => ?_⟩
    rcases List.mem_append.mp hw with e | e
    · exact g2 dn w (m1 w e)
    · exact m2 w e

theorem evalExprE_pres (s s' : St) (dn : String) (e : XExpr) (ws : List Nat) (hs : TableWF s)
    (h : evalExprE s dn e = .ok (s', ws)) : Pres s s' ∧ Grow s s' ∧ ∀ w ∈ ws, w ∈ wiresIn s' dn := by
  cases e with
  | empty => exact evalAtomsE_pres dn [] s s' ws hs h
  | atom a => exact evalAtomE_pres s s' dn a ws hs h
  | cat as => exact evalAtomsE_pres dn as s s' ws hs h

/-- `row'` is `row` with some more pins connected, each to one of `vs` -/
def Fill (vs : List Nat) (row row' : List (Option Nat)) : Prop :=
  row'.length = row.length ∧ ∀ x, some x ∈ row' → some x ∈ row ∨ x ∈ vs

theorem Fill.refl (vs : List Nat) (row : List (Option Nat)) : Fill vs row row := ⟨rfl, fun _ h => Or.inl h⟩

theorem Fill.trans {vs : List Nat} {a b c : List (Option Nat)} (h1 : Fill vs a b) (h2 : Fill vs b c) : Fill vs a c :=
  ⟨h2.1.trans h1.1, fun x hx => (h2.2 x hx).elim (h1.2 x) Or.inr⟩

theorem Fill.set {vs : List Nat} (row : List (Option Nat)) (k : Nat) {w : Nat} (hw : w ∈ vs) :
    Fill vs row (row.set k (some w)) :=
  ⟨by simp, fun x hx => (List.mem_or_eq_of_mem_set hx).imp id fun e => by cases e; exact hw⟩

theorem Fill.rowOK {vs : List Nat} {row row' : List (Option Nat)} (h : Fill vs row row') {d : Def} (hr : RowOK d row)
    (hv : ∀ v ∈ vs, v ∈ wiresOf d) : RowOK d row' :=
  fun w hw => (h.2 w hw).elim (hr w) (hv w)

theorem setPin_fill {vs : List Nat} {pv pv' : List (Option Nat)} {k w : Nat} (hw : w ∈ vs)
    (h : setPin pv k w = some pv') : Fill vs pv pv' := by
  unfold setPin at h
  split at h
  · cases h; exact Fill.set pv k hw
  · cases h

theorem setRow_fill {vs : List Nat} {row row' : List (Option Nat)} {k w : Nat} (hw : w ∈ vs)
    (h : setRow row k w = .ok row') : Fill vs row row' := by
  unfold setRow at h
  split at h
  · cases h; exact setPin_fill hw ‹_›
  · cases h

/-- the header loops: pin `idx i` gets wire `i`, for every `i` -/
theorem setRow_fold_fill (vs : List Nat) (idx : Nat → Nat) (row row' : List (Option Nat))
    (h : (List.range vs.length).foldlM (fun row i => setRow row (idx i) (vs.getD i 0)) row = .ok row') :
    Fill vs row row' :=
  foldlM_inv (Fill vs row)
    (fun i hi _ _ hp hst => hp.trans (setRow_fill (getD_mem vs i 0 (List.mem_range.mp hi)) hst)) (Fill.refl vs row) h

theorem fill_port_wf (s : St) (dn : String) (d : Def) (k : Nat) (vs : List Nat) (pins' : List (Option Nat))
    (hs : TableWF s) (hd : Has s dn d) (hk : k < d.ports.length) (hv : ∀ v ∈ vs, v ∈ wiresOf d)
    (hf : Fill vs (d.ports.getD k default).pins pins') :
    TableWF (s.upd dn (fun x => { x with ports := x.ports.set k { d.ports.getD k default with pins := pins' } })) := by
  have hw := hs.defs d hd.1
  refine hs.upd_has hd _ ?_ ⟨?_, hw.cables, hw.insts, ?_, hw.ipins⟩
  · simp only [shape]
    rw [map_set_getD (fun p : Port => p.pins.length) d.ports k default _ hf.1]
  · show ((d.ports.set k _).filterMap (·.name)).Nodup
    rw [filterMap_name_set d.ports k]
    · exact hw.ports
    · rfl
  · exact forall_mem_set hw.ppins (hf.rowOK (hw.ppins _ (getD_mem _ _ _ hk)) hv)

theorem connectPortCable_pres {s s' : St} {dn name : String} (hs : TableWF s) (h : connectPortCable s dn name = .ok s') :
    Pres s s' := by
  unfold connectPortCable at h
  obtain ⟨d, hg, h⟩ := bind_ok h
  have hd := getDef_ok hs hg
  split at h
  · rename_i k c hk hc
    dsimp only at h
    split at h
    · cases h
    · obtain ⟨pins, hf, h⟩ := bind_ok h
      cases h
      exact .keep (fill_port_wf s dn d k c.wires pins hs hd (portIdx_lt hk)
        (fun v hv => mem_wiresOf.mpr ⟨c, List.mem_of_find?_eq_some hc, hv⟩) (setRow_fold_fill c.wires _ _ _ hf))
        (keep_upd fun _ => rfl)
  · cases h
end Spydr.Verilog.Elab
