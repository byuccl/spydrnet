/-
  Verilog engine — new definitions, new instances, named connections, `instantiate`.
-/
import Spydr.Verilog.WFDecl
namespace Spydr.Verilog.Elab
open Spydr.Verilog

theorem ensure_wf (s : St) (n : String) (hs : TableWF s) : TableWF (s.ensure n) := by
  unfold St.ensure
  cases hf : s.find n with
  | some d => exact hs
  | none =>
    exact hs.push ⟨n, none, false, [], none, [], [], []⟩ hf
      ⟨by simp, by simp, by simp, (fun p hp => by cases hp), (fun i hi => by cases hi)⟩ rfl

theorem mem_ensure {s : St} {x : Def} (n : String) (hx : x ∈ s.defs) : x ∈ (s.ensure n).defs := by
  unfold St.ensure
  split
  · exact hx
  · exact List.mem_append_left _ hx

theorem add_inst_wf (s : St) (dn : String) (d rd : Def) (i : Inst) (hs : TableWF s) (hd : Has s dn d)
    (hrd : Has s i.ref rd) (hlen : i.pins.map List.length = rd.ports.map (fun p => p.pins.length))
    (hname : instIdx d i.name = none) (hrows : ∀ row ∈ i.pins, RowOK d row) :
    TableWF (s.upd dn (fun x => { x with insts := x.insts ++ [i] })) := by
  refine hs.map _ (fun x _ => by split <;> rfl) ?_ ?_
  · intro x hx
    split
    · rename_i e
      obtain rfl := hd.2.2 x hx (by simpa using e)
      have hw := hs.defs x hx
      refine ⟨hw.ports, hw.cables, ?_, hw.ppins, ?_⟩
      · show ((x.insts ++ [i]).map (·.name)).Nodup
        rw [List.map_append]
        refine nodup_snoc hw.insts fun hm => ?_
        obtain ⟨j, hj, ej⟩ := List.mem_map.mp hm
        unfold instIdx at hname
        rw [List.findIdx?_eq_none_iff] at hname
        simpa [ej] using hname j hj
      · exact List.forall_mem_append.mpr ⟨hw.ipins, List.forall_mem_singleton.mpr hrows⟩
    · exact hs.defs x hx
  · -- no port changes; the new instance fits `rd` by hypothesis, the others as before
    intro x hx
    have hp : ∀ y : Def, (if y.name == dn then { y with insts := y.insts ++ [i] } else y).ports = y.ports :=
      fun y => by split <;> rfl
    simp only [hp]
    split
    · exact List.forall_mem_append.mpr ⟨fun _ => hs.fits hx, List.forall_mem_singleton.mpr ⟨rd, hrd.1, hrd.2.1, hlen⟩⟩
    · exact fun _ => hs.fits hx

theorem namedConn_pres {s s' : St} {dn iname ref pname : String} {e : XExpr} (hs : TableWF s)
    (h : namedConn s dn iname ref pname e = .ok s') : Pres s s' := by
  cases e with
  | empty => exact createOrUpdatePort_pres hs h
  | atom _ | cat _ =>
    unfold namedConn at h
    obtain ⟨⟨s1, ws⟩, h1, h⟩ := bind_ok h
    obtain ⟨s2, h2, h⟩ := bind_ok h
    obtain ⟨rd, _, h⟩ := bind_ok h
    obtain ⟨p1, _, m1⟩ := evalExprE_pres s s1 dn _ ws hs h1
    have p2 := createOrUpdatePort_pres p1.1 h2
    have g2 := (createOrUpdatePort_spec s1 s2 ref pname _ _ _ _ p1.1 h2).2.1
    split at h
    · cases h
    · exact (p1.trans p2).trans (connectInstRow_pres p2.1 (fun w hw => g2 dn w (m1 w hw)) h)

theorem upd_inst_params (s : St) (dn name : String) (g : Params → Params) (hs : TableWF s) :
    TableWF (s.upd dn (fun d => { d with insts := d.insts.map (fun i =>
      if i.name == name then { i with params := g i.params } else i) })) := by
  refine hs.upd dn _ fun x hx _ => ?_
  have hw := hs.defs x hx
  refine ⟨?_, hw.ports, hw.cables, ?_, hw.ppins, ?_⟩
  · simp only [shape]
    rw [map_map_ite (fun i : Inst => (i.ref, i.pins.map List.length))]
    exact fun _ => rfl
  · show ((x.insts.map _).map (fun i : Inst => i.name)).Nodup
    rw [map_map_ite (fun i : Inst => i.name)]
    · exact hw.insts
    · exact fun _ => rfl
  · intro i' hi' row hr
    obtain ⟨i, hi, rfl⟩ := List.mem_map.mp hi'
    split at hr <;> exact hw.ipins i hi row hr

theorem climb_in (s : St) : ∀ (f : Nat) (n : String), climb s f n = n ∨ ∃ d ∈ s.defs, d.name = climb s f n := by
  intro f
  induction f with
  | zero => intro n; exact Or.inl rfl
  | succ f ih =>
    intro n
    unfold climb
    cases hp : parentsOf s n with
    | nil => exact Or.inl rfl
    | cons p ps =>
      simp only
      have hpm : p ∈ parentsOf s n := by rw [hp]; exact List.mem_cons_self
      unfold parentsOf at hpm
      obtain ⟨d, hd, e⟩ := List.mem_map.mp hpm
      rcases ih p with h | h
      · right; exact ⟨d, (List.mem_filter.mp hd).1, by rw [h]; exact e⟩
      · right; exact h

theorem TableWF.set_top {s : St} (h : TableWF s) (t : String) (ht : ∃ d ∈ s.defs, d.name = t) :
    TableWF { s with top := some t } :=
  ⟨h.defs, h.glob, fun t' e => by simp only [Option.some.injEq] at e; rw [← e]; exact ht⟩

theorem ensure_top (s : St) (mod : String) (t : Option String) :
    ({ s with top := t } : St).ensure mod = { s.ensure mod with top := t } := by
  unfold St.ensure St.find
  simp only
  cases s.defs.find? (fun d => d.name == mod) <;> rfl

/-- `instantiate` up to the port map: the top re-elected, the module looked up, the new instance with all its pins free -/
theorem instantiate_add_wf {s : St} (dn mod name : String) (attrs : Attrs) {rd d : Def} (hs : TableWF s) :
    let s1 := (if s.top == some mod then ({ s with top := some (climb s (s.defs.length + 1) dn) } : St) else s).ensure mod
    getDef s1 mod = .ok rd → getDef s1 dn = .ok d → ¬(instIdx d name).isSome = true →
    TableWF (s1.upd dn fun d => { d with insts := d.insts ++
      [⟨name, mod, [], some attrs, rd.ports.map fun p => List.replicate p.pins.length none⟩] }) := by
  intro s1 h1 h2 hfresh
  have w1 : TableWF s1 := by
    show TableWF (St.ensure _ mod)
    split
    · rename_i hc
      rw [ensure_top]
      refine (ensure_wf s mod hs).set_top _ ?_
      -- the new top is `dn` (which is in the table, as its lookup succeeds) or a definition of the old table
      rcases climb_in s (s.defs.length + 1) dn with e | ⟨x, hx, e⟩
      · have hf : (St.ensure _ mod).find dn = some d := getDef_find h2
        rw [if_pos hc, ensure_top] at hf
        rw [e]
        exact ⟨d, List.mem_of_find?_eq_some hf, by simpa using List.find?_some hf⟩
      · exact ⟨x, mem_ensure mod hx, e⟩
    · exact ensure_wf s mod hs
  refine add_inst_wf s1 dn d rd _ w1 (getDef_ok w1 h2) (getDef_ok w1 h1) (by simp [List.map_map, Function.comp_def])
    (by simpa using hfresh) ?_
  intro row hr w hw
  obtain ⟨p, _, rfl⟩ := List.mem_map.mp hr
  exact absurd hw not_mem_replicate_none

theorem instantiate_pres {s s' : St} {dn mod name : String} {params : Params} {attrs : Attrs} {named : Bool}
    {conns : List (Option String × XExpr)} (hs : TableWF s)
    (h : instantiate s dn mod name params attrs named conns = .ok s') : Pres s s' := by
  unfold instantiate at h
  dsimp only at h
  obtain ⟨rd, h1, h⟩ := bind_ok h
  obtain ⟨d, h2, h⟩ := bind_ok h
  split at h
  · cases h
  · rename_i hfresh
    -- top, lookup and the new instance leave the wires alone; so do the parameters at the end
    have p2 := Pres.keep (s := s) (instantiate_add_wf dn mod name attrs hs h1 h2 hfresh)
      (((ite_of (keep_fields _ _ _ _) (Keep.refl s)).trans (keep_ensure _ mod)).trans (keep_upd fun _ => rfl))
    have hpar := fun S (hS : TableWF S) => Pres.keep (s := S) (upd_inst_params S dn name (fun ps => params.foldl (fun acc kv =>
      if acc.any (fun x => x.1 == kv.1) then acc else acc ++ [kv]) ps) hS) (keep_upd fun _ => rfl)
    split at h
    · obtain ⟨s3, hX, h⟩ := bind_ok h
      cases h
      have p3 := p2.trans (Pres.foldlM (fun S c S' hS hc => by
        split at hc
        · exact namedConn_pres hS hc
        · cases hc) p2.1 hX)
      exact p3.trans (hpar _ p3.1)
    · cases h
      exact (p2.trans (.keep ⟨p2.1.defs, p2.1.glob, p2.1.top⟩ (keep_fields _ _ _ _))).trans (hpar _ ⟨p2.1.defs, p2.1.glob, p2.1.top⟩)

theorem instantiate_wf (s s' : St) (dn mod name : String) (params : Params) (attrs : Attrs) (named : Bool)
    (conns : List (Option String × XExpr)) (hs : TableWF s)
    (h : instantiate s dn mod name params attrs named conns = .ok s') : TableWF s' :=
  (instantiate_pres hs h).1
end Spydr.Verilog.Elab
