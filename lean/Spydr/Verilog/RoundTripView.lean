/-
  C04 at module level up to tokens: a definition whose declaration phases leave the four facts of `RoundTripTrack`, with the
  instances folded in, shows the view of its definition in the netlist (`view_core`); the top module does (`top_facts`), so the
  module the writer prints for a netlist of the fragment, read by the real `elabDesign`, shows the same view as the netlist
  (`c04_view`, `c04_ast`).
-/
import Spydr.Verilog.RoundTripAst
namespace Spydr.Verilog.Elab
open Spydr.Verilog

theorem ports_view (T : Text.WDef) (ports : List PDecl) (d3 : Def)
    (hm : T.ports.mapM (astPort T) = some ports)
    (hfrag : ∀ p ∈ T.ports, ∀ nm, p.name = some nm → ∀ c, T.cables.find? (fun c => c.name == nm) = some c →
      p.lower = c.lower ∧ p.width = c.width ∧ p.pins = (cableBits nm c.lower c.width).items.map some)
    (H2 : ∀ c ∈ T.cables, 1 ≤ c.width)
    (hpv : d3.ports.map pv = ports.map declV) (hpc : PC d3) (hw : WInv d3)
    (hcab : ∀ nm, (cabOf d3 nm).map normV =
      (T.cables.find? (fun c => c.name == nm)).map (fun c => (c.lower, c.width, c.ctype.getD "wire", c.attrs.getD []))) :
    d3.ports.map (fun P => (⟨P.name, P.dir, P.lower, P.attrs.getD [], pinBits d3 P.pins⟩ : PortView)) =
      T.ports.map (fun p => (⟨p.name, dirV p.dir, p.lower, p.attrs.getD [], p.pins⟩ : PortView)) := by
  obtain ⟨hlen, hidx⟩ := mapM_index _ _ _ hm
  have hlen2 : d3.ports.length = ports.length := by simpa using congrArg List.length hpv
  apply List.ext_getElem (by simp [hlen2, hlen])
  intro k h1 h2
  simp only [List.length_map] at h1 h2
  simp only [List.getElem_map]
  have hkp : k < ports.length := by omega
  have hpvk : pv d3.ports[k] = declV ports[k] := by
    have := List.getElem_of_eq hpv (by simpa using h1)
    rwa [List.getElem_map, List.getElem_map] at this
  obtain ⟨nm, c, dir, hn, hc, hd, hmp⟩ := astPort_spec T _ _ (hidx k h2 hkp)
  obtain ⟨f1, _, f3⟩ := hfrag _ (List.getElem_mem h2) nm hn c hc
  obtain ⟨s1, _⟩ := stub_declRange c.lower c.width (H2 c (List.mem_of_find?_eq_some hc))
  generalize hP : d3.ports[k] = P at hpvk
  generalize hp : T.ports[k] = p at hn hd hmp f1 f3
  rw [hmp] at hpvk
  simp only [pv, declV, Prod.mk.injEq] at hpvk
  obtain ⟨e1, e2, e3, _, e5⟩ := hpvk
  -- the pins are the wires of the net of that name, which has the base and width of the netlist's net
  obtain ⟨nm', C, g1, g2, g3, _⟩ := hpc P (hP ▸ List.getElem_mem h1)
  obtain rfl : nm = nm' := Option.some.inj (e1.symm.trans g1)
  have hcabk := hcab nm
  simp only [cabOf, g2, hc, Option.map_some, normV, Option.some.injEq, Prod.mk.injEq] at hcabk
  have hpins : pinBits d3 P.pins = p.pins := by
    rw [g3, pinBits_some, cable_bits d3 hw C (List.mem_of_find?_eq_some g2), f3, find_name g2, hcabk.1, hcabk.2.1]
  have hattrs : P.attrs.getD [] = p.attrs.getD [] := by
    rw [e5]
    split
    · exact (List.isEmpty_iff.mp ‹_›).symm
    · rfl
  have hdir : dirV p.dir = dir := by unfold dirV; rw [hd]; rfl
  rw [hpins, hattrs, hdir, e1, e2, e3, s1, hn, f1]

theorem allDen_index (d : Def) : ∀ (rows : List (List (Option Nat))) (pes : List PExpr), AllDen d rows pes →
    rows.length = pes.length ∧ ∀ k (h1 : k < rows.length) (h2 : k < pes.length), RowDen d rows[k] pes[k]
  | [], [], _ => ⟨rfl, fun _ h1 => nomatch h1⟩
  | [], _ :: _, h => h.elim
  | _ :: _, [], h => h.elim
  | r :: rs, p :: ps, ⟨h1, h2⟩ => by
    obtain ⟨i1, i2⟩ := allDen_index d rs ps h2
    refine ⟨by simp [i1], fun k hk1 hk2 => ?_⟩
    cases k with
    | zero => exact h1
    | succ k => exact i2 k (by simpa using hk1) (by simpa using hk2)

/-- a row that denotes the writer's expression for a pin vector of reader shape shows the connected block of that vector -/
theorem rowDen_block (d : Def) (env : CableEnv) (henv : envOf d = env) (row : List (Option Nat)) (pins : List (Option Bit))
    (pe : PExpr) (hne : pins ≠ []) (hs : ReaderShape env pins) (hpe : emitPortExpr env pins = some pe)
    (hd : RowDen d row pe) : connectedBlock (pinBits d row) = connectedBlock pins := by
  obtain ⟨blk, m, rfl, hv⟩ := hs
  obtain ⟨e', h1, h2, _⟩ := emit_eval env blk m hne hv
  obtain rfl : pe = e' := Option.some.inj (hpe.symm.trans h1)
  obtain ⟨bs, he, hp, _⟩ := hd
  rw [henv, h2] at he
  obtain rfl : blk.reverse = bs := Option.some.inj he
  rw [hp, connectedBlock_low]
  simp only [lowAligned, List.reverse_reverse]
  rw [connectedBlock_low]

/-- the instance the writer prints: one connection per port of the referenced definition, in order, with the expression
    `_write_instance_port` chooses for the pins of that port -/
theorem astInst_spec (n : Text.WNet) (T : Text.WDef) (i : Text.WInst) (pi : PInst) (h : astInst n T i = some pi) :
    ∃ r conns, Text.refOf n i.ref = some r ∧ pi = ⟨i.name, i.ref, i.params.getD [], i.attrs.getD [], conns⟩ ∧
      conns.map (fun c => some c.1) = r.ports.map (·.name) ∧
      ∀ k (hk : k < conns.length), emitPortExpr (Text.envOf T) (i.pins.getD k []) = some conns[k].2 := by
  unfold astInst at h
  split at h
  · cases h
  · rename_i r hr
    simp only [Option.map_eq_some_iff] at h
    obtain ⟨conns, hm, rfl⟩ := h
    obtain ⟨h1, h2⟩ := mapM_index _ _ _ hm
    rw [List.length_range] at h1
    have hconn : ∀ k (hk : k < conns.length),
        (r.ports.getD k default).name = some conns[k].1 ∧ emitPortExpr (Text.envOf T) (i.pins.getD k []) = some conns[k].2 := by
      intro k hk
      have := h2 k (by simpa [h1] using hk) hk
      rw [List.getElem_range] at this
      split at this
      · rename_i pn pe h3 h4
        rw [← Option.some.inj this]
        exact ⟨h3, h4⟩
      · cases this
    refine ⟨r, conns, hr, rfl, List.ext_getElem (by simp [h1]) fun k hk hk' => ?_, fun k hk => (hconn k hk).2⟩
    rw [List.length_map] at hk hk'
    simpa [List.getD_eq_getElem?_getD, hk'] using (hconn k hk).1.symm

/-- a later instance of a module whose ports in the table are those the connections name, in order: row `k` is the value of
    the `k`-th expression; the row of an empty expression is one nobody wrote, so it is free -/
theorem connInv_index {d rd : Def} {rows : List (List (Option Nat))} {conns : List (String × PExpr)}
    (cinv : ConnInv d rd rows conns) (occ : OccInv rd rows conns) (hn : (rd.ports.map (·.name)).Nodup)
    (hnames : rd.ports.map (·.name) = conns.map (fun c => some c.1))
    (k : Nat) (hk : k < rows.length) (hk' : k < conns.length) : RowDen d rows[k] conns[k].2 := by
  have hlen : rd.ports.length = conns.length := by simpa using congrArg List.length hnames
  have hpidx : ∀ j (hj : j < conns.length), portIdx rd conns[j].1 = some j := fun j hj => by
    have hj' : j < rd.ports.length := hlen ▸ hj
    apply portIdx_of_nodup rd j _ hn hj'
    simpa [hj, hj'] using congrArg (fun l => l[j]?) hnames
  have hgetD : rows.getD k [] = rows[k] := by simp [List.getD, List.getElem?_eq_getElem hk]
  by_cases hemp : conns[k].2 = .empty
  · have hnocc : ¬ Occupied rows[k] := by
      intro hocc
      obtain ⟨c, hc, hne, hidx⟩ := occ k (hgetD ▸ hocc)
      obtain ⟨j, hj, rfl⟩ := List.getElem_of_mem hc
      obtain rfl : j = k := Option.some.inj ((hpidx j hj).symm.trans hidx)
      exact hne hemp
    obtain ⟨blk, m, hb, _⟩ := cinv.1 rows[k] (List.getElem_mem hk)
    cases blk with
    | cons b bs => exact absurd ⟨b, _, hb⟩ hnocc
    | nil => simpa [hb, hemp] using rowDen_empty d m
  · rw [← hgetD]
    exact (cinv.2 conns[k] (List.getElem_mem hk') hemp k (hpidx k hk')).1

theorem inst_view_step (n : Text.WNet) (T : Text.WDef) (d : Def) (ls : List Def) (i : Text.WInst) (pi : PInst)
    (d' : Def) (ls' : List Def) (hw : WInv d) (henv : envOf d = Text.envOf T)
    (hpi : astInst n T i = some pi)
    (hfr : ∀ r, Text.refOf n i.ref = some r → (r.ports.map (·.name)).Nodup ∧ ((i.params.getD []).map (·.1)).Nodup ∧
      ∀ k, k < r.ports.length → i.pins.getD k [] ≠ [] ∧ ReaderShape (Text.envOf T) (i.pins.getD k []))
    (hl : LeafInv n ls) (hs : instStep2 d ls pi.toN = some (d', ls')) :
    ∃ inst, d'.insts = d.insts ++ [inst] ∧ d'.cables = d.cables ∧ instViewD d inst = instViewT n i ∧ LeafInv n ls' := by
  obtain ⟨r, conns, hr, rfl, hcn, hck⟩ := astInst_spec n T i pi hpi
  have hclen : conns.length = r.ports.length := by simpa using congrArg List.length hcn
  obtain ⟨hrn, hpar, hrows⟩ := hfr r hr
  obtain ⟨rows, rfl, hm⟩ := instStep2_rows d ls _ d' ls' hw hs
  -- enough: one row per port of `r`, each the value of the expression written for that port
  suffices h : rows.length = r.ports.length ∧
      (∀ k (hk : k < rows.length) (hk' : k < conns.length), RowDen d rows[k] conns[k].2) ∧ LeafInv n ls' by
    obtain ⟨hlen, hden, hl'⟩ := h
    refine ⟨_, rfl, rfl, ?_, hl'⟩
    unfold instViewD instViewT
    simp only [hr, Option.map_some, Option.getD_some, mergeP_nodup _ hpar]
    congr 1
    apply List.ext_getElem (by simp [hlen])
    intro k h1 h2
    simp only [List.length_map, List.length_range] at h1 h2
    simp only [List.getElem_map, List.getElem_range]
    exact rowDen_block d _ henv _ _ _ (hrows k h2).1 (hrows k h2).2 (hck k (by omega)) (hden k h1 (by omega))
  dsimp only at hm
  split at hm
  · -- first instance of its module: it enters the table with the names of the connections, those of `r`
    obtain ⟨hden, L, rfl, hLn, hLp⟩ := hm
    obtain ⟨a1, a2⟩ := allDen_index d rows _ hden
    rw [List.length_map] at a1
    refine ⟨a1.trans hclen, fun k hk hk' => ?_,
      List.forall_mem_append.mpr ⟨hl, List.forall_mem_singleton.mpr ⟨r, hLn ▸ hr, hLp.trans hcn⟩⟩⟩
    have := a2 k hk (by simpa using hk')
    rwa [List.getElem_map] at this
  · -- the module is in the table, with the port names of `r`
    rename_i rd hf
    obtain ⟨rfl, cinv, occ, hrl⟩ := hm
    obtain ⟨r', hr', hnames⟩ := hl rd (List.mem_of_find?_eq_some hf)
    rw [show rd.name = i.ref by simpa using List.find?_some hf, hr] at hr'
    obtain rfl : r = r' := Option.some.inj hr'
    exact ⟨hrl.trans (by simpa using congrArg List.length hnames),
      connInv_index cinv occ (hnames ▸ hrn) (hnames.trans hcn.symm), hl⟩

theorem bitOf_cables (d d' : Def) (h : d'.cables = d.cables) : bitOf d' = bitOf d := by
  funext w; unfold bitOf; rw [h]

theorem instViewD_cables (d d' : Def) (h : d'.cables = d.cables) : instViewD d' = instViewD d := by
  funext i; unfold instViewD pinBits; rw [bitOf_cables d d' h]

theorem envOf_cables (d d' : Def) (h : d'.cables = d.cables) : envOf d' = envOf d := by
  funext nm; unfold envOf; rw [h]

theorem insts_view (n : Text.WNet) (T : Text.WDef) : ∀ (is : List Text.WInst) (pis : List PInst) (d : Def) (ls : List Def)
    (d' : Def) (ls' : List Def), is.mapM (astInst n T) = some pis → foldInst d ls (pis.map PInst.toN) = some (d', ls') →
    WInv d → envOf d = Text.envOf T →
    (∀ i ∈ is, ∀ r, Text.refOf n i.ref = some r → (r.ports.map (·.name)).Nodup ∧ ((i.params.getD []).map (·.1)).Nodup ∧
      ∀ k, k < r.ports.length → i.pins.getD k [] ≠ [] ∧ ReaderShape (Text.envOf T) (i.pins.getD k [])) →
    LeafInv n ls →
    d'.insts.map (instViewD d) = d.insts.map (instViewD d) ++ is.map (instViewT n) ∧ d'.cables = d.cables ∧ LeafInv n ls' := by
  intro is
  induction is with
  | nil =>
    intro pis d ls d' ls' hm hf _ _ _ hl
    cases hm
    cases hf
    exact ⟨by simp, rfl, hl⟩
  | cons i is ih =>
    intro pis d ls d' ls' hm hf hw henv hfr hl
    obtain ⟨pi, pis', hpi, hrest, rfl⟩ := mapM_cons_some hm
    obtain ⟨d1, ls1, hs, hf⟩ := (foldInst_cons ..).mp hf
    obtain ⟨inst, g1, g2, g3, g4⟩ := inst_view_step n T d ls i pi d1 ls1 hw henv hpi (hfr i List.mem_cons_self) hl hs
    obtain ⟨k1, k2, k3⟩ := ih pis' d1 ls1 d' ls' hrest hf (by unfold WInv; rw [g2]; exact hw)
      ((envOf_cables d d1 g2).trans henv) (fun j hj => hfr j (List.mem_cons_of_mem _ hj)) g4
    rw [instViewD_cables d d1 g2] at k1
    refine ⟨?_, k2.trans g2, k3⟩
    rw [k1, g1]
    simp [g3]

theorem foldInst_frame : ∀ (is : List NInst) (d : Def) (ls : List Def) (d' : Def) (ls' : List Def),
    foldInst d ls is = some (d', ls') → d'.ports = d.ports ∧ d'.cables = d.cables ∧ d'.attrs = d.attrs := by
  intro is
  induction is with
  | nil => intro d ls d' ls' h; cases h; exact ⟨rfl, rfl, rfl⟩
  | cons i is ih =>
    intro d ls d' ls' h
    obtain ⟨d1, ls1, hs, h⟩ := (foldInst_cons ..).mp h
    obtain ⟨_, _, rfl, _⟩ := instStep2_eq hs
    exact (ih _ ls1 d' ls' h :)

theorem buildW3_frame (d0 : Def) (n : Nat) (ports : List PDecl) (wires : List FWire) (d3 : Def) (n3 : Nat)
    (hb : buildW3 d0 n ports wires = some (d3, n3)) : d3.insts = d0.insts ∧ d3.attrs = d0.attrs :=
  (buildW3_meta hb).2.2.2

theorem viewD_markBB (d : Def) : viewD (markBB d) = viewD d := by
  unfold markBB
  split <;> rfl

theorem astPorts_spec {T : Text.WDef} {ports : List PDecl} (hm : T.ports.mapM (astPort T) = some ports) :
    ∀ p ∈ ports, ∃ c ∈ T.cables, c.name = p.name ∧ p.rng = emitDeclRange c.lower c.width := by
  intro mp hmp
  obtain ⟨p, _, hp⟩ := mapM_mem _ _ _ hm mp hmp
  obtain ⟨nm, c, dir, _, hc, _, rfl⟩ := astPort_spec T p mp hp
  exact ⟨c, List.mem_of_find?_eq_some hc, by simpa using List.find?_some hc, rfl⟩

def withAttrs (a : Attrs) (d : Def) : Def := if a.isEmpty then d else { d with attrs := some a }

theorem withAttrs_ports (a : Attrs) (d : Def) : (withAttrs a d).ports = d.ports := by unfold withAttrs; split <;> rfl

theorem withAttrs_lib (a : Attrs) (d : Def) : (withAttrs a d).lib = d.lib := by unfold withAttrs; split <;> rfl

theorem withAttrs_name (a : Attrs) (d : Def) : (withAttrs a d).name = d.name := by unfold withAttrs; split <;> rfl

theorem decl_view (n : Text.WNet) (T : Text.WDef) (ports : List PDecl) (d3 : Def) (n3 : Nat) (hfrag : fragTop n T = true)
    (hports : T.ports.mapM (astPort T) = some ports)
    (hpv : d3.ports.map pv = ports.map declV) (hPC : PC d3) (hWF : WF d3 n3)
    (hcabE : cabOf d3 = (T.cables.reverse.map astWire).foldl updW (ports.foldl updD ((ports.map (·.name)).foldl updS (fun _ => none)))) :
    (∀ nm, (cabOf d3 nm).map normV =
      (T.cables.find? (fun c => c.name == nm)).map (fun c => (c.lower, c.width, c.ctype.getD "wire", c.attrs.getD []))) ∧
    d3.ports.map (fun P => (⟨P.name, P.dir, P.lower, P.attrs.getD [], pinBits d3 P.pins⟩ : PortView)) =
      T.ports.map (fun p => (⟨p.name, dirV p.dir, p.lower, p.attrs.getD [], p.pins⟩ : PortView)) ∧
    envOf d3 = Text.envOf T := by
  have F := fragTop_spec hfrag
  have hcab : ∀ nm, (cabOf d3 nm).map normV =
      (T.cables.find? (fun c => c.name == nm)).map (fun c => (c.lower, c.width, c.ctype.getD "wire", c.attrs.getD [])) :=
    fun nm => by
      rw [hcabE]
      exact cables_view T.cables ports F.netNames F.netWidth (astPorts_nodup T ports hports F.portNames)
        (astPorts_spec hports) nm
  refine ⟨hcab, ports_view T ports d3 hports F.ports F.netWidth hpv hPC hWF.1 hcab, ?_⟩
  funext nm
  have := congrArg (Option.map (fun v : Int × Nat × String × Attrs => (v.1, v.2.1))) (hcab nm)
  simpa [cabOf, envOf, Text.envOf, normV, Function.comp_def] using this

theorem view_of_decl (n : Text.WNet) (T : Text.WDef) (d3 d4 : Def) (IV : List InstView)
    (hcab : ∀ nm, (cabOf d3 nm).map normV =
      (T.cables.find? (fun c => c.name == nm)).map (fun c => (c.lower, c.width, c.ctype.getD "wire", c.attrs.getD [])))
    (hportsV : d3.ports.map (fun P => (⟨P.name, P.dir, P.lower, P.attrs.getD [], pinBits d3 P.pins⟩ : PortView)) =
      T.ports.map (fun p => (⟨p.name, dirV p.dir, p.lower, p.attrs.getD [], p.pins⟩ : PortView)))
    (ha3 : d3.attrs = none) (q1 : d4.ports = d3.ports) (q2 : d4.cables = d3.cables) (q3 : d4.attrs = d3.attrs)
    (hIV : d4.insts.map (instViewD d3) = IV) :
    viewD (withAttrs (T.attrs.getD []) d4) = { viewT n T with insts := IV } := by
  have key : ∀ dd : Def, dd.ports = d3.ports → dd.cables = d3.cables → dd.insts = d4.insts →
      dd.attrs.getD [] = T.attrs.getD [] → viewD dd = { viewT n T with insts := IV } := by
    intro dd h1 h2 h3 h4
    have hbit : pinBits dd = pinBits d3 := by funext row; unfold pinBits; rw [bitOf_cables d3 dd h2]
    have hCV : cabOf dd = cabOf d3 := by funext nm; unfold cabOf; rw [h2]
    unfold viewD viewT
    simp only [DefView.mk.injEq]
    exact ⟨h4, by rw [h1, hbit]; exact hportsV, by funext nm; rw [hCV]; exact hcab nm, by rw [h3, hbit]; exact hIV⟩
  unfold withAttrs
  split
  · rename_i he
    exact key d4 q1 q2 rfl (by rw [q3, ha3]; exact (List.isEmpty_iff.mp he).symm)
  · exact key { d4 with attrs := some (T.attrs.getD []) } q1 q2 rfl rfl

/-- **view_core.**  The second half of `c04_view`, for any definition `d3` that satisfies the four facts about the
    declaration phases (whichever way it was built): with the instances folded in and the attributes set, it shows the
    view of `T`. -/
theorem view_core (n : Text.WNet) (T : Text.WDef) (ports : List PDecl) (insts : List PInst) (d3 d4 : Def)
    (ls ls4 : List Def) (n3 : Nat) (hfrag : fragTop n T = true)
    (hports : T.ports.mapM (astPort T) = some ports) (hinsts : T.insts.mapM (astInst n T) = some insts)
    (hpv : d3.ports.map pv = ports.map declV) (hPC : PC d3) (hWF : WF d3 n3)
    (hcabE : cabOf d3 = (T.cables.reverse.map astWire).foldl updW (ports.foldl updD ((ports.map (·.name)).foldl updS (fun _ => none))))
    (hi3 : d3.insts = []) (ha3 : d3.attrs = none) (hl : LeafInv n ls)
    (h4 : foldInst d3 ls (insts.map PInst.toN) = some (d4, ls4)) :
    viewD (withAttrs (T.attrs.getD []) d4) = viewT n T ∧ LeafInv n ls4 ∧ d4.ports = d3.ports ∧ d4.cables = d3.cables := by
  obtain ⟨hcab, hportsV, henv⟩ := decl_view n T ports d3 n3 hfrag hports hpv hPC hWF hcabE
  obtain ⟨k1, _, k3⟩ := insts_view n T T.insts insts d3 ls d4 ls4 hinsts h4 hWF.1 henv (fragTop_spec hfrag).insts hl
  obtain ⟨q1, q2, q3⟩ := foldInst_frame _ d3 ls d4 ls4 h4
  rw [hi3, List.map_nil, List.nil_append] at k1
  exact ⟨view_of_decl n T d3 d4 _ hcab hportsV ha3 q1 q2 q3 k1, k3, q1, q2⟩

/-- The declaration phases of a top module, started from a definition without ports and nets: what `late_facts` says of
    a late module. -/
theorem top_facts (d0 : Def) (ports : List PDecl) (wires : List FWire) (d3 : Def) (n3 : Nat) (hc : d0.cables = [])
    (hp : d0.ports = []) (h3 : buildW3 d0 0 ports wires = some (d3, n3)) :
    d3.ports.map pv = ports.map declV ∧ PC d3 ∧ WF d3 n3 ∧
      cabOf d3 = wires.foldl updW (ports.foldl updD ((ports.map (·.name)).foldl updS (fun _ => none))) ∧
      d3.insts = d0.insts ∧ d3.attrs = d0.attrs ∧ d3.lib = d0.lib ∧ d3.name = d0.name := by
  have hcab0 : cabOf d0 = fun _ => none := by funext nm; unfold cabOf; rw [hc]; rfl
  have hWF : WF d3 n3 := buildW3_WF d0 0 ports wires d3 n3
    ⟨⟨by rw [hc]; exact List.nodup_nil, by rw [hc]; exact List.nodup_nil⟩, by rw [hc]; intro c hc; cases hc⟩ h3
  have hPC : PC d3 := buildW3_PC d0 0 ports wires d3 n3 (by intro P hP; rw [hp] at hP; cases hP) h3
  obtain ⟨hi3, ha3⟩ := buildW3_frame d0 0 ports wires d3 n3 h3
  exact ⟨by simpa [hp] using buildW3_ports_append h3, hPC, hWF, hcab0 ▸ buildW3_cab d0 0 ports wires d3 n3 h3, hi3, ha3,
    buildW3_lib d0 0 ports wires d3 n3 h3, buildW3_name d0 0 ports wires d3 n3 h3⟩

/-- **c04_view.**  C04 at module level, syntax to netlist — THE VIEW OF THE TOP MODULE IS PRESERVED (not `readV (composeV n) = n`:
    the netlist name, libraries, `n.top`, leaf directions / widths / bases are not in the statement; the view compares nets as a
    function of the name (not their order), `ctype.getD "wire"`, `attrs.getD []`, and instance rows only up to the first free pin
    (`connectedBlock`), so the WIDTH of a row is invisible; see docs/verilog.md §2a): let `T` be the top definition of the writer's netlist `n`, in
    the fragment `fragTop`; let `m = astOf n T` be the module the writer prints for it and `defs` the table the reader
    builds for a file that consists of that module (`elabDesign_wsingle`).  Then the first definition of the table shows
    the same view as `T`: the same ports in the same order (name, direction, base index, attributes, every pin on the same
    bit), the same nets by name (base index, width, type, attributes), the same instances in the same order (name,
    referenced module, parameters, attributes, and on every port of the referenced module the same connected bits). -/
theorem c04_view (n : Text.WNet) (T : Text.WDef) (m : WModP) (defs : List Def) (nx : Nat)
    (hfrag : fragTop n T = true) (hm : astOf n T = some m) (hb : buildWI m.toI = some (defs, nx)) :
    ∃ D ls, defs = D :: ls ∧ viewD D = viewT n T ∧ LeafInv n ls := by
  obtain ⟨ports, insts, hports, hinsts, rfl⟩ := astOf_eq hm
  obtain ⟨d3, d4, ls4, h3, _, h4, rfl⟩ := buildWI_inv hb
  obtain ⟨hpv, hPC, hWF, hcabE, hi3, ha3, _, _⟩ := top_facts _ ports _ d3 nx rfl rfl h3
  obtain ⟨v1, v2, _, _⟩ := view_core n T ports insts d3 d4 [] ls4 nx hfrag hports hinsts hpv hPC hWF hcabE hi3 ha3
    (fun L hL => nomatch hL) h4
  refine ⟨_, _, rfl, by rw [viewD_markBB]; exact v1, List.forall_mem_map.mpr fun L hL => ?_⟩
  unfold markBB
  split <;> exact v2 L hL

/-- the fragment of C04 this file covers, as one decidable predicate on the writer's netlist; the second conjunct is a
    COMPUTED clause: the closed-form (pure) reader `buildWI` accepts the written module — reader acceptance is assumed by
    the predicate, not derived from syntactic conditions -/
def fragC04 (n : Text.WNet) (T : Text.WDef) : Bool :=
  fragTop n T && ((astOf n T).bind (fun m => buildWI m.toI)).isSome

/-- **c04_ast.**  The reading of what is written, up to tokens: for a netlist of the fragment the module `astOf n T` exists,
    the REAL `elabDesign` accepts the file that consists of it, elects it as top, and its definition shows the view of `T`. -/
theorem c04_ast (n : Text.WNet) (T : Text.WDef) (h : fragC04 n T = true) :
    ∃ m s D ls, astOf n T = some m ∧ elabDesign [m.toI.toModule] = .ok s ∧ s.defs = D :: ls ∧ s.top = some T.name ∧
      s.pending = [] ∧ viewD D = viewT n T ∧ LeafInv n ls := by
  unfold fragC04 at h
  simp only [Bool.and_eq_true] at h
  obtain ⟨hf, hs⟩ := h
  cases hm : astOf n T with
  | none => simp [hm] at hs
  | some m =>
    simp only [hm, Option.bind_some] at hs
    obtain ⟨⟨defs, nx⟩, hr⟩ := Option.isSome_iff_exists.mp hs
    obtain ⟨D, ls, e, hv, hl⟩ := c04_view n T m defs nx hf hm hr
    obtain ⟨_, _, _, _, rfl⟩ := astOf_eq hm
    exact ⟨_, _, D, ls, rfl, elabDesign_wsingle _ defs nx hr, e, rfl, rfl, hv, hl⟩

/-- non-vacuity: a top module with three ports, four nets and three instances of two primitives (parameters, a
    concatenation over three nets, a part select, bit selects, an unconnected pin) -/
def exNet : Text.WNet :=
  let b (c : String) (i : Int) : Option Bit := some ⟨c, i⟩
  { name := "ex", top := some "top",
    defs := [
      { name := "top", lib := "work", params := none, attrs := none,
        ports := [⟨some "a", "IN", 0, 4, [b "a" 0, b "a" 1, b "a" 2, b "a" 3], none⟩,
                  ⟨some "b", "IN", 0, 1, [b "b" 0], none⟩,
                  ⟨some "y", "OUT", 0, 2, [b "y" 0, b "y" 1], some [("keep", none)]⟩],
        cables := [⟨"a", 0, 4, none, none⟩, ⟨"b", 0, 1, none, none⟩, ⟨"y", 0, 2, some "wire", none⟩, ⟨"n", 0, 3, some "wire", none⟩],
        insts := [⟨"u0", "LUT2", some [("INIT", "4'h8")], none, [[b "a" 0], [b "b" 0], [b "y" 0]]⟩,
                  ⟨"u1", "LUT2", none, none, [[b "n" 0], [none], [b "y" 1]]⟩,
                  ⟨"r0", "RAM", none, some [("dont_touch", some "\"true\"")], [[b "b" 0, b "a" 3, b "n" 1, b "n" 2], [b "n" 0]]⟩] },
      { name := "LUT2", lib := "hdi_primitives", params := none, attrs := none,
        ports := [⟨some "I0", "IN", 0, 1, [none], none⟩, ⟨some "I1", "IN", 0, 1, [none], none⟩, ⟨some "O", "OUT", 0, 1, [none], none⟩],
        cables := [], insts := [] },
      { name := "RAM", lib := "hdi_primitives", params := none, attrs := none,
        ports := [⟨some "addr", "IN", 0, 4, [none, none, none, none], none⟩, ⟨some "q", "OUT", 0, 1, [none], none⟩],
        cables := [], insts := [] }] }

def exTop : Text.WDef := exNet.defs.headD default

theorem exNet_frag : fragC04 exNet exTop = true := by decide
end Spydr.Verilog.Elab
