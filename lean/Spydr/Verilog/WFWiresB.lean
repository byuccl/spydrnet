/-
  Verilog engine — WiresWF for any input: `elabDesign_ww`, `readV_ww` (the `WW` half of `elabDesign_pres`: only
  `createOrUpdateCable` hands out wire ids, every other step is a `Keep`), the decidable predicate `wiresWF`,
  `reader_wiresWF` for any text.
-/
import Spydr.Verilog.WFStruct
namespace Spydr.Verilog.Elab
open Spydr.Verilog

/-- **elabDesign_ww.**  Whatever the elaboration accepts has, in every definition, distinct wire ids below the counter and
    no net without a wire — for ANY list of modules. -/
theorem elabDesign_ww (ms : List Module) (s : St) (h : elabDesign ms = .ok s) : WW s :=
  (elabDesign_pres ms s h).2 fun _ hd => by cases hd

theorem readV_ww (text : String) (s : St) (h : Parse.readV text = .ok s) : WW s := by
  unfold Parse.readV at h
  obtain ⟨ms, -, h⟩ := bind_ok h
  exact elabDesign_ww ms s h

/-- **WiresWF** (decidable): in every definition the wire ids of its nets are pairwise distinct (also across nets) and
    below the counter, and every net has at least one wire -/
def wiresWF (s : St) : Bool :=
  s.defs.all (fun d => decide ((wiresOf d).Nodup) && (wiresOf d).all (fun w => decide (w < s.next)) &&
    d.cables.all (fun c => decide (1 ≤ c.wires.length)))

theorem wiresWF_iff (s : St) : wiresWF s = true ↔ WW s := by
  simp only [wiresWF, WW, List.all_eq_true, Bool.and_eq_true, decide_eq_true_eq, and_assoc]

/-- **reader_wiresWF.**  For ANY text: whatever the reader accepts satisfies `wiresWF`. -/
theorem reader_wiresWF (text : String) (s : St) (h : Parse.readV text = .ok s) : wiresWF s = true :=
  (wiresWF_iff s).mpr (readV_ww text s h)

theorem elab_wiresWF (ms : List Module) (s : St) (h : elabDesign ms = .ok s) : wiresWF s = true :=
  (wiresWF_iff s).mpr (elabDesign_ww ms s h)
end Spydr.Verilog.Elab
