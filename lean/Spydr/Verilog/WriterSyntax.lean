/-
  The functions that read the written syntax (SyntaxTypes) off a definition of the netlist, for the shapes beyond the
  plain work module (`astOf`, RoundTripAst): a `celldefine` module (`astLeaf`; a port without direction `astLeafU`; with
  attributes and module parameters `astLeafXU`), a work module with assigns and module parameters (`astOfA`), a definition
  after the top (`astAnyP`, `astAnyPA`), each with the lemma that says what it accepts.
-/
import Spydr.Verilog.RoundTripAst
namespace Spydr.Verilog.Elab
open Spydr.Verilog

/-- `_write_module_body_ports` for a port of a primitive: `dir [msb:lsb] name ;` with the port's own range — the port has no
    inner net (a primitive library), or is wired pin by pin to the whole net of its own name (what the Verilog reader
    builds for a `celldefine` module) -/
def astLeafPort (r : Text.WDef) (p : Text.WPort) : Option PDecl :=
  match p.name, dirOfS p.dir with
  | some nm, some dir =>
    if 1 ≤ p.width ∧ p.attrs.getD [] = [] then
      if p.pins.all (fun b => b.isNone) then some ⟨nm, dir, emitDeclRange p.lower p.width, []⟩
      else
        match r.cables.find? (fun c => c.name == nm) with
        | some c =>
          if p.lower = c.lower ∧ p.width = c.width ∧ p.pins = (cableBits nm c.lower c.width).items.map some ∧
              emitHeaderPort (Text.envOf r) nm p.pins = some none then
            some ⟨nm, dir, emitDeclRange p.lower p.width, []⟩
          else none
        | none => none
    else none
  | _, _ => none

theorem astLeafPort_spec (r : Text.WDef) (p : Text.WPort) (q : PDecl) (h : astLeafPort r p = some q) :
    ∃ nm dir, p.name = some nm ∧ dirOfS p.dir = some dir ∧ 1 ≤ p.width ∧ p.attrs.getD [] = [] ∧
      q = ⟨nm, dir, emitDeclRange p.lower p.width, []⟩ ∧
      (p.pins.all (fun b => b.isNone) = true ∨
        ∃ c, r.cables.find? (fun c => c.name == nm) = some c ∧ p.lower = c.lower ∧ p.width = c.width ∧
          p.pins = (cableBits nm c.lower c.width).items.map some ∧ emitHeaderPort (Text.envOf r) nm p.pins = some none) := by
  unfold astLeafPort at h
  split at h
  · rename_i nm dir hn hd
    split at h
    · rename_i hc
      split at h
      · rename_i hfree
        simp only [Option.some.injEq] at h
        exact ⟨nm, dir, hn, hd, hc.1, hc.2, h.symm, Or.inl hfree⟩
      · split at h
        · rename_i c hfc
          split at h
          · rename_i hw
            simp only [Option.some.injEq] at h
            exact ⟨nm, dir, hn, hd, hc.1, hc.2, h.symm, Or.inr ⟨c, hfc, hw.1, hw.2.1, hw.2.2.1, hw.2.2.2⟩⟩
          · cases h
        · cases h
    · cases h
  · cases h

def astLeaf (r : Text.WDef) : Option WLeaf := (r.ports.mapM (astLeafPort r)).map (fun ps => ⟨r.name, ps⟩)

def astLeafPortU (r : Text.WDef) (p : Text.WPort) : Option PDecl :=
  match dirOfS p.dir with
  | some _ => astLeafPort r p
  | none => (astLeafPort r { p with dir := "INOUT" }).map (fun q => { q with dir := .undef })

def astLeafU (r : Text.WDef) : Option WLeaf := (r.ports.mapM (astLeafPortU r)).map (fun ps => ⟨r.name, ps⟩)

/-- the module parameters the writer prints (`#(parameter k = v, …)`): every parameter needs a value -/
def astParams (T : Text.WDef) : Option Params :=
  match T.params with
  | none => some []
  | some ps => ps.mapM (fun kv => kv.2.map (fun v => (kv.1, v)))

/-- the written syntax of a primitive: ports (a port without direction keeps `.undef`: it is printed with the comment),
    attributes, module parameters -/
def astLeafXU (r : Text.WDef) : Option WLeafX :=
  match astLeafU r, astParams r with
  | some lf, some ps => some ⟨lf, r.attrs.getD [], ps⟩
  | _, _ => none

theorem astLeafXU_spec (r : Text.WDef) (lf : WLeafX) (h : astLeafXU r = some lf) :
    astLeafU r = some lf.base ∧ lf.attrs = r.attrs.getD [] ∧ astParams r = some lf.params := by
  unfold astLeafXU at h
  split at h
  · rename_i b ps h1 h2
    rw [← Option.some.inj h]
    exact ⟨h1, rfl, h2⟩
  · cases h

/-- is the instance an assignment?  (the writer's test: its definition lies in the assignment library) -/
def isAsgI (n : Text.WNet) (i : Text.WInst) : Bool :=
  match Text.refOf n i.ref with
  | some r => r.lib == "SDN_VERILOG_ASSIGNMENT"
  | none => false

/-- the two sides the writer prints for an assignment instance (`assignsText`) -/
def astAsg (n : Text.WNet) (T : Text.WDef) (i : Text.WInst) : Option (Atom × Atom) :=
  match Text.refOf n i.ref with
  | none => none
  | some r =>
    match r.ports.findIdx? (fun p => p.name == some "i"), r.ports.findIdx? (fun p => p.name == some "o") with
    | some ki, some ko => emitAssign (Text.envOf T) (i.pins.getD ko []) (i.pins.getD ki [])
    | _, _ => none

def asgI (n : Text.WNet) (T : Text.WDef) : List Text.WInst := T.insts.filter (isAsgI n)

def ordI (n : Text.WNet) (T : Text.WDef) : List Text.WInst := T.insts.filter (fun i => !isAsgI n i)

/-- the syntax the writer prints for a definition with assigns: the instances that are no assignments, and the two sides of
    every assignment instance -/
def astOfA (n : Text.WNet) (T : Text.WDef) : Option WModPA :=
  match T.ports.mapM (astPort T), (ordI n T).mapM (astInst n T), (asgI n T).mapM (astAsg n T), astParams T with
  | some ports, some insts, some as, some ps =>
    some ⟨⟨T.name, T.attrs.getD [], ports, T.cables.reverse.map astWire, insts⟩, as, ps⟩
  | _, _, _, _ => none

theorem astOfA_some (n : Text.WNet) (T : Text.WDef) (m : WModPA) (hm : astOfA n T = some m) :
    ∃ ports insts as ps, T.ports.mapM (astPort T) = some ports ∧ (ordI n T).mapM (astInst n T) = some insts ∧
      (asgI n T).mapM (astAsg n T) = some as ∧ astParams T = some ps ∧
      m = ⟨⟨T.name, T.attrs.getD [], ports, T.cables.reverse.map astWire, insts⟩, as, ps⟩ := by
  unfold astOfA at hm
  split at hm
  · rename_i ports insts as ps h1 h2 h3 h4
    exact ⟨ports, insts, as, ps, h1, h2, h3, h4, (Option.some.inj hm).symm⟩
  · cases hm

def astAnyP (n : Text.WNet) (r : Text.WDef) : Option WAnyP :=
  if r.lib == "hdi_primitives" then (astLeaf r).map WAnyP.leaf else (astOf n r).map WAnyP.work

def astAnyPA (n : Text.WNet) (r : Text.WDef) : Option WAnyPA :=
  if r.lib == "hdi_primitives" then (astLeafXU r).map WAnyPA.leaf else (astOfA n r).map WAnyPA.work

end Spydr.Verilog.Elab
