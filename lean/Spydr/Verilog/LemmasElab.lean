/-
  Verilog engine — the table of the whole-design elaboration: the port-map loop it shares with the bit-level model
  (`connectInstRow_eq`); looking a definition up (`Has`) and rewriting it (`St.upd`, `St.put`); the two primitives
  `create_or_update_cable` / `create_or_update_port` as equations (a pure function of the one definition, under
  `mapInstRows` for the rows of its instances); steps that rewrite one definition as a pure fold (`foldLocal`); and the
  wire ids of one definition (`ids`, `WInv`, `WF`: appending a net, growing a net).
-/
import Spydr.Verilog.ModelElab
import Spydr.Common.Except
import Spydr.Common.List

namespace Spydr.Verilog.Elab
open Spydr.Verilog

/-- `connectInstRow` (the step `parse_port_map_single` and `connect_implicitly_mapped_ports` share in the
    elaboration) is the port-map loop of the bit-level model applied to the stored row: whenever it
    succeeds, the new row is `connectLowAligned` of the old one; every other row of the instance, every
    other instance and every other definition are untouched. -/
theorem connectInstRow_eq (s s' : St) (dn iname : String) (k : Nat) (ws : List Nat)
    (h : connectInstRow s dn iname k ws = .ok s') :
    ∃ d ii row', s.find dn = some d ∧ instIdx d iname = some ii ∧
      connectLowAligned (((d.insts.getD ii default).pins).getD k []) ws = some row' ∧
      s' = s.upd dn (fun d' =>
        { d' with insts := d'.insts.set ii (let i := d.insts.getD ii default; { i with pins := i.pins.set k row' }) }) := by
  unfold connectInstRow getDef at h
  cases hd : s.find dn with
  | none => rw [hd] at h; cases h
  | some d =>
    cases hi : instIdx d iname with
    | none => simp only [hd, hi, bind, Except.bind, pure, Except.pure] at h; cases h
    | some ii =>
      simp only [hd, hi, bind, Except.bind, pure, Except.pure] at h
      split at h
      · cases h
      · next row' hc =>
        cases h
        exact ⟨d, ii, row', rfl, hi, hc, rfl⟩

theorem portIdx_lt {d : Def} {name : String} {k : Nat} (h : portIdx d name = some k) : k < d.ports.length := by
  unfold portIdx at h
  exact (List.findIdx?_eq_some_iff_findIdx_eq.mp h).1

theorem instIdx_lt {d : Def} {n : String} {ii : Nat} (h : instIdx d n = some ii) : ii < d.insts.length := by
  unfold instIdx at h
  exact (List.findIdx?_eq_some_iff_findIdx_eq.mp h).1

def Has (s : St) (n : String) (d : Def) : Prop :=
  d ∈ s.defs ∧ d.name = n ∧ ∀ d' ∈ s.defs, d'.name = n → d' = d

theorem Has.find {s : St} {n : String} {d : Def} (h : Has s n d) : s.find n = some d :=
  find?_unique h.1 (by simp [h.2.1]) (fun x hx hp => h.2.2 x hx (by simpa using hp))

theorem find_none_names (s : St) (n : String) (h : s.find n = none) : ∀ d ∈ s.defs, d.name ≠ n := by
  intro d hd e
  unfold St.find at h
  have := List.find?_eq_none.mp h d hd
  simp [e] at this

theorem getDef_has {s : St} {n : String} {d : Def} (h : Has s n d) : getDef s n = .ok d := by
  unfold getDef; rw [h.find]; rfl

theorem St.upd_id' (s : St) (n : String) (f : Def → Def) (d : Def) (h : Has s n d) (hf : f d = d) :
    s.upd n f = s := by
  unfold St.upd
  rw [map_id_of_mem]
  intro d' hd
  by_cases e : d'.name = n
  · rw [h.2.2 d' hd e]; simp [h.2.1, hf]
  · simp [e]

theorem St.mem_upd {s : St} {n : String} {f : Def → Def} {d' : Def} (h : d' ∈ (s.upd n f).defs) :
    ∃ x ∈ s.defs, (x.name = n ∧ d' = f x) ∨ (x.name ≠ n ∧ d' = x) := by
  obtain ⟨x, hx, hxe⟩ := List.mem_map.mp h
  refine ⟨x, hx, ?_⟩
  by_cases e : x.name = n
  · exact .inl ⟨e, by simpa [e] using hxe.symm⟩
  · exact .inr ⟨e, by simpa [e] using hxe.symm⟩

theorem Has.of_defs {s s' : St} {n : String} {d : Def} (h : s'.defs = s.defs) (hd : Has s n d) : Has s' n d := by
  unfold Has at hd ⊢; rw [h]; exact hd

theorem find_of_defs {s s' : St} (h : s'.defs = s.defs) (n : String) : s'.find n = s.find n := by
  unfold St.find; rw [h]

theorem St.upd_upd (s : St) (n : String) (f g : Def → Def) (hf : ∀ d, (f d).name = d.name) :
    (s.upd n f).upd n g = s.upd n (fun d => g (f d)) := by
  unfold St.upd
  simp only [List.map_map]
  congr 1
  apply List.map_congr_left
  intro d _
  by_cases e : d.name = n
  · simp [e, hf]
  · simp [e]

theorem St.upd_congr (s : St) (n : String) (f g : Def → Def) (d : Def) (hd : Has s n d) (h : f d = g d) :
    s.upd n f = s.upd n g := by
  unfold St.upd
  congr 1
  apply List.map_congr_left
  intro x hx
  by_cases e : x.name = n
  · rw [hd.2.2 x hx e]; simp [hd.2.1, h]
  · simp [e]

theorem Has.upd {s : St} {n : String} {d : Def} (h : Has s n d) (f : Def → Def) (hf : ∀ d, (f d).name = d.name) :
    Has (s.upd n f) n (f d) := by
  refine ⟨List.mem_map.mpr ⟨d, h.1, by simp [h.2.1]⟩, by rw [hf, h.2.1], ?_⟩
  intro d' hd' hn'
  obtain ⟨x, hx, ⟨e, rfl⟩ | ⟨e, rfl⟩⟩ := St.mem_upd hd'
  · rw [h.2.2 x hx e]
  · exact absurd hn' e

theorem Has.upd_other {s : St} {n m : String} {e : Def} (h : Has s m e) (f : Def → Def)
    (hf : ∀ d, (f d).name = d.name) (hne : m ≠ n) : Has (s.upd n f) m e := by
  refine ⟨List.mem_map.mpr ⟨e, h.1, by simp [h.2.1, hne]⟩, h.2.1, ?_⟩
  intro d' hd' hn'
  obtain ⟨x, hx, ⟨ex, rfl⟩ | ⟨_, rfl⟩⟩ := St.mem_upd hd'
  · rw [hf, ex] at hn'; exact absurd hn'.symm hne
  · exact h.2.2 _ hx hn'

theorem St.find_upd_ne (s : St) (n m : String) (f : Def → Def) (hf : ∀ d, (f d).name = d.name) (h : m ≠ n) :
    (s.upd n f).find m = s.find m := by
  unfold St.upd St.find
  simp only
  induction s.defs with
  | nil => rfl
  | cons d ds ih =>
    simp only [List.map_cons, List.find?_cons, ih]
    by_cases e : d.name = n
    · simp [e, hf, show (n == m) = false from by simpa using fun h' => h h'.symm]
    · simp [e]

theorem St.ext' (a b : St) (h1 : a.defs = b.defs) (h2 : a.next = b.next) (h3 : a.top = b.top)
    (h4 : a.acount = b.acount) (h5 : a.pending = b.pending) : a = b := by
  cases a; cases b; simp_all

/-- nobody instances `n` (a module is declared before its first use) -/
def NoRef (s : St) (n : String) : Prop := ∀ d ∈ s.defs, ∀ i ∈ d.insts, i.ref ≠ n

theorem NoRef.of_defs {s s' : St} {n : String} (h : s'.defs = s.defs) (hr : NoRef s n) : NoRef s' n := by
  unfold NoRef at hr ⊢; rw [h]; exact hr

theorem mapInstRows_noref (s : St) (n : String) (k : Nat) (f : List (Option Nat) → List (Option Nat))
    (h : NoRef s n) : mapInstRows s n k f = s := by
  unfold mapInstRows
  rw [map_id_of_mem]
  intro d hd
  rw [map_id_of_mem]
  intro i hi
  simp [h d hd i hi]

theorem NoRef_upd (s : St) (n m : String) (f : Def → Def) (hf : ∀ d, (f d).insts = d.insts) (h : NoRef s n) :
    NoRef (s.upd m f) n := by
  intro d' hd' i hi
  obtain ⟨x, hx, ⟨_, rfl⟩ | ⟨_, rfl⟩⟩ := St.mem_upd hd'
  · exact h x hx i (hf x ▸ hi)
  · exact h _ hx i hi

theorem defs_upd_last (S : St) (base : List Def) (e : Def) (f : Def → Def) (h : S.defs = base ++ [e])
    (hb : ∀ d ∈ base, d.name ≠ e.name) : (S.upd e.name f).defs = base ++ [f e] := by
  unfold St.upd
  simp only [h, List.map_append, List.map_cons, List.map_nil, beq_self_eq_true, if_true]
  rw [map_id_of_mem (fun d hd => by simp [hb d hd])]

theorem Has_last (S : St) (base : List Def) (e : Def) (h : S.defs = base ++ [e])
    (hb : ∀ d ∈ base, d.name ≠ e.name) : Has S e.name e := by
  refine ⟨by rw [h]; simp, rfl, ?_⟩
  intro d' hd' hn
  rcases List.mem_append.mp (h ▸ hd') with h1 | h1
  · exact absurd hn (hb d' h1)
  · exact List.mem_singleton.mp h1

theorem Has_base (S : St) (base : List Def) (e : Def) (h : S.defs = base ++ [e]) (n : String) (d : Def)
    (hd : d ∈ base ∧ d.name = n ∧ ∀ d' ∈ base, d'.name = n → d' = d) (hne : e.name ≠ n) : Has S n d := by
  refine ⟨by rw [h]; simp [hd.1], hd.2.1, ?_⟩
  intro d' hd' hn'
  rcases List.mem_append.mp (h ▸ hd') with h1 | h1
  · exact hd.2.2 d' h1 hn'
  · rw [List.mem_singleton.mp h1] at hn'; exact absurd hn' hne

theorem Has_append_new (s : St) (e : Def) (h : s.find e.name = none) :
    Has ({ s with defs := s.defs ++ [e] } : St) e.name e :=
  Has_last _ s.defs e rfl (find_none_names s e.name h)

theorem Has_append_old (s : St) (e : Def) (n : String) (d : Def) (hd : Has s n d) (hne : e.name ≠ n) :
    Has ({ s with defs := s.defs ++ [e] } : St) n d :=
  Has_base _ s.defs e rfl n d hd hne

theorem upd_append_new (s : St) (e : Def) (f : Def → Def) (h : s.find e.name = none) :
    (({ s with defs := s.defs ++ [e] } : St).upd e.name f).defs = s.defs ++ [f e] :=
  defs_upd_last _ s.defs e f rfl (find_none_names s e.name h)

theorem find_base (S : St) (base : List Def) (e : Def) (h : S.defs = base ++ [e]) (n : String) (hne : e.name ≠ n) :
    S.find n = base.find? (fun d => d.name == n) := by
  unfold St.find
  rw [h, List.find?_append]
  simp [hne]

theorem NoRef_base (S : St) (base : List Def) (e : Def) (h : S.defs = base ++ [e]) (n : String)
    (hr : ∀ d ∈ base, ∀ i ∈ d.insts, i.ref ≠ n) (he : e.insts = []) : NoRef S n := by
  intro d hd i hi
  rcases List.mem_append.mp (h ▸ hd) with h1 | h1
  · exact hr d h1 i hi
  · rw [List.mem_singleton.mp h1, he] at hi; cases hi

/-- the wire ids the next `w` fresh wires get -/
def ids (next w : Nat) : List Nat := (List.range w).map (· + next)

theorem fresh_eq (s : St) (k : Nat) : fresh s k = ({ s with next := s.next + k }, ids s.next k) := rfl

def addPort (p : Port) : Def → Def := fun x => { x with ports := x.ports ++ [p] }
def addCable (c : Cable) : Def → Def := fun x => { x with cables := x.cables ++ [c] }
def putPort (k : Nat) (p : Port) : Def → Def := fun x => { x with ports := x.ports.set k p }
def freePort (name : String) (dir : Dir) (lo : Int) (dt : Bool) (w : Nat) : Port :=
  ⟨some name, dir, lo, dt, List.replicate w none, none⟩
def wiredPort (name : String) (dir : Dir) (lo : Int) (dt : Bool) (ws : List Nat) : Port :=
  ⟨some name, dir, lo, dt, ws.map some, none⟩
def portCable (name : String) (lo : Int) (dt : Bool) (ws : List Nat) : Cable := ⟨name, lo, dt, ws, none, none⟩
def withNext (s : St) (n : Nat) : St := { s with next := n }

theorem withNext_upd (s : St) (k : Nat) (n : String) (f : Def → Def) :
    (withNext s k).upd n f = withNext (s.upd n f) k := rfl

theorem withNext_next (s : St) (k : Nat) : (withNext s k).next = k := rfl

theorem withNext_withNext (s : St) (a b : Nat) : withNext (withNext s a) b = withNext s b := rfl

def St.put (s : St) (dn : String) (d : Def) (n : Nat) : St := withNext (s.upd dn (fun _ => d)) n

theorem St.put_self (s : St) (dn : String) (d : Def) (h : Has s dn d) : s.put dn d s.next = s := by
  unfold St.put
  rw [St.upd_id' s dn _ d h rfl]
  cases s; rfl

theorem St.put_upd (s : St) (dn : String) (d : Def) (n : Nat) (f : Def → Def) (h : d.name = dn) :
    (s.put dn d n).upd dn f = s.put dn (f d) n := by
  unfold St.put withNext St.upd
  simp only [List.map_map]
  congr 1
  apply List.map_congr_left
  intro x _
  simp only [Function.comp]
  by_cases e : x.name = dn
  · simp [e, h]
  · simp [e]

theorem St.put_put (s : St) (dn : String) (d1 d2 : Def) (n1 n2 : Nat) (h : d1.name = dn) :
    (s.put dn d1 n1).put dn d2 n2 = s.put dn d2 n2 := by
  rw [St.put, St.put_upd s dn d1 n1 _ h]
  rfl

theorem Has.put {s : St} {dn : String} {d : Def} (h : Has s dn d) (d' : Def) (n : Nat) (hn : d'.name = d.name) :
    Has (s.put dn d' n) dn d' := by
  refine ⟨List.mem_map.mpr ⟨d, h.1, by simp [h.2.1]⟩, hn.trans h.2.1, ?_⟩
  intro x' hx' hxn
  obtain ⟨x, _, ⟨_, rfl⟩ | ⟨e, rfl⟩⟩ := St.mem_upd hx'
  · rfl
  · exact absurd hxn e

theorem NoRef.put {s : St} {dn : String} (h : NoRef s dn) (d' : Def) (n : Nat) (hi : ∀ i ∈ d'.insts, i.ref ≠ dn) :
    NoRef (s.put dn d' n) dn := by
  intro x' hx' i hi'
  obtain ⟨x, hx, ⟨_, rfl⟩ | ⟨_, rfl⟩⟩ := St.mem_upd hx'
  · exact hi i hi'
  · exact h _ hx i hi'

theorem upd_eq_put (s : St) (dn : String) (d : Def) (f : Def → Def) (n : Nat) (h : Has s dn d) :
    withNext (s.upd dn f) n = s.put dn (f d) n := by
  unfold St.put
  rw [St.upd_congr s dn f (fun _ => f d) d h rfl]

def setCable (name : String) (c : Cable) : Def → Def := fun d =>
  { d with cables := d.cables.map (fun x => if x.name == name then c else x) }

/-- `create_or_update_cable` seen from inside the definition it works on: the new definition, the new wire counter -/
def cableUpd (d : Def) (n : Nat) (name : String) (l r : Option Int) (vt : Option String) (df : Bool) : Def × Nat :=
  match d.cables.find? (fun c => c.name == name) with
  | none =>
    (addCable ⟨name, (populateNew l r).1, (populateNew l r).2.2, ids n (populateNew l r).2.1, vt, none⟩ d,
     n + (populateNew l r).2.1)
  | some c =>
    let rz := resizeCable c.lower c.wires.length l r df
    (setCable name { c with lower := rz.lower, wires := ids n rz.pre ++ c.wires ++ ids (n + rz.pre) rz.post,
                            ctype := vt.or c.ctype } d, n + rz.pre + rz.post)

theorem createOrUpdateCable_eq {s : St} {dn : String} {d : Def} (hd : Has s dn d) (name : String) (l r : Option Int)
    (vt : Option String) (df : Bool) :
    createOrUpdateCable s dn name l r vt df =
      .ok (s.put dn (cableUpd d s.next name l r vt df).1 (cableUpd d s.next name l r vt df).2) := by
  unfold createOrUpdateCable cableUpd
  rw [getDef_has hd]
  simp only [bind, Except.bind, fresh_eq, pure, Except.pure]
  cases d.cables.find? (fun c => c.name == name) with
  | none => exact congrArg Except.ok (upd_eq_put s dn d _ _ hd)
  | some c =>
    simp only []
    rw [← upd_eq_put s dn d _ _ hd]
    cases vt <;> rfl

/-- the free pins `create_or_update_port` puts around a row -/
def padRz (rz : Resize) (row : List (Option Nat)) : List (Option Nat) :=
  List.replicate rz.pre none ++ row ++ List.replicate rz.post none

/-- `create_or_update_port` seen from inside the definition: the new definition, the port's position, and what happens
    to row `k` of every instance of the definition -/
def portUpd (d : Def) (name : String) (l r : Option Int) (dir : Option Dir) (df : Bool) :
    Def × Nat × (List (Option Nat) → List (Option Nat)) :=
  match portIdx d name with
  | none =>
    (addPort (freePort name (dir.getD .undef) (populateNew l r).1 (populateNew l r).2.2 (populateNew l r).2.1) d,
     d.ports.length, fun _ => List.replicate (populateNew l r).2.1 none)
  | some k =>
    let p := d.ports.getD k default
    let rz := resizePort p.lower p.pins.length l r df
    (putPort k { p with lower := rz.lower, pins := padRz rz p.pins, dir := dir.getD p.dir } d, k, padRz rz)

theorem createOrUpdatePort_eq {s : St} {dn : String} {d : Def} (hd : Has s dn d) (name : String) (l r : Option Int)
    (dir : Option Dir) (df : Bool) :
    createOrUpdatePort s dn name l r dir df =
      .ok (mapInstRows (s.put dn (portUpd d name l r dir df).1 s.next) dn (portUpd d name l r dir df).2.1
        (portUpd d name l r dir df).2.2) := by
  unfold createOrUpdatePort portUpd
  rw [getDef_has hd]
  simp only [bind, Except.bind, pure, Except.pure]
  cases portIdx d name with
  | none => simp only []; rw [← upd_eq_put s dn d _ _ hd]; rfl
  | some k =>
    simp only []
    rw [← upd_eq_put s dn d _ _ hd]
    cases dir <;> rfl

theorem def_insts_noref (d : Def) (dn : String) (h : ∀ i ∈ d.insts, i.ref ≠ dn) (g : Inst → Inst) :
    ({ d with insts := d.insts.map (fun i => if i.ref == dn then g i else i) } : Def) = d := by
  rw [map_id_of_mem (fun i hi => by simp [h i hi])]

theorem mapInstRows_put_comm (s : St) (dn : String) (k : Nat) (f : List (Option Nat) → List (Option Nat)) (d' : Def) (n : Nat)
    (hi : ∀ i ∈ d'.insts, i.ref ≠ dn) : mapInstRows (s.put dn d' n) dn k f = (mapInstRows s dn k f).put dn d' n := by
  unfold mapInstRows St.put withNext St.upd
  simp only [List.map_map]
  congr 1
  apply List.map_congr_left
  intro x _
  simp only [Function.comp]
  by_cases e : x.name = dn
  · simp only [e, beq_self_eq_true, if_true]
    exact def_insts_noref d' dn hi _
  · simp [e]

theorem Has.mapRows_ref {s : St} {dn : String} {d : Def} (h : Has s dn d) (ref : String) (hi : ∀ i ∈ d.insts, i.ref ≠ ref)
    (k : Nat) (f : List (Option Nat) → List (Option Nat)) : Has (mapInstRows s ref k f) dn d := by
  obtain ⟨hm, hn, hu⟩ := h
  refine ⟨List.mem_map.mpr ⟨d, hm, def_insts_noref d ref hi _⟩, hn, ?_⟩
  intro x' hx' hxn
  obtain ⟨x, hx, rfl⟩ := List.mem_map.mp hx'
  rw [hu x hx hxn]
  exact def_insts_noref d ref hi _

def foldLocal {α : Type} (step : Def → Nat → α → Option (Def × Nat)) : Def → Nat → List α → Option (Def × Nat)
  | d, n, [] => some (d, n)
  | d, n, a :: as =>
    match step d n a with
    | some r => foldLocal step r.1 r.2 as
    | none => none

theorem foldLocal_cons {α : Type} (step : Def → Nat → α → Option (Def × Nat)) (d : Def) (n : Nat) (a : α) (as : List α)
    (r : Def × Nat) :
    foldLocal step d n (a :: as) = some r ↔ ∃ d1 n1, step d n a = some (d1, n1) ∧ foldLocal step d1 n1 as = some r := by
  rw [foldLocal]
  cases step d n a with
  | none => simp
  | some r1 => exact ⟨fun h => ⟨r1.1, r1.2, rfl, h⟩, fun ⟨_, _, e, h⟩ => by cases e; exact h⟩

/-- A list of items each of which rewrites only definition `dn` and the wire counter, as a pure fold; `I` is whatever the
    steps need of the table besides `Has` and keep true. -/
theorem fold_localI {α : Type} (dn : String) (I : St → Prop) (run : St → α → M St)
    (step : Def → Nat → α → Option (Def × Nat))
    (hstep : ∀ (s : St) (d : Def) (a : α) (d' : Def) (n' : Nat), Has s dn d → I s →
      step d s.next a = some (d', n') →
      run s a = .ok (s.put dn d' n') ∧ d'.name = d.name ∧ I (s.put dn d' n')) :
    ∀ (as : List α) (s : St) (d d' : Def) (n' : Nat), Has s dn d → I s →
      foldLocal step d s.next as = some (d', n') → as.foldlM run s = .ok (s.put dn d' n') := by
  intro as
  induction as with
  | nil =>
    intro s d d' n' hd _ h
    cases h
    exact congrArg Except.ok (St.put_self s dn d hd).symm
  | cons a as ih =>
    intro s d d' n' hd hI h
    obtain ⟨d1, n1, hs, h⟩ := (foldLocal_cons step d s.next a as (d', n')).mp h
    obtain ⟨h1, h2, h3⟩ := hstep s d a d1 n1 hd hI hs
    simp only [List.foldlM_cons, bind, Except.bind, h1]
    rw [ih (s.put dn d1 n1) d1 d' n' (hd.put d1 n1 h2) h3 h, St.put_put s dn d1 d' n1 n' (h2.trans hd.2.1)]

theorem fold_local {α : Type} (dn : String) (run : St → α → M St) (step : Def → Nat → α → Option (Def × Nat))
    (hstep : ∀ (s : St) (d : Def) (a : α) (d' : Def) (n' : Nat), Has s dn d → NoRef s dn →
      step d s.next a = some (d', n') →
      run s a = .ok (s.put dn d' n') ∧ d'.name = d.name ∧ (∀ i ∈ d'.insts, i.ref ≠ dn)) :
    ∀ (as : List α) (s : St) (d d' : Def) (n' : Nat), Has s dn d → NoRef s dn →
      foldLocal step d s.next as = some (d', n') → as.foldlM run s = .ok (s.put dn d' n') :=
  fold_localI dn (NoRef · dn) run step fun s d a d' n' hd hn hs =>
    ⟨(hstep s d a d' n' hd hn hs).1, (hstep s d a d' n' hd hn hs).2.1, hn.put d' n' (hstep s d a d' n' hd hn hs).2.2⟩

theorem foldLocal_eq_foldlM {α : Type} (step : Def → Nat → α → Option (Def × Nat)) (as : List α) (d : Def) (n : Nat) :
    foldLocal step d n as = as.foldlM (fun r a => step r.1 r.2 a) (d, n) := by
  induction as generalizing d n with
  | nil => rfl
  | cons a as ih =>
    rw [foldLocal, List.foldlM_cons]
    cases step d n a with
    | none => rfl
    | some r => exact ih r.1 r.2

theorem foldLocal_inv {α : Type} (P : Def → Nat → Prop) (step : Def → Nat → α → Option (Def × Nat))
    (h : ∀ d n a d' n', P d n → step d n a = some (d', n') → P d' n') :
    ∀ (as : List α) (d : Def) (n : Nat) (d' : Def) (n' : Nat), P d n → foldLocal step d n as = some (d', n') → P d' n' :=
  fun as d n d' n' hp hf => foldlM_some_inv (f := fun r a => step r.1 r.2 a) (fun r => P r.1 r.2)
    (fun _ _ _ _ hb hs => h _ _ _ _ _ hb hs) (s := (d, n)) (s' := (d', n')) hp (foldLocal_eq_foldlM step as d n ▸ hf)

theorem foldLocal_pres {α β : Type} (proj : Def → β) (step : Def → Nat → α → Option (Def × Nat))
    (h : ∀ d n a d' n', step d n a = some (d', n') → proj d' = proj d) :
    ∀ (as : List α) (d : Def) (n : Nat) (d' : Def) (n' : Nat), foldLocal step d n as = some (d', n') → proj d' = proj d :=
  fun as d n d' n' => foldLocal_inv (fun x _ => proj x = proj d) step (fun _ _ _ _ _ hb hs => (h _ _ _ _ _ hs).trans hb)
    as d n d' n' rfl

theorem fold_local_put {α : Type} (dn : String) (run : St → α → M St) (step : Def → Nat → α → Option (Def × Nat))
    (hrun : ∀ (s : St) (d : Def) (a : α) (d' : Def) (n' : Nat), Has s dn d → NoRef s dn →
      step d s.next a = some (d', n') → run s a = .ok (s.put dn d' n'))
    (hname : ∀ d n a d' n', step d n a = some (d', n') → d'.name = d.name ∧ d'.insts = d.insts)
    (s : St) (d0 : Def) (h0 : Has s dn d0) (hn0 : NoRef s dn) (as : List α) (d : Def) (n : Nat) (d' : Def) (n' : Nat)
    (hd : d.name = d0.name ∧ d.insts = d0.insts) (hf : foldLocal step d n as = some (d', n')) :
    as.foldlM run (s.put dn d n) = .ok (s.put dn d' n') ∧ d'.name = d0.name ∧ d'.insts = d0.insts := by
  have hself : ∀ i ∈ d.insts, i.ref ≠ dn := by rw [hd.2]; exact hn0 d0 h0.1
  obtain ⟨hn, hi⟩ := Prod.mk.inj (foldLocal_pres (fun x => (x.name, x.insts)) step
    (fun _ _ _ _ _ hs => Prod.ext (hname _ _ _ _ _ hs).1 (hname _ _ _ _ _ hs).2) as d n d' n' hf)
  refine ⟨?_, hn.trans hd.1, hi.trans hd.2⟩
  rw [fold_local dn run step (fun S D a D' k hD hN hs => ⟨hrun S D a D' k hD hN hs, (hname _ _ _ _ _ hs).1,
      by rw [(hname _ _ _ _ _ hs).2]; exact hN D hD.1⟩) as _ d d' n' (h0.put d n hd.1) (hn0.put d n hself) hf,
    St.put_put s dn d d' n n' (hd.1.trans h0.2.1)]

/-- a file whose modules leave no positional port map pending: the modules it never declares become primitives, and
    that is all the end of the file does -/
theorem elabDesign_eq {ms : List Module} {s : St} (h : ms.foldlM elabModule ⟨[], 0, none, 0, []⟩ = .ok s)
    (hp : s.pending = []) :
    elabDesign ms = .ok { s with defs := s.defs.map fun (d : Def) =>
      if d.lib.isNone then { d with lib := some "hdi_primitives", primitive := true } else d } := by
  unfold elabDesign
  simp only [h, bind, Except.bind, hp, List.foldlM_nil]
  rfl

theorem pySlice_mem {α : Type} (xs : List α) (lo hi : Int) : ∀ w ∈ pySlice xs lo hi, w ∈ xs := by
  intro w hw
  unfold pySlice at hw
  exact List.mem_of_mem_drop (List.mem_of_mem_take hw)

theorem pyIndex_mem {α : Type} (xs : List α) (i : Int) (w : α) (h : pyIndex xs i = some w) : w ∈ xs := by
  unfold pyIndex at h
  split at h
  · exact List.mem_of_getElem? h
  · split at h
    · exact List.mem_of_getElem? h
    · cases h

theorem getWires_mem {α : Type} (c : Bundle α) (l r : Option Int) (ws : List α) (h : getWires c l r = some ws) :
    ∀ w ∈ ws, w ∈ c.items := by
  intro w hw
  have single : ∀ i, (pyIndex c.items i).map (fun w => [w]) = some ws → w ∈ c.items := fun i h => by
    obtain ⟨x, hx, rfl⟩ := Option.map_eq_some_iff.mp h
    rw [List.mem_singleton.mp hw]; exact pyIndex_mem _ _ _ hx
  unfold getWires at h
  split at h
  · cases h; exact pySlice_mem _ _ _ _ (List.mem_reverse.mp hw)
  · exact single _ h
  · exact single _ h
  · cases h; exact List.mem_reverse.mp hw

theorem nodup_snoc {α : Type} {l : List α} {a : α} (h : l.Nodup) (ha : a ∉ l) : (l ++ [a]).Nodup := by
  refine List.nodup_append.mpr ⟨h, by simp, fun x hx b hb e => ha ?_⟩
  rw [← List.mem_singleton.mp hb, ← e]; exact hx

theorem nodup_map_snoc {α β : Type} (f : α → β) (l : List α) (a : α) (hn : (l.map f).Nodup) (ha : ∀ x ∈ l, f x ≠ f a) :
    ((l ++ [a]).map f).Nodup := by
  rw [List.map_append]
  exact nodup_snoc hn fun hm => by obtain ⟨x, hx, e⟩ := List.mem_map.mp hm; exact ha x hx e

theorem find_name {cs : List Cable} {nm : String} {c : Cable} (h : cs.find? (fun c => c.name == nm) = some c) :
    c.name = nm := by
  simpa using List.find?_some h

theorem ids_eq (n k : Nat) : (List.range k).map (· + n) = ids n k := rfl

theorem ids_append (n a b : Nat) : ids n a ++ ids (n + a) b = ids n (a + b) := by
  simp [ids, List.range_add, Nat.add_comm, Nat.add_left_comm]

theorem ids_nodup (n w : Nat) : (ids n w).Nodup := by
  unfold ids
  exact List.Pairwise.map _ (fun a b (h : a ≠ b) => by omega) List.nodup_range

theorem ids_lt (n w x : Nat) (h : x ∈ ids n w) : x < n + w := by
  unfold ids at h
  obtain ⟨a, ha, e⟩ := List.mem_map.mp h
  have := List.mem_range.mp ha
  omega

theorem ids_ge (n w x : Nat) (h : x ∈ ids n w) : n ≤ x := by
  unfold ids at h
  obtain ⟨a, _, e⟩ := List.mem_map.mp h
  omega

/-- the wires of a definition: no two cables share a name, no wire id occurs twice -/
def WInv (d : Def) : Prop := (d.cables.map (·.name)).Nodup ∧ (d.cables.flatMap (·.wires)).Nodup

/-- distinct cable names, distinct wire ids, all below the counter -/
def WF (d : Def) (n : Nat) : Prop := WInv d ∧ ∀ c ∈ d.cables, ∀ w ∈ c.wires, w < n

theorem WF_append (d : Def) (n : Nat) (c : Cable) (k : Nat) (h : WF d n)
    (hname : d.cables.find? (fun x => x.name == c.name) = none) (hw : c.wires = ids n k) :
    WF { d with cables := d.cables ++ [c] } (n + k) := by
  obtain ⟨⟨hn, hf⟩, hb⟩ := h
  refine ⟨⟨?_, ?_⟩, fun x hx w hw' => ?_⟩
  · exact nodup_map_snoc (·.name) d.cables c hn fun x hx => by simpa using List.find?_eq_none.mp hname x hx
  · rw [List.flatMap_append, List.nodup_append]
    refine ⟨hf, by simpa [hw] using ids_nodup n k, fun a ha b hb' e => ?_⟩
    obtain ⟨x, hx, hax⟩ := List.mem_flatMap.mp ha
    have := hb x hx a hax
    have := ids_ge n k b (by simpa [hw] using hb')
    omega
  · rcases List.mem_append.mp hx with e | e
    · have := hb x e w hw'; omega
    · rw [List.mem_singleton.mp e, hw] at hw'
      exact ids_lt _ _ _ hw'

theorem WF_grow (nm : String) (extra : List Nat) (n n' : Nat) : ∀ (cs : List Cable) (c0 C : Cable),
    (cs.map (·.name)).Nodup → (cs.flatMap (·.wires)).Nodup → (∀ c ∈ cs, ∀ w ∈ c.wires, w < n) →
    c0 ∈ cs → c0.name = nm → C.name = nm → C.wires = c0.wires ++ extra → extra.Nodup → (∀ w ∈ extra, n ≤ w ∧ w < n') → n ≤ n' →
    ((cs.map (fun y => if y.name == nm then C else y)).map (·.name)).Nodup ∧
    ((cs.map (fun y => if y.name == nm then C else y)).flatMap (·.wires)).Nodup ∧
    (∀ c ∈ cs.map (fun y => if y.name == nm then C else y), ∀ w ∈ c.wires, w < n') := by
  intro cs c0 C hn hf hb hc0 hc0n hCn hCw hex hrange hle
  -- names are unique, so `c0` is the only cable that is replaced
  obtain ⟨l1, l2, rfl⟩ := List.append_of_mem hc0
  have hmap : (l1 ++ c0 :: l2).map (fun y => if y.name == nm then C else y) = l1 ++ C :: l2 := by
    have hother : ∀ l : List Cable, (∀ z ∈ l, z.name ≠ nm) → l.map (fun y => if y.name == nm then C else y) = l :=
      fun l hl => map_id_of_mem fun z hz => by simp [hl z hz]
    rw [List.map_append, List.map_cons, List.nodup_append, List.nodup_cons] at hn
    rw [List.map_append, List.map_cons, if_pos (by simp [hc0n]),
      hother l1 fun z hz e => hn.2.2 z.name (List.mem_map.mpr ⟨z, hz, rfl⟩) c0.name List.mem_cons_self (e.trans hc0n.symm),
      hother l2 fun z hz e => hn.2.1.1 (List.mem_map.mpr ⟨z, hz, e.trans hc0n.symm⟩)]
  -- so the wires are the old ones and `extra`, which lies above them
  have hp : ((l1 ++ C :: l2).flatMap (·.wires)).Perm (extra ++ (l1 ++ c0 :: l2).flatMap (·.wires)) := by
    simp only [List.flatMap_append, List.flatMap_cons, hCw, List.append_assoc]
    exact ((List.perm_append_comm_assoc _ _ _).append_left _).trans (List.perm_append_comm_assoc _ _ _)
  have hold : ∀ w ∈ (l1 ++ c0 :: l2).flatMap (·.wires), w < n := fun w hw => by
    obtain ⟨x, hx, hwx⟩ := List.mem_flatMap.mp hw
    exact hb x hx w hwx
  rw [hmap]
  refine ⟨?_, ?_, ?_⟩
  · have : (l1 ++ C :: l2).map (·.name) = (l1 ++ c0 :: l2).map (·.name) := by simp [hCn, hc0n]
    rw [this]; exact hn
  · rw [hp.nodup_iff, List.nodup_append]
    refine ⟨hex, hf, fun a ha b hb' => ?_⟩
    have := (hrange a ha).1
    have := hold b hb'
    omega
  · intro c hc w hw
    rcases List.mem_append.mp (hp.mem_iff.mp (List.mem_flatMap.mpr ⟨c, hc, hw⟩)) with h | h
    · exact (hrange w h).2
    · have := hold w h; omega

theorem WF_replace {d : Def} {n : Nat} (h : WF d n) {nm : String} {c0 : Cable}
    (hc : d.cables.find? (fun c => c.name == nm) = some c0) (C : Cable) (hCn : C.name = nm) (k : Nat)
    (hCw : C.wires = c0.wires ++ ids n k) :
    WF { d with cables := d.cables.map (fun y => if y.name == nm then C else y) } (n + k) := by
  obtain ⟨g1, g2, g3⟩ := WF_grow nm (ids n k) n (n + k) d.cables c0 C h.1.1 h.1.2 h.2 (List.mem_of_find?_eq_some hc)
    (find_name hc) hCn hCw (ids_nodup _ _) (fun w hw => ⟨ids_ge _ _ _ hw, ids_lt _ _ _ hw⟩) (by omega)
  exact ⟨⟨g1, g2⟩, g3⟩
end Spydr.Verilog.Elab
