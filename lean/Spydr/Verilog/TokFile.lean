/-
  Token level, a whole file.  `preprocess` drops the comments wherever they stand and keeps everything else the writer
  prints (`preprocess_filter`); the top-level loop reads a list of modules one after the other, given the lemma for one
  module (`topGo_list`); together: `parseV_file`, the REAL `parseV` on the tokens the lexer returns for a written file.
-/
import Spydr.Verilog.TokModule
namespace Spydr.Verilog.Elab
open Spydr.Verilog
open Spydr.Verilog.Parse

def cleanToks (ts : Toks) : Bool := ts.all (fun t => !(Text.isCommentTok t) && !(t.startsWith "`"))

def keepTok (t : String) : Bool :=
  !(Text.isCommentTok t) && (!(t.startsWith "`") || t == "`celldefine" || t == "`endcelldefine")

def notC (t : String) : Bool := !(Text.isCommentTok t)

theorem preprocess_filter : ∀ (ts : Toks) (f : Nat), ts.length + 1 ≤ f → (ts.filter notC).all keepTok = true →
    preprocess f ts false = .ok (ts.filter notC) := by
  intro ts
  induction ts with
  | nil =>
    intro f hf _
    obtain ⟨g, hg⟩ : ∃ g, f = g + 1 := ⟨f - 1, by simp at hf; omega⟩
    subst hg; rfl
  | cons t ts ih =>
    intro f hf hc
    obtain ⟨g, hg⟩ : ∃ g, f = g + 1 := ⟨f - 1, by simp at hf; omega⟩
    subst hg
    by_cases hct : Text.isCommentTok t = true
    · have hn : notC t = false := by simp [notC, hct]
      rw [List.filter_cons_of_neg (by simp [hn])] at hc ⊢
      unfold preprocess
      simp only [hct, if_true]
      exact ih g (by simp only [List.length_cons] at hf; omega) hc
    · have hct' : Text.isCommentTok t = false := by simpa using hct
      have hn : notC t = true := by simp [notC, hct']
      rw [List.filter_cons_of_pos hn] at hc ⊢
      simp only [List.all_cons, Bool.and_eq_true] at hc
      have hrec := ih g (by simp only [List.length_cons] at hf; omega) hc.2
      have hk := hc.1
      simp only [keepTok, Bool.and_eq_true, Bool.not_eq_eq_eq_not, Bool.not_true, Bool.or_eq_true, beq_iff_eq] at hk
      obtain ⟨h1, h2⟩ := hk
      have hA : (t.startsWith "`" && hasRest t && firstWord t == "`ifdef") = false := by
        rcases h2 with (h2 | h2) | h2
        · simp [h2]
        · subst h2; rw [firstWord_cell]; simp
        · subst h2; rw [firstWord_endcell]; simp
      have hB : (t.startsWith "`" && hasRest t && firstWord t == "`define") = false := by
        rcases h2 with (h2 | h2) | h2
        · simp [h2]
        · subst h2; rw [firstWord_cell]; simp
        · subst h2; rw [firstWord_endcell]; simp
      unfold preprocess
      simp only [h1, hA, hB, Bool.false_eq_true, if_false, bind, Except.bind, hrec]
      rfl

theorem filter_keep {ts : Toks} (hk : ts.all keepTok = true) : ts.filter notC = ts :=
  List.filter_eq_self.mpr fun t ht => by
    have := List.all_eq_true.mp hk t ht
    simp only [keepTok, Bool.and_eq_true] at this
    exact this.1

theorem preprocess_keep : ∀ (ts : Toks) (f : Nat), ts.length + 1 ≤ f → ts.all keepTok = true →
    preprocess f ts false = .ok ts := by
  intro ts f hf hk
  have := preprocess_filter ts f hf (by rw [filter_keep hk]; exact hk)
  rwa [filter_keep hk] at this

theorem keep_of_clean (ts : Toks) (h : cleanToks ts = true) : ts.all keepTok = true := by
  simp only [cleanToks, List.all_eq_true, Bool.and_eq_true, Bool.not_eq_eq_eq_not, Bool.not_true] at h
  simp only [List.all_eq_true, keepTok, Bool.and_eq_true, Bool.not_eq_eq_eq_not, Bool.not_true, Bool.or_eq_true]
  intro t ht
  exact ⟨(h t ht).1, Or.inl (Or.inl (h t ht).2)⟩

theorem preprocess_clean : ∀ (ts : Toks) (f : Nat), ts.length + 1 ≤ f → cleanToks ts = true →
    preprocess f ts false = .ok ts :=
  fun ts f hf hc => preprocess_keep ts f hf (keep_of_clean ts hc)

theorem preprocess_comments : ∀ (cs ts : Toks) (f : Nat), (∀ c ∈ cs, Text.isCommentTok c = true) →
    preprocess (f + cs.length) (cs ++ ts) false = preprocess f ts false := by
  intro cs
  induction cs with
  | nil => intro ts f _; rfl
  | cons c cs ih =>
    intro ts f h
    have : f + (c :: cs).length = (f + cs.length) + 1 := by simp; omega
    rw [this, List.cons_append]
    conv => lhs; unfold preprocess
    simp only [h c List.mem_cons_self, if_true]
    exact ih ts f (fun x hx => h x (List.mem_cons_of_mem _ hx))

/-- The top-level loop over the tokens of a list of modules: it reads each module `M` from its tokens `toks M` with at
    most `k` units of fuel and goes on. -/
theorem topGo_list {α : Type} (toks : α → List String) (toMod : α → Module) (ok : α → Prop) (k : Nat)
    (hone : ∀ M, ok M → ∀ f rest acc, ∃ f', f ≤ f' ∧
      topGo (f + k) (toks M ++ rest) false [] acc = topGo f' rest false [] (acc ++ [toMod M])) :
    ∀ (Ms : List α) (f : Nat) (acc : List Module), k * Ms.length + 1 ≤ f → (∀ M ∈ Ms, ok M) →
      topGo f (Ms.flatMap toks) false [] acc = .ok (acc ++ Ms.map toMod) := by
  intro Ms
  induction Ms with
  | nil =>
    intro f acc hf _
    obtain ⟨g, rfl⟩ : ∃ g, f = g + 1 := ⟨f - 1, by simp at hf; omega⟩
    unfold topGo
    simp
  | cons M Ms ih =>
    intro f acc hf hok
    rw [List.length_cons, Nat.mul_succ] at hf
    obtain ⟨g, rfl⟩ : ∃ g, f = g + k := ⟨f - k, by omega⟩
    obtain ⟨f', hf', e⟩ := hone M (hok M List.mem_cons_self) g (Ms.flatMap toks) acc
    rw [List.flatMap_cons, e, ih f' _ (by omega) (fun x hx => hok x (List.mem_cons_of_mem _ hx))]
    simp

/-- **parseV_file.**  The REAL `parseV` on the tokens of a written file, comments anywhere: if what is left when the
    comments are dropped is the tokens of a list of modules, each of at least `k` tokens that the preprocessor keeps and
    each read back by `hone`, `parseV` returns their syntax trees. -/
theorem parseV_file {α : Type} (toks : α → List String) (toMod : α → Module) (ok : α → Prop) (k : Nat)
    (hone : ∀ M, ok M → ∀ f rest acc, ∃ f', f ≤ f' ∧
      topGo (f + k) (toks M ++ rest) false [] acc = topGo f' rest false [] (acc ++ [toMod M]))
    (hkeep : ∀ M, ok M → (toks M).all keepTok = true) (hlen : ∀ M, k ≤ (toks M).length)
    (L : Toks) (Ms : List α) (hf : L.filter notC = Ms.flatMap toks) (hok : ∀ M ∈ Ms, ok M) :
    parseV L = .ok (Ms.map toMod) := by
  have hk : (Ms.flatMap toks).all keepTok = true := by
    rw [List.all_flatMap, List.all_eq_true]; exact fun M hM => hkeep M (hok M hM)
  unfold parseV
  rw [preprocess_filter L _ (Nat.le_refl _) (by rw [hf]; exact hk), hf]
  simp only [bind, Except.bind]
  rw [topGo_list toks toMod ok k hone Ms _ [] (by have := flatMap_length_ge toks k hlen Ms; omega) hok]
  rfl

theorem filter_comments {cs ts : Toks} (hc : ∀ c ∈ cs, Text.isCommentTok c = true) (hk : ts.all keepTok = true) :
    (cs ++ ts).filter notC = ts := by
  rw [List.filter_append, filter_keep hk, List.filter_eq_nil_iff.mpr (fun c h => by simp [notC, hc c h]), List.nil_append]

/-- the same with the comment lines in front, as the writer puts them -/
theorem parse_list {α : Type} (toks : α → List String) (toMod : α → Module) (ok : α → Prop) (k : Nat)
    (hone : ∀ M, ok M → ∀ f rest acc, ∃ f', f ≤ f' ∧
      topGo (f + k) (toks M ++ rest) false [] acc = topGo f' rest false [] (acc ++ [toMod M]))
    (hkeep : ∀ M, ok M → (toks M).all keepTok = true) (hlen : ∀ M, k ≤ (toks M).length)
    (cs : Toks) (Ms : List α) (hc : ∀ c ∈ cs, Text.isCommentTok c = true) (hok : ∀ M ∈ Ms, ok M) :
    parseV (cs ++ Ms.flatMap toks) = .ok (Ms.map toMod) :=
  parseV_file toks toMod ok k hone hkeep hlen _ Ms (filter_comments hc (by
    rw [List.all_flatMap, List.all_eq_true]; exact fun M hM => hkeep M (hok M hM))) hok

theorem parseV_toks (attrs : Attrs) (name : String) (ports : List String) (items : List SItem)
    (h : modOK attrs name ports items = true) (hc : cleanToks (modToks attrs name ports items) = true) :
    parseV (modToks attrs name ports items) =
      .ok [⟨name, false, attrs, [], ports.map (fun a => (⟨a, none, none, none⟩ : HPort)), items.map SItem.toItem⟩] := by
  have hk := keep_of_clean _ hc
  exact parseV_file (fun _ : Unit => modToks attrs name ports items) _ (fun _ => True) 2
    (fun _ _ f rest acc => ⟨_, by split <;> omega, modToksP_nil attrs name ports items ▸
      topGo_mod f attrs name [] ports items rest acc (modOKP_nil h)⟩)
    (fun _ _ => hk) (fun _ => by simp [modToks]; omega) _ [()] ((filter_keep hk).trans (by simp)) (fun _ _ => trivial)
end Spydr.Verilog.Elab
