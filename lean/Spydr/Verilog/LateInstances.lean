/-
  Instances with named port maps inside ANY definition of ANY well-formed table: the invariant is `TableWF` (that of
  `reader_structWF`), kept by every elaborator function.
-/
import Spydr.Verilog.LateFolds
import Spydr.Verilog.WFDesign
namespace Spydr.Verilog.Elab
open Spydr.Verilog

theorem map_other (dn : String) (d : Def) (new : List Def) (h : ∀ x ∈ new, x.name ≠ dn) :
    new.map (fun x => if x.name == dn then d else x) = new :=
  map_id_of_mem fun x hx => by simp [h x hx]

theorem map_replace_twice' (dn : String) (d d' : Def) (hd : d.name = dn) (f : Def → Def) (hf : ∀ x, (f x).name = x.name)
    (l : List Def) :
    (l.map (fun x => if x.name == dn then d else f x)).map (fun x => if x.name == dn then d' else x) =
      l.map (fun x => if x.name == dn then d' else f x) := by
  rw [List.map_map]
  apply List.map_congr_left
  intro x _
  simp only [Function.comp]
  by_cases e : x.name = dn
  · simp [e, hd]
  · simp [e, hf]

theorem map_replace_twice (dn : String) (d d' : Def) (hd : d.name = dn) (l : List Def) :
    (l.map (fun x => if x.name == dn then d else x)).map (fun x => if x.name == dn then d' else x) =
      l.map (fun x => if x.name == dn then d' else x) :=
  map_replace_twice' dn d d' hd id (fun _ => rfl) l

def others (s : St) (dn : String) : List Def := s.defs.filter (fun x => x.name != dn)

theorem mem_others {s : St} {dn : String} {x : Def} : x ∈ others s dn ↔ x ∈ s.defs ∧ x.name ≠ dn := by
  unfold others
  simp [List.mem_filter]

theorem has_of_mem {s : St} (hwf : TableWF s) {x : Def} (hx : x ∈ s.defs) : Has s x.name x :=
  Has_of_mem s hwf.names x hx

theorem rowsFull_of_wf {s : St} (hwf : TableWF s) {rd : Def} (hrd : rd ∈ s.defs) : RowsFull s rd.name rd.ports.length := by
  intro x hx j hj href
  obtain ⟨y, hy, ey, h2⟩ := hwf.fits hx hj
  rw [nodup_map_inj (·.name) s.defs hwf.names y hy rd hrd (ey.trans href)] at h2
  have := congrArg List.length h2
  simp only [List.length_map] at this
  omega

theorem noref_of_wf {s : St} (hwf : TableWF s) {mod : String} (hf : s.find mod = none) :
    ∀ x ∈ s.defs, ∀ j ∈ x.insts, j.ref ≠ mod := by
  intro x hx j hj e
  obtain ⟨y, hy, ey, _⟩ := hwf.fits hx hj
  exact find_none_names s mod hf y hy (ey.trans e)

theorem find_others_some {s : St} (hwf : TableWF s) {dn n : String} {rd : Def}
    (hf : (others s dn).find? (fun l => l.name == n) = some rd) : Has s n rd := by
  rw [← show rd.name = n by simpa using List.find?_some hf]
  exact has_of_mem hwf (mem_others.mp (List.mem_of_find?_eq_some hf)).1

theorem find_others_none {s : St} {dn n : String} (hf : (others s dn).find? (fun l => l.name == n) = none) (hne : n ≠ dn) :
    s.find n = none := by
  apply List.find?_eq_none.mpr
  intro x hx
  by_cases en : x.name = dn
  · simp only [beq_iff_eq]; rw [en]; exact fun e => hne e.symm
  · exact List.find?_eq_none.mp hf x (mem_others.mpr ⟨hx, en⟩)

/-- a rewriting of the table that keeps every name: the other definitions are rewritten, whatever `dn` becomes -/
theorem others_map_if (s : St) (dn : String) (g f : Def → Def) (hg : ∀ x, x.name = dn → (g x).name = dn)
    (hf : ∀ x, (f x).name = x.name) :
    (s.defs.map (fun x => if x.name == dn then g x else f x)).filter (fun x => x.name != dn) = (others s dn).map f := by
  unfold others
  rw [List.filter_map]
  have hp : ∀ x, ((fun x : Def => x.name != dn) ∘ fun x => if x.name == dn then g x else f x) x = (x.name != dn) := by
    intro x
    by_cases e : x.name = dn
    · simp [e, hg x e]
    · simp [e, hf x]
  rw [List.filter_congr fun x _ => hp x]
  exact List.map_congr_left fun x hx => by
    have : x.name ≠ dn := by simpa using (List.mem_filter.mp hx).2
    simp [this]

theorem others_map (s : St) (dn : String) (g : Def → Def) (hg : ∀ x, (g x).name = x.name) :
    (s.defs.map (fun x => if x.name == dn then g x else x)).filter (fun x => x.name != dn) = others s dn :=
  (others_map_if s dn g id (fun x e => (hg x).trans e) fun _ => rfl).trans (List.map_id _)

theorem others_set (s : St) (dn : String) (d' : Def) (hn : d'.name = dn) :
    (s.defs.map (fun x => if x.name == dn then d' else x)).filter (fun x => x.name != dn) = others s dn :=
  (others_map_if s dn (fun _ => d') id (fun _ _ => hn) fun _ => rfl).trans (List.map_id _)

theorem others_tabG (s : St) (dn : String) (d' L : Def) (hn : d'.name = dn) (hne : dn ≠ L.name) :
    others (tabG s dn d' L) dn = others s dn ++ [L] := by
  unfold others tabG
  rw [List.filter_append, others_set s dn d' hn]
  have : ¬ L.name = dn := fun e => hne e.symm
  simp [others, this]

theorem instStep2_runG (s : St) (dn : String) (d : Def) (i : NInst) (d' : Def) (ls' : List Def)
    (hwf : TableWF s) (hd : Has s dn d) (htop : s.top ≠ some i.mod) (hcn : (d.cables.map (·.name)).Nodup)
    (h : instStep2 d (others s dn) i = some (d', ls')) :
    ∃ s', elabItem s dn false i.item = .ok s' ∧ Has s' dn d' ∧ others s' dn = ls' ∧ s'.next = s.next ∧ s'.top = s.top ∧
      s'.acount = s.acount ∧ s'.pending = s.pending ∧ d'.name = d.name ∧ d'.cables = d.cables ∧
      ∃ new, ls' = others s dn ++ new ∧ s'.defs = s.defs.map (fun x => if x.name == dn then d' else x) ++ new := by
  obtain ⟨⟨hfresh, hne⟩, rows, rfl, hm⟩ := instStep2_eq h
  have hne' : i.mod ≠ dn := by rw [← hd.2.1]; exact hne
  cases hf : (others s dn).find? (fun l => l.name == i.mod) with
  | some rd =>
    simp only [hf] at hm
    obtain ⟨rfl, hrows⟩ := hm
    have hHr := find_others_some hwf hf
    have hRF : RowsFull s i.mod rd.ports.length := by rw [← hHr.2.1]; exact rowsFull_of_wf hwf hHr.1
    obtain ⟨s', h1, h2, h3, h4, h5, h6⟩ := instantiate_named s dn i.mod i.name i.params i.attrs i.conns d rd rows hd hHr
      hne' hcn hfresh hRF hrows
    have hdefs : s'.defs = (s.upd dn (fun x => { x with insts := x.insts ++ [⟨i.name, i.mod, mergeP i.params, some i.attrs, rows⟩] })).defs := h2
    refine ⟨s', h1, Has.of_defs hdefs (hd.upd _ (fun _ => rfl)), ?_, h3, ?_, h5, h4, rfl, rfl, [], by simp, ?_⟩
    · unfold others
      rw [h2]
      exact others_map s dn _ (fun _ => rfl)
    · rw [h6]
      have : (s.top == some i.mod) = false := by simp [htop]
      simp [this]
    · rw [h2, List.append_nil]
      exact congrArg St.defs (St.upd_congr s dn _ _ d hd (by rfl))
  | none =>
    simp only [hf] at hm
    obtain ⟨ports', hr, rfl⟩ := hm
    have hfind := find_others_none hf hne'
    have hnel : dn ≠ (⟨i.mod, none, false, [], none, ports', [], []⟩ : Def).name := fun e => hne' e.symm
    exact ⟨_, instantiate_firstG s dn d i.mod i.name i.params i.attrs i.conns ports' rows hd hfind htop
        (noref_of_wf hwf hfind) hfresh hcn hr,
      Has_tabG_top s dn d _ _ hd hd.2.1 hnel, others_tabG s dn _ _ hd.2.1 hnel, rfl, rfl, rfl, rfl, rfl, rfl,
      [⟨i.mod, none, false, [], none, ports', [], []⟩], rfl, rfl⟩

theorem insts_foldG (dn : String) : ∀ (is : List NInst) (s : St) (d d' : Def) (ls' : List Def),
    TableWF s → Has s dn d → (∀ i ∈ is, s.top ≠ some i.mod) → (d.cables.map (·.name)).Nodup →
    foldInst d (others s dn) is = some (d', ls') →
    ∃ s', (is.map NInst.item).foldlM (fun s it => elabItem s dn false it) s = .ok s' ∧ TableWF s' ∧ Has s' dn d' ∧
      others s' dn = ls' ∧ s'.next = s.next ∧ s'.top = s.top ∧ s'.acount = s.acount ∧ s'.pending = s.pending ∧
      d'.name = d.name ∧ d'.cables = d.cables ∧
      ∃ new, ls' = others s dn ++ new ∧ s'.defs = s.defs.map (fun x => if x.name == dn then d' else x) ++ new := by
  intro is
  induction is with
  | nil =>
    intro s d d' ls' hwf hd _ _ h
    simp only [foldInst, Option.some.injEq, Prod.mk.injEq] at h
    obtain ⟨h1, h2⟩ := h
    subst h1 h2
    refine ⟨s, rfl, hwf, hd, rfl, rfl, rfl, rfl, rfl, rfl, rfl, [], by simp, ?_⟩
    rw [List.append_nil]
    exact hd.map_self.symm
  | cons i is ih =>
    intro s d d' ls' hwf hd htop hcn h
    obtain ⟨d1, ls1, hs, h⟩ := (foldInst_cons _ _ _ _ _).mp h
    obtain ⟨s1, g1, g2, g3, g4, g5, g6, g7, g8, g9, new1, gn1, gd1⟩ := instStep2_runG s dn d i d1 ls1 hwf hd
      (htop i List.mem_cons_self) hcn hs
    have hwf1 : TableWF s1 := elabItem_wf s s1 dn false i.item hwf g1
    rw [← g3] at h
    obtain ⟨s2, f1, f2, f3, f4, f5, f6, f7, f8, f9, f10, new2, fn2, fd2⟩ := ih s1 d1 d' ls' hwf1 g2
      (fun j hj => by rw [g5]; exact htop j (List.mem_cons_of_mem _ hj)) (by rw [g9]; exact hcn) h
    refine ⟨s2, ?_, f2, f3, f4, f5.trans g4, f6.trans g5, f7.trans g6, f8.trans g7, f9.trans g8, f10.trans g9,
      new1 ++ new2, ?_, ?_⟩
    · simp only [List.map_cons, List.foldlM_cons, bind, Except.bind, g1]
      exact f1
    · rw [fn2, g3, gn1, List.append_assoc]
    · rw [fd2, gd1, List.map_append, map_replace_twice dn d1 d' (g8.trans hd.2.1), List.append_assoc,
        map_other dn d' new1 fun x hx =>
          (mem_others.mp (show x ∈ others s1 dn by rw [g3, gn1]; exact List.mem_append_right _ hx)).2]
end Spydr.Verilog.Elab
