/-
  Verilog engine — ports and the pin rows of the instances change together (`regrow_wf`); `create_or_update_port` keeps
  the table well-formed.
-/
import Spydr.Verilog.WFBase
namespace Spydr.Verilog.Elab
open Spydr.Verilog

theorem getD_mem {α : Type} (l : List α) (k : Nat) (d : α) (h : k < l.length) : l.getD k d ∈ l := by
  rw [getD_of_lt l k d h]; exact List.getElem_mem h

theorem forall_mem_set {α : Type} {P : α → Prop} {l : List α} {k : Nat} {a : α} (hl : ∀ x ∈ l, P x) (ha : P a) :
    ∀ x ∈ l.set k a, P x :=
  fun x hx => (List.mem_or_eq_of_mem_set hx).elim (hl x) fun e => e ▸ ha

theorem filterMap_eq_of_map {α β : Type} (f : α → Option β) {l l' : List α} (h : l'.map f = l.map f) :
    l'.filterMap f = l.filterMap f := by
  have h2 : ∀ l : List α, l.filterMap f = (l.map f).filterMap id := fun l => by rw [List.filterMap_map]; rfl
  rw [h2, h2 l, h]

/-- row `k` and port `k` have the same width when the rows have the widths of the ports (both are empty beyond the end) -/
theorem getD_width {pins : List (List (Option Nat))} {ps : List Port}
    (hp : pins.map List.length = ps.map (fun p => p.pins.length)) (k : Nat) :
    (pins.getD k []).length = (ps.getD k default).pins.length :=
  ((getD_map List.length pins k []).symm.trans (congrArg (fun l => l.getD k 0) hp)).trans
    (getD_map (fun p => p.pins.length) ps k default)

theorem pad_mem {pins : List (List (Option Nat))} {n w : Nat} {row : List (Option Nat)}
    (hr : row ∈ pins ++ List.replicate n []) (hw : some w ∈ row) : ∃ row ∈ pins, some w ∈ row := by
  rcases List.mem_append.mp hr with e | e
  · exact ⟨row, e, hw⟩
  · rw [List.eq_of_mem_replicate e] at hw; cases hw

theorem pad_getD_mem {pins : List (List (Option Nat))} {n j w : Nat}
    (h : some w ∈ (pins ++ List.replicate n []).getD j []) : ∃ row ∈ pins, some w ∈ row := by
  by_cases hj : j < (pins ++ List.replicate n []).length
  · exact pad_mem (getD_mem _ j [] hj) h
  · rw [getD_of_le _ _ _ (by omega)] at h; cases h

def regrowDef (dn : String) (fp : List Port → List Port) (fr : List (List (Option Nat)) → List (List (Option Nat)))
    (x : Def) : Def :=
  { x with ports := if x.name == dn then fp x.ports else x.ports,
           insts := x.insts.map (fun i => if i.ref == dn then { i with pins := fr i.pins } else i) }

def regrow (s : St) (dn : String) (fp : List Port → List Port) (fr : List (List (Option Nat)) → List (List (Option Nat))) : St :=
  { s with defs := s.defs.map (regrowDef dn fp fr) }

theorem regrow_wf (s : St) (dn : String) (d : Def) (fp : List Port → List Port)
    (fr : List (List (Option Nat)) → List (List (Option Nat))) (hs : TableWF s) (hd : Has s dn d)
    (hlen : ∀ pins : List (List (Option Nat)), pins.map List.length = d.ports.map (fun p => p.pins.length) →
      (fr pins).map List.length = (fp d.ports).map (fun p => p.pins.length))
    (hrow : ∀ pins row', row' ∈ fr pins → ∀ w, some w ∈ row' → ∃ row ∈ pins, some w ∈ row)
    (hnames : ((fp d.ports).filterMap (·.name)).Nodup)
    (hpp : ∀ p ∈ fp d.ports, ∀ w, some w ∈ p.pins → ∃ p0 ∈ d.ports, some w ∈ p0.pins) :
    TableWF (regrow s dn fp fr) := by
  refine hs.map (regrowDef dn fp fr) (fun _ _ => rfl) ?_ ?_
  · intro x hx
    have hw := hs.defs x hx
    have hin : ((regrowDef dn fp fr x).insts.map (·.name)).Nodup := by
      show ((x.insts.map fun i => if i.ref == dn then ({ i with pins := fr i.pins } : Inst) else i).map (·.name)).Nodup
      rw [map_map_ite (fun i : Inst => i.name)]
      · exact hw.insts
      · exact fun _ => rfl
    have hip : ∀ i ∈ (regrowDef dn fp fr x).insts, ∀ row ∈ i.pins, RowOK x row := by
      intro i' hi' row' hr' w hwr
      obtain ⟨i, hi, rfl⟩ := List.mem_map.mp hi'
      split at hr'
      · obtain ⟨row, hr, hw0⟩ := hrow i.pins row' hr' w hwr
        exact hw.ipins i hi row hr w hw0
      · exact hw.ipins i hi row' hr' w hwr
    by_cases en : x.name = dn
    · obtain rfl := hd.2.2 x hx en
      have hp : (regrowDef dn fp fr x).ports = fp x.ports := by simp [regrowDef, en]
      refine ⟨by rw [hp]; exact hnames, hw.cables, hin, ?_, hip⟩
      rw [hp]
      intro p hp' w hwp
      obtain ⟨p0, hp0, hw0⟩ := hpp p hp' w hwp
      exact hw.ppins p0 hp0 w hw0
    · have hp : (regrowDef dn fp fr x).ports = x.ports := by simp [regrowDef, en]
      exact ⟨by rw [hp]; exact hw.ports, hw.cables, hin, by rw [hp]; exact hw.ppins, hip⟩
  · -- an instance of `dn` gets the new rows and `dn` the new ports; any other instance and its module are untouched
    intro x hx i' hi'
    obtain ⟨i, hi, rfl⟩ := List.mem_map.mp hi'
    obtain ⟨y, hy, e, hl⟩ := hs.fits hx hi
    by_cases er : i.ref = dn
    · obtain rfl := hd.2.2 y hy (e.trans er)
      refine ⟨y, hy, by simpa [er] using e, ?_⟩
      simpa [regrowDef, er, e.trans er] using hlen i.pins hl
    · refine ⟨y, hy, by simpa [er] using e, ?_⟩
      simpa [regrowDef, er, show y.name ≠ dn from fun h => er (e ▸ h)] using hl

theorem regrow_grow (s : St) (dn : String) (fp : List Port → List Port)
    (fr : List (List (Option Nat)) → List (List (Option Nat))) : Grow s (regrow s dn fp fr) :=
  grow_map s _ (fun _ => rfl) fun _ _ _ hw => hw

theorem regrow_keep (s : St) (dn : String) (fp : List Port → List Port)
    (fr : List (List (Option Nat)) → List (List (Option Nat))) : Keep s (regrow s dn fp fr) :=
  keep_defsmap fun _ => rfl

theorem upd_regrow (s : St) (dn : String) (fp : List Port → List Port)
    (fr : List (List (Option Nat)) → List (List (Option Nat))) :
    ({ (s.upd dn (fun d => { d with ports := fp d.ports })) with
       defs := (s.upd dn (fun d => { d with ports := fp d.ports })).defs.map (fun x =>
         { x with insts := x.insts.map (fun i => if i.ref == dn then { i with pins := fr i.pins } else i) }) } : St) =
      regrow s dn fp fr := by
  unfold St.upd regrow
  simp only [List.map_map]
  congr 1
  refine List.map_congr_left fun x _ => ?_
  simp only [Function.comp, regrowDef]
  split <;> rfl

/-- the row operation `mapInstRows` performs -/
def rowOp (k : Nat) (g : List (Option Nat) → List (Option Nat)) (pins : List (List (Option Nat))) : List (List (Option Nat)) :=
  (pins ++ List.replicate (k + 1 - pins.length) []).set k (g ((pins ++ List.replicate (k + 1 - pins.length) []).getD k []))

theorem mapInstRows_upd (s : St) (dn : String) (fp : List Port → List Port) (k : Nat)
    (g : List (Option Nat) → List (Option Nat)) :
    mapInstRows (s.upd dn (fun d => { d with ports := fp d.ports })) dn k g = regrow s dn fp (rowOp k g) :=
  upd_regrow s dn fp (rowOp k g)

theorem rowOp_lens_new (k w : Nat) (pins : List (List (Option Nat))) (h : pins.length = k) :
    rowOp k (fun _ => List.replicate w none) pins = pins ++ [List.replicate w none] := by
  subst h
  simp [rowOp]

theorem rowOp_set (k : Nat) (g : List (Option Nat) → List (Option Nat)) (pins : List (List (Option Nat)))
    (h : k < pins.length) : rowOp k g pins = pins.set k (g (pins.getD k [])) := by
  simp [rowOp, show k + 1 - pins.length = 0 by omega]

theorem rowOp_mem {k : Nat} {g : List (Option Nat) → List (Option Nat)} {pins : List (List (Option Nat))}
    {row' : List (Option Nat)} {w : Nat} (hg : ∀ row, some w ∈ g row → some w ∈ row) (hr : row' ∈ rowOp k g pins)
    (hw : some w ∈ row') : ∃ row ∈ pins, some w ∈ row := by
  rcases List.mem_or_eq_of_mem_set hr with e | e
  · exact pad_mem e hw
  · exact pad_getD_mem (hg _ (e ▸ hw))

theorem not_mem_replicate_none {n w : Nat} : some w ∉ List.replicate n (none : Option Nat) :=
  fun h => by cases List.eq_of_mem_replicate h

theorem add_port_wf (s : St) (dn : String) (d : Def) (p : Port) (w : Nat) (hs : TableWF s) (hd : Has s dn d)
    (hp : p.pins = List.replicate w none) (hn : ∀ n, p.name = some n → n ∉ d.ports.filterMap (·.name)) :
    TableWF (mapInstRows (s.upd dn (fun d => { d with ports := d.ports ++ [p] })) dn d.ports.length
      (fun _ => List.replicate w none)) ∧
    Grow s (mapInstRows (s.upd dn (fun d => { d with ports := d.ports ++ [p] })) dn d.ports.length
      (fun _ => List.replicate w none)) ∧
    Keep s (mapInstRows (s.upd dn (fun d => { d with ports := d.ports ++ [p] })) dn d.ports.length
      (fun _ => List.replicate w none)) := by
  rw [mapInstRows_upd s dn (fun ps => ps ++ [p])]
  refine ⟨regrow_wf s dn d _ _ hs hd ?_ ?_ ?_ ?_, regrow_grow _ _ _ _, regrow_keep _ _ _ _⟩
  · intro pins hl
    rw [rowOp_lens_new _ _ pins (by simpa using congrArg List.length hl)]
    simp [hl, hp]
  · exact fun pins row' hr x hx => rowOp_mem (fun _ h => absurd h not_mem_replicate_none) hr hx
  · rw [List.filterMap_append]
    cases hpn : p.name with
    | none => simpa [hpn] using (hs.defs d hd.1).ports
    | some n => simpa [hpn] using nodup_snoc (hs.defs d hd.1).ports (hn n hpn)
  · exact List.forall_mem_append.mpr ⟨fun q hq x hx => ⟨q, hq, hx⟩, List.forall_mem_singleton.mpr fun x hx =>
      absurd (hp ▸ hx) not_mem_replicate_none⟩

theorem portIdx_none_not_mem (d : Def) (name : String) (h : portIdx d name = none) :
    name ∉ d.ports.filterMap (·.name) := by
  intro hm
  obtain ⟨p, hp, e⟩ := List.mem_filterMap.mp hm
  simpa [e] using List.findIdx?_eq_none_iff.mp h p hp

theorem filterMap_name_set (ps : List Port) (k : Nat) (p' : Port) (hn : p'.name = (ps.getD k default).name) :
    (ps.set k p').filterMap (·.name) = ps.filterMap (·.name) :=
  filterMap_eq_of_map _ (map_set_getD (·.name) ps k default p' hn)

theorem createOrUpdatePort_spec (s s' : St) (dn name : String) (l r : Option Int) (dir : Option Dir) (df : Bool)
    (hs : TableWF s) (h : createOrUpdatePort s dn name l r dir df = .ok s') : TableWF s' ∧ Grow s s' ∧ Keep s s' := by
  unfold createOrUpdatePort at h
  obtain ⟨d, hg, h⟩ := bind_ok h
  have hd := getDef_ok hs hg
  cases hk : portIdx d name with
  | none =>
    simp only [hk, pure, Except.pure, Except.ok.injEq] at h
    rw [← h]
    exact add_port_wf s dn d _ _ hs hd rfl fun n e => by
      rw [← Option.some.inj e]; exact portIdx_none_not_mem d name hk
  | some k =>
    simp only [hk, pure, Except.pure, Except.ok.injEq] at h
    rw [← h]
    generalize hrz : resizePort (d.ports.getD k default).lower (d.ports.getD k default).pins.length l r df = rz
    -- port `k` and row `k` of every instance grow by the same free pins on both sides
    have hgrow : ∀ (row : List (Option Nat)) w, some w ∈ List.replicate rz.pre none ++ row ++ List.replicate rz.post none →
        some w ∈ row := fun row w hw => by simpa [List.mem_replicate] using hw
    rw [mapInstRows_upd s dn (fun ps => ps.set k _)]
    refine ⟨regrow_wf s dn d _ _ hs hd ?_ ?_ ?_ ?_, regrow_grow _ _ _ _, regrow_keep _ _ _ _⟩
    · intro pins hp
      have hlen : pins.length = d.ports.length := by simpa using congrArg List.length hp
      rw [rowOp_set _ _ pins (by have := portIdx_lt hk; omega), List.map_set, List.map_set, hp]
      simp only [List.length_append, List.length_replicate, getD_width hp k]
    · exact fun pins row' hr w hw => rowOp_mem (fun row => hgrow row w) hr hw
    · rw [filterMap_name_set d.ports k]
      · exact (hs.defs d hd.1).ports
      · rfl
    · exact forall_mem_set (fun p hp w hw => ⟨p, hp, hw⟩) fun w hw =>
        ⟨d.ports.getD k default, getD_mem _ _ _ (portIdx_lt hk), hgrow _ w hw⟩

theorem createOrUpdatePort_wf (s s' : St) (dn name : String) (l r : Option Int) (dir : Option Dir) (df : Bool)
    (hs : TableWF s) (h : createOrUpdatePort s dn name l r dir df = .ok s') : TableWF s' :=
  (createOrUpdatePort_spec s s' dn name l r dir df hs h).1

theorem createOrUpdatePort_pres {s s' : St} {dn name : String} {l r : Option Int} {dir : Option Dir} {df : Bool}
    (hs : TableWF s) (h : createOrUpdatePort s dn name l r dir df = .ok s') : Pres s s' :=
  .keep (createOrUpdatePort_spec s s' dn name l r dir df hs h).1 (createOrUpdatePort_spec s s' dn name l r dir df hs h).2.2
end Spydr.Verilog.Elab
