/-
  The syntax of a written file as data: what the writer prints and the parser returns, shape by shape — a body port
  declaration `PDecl`, a net declaration `FWire`, an instance with a named port map `NInst` (`PInst` with the connection
  expressions in the writer's expression type), a work module `WModI` / `WModP` (with assigns and module parameters
  `WModA` / `WModPA`), a `celldefine` module `WLeaf` (with attributes and module parameters `WLeafX`), a definition after
  the top `WAny…` — each with the `Item` / `Module` of the reader's syntax tree it stands for.  Suffixes: `I` the
  parser's expression type `XExpr`, `P` the writer's `PExpr`, `A` with assigns and module parameters, `X` with attributes
  and module parameters.  Types only: the functions that read this syntax off a netlist are in WriterSyntax.
-/
import Spydr.Verilog.ModelElab
import Spydr.Verilog.ModelText
namespace Spydr.Verilog.Elab
open Spydr.Verilog

/-- the writer's expression syntax as the parser returns it -/
def toX : Atom → XAtom
  | .id n => .id n
  | .bit n i => .bit n i
  | .part n l r => .part n l r

def toXE : PExpr → XExpr
  | .empty => .empty
  | .atom a => .atom (toX a)
  | .concat as => .cat (as.map toX)

/-- a body port declaration `dir [msb:lsb] name ;` with the attributes written in front of it -/
structure PDecl where
  name : String
  dir : Dir
  rng : Option (Int × Int)
  attrs : Attrs

def PDecl.item (p : PDecl) : Item := .portDecl p.dir none p.rng p.name p.attrs

structure FWire where
  name : String
  ty : String
  rng : Option (Int × Int)
  attrs : Attrs

def FWire.item (w : FWire) : Item := .wireDecl w.ty w.rng w.name w.attrs

/-- an instantiation with a named port map, as written in the source -/
structure NInst where
  name : String
  mod : String
  params : Params
  attrs : Attrs
  conns : List (String × XExpr)

def NInst.item (i : NInst) : Item :=
  .inst i.mod i.name i.params i.attrs true (i.conns.map (fun c => ((some c.1 : Option String), c.2)))

/-- an instance as the writer describes it: connection expressions in the writer's expression type -/
structure PInst where
  name : String
  mod : String
  params : Params
  attrs : Attrs
  conns : List (String × PExpr)

def PInst.toN (i : PInst) : NInst := ⟨i.name, i.mod, i.params, i.attrs, i.conns.map (fun c => (c.1, toXE c.2))⟩

/-- a whole module as the writer prints it -/
structure WModI where
  name : String
  attrs : Attrs
  ports : List PDecl
  wires : List FWire
  insts : List NInst

def WModI.toModule (m : WModI) : Module :=
  ⟨m.name, false, m.attrs, [], m.ports.map (fun p => ⟨p.name, none, none, none⟩),
   m.ports.map PDecl.item ++ m.wires.map FWire.item ++ m.insts.map NInst.item⟩

/-- the written module with the connection expressions in the writer's expression type -/
structure WModP where
  name : String
  attrs : Attrs
  ports : List PDecl
  wires : List FWire
  insts : List PInst

def WModP.toI (m : WModP) : WModI := ⟨m.name, m.attrs, m.ports, m.wires, m.insts.map PInst.toN⟩

structure WLeaf where
  name : String
  ports : List PDecl

def WLeaf.toModule (m : WLeaf) : Module :=
  ⟨m.name, true, [], [], m.ports.map (fun p => ⟨p.name, none, none, none⟩), m.ports.map PDecl.item⟩

def inoutD : Dir → Dir
  | .undef => .inout
  | d => d

/-- the module the reader's parser returns for a written leaf: `/* undefined port direction */ inout` is `inout` -/
def inoutify (lf : WLeaf) : WLeaf := ⟨lf.name, lf.ports.map (fun p => { p with dir := inoutD p.dir })⟩

structure WLeafX where
  base : WLeaf
  attrs : Attrs
  params : Params

def WLeafX.toModule (m : WLeafX) : Module :=
  ⟨m.base.name, true, m.attrs, m.params, m.base.ports.map (fun p => ⟨p.name, none, none, none⟩), m.base.ports.map PDecl.item⟩

/-- the module the parser returns for it -/
def inoutifyX (lf : WLeafX) : WLeafX := ⟨inoutify lf.base, lf.attrs, lf.params⟩

inductive WAny
  | work (m : WModI)
  | leaf (lf : WLeaf)

def WAny.name : WAny → String
  | .work m => m.name
  | .leaf lf => lf.name

def WAny.toModule : WAny → Module
  | .work m => m.toModule
  | .leaf lf => lf.toModule

structure WModA where
  base : WModI
  asgs : List (XAtom × XAtom)
  params : Params

def WModA.toModule (m : WModA) : Module :=
  ⟨m.base.name, false, m.base.attrs, m.params, m.base.ports.map (fun p => ⟨p.name, none, none, none⟩),
   m.base.ports.map PDecl.item ++ m.base.wires.map FWire.item ++ m.asgs.map (fun a => Item.assign a.1 a.2) ++
     m.base.insts.map NInst.item⟩

inductive WAnyA
  | work (m : WModA)
  | leaf (lf : WLeafX)

def WAnyA.name : WAnyA → String
  | .work m => m.base.name
  | .leaf lf => lf.base.name

def WAnyA.toModule : WAnyA → Module
  | .work m => m.toModule
  | .leaf lf => lf.toModule

structure WModPA where
  base : WModP
  asgs : List (Atom × Atom)
  params : Params

def WModPA.toA (m : WModPA) : WModA := ⟨m.base.toI, m.asgs.map (fun lr => (toX lr.1, toX lr.2)), m.params⟩

/-- the written syntax of a definition after the top, with the connection expressions in the writer's expression type -/
inductive WAnyP
  | work (m : WModP)
  | leaf (lf : WLeaf)

def WAnyP.toAny : WAnyP → WAny
  | .work m => .work m.toI
  | .leaf lf => .leaf lf

inductive WAnyPA
  | work (m : WModPA)
  | leaf (lf : WLeafX)

def WAnyPA.toAny : WAnyPA → WAnyA
  | .work m => .work m.toA
  | .leaf lf => .leaf (inoutifyX lf)
end Spydr.Verilog.Elab
