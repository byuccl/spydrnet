/-
  Pieces of instances; the frame of a written module around any body (`frameP`: its characters are `frameText`,
  `chars_frameP`, its tokens `frameToks`, `toks_frameP`); lists of printed things (`pchars_lines`, `ptoks_lines`); the
  work module (`modPA` an instance of the frame, `modP` is `modPA` without assigns and parameters) and the file;
  `lexR_of_pieces`: the character-level clause follows from per-piece conditions (no run of the
  automaton over the whole text); `readV_pieces`: where lexer, parser and elaboration meet.
-/
import Spydr.Verilog.PieceItems
import Spydr.Verilog.TokShapes
import Spydr.Verilog.RenderFile
namespace Spydr.Verilog.Elab
open Spydr.Verilog
open Spydr.Verilog.Text (fixName showInt)

theorem toList_join (l : List String) : (String.join l).toList = l.flatMap String.toList :=
  String.toList_join

theorem pchars_flatten (xs : List (List Piece)) : pchars xs.flatten = (xs.map pchars).flatten := by
  induction xs with
  | nil => rfl
  | cons x xs ih => simp [pchars_append, ih]

theorem ptoks_flatten (xs : List (List Piece)) : ptoks xs.flatten = (xs.map ptoks).flatten := by
  induction xs with
  | nil => rfl
  | cons x xs ih => simp [ptoks_append, ih]

def instP (i : PInst) : List Piece :=
  starP i.attrs ++ W4 ++ N (fixName i.mod) ++ W1 ++ paramP i.params ++ N (fixName i.name) ++ NL ++
    (W4 ++ T "(" ++ NL ++ List.intercalate (T "," ++ NL) (i.conns.map connP) ++ NL ++ W4 ++ T ")" ++ T ";") ++ NL

theorem chars_instP (i : PInst) : pchars (instP i) = (instLine i).toList := by
  simp only [instP, instLine, pchars_append, chars_starP, chars_W4, chars_W1, chars_T, chars_N, chars_paramP, chars_NL,
    pchars_intercalate, String.toList_append, String.toList_intercalate, List.map_map]
  have h1 : "    (\n".toList = "    ".toList ++ "(".toList ++ "\n".toList := by decide
  have h2 : "\n    );".toList = "\n".toList ++ "    ".toList ++ ")".toList ++ ";".toList := by decide
  have h3 : ",\n".toList = ",".toList ++ "\n".toList := by decide
  rw [h1, h2, h3]
  have hm : i.conns.map (pchars ∘ connP) = i.conns.map (String.toList ∘ connLine) :=
    List.map_congr_left (fun x _ => chars_connP x)
  rw [hm]
  simp [List.append_assoc]

theorem toks_instP (i : PInst) : ptoks (instP i) = (SItem.inst i.toN).toks := by
  simp only [instP, SItem.toks, SItem.attrs, SItem.core, PInst.toN, instCore, ptoks_append, toks_starP, toks_W4, toks_W1,
    toks_T, toks_N, toks_paramP, toks_NL, ptoks_intercalate, List.append_nil, List.map_map, sepConns_sep.eq_intercalate, nameT]
  have hm : i.conns.map (ptoks ∘ connP) = i.conns.map (connToks ∘ fun c => (c.1, toXE c.2)) :=
    List.map_congr_left (fun x _ => toks_connP x)
  rw [hm]
  simp

def frameP (cell : Bool) (attrs : Attrs) (name : String) (params : Params) (ports : List String) (decls rest : List Piece) :
    List Piece :=
  (if cell then cellP else []) ++ starP attrs ++
    (T "module" ++ W1 ++ N (fixName name) ++ NL ++ mparamP params ++ T "(" ++
      List.intercalate (T ",") (ports.map (fun p => NL ++ W4 ++ N (fixName p))) ++ NL ++ T ")" ++ T ";" ++ NL ++ NL) ++
    (decls ++ NL) ++ rest ++ T "endmodule" ++ NL ++ (if cell then endcellP else []) ++ NL

theorem chars_frameP (cell : Bool) (attrs : Attrs) (name : String) (params : Params) (ports : List String)
    (decls rest : List Piece) (dt rt : String) (hd : pchars decls = dt.toList) (hr : pchars rest = rt.toList) :
    pchars (frameP cell attrs name params ports decls rest) = (frameText cell attrs name params ports dt rt).toList := by
  have h1 : "module ".toList = "module".toList ++ " ".toList := by decide
  have h2 : "\n);\n".toList = "\n".toList ++ ")".toList ++ ";".toList ++ "\n".toList := by decide
  have h3 : "\n\n".toList = "\n".toList ++ "\n".toList := by decide
  have h5 : "\n`endcelldefine".toList = "\n".toList ++ "`endcelldefine\n".toList.dropLast := by decide
  have hm : ports.map (pchars ∘ fun p => NL ++ (W4 ++ N (fixName p))) =
      ports.map (String.toList ∘ fun p => "\n" ++ ("    " ++ fixName p)) :=
    List.map_congr_left fun p _ => by
      simp only [Function.comp, pchars_append, chars_NL, chars_W4, chars_N, String.toList_append]
  cases cell <;>
  simp only [frameP, frameText, cellP, endcellP, pchars_append, pchars_cons, pchars_nil, Piece.chars, chars_starP, chars_T, chars_N,
    chars_W1, chars_NL, chars_mparamP, pchars_intercalate, String.toList_append, String.toList_intercalate, List.map_map, hd, hr,
    hm, h1, h2, h3, h5, if_true, if_false, Bool.false_eq_true, List.append_assoc, List.append_nil, List.nil_append] <;>
  simp

theorem sepNames_eq : ∀ (a : List String), sepNames a = List.intercalate [","] (a.map (fun x => [nameT x])) :=
  sepNames_sep.eq_intercalate

theorem toks_frameP (cell : Bool) (attrs : Attrs) (name : String) (params : Params) (ports : List String)
    (decls rest : List Piece) :
    ptoks (frameP cell attrs name params ports decls rest) =
      frameToks cell attrs name params ports (ptoks decls ++ ptoks rest) := by
  have hm : ports.map (ptoks ∘ fun p => NL ++ (W4 ++ N (fixName p))) = ports.map (fun x => [fixName x]) :=
    List.map_congr_left fun p _ => by
      simp only [Function.comp, ptoks_append, toks_NL, toks_W4, toks_N, List.nil_append]
  cases cell <;>
  simp [frameP, frameToks, cellP, endcellP, ptoks_append, ptoks_cons, Piece.toks, toks_starP, toks_T, toks_N, toks_W1,
    toks_NL, toks_mparamP, ptoks_intercalate, sepNames_eq, List.map_map, hm, nameT]

/-- a list of printed things, each with its pieces `f` and its text `g` -/
theorem pchars_lines {α : Type} (f : α → List Piece) (g : α → String) (h : ∀ a, pchars (f a) = (g a).toList) (l : List α) :
    pchars (l.map f).flatten = (String.join (l.map g)).toList := by
  rw [pchars_flatten, toList_join, List.map_map, List.flatMap_def, List.map_map]
  exact congrArg _ (List.map_congr_left fun a _ => h a)

theorem ptoks_lines {α : Type} (f : α → List Piece) (g : α → List String) (l : List α) (h : ∀ a ∈ l, ptoks (f a) = g a) :
    ptoks (l.map f).flatten = l.flatMap g := by
  rw [ptoks_flatten, List.map_map, List.flatMap_def]
  exact congrArg _ (List.map_congr_left fun a ha => h a ha)

/-- the same where the lexer returns comment tokens, which the preprocessor drops -/
theorem ptoks_lines_filter {α : Type} (f : α → List Piece) (g : α → List String) (l : List α)
    (h : ∀ a ∈ l, (ptoks (f a)).filter notC = g a) : (ptoks (l.map f).flatten).filter notC = l.flatMap g := by
  rw [ptoks_flatten, List.map_map, List.filter_flatten, List.map_map, List.flatMap_def]
  exact congrArg _ (List.map_congr_left fun a ha => h a ha)

def modPA (m : WModPA) : List Piece :=
  starP m.base.attrs ++
    (T "module" ++ W1 ++ N (fixName m.base.name) ++ NL ++ mparamP m.params ++ T "(" ++
      List.intercalate (T ",") (m.base.ports.map (fun p => NL ++ W4 ++ N (fixName p.name))) ++ NL ++ T ")" ++ T ";" ++ NL ++ NL) ++
    ((m.base.ports.map portP).flatten ++ NL) ++
    (((m.base.wires.map wireP).flatten ++ NL) ++ (m.asgs.map asgP).flatten ++ (m.base.insts.map instP).flatten) ++
    T "endmodule" ++ NL ++ NL

theorem modPA_frame (m : WModPA) : modPA m = frameP false m.base.attrs m.base.name m.params (m.base.ports.map (·.name))
    (m.base.ports.map portP).flatten
    (((m.base.wires.map wireP).flatten ++ NL) ++ (m.asgs.map asgP).flatten ++ (m.base.insts.map instP).flatten) := by
  simp [modPA, frameP, List.map_map, Function.comp_def, List.append_assoc]

theorem renderModA_frame (m : WModPA) : renderModA m = frameText false m.base.attrs m.base.name m.params
    (m.base.ports.map (·.name)) (String.join (m.base.ports.map portLine))
    ((String.join (m.base.wires.map wireLine) ++ "\n") ++ String.join (m.asgs.map asgLine) ++
      String.join (m.base.insts.map instLine)) := by
  delta renderModA
  simp [frameText, List.map_map, Function.comp_def, String.append_assoc]

theorem chars_modPA (m : WModPA) : pchars (modPA m) = (renderModA m).toList:= by
  rw [modPA_frame, renderModA_frame]
  exact chars_frameP _ _ _ _ _ _ _ _ _ (pchars_lines _ _ chars_portP _)
    (by simp only [pchars_append, String.toList_append, pchars_lines _ _ chars_wireP, pchars_lines _ _ chars_asgP,
          pchars_lines _ _ chars_instP, chars_NL])

theorem toks_modPA (m : WModPA) (hd : ∀ p ∈ m.base.ports, p.dir ≠ .undef) : ptoks (modPA m) = tokensOfA m.toA:= by
  rw [modPA_frame, toks_frameP, ptoks_append, ptoks_append, ptoks_append, ptoks_lines _ _ _ (fun p hp => toks_portP p (hd p hp)),
    ptoks_lines _ _ _ (fun w _ => toks_wireP w), ptoks_lines _ _ _ (fun a _ => toks_asgP a),
    ptoks_lines _ _ _ (fun i _ => toks_instP i)]
  simp [frameToks, tokensOfA, modToksP, WModPA.toA, WModP.toI, WModA.sitems, List.map_map, Function.comp_def,
    List.flatMap_map, List.flatMap_append, toks_NL, List.append_assoc]

def modP (m : WModP) : List Piece :=
  starP m.attrs ++
    (T "module" ++ W1 ++ N (fixName m.name) ++ NL ++ T "(" ++
      List.intercalate (T ",") (m.ports.map (fun p => NL ++ W4 ++ N (fixName p.name))) ++ NL ++ T ")" ++ T ";" ++ NL ++ NL) ++
    ((m.ports.map portP).flatten ++ NL) ++
    (((m.wires.map wireP).flatten ++ NL) ++ (m.insts.map instP).flatten) ++
    T "endmodule" ++ NL ++ NL

theorem chars_modP (m : WModP) : pchars (modP m) = (renderMod m).toList:= by
  have h := chars_modPA ⟨m, [], []⟩
  rw [show renderModA ⟨m, [], []⟩ = renderMod m from rfl] at h
  simpa [modP, modPA, mparamP, pchars_append] using h

theorem toks_modP (m : WModP) (hd : ∀ p ∈ m.ports, p.dir ≠ .undef) : ptoks (modP m) = tokensOf m.toI:= by
  simpa [modP, modPA, mparamP, ptoks_append, tokensOfA, tokensOf, modToksP_nil, WModPA.toA, WModA.sitems, WModI.sitems]
    using toks_modPA ⟨m, [], []⟩ hd

/-- the pieces of the whole file: the two comment lines of the header, then the module -/
def fileP (n : Text.WNet) (m : WModP) : List Piece :=
  [.self "//Generated from netlist by SpyDrNet\n" "//Generated from netlist by SpyDrNet",
   .self ("//netlist name: " ++ fixName n.name ++ "\n") ("//netlist name: " ++ fixName n.name)] ++ modP m

theorem header_lit : "//Generated from netlist by SpyDrNet\n//netlist name: " =
    "//Generated from netlist by SpyDrNet\n" ++ "//netlist name: " := by decide +kernel

theorem fileHeader_split (n : Text.WNet) : fileHeader n =
    "//Generated from netlist by SpyDrNet\n" ++ ("//netlist name: " ++ fixName n.name ++ "\n") := by
  unfold fileHeader
  rw [header_lit]
  simp only [String.append_assoc]

theorem chars_fileP (n : Text.WNet) (m : WModP) : pchars (fileP n m) = (fileHeader n ++ renderMod m).toList := by
  rw [fileHeader_split]
  unfold fileP
  rw [pchars_append, chars_modP]
  simp only [pchars_cons, pchars_nil, Piece.chars, String.toList_append, List.append_nil, List.append_assoc]

theorem gen_comment : Text.isCommentTok "//Generated from netlist by SpyDrNet" = true := by decide +kernel

theorem header_comments {n : Text.WNet} (hc2 : Text.isCommentTok ("//netlist name: " ++ fixName n.name) = true) :
    ∀ c ∈ ["//Generated from netlist by SpyDrNet", "//netlist name: " ++ fixName n.name], Text.isCommentTok c = true :=
  List.forall_mem_cons.mpr ⟨gen_comment, List.forall_mem_singleton.mpr hc2⟩

/-- the character-level clause, about the rendering only -/
def lexR (n : Text.WNet) (m : WModP) : Bool :=
  (Text.lexV (fileHeader n ++ renderMod m)).dropWhile Text.isCommentTok == tokensOf m.toI

/-- **lexR_of_pieces.**  The character-level clause from per-piece conditions: if every piece of the rendering passes its
    own check, no word runs into the next piece, and the tokens are clean, the lexer splits the rendering into the two
    header comments followed by exactly `tokensOf`. -/
theorem lexR_of_pieces (n : Text.WNet) (m : WModP) (hd : ∀ p ∈ m.ports, p.dir ≠ .undef)
    (hok : (fileP n m).all Piece.ok = true) (hadj : adjOK (fileP n m) = true)
    (hc2 : Text.isCommentTok ("//netlist name: " ++ fixName n.name) = true)
    (hclean : cleanToks (tokensOf m.toI) = true) : lexR n m = true := by
  have hlex := lexV_pieces (fileHeader n ++ renderMod m) (fileP n m) (chars_fileP n m).symm hadj
    (fun p hp => List.all_eq_true.mp hok p hp)
  unfold lexR
  rw [hlex]
  have ht : (fileP n m).flatMap Piece.toks =
      ["//Generated from netlist by SpyDrNet", "//netlist name: " ++ fixName n.name] ++ tokensOf m.toI := by
    have := toks_modP m hd
    unfold ptoks at this
    simp only [fileP, List.cons_append, List.nil_append, List.flatMap_cons, Piece.toks, this]
  rw [ht]
  simp only [List.cons_append, List.nil_append, List.dropWhile_cons, gen_comment, hc2, if_true]
  -- the tokens of the module start with a token that is no comment
  have : (tokensOf m.toI).dropWhile Text.isCommentTok = tokensOf m.toI := by
    cases hts : tokensOf m.toI with
    | nil => rfl
    | cons t ts =>
      rw [hts] at hclean
      simp only [cleanToks, List.all_cons, Bool.and_eq_true, Bool.not_eq_eq_eq_not, Bool.not_true] at hclean
      simp [hclean.1.1]
  rw [this]
  simp

/-- Where the three strands meet: a text that spells the pieces `ps` lexes into their tokens (`lexV_pieces`); if the
    real parser reads these into `mods` and the elaboration of `mods` is `s`, the whole reader returns `s` on the text.
    `c04_text_bb`, `c04_text_hier`, `c04_text_hierA` are this lemma at the pieces of their file. -/
theorem readV_pieces (text : String) (ps : List Piece) (mods : List Module) (s : St)
    (hch : text.toList = ps.flatMap Piece.chars) (hadj : adjOK ps = true) (hok : ∀ p ∈ ps, p.ok = true)
    (hp : Parse.parseV (ps.flatMap Piece.toks) = .ok mods) (he : elabDesign mods = .ok s) : Parse.readV text = .ok s := by
  rw [readV_eq, lexV_pieces text ps hch hadj hok]
  unfold readT
  rw [hp]
  exact he

end Spydr.Verilog.Elab
