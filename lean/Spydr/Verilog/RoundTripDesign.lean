/-
  A whole fragment design through the real `elabDesign`.
-/
import Spydr.Verilog.RoundTripModule
namespace Spydr.Verilog.Elab
open Spydr.Verilog

/-- side conditions of the fragment, decidable: fresh distinct module names, distinct port / wire / instance
    names, `celldefine` modules without body, every instantiated module declared earlier -/
def modsOK : List String → List FMod → Bool
  | _, [] => true
  | known, m :: ms =>
    !(known.contains m.name) &&
    decide ((m.ports.map (·.name) ++ m.wires.map (·.name)).Nodup) &&
    decide ((m.insts.map (·.name)).Nodup) &&
    (!m.prim || (m.wires.isEmpty && m.insts.isEmpty)) &&
    m.insts.all (fun i => known.contains i.mod) &&
    modsOK (known ++ [m.name]) ms

def buildDesign : List FMod → List Def → Nat → Option (List Def)
  | [], acc, _ => some acc
  | m :: ms, acc, n =>
    match buildDef (fun nm => acc.find? (fun d => d.name == nm)) n m with
    | some (D, n') => buildDesign ms (acc ++ [D]) n'
    | none => none

/-- table invariant between modules -/
structure TInv (s : St) : Prop where
  nodup : (s.defs.map (·.name)).Nodup
  closed : ∀ d ∈ s.defs, ∀ i ∈ d.insts, ∃ rd ∈ s.defs, rd.name = i.ref
  full : ∀ d ∈ s.defs, ∀ i ∈ d.insts, ∀ rd ∈ s.defs, rd.name = i.ref → rd.ports.length ≤ i.pins.length
  libs : ∀ d ∈ s.defs, d.lib.isSome = true
  pend : s.pending = []

theorem Has_of_mem (s : St) (hn : (s.defs.map (·.name)).Nodup) (d : Def) (hd : d ∈ s.defs) : Has s d.name d :=
  ⟨hd, rfl, fun d' hd' e => nodup_map_inj (·.name) s.defs hn d' hd' d hd e⟩

theorem buildInst_facts (l : String → Option Def) (d : Def) (i : NInst) (inst : Inst) (h : buildInst l d i = some inst) :
    inst.ref = i.mod ∧ ∃ rd, l i.mod = some rd ∧ inst.pins.length = rd.ports.length := by
  unfold buildInst at h
  cases hl : l i.mod with
  | none => simp [hl] at h
  | some rd =>
    simp only [hl] at h
    obtain ⟨rows, hr, rfl⟩ := Option.map_eq_some_iff.mp h
    exact ⟨rfl, rd, rfl, by rw [foldlM_connStep_length d rd i.conns _ rows hr]; simp⟩

theorem mapM_mem {α β : Type} (f : α → Option β) : ∀ (l : List α) (r : List β), l.mapM f = some r →
    ∀ y ∈ r, ∃ x ∈ l, f x = some y := by
  intro l r h y hy
  have : some y ∈ l.map f := mapM_eq_some.mp h ▸ List.mem_map_of_mem hy
  exact List.mem_map.mp this

theorem buildDef_inv {l : String → Option Def} {n n' : Nat} {m : FMod} {D : Def} (h : buildDef l n m = some (D, n')) :
    D.name = m.name ∧ D.lib.isSome = true ∧ ∃ d0, m.insts.mapM (buildInst l d0) = some D.insts := by
  unfold buildDef at h
  obtain ⟨built, hbm, hD⟩ := Option.map_eq_some_iff.mp h
  obtain ⟨rfl, rfl⟩ := Prod.mk.inj hD
  exact ⟨rfl, rfl, _, hbm⟩

theorem find_none_of_not_contains (s : St) (n : String) (h : (s.defs.map (·.name)).contains n = false) :
    s.find n = none := by
  unfold St.find
  apply List.find?_eq_none.mpr
  intro d hd hc
  have e : d.name = n := by simpa using hc
  have : n ∈ s.defs.map (·.name) := by rw [← e]; exact List.mem_map_of_mem hd
  have := List.contains_iff_mem.mpr this
  simp_all

theorem design_step (s : St) (m : FMod) (D : Def) (n' : Nat) (inv : TInv s)
    (hnew : (s.defs.map (·.name)).contains m.name = false)
    (hwn : (m.ports.map (·.name) ++ m.wires.map (·.name)).Nodup)
    (hin : (m.insts.map (·.name)).Nodup)
    (hprim : m.prim = true → m.wires = [] ∧ m.insts = [])
    (hknown : ∀ i ∈ m.insts, (s.defs.map (·.name)).contains i.mod = true)
    (hb : buildDef s.find s.next m = some (D, n')) :
    ∃ s', elabModule s m.toModule = .ok s' ∧ s'.defs = s.defs ++ [D] ∧ s'.next = n' ∧ TInv s' := by
  have hfresh := find_none_of_not_contains s m.name hnew
  have hne := find_none_names s m.name hfresh
  have hnr : NoRef s m.name := by
    intro d hd i hi e
    obtain ⟨rd, hrd, hr⟩ := inv.closed d hd i hi
    exact hne rd hrd (hr.trans e)
  have hleaf : ∀ i ∈ m.insts, i.mod ≠ m.name ∧ ∃ rd, Has s i.mod rd ∧ RowsFull s i.mod rd.ports.length := by
    intro i hi
    obtain ⟨rd, hrd, e⟩ := List.mem_map.mp (List.contains_iff_mem.mp (hknown i hi))
    refine ⟨fun h => hne rd hrd (e.trans h), rd, ?_, ?_⟩
    · rw [← e]; exact Has_of_mem s inv.nodup rd hrd
    · intro d hd j hj hr
      exact inv.full d hd j hj rd hrd (e.trans hr.symm)
  obtain ⟨s', h1, h2, h3, h4⟩ := elabModule_frag s m D n' hfresh hnr hleaf hwn hin hprim hb
  refine ⟨s', h1, h2, h3, ?_⟩
  obtain ⟨hDn, hDl, d0, hbm⟩ := buildDef_inv hb
  have hfacts : ∀ j ∈ D.insts, ∃ rd ∈ s.defs, rd.name = j.ref ∧ j.pins.length = rd.ports.length := by
    intro j hj
    obtain ⟨i, hi, hbi⟩ := mapM_mem _ _ _ hbm j hj
    obtain ⟨hr, rd, hl, hlen⟩ := buildInst_facts _ _ _ _ hbi
    exact ⟨rd, List.mem_of_find?_eq_some hl, (by simpa using List.find?_some hl : rd.name = i.mod).trans hr.symm, hlen⟩
  constructor
  · rw [h2, List.map_append, List.nodup_append]
    refine ⟨inv.nodup, by simp, ?_⟩
    intro a ha b hb
    simp only [List.map_cons, List.map_nil, List.mem_singleton] at hb
    obtain ⟨d, hd, e⟩ := List.mem_map.mp ha
    intro hab
    exact hne d hd (by rw [e, hab, hb, hDn])
  · intro d hd i hi
    rw [h2] at hd ⊢
    rcases List.mem_append.mp hd with hd | hd
    · obtain ⟨rd, hrd, e⟩ := inv.closed d hd i hi
      exact ⟨rd, List.mem_append_left _ hrd, e⟩
    · simp only [List.mem_singleton] at hd; subst hd
      obtain ⟨rd, hrd, e, _⟩ := hfacts i hi
      exact ⟨rd, List.mem_append_left _ hrd, e⟩
  · intro d hd0 i hi rd hrd0 e
    rw [h2] at hd0 hrd0
    rcases List.mem_append.mp hd0 with hd | hd
    · rcases List.mem_append.mp hrd0 with hrd | hrd
      · exact inv.full d hd i hi rd hrd e
      · simp only [List.mem_singleton] at hrd
        exact absurd (e.symm.trans ((congrArg Def.name hrd).trans hDn)) (hnr d hd i hi)
    · simp only [List.mem_singleton] at hd
      rw [hd] at hi
      obtain ⟨rd', hrd', e', hlen⟩ := hfacts i hi
      rcases List.mem_append.mp hrd0 with hrd | hrd
      · have : rd = rd' := nodup_map_inj (·.name) s.defs inv.nodup rd hrd rd' hrd' (e.trans e'.symm)
        rw [this, hlen]; exact Nat.le_refl _
      · simp only [List.mem_singleton] at hrd
        exact absurd (e'.trans (e.symm.trans ((congrArg Def.name hrd).trans hDn))) (hne rd' hrd')
  · intro d hd
    rw [h2] at hd
    rcases List.mem_append.mp hd with hd | hd
    · exact inv.libs d hd
    · simp only [List.mem_singleton] at hd; subst hd; exact hDl
  · rw [h4]; exact inv.pend

theorem modsOK_cons {known : List String} {m : FMod} {ms : List FMod} (h : modsOK known (m :: ms) = true) :
    known.contains m.name = false ∧ (m.ports.map (·.name) ++ m.wires.map (·.name)).Nodup ∧
    (m.insts.map (·.name)).Nodup ∧ (m.prim = true → m.wires = [] ∧ m.insts = []) ∧
    (∀ i ∈ m.insts, known.contains i.mod = true) ∧ modsOK (known ++ [m.name]) ms = true := by
  simp only [modsOK, Bool.and_eq_true, Bool.not_eq_eq_eq_not, Bool.not_true, decide_eq_true_eq,
    Bool.or_eq_true, List.all_eq_true, List.isEmpty_iff] at h
  obtain ⟨⟨⟨⟨⟨hnew, hwn⟩, hin⟩, hprim⟩, hknown⟩, hrest⟩ := h
  exact ⟨hnew, hwn, hin, fun hp => hprim.resolve_left (by simp [hp]), hknown, hrest⟩

theorem buildDesign_cons {m : FMod} {ms : List FMod} {acc defs : List Def} {n : Nat}
    (h : buildDesign (m :: ms) acc n = some defs) :
    ∃ D n', buildDef (fun nm => acc.find? (fun d => d.name == nm)) n m = some (D, n') ∧
      buildDesign ms (acc ++ [D]) n' = some defs := by
  unfold buildDesign at h
  split at h
  · rename_i D n' hbd; exact ⟨D, n', hbd, h⟩
  · cases h

theorem design_fold : ∀ (ms : List FMod) (s : St) (defs : List Def), TInv s →
    modsOK (s.defs.map (·.name)) ms = true → buildDesign ms s.defs s.next = some defs →
    ∃ s', (ms.map FMod.toModule).foldlM elabModule s = .ok s' ∧ s'.defs = defs ∧ TInv s' := by
  intro ms
  induction ms with
  | nil => intro s defs inv _ hb; cases hb; exact ⟨s, rfl, rfl, inv⟩
  | cons m ms ih =>
    intro s defs inv hok hb
    obtain ⟨hnew, hwn, hin, hprim, hknown, hrest⟩ := modsOK_cons hok
    obtain ⟨D, n', hbd, hb⟩ := buildDesign_cons hb
    obtain ⟨s1, h1, h2, h3, inv1⟩ := design_step s m D n' inv hnew hwn hin hprim hknown hbd
    have hok1 : modsOK (s1.defs.map (·.name)) ms = true := by
      rw [h2, List.map_append]; simpa [(buildDef_inv hbd).1] using hrest
    rw [← h2, ← h3] at hb
    obtain ⟨s', h4, h5, inv'⟩ := ih s1 defs inv1 hok1 hb
    exact ⟨s', by simp only [List.map_cons, List.foldlM_cons, h1]; exact h4, h5, inv'⟩

/-- **the fragment**, as a decidable predicate on the source: a list of flat modules in declaration order
    (leaves first) whose reader table `buildDesign` exists -/
def fragDesign (ms : List FMod) : Bool := modsOK [] ms && (buildDesign ms [] 0).isSome

/-- **C06, design level, fragment**: the real `elabDesign` on the modules of a fragment design ends without error
    and its definition table is exactly `buildDesign` — no black box is invented, nothing is left pending -/
theorem elabDesign_frag (ms : List FMod) (defs : List Def) (hok : modsOK [] ms = true)
    (hb : buildDesign ms [] 0 = some defs) :
    ∃ s, elabDesign (ms.map FMod.toModule) = .ok s ∧ s.defs = defs ∧ s.pending = [] := by
  have inv0 : TInv ⟨[], 0, none, 0, []⟩ :=
    ⟨List.nodup_nil, (fun d hd => by cases hd), (fun d hd => by cases hd), (fun d hd => by cases hd), rfl⟩
  obtain ⟨s', h1, h2, inv⟩ := design_fold ms ⟨[], 0, none, 0, []⟩ defs inv0 hok hb
  have hmap : s'.defs.map (fun (d : Def) =>
      if d.lib.isNone then { d with lib := some "hdi_primitives", primitive := true } else d) = s'.defs :=
    map_id_of_mem (fun d hd => by have := inv.libs d hd; cases hl : d.lib <;> simp [hl] at this ⊢)
  refine ⟨s', ?_, h2, inv.pend⟩
  rw [elabDesign_eq h1 inv.pend, hmap]

/-- non-vacuity: a primitive with scalar pins, a black-box leaf with bus ports, and a top module that
    instantiates both with identifiers, bit selects, part selects, a concatenation and an unconnected pin -/
def exDesign : List FMod :=
  [ ⟨"LUT2", true, [⟨"I0", .inp, none⟩, ⟨"I1", .inp, none⟩, ⟨"O", .out, none⟩], [], []⟩,
    ⟨"ram", false, [⟨"addr", .inp, some (3, 0)⟩, ⟨"q", .out, some (1, 0)⟩], [], []⟩,
    ⟨"top", false,
      [⟨"a", .inp, some (3, 0)⟩, ⟨"b", .inp, none⟩, ⟨"y", .out, some (1, 0)⟩],
      [⟨"w", "wire", some (2, 0), []⟩, ⟨"n", "wire", none, [("keep", some "1")]⟩],
      [ ⟨"u0", "LUT2", [("INIT", "4'h8")], [], [("I0", .atom (.bit "a" 0)), ("I1", .atom (.id "b")), ("O", .atom (.id "n"))]⟩,
        ⟨"u1", "ram", [], [], [("addr", .cat [.part "w" 2 1, .bit "a" 3, .id "n"]), ("q", .atom (.id "y"))]⟩,
        ⟨"u2", "LUT2", [], [], [("I0", .atom (.bit "w" 0)), ("I1", .empty)]⟩ ]⟩ ]

theorem exDesign_frag : fragDesign exDesign = true := by decide
end Spydr.Verilog.Elab
