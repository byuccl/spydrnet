/-
  A module declared AFTER other modules instantiated it: its ports exist already, created by the instances, as wide as the
  connected expressions.  The header entry gives such a port its net; the body declaration `dir [msb:lsb] name ;` grows port
  and net at the high end to the declared range, and every instance row of that port grows with them.  The declaration of a
  primitive is the general one without its attributes.
-/
import Spydr.Verilog.RoundTripView
namespace Spydr.Verilog.Elab
open Spydr.Verilog

def padRow (post : Nat) (row : List (Option Nat)) : List (Option Nat) := row ++ List.replicate post none

def padS (s : St) (dn : String) (k post : Nat) : St := mapInstRows s dn k (padRow post)

theorem mapInstRows_put (s : St) (dn : String) (k : Nat) (f : List (Option Nat) → List (Option Nat)) (d' : Def) (n : Nat)
    (hi : d'.insts = []) : mapInstRows (s.put dn d' n) dn k f = (mapInstRows s dn k f).put dn d' n :=
  mapInstRows_put_comm s dn k f d' n (by rw [hi]; nofun)

theorem Has.mapRows {s : St} {dn : String} {d : Def} (h : Has s dn d) (hi : d.insts = []) (ref : String) (k : Nat)
    (f : List (Option Nat) → List (Option Nat)) : Has (mapInstRows s ref k f) dn d :=
  h.mapRows_ref ref (by rw [hi]; nofun) k f

theorem RowsFull.mapRows {s : St} {ref : String} {K : Nat} (h : RowsFull s ref K) (r2 : String) (k : Nat)
    (f : List (Option Nat) → List (Option Nat)) : RowsFull (mapInstRows s r2 k f) ref K := by
  intro d' hd' i' hi' href
  unfold mapInstRows at hd'
  obtain ⟨d, hd, hde⟩ := List.mem_map.mp hd'
  rw [← hde] at hi'
  obtain ⟨i, hi, hie⟩ := List.mem_map.mp hi'
  by_cases e : i.ref = r2
  · simp only [e, beq_self_eq_true, if_true] at hie
    rw [← hie] at href ⊢
    have := h d hd i hi (e.trans href)
    simp only [List.length_set, List.length_append, List.length_replicate]
    omega
  · simp only [show (i.ref == r2) = false by simp [e], Bool.false_eq_true, if_false] at hie
    rw [← hie] at href ⊢
    exact h d hd i hi href

theorem RowsFull.put {s : St} {ref : String} {K : Nat} (h : RowsFull s ref K) (dn : String) (d' : Def) (n : Nat)
    (hi : d'.insts = []) : RowsFull (s.put dn d' n) ref K := by
  intro x' hx' i hi' href
  obtain ⟨x, hx, ⟨_, rfl⟩ | ⟨_, rfl⟩⟩ := St.mem_upd hx'
  · rw [hi] at hi'; cases hi'
  · exact h _ hx i hi' href

theorem put_upd (s : St) (dn : String) (d : Def) (n : Nat) (g : Def → Def) (hn : d.name = dn) :
    (s.put dn d n).upd dn g = s.put dn (g d) n :=
  St.put_upd s dn d n g hn

theorem put_withNext (s : St) (dn : String) (d : Def) (n m : Nat) : withNext (s.put dn d n) m = s.put dn d m := rfl

theorem put_next (s : St) (dn : String) (d : Def) (n : Nat) : (s.put dn d n).next = n := rfl

theorem populateNew_span (lo : Int) (len : Nat) (h : 1 ≤ len) :
    populateNew (some (lo + (len : Int) - 1)) (some lo) = (lo, len, true) := by
  simp only [populateNew]
  have h1 : min (lo + (len : Int) - 1) lo = lo := by omega
  have h2 : max (lo + (len : Int) - 1) lo = lo + (len : Int) - 1 := by omega
  rw [h1, h2]
  refine Prod.ext rfl (Prod.ext ?_ ?_)
  · show (lo + (len : Int) - 1 - lo + 1).toNat = len; omega
  · show decide (lo ≤ lo + (len : Int) - 1) = true; simp; omega

theorem createOrUpdatePort_none (s : St) (dn a : String) (d : Def) (k : Nat)
    (hd : Has s dn d) (hk : portIdx d a = some k) (hr : RowsFull s dn (k + 1)) :
    createOrUpdatePort s dn a none none none false = .ok s := by
  have hklt := portIdx_lt hk
  have hp : ∀ (p : Port), ({ p with lower := p.lower, pins := padRz ⟨p.lower, 0, 0⟩ p.pins, dir := p.dir } : Port) = p := by
    intro p; cases p; simp [padRz]
  have hd' : putPort k (d.ports.getD k default) d = d := by
    unfold putPort; rw [set_getD_self]
  rw [createOrUpdatePort_eq hd]
  simp only [portUpd, hk, show ∀ lo w, resizePort lo w none none false = ⟨lo, 0, 0⟩ from fun _ _ => rfl, Option.getD_none,
    hp, hd', St.put_self s dn d hd]
  exact congrArg Except.ok (mapInstRows_id s dn k _ (by intro row; simp [padRz]) hr)

/-- header entry `a` of a module whose port `a` was created by an instance: the port gets its net -/
def hdrStepL (d : Def) (n : Nat) (a : String) : Option (Def × Nat) :=
  match portIdx d a with
  | some k =>
    if d.cables.find? (fun c => c.name == a) = none ∧
        (d.ports.getD k default).pins = List.replicate (d.ports.getD k default).pins.length none ∧
        1 ≤ (d.ports.getD k default).pins.length ∧ (d.ports.getD k default).downto = true then
      some ({ d with
        ports := d.ports.set k { (d.ports.getD k default) with pins := (ids n (d.ports.getD k default).pins.length).map some },
        cables := d.cables ++ [portCable a (d.ports.getD k default).lower true (ids n (d.ports.getD k default).pins.length)] },
        n + (d.ports.getD k default).pins.length)
    else none
  | none => none

theorem map_set_same {α β : Type} (l : List α) (k : Nat) (hk : k < l.length) (y : α) (f : α → β) (h : f y = f l[k]) :
    (l.set k y).map f = l.map f :=
  map_set_getD f l k y y (by rw [getD_of_lt l k y hk]; exact h)

theorem hdrStepL_eq {d : Def} {n : Nat} {a : String} {d' : Def} {n' : Nat} (h : hdrStepL d n a = some (d', n')) :
    ∃ k P, portIdx d a = some k ∧ d.ports.getD k default = P ∧ d.cables.find? (fun c => c.name == a) = none ∧
      P.pins = List.replicate P.pins.length none ∧ 1 ≤ P.pins.length ∧ P.downto = true ∧
      d' = { d with ports := d.ports.set k { P with pins := (ids n P.pins.length).map some },
                    cables := d.cables ++ [portCable a P.lower true (ids n P.pins.length)] } ∧
      n' = n + P.pins.length := by
  unfold hdrStepL at h
  split at h
  · rename_i k hk
    split at h
    · rename_i hc
      cases h
      exact ⟨k, _, hk, rfl, hc.1, hc.2.1, hc.2.2.1, hc.2.2.2, rfl, rfl⟩
    · cases h
  · cases h

theorem hdrStepL_frame (d : Def) (n : Nat) (a : String) (d' : Def) (n' : Nat) (h : hdrStepL d n a = some (d', n')) :
    d'.name = d.name ∧ d'.attrs = d.attrs ∧ d'.params = d.params ∧ d'.ports.map (·.name) = d.ports.map (·.name) := by
  obtain ⟨k, P, hk, rfl, _, _, _, _, rfl, _⟩ := hdrStepL_eq h
  have hklt := portIdx_lt hk
  exact ⟨rfl, rfl, rfl, map_set_same d.ports k hklt _ (·.name) (by rw [getD_of_lt _ _ _ hklt])⟩

theorem hdrStepL_run (dn : String) (s : St) (d : Def) (a : String) (d' : Def) (n' : Nat)
    (hd : Has s dn d) (hr : RowsFull s dn d.ports.length) (h : hdrStepL d s.next a = some (d', n')) :
    headerPort s dn ⟨a, none, none, none⟩ = .ok (s.put dn d' n') ∧ d'.name = d.name ∧ d'.insts = d.insts ∧
      d'.ports.length = d.ports.length := by
  obtain ⟨k, P, hk, hP, hcn, hpins, hlen, hdt, rfl, rfl⟩ := hdrStepL_eq h
  refine ⟨?_, rfl, rfl, by simp⟩
  have hklt := portIdx_lt hk
  generalize hL : P.pins.length = len at hpins hlen ⊢
  have h1 := createOrUpdatePort_none s dn a d k hd hk (fun x hx i hi e => by have := hr x hx i hi e; omega)
  have h2 := createOrUpdateCable_new s dn a d (some (P.lower + (len : Int) - 1)) (some P.lower) none false hd hcn
  simp only [populateNew_span P.lower len hlen] at h2
  generalize hC : (⟨a, P.lower, true, ids s.next len, none, none⟩ : Cable) = C at h2
  have hCn : ∀ x, (addCable C x).name = x.name := fun _ => rfl
  have hd2 : Has (withNext (s.upd dn (addCable C)) (s.next + len)) dn (addCable C d) := Has.of_defs rfl (hd.upd _ hCn)
  have h3 := connectPortCable_free _ dn a _ k C P hd2 hk (find_append_new d.cables a C hcn (by rw [← hC])) hP
    (by rw [← hC]; simpa [ids] using hpins)
  unfold headerPort
  simp only [bind, Except.bind, rngL, rngR, Option.map_none, h1, getDef_has hd, hk, Option.getD_some, hP, hL, hdt, if_true,
    Option.isSome_none, h2, h3]
  congr 1
  rw [withNext_upd, St.upd_upd _ _ _ _ hCn, upd_eq_put s dn d _ _ hd, ← hC]
  rfl

def grownL (c0 : Cable) (rng : Option (Int × Int)) (next : Nat) : Cable :=
  { c0 with lower := declLo rng c0.lower, wires := c0.wires ++ ids next (declPost rng c0.wires.length) }

theorem cable_growL (s : St) (dn name : String) (d : Def) (rng : Option (Int × Int)) (c0 : Cable)
    (hd : Has s dn d) (hc : HasCable d name c0) (hok : lenOK rng c0.wires.length) :
    createOrUpdateCable s dn name (rngL rng) (rngR rng) none true =
      .ok (s.put dn (setCable name (grownL c0 rng s.next) d) (s.next + declPost rng c0.wires.length)) := by
  rw [createOrUpdateCable_eq hd]
  simp only [cableUpd, hc.find, resizeCable_decl rng c0.lower c0.wires.length hok]
  rfl

theorem port_growL (s : St) (dn name : String) (d : Def) (k : Nat) (dir : Dir) (rng : Option (Int × Int)) (P : Port)
    (hd : Has s dn d) (hi : d.insts = []) (hk : portIdx d name = some k) (hP : d.ports.getD k default = P)
    (hok : lenOK rng P.pins.length) :
    createOrUpdatePort s dn name (rngL rng) (rngR rng) (some dir) true =
      .ok ((padS s dn k (declPost rng P.pins.length)).put dn
        (putPort k { P with lower := declLo rng P.lower, pins := P.pins ++ List.replicate (declPost rng P.pins.length) none, dir := dir } d)
        s.next) := by
  rw [createOrUpdatePort_eq hd]
  simp only [portUpd, hk, hP, resizePort_decl rng P.lower P.pins.length hok, Option.getD_some]
  rw [mapInstRows_put _ _ _ _ _ _ (by exact hi)]
  have hg : padRz ⟨declLo rng P.lower, 0, declPost rng P.pins.length⟩ = padRow (declPost rng P.pins.length) := by
    funext row; simp [padRz, padRow]
  rw [hg]
  rfl

/-- no other port has a pin on one of the wires `ws` or on a wire not yet handed out -/
def ownsLb (d : Def) (k : Nat) (ws : List Nat) (n : Nat) : Bool :=
  (List.range d.ports.length).all (fun j => j == k || (d.ports.getD j default).pins.all (fun p =>
    match p with
    | some w => !(ws.contains w) && decide (w < n)
    | none => true))

theorem ownsLb_spec (d : Def) (k : Nat) (ws : List Nat) (n : Nat) (h : ownsLb d k ws n = true) :
    ∀ j, j < d.ports.length → j ≠ k → ∀ w, some w ∈ (d.ports.getD j default).pins → w ∉ ws ∧ w < n := by
  intro j hj hne w hw
  unfold ownsLb at h
  rw [List.all_eq_true] at h
  have := h j (List.mem_range.mpr hj)
  simp only [Bool.or_eq_true, beq_iff_eq, hne, false_or, List.all_eq_true] at this
  have := this (some w) hw
  simpa using this

def grownPL (P : Port) (rng : Option (Int × Int)) (ws : List Nat) (dir : Dir) : Port :=
  { P with lower := declLo rng P.lower, pins := ws.map some, dir := dir }

/-- `dir [msb:lsb] name ;` in the body of a primitive whose port `name` exists with its net: both grow at the high
    end to the declared range, every instance row of that port grows with them -/
def declStepL (d : Def) (n : Nat) (p : PDecl) : Option (Def × Nat × Nat × Nat) :=
  match portIdx d p.name, d.cables.find? (fun c => c.name == p.name) with
  | some k, some c0 =>
    if (d.ports.getD k default).pins = c0.wires.map some ∧ (d.ports.getD k default).name = some p.name ∧
        1 ≤ c0.wires.length ∧ lenOKb p.rng c0.wires.length = true ∧ (d.cables.map (·.name)).Nodup ∧
        ownsLb d k c0.wires n = true then
      some ({ d with
        ports := d.ports.set k (grownPL (d.ports.getD k default) p.rng (c0.wires ++ ids n (declPost p.rng c0.wires.length)) p.dir),
        cables := d.cables.map (fun y => if y.name == p.name then grownL c0 p.rng n else y) },
        n + declPost p.rng c0.wires.length, k, declPost p.rng c0.wires.length)
    else none
  | _, _ => none

theorem declStepL_eq {d : Def} {n : Nat} {p : PDecl} {d' : Def} {n' k post : Nat}
    (h : declStepL d n p = some (d', n', k, post)) :
    ∃ c0 P, portIdx d p.name = some k ∧ d.cables.find? (fun c => c.name == p.name) = some c0 ∧
      d.ports.getD k default = P ∧ P.pins = c0.wires.map some ∧ P.name = some p.name ∧ 1 ≤ c0.wires.length ∧
      lenOK p.rng c0.wires.length ∧ (d.cables.map (·.name)).Nodup ∧ ownsLb d k c0.wires n = true ∧
      declPost p.rng c0.wires.length = post ∧
      d' = { d with ports := d.ports.set k (grownPL P p.rng (c0.wires ++ ids n post) p.dir),
                    cables := d.cables.map (fun y => if y.name == p.name then grownL c0 p.rng n else y) } ∧
      n' = n + post := by
  unfold declStepL at h
  split at h
  · rename_i k0 c0 hk hc
    split at h
    · rename_i hcond
      obtain ⟨hpins, hpn, hlen, hok, hnc, hown⟩ := hcond
      cases h
      exact ⟨c0, _, hk, hc, rfl, hpins, hpn, hlen, lenOK_of_b _ _ hok, hnc, hown, rfl, rfl, rfl⟩
    · cases h
  · cases h

def grownPLA (P : Port) (rng : Option (Int × Int)) (ws : List Nat) (dir : Dir) (attrs : Attrs) : Port :=
  { P with lower := declLo rng P.lower, pins := ws.map some, dir := dir, attrs := if attrs.isEmpty then P.attrs else some attrs }

/-- the same step in a module that is no primitive: the attributes of the declaration are kept, which needs distinct port
    names (the reader finds the port to mark by its name) -/
def declStepA (d : Def) (n : Nat) (p : PDecl) : Option (Def × Nat × Nat × Nat) :=
  match portIdx d p.name, d.cables.find? (fun c => c.name == p.name) with
  | some k, some c0 =>
    if (d.ports.getD k default).pins = c0.wires.map some ∧ (d.ports.getD k default).name = some p.name ∧
        1 ≤ c0.wires.length ∧ lenOKb p.rng c0.wires.length = true ∧ (d.cables.map (·.name)).Nodup ∧
        (d.ports.map (·.name)).Nodup ∧
        ownsLb d k c0.wires n = true then
      some ({ d with
        ports := d.ports.set k (grownPLA (d.ports.getD k default) p.rng (c0.wires ++ ids n (declPost p.rng c0.wires.length)) p.dir p.attrs),
        cables := d.cables.map (fun y => if y.name == p.name then grownL c0 p.rng n else y) },
        n + declPost p.rng c0.wires.length, k, declPost p.rng c0.wires.length)
    else none
  | _, _ => none

theorem portDecl_late (dn : String) (s : St) (d : Def) (p : PDecl) (k : Nat) (c0 : Cable)
    (hd : Has s dn d) (hi : d.insts = []) (hk : portIdx d p.name = some k)
    (hc : d.cables.find? (fun c => c.name == p.name) = some c0)
    (hpins : (d.ports.getD k default).pins = c0.wires.map some) (hpn : (d.ports.getD k default).name = some p.name)
    (hlen : 1 ≤ c0.wires.length) (hok' : lenOK p.rng c0.wires.length) (hnc : (d.cables.map (·.name)).Nodup)
    (hnp : p.attrs = [] ∨ (d.ports.map (·.name)).Nodup) (hown : ownsLb d k c0.wires s.next = true) :
    portDecl s dn p.dir none p.rng p.name p.attrs =
      .ok ((padS s dn k (declPost p.rng c0.wires.length)).put dn
        { d with
          ports := d.ports.set k (grownPLA (d.ports.getD k default) p.rng
            (c0.wires ++ ids s.next (declPost p.rng c0.wires.length)) p.dir p.attrs),
          cables := d.cables.map (fun y => if y.name == p.name then grownL c0 p.rng s.next else y) }
        (s.next + declPost p.rng c0.wires.length)) := by
  have hklt := portIdx_lt hk
  generalize hP : d.ports.getD k default = P at hpins hpn ⊢
  generalize hpost : declPost p.rng c0.wires.length = post
  have hPl : P.pins.length = c0.wires.length := by rw [hpins]; simp
  have hCw : (grownL c0 p.rng s.next).wires = c0.wires ++ ids s.next post := by simp [grownL, hpost]
  have hCwl : (grownL c0 p.rng s.next).wires.length = c0.wires.length + post := by rw [hCw]; simp [ids]
  have hown' := ownsLb_spec d k c0.wires s.next hown
  have hpad : padRz ⟨declLo p.rng P.lower, 0, post⟩ = padRow post := by funext row; simp [padRz, padRow]
  rw [portDecl_single s dn p.name p.name p.dir none p.rng p.attrs d c0 (grownL c0 p.rng s.next) k P
    { P with lower := declLo p.rng P.lower, pins := padRz ⟨declLo p.rng P.lower, 0, post⟩ P.pins, dir := p.dir,
             attrs := if p.attrs.isEmpty then P.attrs else some p.attrs }
    ⟨declLo p.rng c0.lower, 0, post⟩ ⟨declLo p.rng P.lower, 0, post⟩ (grownL c0 p.rng s.next).wires.reverse
    hd (by rw [hi]; exact fun _ h => nomatch h) (hasCable_of_find hnc hc)
    (fun he => hnp.resolve_left (fun e => by rw [e] at he; cases he)) hk hP hpn
    (hpost ▸ resizeCable_decl p.rng c0.lower c0.wires.length hok')
    (by rw [hPl]; exact hpost ▸ resizePort_decl p.rng P.lower c0.wires.length hok')
    (by simp [grownL, hpost, ids]) rfl
    (getWires_decl p.rng c0.lower c0.wires.length hok' _ (by rw [hCwl, hpost])) ?owns ?len ?free ?one]
  · rw [hpad]
    unfold padS
    congr 2
    simp [putPort, setCable, grownPLA, hCw]
  case owns =>
    obtain ⟨w0, hw0⟩ := List.exists_mem_of_length_pos hlen
    apply portsOnWires_single _ k _ hklt w0
    · rw [hP, hpins]; exact List.mem_map_of_mem hw0
    · rw [hCw]; simp [hw0]
    · intro j hj hne w hw hm
      obtain ⟨g1, g2⟩ := hown' j hj hne w hw
      rcases List.mem_append.mp (hCw ▸ List.mem_reverse.mp hm) with e | e
      · exact g1 e
      · have := ids_ge _ _ _ e; omega
  case len => simp [padRz, hPl, hCwl]
  case free =>
    intro i _
    simp only [padRz, hpins, hCw, List.replicate_zero, List.nil_append, List.getD_eq_getElem?_getD, List.getElem?_append,
      List.length_map]
    split
    · rename_i hil
      right
      rw [List.getElem?_map, List.getElem?_eq_getElem hil]; rfl
    · left
      rw [List.getElem?_replicate]
      split <;> rfl
  case one =>
    intro h1
    have hp0 : post = 0 := by omega
    simp [padRz, hpins, hCw, hp0, ids]

theorem declStepA_run (dn : String) (s : St) (d : Def) (p : PDecl) (d' : Def) (n' k post : Nat)
    (hd : Has s dn d) (hi : d.insts = []) (h : declStepA d s.next p = some (d', n', k, post)) :
    portDecl s dn p.dir none p.rng p.name p.attrs = .ok ((padS s dn k post).put dn d' n') ∧ d'.name = d.name ∧ d'.insts = d.insts ∧
      d'.ports.length = d.ports.length ∧ k < d.ports.length := by
  unfold declStepA at h
  split at h
  · rename_i k0 c0 hk hc
    split at h
    · rename_i hcond
      obtain ⟨hpins, hpn, hlen, hok, hnc, hnp, hown⟩ := hcond
      simp only [Option.some.injEq, Prod.mk.injEq] at h
      obtain ⟨rfl, rfl, rfl, rfl⟩ := h
      exact ⟨portDecl_late dn s d p k0 c0 hd hi hk hc hpins hpn hlen (lenOK_of_b _ _ hok) hnc (.inr hnp) hown, rfl, rfl,
        by simp, portIdx_lt hk⟩
    · cases h
  · cases h

theorem declStepL_run (dn : String) (s : St) (d : Def) (p : PDecl) (d' : Def) (n' k post : Nat)
    (hd : Has s dn d) (hi : d.insts = []) (h : declStepL d s.next p = some (d', n', k, post)) :
    portDecl s dn p.dir none p.rng p.name [] = .ok ((padS s dn k post).put dn d' n') ∧ d'.name = d.name ∧ d'.insts = d.insts ∧
      d'.ports.length = d.ports.length ∧ k < d.ports.length := by
  obtain ⟨c0, P, hk, hc, rfl, hpins, hpn, hlen, hok', hnc, hown, rfl, rfl, rfl⟩ := declStepL_eq h
  exact ⟨portDecl_late dn s d { p with attrs := [] } k c0 hd hi hk hc hpins hpn hlen hok' hnc (.inl rfl) hown, rfl, rfl,
    by simp, portIdx_lt hk⟩

theorem declStepA_spec (d : Def) (n : Nat) (p : PDecl) (d' : Def) (n' k post : Nat)
    (h : declStepA d n p = some (d', n', k, post)) :
    ∃ (hk : k < d.ports.length) (c0 : Cable), portIdx d p.name = some k ∧ d.cables.find? (fun c => c.name == p.name) = some c0 ∧
      d.ports[k].pins = c0.wires.map some ∧ d.ports[k].name = some p.name ∧ 1 ≤ c0.wires.length ∧
      lenOK p.rng c0.wires.length ∧ (d.cables.map (·.name)).Nodup ∧ (d.ports.map (·.name)).Nodup ∧
      post = declPost p.rng c0.wires.length ∧ n' = n + post ∧
      d'.ports = d.ports.set k (grownPLA d.ports[k] p.rng (c0.wires ++ ids n post) p.dir p.attrs) ∧
      d'.cables = d.cables.map (fun y => if y.name == p.name then grownL c0 p.rng n else y) ∧
      d'.name = d.name ∧ d'.lib = d.lib ∧ d'.insts = d.insts ∧ d'.attrs = d.attrs ∧ d'.params = d.params := by
  unfold declStepA at h
  split at h
  · rename_i k0 c0 hk hc
    split at h
    · rename_i hcond
      obtain ⟨hpins, hpn, hlen, hok, hnc, hnp, _⟩ := hcond
      simp only [Option.some.injEq, Prod.mk.injEq] at h
      obtain ⟨h1, h2, h3, h4⟩ := h
      subst h1 h2 h3 h4
      have hklt := portIdx_lt hk
      have hg : d.ports.getD k0 default = d.ports[k0] := getD_of_lt _ _ _ hklt
      rw [hg] at hpins hpn
      refine ⟨hklt, c0, hk, hc, hpins, hpn, hlen, lenOK_of_b _ _ hok, hnc, hnp, rfl, rfl, ?_, rfl, rfl, rfl, rfl, rfl, rfl⟩
      simp only [hg]
    · cases h
  · cases h

theorem declStepA_names (d : Def) (n : Nat) (p : PDecl) (d' : Def) (n' k post : Nat)
    (h : declStepA d n p = some (d', n', k, post)) : d'.ports.map (·.name) = d.ports.map (·.name) := by
  obtain ⟨hk, _, _, _, _, _, _, _, _, _, _, _, hp, _⟩ := declStepA_spec d n p d' n' k post h
  rw [hp]
  exact map_set_same d.ports k hk _ (·.name) rfl

/-- the declaration as the reader takes it inside a `celldefine` module: inline attributes are dropped -/
def PDecl.bare (p : PDecl) : PDecl := { p with attrs := [] }

theorem declStepL_bare (d : Def) (n : Nat) (p : PDecl) (hnp : (d.ports.map (·.name)).Nodup) :
    declStepL d n p = declStepA d n p.bare := by
  unfold declStepL declStepA PDecl.bare
  cases hk : portIdx d p.name with
  | none => rfl
  | some k =>
    cases hc : d.cables.find? (fun c => c.name == p.name) with
    | none => rfl
    | some c0 =>
      simp only []
      by_cases hcond : (d.ports.getD k default).pins = c0.wires.map some ∧ (d.ports.getD k default).name = some p.name ∧
          1 ≤ c0.wires.length ∧ lenOKb p.rng c0.wires.length = true ∧ (d.cables.map (·.name)).Nodup ∧
          ownsLb d k c0.wires n = true
      · rw [if_pos hcond, if_pos ⟨hcond.1, hcond.2.1, hcond.2.2.1, hcond.2.2.2.1, hcond.2.2.2.2.1, hnp, hcond.2.2.2.2.2⟩]
        rfl
      · rw [if_neg hcond, if_neg (fun h => hcond ⟨h.1, h.2.1, h.2.2.1, h.2.2.2.1, h.2.2.2.2.1, h.2.2.2.2.2.2⟩)]
end Spydr.Verilog.Elab
