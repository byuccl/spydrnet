/-
  C04 for a HIERARCHICAL netlist up to the syntax trees: every module of the file — the top, every other work module, every
  primitive — shows the view / the interface of its definition in the netlist.  The run over the later modules keeps an invariant
  of the table and of what is shown so far; it is stated for any module syntax, with and without assigns (`hier_run`).
-/
import Spydr.Verilog.ViewLate
import Spydr.Verilog.ViewLeaves
import Spydr.Verilog.FileHier
namespace Spydr.Verilog.Elab
open Spydr.Verilog

/-- the syntax the writer prints for a definition written after the top: a `celldefine` module for a primitive, a module
    for anything else -/
def astAny (n : Text.WNet) (r : Text.WDef) : Option WAny :=
  if r.lib == "hdi_primitives" then (astLeaf r).map WAny.leaf else (astOf n r).map (fun m => WAny.work m.toI)

def fragAny (n : Text.WNet) (r : Text.WDef) : Bool := r.lib == "hdi_primitives" || fragTop n r

structure HI (n : Text.WNet) (s : St) : Prop where
  wf : TableWF s
  leaf : LeafInv n s.defs
  stub : ∀ D ∈ s.defs, StubOK D

def DoneW (n : Text.WNet) (defs : List Def) (Ws : List Text.WDef) : Prop :=
  ∀ W ∈ Ws, ∃ D ∈ defs, D.name = W.name ∧ viewD D = viewT n W ∧ D.lib = some "work"

def DoneL (defs : List Def) (Rl : List Text.WDef) : Prop :=
  ∀ r ∈ Rl, ∃ L ∈ defs, L.name = r.name ∧ L.lib = some "hdi_primitives" ∧ ifaceD L = ifaceT r

def FullT (defs : List Def) : Prop :=
  ∀ L ∈ defs, ∀ x ∈ defs, ∀ j ∈ x.insts, j.ref = L.name → L.ports.length ≤ j.pins.length

theorem stubOK_pad (y : Def) (dn : String) (ops : List (Nat × Nat)) (h : StubOK y) : StubOK (padOpsD y dn ops) := by
  intro hl
  obtain ⟨a, b, c, d⟩ := h hl
  refine ⟨a, ?_, c, d⟩
  show y.insts.map _ = []
  rw [b]; rfl

theorem astOf_name (n : Text.WNet) (r : Text.WDef) (m : WModP) (hm : astOf n r = some m) :
    m.toI.name = r.name ∧ m.toI.attrs = r.attrs.getD [] := by
  obtain ⟨_, _, _, _, rfl⟩ := astOf_eq hm
  exact ⟨rfl, rfl⟩

theorem astAny_name (n : Text.WNet) (r : Text.WDef) (M : WAny) (h : astAny n r = some M) : M.name = r.name := by
  unfold astAny at h
  split at h
  · simp only [Option.map_eq_some_iff] at h
    obtain ⟨lf, hlf, rfl⟩ := h
    exact (astLeaf_iface r lf hlf).1
  · simp only [Option.map_eq_some_iff] at h
    obtain ⟨m, hm, rfl⟩ := h
    exact (astOf_name n r m hm).1

theorem mem_maptbl (defs : List Def) (nm : String) (D : Def) (ops : List (Nat × Nat)) (x : Def)
    (hx : x ∈ defs.map (fun x => if x.name == nm then D else padOpsD x nm ops)) :
    x = D ∨ ∃ y ∈ defs, y.name ≠ nm ∧ x = padOpsD y nm ops := by
  obtain ⟨y, hy, e⟩ := List.mem_map.mp hx
  by_cases en : y.name = nm
  · left; simp only [en, beq_self_eq_true, if_true] at e; exact e.symm
  · right
    simp only [show (y.name == nm) = false by simp [en], Bool.false_eq_true, if_false] at e
    exact ⟨y, hy, en, e.symm⟩

theorem maptbl_other (defs : List Def) (nm : String) (D : Def) (ops : List (Nat × Nat)) (y : Def) (hy : y ∈ defs)
    (hn : y.name ≠ nm) : padOpsD y nm ops ∈ defs.map (fun x => if x.name == nm then D else padOpsD x nm ops) :=
  List.mem_map.mpr ⟨y, hy, by simp [hn]⟩

theorem maptbl_self (defs : List Def) (nm : String) (D : Def) (ops : List (Nat × Nat)) (L : Def) (hL : L ∈ defs)
    (hn : L.name = nm) : D ∈ defs.map (fun x => if x.name == nm then D else padOpsD x nm ops) :=
  List.mem_map.mpr ⟨L, hL, by simp [hn]⟩

theorem done_pad (n : Text.WNet) (defs : List Def) (nm : String) (D L : Def) (ops : List (Nat × Nat)) (extra : List Def)
    (Ws Rl : List Text.WDef) (hfull : FullT defs) (hL : L ∈ defs) (hLn : L.name = nm)
    (hops : ∀ op ∈ ops, op.1 < L.ports.length) (hdw : DoneW n defs Ws) (hdl : DoneL defs Rl)
    (hnw : ∀ W ∈ Ws, W.name ≠ nm) (hnl : ∀ x ∈ Rl, x.name ≠ nm) :
    DoneW n (defs.map (fun x => if x.name == nm then D else padOpsD x nm ops) ++ extra) Ws ∧
    DoneL (defs.map (fun x => if x.name == nm then D else padOpsD x nm ops) ++ extra) Rl := by
  constructor
  · intro W hW
    obtain ⟨D0, hD0, e1, e2, e3⟩ := hdw W hW
    have hne : D0.name ≠ nm := by rw [e1]; exact hnw W hW
    refine ⟨padOpsD D0 nm ops, List.mem_append_left _ (maptbl_other defs nm D ops D0 hD0 hne), e1, ?_, e3⟩
    rw [viewD_padOps D0 nm L.ports.length ops (fun i hi e => hfull L hL D0 hD0 i hi (e.trans hLn.symm)) hops]
    exact e2
  · intro x hx
    obtain ⟨L0, hL0, e1, e2, e3⟩ := hdl x hx
    have hne : L0.name ≠ nm := by rw [e1]; exact hnl x hx
    exact ⟨padOpsD L0 nm ops, List.mem_append_left _ (maptbl_other defs nm D ops L0 hL0 hne), e1, e2, e3⟩

theorem pad_inv (n : Text.WNet) (defs : List Def) (nm : String) (D L : Def) (ops : List (Nat × Nat)) (extra : List Def)
    (hleaf : LeafInv n defs) (hstub : ∀ D ∈ defs, StubOK D) (hL : L ∈ defs) (hDn : D.name = L.name)
    (hDp : D.ports.map (·.name) = L.ports.map (·.name)) (hDl : D.lib ≠ none)
    (hel : LeafInv n extra) (hes : ∀ x ∈ extra, StubOK x) :
    LeafInv n (defs.map (fun x => if x.name == nm then D else padOpsD x nm ops) ++ extra) ∧
    ∀ x ∈ defs.map (fun x => if x.name == nm then D else padOpsD x nm ops) ++ extra, StubOK x := by
  constructor
  · intro x hx
    rcases List.mem_append.mp hx with h | h
    · rcases mem_maptbl defs nm D ops x h with e | ⟨y, hy, _, e⟩
      · obtain ⟨r0, hr0, hp0⟩ := hleaf L hL
        rw [e]
        exact ⟨r0, by rw [hDn]; exact hr0, by rw [hDp]; exact hp0⟩
      · rw [e]; exact hleaf y hy
    · exact hel x h
  · intro x hx
    rcases List.mem_append.mp hx with h | h
    · rcases mem_maptbl defs nm D ops x h with e | ⟨y, hy, _, e⟩
      · rw [e]; exact fun hl => absurd hl hDl
      · rw [e]; exact stubOK_pad y nm ops (hstub y hy)
    · exact hes x h

theorem leafInv_sub (n : Text.WNet) (defs : List Def) (p : Def → Bool) (h : LeafInv n defs) : LeafInv n (defs.filter p) :=
  fun L hL => h L (List.mem_filter.mp hL).1

theorem hier_tbl_work (n : Text.WNet) (t : String) (defs : List Def) (nx : Nat) (r : Text.WDef) (m : WModP)
    (tbl' : List Def) (n' : Nat) (Ws Rl : List Text.WDef) (hfull : FullT defs) (hleaf : LeafInv n defs)
    (hstub : ∀ D ∈ defs, StubOK D) (hfrag : fragTop n r = true) (hm : astOf n r = some m)
    (hstep : lateStep defs nx t (.work m.toI) = some (tbl', n'))
    (hdw : DoneW n defs Ws) (hdl : DoneL defs Rl) (hnw : ∀ W ∈ Ws, W.name ≠ r.name) (hnl : ∀ x ∈ Rl, x.name ≠ r.name) :
    LeafInv n tbl' ∧ (∀ D ∈ tbl', StubOK D) ∧ DoneW n tbl' (r :: Ws) ∧ DoneL tbl' Rl := by
  obtain ⟨hMn, _⟩ := astOf_name n r m hm
  obtain ⟨L, D, ls', ops, hLm, hLn, hb, rfl⟩ := lateStep_work _ _ _ _ _ _ hstep
  obtain ⟨v1, v2, v3, v4, ⟨new, en, hnew⟩, v6, _, v8⟩ := buildLateW_view n r m L _ nx t D ls' n' ops hfrag hm
    (hstub L hLm) (leafInv_sub n defs _ hleaf) hb
  rw [en, List.drop_left' (List.length_map _), hMn]
  rw [hMn] at hLn
  obtain ⟨p1, p2⟩ := done_pad n defs r.name D L ops new Ws Rl hfull hLm hLn v6 hdw hdl hnw hnl
  obtain ⟨q1, q2⟩ := pad_inv n defs r.name D L ops new hleaf hstub hLm v3 v8 (by simp [v2])
    (fun x h => v4 x (by rw [en]; exact List.mem_append_right _ h)) (fun x h => (hnew x h).1)
  exact ⟨q1, q2, List.forall_mem_cons.mpr
    ⟨⟨D, List.mem_append_left _ (maptbl_self defs r.name D ops L hLm hLn), v3.trans hLn, v1, v2⟩, p1⟩, p2⟩

theorem hier_tbl_leaf (n : Text.WNet) (t : String) (defs : List Def) (nx : Nat) (r : Text.WDef) (lf : WLeaf)
    (tbl' : List Def) (n' : Nat) (Ws Rl : List Text.WDef) (hfull : FullT defs) (hleaf : LeafInv n defs)
    (hstub : ∀ D ∈ defs, StubOK D) (ha : astLeaf r = some lf)
    (hstep : lateStep defs nx t (.leaf lf) = some (tbl', n'))
    (hdw : DoneW n defs Ws) (hdl : DoneL defs Rl) (hnw : ∀ W ∈ Ws, W.name ≠ r.name) (hnl : ∀ x ∈ Rl, x.name ≠ r.name) :
    LeafInv n tbl' ∧ (∀ D ∈ tbl', StubOK D) ∧ DoneW n tbl' Ws ∧ DoneL tbl' (r :: Rl) := by
  obtain ⟨hMn, hifc⟩ := astLeaf_iface r lf ha
  obtain ⟨L, L', ops, hLm, hLn, hb, rfl⟩ := lateStep_leaf _ _ _ _ _ _ hstep
  obtain ⟨b1, b2, b3, b4⟩ := buildLeaf_bound L nx lf.ports L' n' ops hb
  obtain ⟨c1, c2⟩ := buildLeaf_iface L nx lf.ports L' n' ops hb (fun P hP => ((hstub L hLm b2).2.2.2 P hP).1)
  rw [hMn] at hLn ⊢
  obtain ⟨p1, p2⟩ := done_pad n defs r.name L' L ops [] Ws Rl hfull hLm hLn b1 hdw hdl hnw hnl
  obtain ⟨q1, q2⟩ := pad_inv n defs r.name L' L ops [] hleaf hstub hLm b4 b3 (by simp [c2])
    (fun _ h => nomatch h) (fun _ h => nomatch h)
  simp only [List.append_nil] at p1 p2 q1 q2
  exact ⟨q1, q2, p1, List.forall_mem_cons.mpr
    ⟨⟨L', maptbl_self defs r.name L' ops L hLm hLn, b4.trans hLn, c2, c1.trans hifc⟩, p2⟩⟩

theorem fullT_of_wf {s : St} (hwf : TableWF s) : FullT s.defs := by
  intro L hL x hx j hj href
  exact rowsFull_of_wf hwf hL x hx j hj href

theorem forall_filter_snoc {β : Type} (p : β → Bool) (P : β → Prop) (l done : List β) (r : β)
    (h : ∀ x ∈ l ++ done.filter p, P x) (hr : p r = true → P r) : ∀ x ∈ l ++ (done ++ [r]).filter p, P x := by
  intro x hx
  rw [List.filter_append, ← List.append_assoc] at hx
  rcases List.mem_append.mp hx with e | e
  · exact h x e
  · obtain ⟨e1, e2⟩ := List.mem_filter.mp e
    rw [List.mem_singleton] at e1
    rw [e1]; rw [e1] at e2; exact hr e2

/-- The later modules of a hierarchical file, one after the other, for any syntax `ast` of a written definition with its pure
    step: `PW defs W` / `PL defs x` is what the table shows of a work module / a primitive that has been declared.  A step
    keeps the invariants `HI` and `I` of the state and what the table shows of the modules of other names, and shows
    the new module; so at the end the table shows them all. -/
theorem hier_run (n : Text.WNet) {α : Type} (ast : Text.WDef → Option α) (toMod : α → Module)
    (step : List Def → Nat → α → Option (List Def × Nat)) (fold : List Def → Nat → List α → Option (List Def × Nat))
    (fold_nil : ∀ tbl n, fold tbl n [] = some (tbl, n))
    (fold_cons : ∀ tbl n M Ms, fold tbl n (M :: Ms) = (step tbl n M).bind (fun r => fold r.1 r.2 Ms))
    (frag : Text.WDef → Bool) (I : St → Prop) (PW PL : List Def → Text.WDef → Prop)
    (hstep : ∀ r M s tbl1 n1 (Ws Rl : List Text.WDef), ast r = some M → frag r = true → HI n s → I s →
      (∀ W ∈ Ws, PW s.defs W) → (∀ x ∈ Rl, PL s.defs x) → (∀ W ∈ Ws, W.name ≠ r.name) → (∀ x ∈ Rl, x.name ≠ r.name) →
      step s.defs s.next M = some (tbl1, n1) →
      ∃ s1, elabModule s (toMod M) = .ok s1 ∧ s1.defs = tbl1 ∧ s1.next = n1 ∧ s1.pending = s.pending ∧ HI n s1 ∧ I s1 ∧
        (∀ W ∈ Ws, PW s1.defs W) ∧ (∀ x ∈ Rl, PL s1.defs x) ∧ (if isPrim r then PL s1.defs r else PW s1.defs r))
    (Rs : List Text.WDef) (Ms : List α) (s : St) (tbl' : List Def) (n' : Nat) (Ws Rl : List Text.WDef)
    (hM : Rs.mapM ast = some Ms) (hfa : ∀ r ∈ Rs, frag r = true) (hnd : (Rs.map (·.name)).Nodup)
    (hnw : ∀ r ∈ Rs, ∀ W ∈ Ws, W.name ≠ r.name) (hnl : ∀ r ∈ Rs, ∀ x ∈ Rl, x.name ≠ r.name)
    (hi : HI n s) (hI : I s) (h : fold s.defs s.next Ms = some (tbl', n'))
    (hdw : ∀ W ∈ Ws, PW s.defs W) (hdl : ∀ x ∈ Rl, PL s.defs x) :
    ∃ s', (Ms.map toMod).foldlM elabModule s = .ok s' ∧ s'.defs = tbl' ∧ s'.next = n' ∧ s'.pending = s.pending ∧ I s' ∧
      (∀ W ∈ Ws ++ Rs.filter (fun r => !isPrim r), PW s'.defs W) ∧ (∀ x ∈ Rl ++ Rs.filter isPrim, PL s'.defs x) := by
  obtain ⟨s', f1, f2, f3, f4, _, f5, f6, f7⟩ := run_fold ast toMod step fold fold_nil fold_cons
    (fun done r => frag r = true ∧ (∀ W ∈ Ws, W.name ≠ r.name) ∧ (∀ x ∈ Rl, x.name ≠ r.name) ∧ ∀ x ∈ done, x.name ≠ r.name)
    (fun done s => HI n s ∧ I s ∧ (∀ W ∈ Ws ++ done.filter (fun r => !isPrim r), PW s.defs W) ∧
      ∀ x ∈ Rl ++ done.filter isPrim, PL s.defs x)
    (by
      intro done r M s tbl1 n1 ha ⟨hfr, hnw, hnl, hnd⟩ ⟨hi, hI, hdw, hdl⟩ hs
      obtain ⟨s1, g1, g2, g3, g4, hi1, hI1, kw, kl, kr⟩ := hstep r M s tbl1 n1 _ _ ha hfr hi hI hdw hdl
        (fun W hW => (List.mem_append.mp hW).elim (hnw W) (fun h => hnd W (List.mem_filter.mp h).1))
        (fun x hx => (List.mem_append.mp hx).elim (hnl x) (fun h => hnd x (List.mem_filter.mp h).1)) hs
      refine ⟨s1, g1, g2, g3, g4, hi1, hI1, forall_filter_snoc _ _ Ws done r kw (fun hp => ?_),
        forall_filter_snoc _ _ Rl done r kl (fun hp => by simpa [hp] using kr)⟩
      have hp' : isPrim r = false := by simpa using hp
      simpa [hp'] using kr)
    Rs Ms [] s tbl' n' hM
    (by
      intro pre r post e
      subst e
      rw [List.map_append, List.map_cons, List.nodup_append] at hnd
      have hr : r ∈ pre ++ r :: post := List.mem_append_right _ List.mem_cons_self
      exact ⟨hfa r hr, hnw r hr, hnl r hr, fun x hx => hnd.2.2 x.name (List.mem_map_of_mem hx) r.name List.mem_cons_self⟩)
    ⟨hi, hI, by simpa using hdw, by simpa using hdl⟩ h
  exact ⟨s', f1, f2, f3, f4, f5, by simpa using f6, by simpa using f7⟩

/-- **hier_fold.**  The later modules of a hierarchical file, one after the other: the run succeeds, and at the end every
    work module shows the view and every primitive the interface of its definition in the netlist. -/
theorem hier_fold (n : Text.WNet) (t : String) : ∀ (Rs : List Text.WDef) (Ms : List WAny) (s : St) (tbl' : List Def) (n' : Nat)
    (Ws Rl : List Text.WDef), Rs.mapM (astAny n) = some Ms → (∀ r ∈ Rs, fragAny n r = true) → (Rs.map (·.name)).Nodup →
    (∀ r ∈ Rs, ∀ W ∈ Ws, W.name ≠ r.name) → (∀ r ∈ Rs, ∀ x ∈ Rl, x.name ≠ r.name) →
    HI n s → s.top = some t → s.acount = 0 → foldLate s.defs s.next t Ms = some (tbl', n') →
    DoneW n s.defs Ws → DoneL s.defs Rl →
    ∃ s', (Ms.map WAny.toModule).foldlM elabModule s = .ok s' ∧ s'.defs = tbl' ∧ s'.next = n' ∧ s'.top = some t ∧
      s'.acount = 0 ∧ s'.pending = s.pending ∧
      DoneW n s'.defs (Ws ++ Rs.filter (fun r => !isPrim r)) ∧ DoneL s'.defs (Rl ++ Rs.filter isPrim) := by
  intro Rs Ms s tbl' n' Ws Rl hM hfa hnd hnw hnl hi htop hac h hdw hdl
  obtain ⟨s', f1, f2, f3, f4, ⟨f5, f6⟩, f7, f8⟩ := hier_run n (astAny n) WAny.toModule (lateStep · · t) (foldLate · · t)
    (fun _ _ => rfl) (fun tbl n => foldLate_cons tbl n t) (fragAny n) (fun s => s.top = some t ∧ s.acount = 0)
    (fun defs W => ∃ D ∈ defs, D.name = W.name ∧ viewD D = viewT n W ∧ D.lib = some "work")
    (fun defs r => ∃ L ∈ defs, L.name = r.name ∧ L.lib = some "hdi_primitives" ∧ ifaceD L = ifaceT r)
    (by
      intro r M s tbl1 n1 Ws Rl ha hfr hi ⟨htop, hac⟩ hdw hdl hnw hnl hs
      obtain ⟨s1, g1, g2, g3, g4, g5, g6, g7⟩ := late_step s t M tbl1 n1 hi.wf htop hac hs
      refine ⟨s1, g1, g3, g4, g7, ?_⟩
      rw [g3]
      unfold astAny at ha
      unfold fragAny at hfr
      unfold isPrim
      by_cases hp : (r.lib == "hdi_primitives") = true
      · simp only [hp, if_true, Option.map_eq_some_iff] at ha ⊢
        obtain ⟨lf, hlf, rfl⟩ := ha
        obtain ⟨k1, k2, k3, k4⟩ := hier_tbl_leaf n t s.defs s.next r lf tbl1 n1 Ws Rl (fullT_of_wf hi.wf) hi.leaf hi.stub
          hlf hs hdw hdl hnw hnl
        obtain ⟨k4, k5⟩ := List.forall_mem_cons.mp k4
        exact ⟨⟨g2, g3 ▸ k1, g3 ▸ k2⟩, ⟨g5, g6⟩, k3, k5, k4⟩
      · have hp' : (r.lib == "hdi_primitives") = false := by simpa using hp
        simp only [hp', Bool.false_eq_true, if_false, Option.map_eq_some_iff, Bool.false_or] at ha hfr ⊢
        obtain ⟨m, hm, rfl⟩ := ha
        obtain ⟨k1, k2, k3, k4⟩ := hier_tbl_work n t s.defs s.next r m tbl1 n1 Ws Rl (fullT_of_wf hi.wf) hi.leaf hi.stub
          hfr hm hs hdw hdl hnw hnl
        obtain ⟨k3, k5⟩ := List.forall_mem_cons.mp k3
        exact ⟨⟨g2, g3 ▸ k1, g3 ▸ k2⟩, ⟨g5, g6⟩, k5, k4, k3⟩)
    Rs Ms s tbl' n' Ws Rl hM hfa hnd hnw hnl hi ⟨htop, hac⟩ h hdw hdl
  exact ⟨s', f1, f2, f3, f5, f6, f4, f7, f8⟩

theorem HI_top (n : Text.WNet) (T : Text.WDef) {S1 : St} {D : Def} {ls : List Def} (hwf : TableWF S1) (hd : S1.defs = D :: ls)
    (hrefT : ∃ r0, Text.refOf n T.name = some r0 ∧ T.ports.map (·.name) = r0.ports.map (·.name))
    (hn : D.name = T.name) (hl : D.lib = some "work") (hp : D.ports.map (·.name) = T.ports.map (·.name))
    (hleaf : LeafInv n ls) (hstub : ∀ x ∈ ls, StubOK x) : HI n S1 := by
  obtain ⟨r0, hr0, hp0⟩ := hrefT
  refine ⟨hwf, ?_, ?_⟩
  · rw [hd]
    exact List.forall_mem_cons.mpr ⟨⟨r0, by rw [hn]; exact hr0, hp.trans hp0⟩, hleaf⟩
  · rw [hd]
    exact List.forall_mem_cons.mpr ⟨fun h => (by rw [hl] at h; cases h), hstub⟩

theorem viewD_port_names (D : Def) : (viewD D).ports.map (·.name) = D.ports.map (·.name) := by
  unfold viewD; simp [List.map_map, Function.comp_def]

theorem viewT_port_names (n : Text.WNet) (T : Text.WDef) : (viewT n T).ports.map (·.name) = T.ports.map (·.name) := by
  unfold viewT; simp [List.map_map, Function.comp_def]

/-- `markBB` leaves a definition that has a library as it is -/
theorem exists_markBB {tbl : List Def} {Q : Def → Prop} (hQ : ∀ D, Q D → D.lib.isSome) (h : ∃ D ∈ tbl, Q D) :
    ∃ D ∈ tbl.map markBB, Q D := by
  obtain ⟨D, hD, e⟩ := h
  have : markBB D = D := by
    unfold markBB
    cases hDl : D.lib with
    | none => have hl := hQ D e; rw [hDl] at hl; cases hl
    | some v => simp
  exact ⟨D, by rw [← this]; exact List.mem_map_of_mem hD, e⟩

/-- **c04_view_hier.**  C04 for a HIERARCHICAL netlist, up to the syntax trees: the file `top; then the definitions `Rs` in the
    writer's order` (work modules and `celldefine` modules, each declared after a module that instantiates it) is accepted
    by the REAL `elabDesign`, the top is elected, and EVERY module shows the view of its definition in the netlist — the
    top, every other work module (ports, nets, instances), and every primitive its interface. -/
theorem c04_view_hier (n : Text.WNet) (T : Text.WDef) (Rs : List Text.WDef) (m : WModP) (Ms : List WAny)
    (defs : List Def) (nx : Nat) (hfrag : fragTop n T = true) (hm : astOf n T = some m)
    (hRs : Rs.mapM (astAny n) = some Ms) (hfa : ∀ r ∈ Rs, fragAny n r = true)
    (hnd : (T.name :: Rs.map (·.name)).Nodup)
    (hrefT : ∃ r0, Text.refOf n T.name = some r0 ∧ T.ports.map (·.name) = r0.ports.map (·.name))
    (hb : buildHier m.toI Ms = some (defs, nx)) :
    elabDesign (m.toI.toModule :: Ms.map WAny.toModule) = .ok ⟨defs, nx, some T.name, 0, []⟩ ∧
    (∃ D ∈ defs, D.name = T.name ∧ viewD D = viewT n T ∧ D.lib = some "work") ∧
    (∀ r ∈ Rs, isPrim r = false → ∃ D ∈ defs, D.name = r.name ∧ viewD D = viewT n r ∧ D.lib = some "work") ∧
    (∀ r ∈ Rs, isPrim r = true → ∃ L ∈ defs, L.name = r.name ∧ L.lib = some "hdi_primitives" ∧ ifaceD L = ifaceT r) := by
  obtain ⟨hTn, hTa⟩ := astOf_name n T m hm
  have hrun := elabDesign_hier m.toI Ms defs nx hb
  rw [hTn] at hrun
  refine ⟨hrun, ?_⟩
  obtain ⟨ports, insts, hports, hinsts, rfl⟩ := astOf_eq hm
  obtain ⟨d3, n3, d4, ls4, tbl, h3, hcn, h4, h5, rfl⟩ := buildHier_some _ Ms defs nx hb
  simp only [WModP.toI] at h3 h4 h5
  obtain ⟨hpv, hPC, hWF, hcabE, hi3, ha3, hl3, hn3⟩ := top_facts _ ports _ d3 n3 rfl rfl h3
  obtain ⟨v1, v2, v3, _⟩ := view_core n T ports insts d3 d4 [] ls4 n3 hfrag hports hinsts hpv hPC hWF hcabE hi3 ha3
    (by intro L hL; cases hL) h4
  have hlib4 : (withAttrs (T.attrs.getD []) d4).lib = some "work" := by
    rw [withAttrs_lib, foldInst_lib _ d3 [] d4 ls4 h4, hl3]
  have hname4 : (withAttrs (T.attrs.getD []) d4).name = T.name := by
    rw [withAttrs_name, foldInst_name _ d3 [] d4 ls4 h4, hn3]
  obtain ⟨hE, _, _⟩ := elabModule_wtop (⟨T.name, T.attrs.getD [], ports, T.cables.reverse.map astWire, insts.map PInst.toN⟩ : WModI) d3 n3 d4 ls4
    h3 hcn h4
  generalize hS1 : S2 (withAttrs (T.attrs.getD []) d4) ls4 n3 (some T.name) = S1
  have hE' : elabModule ⟨[], 0, none, 0, []⟩
      (⟨T.name, T.attrs.getD [], ports, T.cables.reverse.map astWire, insts.map PInst.toN⟩ : WModI).toModule = .ok S1 := by
    rw [hE, ← hS1]; rfl
  have hS1d : S1.defs = withAttrs (T.attrs.getD []) d4 :: ls4 := by rw [← hS1]; rfl
  obtain ⟨new, en, hnew⟩ := foldInst_new _ d3 [] d4 ls4 h4
  have hi1 : HI n S1 := HI_top n T (elabModule_wf _ _ _ tableWF_init hE') hS1d hrefT hname4 hlib4
    (by rw [← viewD_port_names, v1, viewT_port_names]) v2 (fun x hx => (hnew x (by rw [en] at hx; simpa using hx)).1)
  rw [List.nodup_cons] at hnd
  have hdw0 : DoneW n S1.defs [T] := by
    intro W hW
    simp only [List.mem_singleton] at hW
    rw [hW, hS1d]
    exact ⟨_, List.mem_cons_self, hname4, v1, hlib4⟩
  obtain ⟨s', _, f2, _, _, _, _, f7, f8⟩ := hier_fold n T.name Rs Ms S1 tbl nx [T] [] hRs hfa hnd.2
    (by
      intro r hr W hW
      simp only [List.mem_singleton] at hW
      rw [hW]
      exact fun e => hnd.1 (List.mem_map.mpr ⟨r, hr, e.symm⟩))
    (by intro r _ x hx; cases hx) hi1 (by rw [← hS1]; rfl) (by rw [← hS1]; rfl)
    (by rw [hS1d, ← hS1]; exact h5) hdw0 (by intro x hx; cases hx)
  rw [f2] at f7 f8
  exact ⟨exists_markBB (fun D e => by rw [e.2.2]; rfl) (f7 T (by simp)),
    fun r hr hp => exists_markBB (fun D e => by rw [e.2.2]; rfl)
      (f7 r (List.mem_append_right _ (List.mem_filter.mpr ⟨hr, by simp [hp]⟩))),
    fun r hr hp => exists_markBB (fun D e => by rw [e.2.1]; rfl)
      (f8 r (List.mem_append_right _ (List.mem_filter.mpr ⟨hr, hp⟩)))⟩

/-- the fragment of the hierarchical theorem up to the syntax trees (decidable): the top `T` and every other work module
    in `fragTop`, distinct module names, `T` found under its name, and the pure reader `buildHier` accepts the file -/
def fragHier (n : Text.WNet) (T : Text.WDef) (Rs : List Text.WDef) : Bool :=
  fragTop n T && Rs.all (fragAny n) && decide ((T.name :: Rs.map (·.name)).Nodup) &&
  (match Text.refOf n T.name with
   | some r0 => decide (T.ports.map (·.name) = r0.ports.map (·.name))
   | none => false) &&
  (match astOf n T, Rs.mapM (astAny n) with
   | some m, some Ms => (buildHier m.toI Ms).isSome
   | _, _ => false)

/-- **c04_ast_hier.**  `c04_view_hier` from the decidable fragment predicate. -/
theorem c04_ast_hier (n : Text.WNet) (T : Text.WDef) (Rs : List Text.WDef) (h : fragHier n T Rs = true) :
    ∃ m Ms s, astOf n T = some m ∧ Rs.mapM (astAny n) = some Ms ∧
      elabDesign (m.toI.toModule :: Ms.map WAny.toModule) = .ok s ∧ s.top = some T.name ∧ s.pending = [] ∧
      (∃ D ∈ s.defs, D.name = T.name ∧ viewD D = viewT n T ∧ D.lib = some "work") ∧
      (∀ r ∈ Rs, isPrim r = false → ∃ D ∈ s.defs, D.name = r.name ∧ viewD D = viewT n r ∧ D.lib = some "work") ∧
      (∀ r ∈ Rs, isPrim r = true → ∃ L ∈ s.defs, L.name = r.name ∧ L.lib = some "hdi_primitives" ∧ ifaceD L = ifaceT r) := by
  unfold fragHier at h
  simp only [Bool.and_eq_true, decide_eq_true_eq, List.all_eq_true] at h
  obtain ⟨⟨⟨⟨h1, h2⟩, h3⟩, h4⟩, h5⟩ := h
  split at h4
  · rename_i r0 hr
    split at h5
    · rename_i m Ms hm hM
      obtain ⟨⟨defs, nx⟩, hb⟩ := Option.isSome_iff_exists.mp h5
      obtain ⟨a1, a2, a3, a4⟩ := c04_view_hier n T Rs m Ms defs nx h1 hm hM h2 h3 ⟨r0, hr, of_decide_eq_true h4⟩ hb
      exact ⟨m, Ms, _, hm, hM, a1, rfl, rfl, a2, a3, a4⟩
    · cases h5
  · cases h4

/-- non-vacuity: a three-level netlist `top → sub → LUT1` with `LUT1` also under `top`; `sub` has a two-bit port, an
    attribute on a port and one on the module -/
def exNetH : Text.WNet :=
  let b (c : String) (i : Int) : Option Bit := some ⟨c, i⟩
  { name := "exh", top := some "top",
    defs := [
      { name := "top", lib := "work", params := none, attrs := none,
        ports := [⟨some "a", "IN", 0, 2, [b "a" 0, b "a" 1], none⟩, ⟨some "y", "OUT", 0, 1, [b "y" 0], none⟩],
        cables := [⟨"a", 0, 2, none, none⟩, ⟨"y", 0, 1, none, none⟩, ⟨"w", 0, 1, none, none⟩],
        insts := [⟨"u0", "sub", none, none, [[b "a" 0, b "a" 1], [b "w" 0]]⟩,
                  ⟨"u1", "LUT1", none, none, [[b "w" 0], [b "y" 0]]⟩] },
      { name := "sub", lib := "work", params := none, attrs := some [("keep", none)],
        ports := [⟨some "p", "IN", 0, 2, [b "p" 0, b "p" 1], none⟩, ⟨some "q", "OUT", 0, 1, [b "q" 0], some [("mark", none)]⟩],
        cables := [⟨"p", 0, 2, none, none⟩, ⟨"q", 0, 1, none, none⟩],
        insts := [⟨"g0", "LUT1", none, none, [[b "p" 0], [b "q" 0]]⟩] },
      { name := "LUT1", lib := "hdi_primitives", params := none, attrs := none,
        ports := [⟨some "I0", "IN", 0, 1, [none], none⟩, ⟨some "O", "OUT", 0, 1, [none], none⟩],
        cables := [], insts := [] }] }

def exTopH : Text.WDef := exNetH.defs.headD default

theorem exNetH_frag : fragHier exNetH exTopH (exNetH.defs.drop 1) = true := by decide +kernel
end Spydr.Verilog.Elab
