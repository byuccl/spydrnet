/-
  The TokenFactory automaton on lists of characters (`run`, `lexV_run`), the boundary
  lemmas (a pending one-character token, a word ended by a breaking character, white space from the clean state), the
  irrelevance of the last character from the clean state, and two runs inside a token: a word gathers in the buffer
  (`run_word`), a `//` line up to its line end (`run_slc`).
-/
import Spydr.Verilog.ModelText
namespace Spydr.Verilog.Elab
open Spydr.Verilog
open Spydr.Verilog.Text (TF lexV)

/-- state after the characters, and the tokens that ended meanwhile, in order -/
def run (t : TF) : List Char → TF × List String
  | [] => (t, [])
  | c :: cs =>
    let r := t.add c
    let r2 := run r.1 cs
    (r2.1, (match r.2 with | some tok => [tok] | none => []) ++ r2.2)

theorem run_append (t : TF) (a b : List Char) :
    run t (a ++ b) = ((run (run t a).1 b).1, (run t a).2 ++ (run (run t a).1 b).2) := by
  induction a generalizing t with
  | nil => simp [run]
  | cons c cs ih => simp only [List.cons_append, run, ih]; simp [List.append_assoc]

theorem foldl_run (F : TF × List String → Char → TF × List String)
    (hF : ∀ st c, F st c = ((st.1.add c).1, ((st.1.add c).2.toList) ++ st.2)) (cs : List Char) :
    ∀ (t : TF) (acc : List String), cs.foldl F (t, acc) = ((run t cs).1, (run t cs).2.reverse ++ acc) := by
  induction cs with
  | nil => intro t acc; simp [run]
  | cons c cs ih =>
    intro t acc
    simp only [List.foldl_cons, run, hF]
    rw [ih]
    cases (t.add c).2 <;> simp

theorem lexV_run (text : String) :
    lexV text = (run {} text.toList).2 ++ (if (run {} text.toList).1.buffer == "" then [] else [(run {} text.toList).1.buffer]) := by
  unfold lexV
  simp only []
  rw [foldl_run _ (by
    intro st c
    cases (st.1.add c).2 <;> simp) text.toList {} []]
  split <;> simp

/-- no comment / string / escaped-identifier / directive is open -/
def Flat (t : TF) : Prop := t.slc = false ∧ t.mlc = false ∧ t.str = false ∧ t.esc = false ∧ t.dir = false

theorem Flat.anyFlag {t : TF} (h : Flat t) : t.anyFlag = false := by
  obtain ⟨h1, h2, h3, h4, h5⟩ := h
  simp [TF.anyFlag, h1, h2, h3, h4, h5]

theorem add_pend (t : TF) (c : Char) (hf : Flat t) (hp : Text.singleCharTokens.contains t.buffer = true) :
    t.add c = (({ t with buffer := "" } : TF).add c |>.1, some t.buffer) := by
  obtain ⟨h1, h2, h3, h4, h5⟩ := hf
  have he : Text.singleCharTokens.contains "" = false := by decide
  unfold TF.add
  simp only [hp, if_true, he, h1, h2, h3, h4, h5, Bool.false_and, Bool.false_eq_true, if_false, String.length_empty,
    bne_self_eq_false, Bool.and_false, ite_self]

theorem add_word_end (t : TF) (c : Char) (hf : Flat t) (hs : Text.singleCharTokens.contains t.buffer = false)
    (hl : t.buffer.length ≠ 0) (hb : Text.breakers.contains c = true) (hstar : ¬ (c = '*' ∧ t.last = "/")) :
    t.add c = (({ t with buffer := "" } : TF).add c |>.1, some t.buffer) := by
  have haf := hf.anyFlag
  obtain ⟨h1, h2, h3, h4, h5⟩ := hf
  have he : Text.singleCharTokens.contains "" = false := by decide
  have hstar' : (c == '*' && t.last == "/") = false := by
    cases h : (c == '*' && t.last == "/") with
    | false => rfl
    | true =>
      simp only [Bool.and_eq_true, beq_iff_eq] at h
      exact absurd h hstar
  have hl' : (t.buffer.length != 0) = true := by simp [hl]
  have haf' : ({ t with buffer := "" } : TF).anyFlag = false := by simp [TF.anyFlag, h1, h2, h3, h4, h5]
  unfold TF.add
  simp only [hs, he, h1, h2, h3, h4, h5, Bool.false_and, Bool.false_eq_true, if_false, hstar', hb, haf, Bool.not_false,
    Bool.true_and, hl', if_true, String.length_empty, bne_self_eq_false, Bool.and_false, ite_self]

/-- empty buffer, nothing open, and the last character was not a `/` -/
def Clean (t : TF) : Prop := t.buffer = "" ∧ Flat t ∧ t.last ≠ "/"

theorem add_clean_none (t : TF) (c : Char) (hb : t.buffer = "") (hf : Flat t) : (t.add c).2 = none := by
  obtain ⟨h1, h2, h3, h4, h5⟩ := hf
  have he : Text.singleCharTokens.contains "" = false := by decide
  unfold TF.add
  simp only [hb, he, h1, h2, h3, h4, h5, Bool.false_and, Bool.false_eq_true, if_false, String.length_empty,
    bne_self_eq_false, Bool.and_false, ite_self]

theorem add_clean_ws (t : TF) (c : Char) (hc : Clean t) (hw : Text.whitespace.contains c = true) :
    t.add c = ({ t with last := String.singleton c }, none) := by
  obtain ⟨hb, ⟨h1, h2, h3, h4, h5⟩, _⟩ := hc
  have he : Text.singleCharTokens.contains "" = false := by decide
  have hl : ((String.singleton c).length == 1) = true := by simp
  unfold TF.add
  simp only [hb, he, h1, h2, h3, h4, h5, Bool.false_and, Bool.false_eq_true, if_false, String.length_empty,
    bne_self_eq_false, Bool.and_false, ite_self, hl, hw, Bool.and_self, Bool.not_true, Bool.or_self]
  simp [TF.setFlags, TF.anyFlag]

theorem add_empty_irrel (t : TF) (c : Char) (l1 l2 : String) (hb : t.buffer = "") (hf : Flat t)
    (h1 : l1 ≠ "/") (h2 : l2 ≠ "/") : ({ t with last := l1 } : TF).add c = ({ t with last := l2 } : TF).add c := by
  obtain ⟨f1, f2, f3, f4, f5⟩ := hf
  have e1 : (l1 == "/") = false := by simp [h1]
  have e2 : (l2 == "/") = false := by simp [h2]
  have he : Text.singleCharTokens.contains "" = false := by decide
  unfold TF.add
  simp only [hb, he, f1, f2, f3, f4, f5, Bool.false_and, Bool.false_eq_true, if_false, String.length_empty,
    bne_self_eq_false, Bool.and_false, ite_self, e1, e2]
  by_cases hw : ((String.singleton c).length == 1 && Text.whitespace.contains c) = true
  · simp only [hw, Bool.not_true, Bool.false_eq_true, if_false, Bool.or_self]
  · simp only [hw, Bool.not_false, if_true]

theorem run_empty_irrel (t : TF) (cs : List Char) (l1 l2 : String) (hb : t.buffer = "") (hf : Flat t)
    (h1 : l1 ≠ "/") (h2 : l2 ≠ "/") (hne : cs ≠ []) :
    run ({ t with last := l1 } : TF) cs = run ({ t with last := l2 } : TF) cs := by
  cases cs with
  | nil => exact absurd rfl hne
  | cons c cs => simp only [run, add_empty_irrel t c l1 l2 hb hf h1 h2]

theorem run_clean (t : TF) (cs : List Char) (hc : Clean t) (hne : cs ≠ []) : run t cs = run ({} : TF) cs := by
  obtain ⟨hb, hf, hl⟩ := hc
  obtain ⟨f1, f2, f3, f4, f5⟩ := hf
  have ht : t = ({ ({} : TF) with last := t.last } : TF) := by
    cases t; simp_all
  have h0 : ({} : TF) = ({ ({} : TF) with last := "" } : TF) := rfl
  rw [ht, h0]
  exact run_empty_irrel ({} : TF) cs t.last "" rfl ⟨rfl, rfl, rfl, rfl, rfl⟩ hl (by decide) hne


def wordChar (c : Char) : Bool := c.isAlphanum || c == '_'

def wordB (s : String) : Bool := s.toList.all wordChar

theorem not_contains_of_all {α : Type} [BEq α] [LawfulBEq α] {p : α → Bool} {l : List α} (hl : l.all (fun x => !p x) = true)
    {b : α} (hb : p b = true) : l.contains b = false := by
  cases h : l.contains b with
  | false => rfl
  | true =>
    have := List.all_eq_true.1 hl b (by simpa using h)
    rw [hb] at this
    cases this

theorem setFlags_word (t : TF) (hb : wordB t.buffer = true) : t.setFlags = t := by
  have h := not_contains_of_all (p := wordB) (l := ["//", "/*", "\"", "\\", "`"]) (by decide) hb
  simp only [List.contains_cons, List.contains_nil, Bool.or_false, Bool.or_eq_false_iff] at h
  obtain ⟨h1, h2, h3, h4, h5⟩ := h
  unfold TF.setFlags
  simp only [h1, h2, h3, h4, h5, Bool.false_eq_true, if_false, ite_self]

theorem add_word (t : TF) (c : Char) (hf : Flat t) (hb : wordB t.buffer = true) (hc : wordChar c = true) :
    t.add c = ({ t with buffer := t.buffer ++ String.singleton c, last := String.singleton c }, none) := by
  obtain ⟨buf, slc, mlc, str, esc, dir, last⟩ := t
  obtain ⟨h1, h2, h3, h4, h5⟩ := hf
  simp only at h1 h2 h3 h4 h5 hb
  subst h1 h2 h3 h4 h5
  have hs := not_contains_of_all (p := wordB) (l := Text.singleCharTokens) (by decide) hb
  have hbr := not_contains_of_all (p := wordChar) (l := Text.breakers) (by decide) hc
  have hws := not_contains_of_all (p := wordChar) (l := Text.whitespace) (by decide) hc
  have hstar := not_contains_of_all (p := wordChar) (l := ['*']) (by decide) hc
  have hdot := not_contains_of_all (p := wordChar) (l := ['.']) (by decide) hc
  simp only [List.contains_cons, List.contains_nil, Bool.or_false] at hstar hdot
  have hb' : wordB (buf ++ String.singleton c) = true := by
    simp only [wordB, String.toList_append, String.toList_singleton, List.all_append, List.all_cons, List.all_nil,
      Bool.and_true, Bool.and_eq_true]
    exact ⟨hb, hc⟩
  have hsf := setFlags_word ⟨buf ++ String.singleton c, false, false, false, false, false, String.singleton c⟩ hb'
  unfold TF.add
  simp only [hs, hstar, hdot, hbr, hws, Bool.false_and, Bool.and_false, Bool.false_eq_true, if_false,
    Bool.not_false, if_true, hsf]

theorem run_word : ∀ (cs : List Char) (t : TF), Flat t → wordB t.buffer = true → cs.all wordChar = true → t.last ≠ "/" →
    (run t cs).2 = [] ∧ (run t cs).1.buffer.toList = t.buffer.toList ++ cs ∧ Flat (run t cs).1 ∧ (run t cs).1.last ≠ "/" := by
  intro cs
  induction cs with
  | nil => intro t hf _ _ hl; exact ⟨rfl, by simp [run], hf, hl⟩
  | cons c cs ih =>
    intro t hf hb hcs _
    simp only [List.all_cons, Bool.and_eq_true] at hcs
    have hl' : String.singleton c ≠ "/" := fun e => by
      have : [c] = ['/'] := by rw [← String.toList_singleton, e]; rfl
      rw [List.cons.inj this |>.1] at hcs
      exact absurd hcs.1 (by decide)
    obtain ⟨r1, r2, r3, r4⟩ := ih { t with buffer := t.buffer ++ String.singleton c, last := String.singleton c } hf
      (by simp only [wordB, String.toList_append, String.toList_singleton, List.all_append, List.all_cons, List.all_nil,
            Bool.and_true, Bool.and_eq_true]; exact ⟨hb, hcs.1⟩) hcs.2 hl'
    simp only [run, add_word t c hf hb hcs.1]
    refine ⟨by simpa using r1, ?_, r3, r4⟩
    rw [r2, String.toList_append, String.toList_singleton, List.append_assoc]; rfl


theorem not_single_of_len {b : String} (h : 2 ≤ b.length) : Text.singleCharTokens.contains b = false :=
  not_contains_of_all (p := fun s => decide (2 ≤ s.length)) (by decide) (by simpa using h)

theorem add_slc (t : TF) (c : Char) (hs : t.slc = true) (hm : t.mlc = false) (hstr : t.str = false) (he : t.esc = false)
    (hd : t.dir = false) (hl : 2 ≤ t.buffer.length) (hc : c ≠ '\n') :
    t.add c = ({ t with buffer := t.buffer ++ String.singleton c, last := String.singleton c }, none) := by
  obtain ⟨buf, slc, mlc, str, esc, dir, last⟩ := t
  simp only at hs hm hstr he hd hl
  subst hs hm hstr he hd
  have hb := not_single_of_len hl
  have hn : (c == '\n') = false := by simpa using hc
  unfold TF.add
  simp only [hb, hn, TF.anyFlag, TF.setFlags, Bool.false_eq_true, if_false, Bool.false_and, Bool.and_false,
    Bool.true_or, Bool.not_true, if_true, ite_self]

theorem add_slc_end (t : TF) (hs : t.slc = true) (hm : t.mlc = false) (hstr : t.str = false) (he : t.esc = false)
    (hd : t.dir = false) (hl : 2 ≤ t.buffer.length) :
    t.add '\n' = ({ t with buffer := "", slc := false, last := "\n" }, some t.buffer) := by
  obtain ⟨buf, slc, mlc, str, esc, dir, last⟩ := t
  simp only at hs hm hstr he hd hl
  subst hs hm hstr he hd
  have hb := not_single_of_len hl
  unfold TF.add
  simp only [hb, Bool.false_eq_true, if_false, beq_self_eq_true, Bool.and_self, if_true]
  rfl

theorem run_slc : ∀ (cs : List Char) (t : TF), t.slc = true → t.mlc = false → t.str = false → t.esc = false →
    t.dir = false → 2 ≤ t.buffer.length → '\n' ∉ cs →
    (run t cs).2 = [] ∧ (run t cs).1.slc = true ∧ (run t cs).1.mlc = false ∧ (run t cs).1.str = false ∧
    (run t cs).1.esc = false ∧ (run t cs).1.dir = false ∧ (run t cs).1.buffer.toList = t.buffer.toList ++ cs := by
  intro cs
  induction cs with
  | nil => intro t h1 h2 h3 h4 h5 _ _; exact ⟨rfl, h1, h2, h3, h4, h5, by simp [run]⟩
  | cons c cs ih =>
    intro t h1 h2 h3 h4 h5 hl hn
    simp only [List.mem_cons, not_or] at hn
    have hl' : 2 ≤ (t.buffer ++ String.singleton c).length := by simp only [String.length_append]; omega
    obtain ⟨r0, r1, r2, r3, r4, r5, r6⟩ := ih { t with buffer := t.buffer ++ String.singleton c, last := String.singleton c }
      h1 h2 h3 h4 h5 hl' hn.2
    simp only [run, add_slc t c h1 h2 h3 h4 h5 hl (Ne.symm hn.1)]
    refine ⟨by simpa using r0, r1, r2, r3, r4, r5, ?_⟩
    rw [r6, String.toList_append, String.toList_singleton, List.append_assoc]; rfl

end Spydr.Verilog.Elab
