/-
  A whole hierarchical file in the writer's order through the real `elabDesign`: the top module, then work modules and
  `celldefine` modules, each declared after a module that instantiates it (the from-top order of `_compose`); the table is a
  pure fold over the later modules.  `run_fold` is the induction behind every statement about that run.  Twice: without
  assigns, and with assigns, module parameters and primitives with attributes.
-/
import Spydr.Verilog.LateAssign
import Spydr.Verilog.FileLeaves
namespace Spydr.Verilog.Elab
open Spydr.Verilog

/-- one later module of the file on the table (pure) -/
def lateStep (tbl : List Def) (n : Nat) (t : String) (M : WAny) : Option (List Def × Nat) :=
  match tbl.find? (fun d => d.name == M.name) with
  | none => none
  | some L =>
    match M with
    | .work m =>
      match buildLateW L (tbl.filter (fun x => x.name != m.name)) n m t with
      | some r => some (tbl.map (fun x => if x.name == m.name then r.1 else padOpsD x m.name r.2.2.2) ++
          r.2.1.drop (tbl.filter (fun x => x.name != m.name)).length, r.2.2.1)
      | none => none
    | .leaf lf =>
      match buildLeaf L n lf.ports with
      | some r => some (tbl.map (fun x => if x.name == lf.name then r.1 else padOpsD x lf.name r.2.2), r.2.1)
      | none => none

def foldLate : List Def → Nat → String → List WAny → Option (List Def × Nat)
  | tbl, n, _, [] => some (tbl, n)
  | tbl, n, t, M :: Ms =>
    match lateStep tbl n t M with
    | some r => foldLate r.1 r.2 t Ms
    | none => none

theorem lateStep_work (tbl : List Def) (n : Nat) (t : String) (m : WModI) (tbl' : List Def) (n' : Nat)
    (h : lateStep tbl n t (.work m) = some (tbl', n')) :
    ∃ L D ls' ops, L ∈ tbl ∧ L.name = m.name ∧
      buildLateW L (tbl.filter (fun x => x.name != m.name)) n m t = some (D, ls', n', ops) ∧
      tbl' = tbl.map (fun x => if x.name == m.name then D else padOpsD x m.name ops) ++
        ls'.drop (tbl.filter (fun x => x.name != m.name)).length := by
  unfold lateStep at h
  split at h
  · cases h
  rename_i L hf
  simp only at h
  split at h
  rotate_left
  · cases h
  rename_i r hb
  obtain ⟨D, ls', n1, ops⟩ := r
  simp only [Option.some.injEq, Prod.mk.injEq] at h
  obtain ⟨rfl, rfl⟩ := h
  exact ⟨L, D, ls', ops, List.mem_of_find?_eq_some hf, by simpa [WAny.name] using List.find?_some hf, hb, rfl⟩

theorem lateStep_leaf (tbl : List Def) (n : Nat) (t : String) (lf : WLeaf) (tbl' : List Def) (n' : Nat)
    (h : lateStep tbl n t (.leaf lf) = some (tbl', n')) :
    ∃ L L' ops, L ∈ tbl ∧ L.name = lf.name ∧ buildLeaf L n lf.ports = some (L', n', ops) ∧
      tbl' = tbl.map (fun x => if x.name == lf.name then L' else padOpsD x lf.name ops) := by
  unfold lateStep at h
  split at h
  · cases h
  rename_i L hf
  simp only at h
  split at h
  rotate_left
  · cases h
  rename_i r hb
  obtain ⟨L', n1, ops⟩ := r
  simp only [Option.some.injEq, Prod.mk.injEq] at h
  obtain ⟨rfl, rfl⟩ := h
  exact ⟨L, L', ops, List.mem_of_find?_eq_some hf, by simpa [WAny.name] using List.find?_some hf, hb, rfl⟩

theorem late_step (s : St) (t : String) (M : WAny) (tbl' : List Def) (n' : Nat) (hwf : TableWF s) (htop : s.top = some t)
    (hac : s.acount = 0) (h : lateStep s.defs s.next t M = some (tbl', n')) :
    ∃ s', elabModule s M.toModule = .ok s' ∧ TableWF s' ∧ s'.defs = tbl' ∧ s'.next = n' ∧ s'.top = some t ∧ s'.acount = 0 ∧
      s'.pending = s.pending := by
  cases M with
  | work m =>
    obtain ⟨L, D, ls', ops, hLm, hLn, hb, rfl⟩ := lateStep_work _ _ _ _ _ _ h
    obtain ⟨s', g1, g2, _, _, g5, g6, g7, g8, new, g9, g10⟩ := elabModule_lateW s m t L D ls' n' ops hwf
      (hLn ▸ has_of_mem hwf hLm) htop hac hb
    refine ⟨s', g1, g2, ?_, g5, by rw [g6, htop], g7, g8⟩
    rw [g10, g9]
    exact congrArg _ (List.drop_left' (List.length_map _)).symm
  | leaf lf =>
    obtain ⟨L, L', ops, hLm, hLn, hb, rfl⟩ := lateStep_leaf _ _ _ _ _ _ h
    obtain ⟨g1, _⟩ := elabModule_leaf s lf L L' n' ops (hLn ▸ has_of_mem hwf hLm) (hLn ▸ rowsFull_of_wf hwf hLm) hb
    refine ⟨_, g1, elabModule_wf s _ _ hwf g1, defs_put_padOps s lf.name L' n' ops, rfl, ?_, ?_, ?_⟩
    · show (padOps s lf.name ops).top = _; rw [(padOps_defs lf.name ops s).2.2.1]; exact htop
    · show (padOps s lf.name ops).acount = _; rw [(padOps_defs lf.name ops s).2.2.2.1]; exact hac
    · show (padOps s lf.name ops).pending = _; rw [(padOps_defs lf.name ops s).2.2.2.2]

/-- A run of `elabModule` over the modules `Ms`, the syntax of the items `Rs`, followed on the table and the counter by a
    pure fold of `step`.  `J done s` is an invariant of the items done so far and the state; every step keeps it for an
    item that is `ok` after the items before it. -/
theorem run_fold {α β : Type} (ast : β → Option α) (toMod : α → Module)
    (step : List Def → Nat → α → Option (List Def × Nat)) (fold : List Def → Nat → List α → Option (List Def × Nat))
    (fold_nil : ∀ tbl n, fold tbl n [] = some (tbl, n))
    (fold_cons : ∀ tbl n M Ms, fold tbl n (M :: Ms) = (step tbl n M).bind (fun r => fold r.1 r.2 Ms))
    (ok : List β → β → Prop) (J : List β → St → Prop)
    (hstep : ∀ done r M s tbl1 n1, ast r = some M → ok done r → J done s → step s.defs s.next M = some (tbl1, n1) →
      ∃ s1, elabModule s (toMod M) = .ok s1 ∧ s1.defs = tbl1 ∧ s1.next = n1 ∧ s1.pending = s.pending ∧ J (done ++ [r]) s1) :
    ∀ (Rs : List β) (Ms : List α) (done : List β) (s : St) (tbl' : List Def) (n' : Nat), Rs.mapM ast = some Ms →
      (∀ pre r post, Rs = pre ++ r :: post → ok (done ++ pre) r) → J done s → fold s.defs s.next Ms = some (tbl', n') →
      ∃ s', (Ms.map toMod).foldlM elabModule s = .ok s' ∧ s'.defs = tbl' ∧ s'.next = n' ∧ s'.pending = s.pending ∧
        J (done ++ Rs) s' := by
  intro Rs
  induction Rs with
  | nil =>
    intro Ms done s tbl' n' hM _ hJ h
    obtain rfl : Ms = [] := by simpa using hM.symm
    rw [fold_nil, Option.some.injEq, Prod.mk.injEq] at h
    exact ⟨s, rfl, h.1, h.2, rfl, by rwa [List.append_nil]⟩
  | cons r Rs ih =>
    intro Ms done s tbl' n' hM hok hJ h
    obtain ⟨M, Ms', ha, hr, rfl⟩ := mapM_cons_some hM
    rw [fold_cons, Option.bind_eq_some_iff] at h
    obtain ⟨⟨tbl1, n1⟩, hs, h⟩ := h
    obtain ⟨s1, g1, g2, g3, g4, hJ1⟩ := hstep done r M s tbl1 n1 ha (by simpa using hok [] r Rs rfl) hJ hs
    rw [← g2, ← g3] at h
    obtain ⟨s2, f1, f2, f3, f4, f5⟩ := ih Ms' (done ++ [r]) s1 tbl' n' hr
      (fun pre x post e => by simpa using hok (r :: pre) x post (by rw [e]; rfl)) hJ1 h
    refine ⟨s2, ?_, f2, f3, f4.trans g4, by simpa using f5⟩
    simp only [List.map_cons, List.foldlM_cons, bind, Except.bind, g1]
    exact f1

theorem foldLate_cons (tbl : List Def) (n : Nat) (t : String) (M : WAny) (Ms : List WAny) :
    foldLate tbl n t (M :: Ms) = (lateStep tbl n t M).bind (fun r => foldLate r.1 r.2 t Ms) := by
  rw [foldLate]; cases lateStep tbl n t M <;> rfl

theorem late_fold (t : String) : ∀ (Ms : List WAny) (s : St) (tbl' : List Def) (n' : Nat), TableWF s → s.top = some t →
    s.acount = 0 → foldLate s.defs s.next t Ms = some (tbl', n') →
    ∃ s', (Ms.map WAny.toModule).foldlM elabModule s = .ok s' ∧ TableWF s' ∧ s'.defs = tbl' ∧ s'.next = n' ∧
      s'.top = some t ∧ s'.acount = 0 ∧ s'.pending = s.pending := by
  intro Ms s tbl' n' hwf htop hac h
  obtain ⟨s', f1, f2, f3, f4, f5, f6, f7⟩ := run_fold some WAny.toModule (lateStep · · t) (foldLate · · t) (fun _ _ => rfl)
    (fun tbl n => foldLate_cons tbl n t) (fun _ _ => True) (fun _ s => TableWF s ∧ s.top = some t ∧ s.acount = 0)
    (fun _ r M s tbl1 n1 e _ ⟨hwf, htop, hac⟩ hs => by
      obtain rfl : r = M := by simpa using e
      obtain ⟨s1, g1, g2, g3, g4, g5, g6, g7⟩ := late_step s t r tbl1 n1 hwf htop hac hs
      exact ⟨s1, g1, g3, g4, g7, g2, g5, g6⟩)
    Ms Ms [] s tbl' n' (mapM_eq_some.mpr rfl) (fun _ _ _ _ => trivial) ⟨hwf, htop, hac⟩ h
  exact ⟨s', f1, f5, f2, f3, f6, f7, f4⟩

/-- the table the reader builds for a hierarchical file in the writer's order (pure) -/
def buildHier (m : WModI) (Ms : List WAny) : Option (List Def × Nat) :=
  match buildW3 ⟨m.name, some "work", false, [], none, [], [], []⟩ 0 m.ports m.wires with
  | none => none
  | some r3 =>
    if (r3.1.cables.map (·.name)).Nodup then
      match foldInst r3.1 [] m.insts with
      | none => none
      | some r4 =>
        match foldLate (withAttrs m.attrs r4.1 :: r4.2) r3.2 m.name Ms with
        | none => none
        | some r5 => some (r5.1.map markBB, r5.2)
    else none

theorem buildHier_some (m : WModI) (Ms : List WAny) (defs : List Def) (n : Nat) (hb : buildHier m Ms = some (defs, n)) :
    ∃ d3 n3 d4 ls4 tbl, buildW3 ⟨m.name, some "work", false, [], none, [], [], []⟩ 0 m.ports m.wires = some (d3, n3) ∧
      (d3.cables.map (·.name)).Nodup ∧ foldInst d3 [] m.insts = some (d4, ls4) ∧
      foldLate (withAttrs m.attrs d4 :: ls4) n3 m.name Ms = some (tbl, n) ∧ defs = tbl.map markBB := by
  unfold buildHier at hb
  split at hb
  · cases hb
  rename_i r3 h3
  split at hb
  rotate_left
  · cases hb
  rename_i hcn
  split at hb
  · cases hb
  rename_i r4 h4
  split at hb
  · cases hb
  rename_i r5 h5
  simp only [Option.some.injEq, Prod.mk.injEq] at hb
  obtain ⟨rfl, rfl⟩ := hb
  exact ⟨_, _, _, _, _, h3, hcn, h4, h5, rfl⟩

/-- **elabDesign_hier.**  A file that consists of the top module in the writer's shape followed by the modules it
    reaches — work modules with their own nets and instances, `celldefine` modules — each declared AFTER a module that
    instantiates it (the from-top order of `_compose`), through the REAL `elabDesign`: the table is `buildHier`. -/
theorem elabDesign_hier (m : WModI) (Ms : List WAny) (defs : List Def) (n : Nat) (hb : buildHier m Ms = some (defs, n)) :
    elabDesign (m.toModule :: Ms.map WAny.toModule) = .ok ⟨defs, n, some m.name, 0, []⟩ := by
  obtain ⟨d3, n3, d4, ls4, tbl, h3, hcn, h4, h5, rfl⟩ := buildHier_some m Ms defs n hb
  obtain ⟨hE, _, _⟩ := elabModule_wtop m d3 n3 d4 ls4 h3 hcn h4
  have hE' : elabModule ⟨[], 0, none, 0, []⟩ m.toModule = .ok (S2 (withAttrs m.attrs d4) ls4 n3 (some m.name)) := by
    rw [hE]; rfl
  have hwf1 : TableWF (S2 (withAttrs m.attrs d4) ls4 n3 (some m.name)) := elabModule_wf _ _ _ tableWF_init hE'
  obtain ⟨s', g1, _, g3, g4, g5, g6, g7⟩ := late_fold m.name Ms (S2 (withAttrs m.attrs d4) ls4 n3 (some m.name)) tbl n
    hwf1 rfl rfl h5
  rw [elabDesign_eq (by rw [List.foldlM_cons, hE']; exact g1) g7]
  congr 1
  apply St.ext'
  · show s'.defs.map _ = tbl.map markBB
    rw [g3]; rfl
  · exact g4
  · exact g5
  · exact g6
  · exact g7

/-- non-vacuity: `top` instantiates the work module `sub` (declared afterwards, with a two-bit port the instance connects
    whole) and the primitive `LUT1`; `sub` instantiates `LUT1` again; `LUT1` is declared last -/
def exHierTop : WModI :=
  ⟨"top", [],
   [⟨"a", .inp, some (1, 0), []⟩, ⟨"y", .out, none, []⟩],
   [⟨"w", "wire", none, []⟩, ⟨"y", "wire", none, []⟩, ⟨"a", "wire", some (1, 0), []⟩],
   [⟨"u0", "sub", [], [], [("p", .atom (.id "a")), ("q", .atom (.id "w"))]⟩,
    ⟨"u1", "LUT1", [], [], [("I0", .atom (.id "w")), ("O", .atom (.id "y"))]⟩]⟩

def exHierMs : List WAny :=
  [.work ⟨"sub", [("keep", none)],
     [⟨"p", .inp, some (1, 0), []⟩, ⟨"q", .out, none, [("mark", none)]⟩],
     [⟨"q", "wire", none, []⟩, ⟨"p", "wire", some (1, 0), []⟩],
     [⟨"g0", "LUT1", [], [], [("I0", .atom (.bit "p" 0)), ("O", .atom (.id "q"))]⟩]⟩,
   .leaf ⟨"LUT1", [⟨"I0", .inp, none, []⟩, ⟨"O", .out, none, []⟩]⟩]

theorem exHier_builds : (buildHier exHierTop exHierMs).isSome = true := by decide +kernel

def lateStepA (tbl : List Def) (n : Nat) (t : String) (M : WAnyA) : Option (List Def × Nat) :=
  match tbl.find? (fun d => d.name == M.name) with
  | none => none
  | some L =>
    match M with
    | .work m =>
      match buildLateWA L (tbl.filter (fun x => x.name != m.base.name)) n m t with
      | some r => some (tbl.map (fun x => if x.name == m.base.name then r.1 else padOpsD x m.base.name r.2.2.2) ++
          r.2.1.drop (tbl.filter (fun x => x.name != m.base.name)).length, r.2.2.1)
      | none => none
    | .leaf lf =>
      match buildLeafX L n lf with
      | some r => some (tbl.map (fun x => if x.name == lf.base.name then r.1 else padOpsD x lf.base.name r.2.2), r.2.1)
      | none => none

def foldLateA : List Def → Nat → String → List WAnyA → Option (List Def × Nat)
  | tbl, n, _, [] => some (tbl, n)
  | tbl, n, t, M :: Ms =>
    match lateStepA tbl n t M with
    | some r => foldLateA r.1 r.2 t Ms
    | none => none

theorem lateStepA_work (tbl : List Def) (n : Nat) (t : String) (m : WModA) (tbl' : List Def) (n' : Nat)
    (h : lateStepA tbl n t (.work m) = some (tbl', n')) :
    ∃ L D ls' ops, L ∈ tbl ∧ L.name = m.base.name ∧
      buildLateWA L (tbl.filter (fun x => x.name != m.base.name)) n m t = some (D, ls', n', ops) ∧
      tbl' = tbl.map (fun x => if x.name == m.base.name then D else padOpsD x m.base.name ops) ++
        ls'.drop (tbl.filter (fun x => x.name != m.base.name)).length := by
  unfold lateStepA at h
  split at h
  · cases h
  rename_i L hf
  simp only at h
  split at h
  rotate_left
  · cases h
  rename_i r hb
  obtain ⟨D, ls', n1, ops⟩ := r
  simp only [Option.some.injEq, Prod.mk.injEq] at h
  obtain ⟨rfl, rfl⟩ := h
  exact ⟨L, D, ls', ops, List.mem_of_find?_eq_some hf, by simpa [WAnyA.name] using List.find?_some hf, hb, rfl⟩

theorem lateStepA_leaf (tbl : List Def) (n : Nat) (t : String) (lf : WLeafX) (tbl' : List Def) (n' : Nat)
    (h : lateStepA tbl n t (.leaf lf) = some (tbl', n')) :
    ∃ L L' ops, L ∈ tbl ∧ L.name = lf.base.name ∧ buildLeafX L n lf = some (L', n', ops) ∧
      tbl' = tbl.map (fun x => if x.name == lf.base.name then L' else padOpsD x lf.base.name ops) := by
  unfold lateStepA at h
  split at h
  · cases h
  rename_i L hf
  simp only at h
  split at h
  rotate_left
  · cases h
  rename_i r hb
  obtain ⟨L', n1, ops⟩ := r
  simp only [Option.some.injEq, Prod.mk.injEq] at h
  obtain ⟨rfl, rfl⟩ := h
  exact ⟨L, L', ops, List.mem_of_find?_eq_some hf, by simpa [WAnyA.name] using List.find?_some hf, hb, rfl⟩

theorem late_stepA (s : St) (t : String) (M : WAnyA) (tbl' : List Def) (n' : Nat) (hwf : TableWF s) (htop : s.top = some t)
    (h : lateStepA s.defs s.next t M = some (tbl', n')) :
    ∃ s', elabModule s M.toModule = .ok s' ∧ TableWF s' ∧ s'.defs = tbl' ∧ s'.next = n' ∧ s'.top = some t ∧
      s'.pending = s.pending := by
  cases M with
  | work m =>
    obtain ⟨L, D, ls', ops, hLm, hLn, hb, rfl⟩ := lateStepA_work _ _ _ _ _ _ h
    obtain ⟨s', g1, g2, _, _, g5, g6, g8, new, g9, g10⟩ := elabModule_lateWA s m t L D ls' n' ops hwf
      (hLn ▸ has_of_mem hwf hLm) htop hb
    refine ⟨s', g1, g2, ?_, g5, by rw [g6, htop], g8⟩
    rw [g10, g9]
    exact congrArg _ (List.drop_left' (List.length_map _)).symm
  | leaf lf =>
    obtain ⟨L, L', ops, hLm, hLn, hb, rfl⟩ := lateStepA_leaf _ _ _ _ _ _ h
    have g1 := elabModule_leafX s lf L L' n' ops (hLn ▸ has_of_mem hwf hLm) (hLn ▸ rowsFull_of_wf hwf hLm) hb
    refine ⟨_, g1, elabModule_wf s _ _ hwf g1, defs_put_padOps s lf.base.name L' n' ops, rfl, ?_, ?_⟩
    · show (padOps s lf.base.name ops).top = _; rw [(padOps_defs lf.base.name ops s).2.2.1]; exact htop
    · show (padOps s lf.base.name ops).pending = _; rw [(padOps_defs lf.base.name ops s).2.2.2.2]

theorem foldLateA_cons (tbl : List Def) (n : Nat) (t : String) (M : WAnyA) (Ms : List WAnyA) :
    foldLateA tbl n t (M :: Ms) = (lateStepA tbl n t M).bind (fun r => foldLateA r.1 r.2 t Ms) := by
  rw [foldLateA]; cases lateStepA tbl n t M <;> rfl

theorem late_foldA (t : String) : ∀ (Ms : List WAnyA) (s : St) (tbl' : List Def) (n' : Nat), TableWF s → s.top = some t →
    foldLateA s.defs s.next t Ms = some (tbl', n') →
    ∃ s', (Ms.map WAnyA.toModule).foldlM elabModule s = .ok s' ∧ TableWF s' ∧ s'.defs = tbl' ∧ s'.next = n' ∧
      s'.top = some t ∧ s'.pending = s.pending := by
  intro Ms s tbl' n' hwf htop h
  obtain ⟨s', f1, f2, f3, f4, f5, f6⟩ := run_fold some WAnyA.toModule (lateStepA · · t) (foldLateA · · t) (fun _ _ => rfl)
    (fun tbl n => foldLateA_cons tbl n t) (fun _ _ => True) (fun _ s => TableWF s ∧ s.top = some t)
    (fun _ r M s tbl1 n1 e _ ⟨hwf, htop⟩ hs => by
      obtain rfl : r = M := by simpa using e
      obtain ⟨s1, g1, g2, g3, g4, g5, g7⟩ := late_stepA s t r tbl1 n1 hwf htop hs
      exact ⟨s1, g1, g3, g4, g7, g2, g5⟩)
    Ms Ms [] s tbl' n' (mapM_eq_some.mpr rfl) (fun _ _ _ _ => trivial) ⟨hwf, htop⟩ h
  exact ⟨s', f1, f5, f2, f3, f6, f4⟩

/-- the table the reader builds for a hierarchical file with assigns in the writer's order (pure) -/
def buildHierA (m : WModA) (Ms : List WAnyA) : Option (List Def × Nat) :=
  match buildTopA m with
  | none => none
  | some r =>
    match foldLateA (r.1 :: r.2.1) r.2.2 m.base.name Ms with
    | none => none
    | some r5 => some (r5.1.map markBB, r5.2)

theorem buildHierA_some (m : WModA) (Ms : List WAnyA) (defs : List Def) (n : Nat) (hb : buildHierA m Ms = some (defs, n)) :
    ∃ D ls n3 tbl, buildTopA m = some (D, ls, n3) ∧ foldLateA (D :: ls) n3 m.base.name Ms = some (tbl, n) ∧
      defs = tbl.map markBB := by
  unfold buildHierA at hb
  split at hb
  · cases hb
  rename_i r h3
  split at hb
  · cases hb
  rename_i r5 h5
  simp only [Option.some.injEq, Prod.mk.injEq] at hb
  obtain ⟨rfl, rfl⟩ := hb
  exact ⟨_, _, _, _, h3, h5, rfl⟩

/-- **elabDesign_hierA.**  A file that consists of the top module followed by the modules it reaches — work modules with
    nets, ASSIGNS and instances, `celldefine` modules — each declared after a module that instantiates it, through the
    REAL `elabDesign`: the table is `buildHierA`. -/
theorem elabDesign_hierA (m : WModA) (Ms : List WAnyA) (defs : List Def) (n : Nat) (hb : buildHierA m Ms = some (defs, n)) :
    ∃ ac, elabDesign (m.toModule :: Ms.map WAnyA.toModule) = .ok ⟨defs, n, some m.base.name, ac, []⟩ := by
  obtain ⟨D, ls, n3, tbl, h3, h5, rfl⟩ := buildHierA_some m Ms defs n hb
  obtain ⟨S1, hE, hwf1, hd1, hn1, ht1, hp1, _⟩ := elabModule_wtopA m D ls n3 h3
  obtain ⟨s', g1, _, g3, g4, g5, g7⟩ := late_foldA m.base.name Ms S1 tbl n hwf1 ht1 (by rw [hd1, hn1]; exact h5)
  refine ⟨s'.acount, ?_⟩
  rw [elabDesign_eq (by rw [List.foldlM_cons, hE]; exact g1) (g7.trans hp1)]
  congr 1
  apply St.ext'
  · show s'.defs.map _ = tbl.map markBB
    rw [g3]; rfl
  · exact g4
  · exact g5
  · rfl
  · exact g7.trans hp1

/-- non-vacuity: `top` (an assign between two of its nets, a two-bit assign) instantiates the work module `sub` (declared
    afterwards; it has an assign of its own of the same width, so the assignment definition is found in the table) and the
    primitive `LUT1`; both work modules have parameters in their headers -/
def exHierTopA : WModA :=
  ⟨⟨"top", [],
   [⟨"a", .inp, some (1, 0), []⟩, ⟨"y", .out, none, []⟩],
   [⟨"w", "wire", none, []⟩, ⟨"v", "wire", some (1, 0), []⟩, ⟨"y", "wire", none, []⟩, ⟨"a", "wire", some (1, 0), []⟩],
   [⟨"u0", "sub", [], [], [("p", .atom (.id "a")), ("q", .atom (.id "w"))]⟩,
    ⟨"u1", "LUT1", [], [], [("I0", .atom (.id "w")), ("O", .atom (.id "y"))]⟩]⟩,
   [(.id "v", .id "a"), (.bit "v" 0, .id "w")], [("W", "2")]⟩

def exHierMsA : List WAnyA :=
  [.work ⟨⟨"sub", [("keep", none)],
     [⟨"p", .inp, some (1, 0), []⟩, ⟨"q", .out, none, [("mark", none)]⟩],
     [⟨"r", "wire", none, []⟩, ⟨"q", "wire", none, []⟩, ⟨"p", "wire", some (1, 0), []⟩],
     [⟨"g0", "LUT1", [], [], [("I0", .atom (.bit "p" 0)), ("O", .atom (.id "r"))]⟩]⟩,
     [(.id "q", .id "r")], [("DEPTH", "4'h3"), ("MODE", "\"fast\"")]⟩,
   .leaf ⟨⟨"LUT1", [⟨"I0", .inp, none, []⟩, ⟨"O", .out, none, []⟩]⟩, [("cell", none)], [("INIT", "2'h1")]⟩]

theorem exHierA_builds : (buildHierA exHierTopA exHierMsA).isSome = true := by decide +kernel
end Spydr.Verilog.Elab
