/-
  Verilog engine — positional maps, assigns, items, modules, the design and the whole reader:
  `elabDesign ms = .ok s → TableWF s` and `readV text = .ok s → TableWF s` for ANY input (and `Pres` from the empty
  table, from which the statements about the wire ids are read off as well).
-/
import Spydr.Verilog.WFInst
import Spydr.Verilog.ModelParse
namespace Spydr.Verilog.Elab
open Spydr.Verilog

/-- one position of a positional map -/
def posStep (dn iname ref : String) (nports : Nat) (acc : St × Nat) (e : XExpr) : M (St × Nat) := do
  let (s, idx) := acc
  let (s, ws) ← evalExprE s dn e
  if idx ≥ nports then
    let p := populateNew (some ((ws.length : Int) - 1)) (some 0)
    let port : Port := ⟨none, .undef, p.1, p.2.2, List.replicate p.2.1 none, none⟩
    let rd ← getDef s ref
    if !rd.primitive then throw "assert: positional port map with more expressions than the declared module has ports" else
    let k := rd.ports.length
    let s := s.upd ref (fun d => { d with ports := d.ports ++ [port] })
    let s := mapInstRows s ref k (fun _ => List.replicate p.2.1 none)
    let s ← connectInstRow s dn iname k ws
    pure (s, idx + 1)
  else
  let s ← connectInstRow s dn iname idx ws
  pure (s, idx + 1)

theorem positional_eq (s : St) (dn iname : String) (es : List XExpr) :
    positional s dn iname es = (do
      let d ← getDef s dn
      match instIdx d iname with
      | none => throw "instance missing"
      | some ii =>
        let rd ← getDef s (d.insts.getD ii default).ref
        let r ← es.foldlM (posStep dn iname (d.insts.getD ii default).ref rd.ports.length) (s, 0)
        pure r.1) := rfl

theorem posStep_pres {dn iname ref : String} {nports : Nat} {acc r : St × Nat} {e : XExpr} (hacc : TableWF acc.1)
    (h : posStep dn iname ref nports acc e = .ok r) : Pres acc.1 r.1 := by
  obtain ⟨S, idx⟩ := acc
  unfold posStep at h
  obtain ⟨⟨S1, ws⟩, he, h⟩ := bind_ok h
  obtain ⟨p1, _, m1⟩ := evalExprE_pres S S1 dn e ws hacc he
  dsimp only at h
  split at h
  · -- a new port without a name at the end of `ref`, one new row on each of its instances
    obtain ⟨rd', hg, h⟩ := bind_ok h
    split at h
    · cases h
    · obtain ⟨S3, hc, h⟩ := bind_ok h
      cases h
      obtain ⟨w2, g2, k2⟩ := add_port_wf S1 ref rd' ⟨none, .undef, _, _, _, none⟩ _ p1.1 (getDef_ok p1.1 hg) rfl
        (fun n e => by cases e)
      exact (p1.trans (.keep w2 k2)).trans (connectInstRow_pres w2 (fun w hw => g2 dn w (m1 w hw)) hc)
  · obtain ⟨S3, hc, h⟩ := bind_ok h
    cases h
    exact p1.trans (connectInstRow_pres p1.1 m1 hc)

theorem positional_pres {s s' : St} {dn iname : String} {es : List XExpr} (hs : TableWF s)
    (h : positional s dn iname es = .ok s') : Pres s s' := by
  rw [positional_eq] at h
  obtain ⟨d, _, h⟩ := bind_ok h
  split at h
  · cases h
  · obtain ⟨rd, _, h⟩ := bind_ok h
    obtain ⟨r, hY, h⟩ := bind_ok h
    cases h
    exact foldlM_inv (fun acc : St × Nat => Pres s acc.1)
      (fun e _ acc r p hr => p.trans (posStep_pres p.1 hr)) (.refl hs) hY

theorem positional_wf (s s' : St) (dn iname : String) (es : List XExpr) (hs : TableWF s)
    (h : positional s dn iname es = .ok s') : TableWF s' :=
  (positional_pres hs h).1

theorem DefWF.of_meta {d d' : Def} (h : DefWF d) (hp : d'.ports = d.ports) (hc : d'.cables = d.cables)
    (hi : d'.insts = d.insts) : DefWF d' :=
  h.of_cables hp hi (by rw [hc]; exact h.cables) (by unfold wiresOf; rw [hc]; exact fun _ hw => hw)

theorem upd_meta_wf (s : St) (dn : String) (f : Def → Def) (hn : ∀ d, (f d).name = d.name) (hp : ∀ d, (f d).ports = d.ports)
    (hc : ∀ d, (f d).cables = d.cables) (hi : ∀ d, (f d).insts = d.insts) (hs : TableWF s) : TableWF (s.upd dn f) :=
  hs.upd dn f fun d hd _ => ⟨by simp only [shape, hn, hp, hi], (hs.defs d hd).of_meta (hp d) (hc d) (hi d)⟩

/-- library, parameters and attributes of a definition are no part of the structure -/
theorem upd_labels_wf (s : St) (dn : String) (l : Def → Option String) (p : Def → Params) (a : Def → Option Attrs)
    (hs : TableWF s) : TableWF (s.upd dn fun d => { d with lib := l d, params := p d, attrs := a d }) :=
  upd_meta_wf s dn _ (fun _ => rfl) (fun _ => rfl) (fun _ => rfl) (fun _ => rfl) hs

theorem ensureAssignDef_spec (s s' : St) (w : Nat) (hs : TableWF s) (h : ensureAssignDef s w = .ok s') :
    TableWF s' ∧ Grow s s' ∧ Keep s s' := by
  unfold ensureAssignDef at h
  split at h
  · split at h
    · cases h; exact ⟨hs, Grow.refl s, Keep.refl s⟩
    · cases h
  · rename_i hf
    cases h
    refine ⟨?_, ?_, keep_append s _ rfl⟩
    · -- the two ports of the (unreferenced) new definition have free pins only
      refine hs.push _ hf ⟨by simp, by simp, by simp, ?_, (fun i hi => by cases hi)⟩ rfl
      intro p hp x hx
      simp only [List.mem_cons, List.not_mem_nil, or_false] at hp
      rcases hp with rfl | rfl <;> exact absurd hx not_mem_replicate_none
    · intro n x hx
      unfold wiresIn St.find at hx ⊢
      simp only [List.find?_append]
      cases hn : s.defs.find? (fun d => d.name == n) with
      | none => rw [hn] at hx; cases hx
      | some d => rw [hn] at hx; simpa using hx

theorem connectAssign_spec (lw rw : List Nat) :
    ((connectAssign lw rw).1.length = min lw.length rw.length ∧ (connectAssign lw rw).2.length = min lw.length rw.length) ∧
    (∀ x, some x ∈ (connectAssign lw rw).1 → x ∈ lw) ∧ (∀ x, some x ∈ (connectAssign lw rw).2 → x ∈ rw) := by
  unfold connectAssign
  have hm : ∀ (ws : List Nat) (n x : Nat), some x ∈ (ws.reverse.take n).map some → x ∈ ws := fun ws n x hx => by
    obtain ⟨y, hy, e⟩ := List.mem_map.mp hx
    cases e; exact List.mem_reverse.mp (List.mem_of_mem_take hy)
  exact ⟨⟨by simp, by simp⟩, hm lw _, hm rw _⟩

theorem assignStmt_pres {s s' : St} {dn : String} {l r : XAtom} (hs : TableWF s) (h : assignStmt s dn l r = .ok s') :
    Pres s s' := by
  unfold assignStmt at h
  obtain ⟨⟨s1, lw⟩, h1, h⟩ := bind_ok h
  obtain ⟨⟨s2, rw'⟩, h2, h⟩ := bind_ok h
  obtain ⟨s3, h3, h⟩ := bind_ok h
  obtain ⟨rd, h4, h⟩ := bind_ok h
  obtain ⟨p1, _, m1⟩ := evalAtomE_pres s s1 dn l lw hs h1
  obtain ⟨p2, g2, m2⟩ := evalAtomE_pres s1 s2 dn r rw' p1.1 h2
  obtain ⟨w3, g3, k3⟩ := ensureAssignDef_spec s2 s3 _ p2.1 h3
  refine ((p1.trans p2).trans (.keep w3 k3)).trans ?_
  dsimp only at h
  split at h
  · cases h
  · rename_i hchk
    obtain ⟨d, h5, h⟩ := bind_ok h
    split at h
    · cases h
    · rename_i hfresh
      cases h
      obtain ⟨_, c3, c4⟩ := connectAssign_spec lw rw'
      have hd := getDef_ok w3 h5
      refine .keep (add_inst_wf ({ s3 with acount := s3.acount + 1 } : St) dn d rd _ ⟨w3.defs, w3.glob, w3.top⟩ hd
        (getDef_ok w3 h4) ?_ (by simpa using hfresh) ?_) ((keep_fields _ _ _ _).trans (keep_upd fun _ => rfl))
      · -- the widths of the rows are those of the two ports: that is what the model checks
        simpa using (bne_eq_false_iff_eq.mp (by simpa using hchk)).symm
      · intro row hr x hx
        rw [← wiresIn_has hd]
        simp only [List.mem_cons, List.not_mem_nil, or_false] at hr
        rcases hr with rfl | rfl
        · exact g3 dn x (m2 x (c4 x hx))
        · exact g3 dn x (g2 dn x (m1 x (c3 x hx)))

theorem assignStmt_wf (s s' : St) (dn : String) (l r : XAtom) (hs : TableWF s) (h : assignStmt s dn l r = .ok s') :
    TableWF s' :=
  (assignStmt_pres hs h).1

theorem elabItem_pres {s s' : St} {dn : String} {prim : Bool} {it : Item} (hs : TableWF s)
    (h : elabItem s dn prim it = .ok s') : Pres s s' := by
  cases prim with
  | true =>
    -- of a primitive only the port declarations are read
    cases it with
    | portDecl dir vt rng name attrs => exact portDecl_pres hs h
    | wireDecl | inst | assign | defparam => cases h; exact .refl hs
  | false =>
    cases it with
    | portDecl dir vt rng name attrs => exact portDecl_pres hs h
    | wireDecl ty rng name attrs =>
      obtain ⟨s1, h1, h⟩ := bind_ok h
      cases h
      have p1 := createOrUpdateCable_pres hs h1
      exact p1.trans (.keep (setCableAttrs_wf s1 dn name attrs p1.1) (setCableAttrs_keep _ _ _ _))
    | inst mod name params attrs named conns => exact instantiate_pres hs h
    | assign l r => exact assignStmt_pres hs h
    | defparam i k v =>
      obtain ⟨d, _, h⟩ := bind_ok h
      split at h
      · cases h
      · cases h
        exact .keep (upd_inst_params s dn i (fun ps => if ps.any (fun kv => kv.1 == k) then ps else ps ++ [(k, v)]) hs)
          (keep_upd fun _ => rfl)

theorem elabItem_wf (s s' : St) (dn : String) (prim : Bool) (it : Item) (hs : TableWF s)
    (h : elabItem s dn prim it = .ok s') : TableWF s' :=
  (elabItem_pres hs h).1

/-- `elabModule` up to the header — library, top, parameters: neither the structure nor the wires are touched -/
theorem elabModule_pre_pres {s : St} (m : Module) {d : Def} (hs : TableWF s)
    (h1 : getDef (s.ensure m.name) m.name = .ok d) :
    let s1 := (s.ensure m.name).upd m.name fun d => { d with lib := some (if m.prim then "hdi_primitives" else "work") }
    let s2 := if m.prim then s1 else
      ({ (if s1.top.isNone then ({ s1 with top := some m.name } : St) else s1) with acount := 0 } : St)
    Pres s (if m.params.isEmpty then s2 else s2.upd m.name fun d => { d with params := mergeParams d.params m.params }) := by
  intro s1 s2
  have t0 := ensure_wf s m.name hs
  have hd := getDef_ok t0 h1
  have t1 : TableWF s1 := upd_labels_wf _ m.name _ _ _ t0
  have tt : TableWF (if s1.top.isNone then ({ s1 with top := some m.name } : St) else s1) :=
    ite_of (t1.set_top _ ⟨_, (hd.upd _ fun _ => by rfl).1, hd.2.1⟩) t1
  have t2 : TableWF s2 := ite_of t1 ⟨tt.defs, tt.glob, tt.top⟩
  have k1 : Keep s s1 := (keep_ensure s m.name).trans (keep_upd fun _ => rfl)
  have k2 : Keep s1 s2 :=
    ite_of (Keep.refl s1) ((ite_of (keep_fields _ _ _ _) (Keep.refl s1)).trans (keep_fields _ _ _ _))
  exact .keep (ite_of t2 (upd_labels_wf _ m.name _ _ _ t2))
    (k1.trans (k2.trans (ite_of (Keep.refl s2) (keep_upd fun _ => rfl))))

theorem elabModule_pres {s s' : St} {m : Module} (hs : TableWF s) (h : elabModule s m = .ok s') : Pres s s' := by
  unfold elabModule at h
  dsimp only at h
  obtain ⟨d, h1, h⟩ := bind_ok h
  have p3 := elabModule_pre_pres m hs h1
  split at h
  · cases h
  · dsimp only at p3
    obtain ⟨s4, hX, h⟩ := bind_ok h
    obtain ⟨s5, h5, h⟩ := bind_ok h
    obtain ⟨s6, hY, h⟩ := bind_ok h
    cases h
    have p4 := p3.trans (Pres.foldlM (fun S hp S' hS hh => by
      split at hh
      · exact headerAlias_pres hS hh
      · exact headerPort_pres hS hh) p3.1 hX)
    have p5 := p4.trans (reorderPorts_pres p4.1 h5)
    have p6 := p5.trans (Pres.foldlM (fun S it S' hS hh => elabItem_pres hS hh) p5.1 hY)
    exact p6.trans (ite_of (.refl p6.1) (.keep (upd_labels_wf _ m.name _ _ _ p6.1) (keep_upd fun _ => rfl)))

theorem elabModule_wf (s s' : St) (m : Module) (hs : TableWF s) (h : elabModule s m = .ok s') : TableWF s' :=
  (elabModule_pres hs h).1

theorem tableWF_init : TableWF ⟨[], 0, none, 0, []⟩ :=
  ⟨(fun d hd => by cases hd), ⟨List.nodup_nil, (fun sh hsh => by cases hsh), (fun sh hsh => by cases hsh)⟩,
   (fun t ht => by cases ht)⟩

/-- `add_blackbox_definitions`: what was instantiated and never declared becomes a primitive; the structure is untouched -/
theorem blackbox_wf {s : St} (hs : TableWF s) : TableWF { s with defs := s.defs.map fun (d : Def) =>
    if d.lib.isNone then { d with lib := some "hdi_primitives", primitive := true } else d } :=
  hs.map_shape _ fun d hd =>
    ⟨by split <;> rfl, (hs.defs d hd).of_meta (by split <;> rfl) (by split <;> rfl) (by split <;> rfl)⟩

theorem elabDesign_pres (ms : List Module) (s : St) (h : elabDesign ms = .ok s) : Pres ⟨[], 0, none, 0, []⟩ s := by
  unfold elabDesign at h
  obtain ⟨s1, h1, h⟩ := bind_ok h
  have p1 := Pres.foldlM (fun S m S' hS hh => elabModule_pres hS hh) tableWF_init h1
  have p2 := p1.trans (.keep (blackbox_wf p1.1) (keep_defsmap fun d => by split <;> rfl))
  exact p2.trans (Pres.foldlM (fun S p S' hS hh => positional_pres hS hh) p2.1 h)

/-- **elabDesign_wf.**  Whatever the elaboration accepts is well-formed — for ANY list of modules. -/
theorem elabDesign_wf (ms : List Module) (s : St) (h : elabDesign ms = .ok s) : TableWF s :=
  (elabDesign_pres ms s h).1

/-- the same for the whole reader, from characters -/
theorem readV_wf (text : String) (s : St) (h : Parse.readV text = .ok s) : TableWF s := by
  unfold Parse.readV at h
  obtain ⟨ms, _, h⟩ := bind_ok h
  exact elabDesign_wf ms s h
end Spydr.Verilog.Elab
