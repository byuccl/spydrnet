/-
  The real `elabModule` on a module the table already knows as a stub made by instances: entry, `modTail`, attributes, whether
  the module is a primitive or not; for such a module `modTail` is the header fold on the existing ports, an identity reorder
  and the body declarations.  The whole `celldefine` module, also with attributes and module parameters.
-/
import Spydr.Verilog.LateFolds
import Spydr.Verilog.WriterSyntax
namespace Spydr.Verilog.Elab
open Spydr.Verilog

/-- the part of `elabModule` between the entry and the attributes -/
def modTail (S : St) (name : String) (prim : Bool) (header : List HPort) (items : List Item) : M St := do
  let s ← header.foldlM (fun s h => match h.alias with
    | some e => headerAlias s name h e
    | none => headerPort s name h) S
  let s ← reorderPorts s name (header.map (·.name))
  items.foldlM (fun s it => elabItem s name prim it) s

theorem withNext_self (s : St) : withNext s s.next = s := by cases s; rfl

/-- For a module that is no primitive the table must have a top already: otherwise the entry elects the module. -/
theorem elabModule_known (s : St) (M : Module) (L : Def) (hL : Has s M.name L) (hlib : L.lib = none)
    (htop : M.prim = true ∨ s.top.isSome = true) :
    elabModule s M = (do
      let s' ← modTail ((if M.prim then s else { s with acount := 0 }).put M.name (entryG L M.prim M.params) s.next)
        M.name M.prim M.header M.items
      pure (if M.attrs.isEmpty then s' else s'.upd M.name (fun d => { d with attrs := some M.attrs }))) := by
  have hens : s.ensure M.name = s := by unfold St.ensure; rw [hL.find]
  have hS : entrySt s M.name M.prim M.params L =
      (if M.prim then s else { s with acount := 0 }).put M.name (entryG L M.prim M.params) s.next := by
    cases hp : M.prim
    · obtain ⟨t, ht⟩ := Option.isSome_iff_exists.mp (htop.resolve_left (by simp [hp]))
      rw [entrySt_of_top ht]; rfl
    · rfl
  rw [elabModule_entry s M L (hens.symm ▸ hL) hlib, hens, hS]
  simp only [elabTailG, modTail, bind_assoc]
  rfl

/-- `h2` is what `decl_foldL` / `decl_foldA` conclude, so that the lemma serves primitives and work modules alike. -/
theorem modTail_late (S : St) (name : String) (prim : Bool) (ports : List PDecl) (rest : List Item) (L1 d1 d2 : Def)
    (n1 n2 : Nat) (ops : List (Nat × Nat)) (hH : Has S name L1) (hi : L1.insts = [])
    (hR : RowsFull S name L1.ports.length) (hnames : L1.ports.map (·.name) = (ports.map (·.name)).map some)
    (hnd : (ports.map (·.name)).Nodup)
    (h1 : foldLocal hdrStepL L1 S.next (ports.map (·.name)) = some (d1, n1))
    (h2 : ports.foldlM (fun s p => elabItem s name prim p.item) (S.put name d1 n1) =
      .ok ((padOps (S.put name d1 n1) name ops).put name d2 n2)) :
    modTail S name prim (ports.map (fun p => ⟨p.name, none, none, none⟩)) (ports.map PDecl.item ++ rest) =
      rest.foldlM (fun s it => elabItem s name prim it) ((padOps S name ops).put name d2 n2) := by
  obtain ⟨g1, g2, g3, _⟩ := hdr_foldL name (ports.map (·.name)) S L1 d1 n1 hH hi hR h1
  have hH2 : Has (S.put name d1 n1) name d1 := hH.put d1 _ g2
  have hd1names : d1.ports.map (·.name) = (ports.map (·.name)).map some := by
    rw [foldLocal_pres (fun d => d.ports.map (·.name)) hdrStepL hdrStepL_names _ _ _ _ _ h1]; exact hnames
  have hRe : reorderPorts (S.put name d1 n1) name (ports.map (·.name)) = .ok (S.put name d1 n1) :=
    reorderPorts_id _ name d1 _ hH2 (filterMap_portIdx d1.ports _ hd1names hnd)
  rw [padOps_put name d1 g3, St.put_put _ name d1 d2 _ _ (g2.trans hH.2.1)] at h2
  have g1' : List.foldlM (fun s (p : PDecl) => headerPort s name ⟨p.name, none, none, none⟩) S ports = .ok (S.put name d1 n1) := by
    have := g1; rwa [List.foldlM_map] at this
  unfold modTail
  simp only [List.foldlM_map, List.map_map, Function.comp_def, List.foldlM_append, bind, Except.bind, g1', hRe, h2]

/-- the definition the reader ends with (pure), the wire counter, the paddings of the instance rows -/
def buildLeaf (L : Def) (n : Nat) (ports : List PDecl) : Option (Def × Nat × List (Nat × Nat)) :=
  if L.lib = none ∧ L.insts = [] ∧ L.ports.map (·.name) = (ports.map (·.name)).map some ∧ (ports.map (·.name)).Nodup then
    match foldLocal hdrStepL { L with lib := some "hdi_primitives" } n (ports.map (·.name)) with
    | none => none
    | some r1 => foldDecl r1.1 r1.2 ports
  else none

theorem buildLeaf_inv {L : Def} {n : Nat} {ports : List PDecl} {r : Def × Nat × List (Nat × Nat)}
    (hb : buildLeaf L n ports = some r) :
    L.lib = none ∧ L.insts = [] ∧ L.ports.map (·.name) = (ports.map (·.name)).map some ∧ (ports.map (·.name)).Nodup ∧
      ∃ d1 n1, foldLocal hdrStepL { L with lib := some "hdi_primitives" } n (ports.map (·.name)) = some (d1, n1) ∧
        foldDecl d1 n1 ports = some r := by
  unfold buildLeaf at hb
  split at hb
  · rename_i hc
    split at hb
    · cases hb
    · rename_i r1 h1
      exact ⟨hc.1, hc.2.1, hc.2.2.1, hc.2.2.2, r1.1, r1.2, h1, hb⟩
  · cases hb

theorem buildLeaf_invA {L : Def} {n : Nat} {ports : List PDecl} {r : Def × Nat × List (Nat × Nat)}
    (hb : buildLeaf L n ports = some r) :
    ∃ d1 n1, foldLocal hdrStepL { L with lib := some "hdi_primitives" } n (ports.map (·.name)) = some (d1, n1) ∧
      d1.ports.map (·.name) = L.ports.map (·.name) ∧ (d1.ports.map (·.name)).Nodup ∧
      foldDeclA d1 n1 (ports.map PDecl.bare) = some r := by
  obtain ⟨_, _, hnames, hnd, d1, n1, h1, hb⟩ := buildLeaf_inv hb
  have hn1 := foldLocal_pres (fun d => d.ports.map (·.name)) hdrStepL hdrStepL_names _ _ _ _ _ h1
  have hnp : (d1.ports.map (·.name)).Nodup := by
    rw [hn1]
    show (L.ports.map (·.name)).Nodup
    rw [hnames]
    exact List.Pairwise.map some (fun a b h e => h (Option.some.inj e)) hnd
  exact ⟨d1, n1, h1, hn1, hnp, foldDecl_bare ports d1 n1 hnp ▸ hb⟩

theorem buildLeaf_bound (L : Def) (n : Nat) (ps : List PDecl) (L' : Def) (n' : Nat) (ops : List (Nat × Nat))
    (hb : buildLeaf L n ps = some (L', n', ops)) :
    (∀ op ∈ ops, op.1 < L.ports.length) ∧ L.lib = none ∧ L'.ports.map (·.name) = L.ports.map (·.name) ∧ L'.name = L.name := by
  obtain ⟨d1, n1, h1, hn1, _, hA⟩ := buildLeaf_invA hb
  obtain ⟨f1, _, _, _, _, f6, f7⟩ := foldDeclA_frame _ d1 n1 L' n' ops hA
  refine ⟨fun op hop => ?_, (buildLeaf_inv hb).1, f6.trans hn1, f1.trans (hdrFold_frame _ _ _ _ _ h1).1⟩
  have := f7 op hop
  rwa [← List.length_map (f := (·.name)), hn1, List.length_map] at this

theorem buildLeaf_meta (L : Def) (n : Nat) (ps : List PDecl) (L' : Def) (n' : Nat) (ops : List (Nat × Nat))
    (hb : buildLeaf L n ps = some (L', n', ops)) : L'.attrs = L.attrs ∧ L'.params = L.params := by
  obtain ⟨d1, n1, h1, _, _, hA⟩ := buildLeaf_invA hb
  obtain ⟨_, _, _, a1, a2, _⟩ := foldDeclA_frame _ d1 n1 L' n' ops hA
  obtain ⟨_, b1, b2, _⟩ := hdrFold_frame _ _ _ _ _ h1
  exact ⟨a1.trans b1, a2.trans b2⟩

def entryPrim (L : Def) (params : Params) : Def := { L with lib := some "hdi_primitives", params := mergeParams L.params params }

theorem elabModule_prim (s : St) (M : Module) (hp : M.prim = true) (L : Def) (hL : Has s M.name L) (hlib : L.lib = none) :
    elabModule s M = (do
      let s' ← modTail (s.put M.name (entryPrim L M.params) s.next) M.name true M.header M.items
      pure (if M.attrs.isEmpty then s' else s'.upd M.name (fun d => { d with attrs := some M.attrs }))) := by
  rw [elabModule_known s M L hL hlib (.inl hp), hp]
  rfl

/-- header and body of a `celldefine` module that instances have created before: the stub `L` enters with the
    parameters of the module; the ports get their nets, then their declared ranges, the instance rows grow with them -/
theorem leaf_tail (s : St) (name : String) (ports : List PDecl) (params : Params) (L L' : Def) (n' : Nat)
    (ops : List (Nat × Nat)) (hL : Has s name L) (hr : RowsFull s name L.ports.length)
    (hb : buildLeaf { L with params := mergeParams L.params params } s.next ports = some (L', n', ops)) :
    modTail (s.put name (entryPrim L params) s.next) name true
        (ports.map (fun p => ⟨p.name, none, none, none⟩)) (ports.map PDecl.item) = .ok ((padOps s name ops).put name L' n') ∧
      L'.name = name ∧ L'.insts = [] ∧ L'.ports.length = L.ports.length ∧ ∀ op ∈ ops, op.1 < L.ports.length := by
  obtain ⟨_, hi, hnames, hnd, d1, n1, h1, hb⟩ := buildLeaf_inv hb
  change foldLocal hdrStepL (entryPrim L params) _ _ = _ at h1
  generalize hE : entryPrim L params = E at h1 ⊢
  have hEn : E.name = L.name := by rw [← hE]; rfl
  have hEp : E.ports = L.ports := by rw [← hE]; rfl
  have hEi : E.insts = [] := by rw [← hE]; exact hi
  have hH1 : Has (s.put name E s.next) name E := hL.put E _ hEn
  have hR1 : RowsFull (s.put name E s.next) name E.ports.length := by rw [hEp]; exact hr.put _ _ _ hEi
  obtain ⟨_, g2, g3, g4⟩ := hdr_foldL name _ _ E d1 n1 hH1 hEi hR1 h1
  have hd1n : (d1.ports.map (·.name)).Nodup := by
    rw [foldLocal_pres (fun d => d.ports.map (·.name)) hdrStepL hdrStepL_names _ _ _ _ _ h1, hEp]
    exact hnames ▸ List.Pairwise.map some (fun a b h e => h (Option.some.inj e)) hnd
  obtain ⟨f1, f2, f3, f4, f5⟩ := decl_foldL name ports ((s.put name E s.next).put name d1 n1) d1 L' n' ops
    (hH1.put d1 _ g2) g3 hd1n hb
  have hT := modTail_late (s.put name E s.next) name true ports [] E d1 L' n1 n' ops hH1 hEi hR1
    (by rw [hEp]; exact hnames) hnd h1 f1
  rw [List.append_nil, padOps_put name E hEi ops s s.next, St.put_put _ name E L' _ _ (hEn.trans hL.2.1)] at hT
  refine ⟨hT, (f2.trans g2).trans (hEn.trans hL.2.1), f3, (f4.trans g4).trans (by rw [hEp]), fun op hop => ?_⟩
  have := f5 op hop
  rwa [g4, hEp] at this

theorem elabModule_leaf (s : St) (m : WLeaf) (L L' : Def) (n' : Nat) (ops : List (Nat × Nat))
    (hL : Has s m.name L) (hr : RowsFull s m.name L.ports.length) (hb : buildLeaf L s.next m.ports = some (L', n', ops)) :
    elabModule s m.toModule = .ok ((padOps s m.name ops).put m.name L' n') ∧ L'.name = m.name ∧ L'.insts = [] ∧
      L'.ports.length = L.ports.length ∧ ∀ op ∈ ops, op.1 < L.ports.length := by
  obtain ⟨hT, rest⟩ := leaf_tail s m.name m.ports [] L L' n' ops hL hr hb
  refine ⟨?_, rest⟩
  rw [elabModule_prim s m.toModule rfl L hL (buildLeaf_inv hb).1]
  simp only [WLeaf.toModule, bind, Except.bind, hT, pure, Except.pure, List.isEmpty_nil, if_true]

def buildLeafX (L : Def) (n : Nat) (lf : WLeafX) : Option (Def × Nat × List (Nat × Nat)) :=
  if L.params = [] then
    (buildLeaf { L with params := mergeParams L.params lf.params } n lf.base.ports).map
      (fun r => (withAttrs lf.attrs r.1, r.2.1, r.2.2))
  else none

theorem buildLeafX_some {L : Def} {n : Nat} {lf : WLeafX} {D : Def} {n' : Nat} {ops : List (Nat × Nat)}
    (hb : buildLeafX L n lf = some (D, n', ops)) :
    L.params = [] ∧ ∃ L', buildLeaf { L with params := mergeParams L.params lf.params } n lf.base.ports = some (L', n', ops) ∧
      D = withAttrs lf.attrs L' := by
  unfold buildLeafX at hb
  split at hb
  · rename_i hLp
    simp only [Option.map_eq_some_iff, Prod.mk.injEq] at hb
    obtain ⟨⟨L', n1, ops1⟩, hb0, rfl, rfl, rfl⟩ := hb
    exact ⟨hLp, L', hb0, rfl⟩
  · cases hb

theorem put_defs_eq (s s' : St) (dn : String) (d : Def) (n : Nat) (h1 : s'.defs.map (fun x => if x.name == dn then d else x) =
    s.defs.map (fun x => if x.name == dn then d else x)) (h2 : s'.top = s.top) (h3 : s'.acount = s.acount)
    (h4 : s'.pending = s.pending) : s'.put dn d n = s.put dn d n := by
  unfold St.put withNext St.upd
  simp only [h1, h2, h3, h4]

theorem elabModule_leafX (s : St) (m : WLeafX) (L D : Def) (n' : Nat) (ops : List (Nat × Nat))
    (hL : Has s m.base.name L) (hr : RowsFull s m.base.name L.ports.length) (hb : buildLeafX L s.next m = some (D, n', ops)) :
    elabModule s m.toModule = .ok ((padOps s m.base.name ops).put m.base.name D n') := by
  obtain ⟨_, L', hb0, rfl⟩ := buildLeafX_some hb
  obtain ⟨hT, hL'n, _⟩ := leaf_tail s m.base.name m.base.ports m.params L L' n' ops hL hr hb0
  rw [elabModule_prim s m.toModule rfl L hL (buildLeaf_inv hb0).1]
  simp only [WLeafX.toModule, bind, Except.bind, hT, pure, Except.pure]
  have hHp : Has ((padOps s m.base.name ops).put m.base.name L' n') m.base.name L' :=
    (hL.padOps (buildLeaf_inv hb0).2.1 ops).put L' _ (hL'n.trans hL.2.1.symm)
  by_cases he : m.attrs.isEmpty = true
  · simp only [he, if_true, withAttrs]
  · simp only [he, if_false, withAttrs, Bool.false_eq_true]
    have := upd_eq_put _ m.base.name L' (fun d => { d with attrs := some m.attrs }) n' hHp
    rw [St.put_put _ m.base.name L' _ _ _ hL'n] at this
    rw [← this]
    rfl
end Spydr.Verilog.Elab
