/-
  The writer on a whole netlist: the order in which `_compose` visits the definitions (`composeOrder`), the file header,
  and the text of the file — the other definitions primitives that are not written (`composeV_text`), written as
  `celldefine` modules (`composeV_text_bb`), any definitions (`composeV_text_hier`), with assignment definitions, for
  which nothing is printed (`composeV_text_hierA`).  The text-side clauses of the fragments (`topTextB`, `leafTextB`,
  `anyTextB`, …) are Bool conditions on the netlist, each with the `Prop` it stands for.
-/
import Spydr.Verilog.RenderModule
namespace Spydr.Verilog.Elab
open Spydr.Verilog
open Spydr.Verilog.Text (starConstraints fixName showInt dirString bracketsDefining)

theorem join_mods (f : Nat → Except String String) (kT : Nat) (X : String) (hX : f kT = .ok X) :
    ∀ (order : List Nat), (∀ k ∈ order, k = kT ∨ f k = .ok "") → order.count kT ≤ 1 →
    ∃ mods, order.mapM f = .ok mods ∧ String.join mods = (if order.count kT = 1 then X else "") := by
  intro order
  induction order with
  | nil => intro _ _; exact ⟨[], rfl, by simp⟩
  | cons k order ih =>
    intro hk hc
    by_cases e : k = kT
    · subst e
      have hc0 : order.count k = 0 := by simp at hc; omega
      obtain ⟨mods, h1, h2⟩ := ih (fun x hx => hk x (List.mem_cons_of_mem _ hx)) (by omega)
      refine ⟨X :: mods, ?_, ?_⟩
      · rw [List.mapM_cons]; simp [bind, Except.bind, hX, h1, pure, Except.pure]
      · rw [join_cons, h2]; simp [hc0]
    · have hfk : f k = .ok "" := (hk k List.mem_cons_self).resolve_left e
      have hcc : (k :: order).count kT = order.count kT := by simp [e]
      obtain ⟨mods, h1, h2⟩ := ih (fun x hx => hk x (List.mem_cons_of_mem _ hx)) (by rw [hcc] at hc; exact hc)
      refine ⟨"" :: mods, ?_, ?_⟩
      · rw [List.mapM_cons]; simp [bind, Except.bind, hfk, h1, pure, Except.pure]
      · rw [join_cons, h2, hcc]; simp

/-- the order in which `_compose` visits the definitions -/
def composeOrder (n : Text.WNet) : List Nat :=
  let idxOf (name : String) : Option Nat := n.defs.findIdx? (fun d => d.name == name)
  let children : Nat → List Nat := fun k => ((n.defs.getD k default).insts.filterMap (fun i => idxOf i.ref))
  let fuel := 2 + n.defs.length + (n.defs.map (fun d => d.insts.length)).sum
  (visitOrder children fuel (n.top.bind idxOf) (List.range n.defs.length)).1

def composeFin (n : Text.WNet) : Bool :=
  let idxOf (name : String) : Option Nat := n.defs.findIdx? (fun d => d.name == name)
  let children : Nat → List Nat := fun k => ((n.defs.getD k default).insts.filterMap (fun i => idxOf i.ref))
  let fuel := 2 + n.defs.length + (n.defs.map (fun d => d.insts.length)).sum
  (visitOrder children fuel (n.top.bind idxOf) (List.range n.defs.length)).2

theorem composeV_eq (n : Text.WNet) (o : Text.Opts) :
    Text.composeV n o = (do
      let mods ← (composeOrder n).mapM (fun k => Text.moduleText n o (n.defs.getD k default))
      pure ("//Generated from netlist by SpyDrNet\n//netlist name: " ++ fixName n.name ++ "\n" ++ String.join mods, composeFin n)) := rfl

/-- file-level clauses of the fragment (decidable): `T` is visited exactly once, everything else is a primitive -/
def fileOK (n : Text.WNet) (kT : Nat) : Bool :=
  (composeOrder n).count kT == 1 &&
  (composeOrder n).all (fun k => k == kT || (n.defs.getD k default).lib == "hdi_primitives")

def fileHeader (n : Text.WNet) : String :=
  "//Generated from netlist by SpyDrNet\n//netlist name: " ++ fixName n.name ++ "\n"

/-- **composeV_text.**  The writer side, in general: for a netlist of the fragment the text `composeV` produces is the
    file header followed by the rendering of `astOf n T`. -/
theorem composeV_text (n : Text.WNet) (T : Text.WDef) (kT : Nat) (m : WModP)
    (hT : n.defs.getD kT default = T) (hfile : fileOK n kT = true)
    (hfrag : fragTop n T = true) (ht : TopText n T) (hm : astOf n T = some m) :
    ∃ fin, Text.composeV n optsFrag = .ok (fileHeader n ++ renderMod m, fin) := by
  simp only [fileOK, Bool.and_eq_true, beq_iff_eq, List.all_eq_true, Bool.or_eq_true] at hfile
  obtain ⟨hcount, hall⟩ := hfile
  have hX : Text.moduleText n optsFrag (n.defs.getD kT default) = .ok (renderMod m) := by
    rw [hT]; exact moduleText_top n T m hfrag ht hm
  obtain ⟨mods, h1, h2⟩ := join_mods (fun k => Text.moduleText n optsFrag (n.defs.getD k default)) kT (renderMod m) hX
    (composeOrder n) (fun k hk => (hall k hk).imp id (moduleText_prim n _)) (by omega)
  rw [hcount] at h2
  simp only [if_true] at h2
  rw [composeV_eq, h1]
  simp only [bind, Except.bind, pure, Except.pure, h2]
  exact ⟨_, rfl⟩

theorem mapM_getD {β : Type} (n : Text.WNet) (f : Text.WDef → Except String β) : ∀ (ks : List Nat),
    ks.mapM (fun k => f (n.defs.getD k default)) = (ks.map (fun k => n.defs.getD k default)).mapM f :=
  fun _ => List.mapM_map.symm

/-- **composeV_text_bb.**  The writer side with `write_blackbox = True`: the file header, the rendering of the top
    module, then the `celldefine` renderings of the primitives in the order `_compose` visits them. -/
theorem composeV_text_bb (n : Text.WNet) (T : Text.WDef) (kT : Nat) (ks : List Nat) (m : WModP) (leaves : List WLeaf)
    (hT : n.defs.getD kT default = T) (horder : composeOrder n = kT :: ks)
    (hfrag : fragTop n T = true) (ht : TopText n T) (hm : astOf n T = some m)
    (hrs : (ks.map (fun k => n.defs.getD k default)).mapM astLeaf = some leaves)
    (hlt : ∀ r ∈ ks.map (fun k => n.defs.getD k default), LeafText r)
    (hnd : ∀ lf ∈ leaves, (lf.ports.map (·.name)).Nodup) :
    ∃ fin, Text.composeV n optsBB = .ok (fileHeader n ++ (renderMod m ++ String.join (leaves.map renderLeaf)), fin) := by
  have hX : Text.moduleText n optsBB (n.defs.getD kT default) = .ok (renderMod m) := by
    rw [hT, moduleText_bb_nonprim n T ht.lib2]; exact moduleText_top n T m hfrag ht hm
  have hL := mapM_opt_exc_mem astLeaf (Text.moduleText n optsBB) renderLeaf _ leaves hrs
    (fun r hr lf hlf ha => moduleText_leaf n r lf (hlt r hr) ha (hnd lf hlf))
  rw [composeV_eq, horder, List.mapM_cons, mapM_getD n (Text.moduleText n optsBB) ks]
  simp only [bind, Except.bind, hX, hL, pure, Except.pure, join_cons]
  exact ⟨_, rfl⟩

def topTextB (n : Text.WNet) (T : Text.WDef) : Bool :=
  T.lib != "SDN_VERILOG_ASSIGNMENT" && T.lib != "hdi_primitives" && T.params.isNone &&
  T.insts.all (fun i => (match Text.refOf n i.ref with
    | some r => r.lib != "SDN_VERILOG_ASSIGNMENT"
    | none => true) && !(match i.params with | some ps => ps.isEmpty | none => false))

theorem topTextB_sound (n : Text.WNet) (T : Text.WDef) (h : topTextB n T = true) : TopText n T := by
  simp only [topTextB, Bool.and_eq_true, bne_iff_ne, ne_eq, List.all_eq_true, Bool.not_eq_eq_eq_not, Bool.not_true] at h
  obtain ⟨⟨⟨h1, h2⟩, h3⟩, h4⟩ := h
  refine ⟨h1, h2, ?_, ?_⟩
  · cases hp : T.params with
    | none => rfl
    | some v => rw [hp] at h3; simp at h3
  · intro i hi
    obtain ⟨a, b⟩ := h4 i hi
    refine ⟨?_, ?_⟩
    · intro r hr; rw [hr] at a; simpa using a
    · intro e; rw [e] at b; simp at b

/-- the definitions `_compose` writes after the top -/
def leafDefs (n : Text.WNet) (ks : List Nat) : List Text.WDef := ks.map (fun k => n.defs.getD k default)

def leafTextB (r : Text.WDef) : Bool :=
  r.lib == "hdi_primitives" && (r.attrs.getD []).isEmpty && r.params.isNone

theorem leafTextB_sound (r : Text.WDef) (h : leafTextB r = true) : LeafText r := by
  simp only [leafTextB, Bool.and_eq_true, beq_iff_eq] at h
  refine ⟨h.1.1, List.isEmpty_iff.mp h.1.2, ?_⟩
  cases hp : r.params with
  | none => rfl
  | some v => have := h.2; rw [hp] at this; simp at this

def anyTextB (n : Text.WNet) (r : Text.WDef) : Bool :=
  match astAnyP n r with
  | some (.work _) => fragTop n r && topTextB n r
  | some (.leaf lf) => leafTextB r && decide ((lf.ports.map (·.name)).Nodup)
  | none => false

theorem any_text (n : Text.WNet) (r : Text.WDef) (P : WAnyP) (ha : astAnyP n r = some P) (ht : anyTextB n r = true) :
    Text.moduleText n optsBB r = .ok (renderAny P) := by
  unfold anyTextB at ht
  rw [ha] at ht
  unfold astAnyP at ha
  split at ha
  · simp only [Option.map_eq_some_iff] at ha
    obtain ⟨lf, hlf, e⟩ := ha
    subst e
    simp only [Bool.and_eq_true, decide_eq_true_eq] at ht
    exact moduleText_leaf n r lf (leafTextB_sound r ht.1) hlf ht.2
  · rename_i hp
    simp only [Option.map_eq_some_iff] at ha
    obtain ⟨m, hm, e⟩ := ha
    subst e
    simp only [Bool.and_eq_true] at ht
    have htt := topTextB_sound n r ht.2
    rw [moduleText_bb_nonprim n r htt.lib2]
    exact moduleText_top n r m ht.1 htt hm

/-- **composeV_text_hier.**  The writer on a hierarchical netlist (`write_blackbox = True`): the file header, the top
    module, then every other definition in the order `_compose` visits them. -/
theorem composeV_text_hier (n : Text.WNet) (T : Text.WDef) (kT : Nat) (ks : List Nat) (m : WModP) (Ps : List WAnyP)
    (hT : n.defs.getD kT default = T) (horder : composeOrder n = kT :: ks)
    (hfrag : fragTop n T = true) (ht : TopText n T) (hm : astOf n T = some m)
    (hrs : (leafDefs n ks).mapM (astAnyP n) = some Ps) (htxt : ∀ r ∈ leafDefs n ks, anyTextB n r = true) :
    ∃ fin, Text.composeV n optsBB = .ok (fileHeader n ++ (renderMod m ++ String.join (Ps.map renderAny)), fin) := by
  have hX : Text.moduleText n optsBB (n.defs.getD kT default) = .ok (renderMod m) := by
    rw [hT, moduleText_bb_nonprim n T ht.lib2]; exact moduleText_top n T m hfrag ht hm
  have hL := mapM_opt_exc_mem (astAnyP n) (Text.moduleText n optsBB) renderAny _ Ps hrs
    (fun r hr P _ ha => any_text n r P ha (htxt r hr))
  unfold leafDefs at hL
  rw [composeV_eq, horder, List.mapM_cons, mapM_getD n (Text.moduleText n optsBB) ks]
  simp only [bind, Except.bind, hX, hL, pure, Except.pure, join_cons]
  exact ⟨_, rfl⟩

def topTextBA (n : Text.WNet) (T : Text.WDef) : Bool :=
  T.lib != "SDN_VERILOG_ASSIGNMENT" && T.lib != "hdi_primitives" &&
  (match T.params with | some ps => !ps.isEmpty | none => true) &&
  T.insts.all (fun i => isAsgI n i || !(match i.params with | some ps => ps.isEmpty | none => false))

theorem topTextBA_sound (n : Text.WNet) (T : Text.WDef) (h : topTextBA n T = true) : TopTextA n T := by
  simp only [topTextBA, Bool.and_eq_true, bne_iff_ne, ne_eq, List.all_eq_true, Bool.or_eq_true, Bool.not_eq_eq_eq_not,
    Bool.not_true] at h
  obtain ⟨⟨⟨h1, h2⟩, h3⟩, h4⟩ := h
  refine ⟨h1, h2, ?_, ?_⟩
  · intro e
    rw [e] at h3; simp at h3
  · intro i hi ha e
    rcases h4 i hi with h | h
    · rw [ha] at h; cases h
    · rw [e] at h; simp at h

def leafTextBX (r : Text.WDef) : Bool :=
  r.lib == "hdi_primitives" && (match r.params with | some ps => !ps.isEmpty | none => true)

theorem leafTextBX_sound (r : Text.WDef) (h : leafTextBX r = true) : LeafTextX r := by
  simp only [leafTextBX, Bool.and_eq_true, beq_iff_eq] at h
  refine ⟨h.1, ?_⟩
  intro e
  have := h.2
  rw [e] at this; simp at this

def anyTextBA (n : Text.WNet) (r : Text.WDef) : Bool :=
  match astAnyPA n r with
  | some (.work _) => fragTop n r && topTextBA n r
  | some (.leaf lf) => leafTextBX r && decide ((lf.base.ports.map (·.name)).Nodup)
  | none => false

theorem any_textA (n : Text.WNet) (r : Text.WDef) (P : WAnyPA) (ha : astAnyPA n r = some P) (ht : anyTextBA n r = true) :
    Text.moduleText n optsBB r = .ok (renderAnyA P) := by
  unfold anyTextBA at ht
  rw [ha] at ht
  unfold astAnyPA at ha
  split at ha
  · simp only [Option.map_eq_some_iff] at ha
    obtain ⟨lf, hlf, e⟩ := ha
    subst e
    simp only [Bool.and_eq_true, decide_eq_true_eq] at ht
    exact moduleText_leafX n r lf (leafTextBX_sound r ht.1) hlf ht.2
  · simp only [Option.map_eq_some_iff] at ha
    obtain ⟨m, hm, e⟩ := ha
    subst e
    simp only [Bool.and_eq_true] at ht
    have htt := topTextBA_sound n r ht.2
    rw [moduleText_bb_nonprim n r htt.lib2]
    exact moduleText_topA n r m ht.1 htt hm

def notAsgLib (r : Text.WDef) : Bool := r.lib != "SDN_VERILOG_ASSIGNMENT"

/-- the later definitions in the writer's order: nothing is printed for the assignment definitions -/
theorem anys_textA (n : Text.WNet) : ∀ (Rs : List Text.WDef) (Ps : List WAnyPA), (Rs.filter notAsgLib).mapM (astAnyPA n) = some Ps →
    (∀ r ∈ Rs.filter notAsgLib, anyTextBA n r = true) →
    ∃ mods, Rs.mapM (Text.moduleText n optsBB) = .ok mods ∧ String.join mods = String.join (Ps.map renderAnyA) := by
  intro Rs
  induction Rs with
  | nil =>
    intro Ps hm _
    simp only [List.filter_nil, List.mapM_nil, pure, Option.some.injEq] at hm
    subst hm
    exact ⟨[], rfl, rfl⟩
  | cons r Rs ih =>
    intro Ps hm ht
    by_cases hl : r.lib = "SDN_VERILOG_ASSIGNMENT"
    · have hna : notAsgLib r = false := by simp [notAsgLib, hl]
      rw [List.filter_cons_of_neg (by simp [hna])] at hm ht
      obtain ⟨mods, h1, h2⟩ := ih Ps hm ht
      refine ⟨"" :: mods, ?_, by rw [join_cons, h2]; simp⟩
      rw [List.mapM_cons]
      simp only [bind, Except.bind, moduleText_asgdef n r hl, h1, pure, Except.pure]
    · have hna : notAsgLib r = true := by simp [notAsgLib, hl]
      rw [List.filter_cons_of_pos hna] at hm ht
      obtain ⟨P, Ps', ha, hr, rfl⟩ := mapM_cons_some hm
      obtain ⟨mods, h1, h2⟩ := ih Ps' hr (fun x hx => ht x (List.mem_cons_of_mem _ hx))
      refine ⟨renderAnyA P :: mods, ?_, by rw [join_cons, h2, List.map_cons, join_cons]⟩
      rw [List.mapM_cons]
      simp only [bind, Except.bind, any_textA n r P ha (ht r List.mem_cons_self), h1, pure, Except.pure]

/-- the definitions written after the top, without the assignment definitions -/
def laterA (n : Text.WNet) (ks : List Nat) : List Text.WDef := (leafDefs n ks).filter notAsgLib

/-- **composeV_text_hierA.**  The writer on a hierarchical netlist with assignment instances (`write_blackbox = True`):
    the file header, the top module, then every other definition in the order `_compose` visits them — nothing for the
    assignment definitions. -/
theorem composeV_text_hierA (n : Text.WNet) (T : Text.WDef) (kT : Nat) (ks : List Nat) (m : WModPA) (Ps : List WAnyPA)
    (hT : n.defs.getD kT default = T) (horder : composeOrder n = kT :: ks)
    (hfrag : fragTop n T = true) (ht : TopTextA n T) (hm : astOfA n T = some m)
    (hrs : (laterA n ks).mapM (astAnyPA n) = some Ps) (htxt : ∀ r ∈ laterA n ks, anyTextBA n r = true) :
    ∃ fin, Text.composeV n optsBB = .ok (fileHeader n ++ (renderModA m ++ String.join (Ps.map renderAnyA)), fin) := by
  have hX : Text.moduleText n optsBB (n.defs.getD kT default) = .ok (renderModA m) := by
    rw [hT, moduleText_bb_nonprim n T ht.lib2]; exact moduleText_topA n T m hfrag ht hm
  obtain ⟨mods, hL, hJ⟩ := anys_textA n (leafDefs n ks) Ps hrs htxt
  unfold leafDefs at hL
  rw [composeV_eq, horder, List.mapM_cons, mapM_getD n (Text.moduleText n optsBB) ks]
  simp only [bind, Except.bind, hX, hL, pure, Except.pure, join_cons, hJ]
  exact ⟨_, rfl⟩

end Spydr.Verilog.Elab
