/-
  The first instance of a module the table does not contain yet: the reader creates the module with one port per named
  connection (`instantiate_firstG` for any table; `instantiate_first` for the table `S2` of a file with one module).
-/
import Spydr.Verilog.RoundTripWriter
namespace Spydr.Verilog.Elab
open Spydr.Verilog

def S2 (d : Def) (leaves : List Def) (n : Nat) (top : Option String) : St := ⟨d :: leaves, n, top, 0, []⟩

theorem Has_S2_top (d : Def) (leaves : List Def) (n : Nat) (t : Option String)
    (h : ∀ l ∈ leaves, l.name ≠ d.name) : Has (S2 d leaves n t) d.name d := by
  refine ⟨List.mem_cons_self, rfl, ?_⟩
  intro x hx hn
  rcases List.mem_cons.mp hx with e | e
  · exact e
  · exact absurd hn (h x e)

theorem Has_S2_leaf (d : Def) (leaves : List Def) (n : Nat) (t : Option String) (L : Def)
    (hL : L ∈ leaves) (hne : d.name ≠ L.name) (hn : (leaves.map (·.name)).Nodup) : Has (S2 d leaves n t) L.name L := by
  refine ⟨List.mem_cons_of_mem _ hL, rfl, ?_⟩
  intro x hx hxn
  rcases List.mem_cons.mp hx with e | e
  · rw [e] at hxn; exact absurd hxn hne
  · exact nodup_map_inj (·.name) leaves hn x e L hL hxn

theorem upd_S2_top (d : Def) (leaves : List Def) (n : Nat) (t : Option String) (f : Def → Def)
    (h : ∀ l ∈ leaves, l.name ≠ d.name) : (S2 d leaves n t).upd d.name f = S2 (f d) leaves n t := by
  unfold St.upd S2
  simp only [List.map_cons, beq_self_eq_true, if_true]
  rw [map_id_of_mem (fun x hx => by simp [h x hx])]

theorem mapInstRows_S2 (d : Def) (leaves : List Def) (n : Nat) (t : Option String) (ref : String) (k : Nat)
    (f : List (Option Nat) → List (Option Nat)) (hl : ∀ l ∈ leaves, l.insts = []) :
    mapInstRows (S2 d leaves n t) ref k f = S2 { d with insts := d.insts.map (fun i =>
      if i.ref == ref then
        let rows := i.pins ++ List.replicate (k + 1 - i.pins.length) []
        { i with pins := rows.set k (f (rows.getD k [])) }
      else i) } leaves n t := by
  unfold mapInstRows S2
  simp only [List.map_cons]
  rw [map_id_of_mem (l := leaves) (fun x hx => by have := hl x hx; cases x; simp_all)]

def newPort (pname : String) (w : Nat) : Port := ⟨some pname, .undef, 0, true, List.replicate w none, none⟩

theorem populateNew_width (w : Nat) (h : 1 ≤ w) : populateNew (some ((w : Int) - 1)) (some 0) = (0, w, true) := by
  simp only [populateNew]
  have h1 : min ((w : Int) - 1) 0 = 0 := by omega
  have h2 : max ((w : Int) - 1) 0 = (w : Int) - 1 := by omega
  rw [h1, h2]
  refine Prod.ext rfl (Prod.ext ?_ ?_)
  · show ((w : Int) - 1 - 0 + 1).toNat = w; omega
  · show decide ((0 : Int) ≤ (w : Int) - 1) = true; simp; omega

theorem rows_new (is : List Inst) (i : Inst) (ref : String) (k : Nat) (row : List (Option Nat))
    (hi : i.ref = ref) (hk : i.pins.length = k) (hn : ∀ j ∈ is, j.ref ≠ ref) :
    (is ++ [i]).map (fun j =>
      if j.ref == ref then
        let rows := j.pins ++ List.replicate (k + 1 - j.pins.length) []
        { j with pins := rows.set k ((fun _ => row) (rows.getD k [])) }
      else j) = is ++ [{ i with pins := i.pins ++ [row] }] := by
  rw [List.map_append, map_id_of_mem (fun j hj => by simp [hn j hj])]
  simp only [List.map_cons, List.map_nil, hi, beq_self_eq_true, if_true, hk, show k + 1 - k = 1 by omega,
    List.replicate_one]
  rw [List.set_append_right _ _ (by omega)]
  simp [hk]

/-- what `FirstG` below asks of a table, said of the table `S2 d0 ls n t` -/
structure FirstOK (d0 : Def) (i : Inst) (ls : List Def) (L : Def) : Prop where
  ref : i.ref = L.name
  fresh : instIdx d0 i.name = none
  others : ∀ j ∈ d0.insts, j.ref ≠ L.name
  rows : i.pins.length = L.ports.length
  linsts : L.insts = []
  lsinsts : ∀ l ∈ ls, l.insts = []
  lsname : ∀ l ∈ ls, l.name ≠ L.name ∧ l.name ≠ d0.name
  lsnodup : (ls.map (·.name)).Nodup
  ne : d0.name ≠ L.name
  cables : (d0.cables.map (·.name)).Nodup

/-- one connection of the first instance of a never-seen module: a new port as wide as the expression (pure) -/
def firstStep (d0 : Def) (acc : List Port × List (List (Option Nat))) (c : String × XExpr) :
    Option (List Port × List (List (Option Nat))) :=
  if acc.1.findIdx? (fun p => p.name == some c.1) = none then
    match c.2 with
    | .empty => some (acc.1 ++ [newPort c.1 1], acc.2 ++ [List.replicate 1 none])
    | e =>
      match exprWires d0 e with
      | some ws => if 1 ≤ ws.length then some (acc.1 ++ [newPort c.1 ws.length], acc.2 ++ [ws.reverse.map some]) else none
      | none => none
  else none

theorem firstStep_inv {d0 : Def} {acc r : List Port × List (List (Option Nat))} {c : String × XExpr}
    (h : firstStep d0 acc c = some r) :
    acc.1.findIdx? (fun p => p.name == some c.1) = none ∧ ∃ w row, r = (acc.1 ++ [newPort c.1 w], acc.2 ++ [row]) ∧
      ((c.2 = .empty ∧ w = 1 ∧ row = List.replicate 1 none) ∨
       (c.2 ≠ .empty ∧ ∃ ws, exprWires d0 c.2 = some ws ∧ 1 ≤ ws.length ∧ w = ws.length ∧ row = ws.reverse.map some)) := by
  unfold firstStep at h
  split at h
  · rename_i hp
    refine ⟨hp, ?_⟩
    split at h
    · rename_i he
      cases h
      exact ⟨1, _, rfl, .inl ⟨he, rfl, rfl⟩⟩
    · rename_i hne
      split at h
      · rename_i ws hws
        split at h <;> cases h
        rename_i h1
        exact ⟨ws.length, _, rfl, .inr ⟨fun e => hne e, ws, hws, h1, rfl, rfl⟩⟩
      · cases h
  · cases h

theorem firstStep_len (d : Def) (conns : List (String × XExpr)) (a b : List Port × List (List (Option Nat)))
    (h : a.1.length = a.2.length) (hf : conns.foldlM (firstStep d) a = some b) : b.1.length = b.2.length := by
  refine foldlM_some_inv (fun a => a.1.length = a.2.length) ?_ h hf
  intro c _ a b h hs
  obtain ⟨_, w, row, rfl, _⟩ := firstStep_inv hs
  simp [h]

/-- the table with definition `dn` replaced by `d'` and the new module `L` appended -/
def tabG (s : St) (dn : String) (d' L : Def) : St :=
  { s with defs := s.defs.map (fun x => if x.name == dn then d' else x) ++ [L] }

/-- while the first instance `i` (of `dn`, whose definition without it is `d0`) of the new module `L` is being connected:
    nothing else in the table refers to `L`, and `i` has one row per port `L` has got so far -/
structure FirstG (s : St) (dn : String) (d0 : Def) (i : Inst) (L : Def) : Prop where
  has : Has s dn d0
  ref : i.ref = L.name
  fresh : instIdx d0 i.name = none
  newname : ∀ x ∈ s.defs, x.name ≠ L.name
  noref : ∀ x ∈ s.defs, ∀ j ∈ x.insts, j.ref ≠ L.name
  rows : i.pins.length = L.ports.length
  linsts : L.insts = []
  cables : (d0.cables.map (·.name)).Nodup

theorem FirstG.ne {s : St} {dn : String} {d0 : Def} {i : Inst} {L : Def} (ok : FirstG s dn d0 i L) : dn ≠ L.name := by
  intro e
  exact ok.newname d0 ok.has.1 (ok.has.2.1.trans e)

theorem tabG_base (s : St) (dn : String) (d' L : Def) (hn : d'.name = dn) (hnew : ∀ x ∈ s.defs, x.name ≠ L.name)
    (hne : dn ≠ L.name) : ∀ x ∈ s.defs.map (fun x => if x.name == dn then d' else x), x.name ≠ L.name := by
  intro x hx
  obtain ⟨y, hy, e⟩ := List.mem_map.mp hx
  by_cases en : y.name = dn
  · simp only [en, beq_self_eq_true, if_true] at e
    rw [← e, hn]; exact hne
  · simp only [show (y.name == dn) = false by simp [en], Bool.false_eq_true, if_false] at e
    rw [← e]; exact hnew y hy

theorem Has_tabG_top (s : St) (dn : String) (d0 d' L : Def) (hd : Has s dn d0) (hn : d'.name = dn) (hne : dn ≠ L.name) :
    Has (tabG s dn d' L) dn d' := by
  have h1 : Has (s.put dn d' s.next) dn d' := hd.put d' _ (hn.trans hd.2.1.symm)
  have := Has_append_old (s.put dn d' s.next) L dn d' h1 (fun e => hne e.symm)
  exact this

theorem Has_tabG_last (s : St) (dn : String) (d' L : Def) (hn : d'.name = dn) (hnew : ∀ x ∈ s.defs, x.name ≠ L.name)
    (hne : dn ≠ L.name) : Has (tabG s dn d' L) L.name L :=
  Has_last _ _ L rfl (tabG_base s dn d' L hn hnew hne)

theorem tabG_upd_last (s : St) (dn : String) (d' L : Def) (f : Def → Def) (hn : d'.name = dn)
    (hnew : ∀ x ∈ s.defs, x.name ≠ L.name) (hne : dn ≠ L.name) :
    (tabG s dn d' L).upd L.name f = tabG s dn d' (f L) := by
  have := defs_upd_last (tabG s dn d' L) _ L f rfl (tabG_base s dn d' L hn hnew hne)
  unfold St.upd at this ⊢
  unfold tabG at this ⊢
  simp only at this ⊢
  rw [this]

theorem tabG_upd_top (s : St) (dn : String) (d' L : Def) (f : Def → Def) (hn : d'.name = dn) (hne : dn ≠ L.name) :
    (tabG s dn d' L).upd dn f = tabG s dn (f d') L := by
  unfold St.upd tabG
  simp only [List.map_append, List.map_map, List.map_cons, List.map_nil]
  congr 2
  · apply List.map_congr_left
    intro x _
    simp only [Function.comp]
    by_cases e : x.name = dn
    · simp [e, hn]
    · simp [e]
  · have : (L.name == dn) = false := by
      have : ¬ L.name = dn := fun e => hne e.symm
      simp [this]
    simp [this]

theorem def_insts_same (x : Def) (g : Inst → Inst) (h : ∀ j ∈ x.insts, g j = j) :
    ({ x with insts := x.insts.map g } : Def) = x := by
  rw [map_id_of_mem h]

theorem mapInstRows_tabG (s : St) (dn : String) (d0 : Def) (i : Inst) (Lx : Def) (nm : String) (k : Nat)
    (row : List (Option Nat)) (hd : Has s dn d0) (href : i.ref = nm) (hk : i.pins.length = k)
    (hnoref : ∀ x ∈ s.defs, ∀ j ∈ x.insts, j.ref ≠ nm) (hli : Lx.insts = []) :
    mapInstRows (tabG s dn { d0 with insts := d0.insts ++ [i] } Lx) nm k (fun _ => row) =
      tabG s dn { d0 with insts := d0.insts ++ [{ i with pins := i.pins ++ [row] }] } Lx := by
  unfold mapInstRows tabG
  simp only [List.map_append, List.map_map, List.map_cons, List.map_nil]
  congr 2
  · apply List.map_congr_left
    intro x hx
    simp only [Function.comp]
    by_cases e : x.name = dn
    · simp only [e, beq_self_eq_true, if_true]
      congr 1
      exact rows_new d0.insts i nm k row href hk (hnoref d0 hd.1)
    · simp only [show (x.name == dn) = false by simp [e], Bool.false_eq_true, if_false]
      apply def_insts_same
      intro j hj
      simp [hnoref x hx j hj]
  · congr 1
    apply def_insts_same
    intro j hj
    rw [hli] at hj; cases hj

theorem FirstG.grow {s : St} {dn : String} {d0 : Def} {i : Inst} {L : Def} (ok : FirstG s dn d0 i L) (p : Port)
    (row : List (Option Nat)) : FirstG s dn d0 { i with pins := i.pins ++ [row] } { L with ports := L.ports ++ [p] } :=
  ⟨ok.has, ok.ref, ok.fresh, ok.newname, ok.noref, by simp [ok.rows], ok.linsts, ok.cables⟩

theorem createPort_firstG (s : St) (dn : String) (d0 : Def) (i : Inst) (L : Def) (pname : String) (l r : Option Int) (w : Nat)
    (ok : FirstG s dn d0 i L) (hp : portIdx L pname = none) (hpop : populateNew l r = (0, w, true)) :
    createOrUpdatePort (tabG s dn { d0 with insts := d0.insts ++ [i] } L) L.name pname l r none false =
      .ok (tabG s dn { d0 with insts := d0.insts ++ [{ i with pins := i.pins ++ [List.replicate w none] }] }
        { L with ports := L.ports ++ [newPort pname w] }) := by
  have hn : ({ d0 with insts := d0.insts ++ [i] } : Def).name = dn := ok.has.2.1
  have hHL := Has_tabG_last s dn { d0 with insts := d0.insts ++ [i] } L hn ok.newname ok.ne
  unfold createOrUpdatePort
  rw [getDef_has hHL]
  simp only [bind, Except.bind, hp, hpop, pure, Except.pure, Option.getD_none]
  rw [tabG_upd_last s dn _ L _ hn ok.newname ok.ne]
  exact congrArg Except.ok (mapInstRows_tabG s dn d0 i _ L.name L.ports.length _ ok.has ok.ref ok.rows ok.noref ok.linsts)

theorem namedConn_firstG (s : St) (dn : String) (d0 : Def) (i : Inst) (L : Def) (pname : String) (e : XExpr) (ws : List Nat)
    (ok : FirstG s dn d0 i L) (hp : portIdx L pname = none) (hws : exprWires d0 e = some ws) (hemp : e ≠ .empty)
    (h1 : 1 ≤ ws.length) :
    namedConn (tabG s dn { d0 with insts := d0.insts ++ [i] } L) dn i.name L.name pname e =
      .ok (tabG s dn { d0 with insts := d0.insts ++ [{ i with pins := i.pins ++ [ws.reverse.map some] }] }
        { L with ports := L.ports ++ [newPort pname ws.length] }) := by
  generalize hd' : ({ d0 with insts := d0.insts ++ [i] } : Def) = d'
  have hd'n : d'.name = dn := by rw [← hd']; exact ok.has.2.1
  have hHd : Has (tabG s dn d' L) dn d' := Has_tabG_top s dn d0 d' L ok.has hd'n ok.ne
  have hws' : exprWires d' e = some ws := (exprWires_cables d0 d' (by rw [← hd']) e).trans hws
  have hcn' : (d'.cables.map (·.name)).Nodup := by rw [← hd']; exact ok.cables
  have hev := evalExprE_fixed (tabG s dn d' L) dn e d' ws hHd hcn' hws'
  have hport := createPort_firstG s dn d0 i L pname (some ((ws.length : Int) - 1)) (some 0) ws.length ok hp
    (populateNew_width ws.length h1)
  rw [hd'] at hport
  generalize hL' : ({ L with ports := L.ports ++ [newPort pname ws.length] } : Def) = L' at hport
  have hL'n : L'.name = L.name := by rw [← hL']
  generalize hi' : ({ i with pins := i.pins ++ [List.replicate ws.length (none : Option Nat)] } : Inst) = i' at hport
  generalize hd'' : ({ d0 with insts := d0.insts ++ [i'] } : Def) = d'' at hport
  have hd''n : d''.name = dn := by rw [← hd'']; exact ok.has.2.1
  have hnew' : ∀ x ∈ s.defs, x.name ≠ L'.name := by rw [hL'n]; exact ok.newname
  have hne' : dn ≠ L'.name := by rw [hL'n]; exact ok.ne
  have hHd2 : Has (tabG s dn d'' L') dn d'' := Has_tabG_top s dn d0 d'' L' ok.has hd''n hne'
  have hHL2 : Has (tabG s dn d'' L') L.name L' := by
    rw [← hL'n]; exact Has_tabG_last s dn d'' L' hd''n hnew' hne'
  have hk : portIdx L' pname = some L.ports.length := by
    rw [← hL']; exact portIdx_append_new L pname _ hp rfl
  have hii : instIdx d'' i.name = some d0.insts.length := by
    rw [← hd'']; exact instIdx_append d0 i.name i' ok.fresh (by rw [← hi'])
  -- the row the new port has just given `i` is free and as wide as `ws`: `connectLowAligned` fills it
  have hconn : connectInstRow (tabG s dn d'' L') dn i.name L.ports.length ws =
      .ok (tabG s dn { d0 with insts := d0.insts ++ [{ i with pins := i.pins ++ [ws.reverse.map some] }] } L') := by
    unfold connectInstRow
    rw [getDef_has hHd2]
    simp only [bind, Except.bind, hii]
    have hget : d''.insts.getD d0.insts.length default = i' := by
      rw [← hd'']; simp [List.getD]
    have hrow : i'.pins.getD L.ports.length [] = List.replicate ws.length none := by
      rw [← hi', ← ok.rows]; simp [List.getD]
    simp only [hget, hrow, connect_low_aligned_fresh ws.length ws (Nat.le_refl _), pure, Except.pure]
    -- both sides are `tabG` of the same `s`, `L'`: peel down to the last row of the last instance of `dn`
    congr 1
    rw [tabG_upd_top s dn d'' L' _ hd''n hne']
    congr 1
    rw [← hd'']
    simp only
    congr 1
    rw [List.set_append_right _ _ (Nat.le_refl _)]
    simp only [Nat.sub_self, List.set_cons_zero]
    congr 2
    rw [← hi']
    simp only
    congr 1
    rw [← ok.rows, List.set_append_right _ _ (Nat.le_refl _)]
    simp [lowAligned]
  -- `namedConn`: the expression leaves the table alone (`hev`), the port is new (`hport`), its row takes the wires
  cases e with
  | empty => exact absurd rfl hemp
  | atom a =>
    simp only [namedConn, bind, Except.bind, hev, hport, getDef_has hHL2, hk]
    rw [hconn]
  | cat as =>
    simp only [namedConn, bind, Except.bind, hev, hport, getDef_has hHL2, hk]
    rw [hconn]

theorem namedConn_first_emptyG (s : St) (dn : String) (d0 : Def) (i : Inst) (L : Def) (pname : String)
    (ok : FirstG s dn d0 i L) (hp : portIdx L pname = none) :
    namedConn (tabG s dn { d0 with insts := d0.insts ++ [i] } L) dn i.name L.name pname .empty =
      .ok (tabG s dn { d0 with insts := d0.insts ++ [{ i with pins := i.pins ++ [List.replicate 1 none] }] }
        { L with ports := L.ports ++ [newPort pname 1] }) := by
  simp only [namedConn]
  exact createPort_firstG s dn d0 i L pname (some 0) (some 0) 1 ok hp rfl

theorem first_foldG (s : St) (dn : String) (d0 : Def) :
    ∀ (conns : List (String × XExpr)) (i : Inst) (L : Def) (ports' : List Port) (rows' : List (List (Option Nat))),
      FirstG s dn d0 i L → conns.foldlM (firstStep d0) (L.ports, i.pins) = some (ports', rows') →
      conns.foldlM (fun st c => namedConn st dn i.name L.name c.1 c.2) (tabG s dn { d0 with insts := d0.insts ++ [i] } L) =
        .ok (tabG s dn { d0 with insts := d0.insts ++ [{ i with pins := rows' }] } { L with ports := ports' }) := by
  intro conns
  induction conns with
  | nil =>
    intro i L ports' rows' _ h
    simp only [List.foldlM_nil, pure, Option.some.injEq, Prod.mk.injEq] at h
    obtain ⟨h1, h2⟩ := h
    subst h1 h2
    rfl
  | cons c cs ih =>
    intro i L ports' rows' ok h
    rw [List.foldlM_cons] at h
    cases hs : firstStep d0 (L.ports, i.pins) c with
    | none => simp [hs] at h
    | some r =>
      simp only [hs, Option.bind_eq_bind, Option.bind_some] at h
      obtain ⟨hp, w, row, rfl, hc⟩ := firstStep_inv hs
      have hp' : portIdx L c.1 = none := hp
      simp only [List.foldlM_cons, bind, Except.bind]
      rcases hc with ⟨he, rfl, rfl⟩ | ⟨hne, ws, hw, h1, rfl, rfl⟩
      · rw [he, namedConn_first_emptyG s dn d0 i L c.1 ok hp']
        exact ih _ _ ports' rows' (ok.grow _ _) h
      · rw [namedConn_firstG s dn d0 i L c.1 c.2 ws ok hp' hw hne h1]
        exact ih _ _ ports' rows' (ok.grow _ _) h

theorem Has.map_self {s : St} {dn : String} {d : Def} (hd : Has s dn d) :
    s.defs.map (fun x => if x.name == dn then d else x) = s.defs := by
  apply map_id_of_mem
  intro x hx
  by_cases e : x.name = dn
  · simp [hd.2.2 x hx e]
  · simp [e]

theorem tabG_self (s : St) (dn : String) (d0 L : Def) (hd : Has s dn d0) :
    tabG s dn d0 L = { s with defs := s.defs ++ [L] } := by
  unfold tabG
  congr 2
  exact hd.map_self

/-- **instantiate_firstG.**  The first instance (named port map) of a module the table does not contain yet, in any
    table: the module is appended with one port per connection, as wide as the connected expression (one pin for
    `.p()`), the instance's rows carry the expressions, least significant bit on pin 0; no other definition changes. -/
theorem instantiate_firstG (s : St) (dn : String) (d0 : Def) (mod name : String) (params : Params) (attrs : Attrs)
    (conns : List (String × XExpr)) (ports' : List Port) (rows' : List (List (Option Nat)))
    (hd : Has s dn d0) (hfind : s.find mod = none) (htop : s.top ≠ some mod)
    (hnoref : ∀ x ∈ s.defs, ∀ j ∈ x.insts, j.ref ≠ mod) (hfresh : instIdx d0 name = none)
    (hcn : (d0.cables.map (·.name)).Nodup) (hf : conns.foldlM (firstStep d0) ([], []) = some (ports', rows')) :
    instantiate s dn mod name params attrs true (conns.map (fun c => ((some c.1 : Option String), c.2))) =
      .ok (tabG s dn { d0 with insts := d0.insts ++ [⟨name, mod, mergeP params, some attrs, rows'⟩] }
        ⟨mod, none, false, [], none, ports', [], []⟩) := by
  generalize hL0 : (⟨mod, none, false, [], none, [], [], []⟩ : Def) = L0
  have hL0n : L0.name = mod := by rw [← hL0]
  generalize hi0 : (⟨name, mod, [], some attrs, []⟩ : Inst) = i0
  have hi0n : i0.name = name := by rw [← hi0]
  have hnew : ∀ x ∈ s.defs, x.name ≠ L0.name := by rw [hL0n]; exact find_none_names s mod hfind
  have ok : FirstG s dn d0 i0 L0 :=
    ⟨hd, by rw [← hi0, hL0n], by rw [hi0n]; exact hfresh, hnew, by rw [hL0n]; exact hnoref, by rw [← hi0, ← hL0]; rfl,
     by rw [← hL0], hcn⟩
  have hens : s.ensure mod = tabG s dn d0 L0 := by
    unfold St.ensure
    rw [hfind, tabG_self s dn d0 L0 hd, ← hL0]
  have hHd : Has (tabG s dn d0 L0) dn d0 := Has_tabG_top s dn d0 d0 L0 hd hd.2.1 ok.ne
  have hHL : Has (tabG s dn d0 L0) mod L0 := by
    rw [← hL0n]; exact Has_tabG_last s dn d0 L0 hd.2.1 hnew ok.ne
  have hfold := first_foldG s dn d0 conns i0 L0 ports' rows' ok (by rw [← hL0, ← hi0]; exact hf)
  rw [hi0n, hL0n] at hfold
  have htop' : (s.top == some mod) = false := by simp [htop]
  -- `instantiate`: lookup appends the empty `L0` (`hens`), the port map is `first_foldG`, then the parameters
  unfold instantiate
  simp only [htop', Bool.false_eq_true, if_false, hens, bind, Except.bind, getDef_has hHL, getDef_has hHd, hfresh,
    Option.isSome_none, if_true]
  have hports0 : L0.ports = [] := by rw [← hL0]
  simp only [hports0, List.map_nil]
  rw [tabG_upd_top s dn d0 L0 _ hd.2.1 ok.ne, List.foldlM_map]
  have hst : ({ d0 with insts := d0.insts ++ [⟨name, mod, [], some attrs, []⟩] } : Def) = { d0 with insts := d0.insts ++ [i0] } := by
    rw [← hi0]
  rw [hst]
  simp only
  rw [hfold]
  simp only [pure, Except.pure]
  congr 1
  -- the parameters land on the new instance only (no older instance has its name): both sides are the same `tabG`
  have hne0 := ok.ne
  subst hi0 hL0
  have hne1 : dn ≠ mod := hne0
  have key := tabG_upd_top s dn ({ d0 with insts := d0.insts ++ [⟨name, mod, [], some attrs, rows'⟩] } : Def)
    (⟨mod, none, false, [], none, ports', [], []⟩ : Def)
    (fun d => { d with insts := d.insts.map (fun i =>
      if i.name == name then { i with params := params.foldl (fun acc kv =>
        if acc.any (fun x => x.1 == kv.1) then acc else acc ++ [kv]) i.params } else i) }) hd.2.1 hne1
  refine key.trans ?_
  congr 1
  simp only
  congr 1
  rw [List.map_append]
  congr 1
  · apply map_id_of_mem
    intro j hj
    unfold instIdx at hfresh
    rw [List.findIdx?_eq_none_iff] at hfresh
    have := hfresh j hj
    simp only [this, Bool.false_eq_true, if_false, id]
  · simp [mergeP]

theorem tabG_S2 (d0 d' L : Def) (ls : List Def) (n : Nat) (t : Option String) (h : ∀ l ∈ ls, l.name ≠ d0.name) :
    tabG (S2 d0 ls n t) d0.name d' L = S2 d' (ls ++ [L]) n t := by
  unfold tabG S2
  simp only [List.map_cons, beq_self_eq_true, if_true, List.cons_append]
  rw [map_id_of_mem (fun x hx => by simp [h x hx])]

/-- **instantiate_first.**  `instantiate_firstG` in the table that holds the one module being read and the modules its
    instances have created so far. -/
theorem instantiate_first (d0 : Def) (ls : List Def) (n : Nat) (t : Option String) (mod name : String)
    (params : Params) (attrs : Attrs) (conns : List (String × XExpr)) (ports' : List Port) (rows' : List (List (Option Nat)))
    (ht : t ≠ some mod) (hne : d0.name ≠ mod) (hls : ∀ l ∈ ls, l.name ≠ mod ∧ l.name ≠ d0.name ∧ l.insts = [])
    (hlsn : (ls.map (·.name)).Nodup) (hfresh : instIdx d0 name = none) (hothers : ∀ j ∈ d0.insts, j.ref ≠ mod)
    (hcn : (d0.cables.map (·.name)).Nodup)
    (hf : conns.foldlM (firstStep d0) ([], []) = some (ports', rows')) :
    instantiate (S2 d0 ls n t) d0.name mod name params attrs true (conns.map (fun c => ((some c.1 : Option String), c.2))) =
      .ok (S2 { d0 with insts := d0.insts ++ [⟨name, mod, mergeP params, some attrs, rows'⟩] }
        (ls ++ [⟨mod, none, false, [], none, ports', [], []⟩]) n t) := by
  rw [instantiate_firstG (S2 d0 ls n t) d0.name d0 mod name params attrs conns ports' rows'
    (Has_S2_top d0 ls n t fun l hl => (hls l hl).2.1)
    (List.find?_eq_none.mpr (List.forall_mem_cons.mpr ⟨by simp [hne], fun x hx => by simp [(hls x hx).1]⟩))
    ht (List.forall_mem_cons.mpr ⟨hothers, fun x hx j hj => by rw [(hls x hx).2.2] at hj; cases hj⟩) hfresh hcn hf,
    tabG_S2 d0 _ _ ls n t fun l hl => (hls l hl).2.1]
end Spydr.Verilog.Elab
