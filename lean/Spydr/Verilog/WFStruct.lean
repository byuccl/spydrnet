/-
  Verilog engine — the decidable predicate `structWF`, `structWF_iff`, the theorems for any text / any syntax tree,
  and the witness that `pending` is not emptied.
-/
import Spydr.Verilog.WFDesign
namespace Spydr.Verilog.Elab
open Spydr.Verilog

def rowOKb (d : Def) (row : List (Option Nat)) : Bool :=
  row.all (fun p => match p with | some w => (wiresOf d).contains w | none => true)

def defWFb (d : Def) : Bool :=
  decide ((d.ports.filterMap (·.name)).Nodup) && decide ((d.cables.map (·.name)).Nodup) &&
  decide ((d.insts.map (·.name)).Nodup) && d.ports.all (fun p => rowOKb d p.pins) &&
  d.insts.all (fun i => i.pins.all (rowOKb d))

def globalWFb (L : List Shape) : Bool :=
  decide ((L.map (·.1)).Nodup) &&
  L.all (fun sh => sh.2.2.all (fun ir => L.any (fun sh' => sh'.1 == ir.1))) &&
  L.all (fun sh => sh.2.2.all (fun ir => L.all (fun sh' => sh'.1 != ir.1 || ir.2 == sh'.2.1)))

/-- **StructWF** (decidable): every definition is well-formed inside (distinct names of named ports / nets / instances,
    every connected pin on a wire of a net of the same definition); across definitions: distinct names, every instance's
    module is in the table, every instance has one pin row per port of its module, each exactly as wide as the port is in the same table;
    the top, if any, is in the table -/
def structWF (s : St) : Bool :=
  s.defs.all defWFb && globalWFb (s.defs.map shape) &&
  (match s.top with | none => true | some t => s.defs.any (fun d => d.name == t))

theorem rowOKb_iff (d : Def) (row : List (Option Nat)) : rowOKb d row = true ↔ RowOK d row := by
  simp [rowOKb, RowOK, Option.forall]

theorem defWFb_iff (d : Def) : defWFb d = true ↔ DefWF d := by
  simp only [defWFb, Bool.and_eq_true, decide_eq_true_eq, List.all_eq_true, rowOKb_iff]
  exact ⟨fun ⟨⟨⟨⟨h1, h2⟩, h3⟩, h4⟩, h5⟩ => ⟨h1, h2, h3, h4, h5⟩,
    fun h => ⟨⟨⟨⟨h.ports, h.cables⟩, h.insts⟩, h.ppins⟩, h.ipins⟩⟩

theorem globalWFb_iff (L : List Shape) : globalWFb L = true ↔ GlobalWF L := by
  simp only [globalWFb, Bool.and_eq_true, decide_eq_true_eq, List.all_eq_true, List.any_eq_true, beq_iff_eq,
    Bool.or_eq_true, bne_iff_ne, ne_eq, ← Decidable.imp_iff_not_or]
  exact ⟨fun ⟨⟨h1, h2⟩, h3⟩ => ⟨h1, h2, h3⟩, fun h => ⟨⟨h.names, h.closed⟩, h.mirror⟩⟩

theorem structWF_iff (s : St) : structWF s = true ↔ TableWF s := by
  have htop : (match s.top with | none => true | some t => s.defs.any (fun d => d.name == t)) = true ↔
      ∀ t, s.top = some t → ∃ d ∈ s.defs, d.name = t := by cases s.top <;> simp
  simp only [structWF, Bool.and_eq_true, List.all_eq_true, defWFb_iff, globalWFb_iff, htop]
  exact ⟨fun ⟨⟨h1, h2⟩, h3⟩ => ⟨h1, h2, h3⟩, fun h => ⟨⟨h.defs, h.glob⟩, h.top⟩⟩

/-- **reader_structWF.**  For ANY text: what the reader accepts satisfies StructWF. -/
theorem reader_structWF (text : String) (s : St) (h : Parse.readV text = .ok s) : structWF s = true :=
  (structWF_iff s).mpr (readV_wf text s h)

/-- the same for any syntax tree -/
theorem elab_structWF (ms : List Module) (s : St) (h : elabDesign ms = .ok s) : structWF s = true :=
  (structWF_iff s).mpr (elabDesign_wf ms s h)

/-- `pending = []` is NOT a property of accepted designs: the list of deferred positional maps is processed at the end
    of the file but never emptied (neither in the model nor in `VerilogParser.implicitly_mapped_ports`) -/
def exPending : List Module :=
  [⟨"m", false, [], [], [], [.inst "X" "u" [] [] false [(none, .empty)]]⟩]

theorem pending_not_emptied : ∃ s, elabDesign exPending = .ok s ∧ s.pending ≠ [] := by
  have : (match elabDesign exPending with | .ok s => s.pending.length | .error _ => 0) = 1 := by decide
  cases h : elabDesign exPending with
  | error e => rw [h] at this; cases this
  | ok s => rw [h] at this; exact ⟨s, rfl, fun e => by simp only [e] at this; cases this⟩
end Spydr.Verilog.Elab
