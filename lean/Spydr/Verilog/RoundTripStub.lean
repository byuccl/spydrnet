/-
  Body port declarations `dir [msb:lsb] name ;`.  `portDecl_single`: the one trace of the real `portDecl` for a name whose
  net exists and sits on one port, of any present width, the definition instanced anywhere (net and port are resized in
  place, row `k` of the instances grows with the port, free pins are wired index by index).  `portDecl_stub`: the
  writer's module shape, where a header that lists bare names (`module m (a, b);`) has created one-bit stubs.
-/
import Spydr.Verilog.RoundTripShape
namespace Spydr.Verilog.Elab
open Spydr.Verilog

def stubLo : Option (Int × Int) → Int
  | none => 0
  | some (_, b) => b

def stubExtra : Option (Int × Int) → Nat
  | none => 0
  | some (a, b) => (a - b).toNat

/-- ranges as the writer prints them: `[msb:lsb]` with `msb ≥ lsb` -/
def rngOK : Option (Int × Int) → Prop
  | none => True
  | some (a, b) => b ≤ a

theorem resizePort_defining (lo : Int) (w : Nat) (l r : Option Int) :
    resizePort lo w l r true = resizeCable lo w l r true := by
  unfold resizePort resizeCable
  cases inRange l r with
  | none => rfl
  | some p =>
    obtain ⟨a, b⟩ := p
    simp only [if_true]
    split
    · have h1 : ¬ a < a := by omega
      have h2 : ¬ b > a + (w : Int) - 1 := by omega
      simp [h1, h2]
    · rfl

def declPost (rng : Option (Int × Int)) (len : Nat) : Nat :=
  match rng with
  | none => 0
  | some (a, b) => (a - b + 1 - (len : Int)).toNat

def declLo (rng : Option (Int × Int)) (lo : Int) : Int :=
  match rng with
  | none => lo
  | some (_, b) => b

/-- the declared range is written msb first and has room for the `len` bits that exist -/
def lenOK (rng : Option (Int × Int)) (len : Nat) : Prop :=
  match rng with
  | none => len = 1
  | some (a, b) => b ≤ a ∧ (len : Int) ≤ a - b + 1

def lenOKb (rng : Option (Int × Int)) (len : Nat) : Bool :=
  match rng with
  | none => decide (len = 1)
  | some (a, b) => decide (b ≤ a) && decide ((len : Int) ≤ a - b + 1)

theorem lenOK_of_b (rng : Option (Int × Int)) (len : Nat) (h : lenOKb rng len = true) : lenOK rng len := by
  cases rng with
  | none => simpa [lenOKb, lenOK] using h
  | some p => obtain ⟨a, b⟩ := p; simpa [lenOKb, lenOK] using h

theorem resizeCable_decl (rng : Option (Int × Int)) (lo : Int) (len : Nat) (h : lenOK rng len) :
    resizeCable lo len (rngL rng) (rngR rng) true = ⟨declLo rng lo, 0, declPost rng len⟩ := by
  cases rng with
  | none => rfl
  | some p =>
    obtain ⟨a, b⟩ := p
    simp only [lenOK] at h
    simp only [resizeCable, rngL, rngR, Option.map_some, inRange, if_true, declLo, declPost]
    have h1 : min a b = b := by omega
    have h2 : max a b = a := by omega
    rw [h1, h2]
    have h3 : ¬ b < b := by omega
    simp only [h3, if_false]
    congr 1
    · simp
    · split <;> omega

theorem resizePort_decl (rng : Option (Int × Int)) (lo : Int) (len : Nat) (h : lenOK rng len) :
    resizePort lo len (rngL rng) (rngR rng) true = ⟨declLo rng lo, 0, declPost rng len⟩ :=
  (resizePort_defining lo len _ _).trans (resizeCable_decl rng lo len h)

theorem getWires_decl (rng : Option (Int × Int)) (lo : Int) (len : Nat) (h : lenOK rng len) (xs : List Nat)
    (hx : xs.length = len + declPost rng len) :
    getWires ⟨declLo rng lo, xs⟩ (rngL rng) (rngR rng) = some xs.reverse := by
  cases rng with
  | none => rfl
  | some p =>
    obtain ⟨a, b⟩ := p
    simp only [lenOK] at h
    simp only [declPost] at hx
    simp only [getWires, rngL, rngR, Option.map_some, declLo]
    have h1 : min (a - b) (b - b) = 0 := by omega
    have h2 : max (a - b) (b - b) + 1 = (xs.length : Int) := by omega
    rw [h1, h2, pySlice_inrange _ _ _ (by omega) (by omega) (by omega)]
    simp

/-- the one-bit stub at index 0 under a range as the writer prints it -/
theorem stub_decl (rng : Option (Int × Int)) (h : rngOK rng) :
    lenOK rng 1 ∧ declLo rng 0 = stubLo rng ∧ declPost rng 1 = stubExtra rng := by
  cases rng with
  | none => exact ⟨rfl, rfl, rfl⟩
  | some p =>
    obtain ⟨a, b⟩ := p
    have hab : b ≤ a := h
    exact ⟨⟨hab, by omega⟩, rfl, by simp [declPost, stubExtra]⟩

theorem filter_range_single (p : Nat → Bool) : ∀ (n k : Nat), k < n → p k = true →
    (∀ j, j < n → j ≠ k → p j = false) → (List.range n).filter p = [k] := by
  intro n k hk hpk hnp
  -- on `range n` the test `p` is `· == k`
  have hp : ∀ j ∈ List.range n, p j = (j == k) := by
    intro j hj
    by_cases e : j = k
    · simp [e, hpk]
    · simp [e, hnp j (List.mem_range.mp hj) e]
  rw [List.filter_congr hp, List.filter_beq, List.nodup_range.count, if_pos (List.mem_range.mpr hk)]
  rfl

/-- filling the still unconnected pins of a port with the wires of its cable, index by index -/
theorem fill_all (ws : List Nat) (f : List (Option Nat) → Nat → List (Option Nat))
    (hf1 : ∀ row i v, row.getD i none = some v → f row i = row)
    (hf2 : ∀ row i, row.getD i none = none → f row i = row.set i (some (ws.getD i 0)))
    (row : List (Option Nat)) (hl : row.length = ws.length)
    (hall : ∀ i, i < ws.length → row.getD i none = none ∨ row.getD i none = some (ws.getD i 0)) :
    (List.range ws.length).foldl f row = ws.map some := by
  -- after `n` steps the first `n` pins carry their wires, the others are as they were
  have key : ∀ n, n ≤ ws.length → (List.range n).foldl f row = (ws.map some).take n ++ row.drop n := by
    intro n
    induction n with
    | zero => intro _; rfl
    | succ n ih =>
      intro hn
      rw [List.range_succ, List.foldl_append, ih (by omega), List.foldl_cons, List.foldl_nil]
      generalize hX : (ws.map some).take n ++ row.drop n = X
      have hA : ((ws.map some).take n).length = n := by simp; omega
      have hXn : X.getD n none = row.getD n none := by
        rw [← hX, List.getD_eq_getElem?_getD, List.getElem?_append_right (by omega), hA, Nat.sub_self,
          List.getElem?_drop]; rfl
      have hstep : f X n = X.set n (some (ws.getD n 0)) := by
        rcases hall n (by omega) with h | h
        · exact hf2 X n (hXn.trans h)
        · rw [hf1 X n _ (hXn.trans h), ← h, ← hXn, set_getD_self]
      rw [hstep, ← hX, List.set_append_right _ _ (by omega), hA, Nat.sub_self,
        List.drop_eq_getElem_cons (by omega : n < row.length), List.set_cons_zero,
        List.take_succ_eq_append_getElem (by simp; omega : n < (ws.map some).length)]
      simp [List.getD_eq_getElem?_getD, List.getElem?_eq_getElem (show n < ws.length by omega)]
  rw [key ws.length (Nat.le_refl _), List.take_of_length_le (by simp), List.drop_of_length_le (by omega),
    List.append_nil]

/-- the one port with a pin on one of the wires is what `get_all_ports_from_wires` finds -/
theorem portsOnWires_single (d : Def) (k : Nat) (ws : List Nat) (hk : k < d.ports.length) (w0 : Nat)
    (hin : some w0 ∈ (d.ports.getD k default).pins) (hw0 : w0 ∈ ws)
    (hout : ∀ j, j < d.ports.length → j ≠ k → ∀ w, some w ∈ (d.ports.getD j default).pins → w ∉ ws) :
    portsOnWires d ws = [k] := by
  unfold portsOnWires
  apply filter_range_single _ _ k hk
  · exact List.any_eq_true.mpr ⟨some w0, hin, by simpa using hw0⟩
  · intro j hj hne
    rw [List.any_eq_false]
    intro p hp
    cases p with
    | none => simp
    | some w => simpa using hout j hj hne w hp

def grownCable (c0 : Cable) (rng : Option (Int × Int)) (next : Nat) : Cable :=
  { c0 with lower := stubLo rng, wires := c0.wires ++ ids next (stubExtra rng) }

def grownPort (p0 : Port) (dir : Dir) (rng : Option (Int × Int)) (ws : List Nat) (attrs : Attrs) : Port :=
  { p0 with lower := stubLo rng, pins := ws.map some, dir := dir,
            attrs := if attrs.isEmpty then p0.attrs else some attrs }

theorem createOrUpdateCable_has (s : St) (dn name : String) (l r : Option Int) (vt : Option String) (df : Bool)
    (d : Def) (c : Cable) (rz : Resize) (hd : Has s dn d) (hc : d.cables.find? (fun c => c.name == name) = some c)
    (hrz : resizeCable c.lower c.wires.length l r df = rz) :
    createOrUpdateCable s dn name l r vt df = .ok (s.put dn (setCable name { c with
      lower := rz.lower, wires := ids s.next rz.pre ++ c.wires ++ ids (s.next + rz.pre) rz.post,
      ctype := vt.or c.ctype } d) (s.next + rz.pre + rz.post)) := by
  rw [createOrUpdateCable_eq hd]
  simp only [cableUpd, hc, hrz]

theorem find_setCable (d : Def) (name : String) (c0 c : Cable) (hc : HasCable d name c0) (hn : c.name = name) :
    (setCable name c d).cables.find? (fun x => x.name == name) = some c := by
  simp only [setCable]
  rw [find?_map_keep Cable.name (· == name) _ fun x => by by_cases e : x.name = name <;> simp [e, hn], hc.find]
  simp [hc.2.1]

theorem map_attr_single (ps : List Port) (k : Nat) (name : String) (P : Port) (a : Attrs)
    (hn : (ps.map (·.name)).Nodup) (hk : k < ps.length) (hP : ps.getD k default = P) (hPn : P.name = some name) :
    ps.map (fun p => if p.name == some name then { p with attrs := some a } else p) = ps.set k { P with attrs := some a } := by
  have hPk : ps[k] = P := by simpa [List.getD_eq_getElem?_getD, List.getElem?_eq_getElem hk] using hP
  apply List.ext_getElem (by simp)
  intro j h1 _
  rw [List.getElem_map, List.getElem_set]
  by_cases e : k = j
  · subst e
    simp [hPk, hPn]
  · -- no other port has that name
    have hj : j < ps.length := by simpa using h1
    have hne : ps[j].name ≠ some name := fun h => e ((List.getElem_inj hn).mp
      (show (ps.map (·.name))[k]'(by simpa using hk) = (ps.map (·.name))[j]'(by simpa using hj) by
        simp [h, hPk, hPn]))
    simp [e, hne]

theorem portIdx_set_same (d : Def) (name : String) (k : Nat) (P : Port) (hk : portIdx d name = some k)
    (hP : P.name = some name) : portIdx (putPort k P d) name = some k := by
  unfold portIdx at hk ⊢
  simp only [putPort]
  rw [List.findIdx?_eq_some_iff_getElem] at hk ⊢
  obtain ⟨hlt, hp, hbefore⟩ := hk
  refine ⟨by simpa using hlt, ?_, ?_⟩
  · simp [hP]
  · intro j hj
    rw [List.getElem_set_ne (by omega)]
    exact hbefore j hj

/-- `portDecl` for a name whose net exists and whose wires, once the net is resized, sit on exactly one port `k`: net and
    port are resized in place, row `k` of every instance of the definition grows with the port, the port gets direction
    and attributes, and its free pins are wired index by index -/
theorem portDecl_single (s : St) (dn name pname : String) (dir : Dir) (vt : Option String) (rng : Option (Int × Int))
    (attrs : Attrs) (d : Def) (c C : Cable) (k : Nat) (p P : Port) (rc rp : Resize) (ws : List Nat)
    (hd : Has s dn d) (hself : ∀ i ∈ d.insts, i.ref ≠ dn) (hc : HasCable d name c)
    (hpn : attrs.isEmpty = false → (d.ports.map (·.name)).Nodup)
    (hk : portIdx d pname = some k) (hp : d.ports.getD k default = p) (hpname : p.name = some pname)
    (hrc : resizeCable c.lower c.wires.length (rngL rng) (rngR rng) true = rc)
    (hrp : resizePort p.lower p.pins.length (rngL rng) (rngR rng) true = rp)
    (hC : C = { c with lower := rc.lower, wires := ids s.next rc.pre ++ c.wires ++ ids (s.next + rc.pre) rc.post,
                       ctype := vt.or c.ctype })
    (hP : P = { p with lower := rp.lower, pins := padRz rp p.pins,
                       dir := dir, attrs := if attrs.isEmpty then p.attrs else some attrs })
    (hgw : getWires ⟨C.lower, C.wires⟩ (rngL rng) (rngR rng) = some ws) (hpow : portsOnWires d ws = [k])
    (hlen : P.pins.length = C.wires.length)
    (hall : ∀ i, i < C.wires.length → P.pins.getD i none = none ∨ P.pins.getD i none = some (C.wires.getD i 0))
    (hone : C.wires.length ≤ 1 → P.pins = C.wires.map some) :
    portDecl s dn dir vt rng name attrs =
      .ok ((mapInstRows s dn k (padRz rp)).put dn (putPort k { P with pins := C.wires.map some } (setCable name C d))
        (s.next + rc.pre + rc.post)) := by
  have hklt := portIdx_lt hk
  have h1 : createOrUpdateCable s dn name (rngL rng) (rngR rng) vt true =
      .ok (s.put dn (setCable name C d) (s.next + rc.pre + rc.post)) := by
    rw [createOrUpdateCable_eq hd, hC]; simp only [cableUpd, hc.find, hrc]
  generalize s.next + rc.pre + rc.post = n1 at h1 ⊢
  have hd1 : Has (s.put dn (setCable name C d) n1) dn (setCable name C d) := hd.put _ _ rfl
  have hfc : (setCable name C d).cables.find? (fun x => x.name == name) = some C :=
    find_setCable d name c C hc (by rw [hC]; exact hc.2.1)
  have hpow1 : portsOnWires (setCable name C d) ws = [k] := hpow
  have hnm : ((setCable name C d).ports.getD k default).name.getD "" = pname := by
    show ((d.ports.getD k default).name).getD "" = pname
    rw [hp, hpname]; rfl
  -- the port is resized, and with it row `k` of the instances
  generalize hS : mapInstRows s dn k (padRz rp) = S
  have hdS : Has S dn d := hS ▸ hd.mapRows_ref dn hself k _
  generalize hP1 : ({ p with lower := rp.lower, dir := dir, pins := padRz rp p.pins } : Port) = P1
  have hP1n : P1.name = some pname := by rw [← hP1]; exact hpname
  have h3 : createOrUpdatePort (s.put dn (setCable name C d) n1) dn pname (rngL rng) (rngR rng) (some dir) true =
      .ok (S.put dn (putPort k P1 (setCable name C d)) n1) := by
    rw [createOrUpdatePort_eq hd1]
    simp only [portUpd, show portIdx (setCable name C d) pname = some k from hk,
      show (setCable name C d).ports.getD k default = p from hp, hrp]
    rw [St.put_put s dn (setCable name C d) _ _ _ hd.2.1,
      mapInstRows_put_comm s dn k _ (putPort k _ (setCable name C d)) _ hself, hS, ← hP1]
    rfl
  -- it gets the attributes: no other port has its name
  have hPP : P = { P1 with attrs := if attrs.isEmpty then P1.attrs else some attrs } := by rw [hP, ← hP1]
  have h4 : (if attrs.isEmpty = true then S.put dn (putPort k P1 (setCable name C d)) n1
      else (S.put dn (putPort k P1 (setCable name C d)) n1).upd dn (fun d => { d with ports := d.ports.map (fun p =>
        if p.name == some pname then { p with attrs := some attrs } else p) })) =
      S.put dn (putPort k P (setCable name C d)) n1 := by
    split
    · rename_i he
      rw [hPP]; simp only [he, if_true]
    · rename_i he
      rw [St.put_upd S dn (putPort k P1 (setCable name C d)) _ _ hd.2.1]
      congr 1
      simp only [putPort, setCable]
      congr 1
      rw [List.map_set, map_attr_single d.ports k pname p attrs (hpn (by simpa using he)) hklt hp hpname, List.set_set, hPP]
      simp [he, hP1n]
  have hd4 : Has (S.put dn (putPort k P (setCable name C d)) n1) dn (putPort k P (setCable name C d)) :=
    hdS.put _ _ rfl
  have hfc4 : (putPort k P (setCable name C d)).cables.find? (fun x => x.name == name) = some C := hfc
  have hk4 : portIdx (putPort k P (setCable name C d)) pname = some k :=
    portIdx_set_same _ pname k P hk (by rw [hPP]; exact hP1n)
  have hget4 : (putPort k P (setCable name C d)).ports.getD k default = P := getD_set_self _ k P _ hklt
  unfold portDecl
  simp only [bind, Except.bind, h1, getDef_has hd1, hfc, hgw, hpow1, hnm, h3, pure, Except.pure]
  rw [h4]
  simp only [getDef_has hd4, hfc4, hk4, hget4]
  -- the free pins are wired (a one-bit port is left as it is)
  by_cases hlen1 : C.wires.length > 1
  · have hpl : (P.pins.length != C.wires.length) = false := by simp [hlen]
    simp only [hlen1, if_true, hpl, Bool.false_eq_true, if_false]
    rw [fill_all C.wires _ (fun row i v h => by simp only [h]) (fun row i h => by simp only [h]) P.pins hlen hall,
      St.put_upd S dn (putPort k P (setCable name C d)) _ _ hd.2.1]
    simp only [putPort, List.set_set]
  · simp only [hlen1, if_false]
    rw [← hone (by omega)]

/-- **portDecl_stub.**  `input [msb:lsb] name ;` in the body of a module whose header listed `name`: the one-bit
    stub port and cable grow to the declared range, the port gets its direction (and attributes), every new pin
    is wired to the new wire of the same index. -/
theorem portDecl_stub (s : St) (dn : String) (d : Def) (k : Nat) (name : String) (dir : Dir) (rng : Option (Int × Int))
    (attrs : Attrs) (p0 : Port) (c0 : Cable) (w0 : Nat)
    (hd : Has s dn d) (hnr : NoRef s dn) (hr : rngOK rng)
    (hk : portIdx d name = some k) (hpn : (d.ports.map (·.name)).Nodup)
    (hp0 : d.ports.getD k default = p0) (hp0n : p0.name = some name) (hp0l : p0.lower = 0) (hp0p : p0.pins = [some w0])
    (hc : HasCable d name c0) (hc0l : c0.lower = 0) (hc0w : c0.wires = [w0])
    (hown : ∀ j, j < d.ports.length → j ≠ k → ∀ w, some w ∈ (d.ports.getD j default).pins → w ≠ w0 ∧ w < s.next) :
    portDecl s dn dir none rng name attrs = .ok (withNext (s.upd dn (fun x => { x with
      ports := x.ports.set k (grownPort p0 dir rng (w0 :: ids s.next (stubExtra rng)) attrs),
      cables := x.cables.map (fun y => if y.name == name then grownCable c0 rng s.next else y) }))
      (s.next + stubExtra rng)) := by
  obtain ⟨hok, hlo, hpost⟩ := stub_decl rng hr
  have hrz : resizeCable 0 1 (rngL rng) (rngR rng) true = ⟨stubLo rng, 0, stubExtra rng⟩ :=
    hlo ▸ hpost ▸ resizeCable_decl rng 0 1 hok
  have hCw : (grownCable c0 rng s.next).wires = w0 :: ids s.next (stubExtra rng) := by simp [grownCable, hc0w]
  have hCl : (grownCable c0 rng s.next).wires.length = stubExtra rng + 1 := by rw [hCw]; simp [ids]
  rw [upd_eq_put s dn d _ _ hd,
    portDecl_single s dn name name dir none rng attrs d c0 (grownCable c0 rng s.next) k p0
      { p0 with lower := stubLo rng, pins := some w0 :: List.replicate (stubExtra rng) none, dir := dir,
                attrs := if attrs.isEmpty then p0.attrs else some attrs }
      ⟨stubLo rng, 0, stubExtra rng⟩ ⟨stubLo rng, 0, stubExtra rng⟩ _ hd (hnr d hd.1) hc (fun _ => hpn) hk hp0 hp0n
      (by rw [hc0l, hc0w]; exact hrz) (by rw [hp0l, hp0p, resizePort_defining]; exact hrz) rfl (by rw [hp0p]; rfl)
      (hlo ▸ getWires_decl rng 0 1 hok _ (by rw [hCl, hpost, Nat.add_comm])) ?owns (by rw [hCl]; simp) ?free ?onebit, mapInstRows_noref s dn k _ hnr]
  · simp only [putPort, setCable, grownPort, hCw, Nat.add_zero]
  case owns =>
    -- port `k` has the stub wire as its pin; the other wires of the net are new
    apply portsOnWires_single d k _ (portIdx_lt hk) w0
    · rw [hp0, hp0p]; simp
    · simp [hCw]
    · intro j hj hne w hw hm
      obtain ⟨h1, h2⟩ := hown j hj hne w hw
      rcases List.mem_cons.mp (hCw ▸ List.mem_reverse.mp hm) with e | e
      · exact h1 e
      · have := ids_ge _ _ _ e; omega
  case free =>
    intro i hi
    rw [hCw]
    cases i with
    | zero => right; rfl
    | succ i =>
      left
      rw [List.getD_cons_succ, List.getD_eq_getElem?_getD, List.getElem?_replicate]
      split <;> rfl
  case onebit =>
    intro h
    have hex : stubExtra rng = 0 := by omega
    rw [hCw, hex]; rfl
end Spydr.Verilog.Elab
