/-
  `ReaderShape` discharged for the reader's own output (fragment designs).
-/
import Spydr.Verilog.RoundTripDesign
import Spydr.Verilog.Props.C04Emit
import Spydr.Verilog.ViewSpec
namespace Spydr.Verilog.Elab
open Spydr.Verilog

def InCables (d : Def) (w : Nat) : Prop := ∃ c ∈ d.cables, w ∈ c.wires

theorem atomWires_mem (d : Def) (a : XAtom) (ws : List Nat) (h : atomWires d a = some ws) :
    ∀ w ∈ ws, InCables d w := by
  intro w hw
  unfold atomWires at h
  cases hf : d.cables.find? (fun c => c.name == (atomParts a).1) with
  | none => simp [hf] at h
  | some c =>
    simp only [hf] at h
    split at h
    · exact ⟨c, List.mem_of_find?_eq_some hf, getWires_mem _ _ _ _ h w hw⟩
    · cases h

theorem atomsWires_mem (d : Def) : ∀ (as : List XAtom) (ws : List Nat), atomsWires d as = some ws →
    ∀ w ∈ ws, InCables d w := by
  intro as
  induction as with
  | nil => intro ws h w hw; cases h; cases hw
  | cons a as ih =>
    intro ws h w hw
    obtain ⟨x, y, h1, h2, rfl⟩ := atomsWires_cons_some h
    rcases List.mem_append.mp hw with e | e
    · exact atomWires_mem d a x h1 w e
    · exact ih y h2 w e

theorem exprWires_mem (d : Def) (e : XExpr) (ws : List Nat) (h : exprWires d e = some ws) :
    ∀ w ∈ ws, InCables d w := by
  cases e with
  | empty => simp [exprWires] at h; subst h; intro w hw; cases hw
  | atom a => exact atomWires_mem d a ws h
  | cat as => exact atomsWires_mem d as ws h

/-- the shape of one row of instance pins in the reader's table: a connected block at the low end whose
    wires all belong to cables of the enclosing definition, free pins above -/
def RowShape (d : Def) (row : List (Option Nat)) : Prop :=
  ∃ (blk : List Nat) (m : Nat), row = blk.map some ++ List.replicate m none ∧ ∀ w ∈ blk, InCables d w

theorem connStep_shape (d rd : Def) (rows rows' : List (List (Option Nat))) (c : String × XExpr)
    (hs : ∀ row ∈ rows, RowShape d row) (h : connStep d rd rows c = some rows') :
    ∀ row ∈ rows', RowShape d row := by
  obtain ⟨k, _, _, hkl, ⟨_, _, rfl⟩ | ⟨_, ws, hws, h1, _, _, hfree, rfl⟩⟩ := connStep_inv h
  · exact hs
  · intro row hrow
    rcases List.mem_or_eq_of_mem_set hrow with e | e
    · exact hs row e
    · -- the old row has its low `ws.length ≥ 1` pins free, so its connected block is empty
      have hold : rows.getD k [] ∈ rows := by
        rw [List.getD_eq_getElem?_getD, List.getElem?_eq_getElem hkl]; exact List.getElem_mem hkl
      obtain ⟨blk, m, hb, _⟩ := hs _ hold
      have hblk : blk = [] := by
        cases blk with
        | nil => rfl
        | cons b bs =>
          obtain ⟨n, hn⟩ : ∃ n, ws.length = n + 1 := ⟨ws.length - 1, by omega⟩
          rw [hb, hn] at hfree
          simp at hfree
      subst hblk
      exact ⟨ws.reverse, m - ws.length, by rw [e, hb]; simp [List.drop_replicate],
        fun w hw => exprWires_mem d _ ws hws w (List.mem_reverse.mp hw)⟩

theorem foldlM_connStep_shape (d rd : Def) (conns : List (String × XExpr)) :
    ∀ rows rows', (∀ row ∈ rows, RowShape d row) → conns.foldlM (connStep d rd) rows = some rows' →
      ∀ row ∈ rows', RowShape d row :=
  fun _ _ => foldlM_some_inv (fun rows => ∀ row ∈ rows, RowShape d row) (fun c _ rows r1 hs h1 => connStep_shape d rd rows r1 c hs h1)

theorem buildInst_shape (l : String → Option Def) (d : Def) (i : NInst) (inst : Inst) (h : buildInst l d i = some inst) :
    ∀ row ∈ inst.pins, RowShape d row := by
  unfold buildInst at h
  cases hl : l i.mod with
  | none => simp [hl] at h
  | some rd =>
    simp only [hl] at h
    obtain ⟨rows, hr, rfl⟩ := Option.map_eq_some_iff.mp h
    apply foldlM_connStep_shape d rd i.conns _ rows _ hr
    intro row hrow
    obtain ⟨p, _, e⟩ := List.mem_map.mp hrow
    exact ⟨[], p.pins.length, by rw [← e]; rfl, fun w hw => by cases hw⟩

theorem bitOf_valid (d : Def) (hn : (d.cables.map (·.name)).Nodup) (w : Nat) (hw : InCables d w) :
    ∃ b, bitOf d w = some b ∧ ValidBit (envOf d) b := by
  obtain ⟨c0, hc0, hw0⟩ := hw
  unfold bitOf
  have hsome : (d.cables.findSome? (fun c =>
      match c.wires.findIdx? (· == w) with
      | some k => some (⟨c.name, c.lower + (k : Int)⟩ : Bit)
      | none => none)).isSome = true := by
    rw [List.findSome?_isSome_iff]
    refine ⟨c0, hc0, ?_⟩
    have : (c0.wires.findIdx? (· == w)).isSome = true := by
      rw [List.findIdx?_isSome]; simp; exact hw0
    cases hf : c0.wires.findIdx? (· == w) with
    | none => simp [hf] at this
    | some k => rfl
  obtain ⟨b, hb⟩ := Option.isSome_iff_exists.mp hsome
  refine ⟨b, hb, ?_⟩
  obtain ⟨c, hc, hfc⟩ := List.exists_of_findSome?_eq_some hb
  cases hf : c.wires.findIdx? (· == w) with
  | none => simp [hf] at hfc
  | some k =>
    simp only [hf, Option.some.injEq] at hfc
    subst hfc
    have hk : k < c.wires.length := by
      have := List.findIdx?_eq_some_iff_findIdx_eq.mp hf
      exact this.1
    refine ⟨c.lower, c.wires.length, ?_, ?_, ?_⟩
    · unfold envOf
      cases hfind : d.cables.find? (fun x => x.name == c.name) with
      | none =>
        have := List.find?_eq_none.mp hfind c hc
        simp at this
      | some c' =>
        have hm := List.mem_of_find?_eq_some hfind
        have hnm : c'.name = c.name := find_name hfind
        have : c' = c := nodup_map_inj (·.name) d.cables hn c' hm c hc hnm
        subst this; rfl
    · show c.lower ≤ c.lower + (k : Int); omega
    · show c.lower + (k : Int) < c.lower + (c.wires.length : Int); omega

theorem map_bitOf (d : Def) (hn : (d.cables.map (·.name)).Nodup) : ∀ (blk : List Nat), (∀ w ∈ blk, InCables d w) →
    ∃ bs : List Bit, blk.map (fun w => (some w : Option Nat).bind (bitOf d)) = bs.map some ∧
      ∀ b ∈ bs, ValidBit (envOf d) b := by
  intro blk
  induction blk with
  | nil => intro _; exact ⟨[], rfl, fun b hb => by cases hb⟩
  | cons w ws ih =>
    intro h
    obtain ⟨bs, e, hv⟩ := ih (fun x hx => h x (List.mem_cons_of_mem _ hx))
    obtain ⟨b, hb, hvb⟩ := bitOf_valid d hn w (h w List.mem_cons_self)
    refine ⟨b :: bs, ?_, ?_⟩
    · simp only [List.map_cons, e]; simp [hb]
    · intro x hx
      rcases List.mem_cons.mp hx with e | e
      · rw [e]; exact hvb
      · exact hv x e

/-- rows of the table's shape, seen as bits, have the `ReaderShape` that `emit_eval` asks for -/
theorem shape_bits (d : Def) (hn : (d.cables.map (·.name)).Nodup) (row : List (Option Nat)) (h : RowShape d row) :
    ReaderShape (envOf d) (pinBits d row) := by
  obtain ⟨blk, m, e, hv⟩ := h
  obtain ⟨bs, e2, hv2⟩ := map_bitOf d hn blk hv
  refine ⟨bs, m, ?_, hv2⟩
  unfold pinBits
  rw [e, List.map_append, List.map_map, ← e2]
  simp [Function.comp_def]

def GoodDef (D : Def) : Prop :=
  (D.cables.map (·.name)).Nodup ∧ ∀ i ∈ D.insts, ∀ row ∈ i.pins, RowShape D row

theorem buildDef_good (l : String → Option Def) (n : Nat) (m : FMod) (D : Def) (n' : Nat)
    (hwn : (m.ports.map (·.name) ++ m.wires.map (·.name)).Nodup)
    (hb : buildDef l n m = some (D, n')) : GoodDef D := by
  unfold buildDef at hb
  simp only [Option.map_eq_some_iff] at hb
  obtain ⟨built, hbm, hD⟩ := hb
  have hD1 := (Prod.mk.inj hD).1
  subst hD1
  constructor
  · simp only [List.map_append, (buildPorts_names m.ports n).2, buildWires_names]
    exact hwn
  · intro i hi row hrow
    obtain ⟨ni, _, hbi⟩ := mapM_mem _ _ _ hbm i hi
    obtain ⟨blk, k, e, hv⟩ := buildInst_shape _ _ _ _ hbi row hrow
    exact ⟨blk, k, e, hv⟩

theorem buildDesign_good : ∀ (ms : List FMod) (known : List String) (acc : List Def) (n : Nat) (defs : List Def),
    modsOK known ms = true → buildDesign ms acc n = some defs → (∀ D ∈ acc, GoodDef D) → ∀ D ∈ defs, GoodDef D := by
  intro ms
  induction ms with
  | nil => intro known acc n defs _ hb h; cases hb; exact h
  | cons m ms ih =>
    intro known acc n defs hok hb h
    obtain ⟨_, hwn, _, _, _, hrest⟩ := modsOK_cons hok
    obtain ⟨D, n', hbd, hb⟩ := buildDesign_cons hb
    apply ih _ _ _ defs hrest hb
    intro D' hD'
    rcases List.mem_append.mp hD' with e | e
    · exact h D' e
    · rw [List.mem_singleton.mp e]; exact buildDef_good _ _ _ _ _ hwn hbd

/-- **`ReaderShape` for the reader's own output, on the fragment.**  Every row of instance pins in the
    table the real `elabDesign` builds for a fragment design has, seen as bits of the enclosing definition,
    the `ReaderShape` that `emit_eval` assumes: a block of valid bits at the low end, free pins above. -/
theorem reader_shape_frag (ms : List FMod) (hf : fragDesign ms = true) :
    ∃ s, elabDesign (ms.map FMod.toModule) = .ok s ∧
      ∀ D ∈ s.defs, ∀ i ∈ D.insts, ∀ row ∈ i.pins, ReaderShape (envOf D) (pinBits D row) := by
  unfold fragDesign at hf
  simp only [Bool.and_eq_true] at hf
  obtain ⟨hok, hsome⟩ := hf
  obtain ⟨defs, hb⟩ := Option.isSome_iff_exists.mp hsome
  obtain ⟨s, h1, h2, _⟩ := elabDesign_frag ms defs hok hb
  refine ⟨s, h1, ?_⟩
  intro D hD i hi row hrow
  rw [h2] at hD
  have hg := buildDesign_good ms [] [] 0 defs hok hb (fun D hD => by cases hD) D hD
  exact shape_bits D hg.1 row (hg.2 i hi row hrow)

/-- so the writer's port expression for every such row exists and reads back to the same row -/
theorem reader_rows_roundtrip (ms : List FMod) (hf : fragDesign ms = true) :
    ∃ s, elabDesign (ms.map FMod.toModule) = .ok s ∧
      ∀ D ∈ s.defs, ∀ i ∈ D.insts, ∀ row ∈ i.pins, row ≠ [] →
        ∃ e, emitPortExpr (envOf D) (pinBits D row) = some e ∧
          portRoundTrip (pinBits D row) (evalExpr (envOf D) e) = true := by
  obtain ⟨s, h1, h2⟩ := reader_shape_frag ms hf
  refine ⟨s, h1, ?_⟩
  intro D hD i hi row hrow hne
  exact emit_eval_spec (envOf D) (pinBits D row) (by unfold pinBits; simpa using hne) (h2 D hD i hi row hrow)
end Spydr.Verilog.Elab
