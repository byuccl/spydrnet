/-
  Pieces of declarations (`portPU`: with the block comment of an undefined direction), connections, parameter maps,
  assigns and module parameters.
-/
import Spydr.Verilog.PieceExpr
import Spydr.Verilog.TokBody
namespace Spydr.Verilog.Elab
open Spydr.Verilog
open Spydr.Verilog.Text (fixName showInt)

def brP : Option (Int × Int) → List Piece
  | none => []
  | some (a, b) => T "[" ++ T (showInt a) ++ T ":" ++ T (showInt b) ++ T "]"

theorem chars_brP (r : Option (Int × Int)) : pchars (brP r) = (brText r).toList := by
  cases r with
  | none => rfl
  | some p => obtain ⟨a, b⟩ := p; simp [brP, brText, pchars_append, chars_T, String.toList_append]

theorem toks_brP (r : Option (Int × Int)) : ptoks (brP r) = rangeToks r := by
  cases r with
  | none => rfl
  | some p => obtain ⟨a, b⟩ := p; simp [brP, rangeToks, ptoks_append, toks_T]

def portP (p : PDecl) : List Piece :=
  starP p.attrs ++ W4 ++ T (dirStr p.dir) ++ W1 ++ brP p.rng ++ N (fixName p.name) ++ T ";" ++ NL

theorem chars_portP (p : PDecl) : pchars (portP p) = (portLine p).toList := by
  simp only [portP, portLine, pchars_append, chars_starP, chars_W4, chars_W1, chars_T, chars_N, chars_brP, chars_NL,
    String.toList_append]
  have : ";\n".toList = ";".toList ++ "\n".toList := by decide
  rw [this]; simp [List.append_assoc]

theorem dirStr_tok (d : Dir) (h : d ≠ .undef) : dirStr d = dirTok d := by
  cases d <;> first | rfl | exact absurd rfl h

theorem toks_portP (p : PDecl) (h : p.dir ≠ .undef) : ptoks (portP p) = (SItem.port p).toks := by
  simp only [portP, SItem.toks, SItem.attrs, SItem.core, portCore, ptoks_append, toks_starP, toks_W4, toks_W1, toks_T, toks_N,
    toks_brP, toks_NL, dirStr_tok p.dir h, nameT]
  simp

def wireP (w : FWire) : List Piece :=
  starP w.attrs ++ W4 ++ T w.ty ++ W1 ++ brP w.rng ++ N (fixName w.name) ++ T ";" ++ NL

theorem chars_wireP (w : FWire) : pchars (wireP w) = (wireLine w).toList := by
  simp only [wireP, wireLine, pchars_append, chars_starP, chars_W4, chars_W1, chars_T, chars_N, chars_brP, chars_NL,
    String.toList_append]
  have : ";\n".toList = ";".toList ++ "\n".toList := by decide
  rw [this]; simp [List.append_assoc]

theorem toks_wireP (w : FWire) : ptoks (wireP w) = (SItem.wire w).toks := by
  simp only [wireP, SItem.toks, SItem.attrs, SItem.core, ptoks_append, toks_starP, toks_W4, toks_W1, toks_T, toks_N,
    toks_brP, toks_NL, nameT]
  simp

def connP (c : String × PExpr) : List Piece := W8 ++ T "." ++ N (fixName c.1) ++ T "(" ++ exprP c.2 ++ T ")"

theorem chars_connP (c : String × PExpr) : pchars (connP c) = (connLine c).toList := by
  simp only [connP, connLine, pchars_append, chars_W8, chars_T, chars_N, chars_exprP, String.toList_append]
  have : "        .".toList = "        ".toList ++ ".".toList := by decide
  rw [this]

theorem toks_connP (c : String × PExpr) : ptoks (connP c) = connToks (c.1, toXE c.2) := by
  simp only [connP, connToks, ptoks_append, toks_W8, toks_T, toks_N, toks_exprP, nameT]
  simp

def paramP1 (kv : String × String) : List Piece := W8 ++ T "." ++ T kv.1 ++ T "(" ++ valP kv.2 ++ T ")"

def paramP (ps : Params) : List Piece :=
  if ps.isEmpty then [] else
    T "#" ++ T "(" ++ NL ++ List.intercalate (T "," ++ NL) (ps.map paramP1) ++ NL ++ W4 ++ T ")" ++ NL ++ W4

theorem chars_paramP (ps : Params) : pchars (paramP ps) = (paramText ps).toList := by
  unfold paramP paramText Text.instParamsText
  cases ps with
  | nil => rfl
  | cons kv rest =>
    simp only [List.isEmpty_cons, Bool.false_eq_true, if_false, pchars_append, chars_T, chars_NL, chars_W4,
      pchars_intercalate, String.toList_append, String.toList_intercalate, List.map_map]
    have h1 : "#(\n".toList = "#".toList ++ "(".toList ++ "\n".toList := by decide
    have h2 : "\n    )\n".toList = "\n".toList ++ "    ".toList ++ ")".toList ++ "\n".toList := by decide
    have h3 : ",\n".toList = ",".toList ++ "\n".toList := by decide
    rw [h1, h2, h3]
    have hm : (kv :: rest).map (pchars ∘ paramP1) = (kv :: rest).map (String.toList ∘ fun (kv : String × String) =>
        "        ." ++ kv.1 ++ "(" ++ kv.2 ++ ")") := by
      apply List.map_congr_left
      intro x _
      simp only [Function.comp, paramP1, pchars_append, chars_W8, chars_T, chars_valP, String.toList_append]
      have : "        .".toList = "        ".toList ++ ".".toList := by decide
      rw [this]
    rw [hm]
    simp [List.append_assoc]

theorem toks_paramP (ps : Params) : ptoks (paramP ps) = paramToks ps := by
  unfold paramP paramToks
  cases ps with
  | nil => rfl
  | cons kv rest =>
    simp only [List.isEmpty_cons, Bool.false_eq_true, if_false, ptoks_append, toks_T, toks_NL, toks_W4, ptoks_intercalate,
      List.append_nil, List.map_map, sepParams_sep.eq_intercalate]
    have hm : (kv :: rest).map (ptoks ∘ paramP1) = (kv :: rest).map paramToks1 := by
      apply List.map_congr_left
      intro x _
      simp [paramP1, paramToks1, ptoks_append, toks_W8, toks_T, toks_valP]
    rw [hm]
    simp

def dirP : Dir → List Piece
  | .undef => [.self cmtU cmtU] ++ W1 ++ T "inout"
  | .inp => T "input"
  | .out => T "output"
  | .inout => T "inout"

theorem chars_dirP (d : Dir) : pchars (dirP d) = (dirStr d).toList := by
  cases d with
  | undef =>
    simp only [dirP, dirStr, pchars_append, pchars_cons, pchars_nil, Piece.chars, chars_W1, chars_T, cmtU]
    decide
  | inp => simp [dirP, dirStr, chars_T]
  | out => simp [dirP, dirStr, chars_T]
  | inout => simp [dirP, dirStr, chars_T]

theorem toks_dirP (d : Dir) : ptoks (dirP d) = dirToksU d := by
  cases d <;> simp [dirP, dirToksU, dirTok, ptoks_append, ptoks_cons, Piece.toks, toks_W1, toks_T]

def portPU (p : PDecl) : List Piece :=
  starP p.attrs ++ W4 ++ dirP p.dir ++ W1 ++ brP p.rng ++ N (fixName p.name) ++ T ";" ++ NL

theorem chars_portPU (p : PDecl) : pchars (portPU p) = (portLine p).toList := by
  simp only [portPU, portLine, pchars_append, chars_starP, chars_W4, chars_W1, chars_T, chars_N, chars_brP, chars_NL,
    chars_dirP, String.toList_append]
  have : ";\n".toList = ";".toList ++ "\n".toList := by decide
  rw [this]; simp [List.append_assoc]

theorem toks_portPU (p : PDecl) (ha : p.attrs = []) : ptoks (portPU p) = portCoreU p := by
  simp only [portPU, portCoreU, ptoks_append, toks_starP, toks_W4, toks_W1, toks_T, toks_N, toks_brP, toks_NL, toks_dirP,
    ha, starToks, nameT]
  simp

def asgP (lr : Atom × Atom) : List Piece :=
  T "assign" ++ W1 ++ atomP lr.1 ++ W1 ++ T "=" ++ W1 ++ atomP lr.2 ++ T ";" ++ NL

theorem chars_asgP (lr : Atom × Atom) : pchars (asgP lr) = (asgLine lr).toList := by
  simp only [asgP, asgLine, pchars_append, chars_T, chars_W1, chars_NL, chars_atomP, String.toList_append]
  have h1 : "assign ".toList = "assign".toList ++ " ".toList := by decide
  have h2 : " = ".toList = " ".toList ++ "=".toList ++ " ".toList := by decide
  have h3 : ";\n".toList = ";".toList ++ "\n".toList := by decide
  rw [h1, h2, h3]
  simp [List.append_assoc]

theorem toks_asgP (lr : Atom × Atom) : ptoks (asgP lr) = (SItem.asg (toX lr.1) (toX lr.2)).toks := by
  simp only [asgP, SItem.toks, SItem.attrs, SItem.core, starToks, ptoks_append, toks_T, toks_W1, toks_NL, toks_atomP,
    List.isEmpty_nil, if_true]
  simp

def keyP (k : String) : List Piece :=
  match splitKey k with
  | some (l, r, nm) => T "[" ++ T (showInt l) ++ T ":" ++ T (showInt r) ++ T "]" ++ W1 ++ T nm
  | none => T k

theorem chars_keyP (k : String) : pchars (keyP k) = k.toList := by
  unfold keyP
  cases hs : splitKey k with
  | none => simp [chars_T]
  | some x =>
    obtain ⟨l, r, nm⟩ := x
    have hk := splitKey_sound k l r nm hs
    simp only [pchars_append, chars_T, chars_W1]
    rw [hk]
    unfold keyRanged
    simp [toString, showInt, String.toList_append, List.append_assoc]

theorem toks_keyP (k : String) : ptoks (keyP k) = mpKeyToks k := by
  unfold keyP mpKeyToks
  cases hs : splitKey k with
  | none => simp [toks_T]
  | some x =>
    obtain ⟨l, r, nm⟩ := x
    simp [ptoks_append, toks_T, toks_W1]

def mparamP1 (kv : String × String) : List Piece :=
  NL ++ W4 ++ T "parameter" ++ W1 ++ keyP kv.1 ++ W1 ++ T "=" ++ W1 ++ valP kv.2

def mparamP (ps : Params) : List Piece :=
  if ps.isEmpty then [] else T "#" ++ T "(" ++ List.intercalate (T ",") (ps.map mparamP1) ++ NL ++ T ")"

theorem chars_mparamP (ps : Params) : pchars (mparamP ps) = (mparamsText ps).toList := by
  unfold mparamP mparamsText
  cases ps with
  | nil => rfl
  | cons kv rest =>
    simp only [List.isEmpty_cons, Bool.false_eq_true, if_false, pchars_append, chars_T, chars_NL, pchars_intercalate,
      String.toList_append, String.toList_intercalate, List.map_map]
    have h1 : "#(".toList = "#".toList ++ "(".toList := by decide
    have h2 : "\n)".toList = "\n".toList ++ ")".toList := by decide
    rw [h1, h2]
    have hm : (kv :: rest).map (pchars ∘ mparamP1) = (kv :: rest).map (String.toList ∘ mparamLine) := by
      apply List.map_congr_left
      intro x _
      simp only [Function.comp, mparamP1, mparamLine, pchars_append, chars_NL, chars_W4, chars_W1, chars_T, chars_valP,
        chars_keyP, String.toList_append]
      have e1 : "\n    parameter ".toList = "\n".toList ++ "    ".toList ++ "parameter".toList ++ " ".toList := by decide
      have e2 : " = ".toList = " ".toList ++ "=".toList ++ " ".toList := by decide
      rw [e1, e2]
      simp [List.append_assoc]
    rw [hm]
    simp [List.append_assoc]

theorem mpToks_eq : ∀ (a : Params), a ≠ [] →
    "parameter" :: mpToks a = List.intercalate [","] (a.map (fun kv => "parameter" :: (mpKeyToks kv.1 ++ ["=", kv.2])))
  | [], h => absurd rfl h
  | [a], _ => by simp [mpToks, List.intercalate]
  | a :: b :: t, _ => by
    have ih := mpToks_eq (b :: t) (by simp)
    simp only [mpToks, List.intercalate, List.intersperse, List.map_cons, List.flatten_cons] at ih ⊢
    rw [← ih]; simp

theorem toks_mparamP (ps : Params) : ptoks (mparamP ps) = mparamToks ps := by
  unfold mparamP mparamToks
  cases ps with
  | nil => rfl
  | cons kv rest =>
    simp only [List.isEmpty_cons, Bool.false_eq_true, if_false, ptoks_append, toks_T, toks_NL, ptoks_intercalate,
      List.append_nil, List.map_map]
    have hm : (kv :: rest).map (ptoks ∘ mparamP1) = (kv :: rest).map (fun kv => "parameter" :: (mpKeyToks kv.1 ++ ["=", kv.2])) := by
      apply List.map_congr_left
      intro x _
      simp [mparamP1, ptoks_append, toks_NL, toks_W4, toks_W1, toks_T, toks_valP, toks_keyP]
    rw [hm, ← mpToks_eq (kv :: rest) (by simp)]
    simp

end Spydr.Verilog.Elab
