/-
  From wire ids to bits.  In a definition whose wire ids are distinct the wires the reader finds for an expression are
  the value `evalExpr` of that expression (`exprWires_eval`); every definition `buildW3` builds has distinct wire ids
  (`buildW3_WF`); hence the rows of the instances of a written module carry the value of the connected expressions,
  low-aligned (`instStep2_den`).
-/
import Spydr.Verilog.RoundTripSingle
namespace Spydr.Verilog.Elab
open Spydr.Verilog

theorem pySlice_map {α β : Type} (f : α → β) (xs : List α) (lo hi : Int) :
    pySlice (xs.map f) lo hi = (pySlice xs lo hi).map f := by
  unfold pySlice
  simp [List.map_take, List.map_drop]

theorem pyIndex_map {α β : Type} (f : α → β) (xs : List α) (i : Int) :
    pyIndex (xs.map f) i = (pyIndex xs i).map f := by
  unfold pyIndex
  simp only [List.length_map]
  split
  · simp
  · split
    · simp
    · rfl

theorem getWires_map {α β : Type} (f : α → β) (lo : Int) (xs : List α) (l r : Option Int) :
    getWires ⟨lo, xs.map f⟩ l r = (getWires ⟨lo, xs⟩ l r).map (List.map f) := by
  unfold getWires
  cases l <;> cases r <;> simp [pySlice_map, pyIndex_map, List.map_reverse]
  all_goals (cases pyIndex xs _ <;> simp)

theorem bitOf_wire (d : Def) (h : WInv d) (c : Cable) (hc : c ∈ d.cables) (k : Nat) (hk : k < c.wires.length) :
    bitOf d c.wires[k] = some ⟨c.name, c.lower + (k : Int)⟩ := by
  obtain ⟨l1, l2, e⟩ := List.append_of_mem hc
  have hf := h.2
  rw [e, List.flatMap_append, List.flatMap_cons, List.nodup_append, List.nodup_append] at hf
  obtain ⟨_, ⟨hcw, _, _⟩, hdis⟩ := hf
  unfold bitOf
  rw [e, List.findSome?_eq_some_iff]
  refine ⟨l1, c, l2, rfl, ?_, fun x hx => ?_⟩
  · rw [List.findIdx?_eq_some_iff_findIdx_eq.mpr ⟨hk, hcw.idxOf_getElem k hk⟩]
  have hx' : ∀ y ∈ x.wires, y ≠ c.wires[k] := fun y hy =>
    hdis y (List.mem_flatMap.mpr ⟨x, hx, hy⟩) _ (List.mem_append_left _ (List.getElem_mem hk))
  rw [List.findIdx?_eq_none_iff.mpr (by simpa using hx')]

theorem cable_bits (d : Def) (h : WInv d) (c : Cable) (hc : c ∈ d.cables) :
    c.wires.map (bitOf d) = (cableBits c.name c.lower c.wires.length).items.map some := by
  apply List.ext_getElem (by simp [cableBits])
  intro k h1 _
  simp [cableBits, bitOf_wire d h c hc k (by simpa using h1)]

theorem atomParts_toX (a : Atom) : atomParts (toX a) = (a.name, a.range.1, a.range.2) := by
  cases a <;> rfl

/-- reader and `evalAtom` look up the same cable, test the same range and take the same slice -/
theorem atomWires_eval (d : Def) (h : WInv d) (a : Atom) :
    (atomWires d (toX a)).map (List.map (bitOf d)) = (evalAtom (envOf d) a).map (List.map some) := by
  unfold atomWires evalAtom envOf
  rw [atomParts_toX]
  cases hf : d.cables.find? (fun c => c.name == a.name) with
  | none => rfl
  | some c =>
    simp only [Option.map_some]
    split
    · rw [← getWires_map, ← getWires_map, cable_bits d h c (List.mem_of_find?_eq_some hf), find_name hf]
      rfl
    · rfl

theorem atomsWires_eval (d : Def) (h : WInv d) : ∀ as : List Atom,
    (atomsWires d (as.map toX)).map (List.map (bitOf d)) = (evalConcat (envOf d) as).map (List.map some)
  | [] => rfl
  | a :: as => by
    have h1 := atomWires_eval d h a
    have h2 := atomsWires_eval d h as
    rw [List.map_cons, atomsWires, evalConcat]
    -- the same `match` on two pairs of options that agree by `h1`, `h2`
    revert h1 h2
    cases atomWires d (toX a) <;> cases evalAtom (envOf d) a <;> cases atomsWires d (as.map toX) <;>
      cases evalConcat (envOf d) as <;> simp +contextual

theorem exprWires_eval (d : Def) (h : WInv d) : ∀ e : PExpr,
    (exprWires d (toXE e)).map (List.map (bitOf d)) = (evalExpr (envOf d) e).map (List.map some)
  | .empty => rfl
  | .atom a => atomWires_eval d h a
  | .concat as => atomsWires_eval d h as

theorem bits_of_eval {d : Def} {x : Option (List Nat)} {y : Option (List Bit)}
    (h : x.map (List.map (bitOf d)) = y.map (List.map some)) {ws : List Nat} (hw : x = some ws) :
    ∃ bs, y = some bs ∧ ws.map (bitOf d) = bs.map some := by
  rw [hw] at h
  obtain ⟨bs, hb, e⟩ := Option.map_eq_some_iff.mp h.symm
  exact ⟨bs, hb, e.symm⟩

theorem atomWires_bits (d : Def) (h : WInv d) (a : Atom) (ws : List Nat) (hw : atomWires d (toX a) = some ws) :
    ∃ bs, evalAtom (envOf d) a = some bs ∧ ws.map (bitOf d) = bs.map some :=
  bits_of_eval (atomWires_eval d h a) hw

/-- **bits of an expression.**  In a definition whose wire ids are distinct, the wires the reader finds for an expression
    are, seen as bits, exactly the value `evalExpr` of that expression (MSB first). -/
theorem exprWires_bits (d : Def) (h : WInv d) (e : PExpr) (ws : List Nat) (hw : exprWires d (toXE e) = some ws) :
    ∃ bs, evalExpr (envOf d) e = some bs ∧ ws.map (bitOf d) = bs.map some :=
  bits_of_eval (exprWires_eval d h e) hw

theorem wireStep_WF (d : Def) (n : Nat) (w : FWire) (d' : Def) (n' : Nat) (h : WF d n)
    (hs : wireStep d n w = some (d', n')) : WF d' n' := by
  obtain ⟨hc, rfl, rfl⟩ | ⟨c, hc, hcn, _, rfl, rfl⟩ := wireStep_eq hs
  · exact WF_append d n (wireCable w n) _ h hc rfl
  · exact WF_replace h hc { c with ctype := some w.ty, attrs := some w.attrs } hcn 0 (by simp [ids])

theorem buildW3_WF (d0 : Def) (n : Nat) (ports : List PDecl) (wires : List FWire) (d3 : Def) (n3 : Nat)
    (h0 : WF d0 n) (hb : buildW3 d0 n ports wires = some (d3, n3)) : WF d3 n3 :=
  buildW3_pres WF
    (fun d n a d' n' h hs => by
      obtain ⟨hc, rfl, rfl⟩ := stubStep_eq hs
      exact WF_append d n (portCable a 0 true [n]) 1 h hc.2 (by simp [ids, portCable]))
    (fun d n p d' n' h hs => by
      obtain ⟨k, c0, w0, m, rfl, rfl⟩ := declStep_eq hs
      exact WF_replace h m.find (grownCable c0 p.rng n) m.cname _ rfl)
    wireStep_WF h0 hb

/-- row `row` of an instance is the value of `pe`, least significant bit on pin 0, free pins above -/
def RowDen (d : Def) (row : List (Option Nat)) (pe : PExpr) : Prop :=
  ∃ bs, evalExpr (envOf d) pe = some bs ∧ pinBits d row = lowAligned row.length bs ∧ bs.length ≤ row.length

theorem pinBits_some (d : Def) (ws : List Nat) : pinBits d (ws.map some) = ws.map (bitOf d) := by
  unfold pinBits
  rw [List.map_map]
  apply List.map_congr_left
  intro w _
  rfl

theorem pinBits_append (d : Def) (a b : List (Option Nat)) : pinBits d (a ++ b) = pinBits d a ++ pinBits d b := by
  simp [pinBits]

theorem pinBits_none (d : Def) (m : Nat) : pinBits d (List.replicate m none) = List.replicate m none := by
  simp [pinBits]

theorem rowDen_value (d : Def) (h : WInv d) (pe : PExpr) (ws : List Nat) (hw : exprWires d (toXE pe) = some ws) (m : Nat) :
    RowDen d (ws.reverse.map some ++ List.replicate m none) pe := by
  obtain ⟨bs, he, hm⟩ := exprWires_bits d h pe ws hw
  have hlen : bs.length = ws.length := by simpa using (congrArg List.length hm).symm
  refine ⟨bs, he, ?_, by simp [hlen]⟩
  rw [pinBits_append, pinBits_some, pinBits_none, List.map_reverse, hm]
  simp [lowAligned, hlen]

theorem rowDen_empty (d : Def) (w : Nat) : RowDen d (List.replicate w none) .empty :=
  ⟨[], rfl, by simp [pinBits, lowAligned], by simp⟩

theorem toXE_empty (pe : PExpr) (h : toXE pe = .empty) : pe = .empty := by
  cases pe <;> simp [toXE] at h ⊢

/-- row by row -/
def AllDen (d : Def) : List (List (Option Nat)) → List PExpr → Prop
  | [], [] => True
  | r :: rs, p :: ps => RowDen d r p ∧ AllDen d rs ps
  | _, _ => False

theorem firstStep_den (d : Def) (h : WInv d) : ∀ (pes : List (String × PExpr)) (acc r : List Port × List (List (Option Nat))),
    (pes.map (fun c => (c.1, toXE c.2))).foldlM (firstStep d) acc = some r →
    ∃ rows, r.2 = acc.2 ++ rows ∧ AllDen d rows (pes.map (·.2)) ∧
      r.1.map (·.name) = acc.1.map (·.name) ++ pes.map (fun c => some c.1) := by
  intro pes
  induction pes with
  | nil =>
    intro acc r hf
    cases hf
    exact ⟨[], by simp, trivial, by simp⟩
  | cons c cs ih =>
    intro acc r hf
    obtain ⟨a1, hs, hf⟩ := foldlM_cons_some hf
    obtain ⟨rows, e1, e2, e3⟩ := ih a1 r hf
    obtain ⟨_, w, row, rfl, hrow⟩ := firstStep_inv hs
    have hden : RowDen d row c.2 := by
      obtain ⟨he, _, rfl⟩ | ⟨_, ws, hw, _, _, rfl⟩ := hrow
      · rw [toXE_empty c.2 he]; exact rowDen_empty d 1
      · simpa using rowDen_value d h c.2 ws hw 0
    exact ⟨row :: rows, by simp [e1], ⟨hden, e2⟩, by simp [e3, newPort]⟩

def Occupied (row : List (Option Nat)) : Prop := ∃ w rest, row = some w :: rest

/-- what is known of the connections made so far: the rows have the shape of the table, and the row of the port a non-empty
    connection names carries the value of its expression -/
def ConnInv (d rd : Def) (rows : List (List (Option Nat))) (done : List (String × PExpr)) : Prop :=
  (∀ row ∈ rows, RowShape d row) ∧
  ∀ c ∈ done, c.2 ≠ .empty → ∀ k, portIdx rd c.1 = some k → RowDen d (rows.getD k []) c.2 ∧ Occupied (rows.getD k [])

/-- only the rows of ports that a non-empty connection names are occupied -/
def OccInv (rd : Def) (rows : List (List (Option Nat))) (done : List (String × PExpr)) : Prop :=
  ∀ k, Occupied (rows.getD k []) → ∃ c ∈ done, c.2 ≠ .empty ∧ portIdx rd c.1 = some k

theorem connInv_init (d rd : Def) :
    ConnInv d rd (rd.ports.map (fun p => List.replicate p.pins.length none)) [] ∧
    OccInv rd (rd.ports.map (fun p => List.replicate p.pins.length none)) [] := by
  refine ⟨⟨fun row hrow => ?_, fun _ hc => (nomatch hc)⟩, fun k hocc => ?_⟩
  · obtain ⟨p, _, e⟩ := List.mem_map.mp hrow
    exact ⟨[], p.pins.length, by rw [← e]; rfl, fun w hw => by cases hw⟩
  · exfalso
    obtain ⟨w, rest, he⟩ := hocc
    rw [List.getD_eq_getElem?_getD, List.getElem?_map] at he
    cases hp : rd.ports[k]? with
    | none => simp [hp] at he
    | some p => cases hl : p.pins.length <;> simp [hp, hl, List.replicate_succ] at he

theorem connStep_den (d rd : Def) (h : WInv d) (rows rows' : List (List (Option Nat))) (done : List (String × PExpr))
    (c : String × PExpr) (inv : ConnInv d rd rows done) (hs : connStep d rd rows (c.1, toXE c.2) = some rows') :
    ConnInv d rd rows' (done ++ [c]) ∧ (OccInv rd rows done → OccInv rd rows' (done ++ [c])) := by
  have hshape := connStep_shape d rd rows rows' _ inv.1 hs
  have hmem : ∀ c' ∈ done ++ [c], c' ∈ done ∨ c' = c := fun c' hc' => by simpa using hc'
  obtain ⟨k, hk, _, hkl, ⟨he, _, rfl⟩ | ⟨hne, ws, hws, h1, _, _, h4, rfl⟩⟩ := connStep_inv hs
  · -- empty expression: nothing changes
    refine ⟨⟨hshape, fun c' hc' hne' => ?_⟩, fun occ j hj => ?_⟩
    · rcases hmem c' hc' with e | rfl
      · exact inv.2 c' e hne'
      · exact absurd (toXE_empty c'.2 he) hne'
    · obtain ⟨c', hc', hh⟩ := occ j hj
      exact ⟨c', List.mem_append_left _ hc', hh⟩
  · -- the low pins of the row are free, so the whole row is
    obtain ⟨blk, m, hb, _⟩ := inv.1 _ (show rows.getD k [] ∈ rows by
      rw [List.getD_eq_getElem?_getD, List.getElem?_eq_getElem hkl]; exact List.getElem_mem hkl)
    obtain ⟨n, hn⟩ : ∃ n, ws.length = n + 1 := ⟨ws.length - 1, by omega⟩
    cases blk with
    | cons b bs => rw [hb, hn] at h4; simp at h4
    | nil =>
      simp only [List.map_nil, List.nil_append] at hb
      have hfree : ¬ Occupied (rows.getD k []) := by
        rintro ⟨w, rest, hw⟩
        rw [hb] at hw
        cases m <;> simp [List.replicate_succ] at hw
      have hset : ∀ (row : List (Option Nat)) j, (rows.set k row).getD j [] = if k = j then row else rows.getD j [] := by
        intro row j
        simp only [List.getD_eq_getElem?_getD, List.getElem?_set, hkl, if_true]
        split <;> rfl
      rw [hb, List.drop_replicate] at hshape ⊢
      refine ⟨⟨hshape, fun c' hc' hne' k' hk' => ?_⟩, fun occ j hj => ?_⟩
      · rw [hset]
        rcases hmem c' hc' with e | rfl
        · obtain ⟨hden, hocc⟩ := inv.2 c' e hne' k' hk'
          rw [if_neg (fun e : k = k' => hfree (by rw [e]; exact hocc))]
          exact ⟨hden, hocc⟩
        · rw [if_pos (Option.some.inj (hk.symm.trans hk'))]
          refine ⟨rowDen_value d h c'.2 ws hws _, ?_⟩
          cases hr : ws.reverse with
          | nil => rw [List.reverse_eq_nil_iff.mp hr] at h1; simp at h1
          | cons x xs => exact ⟨x, xs.map some ++ List.replicate (m - ws.length) none, by simp⟩
      · rw [hset] at hj
        split at hj
        · rename_i e
          exact ⟨c, by simp, fun e' => hne (by rw [e']; rfl), e ▸ hk⟩
        · obtain ⟨c', hc', hh⟩ := occ j hj
          exact ⟨c', List.mem_append_left _ hc', hh⟩

theorem connFold_den (d rd : Def) (h : WInv d) : ∀ (pes done : List (String × PExpr)) (rows rows' : List (List (Option Nat))),
    ConnInv d rd rows done → (pes.map (fun c => (c.1, toXE c.2))).foldlM (connStep d rd) rows = some rows' →
    ConnInv d rd rows' (done ++ pes) ∧ (OccInv rd rows done → OccInv rd rows' (done ++ pes)) := by
  intro pes
  induction pes with
  | nil =>
    intro done rows rows' inv hf
    cases hf
    rw [List.append_nil]
    exact ⟨inv, id⟩
  | cons c cs ih =>
    intro done rows rows' inv hf
    obtain ⟨r1, hs, hf⟩ := foldlM_cons_some hf
    obtain ⟨i1, o1⟩ := connStep_den d rd h rows r1 done c inv hs
    obtain ⟨i2, o2⟩ := ih (done ++ [c]) r1 rows' i1 hf
    rw [List.append_cons]
    exact ⟨i2, fun o => o2 (o1 o)⟩

theorem instStep2_rows (d : Def) (ls : List Def) (i : PInst) (d' : Def) (ls' : List Def) (h : WInv d)
    (hs : instStep2 d ls i.toN = some (d', ls')) :
    ∃ rows, d' = { d with insts := d.insts ++ [⟨i.name, i.mod, mergeP i.params, some i.attrs, rows⟩] } ∧
      match ls.find? (fun l => l.name == i.mod) with
      | none => AllDen d rows (i.conns.map (·.2)) ∧
          ∃ L, ls' = ls ++ [L] ∧ L.name = i.mod ∧ L.ports.map (·.name) = i.conns.map (fun c => some c.1)
      | some rd => ls' = ls ∧ ConnInv d rd rows i.conns ∧ OccInv rd rows i.conns ∧ rows.length = rd.ports.length := by
  obtain ⟨_, rows, hd', hm⟩ := instStep2_eq hs
  refine ⟨rows, hd', ?_⟩
  cases hf : ls.find? (fun l => l.name == i.mod) with
  | some rd =>
    simp only [show ls.find? (fun l => l.name == i.toN.mod) = some rd from hf] at hm
    obtain ⟨hden, hocc⟩ := connFold_den d rd h i.conns [] _ rows (connInv_init d rd).1 hm.2
    refine ⟨hm.1, by simpa using hden, by simpa using hocc (connInv_init d rd).2, ?_⟩
    rw [foldlM_connStep_length d rd _ _ rows hm.2, List.length_map]
  | none =>
    simp only [show ls.find? (fun l => l.name == i.toN.mod) = none from hf] at hm
    obtain ⟨ps, hr, hls⟩ := hm
    obtain ⟨rows', h1, h2, h3⟩ := firstStep_den d h i.conns ([], []) (ps, rows) hr
    simp only [List.nil_append, List.map_nil] at h1 h3
    exact ⟨by rw [h1]; exact h2, _, hls, rfl, h3⟩

/-- **instStep2_den.**  What one instance of the written module looks like in the table the reader builds, in BITS:
    the first instance of a module has one row per connection and row `k` is the value of the `k`-th expression
    (least significant bit on pin 0); a later instance has, on the port each non-empty connection names, the value
    of that expression, low-aligned, free pins above. -/
theorem instStep2_den (d : Def) (ls : List Def) (i : PInst) (d' : Def) (ls' : List Def) (h : WInv d)
    (hs : instStep2 d ls i.toN = some (d', ls')) :
    ∃ inst, d'.insts = d.insts ++ [inst] ∧ d'.cables = d.cables ∧ inst.name = i.name ∧ inst.ref = i.mod ∧
      inst.params = mergeP i.params ∧ inst.attrs = some i.attrs ∧
      match ls.find? (fun l => l.name == i.mod) with
      | none => AllDen d inst.pins (i.conns.map (·.2)) ∧
          ∃ L, ls' = ls ++ [L] ∧ L.name = i.mod ∧ L.ports.map (·.name) = i.conns.map (fun c => some c.1)
      | some rd => ls' = ls ∧ (∀ row ∈ inst.pins, RowShape d row) ∧
          ∀ c ∈ i.conns, c.2 ≠ .empty → ∀ k, portIdx rd c.1 = some k → RowDen d (inst.pins.getD k []) c.2 := by
  obtain ⟨rows, rfl, hm⟩ := instStep2_rows d ls i d' ls' h hs
  refine ⟨_, rfl, rfl, rfl, rfl, rfl, rfl, ?_⟩
  split at hm
  · exact hm
  · exact ⟨hm.1, hm.2.1.1, fun c hc hne k hk => (hm.2.1.2 c hc hne k hk).1⟩

/-- **row_roundtrip.**  C04 for one row, across writer and reader: the expression the writer chooses for a pin vector of
    reader shape (connected block `blk`, `m` free pins above), looked up by the reader in a definition with the same
    cables and distinct wire ids, yields a row that is, in bits, exactly the connected block again (the free pins
    above it are re-created by the width of the port). -/
theorem row_roundtrip (d : Def) (h : WInv d) (blk : List Bit) (m : Nat)
    (hne : blk.map some ++ List.replicate m none ≠ []) (hv : ∀ b ∈ blk, ValidBit (envOf d) b)
    (pe : PExpr) (hpe : emitPortExpr (envOf d) (blk.map some ++ List.replicate m none) = some pe)
    (ws : List Nat) (hw : exprWires d (toXE pe) = some ws) :
    pinBits d (ws.reverse.map some) = blk.map some := by
  obtain ⟨e, h1, h2, _⟩ := emit_eval (envOf d) blk m hne hv
  obtain rfl : pe = e := Option.some.inj (hpe.symm.trans h1)
  obtain ⟨bs, he, hm⟩ := exprWires_bits d h pe ws hw
  obtain rfl : bs = blk.reverse := Option.some.inj (he.symm.trans h2)
  rw [pinBits_some, List.map_reverse, hm]
  simp

theorem wireStep_params (d : Def) (n : Nat) (w : FWire) (d' : Def) (n' : Nat) (h : wireStep d n w = some (d', n')) :
    d'.params = d.params := by
  obtain ⟨_, rfl, _⟩ | ⟨_, _, _, _, _, rfl⟩ := wireStep_eq h
  · rfl
  · rfl

theorem buildW3_params (d0 : Def) (n : Nat) (ports : List PDecl) (wires : List FWire) (d3 : Def) (n3 : Nat)
    (hb : buildW3 d0 n ports wires = some (d3, n3)) : d3.params = d0.params :=
  (buildW3_meta hb).2.2.1

theorem buildW3_lib (d0 : Def) (n : Nat) (ports : List PDecl) (wires : List FWire) (d3 : Def) (n3 : Nat)
    (hb : buildW3 d0 n ports wires = some (d3, n3)) : d3.lib = d0.lib :=
  (buildW3_meta hb).2.1

theorem buildW3_name (d0 : Def) (n : Nat) (ports : List PDecl) (wires : List FWire) (d3 : Def) (n3 : Nat)
    (hb : buildW3 d0 n ports wires = some (d3, n3)) : d3.name = d0.name :=
  (buildW3_meta hb).1
end Spydr.Verilog.Elab
