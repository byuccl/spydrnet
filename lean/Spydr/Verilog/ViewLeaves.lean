/-
  C04 with the leaves written (`write_blackbox=True` over primitives), up to the syntax trees: the table the reader builds for
  `top; celldefine leaves` shows the view of the top definition, every written leaf comes back in the primitive library with the
  interface of its definition in the netlist, and, if the netlist is consistent about widths, the re-read top has exactly the pin
  rows of the netlist, free pins included.
-/
import Spydr.Verilog.ViewPadding
import Spydr.Verilog.WFDesign
namespace Spydr.Verilog.Elab
open Spydr.Verilog

theorem astLeafPort_iface (r : Text.WDef) (p : Text.WPort) (q : PDecl) (h : astLeafPort r p = some q) :
    (some q.name, q.dir, stubLo q.rng, 1 + stubExtra q.rng) = (p.name, dirV p.dir, p.lower, p.width) := by
  obtain ⟨nm, dir, hn, hd, hw, _, e, _⟩ := astLeafPort_spec r p q h
  rw [e]
  obtain ⟨s1, s2, _⟩ := stub_declRange p.lower p.width hw
  simp only [s1, s2, hn, dirV, hd, Option.getD_some]

theorem mapM_map_eq {α β γ : Type} (f : α → Option β) (g : β → γ) (h : α → γ) (hfg : ∀ a b, f a = some b → g b = h a) :
    ∀ (l : List α) (r : List β), l.mapM f = some r → r.map g = l.map h := by
  intro l
  induction l with
  | nil => intro r hm; simp at hm; subst hm; rfl
  | cons a l ih =>
    intro r hm
    obtain ⟨b, r', ha, hr, rfl⟩ := mapM_cons_some hm
    simp only [List.map_cons, hfg a b ha, ih r' hr]

theorem astLeaf_iface (r : Text.WDef) (m : WLeaf) (h : astLeaf r = some m) : m.name = r.name ∧ ifaceP m.ports = ifaceT r := by
  unfold astLeaf at h
  simp only [Option.map_eq_some_iff] at h
  obtain ⟨ps, hps, e⟩ := h
  rw [← e]
  refine ⟨rfl, ?_⟩
  exact mapM_map_eq (astLeafPort r) _ _ (astLeafPort_iface r) r.ports ps hps

/-- The interface of an inferred black box as it is written (`astLeafU`: a port without direction is printed
    `/* undefined port direction */ inout`) and re-read (`inoutify`): the interface is compared through `dirV`, which reads an
    undefined direction as `inout` (the open finding "comes back inout" is not hidden by this: it is the reading of `ifaceT`). -/
theorem astLeafPortU_iface (r : Text.WDef) (p : Text.WPort) (q : PDecl) (h : astLeafPortU r p = some q) :
    (some q.name, inoutD q.dir, stubLo q.rng, 1 + stubExtra q.rng) = (p.name, dirV p.dir, p.lower, p.width) := by
  unfold astLeafPortU at h
  split at h
  · rename_i d hd
    have := astLeafPort_iface r p q h
    obtain ⟨nm, dir, _, hd', _, _, e, _⟩ := astLeafPort_spec r p q h
    have hq : q.dir = dir := by rw [e]
    rw [hd] at hd'
    have hne : q.dir ≠ .undef := by
      rw [hq]
      unfold dirOfS at hd
      split at hd <;> first | (cases hd; cases hd'; simp) | cases hd
    have : inoutD q.dir = q.dir := by cases hqd : q.dir <;> first | rfl | exact absurd hqd hne
    rw [this]
    exact astLeafPort_iface r p q h
  · rename_i hd
    simp only [Option.map_eq_some_iff] at h
    obtain ⟨q0, hq0, e⟩ := h
    have := astLeafPort_iface r { p with dir := "INOUT" } q0 hq0
    rw [← e]
    simp only [Prod.mk.injEq] at this ⊢
    refine ⟨this.1, ?_, this.2.2.1, this.2.2.2⟩
    simp only [inoutD, dirV, hd, Option.getD_none]

theorem astLeafU_iface (r : Text.WDef) (m : WLeaf) (h : astLeafU r = some m) :
    (inoutify m).name = r.name ∧ ifaceP (inoutify m).ports = ifaceT r := by
  unfold astLeafU at h
  simp only [Option.map_eq_some_iff] at h
  obtain ⟨ps, hps, e⟩ := h
  rw [← e]
  refine ⟨rfl, ?_⟩
  have := mapM_map_eq (astLeafPortU r) (fun q => (some q.name, inoutD q.dir, stubLo q.rng, 1 + stubExtra q.rng))
    (fun p => (p.name, dirV p.dir, p.lower, p.width)) (astLeafPortU_iface r) r.ports ps hps
  unfold ifaceP ifaceT inoutify
  rw [List.map_map]
  exact this

/-- **c04_view_bb.**  C04 with the leaves written: the table the reader builds for the file `top module; celldefine modules
    of the leaves` shows the view of the top definition (the late declarations only add free pins at the high end of
    instance rows), and every written leaf comes back in the primitive library with the interface of its definition in
    the netlist: the same port names, directions, base indices and widths in the same order. -/
theorem c04_view_bb (n : Text.WNet) (T : Text.WDef) (m : WModP) (rs : List Text.WDef) (leaves : List WLeaf)
    (defs : List Def) (nx : Nat)
    (hfrag : fragTop n T = true) (hm : astOf n T = some m) (hrs : rs.mapM astLeaf = some leaves)
    (hnd : (rs.map (·.name)).Nodup) (hb : buildBB m.toI leaves = some (defs, nx)) :
    ∃ D ls, defs = D :: ls ∧ viewD D = viewT n T ∧ D.lib = some "work" ∧
      ∀ r ∈ rs, ∃ L ∈ ls, L.name = r.name ∧ L.lib = some "hdi_primitives" ∧ ifaceD L = ifaceT r := by
  obtain ⟨d3, n3, d4, ls4, D5, ls5, h3, hcn, h4, h5, hdefs⟩ := buildBB_inv hb
  have hWI : buildWI m.toI = some ((withAttrs m.toI.attrs d4 :: ls4).map markBB, n3) := by
    unfold buildWI
    rw [buildW_eq3, h3]
    simp only [hcn, if_true, h4]
    rfl
  obtain ⟨D0, ls0, e0, hv0, _⟩ := c04_view n T m _ _ hfrag hm hWI
  simp only [List.map_cons, List.cons.injEq] at e0
  rw [← e0.1, viewD_markBB] at hv0
  obtain ⟨_, inv4, _⟩ := elabModule_wtop m.toI d3 n3 d4 ls4 h3 hcn h4
  have inv4' := inv4.withAttrs m.toI.attrs
  obtain ⟨hv5, hlib5⟩ := foldLeaves_view leaves _ ls4 n3 D5 ls5 nx inv4' h5
  have hlow := foldInst_lower m.toI.insts d3 [] d4 ls4 h4 (by intro l hl; cases hl)
  have hnames : leaves.map (·.name) = rs.map (·.name) :=
    mapM_map_eq astLeaf (·.name) (·.name) (fun a b h => (astLeaf_iface a b h).1) rs leaves hrs
  obtain ⟨hI, _, _⟩ := foldLeaves_iface leaves _ ls4 n3 D5 ls5 nx inv4' h5 (by rw [hnames]; exact hnd)
    (fun l hl _ _ _ P hP => hlow l hl P hP)
  have hlibtop : (withAttrs m.toI.attrs d4).lib = some "work" := by
    have hd4lib : d4.lib = some "work" := (foldInst_lib _ d3 [] d4 ls4 h4).trans (buildW3_lib _ _ _ _ d3 n3 h3)
    unfold withAttrs
    split <;> exact hd4lib
  have hlibD5 : D5.lib = some "work" := by rw [hlib5, hlibtop]
  refine ⟨markBB D5, ls5.map markBB, hdefs, by rw [viewD_markBB, hv5]; exact hv0, ?_, ?_⟩
  · unfold markBB; simp [hlibD5]
  · intro r hr
    have : ∃ lf ∈ leaves, astLeaf r = some lf := by
      have hlen := (mapM_index astLeaf rs leaves hrs)
      obtain ⟨k, hk, e⟩ := List.mem_iff_getElem.mp hr
      exact ⟨leaves[k]'(by omega), List.getElem_mem _, by rw [← e]; exact hlen.2 k hk (by omega)⟩
    obtain ⟨lf, hlf, ha⟩ := this
    obtain ⟨L', hL', g1, g2, g3⟩ := hI lf hlf
    obtain ⟨a1, a2⟩ := astLeaf_iface r lf ha
    refine ⟨L', List.mem_map.mpr ⟨L', hL', by unfold markBB; simp [g2]⟩, g1.trans a1, g2, g3.trans a2⟩

/-- the fragment with the leaves written, up to the syntax trees (decidable): `T` in `fragTop`, the written leaves `rs`
    have distinct names and a `celldefine` syntax, and the pure reader `buildBB` accepts the file -/
def fragBBast (n : Text.WNet) (T : Text.WDef) (rs : List Text.WDef) : Bool :=
  fragTop n T && decide ((rs.map (·.name)).Nodup) &&
  (match astOf n T, rs.mapM astLeaf with
   | some m, some leaves => (buildBB m.toI leaves).isSome
   | _, _ => false)

/-- **c04_ast_bb.**  The reading of what is written with `write_blackbox=True`, up to tokens: the REAL `elabDesign`
    accepts the file `astOf n T` followed by the `celldefine` modules of `rs`, elects `T` as top, the first definition
    shows the view of `T` and every leaf of `rs` has the interface of its definition in the netlist. -/
theorem c04_ast_bb (n : Text.WNet) (T : Text.WDef) (rs : List Text.WDef) (h : fragBBast n T rs = true) :
    ∃ m leaves s D ls, astOf n T = some m ∧ rs.mapM astLeaf = some leaves ∧
      elabDesign (m.toI.toModule :: leaves.map WLeaf.toModule) = .ok s ∧ s.defs = D :: ls ∧ s.top = some T.name ∧
      s.pending = [] ∧ viewD D = viewT n T ∧ D.lib = some "work" ∧
      ∀ r ∈ rs, ∃ L ∈ ls, L.name = r.name ∧ L.lib = some "hdi_primitives" ∧ ifaceD L = ifaceT r := by
  unfold fragBBast at h
  simp only [Bool.and_eq_true, decide_eq_true_eq] at h
  obtain ⟨⟨hf, hnd⟩, hs⟩ := h
  split at hs
  · rename_i m leaves hm hl
    obtain ⟨⟨defs, nx⟩, hr⟩ := Option.isSome_iff_exists.mp hs
    obtain ⟨D, ls, e, hv, hlib, hI⟩ := c04_view_bb n T m rs leaves defs nx hf hm hl hnd hr
    have hE := elabDesign_bb m.toI leaves defs nx hr
    have hname : m.toI.name = T.name := by
      obtain ⟨_, _, _, _, rfl⟩ := astOf_eq hm
      rfl
    exact ⟨m, leaves, _, D, ls, hm, hl, hE, e, by rw [← hname], rfl, hv, hlib, hI⟩
  · cases hs

/-- non-vacuity: `exNet` with a six-bit address port on `RAM` of which the only instance connects four bits: the first
    instance creates a four-bit port, the `celldefine` module declares `[5:0]`, the row of the instance grows by two free
    pins; `I1` of `LUT2` is first met connected, then open -/
def exNetBB : Text.WNet :=
  let b (c : String) (i : Int) : Option Bit := some ⟨c, i⟩
  { name := "ex", top := some "top",
    defs := [
      { name := "top", lib := "work", params := none, attrs := none,
        ports := [⟨some "a", "IN", 0, 4, [b "a" 0, b "a" 1, b "a" 2, b "a" 3], none⟩,
                  ⟨some "b", "IN", 0, 1, [b "b" 0], none⟩,
                  ⟨some "y", "OUT", 0, 2, [b "y" 0, b "y" 1], some [("keep", none)]⟩],
        cables := [⟨"a", 0, 4, none, none⟩, ⟨"b", 0, 1, none, none⟩, ⟨"y", 0, 2, some "wire", none⟩, ⟨"n", 0, 3, some "wire", none⟩],
        insts := [⟨"u0", "LUT2", some [("INIT", "4'h8")], none, [[b "a" 0], [b "b" 0], [b "y" 0]]⟩,
                  ⟨"u1", "LUT2", none, none, [[b "n" 0], [none], [b "y" 1]]⟩,
                  ⟨"r0", "RAM", none, some [("dont_touch", some "\"true\"")],
                    [[b "b" 0, b "a" 3, b "n" 1, b "n" 2, none, none], [b "n" 0]]⟩] },
      { name := "LUT2", lib := "hdi_primitives", params := none, attrs := none,
        ports := [⟨some "I0", "IN", 0, 1, [none], none⟩, ⟨some "I1", "IN", 0, 1, [none], none⟩, ⟨some "O", "OUT", 0, 1, [none], none⟩],
        cables := [], insts := [] },
      { name := "RAM", lib := "hdi_primitives", params := none, attrs := none,
        ports := [⟨some "addr", "IN", 2, 6, [none, none, none, none, none, none], none⟩, ⟨some "q", "OUT", 0, 1, [none], none⟩],
        cables := [], insts := [] }] }

def exTopBB : Text.WDef := exNetBB.defs.headD default

theorem exNetBB_frag : fragBBast exNetBB exTopBB (exNetBB.defs.drop 1) = true := by decide +kernel

def LowBits (xs : List (Option Bit)) : Prop := ∃ (blk : List Bit) (m : Nat), xs = blk.map some ++ List.replicate m none

theorem low_full (xs : List (Option Bit)) (h : LowBits xs) :
    xs = (connectedBlock xs).map some ++ List.replicate (xs.length - (connectedBlock xs).length) none := by
  obtain ⟨blk, m, e⟩ := h
  subst e
  rw [connectedBlock_low]
  simp

theorem eq_of_low (xs ys : List (Option Bit)) (hx : LowBits xs) (hy : LowBits ys)
    (hc : connectedBlock xs = connectedBlock ys) (hl : xs.length = ys.length) : xs = ys := by
  rw [low_full xs hx, low_full ys hy, hc, hl]

def LowB (d : Def) (row : List (Option Nat)) : Prop := LowBits (pinBits d row)

theorem LowB_cables (d d' : Def) (h : d'.cables = d.cables) (row : List (Option Nat)) : LowB d' row ↔ LowB d row := by
  unfold LowB pinBits
  rw [bitOf_cables d d' h]

theorem rowDen_low (d : Def) (row : List (Option Nat)) (pe : PExpr) (h : RowDen d row pe) : LowB d row := by
  obtain ⟨bs, _, e, _⟩ := h
  exact ⟨bs.reverse, row.length - bs.length, by rw [e]; rfl⟩

theorem allDen_low (d : Def) (rows : List (List (Option Nat))) (pes : List PExpr) (h : AllDen d rows pes) :
    ∀ row ∈ rows, LowB d row := by
  intro row hr
  obtain ⟨k, hk, rfl⟩ := List.mem_iff_getElem.mp hr
  obtain ⟨hl, hi⟩ := allDen_index d rows pes h
  exact rowDen_low d _ _ (hi k hk (hl ▸ hk))

theorem rowShape_low (d : Def) (hn : (d.cables.map (·.name)).Nodup) (row : List (Option Nat)) (h : RowShape d row) :
    LowB d row := by
  obtain ⟨blk, m, e, _⟩ := shape_bits d hn row h
  exact ⟨blk, m, e⟩

theorem foldInst_low : ∀ (pis : List PInst) (d : Def) (ls : List Def) (d' : Def) (ls' : List Def), WInv d →
    (∀ i ∈ d.insts, ∀ row ∈ i.pins, LowB d row) → foldInst d ls (pis.map PInst.toN) = some (d', ls') →
    d'.cables = d.cables ∧ ∀ i ∈ d'.insts, ∀ row ∈ i.pins, LowB d' row := by
  intro pis
  induction pis with
  | nil =>
    intro d ls d' ls' _ h0 h
    cases h
    exact ⟨rfl, h0⟩
  | cons pi pis ih =>
    intro d ls d' ls' hw h0 h
    obtain ⟨d1, ls1, hs, h⟩ := (foldInst_cons ..).mp h
    obtain ⟨inst, e1, e2, _, _, _, _, hden⟩ := instStep2_den d ls pi d1 ls1 hw hs
    have hw1 : WInv d1 := by unfold WInv; rw [e2]; exact hw
    have hlow1 : ∀ i ∈ d1.insts, ∀ row ∈ i.pins, LowB d1 row := by
      intro i hi row hr
      rw [LowB_cables d d1 e2]
      rw [e1] at hi
      rcases List.mem_append.mp hi with e | e
      · exact h0 i e row hr
      · simp only [List.mem_singleton] at e
        rw [e] at hr
        cases hf : ls.find? (fun l => l.name == pi.mod) with
        | none =>
          rw [hf] at hden
          exact allDen_low d _ _ hden.1 row hr
        | some rd =>
          rw [hf] at hden
          exact rowShape_low d hw.1 row (hden.2.1 row hr)
    obtain ⟨c, l⟩ := ih d1 ls1 d' ls' hw1 hlow1 h
    exact ⟨c.trans e2, l⟩

theorem low_pad (d : Def) (post : Nat) (row : List (Option Nat)) (h : LowB d row) : LowB d (padRow post row) := by
  obtain ⟨blk, m, e⟩ := h
  refine ⟨blk, m + post, ?_⟩
  rw [pinBits_pad, e, List.append_assoc]
  simp [List.replicate_append_replicate]

theorem low_nil (d : Def) : LowB d [] := ⟨[], 0, rfl⟩

theorem padI_low (d : Def) (dn : String) (k post : Nat) (i : Inst) (h : ∀ row ∈ i.pins, LowB d row) :
    ∀ row ∈ (padI dn k post i).pins, LowB d row := by
  unfold padI
  split
  · intro row hr
    have hold : ∀ r ∈ i.pins ++ List.replicate (k + 1 - i.pins.length) [], LowB d r := by
      intro r hr'
      rcases List.mem_append.mp hr' with e | e
      · exact h r e
      · rw [(List.mem_replicate.mp e).2]; exact low_nil d
    rcases List.mem_or_eq_of_mem_set hr with e | e
    · exact hold row e
    · rw [e]
      apply low_pad
      rw [List.getD_eq_getElem?_getD]
      cases hg : (i.pins ++ List.replicate (k + 1 - i.pins.length) [])[k]? with
      | none => exact low_nil d
      | some r => exact hold r (List.mem_of_getElem? hg)
  · exact h

theorem padOpsD_low (D : Def) (dn : String) (ops : List (Nat × Nat)) (h : ∀ i ∈ D.insts, ∀ row ∈ i.pins, LowB D row) :
    ∀ i ∈ (padOpsD D dn ops).insts, ∀ row ∈ i.pins, LowB (padOpsD D dn ops) row := by
  intro i' hi' row hr
  rw [LowB_cables D (padOpsD D dn ops) rfl]
  obtain ⟨i, hi, e⟩ := List.mem_map.mp hi'
  rw [← e] at hr
  exact padOpsI_inv (fun i => ∀ row ∈ i.pins, LowB D row) dn (padI_low D dn) ops i (h i hi) row hr

theorem foldLeaves_low : ∀ (ms : List WLeaf) (D : Def) (ls : List Def) (n : Nat) (D' : Def) (ls' : List Def) (n' : Nat),
    foldLeaves D ls n ms = some (D', ls', n') → (∀ i ∈ D.insts, ∀ row ∈ i.pins, LowB D row) →
    ∀ i ∈ D'.insts, ∀ row ∈ i.pins, LowB D' row := by
  intro ms
  induction ms with
  | nil =>
    intro D ls n D' ls' n' h h0
    cases h
    exact h0
  | cons m ms ih =>
    intro D ls n D' ls' n' h h0
    obtain ⟨_, _, _, ops, _, _, h⟩ := foldLeaves_cons h
    exact ih _ _ _ D' ls' n' h (padOpsD_low D m.name ops h0)

theorem buildBB_low (m : WModP) (leaves : List WLeaf) (defs : List Def) (nx : Nat)
    (hb : buildBB m.toI leaves = some (defs, nx)) :
    ∀ D, defs.head? = some D → ∀ i ∈ D.insts, ∀ row ∈ i.pins, LowB D row := by
  obtain ⟨d3, n3, d4, ls4, D5, ls5, h3, _, h4, h5, rfl⟩ := buildBB_inv hb
  have hWF : WF d3 n3 := buildW3_WF ⟨m.toI.name, some "work", false, [], none, [], [], []⟩ 0 m.toI.ports _ d3 n3
    ⟨⟨List.nodup_nil, List.nodup_nil⟩, (by intro c hc; cases hc)⟩ h3
  obtain ⟨hi3, _⟩ := buildW3_frame _ 0 m.toI.ports _ d3 n3 h3
  obtain ⟨hc4, hlow4⟩ := foldInst_low m.insts d3 [] d4 ls4 hWF.1
    (by rw [hi3]; intro i hi; cases hi) h4
  have hlowA : ∀ i ∈ (withAttrs m.toI.attrs d4).insts, ∀ row ∈ i.pins, LowB (withAttrs m.toI.attrs d4) row := by
    unfold withAttrs
    split
    · exact hlow4
    · intro i hi row hr
      exact (LowB_cables d4 _ rfl row).mpr (hlow4 i hi row hr)
  have hlow5 := foldLeaves_low leaves _ ls4 n3 D5 ls5 nx h5 hlowA
  intro D hD
  cases hD
  intro i hi row hr
  have hm : (markBB D5).insts = D5.insts ∧ (markBB D5).cables = D5.cables := by unfold markBB; split <;> exact ⟨rfl, rfl⟩
  rw [hm.1] at hi
  exact (LowB_cables D5 _ hm.2 row).mpr (hlow5 i hi row hr)

/-- **c04_full_ast.**  With the leaves written the re-read top has, instance by instance and port by port, EXACTLY the
    pin rows of the netlist — connected bits and free pins, i.e. also the row widths. -/
theorem c04_full_ast (n : Text.WNet) (T : Text.WDef) (rs : List Text.WDef) (m : WModP) (leaves : List WLeaf)
    (h : fragBBast n T rs = true) (hfit : rowsFitB n T rs = true) (hm : astOf n T = some m)
    (hl : rs.mapM astLeaf = some leaves) (s : St)
    (hE : elabDesign (m.toI.toModule :: leaves.map WLeaf.toModule) = .ok s) (D : Def) (ls : List Def)
    (hs : s.defs = D :: ls) : D.insts.map (fullRowsD D) = T.insts.map (fullRowsT n) := by
  unfold fragBBast at h
  simp only [Bool.and_eq_true, decide_eq_true_eq, hm, hl] at h
  obtain ⟨⟨hf, hnd⟩, hsome⟩ := h
  obtain ⟨⟨defs, nx⟩, hr0⟩ := Option.isSome_iff_exists.mp hsome
  have hE' := elabDesign_bb m.toI leaves defs nx hr0
  rw [hE'] at hE
  have hsd : s.defs = defs := by rw [← Except.ok.inj hE]
  obtain ⟨D0, ls0, e0, hv, _, hI⟩ := c04_view_bb n T m rs leaves defs nx hf hm hl hnd hr0
  rw [hsd, e0] at hs
  obtain ⟨eD, els⟩ := List.cons.inj hs
  subst eD els
  have hlow := buildBB_low m leaves defs nx hr0 D0 (by rw [e0]; rfl)
  have hwf : TableWF s := elabDesign_wf _ s (by rw [hE']; exact hE ▸ rfl)
  have hDmem : D0 ∈ s.defs := by rw [hsd, e0]; exact List.mem_cons_self
  simp only [fragTop, Bool.and_eq_true, decide_eq_true_eq, List.all_eq_true] at hf
  obtain ⟨_, F3⟩ := hf
  simp only [rowsFitB, List.all_eq_true] at hfit
  -- instance by instance: the views agree, so it is enough that equal views give equal full rows
  obtain ⟨hlen, hinst⟩ := map_eq_map_getElem.mp (congrArg DefView.insts hv : D0.insts.map (instViewD D0) = T.insts.map (instViewT n))
  suffices hrow : ∀ Dj ∈ D0.insts, ∀ tj ∈ T.insts, instViewD D0 Dj = instViewT n tj → fullRowsD D0 Dj = fullRowsT n tj from
    map_eq_map_getElem.mpr ⟨hlen, fun j h1 h2 => hrow _ (List.getElem_mem h1) _ (List.getElem_mem h2) (hinst j h1 h2)⟩
  intro Dj hDjm tj htjm hj
  unfold instViewD instViewT at hj
  simp only [InstView.mk.injEq] at hj
  obtain ⟨_, href, _, _, hrows⟩ := hj
  have hfit_j := hfit tj htjm
  split at hfit_j
  case h_2 => cases hfit_j
  rename_i r' r hf' hr
  simp only [Bool.and_eq_true, decide_eq_true_eq, List.all_eq_true, List.mem_range, beq_iff_eq] at hfit_j
  obtain ⟨hwid, hrowlen⟩ := hfit_j
  have hr'm := List.mem_of_find?_eq_some hf'
  have hr'n : r'.name = tj.ref := by simpa using List.find?_some hf'
  obtain ⟨L, hL, hLn, _, hLi⟩ := hI r' hr'm
  have hLmem : L ∈ s.defs := by rw [hsd, e0]; exact List.mem_cons_of_mem _ hL
  have hmir := hwf.glob.mirror (shape D0) (List.mem_map.mpr ⟨D0, hDmem, rfl⟩)
    (Dj.ref, Dj.pins.map List.length) (List.mem_map.mpr ⟨Dj, hDjm, rfl⟩)
    (shape L) (List.mem_map.mpr ⟨L, hLmem, rfl⟩) (by
      show L.name = Dj.ref
      rw [hLn, hr'n, href])
  have hLw : L.ports.map (fun p => p.pins.length) = r.ports.map (·.width) := by
    have h4 := congrArg (List.map (fun (x : Option String × Dir × Int × Nat) => x.2.2.2)) hLi
    simp only [ifaceD, ifaceT, List.map_map, Function.comp_def] at h4
    rw [h4, hwid]
  obtain ⟨hplen, hwidth⟩ := map_eq_map_getElem.mp
    ((show Dj.pins.map List.length = L.ports.map (fun p => p.pins.length) from hmir).trans hLw)
  simp only [hr, Option.map_some, Option.getD_some] at hrows
  obtain ⟨_, hblk⟩ := map_eq_map_getElem.mp hrows
  have F3j := F3 tj htjm
  simp only [hr, Bool.and_eq_true, decide_eq_true_eq, List.all_eq_true, List.mem_range, Bool.not_eq_eq_eq_not,
    Bool.not_true] at F3j
  obtain ⟨_, g4⟩ := F3j
  unfold fullRowsD fullRowsT
  simp only [hr, Option.map_some, Option.getD_some]
  refine map_eq_map_getElem.mpr ⟨by simpa using hplen, fun k k1 k2 => ?_⟩
  have k3 : k < r.ports.length := by simpa using k2
  simp only [List.getElem_range]
  apply eq_of_low
  · exact hlow Dj hDjm _ (List.getElem_mem k1)
  · obtain ⟨blk, mm, e, _⟩ := readerShape_sound _ _ (g4 k k3).2
    exact ⟨blk, mm, e⟩
  · simpa using hblk k k1 k2
  · have e1 : (pinBits D0 Dj.pins[k]).length = Dj.pins[k].length := by simp [pinBits]
    have e4 : r.ports.getD k default = r.ports[k] := getD_of_lt _ _ _ k3
    rw [e1, hwidth k k1 k3, hrowlen k k3, e4]
end Spydr.Verilog.Elab
