/-
  Verilog engine — helper lemmas for the bit-level theorems (reader side): Python slices,
  `get_wires_from_cable`, the port-map loop, bundles under resizing.
-/
import Spydr.Verilog.Model
import Spydr.Verilog.Spec
import Spydr.Common.Except

namespace Spydr.Verilog

theorem mapM_eq_some_map {α β : Type} {f : α → Option β} {g : α → β} :
    ∀ (l : List α), (∀ a ∈ l, f a = some (g a)) → l.mapM f = some (l.map g) :=
  fun l h => mapM_eq_some.mpr (by rw [List.map_map]; exact List.map_congr_left h)

theorem pyNorm_nonneg (n : Nat) (i : Int) (h0 : 0 ≤ i) (h1 : i ≤ n) : pyNorm n i = i.toNat := by
  unfold pyNorm
  rw [if_neg (by omega)]
  exact Nat.min_eq_left (by omega)

theorem pySlice_inrange {α : Type} (xs : List α) (lo hi : Int) (h0 : 0 ≤ lo) (h1 : lo ≤ hi)
    (h2 : hi ≤ xs.length) : pySlice xs lo hi = (xs.drop lo.toNat).take (hi.toNat - lo.toNat) := by
  unfold pySlice
  rw [pyNorm_nonneg _ lo h0 (by omega), pyNorm_nonneg _ hi (by omega) h2]

theorem pyIndex_inrange {α : Type} (xs : List α) (i : Int) (h0 : 0 ≤ i) :
    pyIndex xs i = xs[i.toNat]? :=
  if_pos h0

theorem Bundle.at?_of_le {α : Type} (b : Bundle α) {i : Int} (h : b.lower ≤ i) :
    b.at? i = b.items[(i - b.lower).toNat]? :=
  if_pos h

theorem Bundle.at?_eq_some {α : Type} {b : Bundle α} {i : Int} {x : α} (h : b.at? i = some x) :
    b.lower ≤ i ∧ b.items[(i - b.lower).toNat]? = some x := by
  unfold Bundle.at? at h
  split at h
  · exact ⟨‹_›, h⟩
  · cases h

theorem Bundle.at?_isSome {α : Type} (b : Bundle α) (i : Int) :
    (b.at? i).isSome ↔ b.lower ≤ i ∧ i < b.lower + b.items.length := by
  unfold Bundle.at?
  split
  · rw [isSome_getElem?]; omega
  · simp only [Option.isSome_none, Bool.false_eq_true, false_iff]; omega

theorem Bundle.at?_resized {α : Type} (b : Bundle α) (rz : Resize) (pre post : List α) (base' i : Int)
    (hl : rz.lower = base' - (pre.length : Int)) (x : α) (h : b.at? i = some x) :
    (b.resized rz pre post).at? (i - b.lower + base') = some x := by
  obtain ⟨hb, h⟩ := Bundle.at?_eq_some h
  have hlt := (List.getElem?_eq_some_iff.mp h).1
  have e : (i - b.lower + base' - rz.lower).toNat = pre.length + (i - b.lower).toNat := by omega
  rw [Bundle.at?_of_le _ (show rz.lower ≤ _ by omega)]
  show (pre ++ b.items ++ post)[(i - b.lower + base' - rz.lower).toNat]? = _
  rw [e, List.append_assoc, List.getElem?_append_right (by omega), Nat.add_sub_cancel_left,
    List.getElem?_append_left hlt, h]

/-- the guards around the prepend / postpend counts are redundant -/
theorem ite_toNat (a b : Int) : (if a < b then (b - a).toNat else 0) = (b - a).toNat := by
  split <;> omega

theorem inRange_le {l r : Option Int} {lo hi : Int} (h : inRange l r = some (lo, hi)) : lo ≤ hi := by
  unfold inRange at h
  split at h <;> cases h <;> omega

/-- the index `create_or_update_*` gives the old item 0: the requested low end on a defining call,
    the old base otherwise -/
def resizeBase (lower : Int) (l r : Option Int) (defining : Bool) : Int :=
  match inRange l r with
  | some (lo, _) => if defining then lo else lower
  | none => lower

theorem resizeBase_keep {lower : Int} {l r : Option Int} {defining : Bool}
    (hkeep : defining = false ∨ ∃ hi, inRange l r = some (lower, hi)) :
    resizeBase lower l r defining = lower := by
  unfold resizeBase
  rcases hkeep with rfl | ⟨hi, h⟩
  · cases inRange l r <;> rfl
  · rw [h]; exact ite_self _

theorem resize_lower (lower : Int) (width : Nat) (l r : Option Int) (defining : Bool) :
    (resizeCable lower width l r defining).lower =
      resizeBase lower l r defining - (resizeCable lower width l r defining).pre ∧
    (resizePort lower width l r defining).lower =
      resizeBase lower l r defining - (resizePort lower width l r defining).pre := by
  unfold resizeCable resizePort resizeBase
  cases inRange l r with
  | none => simp
  | some p => cases defining <;> simp only [Bool.false_eq_true, if_false, if_true] <;> split <;> simp

theorem getWires_range {α : Type} (c : Bundle α) (l r : Int)
    (hlo : c.lower ≤ min l r) (hhi : max l r < c.lower + c.items.length) :
    ∃ ws, getWires c (some l) (some r) = some ws ∧
      ws.length = (max l r - min l r + 1).toNat ∧
      ∀ k : Nat, k < ws.length → ws[k]? = c.at? (max l r - k) := by
  have hle : min l r ≤ max l r := Int.le_trans (Int.min_le_left ..) (Int.le_max_left ..)
  unfold getWires
  simp only [Int.sub_min_sub_right, Int.sub_max_sub_right]
  -- from here on `min l r` and `max l r` are `c.lower + a` and `c.lower + a + n`
  generalize min l r = lo at *
  generalize max l r = hi at *
  obtain ⟨a, rfl⟩ := Int.le.dest hlo
  obtain ⟨n, rfl⟩ := Int.le.dest hle
  rw [pySlice_inrange _ _ _ (by omega) (by omega) (by omega),
    show (c.lower + a - c.lower).toNat = a by omega,
    show (c.lower + a + n - c.lower + 1).toNat = a + n + 1 by omega,
    show (c.lower + a + n - (c.lower + a) + 1).toNat = n + 1 by omega]
  have hlen : ((c.items.drop a).take (a + n + 1 - a)).length = n + 1 := by
    rw [List.length_take, List.length_drop]; omega
  refine ⟨_, rfl, by rw [List.length_reverse, hlen], ?_⟩
  intro k hk
  rw [List.length_reverse, hlen] at hk
  rw [List.getElem?_reverse (by omega), hlen, List.getElem?_take_of_lt (by omega), List.getElem?_drop,
    c.at?_of_le (by omega)]
  congr 1
  omega

theorem getWires_single {α : Type} (c : Bundle α) (i : Int) (hlo : c.lower ≤ i) :
    getWires c (some i) none = (c.at? i).map (fun w => [w]) ∧
    getWires c none (some i) = (c.at? i).map (fun w => [w]) := by
  rw [c.at?_of_le hlo, ← pyIndex_inrange _ _ (by omega)]
  exact ⟨rfl, rfl⟩

theorem getWires_all {α : Type} (c : Bundle α) :
    ∃ ws, getWires c none none = some ws ∧ ws.length = c.items.length ∧
      ∀ k : Nat, k < ws.length → ws[k]? = c.at? (c.lower + c.items.length - 1 - k) := by
  refine ⟨_, rfl, List.length_reverse, ?_⟩
  intro k hk
  rw [List.length_reverse] at hk
  rw [List.getElem?_reverse hk, c.at?_of_le (by omega)]
  congr 1
  omega

theorem getWires_comm {α : Type} (c : Bundle α) (l r : Int) :
    getWires c (some l) (some r) = getWires c (some r) (some l) := by
  unfold getWires
  simp only
  rw [Int.min_comm, Int.max_comm]

theorem take_set_ge {β : Type} (pv : List β) (n k : Nat) (a : β) (h : k ≤ n) :
    (pv.set n a).take k = pv.take k :=
  List.take_set_of_le h

theorem foldlM_setPin_free {β : Type} (ws : List β) : ∀ (pv : PinVec β),
    ws.length ≤ pv.length → (∀ k, k < ws.length → pv[k]? = some none) →
    (ws.zip (List.range ws.length).reverse).foldlM (fun pv (p : β × Nat) => setPin pv p.2 p.1) pv =
      some ((ws.reverse.map some) ++ pv.drop ws.length) := by
  induction ws with
  | nil => intro pv _ _; rfl
  | cons w ws ih =>
    intro pv hlen hfree
    rw [List.length_cons] at hlen
    -- the first pair of the loop is `(w, |ws|)`: pin `|ws|` is set, the rest runs on the new vector
    have hstep : setPin pv ws.length w = some (pv.set ws.length (some w)) := by
      simp only [setPin, hfree ws.length (by simp)]
    have hrest := ih (pv.set ws.length (some w)) (by rw [List.length_set]; omega) (fun k hk => by
      rw [List.getElem?_set_ne (by omega)]; exact hfree k (by simp; omega))
    rw [List.length_cons, List.range_succ, List.reverse_append, List.reverse_singleton, List.singleton_append,
      List.zip_cons_cons, List.foldlM_cons, hstep, Option.bind_eq_bind, Option.bind_some, hrest]
    -- `some w` heads what lies above `ws`
    rw [List.drop_set, if_neg (by omega), Nat.sub_self, List.drop_eq_getElem_cons hlen, List.set_cons_zero]
    simp

/-- a pin already connected makes the loop fail (the reader raises, nothing is silently overwritten) -/
theorem setPin_none_of_connected {β : Type} (pv : PinVec β) (k : Nat) (w x : β)
    (h : pv[k]? = some (some x)) : setPin pv k w = none := by
  simp [setPin, h]

end Spydr.Verilog
