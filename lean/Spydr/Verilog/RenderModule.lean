/-
  The text of one definition.  Instances and assigns on a mixed instance list (`instances_foldA`, `assigns_foldA`), the
  module parameters (`params_text`), and `moduleText` on the two widest shapes: a work module with assigns and parameters
  (`moduleText_topA`), a primitive with attributes, parameters and ports without direction (`moduleText_leafX`).  The
  wider syntax contains the narrower (`astOfA_of`, `astLeafU_of`), so `moduleText_top`, `moduleText_leafU`,
  `moduleText_leaf` are instances.
-/
import Spydr.Verilog.RenderParts
namespace Spydr.Verilog.Elab
open Spydr.Verilog
open Spydr.Verilog.Text (starConstraints fixName showInt dirString bracketsDefining)

def peText : PExpr → String
  | .empty => ""
  | .atom a => Text.atomText a
  | .concat as => Text.concatText as

def connLine (c : String × PExpr) : String := "        ." ++ fixName c.1 ++ "(" ++ peText c.2 ++ ")"

def paramText (ps : Params) : String := if ps.isEmpty then "" else Text.instParamsText ps ++ "    "

def instLine (i : PInst) : String :=
  starText i.attrs ++ "    " ++ fixName i.mod ++ " " ++ paramText i.params ++ fixName i.name ++ "\n" ++
    ("    (\n" ++ ",\n".intercalate (i.conns.map connLine) ++ "\n    );") ++ "\n"

def asgLine (lr : Atom × Atom) : String := "assign " ++ Text.atomText lr.1 ++ " = " ++ Text.atomText lr.2 ++ ";\n"

def mparamLine (kv : String × String) : String := "\n    parameter " ++ kv.1 ++ " = " ++ kv.2

def mparamsText (ps : Params) : String :=
  if ps.isEmpty then "" else "#(" ++ ",".intercalate (ps.map mparamLine) ++ "\n)"

theorem instPortText_eq (T : Text.WDef) (p : Text.WPort) (pins : List (Option Bit)) (pn : String) (pe : PExpr)
    (hn : p.name = some pn) (he : emitPortExpr (Text.envOf T) pins = some pe) :
    Text.instPortText T p pins = .ok (connLine (pn, pe)) := by
  unfold Text.instPortText
  simp only [hn, he]
  cases pe <;> simp [connLine, peText, pure, Except.pure, String.append_assoc]

def insStep (n : Text.WNet) (o : Text.Opts) (d : Text.WDef) (txt : String) (i : Text.WInst) : Except String String := do
  match Text.refOf n i.ref with
  | none => throw "attribute: reference"
  | some r =>
    if r.lib == "SDN_VERILOG_ASSIGNMENT" then pure txt else
    let head := starConstraints i.attrs ++ "    " ++ fixName r.name ++ " " ++
      (if !o.defparam then (match i.params with
        | some ps => Text.instParamsText ps ++ "    "
        | none => "") else "") ++ fixName i.name ++ "\n"
    let ports ← (List.range r.ports.length).mapM (fun k => Text.instPortText d (r.ports.getD k default) (i.pins.getD k []))
    let body := "    (\n" ++ ",\n".intercalate ports ++ "\n    );"
    let dp := if o.defparam then (match i.params with
        | some ps => String.join (ps.map (fun kv => "    defparam " ++ fixName i.name ++ "." ++ kv.1 ++ "=" ++ kv.2 ++ ";\n"))
        | none => "") else ""
    pure (txt ++ head ++ body ++ "\n" ++ dp)

theorem instancesText_eq (n : Text.WNet) (o : Text.Opts) (d : Text.WDef) :
    Text.instancesText n o d = d.insts.foldlM (insStep n o d) "" := rfl

def InstText (n : Text.WNet) (i : Text.WInst) : Prop :=
  (∀ r, Text.refOf n i.ref = some r → r.lib ≠ "SDN_VERILOG_ASSIGNMENT") ∧ i.params ≠ some []

theorem refOf_name (n : Text.WNet) (nm : String) (r : Text.WDef) (h : Text.refOf n nm = some r) : r.name = nm := by
  unfold Text.refOf at h
  simpa using List.find?_some h

theorem insStep_inst (n : Text.WNet) (T : Text.WDef) (txt : String) (i : Text.WInst) (pi : PInst)
    (hpi : astInst n T i = some pi) (hf : InstText n i) :
    insStep n optsFrag T txt i = .ok (txt ++ instLine pi) := by
  unfold astInst at hpi
  cases hr : Text.refOf n i.ref with
  | none => simp [hr] at hpi
  | some r =>
    simp only [hr, Option.map_eq_some_iff] at hpi
    obtain ⟨conns, hm, hp⟩ := hpi
    have hports : (List.range r.ports.length).mapM (fun k => Text.instPortText T (r.ports.getD k default) (i.pins.getD k [])) =
        .ok (conns.map connLine) := by
      apply mapM_opt_exc _ _ connLine _ _ conns hm
      intro k c hc
      split at hc
      · rename_i pn pe hn he
        simp only [Option.some.injEq] at hc
        rw [← hc]
        exact instPortText_eq T _ _ pn pe hn he
      · cases hc
    have hl : (r.lib == "SDN_VERILOG_ASSIGNMENT") = false := by
      have := hf.1 r hr; simp [this]
    have hrn := refOf_name n i.ref r hr
    unfold insStep
    simp only [hr, bind, Except.bind, hl, Bool.false_eq_true, if_false, optsFrag, Bool.not_false, if_true, hports, pure,
      Except.pure]
    rw [← hp]
    congr 1
    cases hps : i.params with
    | none =>
      simp [instLine, paramText, starConstraints_getD, hrn, String.append_assoc]
    | some ps =>
      have hne : ps ≠ [] := by intro e; apply hf.2; rw [hps, e]
      have hem : ps.isEmpty = false := by cases ps <;> simp at hne ⊢
      simp [instLine, paramText, starConstraints_getD, hrn, hem, String.append_assoc]

/-- the text of `_write_module` for a module of the fragment.  The `"" ++` and the bracketing of this and the next three
    definitions are those of `Text.moduleText` with the parts that are empty for the shape: the last step of
    `moduleText_topA` / `moduleText_leafX` is `rfl` against it. -/
def renderMod (m : WModP) : String :=
  "" ++ starText m.attrs ++
    ("module " ++ fixName m.name ++ "\n" ++ "" ++ "(" ++
      ",".intercalate ((m.ports.map (fun p => "    " ++ fixName p.name)).map (fun s => "\n" ++ s)) ++ "\n);\n" ++ "\n") ++
    (String.join (m.ports.map portLine) ++ "\n") ++
    ((String.join (m.wires.map wireLine) ++ "\n") ++ "" ++ String.join (m.insts.map instLine)) ++
    "endmodule" ++ "" ++ "\n\n"

/-- the text of `_write_module` for a primitive -/
def renderLeaf (lf : WLeaf) : String :=
  "`celldefine\n" ++ "" ++
    ("module " ++ fixName lf.name ++ "\n" ++ "" ++ "(" ++
      ",".intercalate ((lf.ports.map (fun p => "    " ++ fixName p.name)).map (fun s => "\n" ++ s)) ++ "\n);\n" ++ "\n") ++
    (String.join (lf.ports.map portLine) ++ "\n") ++ "" ++ "endmodule" ++ "\n`endcelldefine" ++ "\n\n"

/-- the text of `_write_module` for a module with assigns -/
def renderModA (m : WModPA) : String :=
  "" ++ starText m.base.attrs ++
    ("module " ++ fixName m.base.name ++ "\n" ++ mparamsText m.params ++ "(" ++
      ",".intercalate ((m.base.ports.map (fun p => "    " ++ fixName p.name)).map (fun s => "\n" ++ s)) ++ "\n);\n" ++ "\n") ++
    (String.join (m.base.ports.map portLine) ++ "\n") ++
    ((String.join (m.base.wires.map wireLine) ++ "\n") ++ String.join (m.asgs.map asgLine) ++
      String.join (m.base.insts.map instLine)) ++
    "endmodule" ++ "" ++ "\n\n"

/-- the text of `_write_module` for a primitive with attributes and parameters -/
def renderLeafX (lf : WLeafX) : String :=
  "`celldefine\n" ++ starText lf.attrs ++
    ("module " ++ fixName lf.base.name ++ "\n" ++ mparamsText lf.params ++ "(" ++
      ",".intercalate ((lf.base.ports.map (fun p => "    " ++ fixName p.name)).map (fun s => "\n" ++ s)) ++ "\n);\n" ++ "\n") ++
    (String.join (lf.base.ports.map portLine) ++ "\n") ++ "" ++ "endmodule" ++ "\n`endcelldefine" ++ "\n\n"

def renderAny : WAnyP → String
  | .work m => renderMod m
  | .leaf lf => renderLeaf lf

def renderAnyA : WAnyPA → String
  | .work m => renderModA m
  | .leaf lf => renderLeafX lf

/-- what `_write_module` prints around the port declarations `decls` and the rest of the body `rest`: the `celldefine`
    lines of a primitive, `(* *)`, `module` name, `#(parameter …)`, the header names, `endmodule` -/
def frameText (cell : Bool) (attrs : Attrs) (name : String) (params : Params) (ports : List String) (decls rest : String) :
    String :=
  (if cell then "`celldefine\n" else "") ++ starText attrs ++
    ("module " ++ fixName name ++ "\n" ++ mparamsText params ++ "(" ++
      ",".intercalate (ports.map (fun p => "\n" ++ ("    " ++ fixName p))) ++ "\n);\n" ++ "\n") ++
    (decls ++ "\n") ++ rest ++ "endmodule" ++ (if cell then "\n`endcelldefine" else "") ++ "\n\n"

/-- A text fold whose step appends the line of the syntax `f i` for an item the filter keeps and leaves the text as it is for
    any other item. -/
theorem foldlM_filter_lines {α β : Type} (step : String → α → Except String String) (keep : α → Bool) (f : α → Option β)
    (line : β → String) (ok : α → Prop) (hskip : ∀ txt i, ok i → keep i = false → step txt i = .ok txt)
    (hkeep : ∀ txt i b, ok i → keep i = true → f i = some b → step txt i = .ok (txt ++ line b)) :
    ∀ (is : List α) (bs : List β) (txt : String), (is.filter keep).mapM f = some bs → (∀ i ∈ is, ok i) →
      is.foldlM step txt = .ok (txt ++ String.join (bs.map line)) := by
  intro is
  induction is with
  | nil =>
    intro bs txt hm _
    simp only [List.filter_nil, List.mapM_nil, pure, Option.some.injEq] at hm
    subst hm
    simp [pure, Except.pure]
  | cons i is ih =>
    intro bs txt hm hok
    have hrest := fun x hx => hok x (List.mem_cons_of_mem _ hx)
    by_cases hk : keep i = true
    · rw [List.filter_cons_of_pos hk] at hm
      obtain ⟨b, bs', hb, hr, rfl⟩ := mapM_cons_some hm
      simp only [List.foldlM_cons, bind, Except.bind, hkeep txt i b (hok i List.mem_cons_self) hk hb]
      rw [ih bs' _ hr hrest]
      simp [String.append_assoc]
    · rw [List.filter_cons_of_neg hk] at hm
      simp only [List.foldlM_cons, bind, Except.bind, hskip txt i (hok i List.mem_cons_self) (by simpa using hk)]
      exact ih bs txt hm hrest

/-- the writer's test for an assignment instance, spelled out -/
theorem isAsgI_iff {n : Text.WNet} {i : Text.WInst} :
    isAsgI n i = true ↔ ∃ r, Text.refOf n i.ref = some r ∧ r.lib = "SDN_VERILOG_ASSIGNMENT" := by
  unfold isAsgI
  cases Text.refOf n i.ref <;> simp

/-- `assignsText`: one line per assignment instance, in the order of the instance list; other instances are skipped -/
theorem assigns_foldA (n : Text.WNet) (T : Text.WDef) : ∀ (is : List Text.WInst) (as : List (Atom × Atom)) (txt : String),
    (is.filter (isAsgI n)).mapM (astAsg n T) = some as → (∀ i ∈ is, (Text.refOf n i.ref).isSome = true) →
    is.foldlM (asgStep n T) txt = .ok (txt ++ String.join (as.map asgLine)) := by
  refine foldlM_filter_lines (asgStep n T) (isAsgI n) (astAsg n T) asgLine (fun i => (Text.refOf n i.ref).isSome = true) ?_ ?_
  · intro txt i hri hai
    obtain ⟨r, hrf⟩ := Option.isSome_iff_exists.mp hri
    have : (r.lib != "SDN_VERILOG_ASSIGNMENT") = true :=
      bne_iff_ne.mpr fun e => Bool.false_ne_true (hai ▸ isAsgI_iff.mpr ⟨r, hrf, e⟩)
    unfold asgStep
    simp only [hrf, this, if_true, pure, Except.pure]
  · intro txt i lr _ hai ha
    obtain ⟨r, hrf, hl⟩ := isAsgI_iff.mp hai
    unfold astAsg at ha
    unfold asgStep
    simp only [hrf] at ha
    simp only [hrf, hl, bne_self_eq_false, Bool.false_eq_true, if_false]
    split at ha
    · rename_i ki ko hki hko
      simp only [hki, hko, ha, pure, Except.pure]
      simp [asgLine, String.append_assoc]
    · cases ha

theorem assigns_fold (n : Text.WNet) (T : Text.WDef) : ∀ (is : List Text.WInst) (txt : String),
    (∀ i ∈ is, ∃ r, Text.refOf n i.ref = some r ∧ r.lib ≠ "SDN_VERILOG_ASSIGNMENT") →
    is.foldlM (asgStep n T) txt = .ok txt:= by
  intro is txt h
  have hf : is.filter (isAsgI n) = [] := List.filter_eq_nil_iff.mpr fun i hi => by
    obtain ⟨r, hr, hl⟩ := h i hi
    simp [isAsgI_iff, hr, hl]
  simpa using assigns_foldA n T is [] txt (by rw [hf]; rfl) (fun i hi => by obtain ⟨r, hr, _⟩ := h i hi; simp [hr])

/-- `instancesText`: the instances that are no assignments, in the order of the instance list -/
theorem instances_foldA (n : Text.WNet) (T : Text.WDef) : ∀ (is : List Text.WInst) (pis : List PInst) (txt : String),
    (is.filter (fun i => !isAsgI n i)).mapM (astInst n T) = some pis →
    (∀ i ∈ is, isAsgI n i = false → i.params ≠ some []) →
    is.foldlM (insStep n optsFrag T) txt = .ok (txt ++ String.join (pis.map instLine)) := by
  refine foldlM_filter_lines (insStep n optsFrag T) (fun i => !isAsgI n i) (astInst n T) instLine
    (fun i => isAsgI n i = false → i.params ≠ some []) ?_ ?_
  · intro txt i _ hai
    obtain ⟨r, hrf, hl⟩ := isAsgI_iff.mp (by simpa using hai)
    unfold insStep
    simp only [hrf, hl, beq_self_eq_true, if_true, pure, Except.pure]
  · intro txt i pi hf hai hpi
    have hai' : isAsgI n i = false := by simpa using hai
    exact insStep_inst n T txt i pi hpi
      ⟨fun r hr e => Bool.false_ne_true (hai' ▸ isAsgI_iff.mpr ⟨r, hr, e⟩), hf hai'⟩

theorem params_lines : ∀ (ps : List (String × Option String)) (pars : Params),
    ps.mapM (fun kv => kv.2.map (fun v => (kv.1, v))) = some pars →
    ps.map (fun kv => "\n    parameter " ++ kv.1 ++ (match kv.2 with
      | some v => " = " ++ v
      | none => "")) = pars.map mparamLine ∧ pars.length = ps.length := by
  intro ps
  induction ps with
  | nil => intro pars h; simp only [List.mapM_nil, pure, Option.some.injEq] at h; subst h; exact ⟨rfl, rfl⟩
  | cons kv ps ih =>
    intro pars h
    rw [List.mapM_cons] at h
    obtain ⟨k, v⟩ := kv
    cases v with
    | none => simp at h
    | some v =>
      cases hr : ps.mapM (fun kv => kv.2.map (fun v => (kv.1, v))) with
      | none => simp [hr] at h
      | some pars' =>
        simp only [hr, Option.map_some, Option.bind_eq_bind, Option.bind_some, pure, Option.some.injEq] at h
        subst h
        obtain ⟨a, b⟩ := ih pars' hr
        refine ⟨?_, by simp [b]⟩
        show ("\n    parameter " ++ k ++ (" = " ++ v)) :: _ = _
        rw [a]
        simp [mparamLine, String.append_assoc]

theorem params_text (T : Text.WDef) (pars : Params) (h : astParams T = some pars) (hne : T.params ≠ some []) :
    (match T.params with
     | some ps => Text.moduleParamsText ps
     | none => "") = mparamsText pars := by
  unfold astParams at h
  cases hp : T.params with
  | none =>
    simp only [hp, Option.some.injEq] at h
    subst h
    rfl
  | some ps =>
    simp only [hp] at h
    obtain ⟨a, b⟩ := params_lines ps pars h
    have hne' : ps ≠ [] := by intro e; apply hne; rw [hp, e]
    have hem : pars.isEmpty = false := by
      cases pars with
      | nil => exact absurd (List.eq_nil_of_length_eq_zero b.symm) hne'
      | cons x xs => rfl
    unfold Text.moduleParamsText mparamsText
    simp only [hem, Bool.false_eq_true, if_false]
    exact congrArg (fun l => "#(" ++ ",".intercalate l ++ "\n)") a

def optsBB : Text.Opts := ⟨none, true, false⟩

theorem instancesText_bb (n : Text.WNet) (d : Text.WDef) :
    Text.instancesText n optsBB d = Text.instancesText n optsFrag d := rfl

theorem moduleText_bb_nonprim (n : Text.WNet) (d : Text.WDef) (h : d.lib ≠ "hdi_primitives") :
    Text.moduleText n optsBB d = Text.moduleText n optsFrag d := by
  have hp : (d.lib == "hdi_primitives") = false := by simp [h]
  unfold Text.moduleText
  simp only [optsBB, optsFrag, hp, Bool.false_and, Bool.false_eq_true, if_false]
  rfl

structure TopTextA (n : Text.WNet) (T : Text.WDef) : Prop where
  lib1 : T.lib ≠ "SDN_VERILOG_ASSIGNMENT"
  lib2 : T.lib ≠ "hdi_primitives"
  params : T.params ≠ some []
  insts : ∀ i ∈ T.insts, isAsgI n i = false → i.params ≠ some []

theorem moduleText_topA (n : Text.WNet) (T : Text.WDef) (m : WModPA) (hfrag : fragTop n T = true) (ht : TopTextA n T)
    (hm : astOfA n T = some m) : Text.moduleText n optsFrag T = .ok (renderModA m) := by
  simp only [fragTop, Bool.and_eq_true, decide_eq_true_eq, List.all_eq_true] at hfrag
  obtain ⟨⟨⟨⟨F1, F1w⟩, F2n⟩, F2⟩, F3⟩ := hfrag
  obtain ⟨ports, insts, as, pars, hports, hinsts, hasg, hpar, rfl⟩ := astOfA_some n T m hm
  have H2 : ∀ c ∈ T.cables, 1 ≤ c.width := fun c hc => by simpa using F1w c hc
  have hPF : ∀ p ∈ T.ports, PortFrag T p := by
    intro p hp nm hn c hc
    have := F2 p hp
    simp only [hn, hc, Bool.and_eq_true, decide_eq_true_eq] at this
    exact ⟨this.1.1, this.1.2, this.2, H2 c (List.mem_of_find?_eq_some hc)⟩
  have hbp : Text.bodyPortsText T = .ok (String.join (ports.map portLine) ++ "\n") := by
    rw [bodyPortsText_eq]
    simp only [bind, Except.bind, bodyPorts_fold T T.ports ports "" [] hports hPF (by intro p _ nm _ h; cases h) F2n,
      pure, Except.pure]
    simp
  have hbc := bodyCables_text T H2
  have hrefs : ∀ i ∈ T.insts, (Text.refOf n i.ref).isSome = true := by
    intro i hi
    have := F3 i hi
    cases hr : Text.refOf n i.ref with
    | none => simp [hr] at this
    | some r => rfl
  have has : Text.assignsText n T = .ok (String.join (as.map asgLine)) := by
    rw [assignsText_eq, assigns_foldA n T T.insts as "" hasg hrefs]
    simp
  have hin : Text.instancesText n optsFrag T = .ok (String.join (insts.map instLine)) := by
    rw [instancesText_eq, instances_foldA n T T.insts insts "" hinsts ht.insts]
    simp
  have hhp := headerPorts_text T T.ports ports hports
  have hl1 : (T.lib == "SDN_VERILOG_ASSIGNMENT") = false := by simp [ht.lib1]
  have hl2 : (T.lib == "hdi_primitives") = false := by simp [ht.lib2]
  unfold Text.moduleText
  simp only [optsFrag, bind, Except.bind, pure, Except.pure, hl1, hl2, Bool.false_eq_true, if_false, Bool.false_and,
    hhp, hbp, hbc, has]
  have hin' : Text.instancesText n { defList := none, writeBlackbox := false, defparam := false } T =
      .ok (String.join (insts.map instLine)) := hin
  rw [hin']
  delta renderModA
  simp only [starConstraints_getD, List.map_map]
  rw [← params_text T pars hpar ht.params]
  rfl

theorem moduleText_asgdef (n : Text.WNet) (d : Text.WDef) (h : d.lib = "SDN_VERILOG_ASSIGNMENT") :
    Text.moduleText n optsBB d = .ok "" := by
  unfold Text.moduleText
  simp [optsBB, h, pure, Except.pure]

theorem moduleText_prim (n : Text.WNet) (d : Text.WDef) (h : d.lib = "hdi_primitives") :
    Text.moduleText n optsFrag d = .ok "" := by
  unfold Text.moduleText
  simp [optsFrag, h, pure, Except.pure]

structure TopText (n : Text.WNet) (T : Text.WDef) : Prop where
  lib1 : T.lib ≠ "SDN_VERILOG_ASSIGNMENT"
  lib2 : T.lib ≠ "hdi_primitives"
  params : T.params = none
  insts : ∀ i ∈ T.insts, InstText n i

theorem isAsgI_of_instText {n : Text.WNet} {i : Text.WInst} (h : InstText n i) : isAsgI n i = false :=
  Bool.eq_false_iff.mpr fun hai => by
    obtain ⟨r, hr, e⟩ := isAsgI_iff.mp hai
    exact h.1 r hr e

/-- a definition without assignment instances and module parameters is written as one with none of either -/
theorem astOfA_of (n : Text.WNet) (T : Text.WDef) (m : WModP) (ht : TopText n T) (hm : astOf n T = some m) :
    astOfA n T = some ⟨m, [], []⟩ := by
  have ho : ordI n T = T.insts := List.filter_eq_self.mpr fun i hi => by simp [isAsgI_of_instText (ht.insts i hi)]
  have ha : asgI n T = [] := List.filter_eq_nil_iff.mpr fun i hi => by simp [isAsgI_of_instText (ht.insts i hi)]
  obtain ⟨ports, insts, hp, hi, rfl⟩ := astOf_eq hm
  simp [astOfA, ho, ha, hp, hi, astParams, ht.params]

theorem moduleText_top (n : Text.WNet) (T : Text.WDef) (m : WModP) (hfrag : fragTop n T = true) (ht : TopText n T)
    (hm : astOf n T = some m) : Text.moduleText n optsFrag T = .ok (renderMod m):=
  moduleText_topA n T ⟨m, [], []⟩ hfrag ⟨ht.lib1, ht.lib2, by rw [ht.params]; simp, fun i hi _ => (ht.insts i hi).2⟩
    (astOfA_of n T m ht hm)

structure LeafTextX (r : Text.WDef) : Prop where
  lib : r.lib = "hdi_primitives"
  params : r.params ≠ some []

theorem moduleText_leafX (n : Text.WNet) (r : Text.WDef) (lf : WLeafX) (ht : LeafTextX r) (ha : astLeafXU r = some lf)
    (hnd : (lf.base.ports.map (·.name)).Nodup) : Text.moduleText n optsBB r = .ok (renderLeafX lf) := by
  obtain ⟨hU, hat, hpar⟩ := astLeafXU_spec r lf ha
  unfold astLeafU at hU
  simp only [Option.map_eq_some_iff] at hU
  obtain ⟨qs, hqs, e⟩ := hU
  have hports : lf.base.ports = qs := by rw [← e]
  have hname : lf.base.name = r.name := by rw [← e]
  obtain ⟨hhp, hbp⟩ := leafU_ports_text r qs hqs (by rw [← hports]; exact hnd)
  have hl1 : (r.lib == "SDN_VERILOG_ASSIGNMENT") = false := by rw [ht.lib]; decide
  have hl2 : (r.lib == "hdi_primitives") = true := by rw [ht.lib]; decide
  unfold Text.moduleText
  simp only [optsBB, bind, Except.bind, pure, Except.pure, hl1, hl2, Bool.false_eq_true, if_false, Bool.not_true, Bool.and_false,
    if_true, hhp, hbp]
  delta renderLeafX
  simp only [starConstraints_getD, List.map_map, hports, hname, hat]
  rw [← params_text r lf.params hpar ht.params]
  rfl

structure LeafText (r : Text.WDef) : Prop where
  lib : r.lib = "hdi_primitives"
  attrs : r.attrs.getD [] = []
  params : r.params = none

theorem moduleText_leafU (n : Text.WNet) (r : Text.WDef) (lf : WLeaf) (ht : LeafText r) (ha : astLeafU r = some lf)
    (hnd : (lf.ports.map (·.name)).Nodup) : Text.moduleText n optsBB r = .ok (renderLeaf lf):=
  moduleText_leafX n r ⟨lf, [], []⟩ ⟨ht.lib, by rw [ht.params]; simp⟩
    (by simp [astLeafXU, ha, astParams, ht.params, ht.attrs]) hnd

theorem astLeafPortU_of (r : Text.WDef) (p : Text.WPort) (q : PDecl) (h : astLeafPort r p = some q) :
    astLeafPortU r p = some q := by
  unfold astLeafPortU
  cases hd : dirOfS p.dir with
  | some d => exact h
  | none => unfold astLeafPort at h; rw [hd] at h; split at h <;> simp_all

theorem astLeafU_of (r : Text.WDef) (lf : WLeaf) (h : astLeaf r = some lf) : astLeafU r = some lf := by
  unfold astLeaf at h; unfold astLeafU
  simp only [Option.map_eq_some_iff] at h ⊢
  obtain ⟨qs, hqs, e⟩ := h
  exact ⟨qs, mapM_congr_some _ _ (fun p _ q => astLeafPortU_of r p q) hqs, e⟩

theorem moduleText_leaf (n : Text.WNet) (r : Text.WDef) (lf : WLeaf) (ht : LeafText r) (ha : astLeaf r = some lf)
    (hnd : (lf.ports.map (·.name)).Nodup) : Text.moduleText n optsBB r = .ok (renderLeaf lf):=
  moduleText_leafU n r lf ht (astLeafU_of r lf ha) hnd

end Spydr.Verilog.Elab
