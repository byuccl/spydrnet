/-
  Instances with a named port map of a module that is in the table.  One entry, when the port is based at 0 and wide
  enough and the expression stays inside the declared cables, changes exactly one instance row (`namedConn_step`); one
  instantiation is the pure fold of `connStep` over its port map (`instantiate_named`); all instantiations of a module
  body in order (`instances_fold`).
-/
import Spydr.Verilog.RoundTripState
import Spydr.Verilog.Props.C06
import Spydr.Verilog.SyntaxTypes
namespace Spydr.Verilog.Elab
open Spydr.Verilog

theorem resizePort_inside (W n : Nat) (hn : 1 ≤ n) (hW : n ≤ W) :
    resizePort 0 W (some ((n : Int) - 1)) (some 0) false = ⟨0, 0, 0⟩ := by
  unfold resizePort inRange
  have h1 : min ((n : Int) - 1) 0 = 0 := by omega
  have h2 : max ((n : Int) - 1) 0 = (n : Int) - 1 := by omega
  simp only [h1, h2, Bool.false_eq_true, if_false]
  split
  · rfl
  · have a : ¬ (0 : Int) < 0 := by omega
    have b : ¬ ((n : Int) - 1 > 0 + (W : Int) - 1) := by omega
    simp [a]; intro; omega

def RowsFull (s : St) (ref : String) (n : Nat) : Prop :=
  ∀ d ∈ s.defs, ∀ i ∈ d.insts, i.ref = ref → n ≤ i.pins.length

theorem RowsFull.of_defs {s s' : St} {ref : String} {n : Nat} (h : s'.defs = s.defs) (hr : RowsFull s ref n) :
    RowsFull s' ref n := by
  unfold RowsFull at hr ⊢; rw [h]; exact hr

theorem RowsFull.upd {s : St} {ref : String} {k : Nat} (h : RowsFull s ref k) (n : String) (f : Def → Def)
    (hf : ∀ x ∈ s.defs, x.name = n → ∀ i ∈ (f x).insts, i.ref = ref → k ≤ i.pins.length) :
    RowsFull (s.upd n f) ref k := by
  intro d' hd' i hi href
  obtain ⟨x, hx, ⟨e, rfl⟩ | ⟨_, rfl⟩⟩ := St.mem_upd hd'
  · exact hf x hx e i hi href
  · exact h _ hx i hi href

theorem mapInstRows_id (s : St) (ref : String) (k : Nat) (f : List (Option Nat) → List (Option Nat))
    (hf : ∀ row, f row = row) (hr : RowsFull s ref (k + 1)) : mapInstRows s ref k f = s := by
  unfold mapInstRows
  rw [map_id_of_mem]
  intro d hd
  rw [map_id_of_mem]
  intro i hi
  by_cases e : i.ref = ref
  · have e0 : k + 1 - i.pins.length = 0 := by have := hr d hd i hi e; omega
    subst e
    simp only [beq_self_eq_true, if_true, e0, List.replicate_zero, List.append_nil, hf, set_getD_self]
  · simp [e]

theorem createOrUpdatePort_inside (s : St) (ref pname : String) (rd : Def) (k n : Nat)
    (hd : Has s ref rd) (hk : portIdx rd pname = some k)
    (hlow : (rd.ports.getD k default).lower = 0) (hn : 1 ≤ n) (hW : n ≤ (rd.ports.getD k default).pins.length)
    (hr : RowsFull s ref (k + 1)) :
    createOrUpdatePort s ref pname (some ((n : Int) - 1)) (some 0) none false = .ok s := by
  rw [createOrUpdatePort_eq hd]
  simp only [portUpd, hk, hlow, resizePort_inside _ n hn hW, Option.getD_none]
  have hp : ∀ p : Port, p.lower = 0 → ({ p with lower := 0, pins := padRz ⟨0, 0, 0⟩ p.pins } : Port) = p := by
    intro p h; simp [padRz, ← h]
  rw [hp _ hlow, show putPort k (rd.ports.getD k default) rd = rd by unfold putPort; rw [set_getD_self], St.put_self s ref rd hd]
  exact congrArg Except.ok (mapInstRows_id s ref k _ (by intro row; simp [padRz]) hr)

def setRows (s : St) (dn : String) (ii : Nat) (i0 : Inst) (rows : List (List (Option Nat))) : St :=
  s.upd dn (fun d => { d with insts := d.insts.set ii { i0 with pins := rows } })

theorem instIdx_set (d : Def) (iname : String) (ii : Nat) (i0 : Inst) (rows : List (List (Option Nat)))
    (h : instIdx d iname = some ii) (h0 : i0.name = iname) :
    instIdx { d with insts := d.insts.set ii { i0 with pins := rows } } iname = some ii := by
  unfold instIdx at h ⊢
  rw [List.findIdx?_eq_some_iff_getElem] at h ⊢
  obtain ⟨hlt, _, hq⟩ := h
  exact ⟨by simpa using hlt, by simp [h0], fun j hj => by rw [List.getElem_set_ne (by omega)]; exact hq j hj⟩

theorem atomWires_cables (d d' : Def) (h : d'.cables = d.cables) (a : XAtom) : atomWires d' a = atomWires d a := by
  unfold atomWires; rw [h]

theorem exprWires_cables (d d' : Def) (h : d'.cables = d.cables) (e : XExpr) : exprWires d' e = exprWires d e := by
  cases e with
  | empty => rfl
  | atom a => exact atomWires_cables d d' h a
  | cat as =>
    simp only [exprWires]
    induction as with
    | nil => rfl
    | cons a as ih => simp only [atomsWires, atomWires_cables d d' h a, ih]

theorem namedConn_step (s : St) (dn ref iname pname : String) (d rd : Def) (ii k : Nat) (i0 : Inst)
    (rows : List (List (Option Nat))) (e : XExpr) (ws : List Nat)
    (hd : Has s dn d) (hrd : Has s ref rd) (hne : ref ≠ dn) (hcn : (d.cables.map (·.name)).Nodup)
    (hi : instIdx d iname = some ii) (h0 : i0.name = iname)
    (hk : portIdx rd pname = some k) (hlow : (rd.ports.getD k default).lower = 0)
    (hws : exprWires d e = some ws) (hemp : e ≠ .empty) (h1 : 1 ≤ ws.length)
    (hW : ws.length ≤ (rd.ports.getD k default).pins.length)
    (hrf : RowsFull (setRows s dn ii i0 rows) ref (k + 1))
    (hrow : ws.length ≤ (rows.getD k []).length)
    (hfree : ∀ j, j < ws.length → (rows.getD k [])[j]? = some none) :
    namedConn (setRows s dn ii i0 rows) dn iname ref pname e =
      .ok (setRows s dn ii i0 (rows.set k (ws.reverse.map some ++ (rows.getD k []).drop ws.length))) := by
  have hname : ∀ x : Def, ({ x with insts := x.insts.set ii { i0 with pins := rows } } : Def).name = x.name := fun _ => rfl
  have hd1 : Has (setRows s dn ii i0 rows) dn { d with insts := d.insts.set ii { i0 with pins := rows } } :=
    hd.upd _ hname
  have hrd1 : Has (setRows s dn ii i0 rows) ref rd := hrd.upd_other _ hname hne
  have hws1 : exprWires { d with insts := d.insts.set ii { i0 with pins := rows } } e = some ws := by
    exact (exprWires_cables d { d with insts := d.insts.set ii { i0 with pins := rows } } rfl e).trans hws
  have hev := evalExprE_fixed (setRows s dn ii i0 rows) dn e _ ws hd1 hcn hws1
  have hport := createOrUpdatePort_inside (setRows s dn ii i0 rows) ref pname rd k ws.length hrd1 hk hlow h1 hW hrf
  have hiilt := instIdx_lt hi
  have hconn : connectInstRow (setRows s dn ii i0 rows) dn iname k ws =
      .ok (setRows s dn ii i0 (rows.set k (ws.reverse.map some ++ (rows.getD k []).drop ws.length))) := by
    unfold connectInstRow
    rw [getDef_has hd1]
    simp only [bind, Except.bind, instIdx_set d iname ii i0 rows hi h0]
    simp only [getD_set_self _ _ _ _ hiilt, connect_low_aligned (rows.getD k []) ws hrow hfree, pure, Except.pure]
    unfold setRows
    rw [St.upd_upd _ _ _ _ hname]
    simp only [List.set_set]
  cases e with
  | empty => exact absurd rfl hemp
  | atom a =>
    simp only [namedConn, bind, Except.bind, hev, hport, getDef_has hrd1, hk]
    exact hconn
  | cat as =>
    simp only [namedConn, bind, Except.bind, hev, hport, getDef_has hrd1, hk]
    exact hconn

/-- what one named port-map entry does to the pin rows of the instance being built (pure; `none` = the
    entry is outside the fragment: unknown port, port not based at 0, expression outside the declared cables,
    wider than the port, or the port already connected) -/
def connStep (d rd : Def) (rows : List (List (Option Nat))) (c : String × XExpr) : Option (List (List (Option Nat))) :=
  match portIdx rd c.1 with
  | none => none
  | some k =>
    if (rd.ports.getD k default).lower = 0 ∧ k < rows.length then
      match c.2 with
      | .empty => if 1 ≤ (rd.ports.getD k default).pins.length then some rows else none
      | e =>
        match exprWires d e with
        | none => none
        | some ws =>
          if 1 ≤ ws.length ∧ ws.length ≤ (rd.ports.getD k default).pins.length ∧ ws.length ≤ (rows.getD k []).length ∧
              ((rows.getD k []).take ws.length).all (fun p => p.isNone) = true then
            some (rows.set k (ws.reverse.map some ++ (rows.getD k []).drop ws.length))
          else none
    else none

theorem connStep_inv {d rd : Def} {rows rows' : List (List (Option Nat))} {c : String × XExpr}
    (h : connStep d rd rows c = some rows') :
    ∃ k, portIdx rd c.1 = some k ∧ (rd.ports.getD k default).lower = 0 ∧ k < rows.length ∧
      ((c.2 = .empty ∧ 1 ≤ (rd.ports.getD k default).pins.length ∧ rows' = rows) ∨
       (c.2 ≠ .empty ∧ ∃ ws, exprWires d c.2 = some ws ∧ 1 ≤ ws.length ∧
          ws.length ≤ (rd.ports.getD k default).pins.length ∧ ws.length ≤ (rows.getD k []).length ∧
          ((rows.getD k []).take ws.length).all (fun p => p.isNone) = true ∧
          rows' = rows.set k (ws.reverse.map some ++ (rows.getD k []).drop ws.length))) := by
  unfold connStep at h
  split at h
  · cases h
  · rename_i k hk
    split at h
    · rename_i hc
      refine ⟨k, hk, hc.1, hc.2, ?_⟩
      split at h
      · rename_i he
        split at h
        · rename_i hw; cases h; exact .inl ⟨he, hw, rfl⟩
        · cases h
      · rename_i hne
        split at h
        · cases h
        · rename_i ws hws
          split at h
          · rename_i hc2; cases h; exact .inr ⟨fun e => hne e, ws, hws, hc2.1, hc2.2.1, hc2.2.2.1, hc2.2.2.2, rfl⟩
          · cases h
    · cases h

theorem connStep_length {d rd : Def} {rows rows' : List (List (Option Nat))} {c : String × XExpr}
    (h : connStep d rd rows c = some rows') : rows'.length = rows.length := by
  obtain ⟨k, _, _, _, ⟨_, _, rfl⟩ | ⟨_, ws, _, _, _, _, _, rfl⟩⟩ := connStep_inv h
  · rfl
  · simp

theorem take_all_none {β : Type} (row : List (Option β)) (n : Nat)
    (h : (row.take n).all (fun p => p.isNone) = true) (hn : n ≤ row.length) :
    ∀ j, j < n → row[j]? = some none := by
  intro j hj
  have hjl : j < row.length := by omega
  have := List.all_eq_true.mp h row[j] (List.mem_take_iff_getElem.mpr ⟨j, by omega, rfl⟩)
  rw [List.getElem?_eq_getElem hjl]
  cases hr : row[j] with
  | none => rfl
  | some x => rw [hr] at this; cases this

theorem RowsFull_setRows (s : St) (dn ref : String) (ii : Nat) (i0 : Inst) (rows : List (List (Option Nat))) (n : Nat)
    (hs : RowsFull s ref n) (hr : n ≤ rows.length) : RowsFull (setRows s dn ii i0 rows) ref n := by
  apply hs.upd
  intro x hx _ i hi href
  rcases List.mem_or_eq_of_mem_set hi with h | h
  · exact hs x hx i h href
  · rw [h]; exact hr

theorem namedConn_of_connStep (s : St) (dn ref iname : String) (d rd : Def) (ii : Nat) (i0 : Inst)
    (hd : Has s dn d) (hrd : Has s ref rd) (hne : ref ≠ dn) (hcn : (d.cables.map (·.name)).Nodup)
    (hi : instIdx d iname = some ii) (h0 : i0.name = iname) (hs : RowsFull s ref rd.ports.length)
    (rows rows' : List (List (Option Nat))) (hlen : rows.length = rd.ports.length) (c : String × XExpr)
    (h : connStep d rd rows c = some rows') :
    namedConn (setRows s dn ii i0 rows) dn iname ref c.1 c.2 = .ok (setRows s dn ii i0 rows') := by
  obtain ⟨k, hk, hlow, hkr, hcase⟩ := connStep_inv h
  have hklt := portIdx_lt hk
  have hrf : RowsFull (setRows s dn ii i0 rows) ref (k + 1) :=
    RowsFull_setRows s dn ref ii i0 rows (k + 1)
      (fun d' hd' i hi' hr => Nat.le_trans (by omega) (hs d' hd' i hi' hr)) (by omega)
  rcases hcase with ⟨he, hw, rfl⟩ | ⟨hne', ws, hws, h1, hW, hrow, hfree, rfl⟩
  · rw [he]
    exact createOrUpdatePort_inside _ ref c.1 rd k 1 (hrd.upd_other _ (fun _ => rfl) hne) hk hlow (Nat.le_refl 1) hw hrf
  · exact namedConn_step s dn ref iname c.1 d rd ii k i0 rows c.2 ws hd hrd hne hcn hi h0 hk hlow hws hne' h1 hW hrf
      hrow (take_all_none _ _ hfree hrow)

theorem namedFold (s : St) (dn ref iname : String) (d rd : Def) (ii : Nat) (i0 : Inst)
    (hd : Has s dn d) (hrd : Has s ref rd) (hne : ref ≠ dn) (hcn : (d.cables.map (·.name)).Nodup)
    (hi : instIdx d iname = some ii) (h0 : i0.name = iname) (hs : RowsFull s ref rd.ports.length) :
    ∀ (conns : List (String × XExpr)) (rows rows' : List (List (Option Nat))), rows.length = rd.ports.length →
      conns.foldlM (connStep d rd) rows = some rows' →
      (conns.map (fun c => ((some c.1 : Option String), c.2))).foldlM (fun s c => match c.1 with
          | some p => namedConn s dn iname ref p c.2
          | none => throw "named map without port name") (setRows s dn ii i0 rows) = .ok (setRows s dn ii i0 rows') := by
  intro conns
  induction conns with
  | nil => intro rows rows' _ h; cases h; rfl
  | cons c cs ih =>
    intro rows rows' hlen h
    obtain ⟨r1, h1, h2⟩ := foldlM_cons_some h
    simp only [List.map_cons, List.foldlM_cons, bind, Except.bind,
      namedConn_of_connStep s dn ref iname d rd ii i0 hd hrd hne hcn hi h0 hs rows r1 hlen c h1]
    exact ih r1 rows' (by rw [connStep_length h1, hlen]) h2

theorem connStep_cables (d d' rd : Def) (h : d'.cables = d.cables) (rows : List (List (Option Nat))) (c : String × XExpr) :
    connStep d' rd rows c = connStep d rd rows c := by
  unfold connStep
  cases c.2 <;> simp only [exprWires_cables d d' h]

theorem instIdx_append (d : Def) (name : String) (i : Inst) (hfresh : instIdx d name = none) (hi : i.name = name) :
    instIdx { d with insts := d.insts ++ [i] } name = some d.insts.length := by
  unfold instIdx at hfresh ⊢
  simp [List.findIdx?_append, hfresh, hi]

theorem setRows_self (s : St) (dn : String) (d : Def) (i : Inst) (hd : Has s dn d) (ii : Nat)
    (hget : d.insts[ii]? = some i) : setRows s dn ii i i.pins = s := by
  obtain ⟨hlt, he⟩ := List.getElem?_eq_some_iff.mp hget
  apply St.upd_id' s dn _ d hd
  show ({ d with insts := d.insts.set ii i } : Def) = d
  rw [← he, List.set_getElem_self]

/-- parameters given in `#( )`: first value of a key wins (`set_instance_parameters` on a new instance) -/
def mergeP (params : Params) : Params :=
  params.foldl (fun acc kv => if acc.any (fun x => x.1 == kv.1) then acc else acc ++ [kv]) []

theorem foldlM_connStep_cables (d d' rd : Def) (h : d'.cables = d.cables) (conns : List (String × XExpr)) :
    ∀ rows, conns.foldlM (connStep d' rd) rows = conns.foldlM (connStep d rd) rows := by
  rw [show connStep d' rd = connStep d rd from funext fun rows => funext (connStep_cables d d' rd h rows)]
  intro _; rfl

theorem foldlM_connStep_length (d rd : Def) (conns : List (String × XExpr)) :
    ∀ rows rows', conns.foldlM (connStep d rd) rows = some rows' → rows'.length = rows.length :=
  fun rows _ => foldlM_some_inv (fun r => r.length = rows.length)
    (fun _ _ _ _ hb h => (connStep_length h).trans hb) rfl

def freshInst (name mod : String) (attrs : Attrs) (rd : Def) : Inst :=
  ⟨name, mod, [], some attrs, rd.ports.map (fun p => List.replicate p.pins.length (none : Option Nat))⟩

def appInst (i : Inst) : Def → Def := fun x => { x with insts := x.insts ++ [i] }

def parInst (name : String) (params : Params) : Def → Def := fun x => { x with insts := x.insts.map (fun j =>
    if j.name == name then { j with params := params.foldl (fun acc kv =>
      if acc.any (fun x => x.1 == kv.1) then acc else acc ++ [kv]) j.params } else j) }

/-- **instantiate_named.**  One instantiation with a named port map, in the whole-design elaboration, of a
    module that is already in the table, with fresh instance name, every entry inside the fragment
    (`connStep`): the table gains exactly that instance, its pin rows are the pure fold of `connStep` over
    the port map starting from all-free rows; no wire is created, nothing is deferred. -/
theorem instantiate_named (s : St) (dn mod name : String) (params : Params) (attrs : Attrs)
    (conns : List (String × XExpr)) (d rd : Def) (rows' : List (List (Option Nat)))
    (hd : Has s dn d) (hrd : Has s mod rd) (hne : mod ≠ dn) (hcn : (d.cables.map (·.name)).Nodup)
    (hfresh : instIdx d name = none) (hs : RowsFull s mod rd.ports.length)
    (hrows : conns.foldlM (connStep d rd) (rd.ports.map (fun p => List.replicate p.pins.length none)) = some rows') :
    ∃ s', instantiate s dn mod name params attrs true (conns.map (fun c => ((some c.1 : Option String), c.2))) = .ok s' ∧
      s'.defs = s.defs.map (fun x => if x.name == dn then
        { x with insts := x.insts ++ [⟨name, mod, mergeP params, some attrs, rows'⟩] } else x) ∧
      s'.next = s.next ∧ s'.pending = s.pending ∧ s'.acount = s.acount ∧
      s'.top = (if s.top == some mod then some (climb s (s.defs.length + 1) dn) else s.top) := by
  -- the (possible) re-election of the top leaves the table alone
  generalize ht : (if s.top == some mod then some (climb s (s.defs.length + 1) dn) else s.top) = t
  have hsT : (if s.top == some mod then { s with top := some (climb s (s.defs.length + 1) dn) } else s) =
      { s with top := t } := by rw [← ht]; split <;> rfl
  have hdT : Has { s with top := t } dn d := Has.of_defs rfl hd
  have hrdT : Has { s with top := t } mod rd := Has.of_defs rfl hrd
  have hens : ({ s with top := t } : St).ensure mod = { s with top := t } := by unfold St.ensure; rw [hrdT.find]
  generalize hi0 : freshInst name mod attrs rd = i
  have hipins : i.pins = rd.ports.map (fun p => List.replicate p.pins.length none) := by rw [← hi0]; rfl
  have hiname : i.name = name := by rw [← hi0]; rfl
  generalize hs2 : ({ s with top := t } : St).upd dn (appInst i) = s2
  have hd2 : Has s2 dn (appInst i d) := hs2 ▸ hdT.upd _ (fun _ => rfl)
  have hrd2 : Has s2 mod rd := hs2 ▸ hrdT.upd_other _ (fun _ => rfl) hne
  have hi2 : instIdx (appInst i d) name = some d.insts.length := instIdx_append d name i hfresh hiname
  have hrf2 : RowsFull s2 mod rd.ports.length := by
    rw [← hs2]
    apply RowsFull.upd (s := { s with top := t }) hs
    intro x hx _ j hj href
    rcases List.mem_append.mp hj with h | h
    · exact hs x hx j h href
    · rw [List.mem_singleton.mp h, hipins, List.length_map]; exact Nat.le_refl _
  have hfold := namedFold s2 dn mod name (appInst i d) rd d.insts.length i hd2 hrd2 hne hcn hi2 hiname hrf2
    conns (rd.ports.map fun p => List.replicate p.pins.length none) rows' (by simp)
    (by rw [foldlM_connStep_cables d (appInst i d) rd rfl]; exact hrows)
  rw [← hipins, setRows_self s2 dn (appInst i d) i hd2 d.insts.length (by simp [appInst])] at hfold
  refine ⟨(setRows s2 dn d.insts.length i rows').upd dn (parInst name params), ?_, ?_, ?_, ?_, ?_, ?_⟩
  · unfold instantiate
    simp only [hsT, hens, bind, Except.bind, getDef_has hrdT, getDef_has hdT, hfresh, Option.isSome_none,
      Bool.false_eq_true, if_false, if_true]
    subst hs2 hi0
    generalize hX : List.foldlM (m := Except String) _ (St.upd _ dn _) _ = X
    rw [show X = _ from hX ▸ hfold]
    rfl
  · rw [← hs2]
    unfold setRows
    rw [St.upd_upd, St.upd_upd]
    · apply congrArg St.defs (St.upd_congr { s with top := t } dn _ _ d hdT ?_)
      -- the older instances have other names: the parameters land on the new one only
      have hold : ∀ F : Inst → Inst, d.insts.map (fun j => if j.name == name then F j else j) = d.insts :=
        fun F => map_id_of_mem (fun j hj => by simp [(List.findIdx?_eq_none_iff.mp hfresh) j hj])
      simp only [parInst, appInst, List.set_append_right _ _ (Nat.le_refl _), Nat.sub_self, List.set_cons_zero,
        List.map_append, hold]
      rw [← hi0]
      simp [freshInst, mergeP]
    · exact fun _ => rfl
    · exact fun _ => rfl
  · rw [← hs2]; rfl
  · rw [← hs2]; rfl
  · rw [← hs2]; rfl
  · rw [← hs2]; rfl

def buildInst (lookup : String → Option Def) (d : Def) (i : NInst) : Option Inst :=
  match lookup i.mod with
  | none => none
  | some rd =>
    (i.conns.foldlM (connStep d rd) (rd.ports.map (fun p => List.replicate p.pins.length none))).map
      (fun rows => ⟨i.name, i.mod, mergeP i.params, some i.attrs, rows⟩)

theorem buildInst_congr (l l' : String → Option Def) (d d' : Def) (i : NInst) (hl : l' i.mod = l i.mod)
    (hc : d'.cables = d.cables) : buildInst l' d' i = buildInst l d i := by
  unfold buildInst
  rw [hl]
  cases l i.mod with
  | none => rfl
  | some rd => simp only [foldlM_connStep_cables d d' rd hc]

theorem mapM_option_congr {α β : Type} (f g : α → Option β) : ∀ (l : List α), (∀ x ∈ l, f x = g x) → l.mapM f = l.mapM g :=
  fun _ h => (List.mapM_map (g := id)).symm.trans ((congrArg _ (List.map_congr_left h)).trans List.mapM_map)

theorem instIdx_append_other (d : Def) (n : String) (i : Inst) (h : instIdx d n = none) (hne : i.name ≠ n) :
    instIdx { d with insts := d.insts ++ [i] } n = none := by
  unfold instIdx at h ⊢
  simp [List.findIdx?_append, h, hne]

/-- **instances_fold.**  The instantiations (named port maps) of a module body, elaborated in order. -/
theorem instances_fold (dn : String) : ∀ (is : List NInst) (s : St) (d : Def) (built : List Inst),
    Has s dn d → (d.cables.map (·.name)).Nodup →
    (∀ i ∈ is, i.mod ≠ dn ∧ ∃ rd, Has s i.mod rd ∧ RowsFull s i.mod rd.ports.length) →
    (is.map (·.name)).Nodup → (∀ i ∈ is, instIdx d i.name = none) →
    is.mapM (buildInst s.find d) = some built →
    ∃ s', (is.map NInst.item).foldlM (fun s it => elabItem s dn false it) s = .ok s' ∧
      s'.defs = s.defs.map (fun x => if x.name == dn then { x with insts := x.insts ++ built } else x) ∧
      s'.next = s.next ∧ s'.pending = s.pending ∧ s'.acount = s.acount := by
  intro is
  induction is with
  | nil =>
    intro s d built hd _ _ _ _ hb
    cases hb
    exact ⟨s, rfl, (congrArg St.defs (St.upd_id' s dn _ d hd (by simp))).symm, rfl, rfl, rfl⟩
  | cons i is ih =>
    intro s d built hd hcn hleaf hnd hfresh hb
    obtain ⟨inst, rest, hbi, hbr, rfl⟩ := mapM_cons_some hb
    obtain ⟨hmod, rd, hrd, hrf⟩ := hleaf i List.mem_cons_self
    obtain ⟨hni, hnd1⟩ := List.nodup_cons.mp hnd
    unfold buildInst at hbi
    rw [hrd.find] at hbi
    obtain ⟨rows, hrows, rfl⟩ := Option.map_eq_some_iff.mp hbi
    obtain ⟨s1, h1, hdefs1, hn1, hp1, ha1, _⟩ := instantiate_named s dn i.mod i.name i.params i.attrs i.conns d rd rows
      hd hrd hmod hcn (hfresh i List.mem_cons_self) hrf hrows
    let g : Def → Def := fun x => { x with insts := x.insts ++ [⟨i.name, i.mod, mergeP i.params, some i.attrs, rows⟩] }
    have hgn : ∀ x, (g x).name = x.name := fun _ => rfl
    have hdefs1' : s1.defs = (s.upd dn g).defs := hdefs1
    -- the hypotheses hold again in the state it leaves
    have hleaf1 : ∀ j ∈ is, j.mod ≠ dn ∧ ∃ rd, Has s1 j.mod rd ∧ RowsFull s1 j.mod rd.ports.length := by
      intro j hj
      obtain ⟨hjm, rdj, hrdj, hrfj⟩ := hleaf j (List.mem_cons_of_mem _ hj)
      refine ⟨hjm, rdj, Has.of_defs hdefs1' (hrdj.upd_other g hgn hjm), RowsFull.of_defs hdefs1' (hrfj.upd dn g ?_)⟩
      intro x hx _ k hk href
      rcases List.mem_append.mp hk with h | h
      · exact hrfj x hx k h href
      · rw [List.mem_singleton.mp h] at href ⊢
        have e2 : rdj = rd := Option.some.inj ((href ▸ hrdj.find).symm.trans hrd.find)
        rw [e2, foldlM_connStep_length d rd i.conns _ rows hrows]; simp
    have hfresh1 : ∀ j ∈ is, instIdx (g d) j.name = none := fun j hj =>
      instIdx_append_other d j.name _ (hfresh j (List.mem_cons_of_mem _ hj))
        (fun e => hni (List.mem_map.mpr ⟨j, hj, e.symm⟩))
    have hb1 : is.mapM (buildInst s1.find (g d)) = some rest := by
      rw [← hbr]
      apply mapM_option_congr
      intro j hj
      exact buildInst_congr _ _ _ _ j (by rw [find_of_defs hdefs1', St.find_upd_ne s dn j.mod g hgn
        (hleaf j (List.mem_cons_of_mem _ hj)).1]) rfl
    obtain ⟨s2, h2, hdefs2, hn2, hp2, ha2⟩ := ih s1 (g d) rest (Has.of_defs hdefs1' (hd.upd g hgn)) hcn
      hleaf1 hnd1 hfresh1 hb1
    refine ⟨s2, ?_, ?_, by rw [hn2, hn1], by rw [hp2, hp1], by rw [ha2, ha1]⟩
    · simp only [List.map_cons, List.foldlM_cons, bind, Except.bind]
      rw [show elabItem s dn false i.item = .ok s1 from h1]
      exact h2
    · rw [hdefs2, hdefs1, List.map_map]
      apply List.map_congr_left
      intro x _
      by_cases e : x.name = dn <;> simp [e]
end Spydr.Verilog.Elab
