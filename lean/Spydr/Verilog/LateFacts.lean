/-
  A module declared late satisfies the same four facts about its declaration phases as a module met first, so that the view
  lemmas apply to both: the ports are the declared ones, every port pin is on the net of its name, wire ids are distinct and
  below the counter, and the net table is the same.
-/
import Spydr.Verilog.ViewPadding
namespace Spydr.Verilog.Elab
open Spydr.Verilog

def Wired (d : Def) (P : Port) : Prop :=
  ∃ nm C, P.name = some nm ∧ d.cables.find? (fun c => c.name == nm) = some C ∧ P.pins = C.wires.map some ∧ P.lower = C.lower

theorem PC_iff (d : Def) : PC d ↔ ∀ P ∈ d.ports, Wired d P := Iff.rfl

theorem hdrStepL_spec (d : Def) (n : Nat) (a : String) (d' : Def) (n' : Nat) (h : hdrStepL d n a = some (d', n')) :
    ∃ (k : Nat) (hk : k < d.ports.length), portIdx d a = some k ∧ d.cables.find? (fun c => c.name == a) = none ∧
      d.ports[k].pins = List.replicate d.ports[k].pins.length none ∧ 1 ≤ d.ports[k].pins.length ∧
      d'.ports = d.ports.set k { d.ports[k] with pins := (ids n d.ports[k].pins.length).map some } ∧
      d'.cables = d.cables ++ [portCable a d.ports[k].lower true (ids n d.ports[k].pins.length)] ∧
      n' = n + d.ports[k].pins.length ∧ d'.name = d.name ∧ d'.lib = d.lib ∧ d'.insts = d.insts ∧ d'.attrs = d.attrs ∧
      d'.params = d.params := by
  obtain ⟨k, P, hk, hP, hcn, hpins, hlen, _, rfl, rfl⟩ := hdrStepL_eq h
  have hklt := portIdx_lt hk
  obtain rfl : d.ports[k] = P := by rw [← hP, getD_of_lt _ _ _ hklt]
  exact ⟨k, hklt, hk, hcn, hpins, hlen, rfl, rfl, rfl, rfl, rfl, rfl, rfl, rfl⟩

theorem hdrStepL_WF (d : Def) (n : Nat) (a : String) (d' : Def) (n' : Nat) (h : WF d n)
    (hs : hdrStepL d n a = some (d', n')) : WF d' n' := by
  obtain ⟨k, hk, _, hcn, _, _, _, hcab, hn', _⟩ := hdrStepL_spec d n a d' n' hs
  have := WF_append d n (portCable a d.ports[k].lower true (ids n d.ports[k].pins.length)) d.ports[k].pins.length h hcn rfl
  rw [hn']
  exact ⟨⟨by rw [hcab]; exact this.1.1, by rw [hcab]; exact this.1.2⟩, by rw [hcab]; exact this.2⟩

theorem hdrStepL_pv (d : Def) (n : Nat) (a : String) (d' : Def) (n' : Nat) (hs : hdrStepL d n a = some (d', n')) :
    d'.ports.map pv = d.ports.map pv := by
  obtain ⟨k, hk, _, _, _, _, hp, _⟩ := hdrStepL_spec d n a d' n' hs
  rw [hp]
  apply map_set_same d.ports k hk
  simp [pv, ids]

theorem hdrStepL_cab (d : Def) (n : Nat) (a : String) (d' : Def) (n' : Nat) (hs : hdrStepL d n a = some (d', n')) :
    ∃ lo len, cabOf d' = fun nm => if nm = a then some (lo, len, none, none) else cabOf d nm := by
  obtain ⟨k, hk, _, hcn, _, _, _, hcab, _⟩ := hdrStepL_spec d n a d' n' hs
  refine ⟨d.ports[k].lower, d.ports[k].pins.length, ?_⟩
  funext nm
  unfold cabOf
  rw [hcab, find_append_single d.cables (portCable a d.ports[k].lower true (ids n d.ports[k].pins.length)) nm hcn]
  by_cases e : nm = a
  · simp [e, portCable, ids]
  · simp [e, portCable]

theorem hdr_fold_wired : ∀ (names done : List String) (d : Def) (n : Nat) (d' : Def) (n' : Nat),
    (d.ports.map (·.name)).Nodup → (∀ P ∈ d.ports, ∀ nm, P.name = some nm → nm ∈ done → Wired d P) →
    foldLocal hdrStepL d n names = some (d', n') →
    ∀ P ∈ d'.ports, ∀ nm, P.name = some nm → nm ∈ done ++ names → Wired d' P := by
  intro names
  induction names with
  | nil =>
    intro done d n d' n' _ h0 h
    simp only [foldLocal, Option.some.injEq, Prod.mk.injEq] at h
    rw [← h.1]
    intro P hP nm hn hm
    exact h0 P hP nm hn (by simpa using hm)
  | cons a as ih =>
    intro done d n d' n' hnd h0 h
    obtain ⟨d1, n1, hs, h⟩ := (foldLocal_cons _ _ _ _ _ _).mp h
    obtain ⟨k, hk, hidx, hcn, _, _, hp, hcab, _⟩ := hdrStepL_spec d n a d1 n1 hs
    have hka : d.ports[k].name = some a := by
      unfold portIdx at hidx
      have := (List.findIdx?_eq_some_iff_getElem.mp hidx).2.1
      simpa using this
    generalize hP' : ({ d.ports[k] with pins := (ids n d.ports[k].pins.length).map some } : Port) = P' at hp
    have hP'n : P'.name = some a := by rw [← hP']; exact hka
    have hnames1 : d1.ports.map (·.name) = d.ports.map (·.name) := by
      rw [hp]; exact map_set_same d.ports k hk P' (·.name) (by rw [hP'n, hka])
    have hP'mem : P' ∈ d1.ports := by
      rw [hp]; exact List.mem_iff_getElem.mpr ⟨k, by simpa using hk, by simp⟩
    have hfind1 : ∀ nm, d1.cables.find? (fun c => c.name == nm) =
        if nm = a then some (portCable a d.ports[k].lower true (ids n d.ports[k].pins.length)) else d.cables.find? (fun c => c.name == nm) := by
      intro nm
      rw [hcab, find_append_single d.cables _ nm hcn]
      rfl
    have h1 : ∀ P ∈ d1.ports, ∀ nm, P.name = some nm → nm ∈ done ++ [a] → Wired d1 P := by
      intro P hP nm hn hm
      by_cases ea : nm = a
      · have : P = P' := nodup_map_inj (·.name) d1.ports (by rw [hnames1]; exact hnd) P hP P' hP'mem (by rw [hn, hP'n, ea])
        rw [this]
        refine ⟨a, portCable a d.ports[k].lower true (ids n d.ports[k].pins.length), hP'n, by rw [hfind1]; simp,
          by rw [← hP']; rfl, by rw [← hP']; rfl⟩
      · have hmd : nm ∈ done := by
          rcases List.mem_append.mp hm with e | e
          · exact e
          · simp only [List.mem_singleton] at e; exact absurd e ea
        have hPold : P ∈ d.ports := by
          rw [hp] at hP
          rcases List.mem_or_eq_of_mem_set hP with e | e
          · exact e
          · rw [e, hP'n] at hn; exact absurd (Option.some.inj hn).symm ea
        obtain ⟨nm', C, g1, g2, g3, g4⟩ := h0 P hPold nm hn hmd
        have : nm' = nm := by rw [hn] at g1; exact (Option.some.inj g1).symm
        subst this
        exact ⟨nm', C, g1, by rw [hfind1]; simp [ea, g2], g3, g4⟩
    have := ih (done ++ [a]) d1 n1 d' n' (by rw [hnames1]; exact hnd) h1 h
    intro P hP nm hn hm
    exact this P hP nm hn (by simpa using hm)

/-- `foldDeclA` as a `foldLocal` -/
def declStepA' (d : Def) (n : Nat) (p : PDecl) : Option (Def × Nat) := (declStepA d n p).map (fun r => (r.1, r.2.1))

theorem foldDeclA_local : ∀ (ps : List PDecl) (d : Def) (n : Nat) (d' : Def) (n' : Nat) (ops : List (Nat × Nat)),
    foldDeclA d n ps = some (d', n', ops) → foldLocal declStepA' d n ps = some (d', n') := by
  intro ps
  induction ps with
  | nil =>
    intro d n d' n' ops h
    simp only [foldDeclA, Option.some.injEq, Prod.mk.injEq] at h
    simp [foldLocal, h.1, h.2.1]
  | cons p ps ih =>
    intro d n d' n' ops h
    obtain ⟨d1, n1, k, post, d2, n2, ops2, hs, hq, rfl, rfl, _⟩ := foldDeclA_cons_some h
    exact (foldLocal_cons ..).mpr ⟨d1, n1, by simp only [declStepA', hs, Option.map_some], ih d1 n1 d2 n2 ops2 hq⟩

theorem declStepA'_some {d : Def} {n : Nat} {p : PDecl} {d' : Def} {n' : Nat} (hs : declStepA' d n p = some (d', n')) :
    ∃ k post, declStepA d n p = some (d', n', k, post) := by
  unfold declStepA' at hs
  simp only [Option.map_eq_some_iff, Prod.mk.injEq] at hs
  obtain ⟨⟨d1, n1, k, post⟩, hr, rfl, rfl⟩ := hs
  exact ⟨k, post, hr⟩

theorem declStepA'_WF (d : Def) (n : Nat) (p : PDecl) (d' : Def) (n' : Nat) (h : WF d n)
    (hs : declStepA' d n p = some (d', n')) : WF d' n' := by
  obtain ⟨k, post, hr⟩ := declStepA'_some hs
  obtain ⟨hk, c0, _, hc, _, _, _, _, _, _, hpost, hn', _, hcab, _⟩ := declStepA_spec d n p d' n' k post hr
  obtain ⟨⟨hn, hf⟩, hb⟩ := h
  have hc0m := List.mem_of_find?_eq_some hc
  have hc0n : c0.name = p.name := find_name hc
  obtain ⟨g1, g2, g3⟩ := WF_grow p.name (ids n post) n (n + post) d.cables c0 (grownL c0 p.rng n) hn hf hb hc0m hc0n hc0n
    (by simp [grownL, hpost]) (ids_nodup _ _) (fun w hw => ⟨ids_ge _ _ _ hw, ids_lt _ _ _ hw⟩) (by omega)
  unfold WF WInv
  rw [hn', hcab]
  exact ⟨⟨g1, g2⟩, g3⟩

theorem declStepA'_PC (d : Def) (n : Nat) (p : PDecl) (d' : Def) (n' : Nat) (h : PC d)
    (hs : declStepA' d n p = some (d', n')) : PC d' := by
  obtain ⟨k, post, hr⟩ := declStepA'_some hs
  obtain ⟨hk, c0, _, hc, hpins, hpn, _, _, _, hnp, hpost, _, hp, hcab, _⟩ := declStepA_spec d n p d' n' k post hr
  have hc0n : c0.name = p.name := find_name hc
  have hlow : d.ports[k].lower = c0.lower := by
    obtain ⟨nm, C, g1, g2, _, g4⟩ := h d.ports[k] (List.getElem_mem hk)
    rw [hpn] at g1
    have : nm = p.name := (Option.some.inj g1).symm
    subst this
    rw [hc] at g2
    rw [g4, ← Option.some.inj g2]
  intro P hP
  rw [hp] at hP
  obtain ⟨i, hi, hPi⟩ := List.getElem_of_mem hP
  simp only [List.length_set] at hi
  by_cases eik : i = k
  · subst eik
    rw [List.getElem_set_self] at hPi
    refine ⟨p.name, grownL c0 p.rng n, by rw [← hPi]; exact hpn, ?_, ?_, ?_⟩
    · rw [hcab, find_map_replace d.cables p.name p.name _ (show (grownL c0 p.rng n).name = p.name from hc0n)]
      simp [hc]
    · rw [← hPi]; simp [grownPLA, grownL, hpost]
    · rw [← hPi]; simp [grownPLA, grownL, hlow]
  · rw [List.getElem_set_ne (fun h' => eik h'.symm)] at hPi
    obtain ⟨nm, C, h1, h2, h3, h4⟩ := h P (by rw [← hPi]; exact List.getElem_mem hi)
    have en : nm ≠ p.name := by
      intro en
      apply eik
      have h6 : (d.ports.map (·.name))[i]'(by simpa using hi) = (d.ports.map (·.name))[k]'(by simpa using hk) := by
        simp only [List.getElem_map, hPi, h1, en, hpn]
      exact (List.getElem_inj hnp).mp h6
    refine ⟨nm, C, h1, ?_, h3, h4⟩
    rw [hcab, find_map_replace d.cables p.name nm _ (show (grownL c0 p.rng n).name = p.name from hc0n)]
    simp [en, h2]

theorem declStepA'_frame (d : Def) (n : Nat) (p : PDecl) (d' : Def) (n' : Nat) (hs : declStepA' d n p = some (d', n')) :
    d'.insts = d.insts ∧ d'.attrs = d.attrs ∧ d'.lib = d.lib ∧ d'.name = d.name := by
  obtain ⟨k, post, hr⟩ := declStepA'_some hs
  obtain ⟨_, _, _, _, _, _, _, _, _, _, _, _, _, _, a1, a2, a3, a4, _⟩ := declStepA_spec d n p d' n' k post hr
  exact ⟨a3, a4, a2, a1⟩

theorem hdr_fold_cab : ∀ (names : List String) (d : Def) (n : Nat) (d' : Def) (n' : Nat),
    foldLocal hdrStepL d n names = some (d', n') →
    ∀ nm, (nm ∈ names → ∃ lo len, cabOf d' nm = some (lo, len, none, none)) ∧ (nm ∉ names → cabOf d' nm = cabOf d nm) := by
  intro names
  induction names with
  | nil =>
    intro d n d' n' h nm
    simp only [foldLocal, Option.some.injEq, Prod.mk.injEq] at h
    rw [← h.1]
    exact ⟨(fun hm => by cases hm), fun _ => rfl⟩
  | cons a as ih =>
    intro d n d' n' h nm
    obtain ⟨d1, n1, hs, h⟩ := (foldLocal_cons _ _ _ _ _ _).mp h
    obtain ⟨lo, len, hc⟩ := hdrStepL_cab d n a d1 n1 hs
    obtain ⟨i1, i2⟩ := ih d1 n1 d' n' h nm
    constructor
    · intro hm
      by_cases e : nm ∈ as
      · exact i1 e
      · have : nm = a := by
          rcases List.mem_cons.mp hm with e' | e'
          · exact e'
          · exact absurd e' e
        refine ⟨lo, len, ?_⟩
        rw [i2 e, hc]; simp [this]
    · intro hm
      have h1 : nm ≠ a := fun e => hm (by rw [e]; exact List.mem_cons_self)
      have h2 : nm ∉ as := fun e => hm (List.mem_cons_of_mem _ e)
      rw [i2 h2, hc]; simp [h1]

theorem declStepA_cab (d : Def) (n : Nat) (p : PDecl) (d' : Def) (n' k post : Nat)
    (h : declStepA d n p = some (d', n', k, post))
    (hlow : ∀ C, d.cables.find? (fun c => c.name == p.name) = some C → C.lower = 0) : cabOf d' = updD (cabOf d) p := by
  obtain ⟨hk, c0, _, hc, _, _, _, hok, _, _, hpost, _, _, hcab, _⟩ := declStepA_spec d n p d' n' k post h
  have hc0n : c0.name = p.name := find_name hc
  have hl0 := hlow c0 hc
  funext nm
  unfold cabOf updD
  simp only
  rw [hcab, find_map_replace d.cables p.name nm (grownL c0 p.rng n) hc0n]
  by_cases e : nm = p.name
  · subst e
    simp only [if_true, hc, Option.map_some]
    obtain ⟨a1, a2⟩ := declared_arith p.rng c0.wires.length hok
    simp [grownL, ids, hl0, a1, ← hpost]
    rw [← a2, hpost]
  · simp [e]

theorem decl_fold_cab : ∀ (ps : List PDecl) (d : Def) (n : Nat) (d' : Def) (n' : Nat) (ops : List (Nat × Nat)),
    foldDeclA d n ps = some (d', n', ops) → (ps.map (·.name)).Nodup →
    (∀ p ∈ ps, ∀ C, d.cables.find? (fun c => c.name == p.name) = some C → C.lower = 0) →
    cabOf d' = ps.foldl updD (cabOf d) := by
  intro ps
  induction ps with
  | nil =>
    intro d n d' n' ops h _ _
    simp only [foldDeclA, Option.some.injEq, Prod.mk.injEq] at h
    rw [← h.1]; rfl
  | cons p ps ih =>
    intro d n d' n' ops h hnd hlow
    obtain ⟨d1, n1, k, post, d2, n2, ops2, hs, hq, he⟩ := foldDeclA_cons_some h
    obtain ⟨e1, _, _⟩ := he
    subst e1
    rw [List.map_cons, List.nodup_cons] at hnd
    have hc1 := declStepA_cab d n p d1 n1 k post hs (hlow p List.mem_cons_self)
    obtain ⟨_, c0, _, hc, _, _, _, _, _, _, _, _, _, hcab, _⟩ := declStepA_spec d n p d1 n1 k post hs
    have hc0n : c0.name = p.name := find_name hc
    rw [List.foldl_cons, ← hc1]
    apply ih d1 n1 d2 n2 ops2 hq hnd.2
    intro p' hp' C hC
    have hne : p'.name ≠ p.name := fun e => hnd.1 (List.mem_map.mpr ⟨p', hp', e⟩)
    rw [hcab, find_map_replace d.cables p.name p'.name (grownL c0 p.rng n) hc0n] at hC
    simp only [hne, if_false] at hC
    exact hlow p' (List.mem_cons_of_mem _ hp') C hC

theorem updS_fold : ∀ (names : List String) (f : String → Option CabV) (nm : String),
    (names.foldl updS f) nm = if nm ∈ names then some (0, 1, none, none) else f nm := by
  intro names
  induction names with
  | nil => intro f nm; simp
  | cons a as ih =>
    intro f nm
    rw [List.foldl_cons, ih]
    by_cases e : nm ∈ as
    · simp [e]
    · by_cases e2 : nm = a
      · simp [e2, updS]
      · simp [e, e2, updS]

/-- after the body declarations the nets of the ports are the same whether the header created one-bit stubs (a module
    met for the first time) or nets as wide as the ports the instances had created (a module declared late) -/
theorem updD_bridge (ps : List PDecl) (H : String → Option CabV) (hnd : (ps.map (·.name)).Nodup)
    (hH : ∀ nm, (nm ∈ ps.map (·.name) → ∃ lo len, H nm = some (lo, len, none, none)) ∧ (nm ∉ ps.map (·.name) → H nm = none)) :
    ps.foldl updD H = ps.foldl updD ((ps.map (·.name)).foldl updS (fun _ => none)) := by
  funext nm
  rw [foldl_pointwise (fun (p : PDecl) => p.name) (fun p v => v.map (fun v => (stubLo p.rng, 1 + stubExtra p.rng, v.2.2.1, v.2.2.2)))
      updD (fun f a x => rfl) nm,
    foldl_pointwise (fun (p : PDecl) => p.name) (fun p v => v.map (fun v => (stubLo p.rng, 1 + stubExtra p.rng, v.2.2.1, v.2.2.2)))
      updD (fun f a x => rfl) nm, updS_fold]
  rcases filter_key_nodup (fun (p : PDecl) => p.name) nm ps hnd with hp | hp
  · rw [hp.1]
    simp only [List.foldl_nil, hp.2, if_false]
    exact (hH nm).2 hp.2
  · obtain ⟨p, hpm, hpn, hpf⟩ := hp
    have hmem : nm ∈ ps.map (·.name) := List.mem_map.mpr ⟨p, hpm, hpn⟩
    obtain ⟨lo, len, e⟩ := (hH nm).1 hmem
    rw [hpf]
    simp [e, hmem]

/-- **late_facts.**  The declaration phases of a work module declared late (header on ports instances created, body
    declarations, nets) give the same facts as for a module met for the first time: the declared ports, every port
    wired to the net of its name, distinct wire ids, and the same net table. -/
theorem late_facts (L1 : Def) (n : Nat) (ports : List PDecl) (wires : List FWire) (d1 d2 d3 : Def) (n1 n2 n3 : Nat)
    (ops : List (Nat × Nat)) (hc : L1.cables = []) (hnames : L1.ports.map (·.name) = (ports.map (·.name)).map some)
    (hnd : (ports.map (·.name)).Nodup) (hlow : ∀ P ∈ L1.ports, P.lower = 0 ∧ P.attrs = none)
    (h1 : foldLocal hdrStepL L1 n (ports.map (·.name)) = some (d1, n1))
    (h2 : foldDeclA d1 n1 ports = some (d2, n2, ops)) (h3 : foldLocal wireStep d2 n2 wires = some (d3, n3)) :
    d3.ports.map pv = ports.map declV ∧ PC d3 ∧ WF d3 n3 ∧
      cabOf d3 = wires.foldl updW (ports.foldl updD ((ports.map (·.name)).foldl updS (fun _ => none))) ∧
      d3.insts = L1.insts ∧ d3.attrs = L1.attrs ∧ d3.lib = L1.lib ∧ d3.name = L1.name := by
  have hndP : (L1.ports.map (·.name)).Nodup := by
    rw [hnames]; exact List.Pairwise.map some (fun a b h e => h (Option.some.inj e)) hnd
  have hWF1 : WF d1 n1 := foldLocal_inv WF hdrStepL hdrStepL_WF _ _ _ _ _
    ⟨⟨by rw [hc]; exact List.nodup_nil, by rw [hc]; exact List.nodup_nil⟩, by rw [hc]; intro c hc'; cases hc'⟩ h1
  have hpv1 : d1.ports.map pv = L1.ports.map pv := foldLocal_pres (fun d => d.ports.map pv) hdrStepL hdrStepL_pv _ _ _ _ _ h1
  have hn1 : d1.ports.map (·.name) = L1.ports.map (·.name) := by
    have := congrArg (List.map (fun (x : PV) => x.1)) hpv1
    simpa [List.map_map, pv, Function.comp_def] using this
  have hPC1 : PC d1 := by
    have hw := hdr_fold_wired (ports.map (·.name)) [] L1 n d1 n1 hndP (by intro P _ nm _ hm; cases hm) h1
    intro P hP
    have hPn : P.name ∈ d1.ports.map (·.name) := List.mem_map.mpr ⟨P, hP, rfl⟩
    rw [hn1, hnames] at hPn
    obtain ⟨nm, hnm, e⟩ := List.mem_map.mp hPn
    exact hw P hP nm e.symm (by simpa using hnm)
  have hcab1 := hdr_fold_cab (ports.map (·.name)) L1 n d1 n1 h1
  have hcabL : cabOf L1 = fun _ => none := by funext nm; unfold cabOf; rw [hc]; rfl
  have hlow1 : ∀ P ∈ d1.ports, P.lower = 0 ∧ P.attrs = none := by
    intro P hP
    have : pv P ∈ d1.ports.map pv := List.mem_map.mpr ⟨P, hP, rfl⟩
    rw [hpv1] at this
    obtain ⟨P0, hP0, e⟩ := List.mem_map.mp this
    have := hlow P0 hP0
    simp only [pv, Prod.mk.injEq] at e
    exact ⟨by rw [← e.2.2.1]; exact this.1, by rw [← e.2.2.2.2]; exact this.2⟩
  have h2' := foldDeclA_local ports d1 n1 d2 n2 ops h2
  have hWF2 : WF d2 n2 := foldLocal_inv WF declStepA' declStepA'_WF _ _ _ _ _ hWF1 h2'
  have hPC2 : PC d2 := foldLocal_inv (fun d _ => PC d) declStepA' (fun d n a d' n' hp hs => declStepA'_PC d n a d' n' hp hs)
    _ _ _ _ _ hPC1 h2'
  obtain ⟨i1, _, i3⟩ := foldDeclA_ports ports d1 n1 d2 n2 ops h2 hnd
  have hpv2 : d2.ports.map pv = ports.map declV := by
    refine ports_ext pv declV d2.ports ports (by rw [i3, hn1, hnames]) hnd fun p hp => ?_
    obtain ⟨P0, hP0, P, hP, _, b2, b3, b4, b5, b6, b7⟩ := i1 p hp
    obtain ⟨c1, c2⟩ := declared_arith p.rng P0.pins.length b5
    obtain ⟨l0, at0⟩ := hlow1 P0 hP0
    refine ⟨P, hP, b2, ?_⟩
    simp only [pv, declV, b2, b3, b4, b6, b7, l0, at0, c1, c2]
  have hcab2 : cabOf d2 = ports.foldl updD (cabOf d1) := by
    apply decl_fold_cab ports d1 n1 d2 n2 ops h2 hnd
    intro p hp C hC
    -- the net of a port: same base as the port, which is 0
    have hpn : some p.name ∈ d1.ports.map (·.name) := by
      rw [hn1, hnames]; exact List.mem_map.mpr ⟨p.name, List.mem_map.mpr ⟨p, hp, rfl⟩, rfl⟩
    obtain ⟨P, hP, e⟩ := List.mem_map.mp hpn
    obtain ⟨nm, C', g1, g2, _, g4⟩ := hPC1 P hP
    have : nm = p.name := by rw [e] at g1; exact (Option.some.inj g1).symm
    subst this
    rw [hC] at g2
    rw [Option.some.inj g2, ← g4]
    exact (hlow1 P hP).1
  have hWF3 : WF d3 n3 := foldLocal_inv WF wireStep wireStep_WF _ _ _ _ _ hWF2 h3
  have hPC3 : PC d3 := foldLocal_inv (fun d _ => PC d) wireStep (fun d n a d' n' hp hs => wireStep_PC d n a d' n' hp hs)
    _ _ _ _ _ hPC2 h3
  have hpv3 : d3.ports.map pv = ports.map declV := by
    rw [foldLocal_pres (·.ports) wireStep wireStep_ports _ _ _ _ _ h3]; exact hpv2
  have hcab3 : cabOf d3 = wires.foldl updW (cabOf d2) := foldLocal_track cabOf updW wireStep wireStep_cab _ _ _ _ _ h3
  have fr : ∀ {d d' : Def}, d'.insts = d.insts ∧ d'.attrs = d.attrs ∧ d'.lib = d.lib ∧ d'.name = d.name →
      (d'.insts, d'.attrs, d'.lib, d'.name) = (d.insts, d.attrs, d.lib, d.name) := fun ⟨a, b, c, e⟩ => by rw [a, b, c, e]
  have keyH : ∀ d n a d' n', hdrStepL d n a = some (d', n') →
      d'.insts = d.insts ∧ d'.attrs = d.attrs ∧ d'.lib = d.lib ∧ d'.name = d.name := by
    intro d n a d' n' h
    obtain ⟨_, _, _, _, _, _, _, _, _, b1, b2, b3, b4, _⟩ := hdrStepL_spec d n a d' n' h
    exact ⟨b3, b4, b2, b1⟩
  have keyW : ∀ d n a d' n', wireStep d n a = some (d', n') →
      d'.insts = d.insts ∧ d'.attrs = d.attrs ∧ d'.lib = d.lib ∧ d'.name = d.name := by
    intro d n a d' n' h
    obtain ⟨_, rfl, _⟩ | ⟨_, _, _, _, _, rfl⟩ := wireStep_eq h
    · exact ⟨rfl, rfl, rfl, rfl⟩
    · exact ⟨rfl, rfl, rfl, rfl⟩
  have hfr := ((foldLocal_pres (fun d => (d.insts, d.attrs, d.lib, d.name)) wireStep
      (fun d n a d' n' h => fr (keyW d n a d' n' h)) _ _ _ _ _ h3).trans
    (foldLocal_pres _ declStepA' (fun d n a d' n' h => fr (declStepA'_frame d n a d' n' h)) _ _ _ _ _ h2')).trans
    (foldLocal_pres _ hdrStepL (fun d n a d' n' h => fr (keyH d n a d' n' h)) _ _ _ _ _ h1)
  simp only [Prod.mk.injEq] at hfr
  refine ⟨hpv3, hPC3, hWF3, ?_, hfr⟩
  rw [hcab3, hcab2]
  congr 1
  apply updD_bridge ports (cabOf d1) hnd
  intro nm
  obtain ⟨c1, c2⟩ := hcab1 nm
  exact ⟨c1, fun hm => by rw [c2 hm, hcabL]⟩
end Spydr.Verilog.Elab
