/-
  Token level, the parameter list of a module header `#(parameter k = v, …)` with plain and ranged keys
  (`[l:r] name`), over the REAL parser functions (`headerParams_toks`).
-/
import Spydr.Verilog.TokItems
namespace Spydr.Verilog.Elab
open Spydr.Verilog
open Spydr.Verilog.Parse

/-- a parameter key with a range, as the reader assembles it: `[l:r] name` -/
def keyRanged (l r : Int) (nm : String) : String := s!"[{l}:{r}] " ++ nm

def digitsNat : List Char → Option Nat
  | [] => none
  | cs => if cs.all Char.isDigit then some (cs.foldl (fun n c => 10 * n + (c.toNat - '0'.toNat)) 0) else none

def parseIntL : List Char → Option Int
  | '-' :: cs => (digitsNat cs).map (fun n => -(n : Int))
  | cs => (digitsNat cs).map (fun n => (n : Int))

/-- is the key of the form `[l:r] name`?  (the check at the end makes the answer right whatever the splitting does; written
    with structural functions so that the kernel can evaluate it) -/
def splitKey (k : String) : Option (Int × Int × String) :=
  match k.toList with
  | '[' :: cs =>
    match cs.span (· != ':') with
    | (a, ':' :: r2) =>
      match r2.span (· != ']') with
      | (b, ']' :: ' ' :: nmcs) =>
        match parseIntL a, parseIntL b with
        | some l, some r => if keyRanged l r (String.ofList nmcs) == k then some (l, r, String.ofList nmcs) else none
        | _, _ => none
      | _ => none
    | _ => none
  | _ => none

theorem splitKey_sound (k : String) (l r : Int) (nm : String) (h : splitKey k = some (l, r, nm)) : k = keyRanged l r nm := by
  unfold splitKey at h
  split at h
  · split at h
    · split at h
      · split at h
        · split at h
          · rename_i hc
            simp only [Option.some.injEq, Prod.mk.injEq] at h
            obtain ⟨e1, e2, e3⟩ := h
            subst e1 e2 e3
            exact (beq_iff_eq.mp hc).symm
          · cases h
        · cases h
      · cases h
    · cases h
  · cases h

def mpKeyToks (k : String) : List String :=
  match splitKey k with
  | some (l, r, nm) => ["[", Text.showInt l, ":", Text.showInt r, "]", nm]
  | none => [k]

/-- the tokens after the first `parameter` -/
def mpToks : Params → List String
  | [] => []
  | [kv] => mpKeyToks kv.1 ++ ["=", kv.2]
  | kv :: rest => mpKeyToks kv.1 ++ "=" :: kv.2 :: "," :: "parameter" :: mpToks rest

def mparamToks (ps : Params) : List String :=
  if ps.isEmpty then [] else "#" :: "(" :: "parameter" :: (mpToks ps ++ [")"])

/-- a key is a plain name (not `integer`, which the reader treats as a type) or `[l:r] name` -/
def mkeyOK (k : String) : Bool :=
  match splitKey k with
  | some (l, r, nm) => intTokB l && intTokB r && nameTokB nm nm
  | none => nameTokB k k && k != "integer"

def mparamsOK (ps : Params) : Bool := ps.all (fun kv => mkeyOK kv.1) && decide ((ps.map (·.1)).Nodup)

theorem mpKeyToks_len (k : String) : 1 ≤ (mpKeyToks k).length := by
  unfold mpKeyToks; split <;> simp

theorem mpToks_len : ∀ (a : Params), a.length ≤ (mpToks a).length
  | [] => by simp [mpToks]
  | [kv] => by have := mpKeyToks_len kv.1; simp only [mpToks, List.length_append, List.length_cons, List.length_nil]; omega
  | kv :: kv2 :: t => by
    have h2 := mpToks_len (kv2 :: t)
    have := mpKeyToks_len kv.1
    simp only [mpToks, List.length_cons, List.length_append] at h2 ⊢; omega

theorem keyRanged_ne_integer (l r : Int) (nm : String) : (keyRanged l r nm == "integer") = false := by
  have h : (keyRanged l r nm).toList.head? = some '[' := by
    unfold keyRanged
    simp [toString, String.toList_append]
  cases hb : keyRanged l r nm == "integer" with
  | false => rfl
  | true =>
    rw [beq_iff_eq.mp hb] at h
    exact absurd h (by decide)

theorem hp_key (k v : String) (acc : Params) (f : Nat) (ts : Toks) (hk : mkeyOK k = true)
    (hany : acc.any (fun x => x.1 == k) = false) :
    headerParamsGo (f + 1) (mpKeyToks k ++ "=" :: v :: ts) acc =
      (do let (t, ts) ← next ts
          if t == "," then do
            let ts ← expect "parameter" ts
            headerParamsGo f ts (acc ++ [(k, v)])
          else if t == ")" then pure (acc ++ [(k, v)], ts)
          else throw "assert: ) to end parameter declarations") := by
  unfold mkeyOK at hk
  unfold mpKeyToks
  have e2 : ("=" != "=") = false := by decide
  cases hs : splitKey k with
  | none =>
    simp only [hs, Bool.and_eq_true, bne_iff_ne, ne_eq] at hk
    have hnt := nameTok_sound _ _ hk.1
    have hbr : (k == "[") = false := hnt.res "[" (by decide)
    have hkey : "" ++ k = k := String.empty_append
    have hint : (k == "integer") = false := by simpa using hk.2
    simp only [List.cons_append, List.nil_append]
    conv => lhs; unfold headerParamsGo
    simp only [next, peek, bind, Except.bind, hnt.valid, Bool.not_true, Bool.false_eq_true, if_false, hnt.strip, hbr, hint,
      hkey, hany, pure, Except.pure, e2]
  | some x =>
    obtain ⟨l, r, nm⟩ := x
    simp only [hs, Bool.and_eq_true] at hk
    have hk' := splitKey_sound k l r nm hs
    have hnt := nameTok_sound _ _ hk.2
    have hb := brackets_part l r (nm :: "=" :: v :: ts) hk.1.1 hk.1.2
    have hkey : s!"[{l}:{r}] " ++ nm = k := hk'.symm
    have hint : (k == "integer") = false := by rw [hk']; exact keyRanged_ne_integer l r nm
    simp only [List.cons_append, List.nil_append]
    conv => lhs; unfold headerParamsGo
    simp only [peek, bind, Except.bind, beq_self_eq_true, if_true, hb, pure, Except.pure, next, hnt.valid, Bool.not_true,
      Bool.false_eq_true, if_false, hnt.strip, hkey, hint, hany, e2]

theorem hp_last (k v : String) (acc : Params) (f : Nat) (rest : Toks) (hk : mkeyOK k = true)
    (hany : acc.any (fun x => x.1 == k) = false) :
    headerParamsGo (f + 1) (mpKeyToks k ++ "=" :: v :: ")" :: rest) acc = .ok (acc ++ [(k, v)], rest) := by
  rw [hp_key k v acc f _ hk hany]; rfl

theorem hp_more (k v : String) (acc : Params) (f : Nat) (more : Toks) (hk : mkeyOK k = true)
    (hany : acc.any (fun x => x.1 == k) = false) :
    headerParamsGo (f + 1) (mpKeyToks k ++ "=" :: v :: "," :: "parameter" :: more) acc = headerParamsGo f more (acc ++ [(k, v)]) := by
  rw [hp_key k v acc f _ hk hany]; rfl

theorem headerParamsGo_toks : ∀ (ps acc : Params) (f : Nat) (rest : Toks), ps ≠ [] → ps.length ≤ f →
    (∀ kv ∈ ps, mkeyOK kv.1 = true) → ((acc ++ ps).map (·.1)).Nodup →
    headerParamsGo f (mpToks ps ++ ")" :: rest) acc = .ok (acc ++ ps, rest) := by
  intro ps
  induction ps with
  | nil => intro acc f rest h; exact absurd rfl h
  | cons kv ps ih =>
    intro acc f rest _ hf hok hn
    cases f with
    | zero => simp at hf
    | succ f =>
      have hk := hok kv List.mem_cons_self
      have hany := any_key_none acc kv ps hn
      obtain ⟨k, v⟩ := kv
      cases ps with
      | nil =>
        simp only [mpToks, List.append_assoc, List.cons_append, List.nil_append]
        exact hp_last k v acc f rest hk hany
      | cons kv2 ps2 =>
        have hrec := ih (acc ++ [(k, v)]) f rest (by simp) (by simpa using hf)
          (fun x hx => hok x (List.mem_cons_of_mem _ hx)) (by simpa using hn)
        simp only [mpToks, List.append_assoc, List.cons_append]
        rw [hp_more k v acc f _ hk hany, hrec]
        simp

theorem headerParams_toks (ps : Params) (rest : Toks) (hne : ps ≠ []) (hok : mparamsOK ps = true) :
    headerParams (mparamToks ps ++ rest) = .ok (ps, rest) := by
  simp only [mparamsOK, Bool.and_eq_true, List.all_eq_true, decide_eq_true_eq] at hok
  have hem : ps.isEmpty = false := by cases ps <;> simp at hne ⊢
  have hgo := headerParamsGo_toks ps [] ((mpToks ps ++ ([")"] ++ rest)).length + 1) rest hne (by
    have := mpToks_len ps
    simp only [List.length_append]; omega) hok.1 (by simpa using hok.2)
  unfold headerParams mparamToks
  have e1 : ("parameter" == ")") = false := by decide
  have e2 : ("parameter" != "parameter") = false := by decide
  simp only [hem, Bool.false_eq_true, if_false, List.cons_append, List.append_assoc, expect, next, bind, Except.bind,
    beq_self_eq_true, if_true, pure, Except.pure, e1, e2]
  simp only [List.cons_append, List.nil_append] at hgo ⊢
  exact hgo
end Spydr.Verilog.Elab
