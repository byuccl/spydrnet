/-
  What late declarations do to what the table shows: padding instance rows with free pins at the high end leaves the view of a
  definition unchanged; each declared port is the port the instances created, grown, so every declared primitive ends with
  exactly the declared interface (names, directions, base indices, widths, in order).
-/
import Spydr.Verilog.FileLeaves
namespace Spydr.Verilog.Elab
open Spydr.Verilog

theorem connectedBlock_pad {β : Type} : ∀ (xs : List (Option β)) (post : Nat),
    connectedBlock (xs ++ List.replicate post none) = connectedBlock xs := by
  intro xs
  induction xs with
  | nil => intro post; cases post <;> simp [connectedBlock, List.replicate_succ]
  | cons x xs ih =>
    intro post
    cases x with
    | none => simp [connectedBlock]
    | some b => simp [connectedBlock, ih]

theorem pinBits_pad (d : Def) (post : Nat) (row : List (Option Nat)) :
    pinBits d (padRow post row) = pinBits d row ++ List.replicate post none := by
  rw [padRow, pinBits_append, pinBits_none]

theorem padI_view (d : Def) (dn : String) (k post : Nat) (i : Inst) (hfull : i.ref = dn → k < i.pins.length) :
    instViewD d (padI dn k post i) = instViewD d i := by
  unfold padI
  split
  · rename_i href
    have hk := hfull (by simpa using href)
    have e0 : k + 1 - i.pins.length = 0 := by omega
    simp only [e0, List.replicate_zero, List.append_nil]
    unfold instViewD
    simp only [InstView.mk.injEq, true_and]
    rw [List.map_set, pinBits_pad, connectedBlock_pad, ← List.map_set, set_getD_self]
  · rfl

theorem padOpsI_view (d : Def) (dn : String) (K : Nat) : ∀ (ops : List (Nat × Nat)) (i : Inst),
    (i.ref = dn → K ≤ i.pins.length) → (∀ op ∈ ops, op.1 < K) → instViewD d (padOpsI dn ops i) = instViewD d i := by
  intro ops
  induction ops with
  | nil => intro i _ _; rfl
  | cons op ops ih =>
    intro i hfull hops
    obtain ⟨a1, a2, a3⟩ := padI_facts dn op.1 op.2 i
    have hk := hops op List.mem_cons_self
    have h1 := padI_view d dn op.1 op.2 i (fun e => by have := hfull e; omega)
    have h2 := ih (padI dn op.1 op.2 i) (fun e => by have := hfull (a2 ▸ e); omega)
      (fun x hx => hops x (List.mem_cons_of_mem _ hx))
    simp only [padOpsI, List.foldl_cons] at h2 ⊢
    rw [h2, h1]

theorem viewD_insts (D : Def) : (viewD D).insts = D.insts.map (instViewD D) := rfl

theorem viewD_padOps (D : Def) (dn : String) (K : Nat) (ops : List (Nat × Nat))
    (hfull : ∀ i ∈ D.insts, i.ref = dn → K ≤ i.pins.length) (hops : ∀ op ∈ ops, op.1 < K) :
    viewD (padOpsD D dn ops) = viewD D := by
  unfold viewD padOpsD
  have hb0 : bitOf ({ D with insts := D.insts.map (padOpsI dn ops) } : Def) = bitOf D := bitOf_cables _ D rfl
  simp only [DefView.mk.injEq, true_and]
  refine ⟨?_, rfl, ?_⟩
  · apply List.map_congr_left
    intro P _
    simp only [pinBits, hb0]
  · rw [List.map_map]
    apply List.map_congr_left
    intro i hi
    exact (congrFun (instViewD_cables D _ rfl) _).trans (padOpsI_view D dn K ops i (hfull i hi) hops)

theorem foldLeaves_view : ∀ (ms : List WLeaf) (D : Def) (ls : List Def) (n : Nat) (D' : Def) (ls' : List Def) (n' : Nat),
    LInv D ls → foldLeaves D ls n ms = some (D', ls', n') → viewD D' = viewD D ∧ D'.lib = D.lib := by
  intro ms
  induction ms with
  | nil =>
    intro D ls n D' ls' n' _ h
    cases h
    exact ⟨rfl, rfl⟩
  | cons m ms ih =>
    intro D ls n D' ls' n' inv h
    obtain ⟨L, L', n1, ops, hf, hb, h⟩ := foldLeaves_cons h
    obtain ⟨_, g2, _, _, g5⟩ := leaf_step D ls n none m L L' n1 ops inv hf hb
    obtain ⟨f1, f2⟩ := ih _ _ _ D' ls' n' g2 h
    have hLm := List.mem_of_find?_eq_some hf
    have hLn : L.name = m.name := by simpa using List.find?_some hf
    refine ⟨?_, f2⟩
    rw [f1]
    exact viewD_padOps D m.name L.ports.length ops (fun i hi e => inv.full i hi L hLm (hLn.trans e.symm)) g5

def ifaceP (ps : List PDecl) : Iface := ps.map (fun p => (some p.name, p.dir, stubLo p.rng, 1 + stubExtra p.rng))

theorem mem_set_other {α : Type} (l : List α) (k : Nat) (y x : α) (hx : x ∈ l) (hne : ∀ (h : k < l.length), l[k] ≠ x) :
    x ∈ l.set k y := by
  obtain ⟨j, hj, e⟩ := List.mem_iff_getElem.mp hx
  have hjk : j ≠ k := by
    intro ejk; subst ejk; exact hne hj e
  refine List.mem_iff_getElem.mpr ⟨j, by simpa using hj, ?_⟩
  rw [List.getElem_set_ne (fun h => hjk h.symm)]
  exact e

theorem declStepL_spec (d : Def) (n : Nat) (p : PDecl) (d' : Def) (n' k post : Nat)
    (h : declStepL d n p = some (d', n', k, post)) :
    ∃ (hk : k < d.ports.length) (Pn : Port), d.ports[k].name = some p.name ∧ lenOK p.rng d.ports[k].pins.length ∧
      d'.ports = d.ports.set k Pn ∧ Pn.name = some p.name ∧ Pn.dir = p.dir ∧ Pn.lower = declLo p.rng d.ports[k].lower ∧
      Pn.pins.length = d.ports[k].pins.length + declPost p.rng d.ports[k].pins.length ∧ d'.lib = d.lib := by
  obtain ⟨c0, P, hk, _, hP, hpins, hpn, _, hok, _, _, rfl, rfl, rfl⟩ := declStepL_eq h
  have hklt := portIdx_lt hk
  have hg : d.ports[k] = P := by rw [← hP, getD_of_lt _ _ _ hklt]
  have hl : P.pins.length = c0.wires.length := by rw [hpins]; simp
  refine ⟨hklt, grownPL P p.rng (c0.wires ++ ids n (declPost p.rng c0.wires.length)) p.dir, ?_⟩
  rw [hg, hl]
  exact ⟨hpn, hok, rfl, hpn, rfl, rfl, by simp [grownPL, ids], rfl⟩

theorem declared_arith (rng : Option (Int × Int)) (len : Nat) (h : lenOK rng len) :
    declLo rng 0 = stubLo rng ∧ len + declPost rng len = 1 + stubExtra rng := by
  cases rng with
  | none => simp only [lenOK] at h; subst h; exact ⟨rfl, rfl⟩
  | some p =>
    obtain ⟨a, b⟩ := p
    simp only [lenOK] at h
    refine ⟨rfl, ?_⟩
    simp only [declPost, stubExtra]
    omega

/-- `P0` is the port the instances created; every declared name is touched once because the names are distinct. -/
theorem foldDeclA_ports : ∀ (ps : List PDecl) (d : Def) (n : Nat) (d' : Def) (n' : Nat) (ops : List (Nat × Nat)),
    foldDeclA d n ps = some (d', n', ops) → (ps.map (·.name)).Nodup →
    (∀ p ∈ ps, ∃ P0 ∈ d.ports, ∃ P ∈ d'.ports, P0.name = some p.name ∧ P.name = some p.name ∧ P.dir = p.dir ∧
        P.lower = declLo p.rng P0.lower ∧ lenOK p.rng P0.pins.length ∧
        P.pins.length = P0.pins.length + declPost p.rng P0.pins.length ∧
        P.attrs = if p.attrs.isEmpty then P0.attrs else some p.attrs) ∧
      (∀ P ∈ d.ports, (∀ p ∈ ps, P.name ≠ some p.name) → P ∈ d'.ports) ∧
      d'.ports.map (·.name) = d.ports.map (·.name) := by
  intro ps
  induction ps with
  | nil =>
    intro d n d' n' ops h _
    simp only [foldDeclA, Option.some.injEq, Prod.mk.injEq] at h
    rw [← h.1]
    exact ⟨nofun, fun P hP _ => hP, rfl⟩
  | cons p ps ih =>
    intro d n d' n' ops h hnd
    obtain ⟨d1, n1, k, post, d2, n2, ops2, hs, hq, rfl, _, _⟩ := foldDeclA_cons_some h
    obtain ⟨hk, c0, _, _, hpins, a1, _, a2, _, _, hpost, _, a3, _⟩ := declStepA_spec d n p d1 n1 k post hs
    have hlen : d.ports[k].pins.length = c0.wires.length := by rw [hpins]; simp
    generalize hPn : grownPLA d.ports[k] p.rng (c0.wires ++ ids n post) p.dir p.attrs = Pn at a3
    have a4 : Pn.name = some p.name := by rw [← hPn]; exact a1
    rw [List.map_cons, List.nodup_cons] at hnd
    have hpnot : ∀ p' ∈ ps, p'.name ≠ p.name := fun p' hp' e => hnd.1 (List.mem_map.mpr ⟨p', hp', e⟩)
    have hPnmem : Pn ∈ d1.ports := by
      rw [a3]; exact List.mem_iff_getElem.mpr ⟨k, by simpa using hk, by simp⟩
    obtain ⟨i1, i2, i3⟩ := ih d1 n1 d2 n2 ops2 hq hnd.2
    refine ⟨?_, ?_, ?_⟩
    · intro p' hp'
      rcases List.mem_cons.mp hp' with e | e
      · subst e
        refine ⟨d.ports[k], List.getElem_mem hk, Pn,
          i2 Pn hPnmem (fun q hq' hn => by rw [a4] at hn; exact hpnot q hq' (Option.some.inj hn).symm), a1, a4, ?_⟩
        rw [← hPn, hlen]
        exact ⟨rfl, rfl, a2, by simp [grownPLA, ids, hpost], rfl⟩
      · obtain ⟨P0, hP0, P, hP, b1, b⟩ := i1 p' e
        rw [a3] at hP0
        rcases List.mem_or_eq_of_mem_set hP0 with hm | hm
        · exact ⟨P0, hm, P, hP, b1, b⟩
        · rw [hm, a4] at b1
          exact absurd (Option.some.inj b1).symm (hpnot p' e)
    · intro P hP hnot
      apply i2 P
      · rw [a3]
        apply mem_set_other _ _ _ _ hP
        intro _ e
        rw [← e] at hnot
        exact hnot p List.mem_cons_self a1
      · intro q hq'; exact hnot q (List.mem_cons_of_mem _ hq')
    · rw [i3, a3]
      exact map_set_same d.ports k hk Pn (·.name) (by rw [a4, a1])

theorem map_eq_map_getElem {α β γ : Type} {f : α → γ} {g : β → γ} {l1 : List α} {l2 : List β} :
    l1.map f = l2.map g ↔ l1.length = l2.length ∧ ∀ j (h1 : j < l1.length) (h2 : j < l2.length), f l1[j] = g l2[j] := by
  constructor
  · intro h
    refine ⟨by simpa using congrArg List.length h, fun j h1 h2 => ?_⟩
    have := List.getElem_of_eq h (by simpa using h1)
    rwa [List.getElem_map, List.getElem_map] at this
  · intro ⟨hl, h⟩
    exact List.ext_getElem (by simpa using hl) (fun j h1 h2 => by simpa using h j (by simpa using h1) (by simpa using h2))

theorem ports_ext {γ : Type} (f : Port → γ) (g : PDecl → γ) (Ps : List Port) (ps : List PDecl)
    (hn : Ps.map (·.name) = (ps.map (·.name)).map some) (hnd : (ps.map (·.name)).Nodup)
    (h : ∀ p ∈ ps, ∃ P ∈ Ps, P.name = some p.name ∧ f P = g p) : Ps.map f = ps.map g := by
  rw [List.map_map] at hn
  obtain ⟨hlen, hget⟩ := map_eq_map_getElem.mp hn
  refine map_eq_map_getElem.mpr ⟨hlen, fun j h1 h2 => ?_⟩
  obtain ⟨P, hP, d1, d2⟩ := h ps[j] (List.getElem_mem h2)
  obtain ⟨i, hi, e⟩ := List.mem_iff_getElem.mp hP
  have hin : (ps[i]'(by omega)).name = ps[j].name := by
    have := hget i hi (by omega)
    rw [e, d1] at this
    exact (Option.some.inj this).symm
  have hij : i = j := by
    have e2 : (ps.map (·.name))[i]'(by simp; omega) = (ps.map (·.name))[j]'(by simpa using h2) := by simpa using hin
    exact (List.getElem_inj hnd).mp e2
  subst hij
  rw [e, d2]

theorem hdrStepL_proj (d : Def) (n : Nat) (a : String) (d' : Def) (n' : Nat) (h : hdrStepL d n a = some (d', n')) :
    (d'.ports.map (fun P => (P.name, P.lower)), d'.lib) = (d.ports.map (fun P => (P.name, P.lower)), d.lib) := by
  obtain ⟨k, P, hk, rfl, _, _, _, _, rfl, _⟩ := hdrStepL_eq h
  have hklt := portIdx_lt hk
  simp only [Prod.mk.injEq, and_true]
  apply map_set_same d.ports k hklt
  rw [getD_of_lt _ _ _ hklt]

/-- **buildLeaf_iface.**  What the late declaration makes of a module whose ports were created by instances: the
    declared names, directions, base indices and widths, in the declared order, in the primitive library. -/
theorem buildLeaf_iface (L : Def) (n : Nat) (ps : List PDecl) (L' : Def) (n' : Nat) (ops : List (Nat × Nat))
    (hb : buildLeaf L n ps = some (L', n', ops)) (hlow : ∀ P ∈ L.ports, P.lower = 0) :
    ifaceD L' = ifaceP ps ∧ L'.lib = some "hdi_primitives" := by
  obtain ⟨_, _, hnames, hnd, _⟩ := buildLeaf_inv hb
  obtain ⟨d1, n1, h1, hn1, _, hA⟩ := buildLeaf_invA hb
  have hproj := foldLocal_pres (fun d => (d.ports.map (fun P => (P.name, P.lower)), d.lib)) hdrStepL hdrStepL_proj _ _ _ _ _ h1
  simp only [Prod.mk.injEq] at hproj
  obtain ⟨hp1, hp2⟩ := hproj
  have hlow1 : ∀ P ∈ d1.ports, P.lower = 0 := by
    intro P hP
    have : (P.name, P.lower) ∈ d1.ports.map (fun P => (P.name, P.lower)) := List.mem_map.mpr ⟨P, hP, rfl⟩
    rw [hp1] at this
    obtain ⟨P0, hP0, e⟩ := List.mem_map.mp this
    simp only [Prod.mk.injEq] at e
    rw [← e.2]; exact hlow P0 hP0
  have hnb : (ps.map PDecl.bare).map (·.name) = ps.map (·.name) := by rw [List.map_map]; rfl
  obtain ⟨i1, _, i3⟩ := foldDeclA_ports _ d1 n1 L' n' ops hA (by rw [hnb]; exact hnd)
  refine ⟨?_, by rw [(foldDeclA_frame _ d1 n1 L' n' ops hA).2.1, hp2]⟩
  refine ports_ext _ (fun p => (some p.name, p.dir, stubLo p.rng, 1 + stubExtra p.rng)) L'.ports ps
    (by rw [i3, hn1, hnames]) hnd fun p hp => ?_
  obtain ⟨P0, hP0, P, hP, _, b2, b3, b4, b5, b6, _⟩ := i1 p.bare (List.mem_map_of_mem hp)
  obtain ⟨c1, c2⟩ := declared_arith p.rng P0.pins.length b5
  refine ⟨P, hP, b2, ?_⟩
  rw [b2, b3, b4, b6, hlow1 P0 hP0]
  exact congrArg _ (congrArg _ (Prod.ext c1 c2))

theorem foldLeaves_iface : ∀ (ms : List WLeaf) (D : Def) (ls : List Def) (n : Nat) (D' : Def) (ls' : List Def) (n' : Nat),
    LInv D ls → foldLeaves D ls n ms = some (D', ls', n') → (ms.map (·.name)).Nodup →
    (∀ l ∈ ls, ∀ m ∈ ms, l.name = m.name → ∀ P ∈ l.ports, P.lower = 0) →
    (∀ m ∈ ms, ∃ L' ∈ ls', L'.name = m.name ∧ L'.lib = some "hdi_primitives" ∧ ifaceD L' = ifaceP m.ports) ∧
      ls'.map (·.name) = ls.map (·.name) ∧ (∀ l ∈ ls, (∀ m ∈ ms, l.name ≠ m.name) → l ∈ ls') := by
  intro ms
  induction ms with
  | nil =>
    intro D ls n D' ls' n' _ h _ _
    cases h
    exact ⟨(by intro m hm; cases hm), rfl, fun l hl _ => hl⟩
  | cons m ms ih =>
    intro D ls n D' ls' n' inv h hnd hlow
    obtain ⟨L, L', n1, ops, hf, hb, h⟩ := foldLeaves_cons h
    obtain ⟨_, g2, g3, _, _⟩ := leaf_step D ls n none m L L' n1 ops inv hf hb
    have hLm := List.mem_of_find?_eq_some hf
    have hLn : L.name = m.name := by simpa using List.find?_some hf
    rw [List.map_cons, List.nodup_cons] at hnd
    have hmnot : ∀ m' ∈ ms, m'.name ≠ m.name := by
      intro m' hm' e
      exact hnd.1 (List.mem_map.mpr ⟨m', hm', e⟩)
    have hL'mem := setLeaf_mem_self L' hLm hLn
    obtain ⟨i1, i2, i3⟩ := ih _ _ _ D' ls' n' g2 h hnd.2 (by
      intro l1 hl1 m' hm' hn P hP
      rcases mem_setLeaf hl1 with ⟨rfl, _⟩ | ⟨hl, _⟩
      · exact absurd (hn.symm.trans g3) (hmnot m' hm')
      · exact hlow l1 hl m' (List.mem_cons_of_mem _ hm') hn P hP)
    obtain ⟨j1, j2⟩ := buildLeaf_iface L n m.ports L' n1 ops hb (hlow L hLm m List.mem_cons_self hLn)
    refine ⟨?_, by rw [i2, setLeaf_names ls m.name L' g3], ?_⟩
    · intro m' hm'
      rcases List.mem_cons.mp hm' with e | e
      · subst e
        exact ⟨L', i3 L' hL'mem (fun q hq e => hmnot q hq (by rw [← e, g3])), g3, j2, j1⟩
      · exact i1 m' e
    · intro l hl hnot
      exact i3 l (setLeaf_mem_other L' hl (hnot m List.mem_cons_self)) (fun q hq => hnot q (List.mem_cons_of_mem _ hq))
end Spydr.Verilog.Elab
