/-
  The ANSI header and the wire declarations of a module nobody instances yet.  One header port (without alias) of a new
  name: a new port, a new same-named cable of the same shape with fresh wires, pin k on wire k (`headerPort_new'`); one wire
  declaration of a new name (`wireDecl_new`); both as folds (`header_fold`, `wires_fold`).
-/
import Spydr.Verilog.RoundTripInst
namespace Spydr.Verilog.Elab
open Spydr.Verilog

theorem setRow_upto (ws : List Nat) : ∀ k, k ≤ ws.length →
    (List.range k).foldlM (fun row i => setRow row i (ws.getD i 0)) (List.replicate ws.length none)
      = .ok ((ws.take k).map some ++ List.replicate (ws.length - k) none) := by
  intro k
  induction k with
  | zero => intro _; rfl
  | succ k ih =>
    intro hk
    have hget : ((ws.take k).map some ++ List.replicate (ws.length - k) (none : Option Nat))[k]? = some none := by
      have hm : min k ws.length = k := Nat.min_eq_left (by omega)
      rw [List.getElem?_append_right (by simp [hm]), List.getElem?_replicate]
      simp [hm]; omega
    rw [List.range_succ, List.foldlM_append, ih (by omega)]
    simp only [bind, Except.bind, List.foldlM_cons, List.foldlM_nil, setRow, setPin, hget, pure, Except.pure]
    congr 1
    rw [List.set_append_right _ _ (by simp; omega)]
    have e : ws.length - k = (ws.length - (k + 1)) + 1 := by omega
    simp only [List.length_map, List.length_take, Nat.min_eq_left (Nat.le_of_lt hk), Nat.sub_self, e,
      List.replicate_succ, List.set_cons_zero]
    have hk' : k < ws.length := hk
    rw [List.take_add_one, List.getD_eq_getElem?_getD, List.getElem?_eq_getElem hk']
    simp only [Option.getD_some, Option.toList_some, List.map_append, List.map_cons, List.map_nil, List.append_assoc,
      List.singleton_append]
theorem setRow_all (ws : List Nat) :
    ((List.range ws.length).foldlM (fun row i => setRow row i (ws.getD i 0)) (List.replicate ws.length none))
      = .ok (ws.map some) := by
  simpa using setRow_upto ws ws.length (Nat.le_refl _)

/-- shape of a declared range: (base, width, downto) -/
def shapeOf (rng : Option (Int × Int)) : Int × Nat × Bool := populateNew (rngL rng) (rngR rng)

theorem portIdx_append_new (d : Def) (name : String) (p : Port) (h : portIdx d name = none) (hp : p.name = some name) :
    portIdx { d with ports := d.ports ++ [p] } name = some d.ports.length := by
  unfold portIdx at h ⊢
  simp [List.findIdx?_append, h, hp]

theorem find_append_new (cs : List Cable) (name : String) (c : Cable) (h : cs.find? (fun c => c.name == name) = none)
    (hc : c.name = name) : (cs ++ [c]).find? (fun c => c.name == name) = some c := by
  rw [List.find?_append, h]
  simp [hc]

theorem shape_rng_none : shapeOf none = (0, 1, true) := rfl

/-- the range the header port hands to its cable has the port's own shape -/
theorem populateNew_again (rng : Option (Int × Int)) :
    (match rng with
     | some (a, b) => populateNew (some a) (some b)
     | none =>
       let hi := (shapeOf rng).1 + (((shapeOf rng).2.1 : Nat) : Int) - 1
       if (shapeOf rng).2.2 then populateNew (some hi) (some (shapeOf rng).1) else populateNew (some (shapeOf rng).1) (some hi))
      = shapeOf rng := by
  cases rng with
  | none => rfl
  | some p => rfl

theorem createOrUpdatePort_new (s : St) (dn name : String) (d : Def) (l r : Option Int) (dir : Option Dir) (df : Bool)
    (hd : Has s dn d) (hp : portIdx d name = none) (hnr : NoRef s dn) :
    createOrUpdatePort s dn name l r dir df = .ok (s.upd dn (addPort
      (freePort name (dir.getD .undef) (populateNew l r).1 (populateNew l r).2.2 (populateNew l r).2.1))) := by
  rw [createOrUpdatePort_eq hd]
  simp only [portUpd, hp]
  rw [mapInstRows_noref _ _ _ _ (hnr.put (addPort _ d) _ (hnr d hd.1)), ← upd_eq_put s dn d _ _ hd]
  rfl

theorem createOrUpdateCable_new (s : St) (dn name : String) (d : Def) (l r : Option Int) (vt : Option String) (df : Bool)
    (hd : Has s dn d) (hc : d.cables.find? (fun c => c.name == name) = none) :
    createOrUpdateCable s dn name l r vt df = .ok (withNext (s.upd dn (addCable
      ⟨name, (populateNew l r).1, (populateNew l r).2.2, ids s.next (populateNew l r).2.1, vt, none⟩))
        (s.next + (populateNew l r).2.1)) := by
  rw [createOrUpdateCable_eq hd, upd_eq_put s dn d _ _ hd]
  simp only [cableUpd, hc]

theorem connectPortCable_free (s : St) (dn name : String) (d : Def) (k : Nat) (c : Cable) (P : Port)
    (hd : Has s dn d) (hk : portIdx d name = some k) (hc : d.cables.find? (fun c => c.name == name) = some c)
    (hP : d.ports.getD k default = P) (hpins : P.pins = List.replicate c.wires.length none) :
    connectPortCable s dn name = .ok (s.upd dn (putPort k { P with pins := c.wires.map some })) := by
  unfold connectPortCable
  rw [getDef_has hd]
  simp only [bind, Except.bind, hk, hc, hP, hpins, List.length_replicate, bne_self_eq_false, Bool.false_eq_true,
    if_false, setRow_all]
  rfl

theorem headerPort_new' (s : St) (dn : String) (d : Def) (name : String) (odir : Option Dir) (rng : Option (Int × Int))
    (hd : Has s dn d) (hp : portIdx d name = none) (hc : d.cables.find? (fun c => c.name == name) = none)
    (hnr : NoRef s dn) :
    headerPort s dn ⟨name, odir, rng, none⟩ = .ok
      (withNext (s.upd dn (fun x => { x with
          ports := x.ports ++ [wiredPort name (odir.getD .undef) (shapeOf rng).1 (shapeOf rng).2.2 (ids s.next (shapeOf rng).2.1)],
          cables := x.cables ++ [portCable name (shapeOf rng).1 (shapeOf rng).2.2 (ids s.next (shapeOf rng).2.1)] }))
        (s.next + (shapeOf rng).2.1)) := by
  have hsh : populateNew (rngL rng) (rngR rng) = shapeOf rng := rfl
  generalize hP : freePort name (odir.getD .undef) (shapeOf rng).1 (shapeOf rng).2.2 (shapeOf rng).2.1 = P
  generalize hC : portCable name (shapeOf rng).1 (shapeOf rng).2.2 (ids s.next (shapeOf rng).2.1) = C
  have hCw : C.wires.length = (shapeOf rng).2.1 := by rw [← hC]; simp [portCable, ids]
  have hd1 := hd.upd (addPort P) (fun _ => rfl)
  have hk : portIdx (addPort P d) name = some d.ports.length := portIdx_append_new d name P hp (by rw [← hP]; rfl)
  have hget : (addPort P d).ports.getD d.ports.length default = P := by simp [addPort, List.getD]
  have hd2 : Has (withNext ((s.upd dn (addPort P)).upd dn (addCable C)) (s.next + (shapeOf rng).2.1)) dn
      (addCable C (addPort P d)) := Has.of_defs rfl (hd1.upd (addCable C) (fun _ => rfl))
  -- the cable gets the shape of the port, whatever range the header hands on; then the two are connected
  have tail : ∀ l r, populateNew l r = shapeOf rng →
      (createOrUpdateCable (s.upd dn (addPort P)) dn name l r none odir.isSome >>= (connectPortCable · dn name)) =
        .ok (withNext (s.upd dn (fun x => { x with
          ports := x.ports ++ [{ P with pins := C.wires.map some }], cables := x.cables ++ [C] }))
          (s.next + (shapeOf rng).2.1)) := by
    intro l r hlr
    subst hC
    rw [createOrUpdateCable_new _ dn name _ l r none _ hd1 hc, hlr]
    show connectPortCable (withNext ((s.upd dn (addPort P)).upd dn (addCable (portCable name _ _ (ids s.next _))))
      (s.next + (shapeOf rng).2.1)) dn name = _
    rw [connectPortCable_free _ dn name _ d.ports.length _ P hd2 hk (find_append_new d.cables name _ hc rfl)
      hget (by rw [hCw, ← hP]; rfl)]
    rw [withNext_upd, St.upd_upd s dn (addPort P) _ (fun _ => rfl),
      St.upd_upd s dn (fun x => addCable _ (addPort P x)) _ (fun _ => rfl)]
    congr 2
    apply St.upd_congr s dn _ _ d hd
    simp [addPort, addCable, putPort]
  unfold headerPort
  simp only [bind, Except.bind, createOrUpdatePort_new s dn name d _ _ odir _ hd hp hnr, hsh, hP, getDef_has hd1,
    hk, Option.getD_some, hget]
  subst hP hC
  cases rng with
  | none => exact tail _ _ (populateNew_again none)
  | some p => exact tail _ _ (populateNew_again (some p))

theorem headerPort_new (s : St) (dn : String) (d : Def) (name : String) (dir : Dir) (rng : Option (Int × Int))
    (hd : Has s dn d) (hp : portIdx d name = none) (hc : d.cables.find? (fun c => c.name == name) = none)
    (hnr : NoRef s dn) :
    headerPort s dn ⟨name, some dir, rng, none⟩ = .ok
      (withNext (s.upd dn (fun x => { x with
          ports := x.ports ++ [wiredPort name dir (shapeOf rng).1 (shapeOf rng).2.2 (ids s.next (shapeOf rng).2.1)],
          cables := x.cables ++ [portCable name (shapeOf rng).1 (shapeOf rng).2.2 (ids s.next (shapeOf rng).2.1)] }))
        (s.next + (shapeOf rng).2.1)) :=
  headerPort_new' s dn d name (some dir) rng hd hp hc hnr

structure FPort where
  name : String
  dir : Dir
  rng : Option (Int × Int)

def FPort.hport (p : FPort) : HPort := ⟨p.name, some p.dir, p.rng, none⟩

/-- ports and their cables, wires numbered from `n` (pure) -/
def buildPorts : List FPort → Nat → List Port × List Cable × Nat
  | [], n => ([], [], n)
  | p :: ps, n =>
    let r := buildPorts ps (n + (shapeOf p.rng).2.1)
    (wiredPort p.name p.dir (shapeOf p.rng).1 (shapeOf p.rng).2.2 (ids n (shapeOf p.rng).2.1) :: r.1,
     portCable p.name (shapeOf p.rng).1 (shapeOf p.rng).2.2 (ids n (shapeOf p.rng).2.1) :: r.2.1, r.2.2)

theorem portIdx_append_other (d : Def) (n : String) (p : Port) (h : portIdx d n = none) (hne : p.name ≠ some n) :
    portIdx { d with ports := d.ports ++ [p] } n = none := by
  unfold portIdx at h ⊢
  simp [List.findIdx?_append, h, hne]

theorem find_append_other (cs : List Cable) (n : String) (c : Cable) (h : cs.find? (fun c => c.name == n) = none)
    (hne : c.name ≠ n) : (cs ++ [c]).find? (fun c => c.name == n) = none := by
  rw [List.find?_append, h]
  simp [hne]

/-- **header_fold.**  The ANSI header of a module that nobody instances yet. -/
theorem header_fold (dn : String) : ∀ (ps : List FPort) (s : St) (d : Def),
    Has s dn d → NoRef s dn →
    (∀ p ∈ ps, portIdx d p.name = none ∧ d.cables.find? (fun c => c.name == p.name) = none) →
    (ps.map (·.name)).Nodup →
    (ps.map FPort.hport).foldlM (fun s h => match h.alias with
        | some e => headerAlias s dn h e
        | none => headerPort s dn h) s =
      .ok (withNext (s.upd dn (fun x => { x with ports := x.ports ++ (buildPorts ps s.next).1,
                                                 cables := x.cables ++ (buildPorts ps s.next).2.1 }))
            (buildPorts ps s.next).2.2) := by
  intro ps
  induction ps with
  | nil =>
    intro s d hd _ _ _
    simp only [List.map_nil, List.foldlM_nil, buildPorts, List.append_nil, pure, Except.pure]
    congr 1
    have : s.upd dn (fun x => { x with ports := x.ports, cables := x.cables }) = s :=
      St.upd_id' s dn _ d hd (by cases d; rfl)
    rw [this]; rfl
  | cons p ps ih =>
    intro s d hd hnr hfr hnd
    obtain ⟨hp, hc⟩ := hfr p List.mem_cons_self
    simp only [List.map_cons, List.foldlM_cons, bind, Except.bind, FPort.hport]
    have h1 := headerPort_new s dn d p.name p.dir p.rng hd hp hc hnr
    rw [h1]
    generalize hg : (fun (x : Def) => ({ x with
        ports := x.ports ++ [wiredPort p.name p.dir (shapeOf p.rng).1 (shapeOf p.rng).2.2 (ids s.next (shapeOf p.rng).2.1)],
        cables := x.cables ++ [portCable p.name (shapeOf p.rng).1 (shapeOf p.rng).2.2 (ids s.next (shapeOf p.rng).2.1)] } : Def)) = g
    have hgn : ∀ x, (g x).name = x.name := by intro x; rw [← hg]
    have hgi : ∀ x, (g x).insts = x.insts := by intro x; rw [← hg]
    have hd1 : Has (withNext (s.upd dn g) (s.next + (shapeOf p.rng).2.1)) dn (g d) := Has.of_defs rfl (hd.upd g hgn)
    have hnr1 : NoRef (withNext (s.upd dn g) (s.next + (shapeOf p.rng).2.1)) dn :=
      NoRef.of_defs rfl (NoRef_upd s dn dn g hgi hnr)
    have hfr1 : ∀ q ∈ ps, portIdx (g d) q.name = none ∧ (g d).cables.find? (fun c => c.name == q.name) = none := by
      intro q hq
      obtain ⟨hqp, hqc⟩ := hfr q (List.mem_cons_of_mem _ hq)
      have hne : p.name ≠ q.name := by
        intro e
        exact (List.nodup_cons.mp hnd).1 (List.mem_map.mpr ⟨q, hq, e.symm⟩)
      rw [← hg]
      exact ⟨portIdx_append_other d q.name _ hqp (by simp [wiredPort, hne]),
        find_append_other d.cables q.name _ hqc (by simp [portCable, hne])⟩
    have := ih (withNext (s.upd dn g) (s.next + (shapeOf p.rng).2.1)) (g d) hd1 hnr1 hfr1 (List.nodup_cons.mp hnd).2
    dsimp only
    rw [this]
    rw [withNext_next, withNext_upd, withNext_withNext, St.upd_upd _ _ _ _ hgn]
    simp only [buildPorts]
    congr 2
    apply congrArg (St.upd s dn)
    funext x
    rw [← hg]
    simp [List.append_assoc]

def wireCable (w : FWire) (n : Nat) : Cable :=
  ⟨w.name, (shapeOf w.rng).1, (shapeOf w.rng).2.2, ids n (shapeOf w.rng).2.1, some w.ty, some w.attrs⟩

def buildWires : List FWire → Nat → List Cable × Nat
  | [], n => ([], n)
  | w :: ws, n =>
    let r := buildWires ws (n + (shapeOf w.rng).2.1)
    (wireCable w n :: r.1, r.2)

theorem wireDecl_new (s : St) (dn : String) (d : Def) (w : FWire)
    (hd : Has s dn d) (hc : d.cables.find? (fun c => c.name == w.name) = none) :
    elabItem s dn false w.item =
      .ok (withNext (s.upd dn (fun x => { x with cables := x.cables ++ [wireCable w s.next] })) (s.next + (shapeOf w.rng).2.1)) := by
  unfold FWire.item elabItem
  simp only [Bool.false_eq_true, if_false, bind, Except.bind,
    createOrUpdateCable_new s dn w.name d _ _ (some w.ty) false hd hc, setCableAttrs, pure, Except.pure]
  rw [withNext_upd, St.upd_upd s dn (addCable _) _ (fun _ => rfl)]
  congr 2
  apply St.upd_congr s dn _ _ d hd
  -- the attributes land on the new cable only: no older cable has that name
  have hold : d.cables.map (fun x => if x.name == w.name then { x with attrs := some w.attrs } else x) = d.cables :=
    map_id_of_mem (fun x hx => by simp [List.find?_eq_none.mp hc x hx])
  simp only [addCable, List.map_append, hold]
  simp [wireCable, shapeOf]

/-- **wires_fold.**  The wire / reg declarations of a module body (new names). -/
theorem wires_fold (dn : String) : ∀ (ws : List FWire) (s : St) (d : Def),
    Has s dn d → (∀ w ∈ ws, d.cables.find? (fun c => c.name == w.name) = none) → (ws.map (·.name)).Nodup →
    (ws.map FWire.item).foldlM (fun s it => elabItem s dn false it) s =
      .ok (withNext (s.upd dn (fun x => { x with cables := x.cables ++ (buildWires ws s.next).1 })) (buildWires ws s.next).2) := by
  intro ws
  induction ws with
  | nil =>
    intro s d hd _ _
    simp only [List.map_nil, List.foldlM_nil, buildWires, List.append_nil, pure, Except.pure]
    congr 1
    have : s.upd dn (fun x => { x with cables := x.cables }) = s := St.upd_id' s dn _ d hd (by cases d; rfl)
    rw [this]; rfl
  | cons w ws ih =>
    intro s d hd hfr hnd
    simp only [List.map_cons, List.foldlM_cons, bind, Except.bind]
    rw [wireDecl_new s dn d w hd (hfr w List.mem_cons_self)]
    dsimp only
    generalize hg : (fun (x : Def) => ({ x with cables := x.cables ++ [wireCable w s.next] } : Def)) = g
    have hgn : ∀ x, (g x).name = x.name := by intro x; rw [← hg]
    have hd1 : Has (withNext (s.upd dn g) (s.next + (shapeOf w.rng).2.1)) dn (g d) := Has.of_defs rfl (hd.upd g hgn)
    have hfr1 : ∀ v ∈ ws, (g d).cables.find? (fun c => c.name == v.name) = none := by
      intro v hv
      have hne : w.name ≠ v.name := by
        intro e
        exact (List.nodup_cons.mp hnd).1 (List.mem_map.mpr ⟨v, hv, e.symm⟩)
      rw [← hg]
      exact find_append_other d.cables v.name _ (hfr v (List.mem_cons_of_mem _ hv)) (by simp [wireCable, hne])
    rw [ih (withNext (s.upd dn g) (s.next + (shapeOf w.rng).2.1)) (g d) hd1 hfr1 (List.nodup_cons.mp hnd).2]
    rw [withNext_next, withNext_upd, withNext_withNext, St.upd_upd _ _ _ _ hgn]
    simp only [buildWires]
    congr 2
    apply congrArg (St.upd s dn)
    funext x
    rw [← hg]
    simp [List.append_assoc]
end Spydr.Verilog.Elab
