/-
  Verilog engine — body port declarations and the connection of one instance row.
-/
import Spydr.Verilog.WFHeader
namespace Spydr.Verilog.Elab
open Spydr.Verilog

/-- `connect_resized_port_cable`: every free pin `i` gets wire `i` -/
theorem fillFold_fill (vs : List Nat) (row : List (Option Nat)) :
    Fill vs row ((List.range vs.length).foldl (fun (row : List (Option Nat)) i =>
      match row.getD i none with
      | some _ => row
      | none => row.set i (some (vs.getD i 0))) row) :=
  List.foldlRecOn _ _ (Fill.refl vs row) fun r hr i hi => by
    split
    · exact hr
    · exact hr.trans (Fill.set r i (getD_mem vs i 0 (List.mem_range.mp hi)))

theorem upd_port_attrs (s : St) (dn pname : String) (a : Attrs) (hs : TableWF s) :
    TableWF (s.upd dn (fun d => { d with ports := d.ports.map (fun p =>
      if p.name == some pname then { p with attrs := some a } else p) })) := by
  refine hs.upd dn _ fun x hx _ => ?_
  have hw := hs.defs x hx
  refine ⟨?_, ?_, hw.cables, hw.insts, ?_, hw.ipins⟩
  · simp only [shape]
    rw [map_map_ite (fun p : Port => p.pins.length)]
    exact fun _ => rfl
  · have := map_map_ite (fun p : Port => p.name) (fun p => p.name == some pname) (fun p => { p with attrs := some a })
      (fun _ => rfl) x.ports
    show ((x.ports.map _).filterMap (fun p : Port => p.name)).Nodup
    rw [filterMap_eq_of_map _ this]; exact hw.ports
  · intro p' hp'
    obtain ⟨p, hp, rfl⟩ := List.mem_map.mp hp'
    split
    · exact hw.ppins p hp
    · exact hw.ppins p hp

theorem portDecl_pres {s s' : St} {dn : String} {dir : Dir} {vt : Option String} {rng : Option (Int × Int)} {name : String}
    {attrs : Attrs} (hs : TableWF s) (h : portDecl s dn dir vt rng name attrs = .ok s') : Pres s s' := by
  unfold portDecl at h
  obtain ⟨s1, h1, h⟩ := bind_ok h
  obtain ⟨d, _, h⟩ := bind_ok h
  have p1 := createOrUpdateCable_pres hs h1
  refine p1.trans ?_
  split at h
  · cases h
  · split at h
    · cases h
    · split at h
      · cases h
      · -- one port on these wires
        rename_i k _
        generalize ((d.ports.getD k default).name).getD "" = pname at h
        obtain ⟨s2, h3, h⟩ := bind_ok h
        have p2 := createOrUpdatePort_pres p1.1 h3
        refine p2.trans ?_
        generalize hs3 : (if attrs.isEmpty = true then s2 else s2.upd dn (fun d => { d with ports := d.ports.map (fun p =>
          if p.name == some pname then { p with attrs := some attrs } else p) })) = s3 at h
        have p3 : Pres s2 s3 := hs3 ▸ ite_of (.refl p2.1) (.keep (upd_port_attrs s2 dn pname attrs p2.1) (keep_upd fun _ => rfl))
        refine p3.trans ?_
        obtain ⟨d3, h4, h⟩ := bind_ok h
        have hd3 := getDef_ok p3.1 h4
        split at h
        · rename_i c3 k3 hc3 hk3
          split at h
          · dsimp only at h
            split at h
            · cases h
            · cases h
              exact .keep (fill_port_wf s3 dn d3 k3 c3.wires _ p3.1 hd3 (portIdx_lt hk3)
                (fun v hv => mem_wiresOf.mpr ⟨c3, List.mem_of_find?_eq_some hc3, hv⟩) (fillFold_fill c3.wires _))
                (keep_upd fun _ => rfl)
          · cases h; exact .refl p3.1
        · cases h
      · -- several ports on this cable: each gets the direction
        obtain ⟨s2, hX, h⟩ := bind_ok h
        split at h
        · cases h
        · cases h
          exact Pres.foldlM (fun S k S' hS hk => createOrUpdatePort_pres hS hk) p1.1 hX

theorem portDecl_wf (s s' : St) (dn : String) (dir : Dir) (vt : Option String) (rng : Option (Int × Int)) (name : String)
    (attrs : Attrs) (hs : TableWF s) (h : portDecl s dn dir vt rng name attrs = .ok s') : TableWF s' :=
  (portDecl_pres hs h).1

theorem setPin_fold_fill (vs : List Nat) : ∀ (ps : List (Nat × Nat)) (pv pv' : List (Option Nat)), (∀ p ∈ ps, p.1 ∈ vs) →
    ps.foldlM (fun pv (p : Nat × Nat) => setPin pv p.2 p.1) pv = some pv' → Fill vs pv pv' := by
  intro ps
  induction ps with
  | nil => intro pv pv' _ h; cases h; exact Fill.refl vs pv
  | cons p ps ih =>
    intro pv pv' hv h
    obtain ⟨r1, h1, h⟩ := foldlM_cons_some h
    exact (setPin_fill (hv p List.mem_cons_self) h1).trans (ih r1 pv' (fun q hq => hv q (List.mem_cons_of_mem _ hq)) h)

theorem connectLowAligned_fill {row row' : List (Option Nat)} {ws : List Nat} (h : connectLowAligned row ws = some row') :
    Fill ws row row' := by
  unfold connectLowAligned at h
  split at h
  · exact setPin_fold_fill ws _ _ _ (fun p hp => (List.of_mem_zip hp).1) h
  · cases h

theorem upd_inst_pins (s : St) (dn : String) (d : Def) (ii : Nat) (pins' : List (List (Option Nat))) (hs : TableWF s)
    (hd : Has s dn d) (hlen : pins'.map List.length = (d.insts.getD ii default).pins.map List.length)
    (hrow : ∀ row ∈ pins', RowOK d row) :
    TableWF (s.upd dn (fun x => { x with insts := x.insts.set ii { d.insts.getD ii default with pins := pins' } })) := by
  have hw := hs.defs d hd.1
  refine hs.upd_has hd _ ?_ ⟨hw.ports, hw.cables, ?_, hw.ppins, ?_⟩
  · simp only [shape]
    rw [map_set_getD (fun i : Inst => (i.ref, i.pins.map List.length)) d.insts ii default _ (by rw [hlen])]
  · show ((d.insts.set ii _).map (·.name)).Nodup
    rw [map_set_getD (fun i : Inst => i.name) d.insts ii default]
    · exact hw.insts
    · rfl
  · exact forall_mem_set hw.ipins hrow

theorem connectInstRow_spec (s s' : St) (dn iname : String) (k : Nat) (ws : List Nat) (hs : TableWF s)
    (hws : ∀ w ∈ ws, w ∈ wiresIn s dn) (h : connectInstRow s dn iname k ws = .ok s') :
    TableWF s' ∧ Grow s s' ∧ Keep s s' := by
  obtain ⟨d, ii, row', hfd, hi, hc, rfl⟩ := connectInstRow_eq s s' dn iname k ws h
  have hd := find_has hs hfd
  have hf := connectLowAligned_fill hc
  have hwd := (hs.defs d hd.1).ipins (d.insts.getD ii default) (getD_mem _ _ _ (instIdx_lt hi))
  refine ⟨upd_inst_pins s dn d ii _ hs hd ?_ ?_, grow_upd s dn _ (fun _ => rfl) (fun _ _ _ w hw => hw),
    keep_upd fun _ => rfl⟩
  · rw [map_set_getD List.length _ k [] row' hf.1]
  · refine forall_mem_set hwd (hf.rowOK ?_ fun v hv => wiresIn_has hd ▸ hws v hv)
    -- the row connected to is a row of the instance, or beyond them and empty
    by_cases hj : k < (d.insts.getD ii default).pins.length
    · exact hwd _ (getD_mem _ _ _ hj)
    · rw [getD_of_le _ _ _ (by omega)]; exact fun _ hx => by cases hx

theorem connectInstRow_wf (s s' : St) (dn iname : String) (k : Nat) (ws : List Nat) (hs : TableWF s)
    (hws : ∀ w ∈ ws, w ∈ wiresIn s dn) (h : connectInstRow s dn iname k ws = .ok s') : TableWF s' ∧ Grow s s' :=
  ⟨(connectInstRow_spec s s' dn iname k ws hs hws h).1, (connectInstRow_spec s s' dn iname k ws hs hws h).2.1⟩

theorem connectInstRow_pres {s s' : St} {dn iname : String} {k : Nat} {ws : List Nat} (hs : TableWF s)
    (hws : ∀ w ∈ ws, w ∈ wiresIn s dn) (h : connectInstRow s dn iname k ws = .ok s') : Pres s s' :=
  .keep (connectInstRow_spec s s' dn iname k ws hs hws h).1 (connectInstRow_spec s s' dn iname k ws hs hws h).2.2
end Spydr.Verilog.Elab
