/-
  The rendering as a list of pieces: the toolkit (`pchars`, `ptoks`, `T`, `N`, `W1` … `NL`, the `celldefine` lines) and
  the pieces of expressions and attribute groups, with their characters and tokens.
-/
import Spydr.Verilog.LexPieces
import Spydr.Verilog.RenderModule
import Spydr.Verilog.TokExpr
namespace Spydr.Verilog.Elab
open Spydr.Verilog
open Spydr.Verilog.Text (fixName showInt)

def pchars (ps : List Piece) : List Char := ps.flatMap Piece.chars
def ptoks (ps : List Piece) : List String := ps.flatMap Piece.toks

theorem pchars_append (a b : List Piece) : pchars (a ++ b) = pchars a ++ pchars b := by simp [pchars]
theorem ptoks_append (a b : List Piece) : ptoks (a ++ b) = ptoks a ++ ptoks b := by simp [ptoks]
theorem pchars_cons (p : Piece) (a : List Piece) : pchars (p :: a) = p.chars ++ pchars a := by simp [pchars]
theorem ptoks_cons (p : Piece) (a : List Piece) : ptoks (p :: a) = p.toks ++ ptoks a := by simp [ptoks]
theorem pchars_nil : pchars [] = [] := rfl
theorem ptoks_nil : ptoks [] = [] := rfl

theorem flatMap_intercalate {α β : Type} (f : α → List β) (sep : List α) : ∀ (xs : List (List α)),
    (List.intercalate sep xs).flatMap f = List.intercalate (sep.flatMap f) (xs.map (fun x => x.flatMap f))
  | [] => by simp [List.intercalate]
  | [x] => by simp [List.intercalate]
  | x :: y :: t => by
    have ih := flatMap_intercalate f sep (y :: t)
    simp only [List.intercalate, List.intersperse, List.flatten_cons, List.flatMap_append, List.map_cons] at ih ⊢
    rw [ih]

theorem pchars_intercalate (sep : List Piece) (xs : List (List Piece)) :
    pchars (List.intercalate sep xs) = List.intercalate (pchars sep) (xs.map pchars) :=
  flatMap_intercalate Piece.chars sep xs

theorem ptoks_intercalate (sep : List Piece) (xs : List (List Piece)) :
    ptoks (List.intercalate sep xs) = List.intercalate (ptoks sep) (xs.map ptoks) :=
  flatMap_intercalate Piece.toks sep xs

def W1 : List Piece := [.ws ' ']
def W4 : List Piece := [.ws ' ', .ws ' ', .ws ' ', .ws ' ']
def W8 : List Piece := W4 ++ W4
def NL : List Piece := [.ws '\n']

theorem chars_W1 : pchars W1 = " ".toList := by decide
theorem chars_W4 : pchars W4 = "    ".toList := by decide
theorem chars_W8 : pchars W8 = "        ".toList := by decide
theorem chars_NL : pchars NL = "\n".toList := by decide
theorem toks_W1 : ptoks W1 = [] := rfl
theorem toks_W4 : ptoks W4 = [] := rfl
theorem toks_W8 : ptoks W8 = [] := rfl
theorem toks_NL : ptoks NL = [] := rfl

def cellP : List Piece := [.self "`celldefine\n" "`celldefine"]

def endcellP : List Piece := [.self "`endcelldefine\n" "`endcelldefine"]

def T (s : String) : List Piece := [.tok s]
theorem chars_T (s : String) : pchars (T s) = s.toList := by simp [pchars, T, Piece.chars]
theorem toks_T (s : String) : ptoks (T s) = [s] := by simp [ptoks, T, Piece.toks]

/-- a name as written: an escaped identifier (`\\name `) ends by itself at its blank, any other name is a word -/
def N (s : String) : List Piece := if s.startsWith "\\" then [.self s s] else T s
theorem chars_N (s : String) : pchars (N s) = s.toList := by
  unfold N; split <;> simp [pchars, T, Piece.chars]
theorem toks_N (s : String) : ptoks (N s) = [s] := by
  unfold N; split <;> simp [ptoks, T, Piece.toks]

def atomP : Atom → List Piece
  | .id n => N (fixName n)
  | .bit n i => N (fixName n) ++ T "[" ++ T (showInt i) ++ T "]"
  | .part n l r => N (fixName n) ++ T "[" ++ T (showInt l) ++ T ":" ++ T (showInt r) ++ T "]"

theorem chars_atomP (a : Atom) : pchars (atomP a) = (Text.atomText a).toList := by
  cases a <;> simp [atomP, Text.atomText, pchars_append, chars_T, chars_N, String.toList_append]

theorem toks_atomP (a : Atom) : ptoks (atomP a) = atomToks (toX a) := by
  cases a <;> simp [atomP, atomToks, toX, ptoks_append, toks_T, toks_N, nameT]

def exprP : PExpr → List Piece
  | .empty => []
  | .atom a => atomP a
  | .concat as => T "{" ++ List.intercalate (T "," ++ W1) (as.map atomP) ++ T "}"

theorem chars_exprP (e : PExpr) : pchars (exprP e) = (peText e).toList := by
  cases e with
  | empty => rfl
  | atom a => exact chars_atomP a
  | concat as =>
    simp only [exprP, peText, Text.concatText, pchars_append, chars_T, String.toList_append, pchars_intercalate,
      String.toList_intercalate, chars_W1, List.map_map]
    congr 2
    congr 1
    apply List.map_congr_left
    intro a _
    exact chars_atomP a

theorem toks_exprP (e : PExpr) : ptoks (exprP e) = exprToks (toXE e) := by
  cases e with
  | empty => rfl
  | atom a => exact toks_atomP a
  | concat as =>
    simp only [exprP, toXE, exprToks, ptoks_append, toks_T, ptoks_intercalate, toks_W1, List.append_nil, List.map_map,
      sepToks_sep.eq_intercalate, List.cons_append, List.nil_append]
    have : as.map (ptoks ∘ atomP) = as.map (atomToks ∘ toX) :=
      List.map_congr_left (fun a _ => toks_atomP a)
    rw [this]

def valP (v : String) : List Piece := if v.toList.head? == some '"' then [.self v v] else T v

theorem chars_valP (v : String) : pchars (valP v) = v.toList := by
  unfold valP; split <;> simp [pchars, T, Piece.chars]

theorem toks_valP (v : String) : ptoks (valP v) = [v] := by
  unfold valP; split <;> simp [ptoks, T, Piece.toks]

def attrP (kv : String × Option String) : List Piece :=
  match kv.2 with
  | none => T kv.1
  | some v => T kv.1 ++ W1 ++ T "=" ++ W1 ++ valP v

def starP (a : Attrs) : List Piece :=
  if a.isEmpty then [] else T "(" ++ T "*" ++ W1 ++ List.intercalate (T "," ++ W1) (a.map attrP) ++ W1 ++ T "*" ++ T ")" ++ NL

def itemText (kv : String × Option String) : String :=
  match kv.2 with
  | some v => kv.1 ++ " = " ++ v
  | none => kv.1

theorem chars_attrP (kv : String × Option String) : pchars (attrP kv) = (itemText kv).toList := by
  obtain ⟨k, v⟩ := kv
  cases v with
  | none => simp [attrP, itemText, chars_T]
  | some v =>
    simp only [attrP, itemText, pchars_append, chars_T, chars_W1, chars_valP, String.toList_append]
    have : " = ".toList = " ".toList ++ "=".toList ++ " ".toList := by decide
    rw [this]; simp

theorem starText_eq (a : Attrs) (h : a ≠ []) : starText a = "(* " ++ ", ".intercalate (a.map itemText) ++ " *)\n" := by
  cases a with
  | nil => exact absurd rfl h
  | cons kv rest => rfl

theorem chars_starP (a : Attrs) : pchars (starP a) = (starText a).toList := by
  cases a with
  | nil => rfl
  | cons kv rest =>
    rw [starText_eq _ (by simp)]
    unfold starP
    simp only [List.isEmpty_cons, Bool.false_eq_true, if_false, pchars_append, chars_T, chars_W1, chars_NL,
      pchars_intercalate, String.toList_append, String.toList_intercalate, List.map_map]
    have h1 : "(* ".toList = "(".toList ++ "*".toList ++ " ".toList := by decide
    have h2 : " *)\n".toList = " ".toList ++ "*".toList ++ ")".toList ++ "\n".toList := by decide
    have h3 : ", ".toList = ",".toList ++ " ".toList := by decide
    rw [h1, h2, h3]
    have hm : (kv :: rest).map (pchars ∘ attrP) = (kv :: rest).map (String.toList ∘ itemText) :=
      List.map_congr_left (fun x _ => chars_attrP x)
    rw [hm]
    simp [List.append_assoc]

theorem toks_attrP (kv : String × Option String) : ptoks (attrP kv) = attrToks kv := by
  obtain ⟨k, v⟩ := kv
  cases v <;> simp [attrP, attrToks, ptoks_append, toks_T, toks_W1, toks_valP]

theorem toks_starP (a : Attrs) : ptoks (starP a) = starToks a := by
  unfold starP starToks
  cases a with
  | nil => rfl
  | cons kv rest =>
    simp only [List.isEmpty_cons, Bool.false_eq_true, if_false, ptoks_append, toks_T, toks_W1, toks_NL, ptoks_intercalate,
      List.append_nil, List.map_map, sepAttr_sep.eq_intercalate]
    have hm : (kv :: rest).map (ptoks ∘ attrP) = (kv :: rest).map attrToks := by
      apply List.map_congr_left
      intro x _
      exact toks_attrP x
    rw [hm]
    simp
end Spydr.Verilog.Elab
