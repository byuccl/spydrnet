/-
  The module shape the writer prints (bare header names, body port declarations, wire declarations of all nets) through
  the real `elabModule` (`elabModule_wshape`): each of the three kinds of item is a step on the one definition, folded
  with `fold_local`.
-/
import Spydr.Verilog.RoundTripStub
namespace Spydr.Verilog.Elab
open Spydr.Verilog

/-- header entry `name`: a one-bit stub port wired to a one-bit stub cable -/
def stubStep (d : Def) (n : Nat) (name : String) : Option (Def × Nat) :=
  if portIdx d name = none ∧ d.cables.find? (fun c => c.name == name) = none then
    some ({ d with ports := d.ports ++ [wiredPort name .undef 0 true [n]],
                   cables := d.cables ++ [portCable name 0 true [n]] }, n + 1)
  else none

theorem stubStep_eq {d : Def} {n : Nat} {a : String} {d' : Def} {n' : Nat} (h : stubStep d n a = some (d', n')) :
    (portIdx d a = none ∧ d.cables.find? (fun c => c.name == a) = none) ∧
    d' = { d with ports := d.ports ++ [wiredPort a .undef 0 true [n]], cables := d.cables ++ [portCable a 0 true [n]] } ∧
    n' = n + 1 := by
  unfold stubStep at h
  split at h <;> cases h
  rename_i hc
  exact ⟨hc, rfl, rfl⟩

theorem stubStep_name (d : Def) (n : Nat) (a : String) (d' : Def) (n' : Nat) (h : stubStep d n a = some (d', n')) :
    d'.name = d.name ∧ d'.insts = d.insts := by
  obtain ⟨_, rfl, _⟩ := stubStep_eq h
  exact ⟨rfl, rfl⟩

theorem stubStep_run (dn : String) (s : St) (d : Def) (name : String) (d' : Def) (n' : Nat)
    (hd : Has s dn d) (hnr : NoRef s dn) (h : stubStep d s.next name = some (d', n')) :
    headerPort s dn ⟨name, none, none, none⟩ = .ok (s.put dn d' n') := by
  obtain ⟨hc, rfl, rfl⟩ := stubStep_eq h
  rw [headerPort_new' s dn d name none none hd hc.1 hc.2 hnr, upd_eq_put s dn d _ _ hd]
  simp [shape_rng_none, ids]

def rngOKb : Option (Int × Int) → Bool
  | none => true
  | some (a, b) => decide (b ≤ a)

theorem rngOK_of_b (rng : Option (Int × Int)) (h : rngOKb rng = true) : rngOK rng := by
  cases rng with
  | none => trivial
  | some p => obtain ⟨a, b⟩ := p; simpa [rngOKb, rngOK] using h

/-- no other port has a pin on wire `w0` or on a wire not yet handed out -/
def ownsB (d : Def) (k w0 n : Nat) : Bool :=
  (List.range d.ports.length).all (fun j => j == k || (d.ports.getD j default).pins.all (fun p =>
    match p with
    | some w => w != w0 && decide (w < n)
    | none => true))

theorem ownsB_spec (d : Def) (k w0 n : Nat) (h : ownsB d k w0 n = true) :
    ∀ j, j < d.ports.length → j ≠ k → ∀ w, some w ∈ (d.ports.getD j default).pins → w ≠ w0 ∧ w < n := by
  intro j hj hne w hw
  have := List.all_eq_true.mp h j (List.mem_range.mpr hj)
  simp only [Bool.or_eq_true, beq_iff_eq, hne, false_or, List.all_eq_true] at this
  simpa using this (some w) hw

def declStep (d : Def) (n : Nat) (p : PDecl) : Option (Def × Nat) :=
  match portIdx d p.name, d.cables.find? (fun c => c.name == p.name) with
  | some k, some c0 =>
    match (d.ports.getD k default).pins, c0.wires with
    | [some w0], [w0'] =>
      if w0 = w0' ∧ rngOKb p.rng = true ∧ (d.ports.getD k default).name = some p.name ∧ (d.ports.getD k default).lower = 0 ∧
          c0.lower = 0 ∧ (d.ports.map (·.name)).Nodup ∧ (d.cables.map (·.name)).Nodup ∧ ownsB d k w0 n = true then
        some ({ d with
          ports := d.ports.set k (grownPort (d.ports.getD k default) p.dir p.rng (w0 :: ids n (stubExtra p.rng)) p.attrs),
          cables := d.cables.map (fun y => if y.name == p.name then grownCable c0 p.rng n else y) }, n + stubExtra p.rng)
      else none
    | _, _ => none
  | _, _ => none

/-- what `declStep` finds when it accepts the declaration `p`: the one-bit stub port `k` and the one-bit stub net `c0`
    of that name on the same wire `w0`, which no other port touches, among ports and nets with distinct names -/
structure DeclMeets (d : Def) (n : Nat) (p : PDecl) (k : Nat) (c0 : Cable) (w0 : Nat) : Prop where
  idx : portIdx d p.name = some k
  find : d.cables.find? (fun c => c.name == p.name) = some c0
  cname : c0.name = p.name
  wires : c0.wires = [w0]
  clower : c0.lower = 0
  pname : (d.ports.getD k default).name = some p.name
  pins : (d.ports.getD k default).pins = [some w0]
  plower : (d.ports.getD k default).lower = 0
  rng : rngOK p.rng
  nodup : (d.ports.map (·.name)).Nodup
  cnodup : (d.cables.map (·.name)).Nodup
  owns : ∀ j, j < d.ports.length → j ≠ k → ∀ w, some w ∈ (d.ports.getD j default).pins → w ≠ w0 ∧ w < n

theorem declStep_eq {d : Def} {n : Nat} {p : PDecl} {d' : Def} {n' : Nat} (h : declStep d n p = some (d', n')) :
    ∃ k c0 w0, DeclMeets d n p k c0 w0 ∧
      d' = { d with
        ports := d.ports.set k (grownPort (d.ports.getD k default) p.dir p.rng (w0 :: ids n (stubExtra p.rng)) p.attrs),
        cables := d.cables.map (fun y => if y.name == p.name then grownCable c0 p.rng n else y) } ∧
      n' = n + stubExtra p.rng := by
  unfold declStep at h
  split at h
  · rename_i k c0 hk hc
    split at h
    · rename_i w0 w0' hp0 hc0
      split at h <;> cases h
      rename_i hcond
      obtain ⟨rfl, hr, hpn, hpl, hcl, hnp, hnc, hown⟩ := hcond
      exact ⟨k, c0, w0, ⟨hk, hc, find_name hc, hc0, hcl, hpn, hp0, hpl, rngOK_of_b _ hr, hnp, hnc, ownsB_spec d k w0 n hown⟩,
        rfl, rfl⟩
    · cases h
  · cases h

theorem declStep_name (d : Def) (n : Nat) (a : PDecl) (d' : Def) (n' : Nat) (h : declStep d n a = some (d', n')) :
    d'.name = d.name ∧ d'.insts = d.insts := by
  obtain ⟨_, _, _, _, rfl, _⟩ := declStep_eq h
  exact ⟨rfl, rfl⟩

theorem declStep_run (dn : String) (s : St) (d : Def) (p : PDecl) (d' : Def) (n' : Nat)
    (hd : Has s dn d) (hnr : NoRef s dn) (h : declStep d s.next p = some (d', n')) :
    elabItem s dn false p.item = .ok (s.put dn d' n') := by
  obtain ⟨k, c0, w0, m, rfl, rfl⟩ := declStep_eq h
  unfold PDecl.item elabItem
  simp only [Bool.false_eq_true, if_false]
  rw [portDecl_stub s dn d k p.name p.dir p.rng p.attrs (d.ports.getD k default) c0 w0 hd hnr m.rng m.idx m.nodup rfl
    m.pname m.plower m.pins (hasCable_of_find m.cnodup m.find) m.clower m.wires m.owns, upd_eq_put s dn d _ _ hd]

/-- `wire [msb:lsb] name ;` — a new net, or the net of a port declared before (only type and attributes change) -/
def wireStep (d : Def) (n : Nat) (w : FWire) : Option (Def × Nat) :=
  match d.cables.find? (fun c => c.name == w.name) with
  | none => some ({ d with cables := d.cables ++ [wireCable w n] }, n + (shapeOf w.rng).2.1)
  | some c =>
    if inCable c.lower c.wires.length (rngL w.rng) (rngR w.rng) = true ∧ (d.cables.map (·.name)).Nodup then
      some ({ d with cables := d.cables.map (fun y => if y.name == w.name then { c with ctype := some w.ty, attrs := some w.attrs } else y) }, n)
    else none

theorem wireStep_eq {d : Def} {n : Nat} {w : FWire} {d' : Def} {n' : Nat} (h : wireStep d n w = some (d', n')) :
    (d.cables.find? (fun c => c.name == w.name) = none ∧ d' = { d with cables := d.cables ++ [wireCable w n] } ∧
      n' = n + (shapeOf w.rng).2.1) ∨
    ∃ c, d.cables.find? (fun c => c.name == w.name) = some c ∧ c.name = w.name ∧
      (inCable c.lower c.wires.length (rngL w.rng) (rngR w.rng) = true ∧ (d.cables.map (·.name)).Nodup) ∧ n' = n ∧
      d' = { d with cables := d.cables.map (fun y =>
        if y.name == w.name then { c with ctype := some w.ty, attrs := some w.attrs } else y) } := by
  unfold wireStep at h
  split at h
  · rename_i hc
    cases h
    exact Or.inl ⟨hc, rfl, rfl⟩
  · rename_i c hc
    split at h <;> cases h
    rename_i hcond
    exact Or.inr ⟨c, hc, find_name hc, hcond, rfl, rfl⟩

theorem wireStep_name (d : Def) (n : Nat) (a : FWire) (d' : Def) (n' : Nat) (h : wireStep d n a = some (d', n')) :
    d'.name = d.name ∧ d'.insts = d.insts := by
  obtain ⟨_, rfl, _⟩ | ⟨_, _, _, _, _, rfl⟩ := wireStep_eq h <;> exact ⟨rfl, rfl⟩

theorem wireStep_runG (dn : String) (s : St) (d : Def) (w : FWire) (d' : Def) (n' : Nat)
    (hd : Has s dn d) (h : wireStep d s.next w = some (d', n')) :
    elabItem s dn false w.item = .ok (s.put dn d' n') ∧ d'.name = d.name ∧ d'.insts = d.insts ∧ d'.ports = d.ports := by
  obtain ⟨hc, rfl, rfl⟩ | ⟨c, hc, hcn, hcond, rfl, rfl⟩ := wireStep_eq h
  · exact ⟨by rw [wireDecl_new s dn d w hd hc, upd_eq_put s dn d _ _ hd], rfl, rfl, rfl⟩
  · refine ⟨?_, rfl, rfl, rfl⟩
    unfold FWire.item elabItem
    simp only [Bool.false_eq_true, if_false, bind, Except.bind,
      createOrUpdateCable_has s dn w.name _ _ (some w.ty) false d c _ hd hc (resizeCable_inside _ _ _ _ hcond.1)]
    unfold setCableAttrs
    rw [St.put_upd s dn (setCable w.name _ d) _ _ hd.2.1]
    congr 2
    simp only [setCable, List.map_map]
    congr 1
    apply List.map_congr_left
    intro y _
    by_cases e : y.name = w.name
    · simp [e, hcn, ids]
    · simp [e]

theorem wireStep_run (dn : String) (s : St) (d : Def) (w : FWire) (d' : Def) (n' : Nat)
    (hd : Has s dn d) (_ : NoRef s dn) (h : wireStep d s.next w = some (d', n')) :
    elabItem s dn false w.item = .ok (s.put dn d' n') :=
  (wireStep_runG dn s d w d' n' hd h).1

/-- header stubs, body port declarations, wire declarations (pure), from a given definition -/
def buildW3 (d0 : Def) (n : Nat) (ports : List PDecl) (wires : List FWire) : Option (Def × Nat) :=
  match foldLocal stubStep d0 n (ports.map (·.name)) with
  | none => none
  | some r1 =>
    if (ports.map (·.name)).filterMap (portIdx r1.1) = List.range r1.1.ports.length then
      match foldLocal declStep r1.1 r1.2 ports with
      | none => none
      | some r2 => foldLocal wireStep r2.1 r2.2 wires
    else none

theorem buildW3_inv {d0 : Def} {n : Nat} {ports : List PDecl} {wires : List FWire} {r : Def × Nat}
    (h : buildW3 d0 n ports wires = some r) :
    ∃ d1 n1 d2 n2, foldLocal stubStep d0 n (ports.map (·.name)) = some (d1, n1) ∧
      (ports.map (·.name)).filterMap (portIdx d1) = List.range d1.ports.length ∧
      foldLocal declStep d1 n1 ports = some (d2, n2) ∧ foldLocal wireStep d2 n2 wires = some r := by
  unfold buildW3 at h
  cases h1 : foldLocal stubStep d0 n (ports.map (·.name)) with
  | none => simp [h1] at h
  | some r1 =>
    simp only [h1] at h
    split at h
    · rename_i hre
      cases h2 : foldLocal declStep r1.1 r1.2 ports with
      | none => simp [h2] at h
      | some r2 => exact ⟨r1.1, r1.2, r2.1, r2.2, rfl, hre, h2, by simpa [h2] using h⟩
    · cases h

theorem buildW3_pres (P : Def → Nat → Prop)
    (hs : ∀ d n a d' n', P d n → stubStep d n a = some (d', n') → P d' n')
    (hd : ∀ d n a d' n', P d n → declStep d n a = some (d', n') → P d' n')
    (hw : ∀ d n a d' n', P d n → wireStep d n a = some (d', n') → P d' n')
    {d0 : Def} {n : Nat} {ports : List PDecl} {wires : List FWire} {d3 : Def} {n3 : Nat}
    (h0 : P d0 n) (hb : buildW3 d0 n ports wires = some (d3, n3)) : P d3 n3 := by
  obtain ⟨d1, n1, d2, n2, h1, _, h2, h3⟩ := buildW3_inv hb
  exact foldLocal_inv P wireStep hw _ _ _ _ _
    (foldLocal_inv P declStep hd _ _ _ _ _ (foldLocal_inv P stubStep hs _ _ _ _ _ h0 h1) h2) h3

/-- the three declaration phases write ports and nets only -/
theorem buildW3_meta {d0 : Def} {n : Nat} {ports : List PDecl} {wires : List FWire} {d3 : Def} {n3 : Nat}
    (hb : buildW3 d0 n ports wires = some (d3, n3)) :
    d3.name = d0.name ∧ d3.lib = d0.lib ∧ d3.params = d0.params ∧ d3.insts = d0.insts ∧ d3.attrs = d0.attrs :=
  buildW3_pres (fun d _ => d.name = d0.name ∧ d.lib = d0.lib ∧ d.params = d0.params ∧ d.insts = d0.insts ∧ d.attrs = d0.attrs)
    (fun d n a d' n' h hs => by obtain ⟨_, rfl, _⟩ := stubStep_eq hs; exact h)
    (fun d n a d' n' h hs => by obtain ⟨_, _, _, _, rfl, _⟩ := declStep_eq hs; exact h)
    (fun d n a d' n' h hs => by obtain ⟨_, rfl, _⟩ | ⟨_, _, _, _, _, rfl⟩ := wireStep_eq hs <;> exact h)
    ⟨rfl, rfl, rfl, rfl, rfl⟩ hb

/-- header, reorder, body port declarations, wire declarations: the part of `elabModule` before the instances -/
def wPhases (s3 : St) (name : String) (ports : List PDecl) (wires : List FWire) : M St := do
  let s ← (ports.map (fun (p : PDecl) => (⟨p.name, none, none, none⟩ : HPort))).foldlM (fun s h => match h.alias with
    | some e => headerAlias s name h e
    | none => headerPort s name h) s3
  let s ← reorderPorts s name ((ports.map (fun (p : PDecl) => (⟨p.name, none, none, none⟩ : HPort))).map (·.name))
  let s ← (ports.map PDecl.item).foldlM (fun s it => elabItem s name false it) s
  (wires.map FWire.item).foldlM (fun s it => elabItem s name false it) s

theorem wshape_phases (s3 : St) (name : String) (ports : List PDecl) (wires : List FWire) (d0 d3 : Def) (n3 : Nat)
    (hH3 : Has s3 name d0) (hN3 : NoRef s3 name) (hi0 : d0.insts = [])
    (hb : buildW3 d0 s3.next ports wires = some (d3, n3)) :
    wPhases s3 name ports wires = .ok (s3.put name d3 n3) ∧
    d3.name = d0.name ∧ d3.insts = [] := by
  obtain ⟨d1, n1, d2, n2, h1, hre, h2, h3⟩ := buildW3_inv hb
  obtain ⟨hF1, hd1⟩ := fold_local_put name (fun s nm => headerPort s name ⟨nm, none, none, none⟩) stubStep
    (stubStep_run name) stubStep_name s3 d0 hH3 hN3 _ d0 _ d1 n1 ⟨rfl, rfl⟩ h1
  obtain ⟨hF2, hd2⟩ := fold_local_put name (fun s p => elabItem s name false p.item) declStep
    (declStep_run name) declStep_name s3 d0 hH3 hN3 _ d1 n1 d2 n2 hd1 h2
  obtain ⟨hF3, hd3⟩ := fold_local_put name (fun s w => elabItem s name false w.item) wireStep
    (wireStep_run name) wireStep_name s3 d0 hH3 hN3 _ d2 n2 d3 n3 hd2 h3
  refine ⟨?_, hd3.1, hd3.2.trans hi0⟩
  rw [St.put_self s3 name d0 hH3, List.foldlM_map] at hF1
  unfold wPhases
  simp only [List.foldlM_map, List.map_map, Function.comp_def, bind, Except.bind, hF1,
    reorderPorts_id _ name d1 _ (hH3.put d1 n1 hd1.1) hre, hF2, hF3]

theorem elabTailG_wPhases (s3 : St) (name : String) (attrs : Attrs) (params : Params) (ports : List PDecl)
    (wires : List FWire) (rest : List Item) :
    elabTailG s3 ⟨name, false, attrs, params, ports.map (fun p => ⟨p.name, none, none, none⟩),
        ports.map PDecl.item ++ wires.map FWire.item ++ rest⟩ = (do
      let s ← wPhases s3 name ports wires
      let s ← rest.foldlM (fun s it => elabItem s name false it) s
      pure (if attrs.isEmpty then s else s.upd name (fun d => { d with attrs := some attrs }))) := by
  unfold elabTailG wPhases
  simp only [List.foldlM_append, bind_assoc]
  rfl

/-- a module as the writer prints it (without instances): bare names in the header, then one body
    declaration per port, then the `wire` declarations of all nets -/
structure WMod where
  name : String
  attrs : Attrs
  ports : List PDecl
  wires : List FWire

def WMod.toModule (m : WMod) : Module :=
  ⟨m.name, false, m.attrs, [], m.ports.map (fun p => ⟨p.name, none, none, none⟩),
   m.ports.map PDecl.item ++ m.wires.map FWire.item⟩

def buildW (n : Nat) (m : WMod) : Option (Def × Nat) :=
  match foldLocal stubStep ⟨m.name, some "work", false, [], none, [], [], []⟩ n (m.ports.map (·.name)) with
  | none => none
  | some r1 =>
    if (m.ports.map (·.name)).filterMap (portIdx r1.1) = List.range r1.1.ports.length then
      match foldLocal declStep r1.1 r1.2 m.ports with
      | none => none
      | some r2 =>
        match foldLocal wireStep r2.1 r2.2 m.wires with
        | none => none
        | some r3 => some (if m.attrs.isEmpty then r3.1 else { r3.1 with attrs := some m.attrs }, r3.2)
    else none

theorem buildW_eq (n : Nat) (m : WMod) :
    buildW n m = (buildW3 ⟨m.name, some "work", false, [], none, [], [], []⟩ n m.ports m.wires).map
      (fun r => (if m.attrs.isEmpty then r.1 else { r.1 with attrs := some m.attrs }, r.2)) := by
  unfold buildW buildW3
  cases foldLocal stubStep _ n (m.ports.map (·.name)) with
  | none => rfl
  | some r1 =>
    simp only
    split
    · cases foldLocal declStep r1.1 r1.2 m.ports with
      | none => rfl
      | some r2 =>
        simp only
        cases foldLocal wireStep r2.1 r2.2 m.wires <;> rfl
    · rfl

theorem buildW_eq3 (n : Nat) (name : String) (ports : List PDecl) (wires : List FWire) :
    buildW n ⟨name, [], ports, wires⟩ = buildW3 ⟨name, some "work", false, [], none, [], [], []⟩ n ports wires := by
  rw [buildW_eq]
  cases buildW3 _ n ports wires <;> rfl

theorem elabModule_wshape (s : St) (m : WMod) (D : Def) (n' : Nat)
    (hfresh : s.find m.name = none) (hnr : NoRef s m.name) (hb : buildW s.next m = some (D, n')) :
    ∃ s', elabModule s m.toModule = .ok s' ∧ s'.defs = s.defs ++ [D] ∧ s'.next = n' ∧ s'.pending = s.pending := by
  have hbase := find_none_names s m.name hfresh
  obtain ⟨hdefs3, hnext3, hpend3⟩ := afterEntry_defs s m.name false hbase
  generalize hs3 : afterEntry s m.name false = s3 at hdefs3 hnext3 hpend3
  have hdefs3' : s3.defs = s.defs ++ [⟨m.name, some "work", false, [], none, [], [], []⟩] := hdefs3
  rw [buildW_eq, ← hnext3] at hb
  obtain ⟨⟨d3, n3⟩, h3, hr⟩ := Option.map_eq_some_iff.mp hb
  cases hr
  obtain ⟨hP, hn3, _⟩ := wshape_phases s3 m.name m.ports m.wires _ d3 n3 (Has_last s3 s.defs _ hdefs3' hbase)
    (NoRef_base s3 s.defs _ hdefs3' m.name hnr rfl) rfl h3
  refine ⟨s3.put m.name (if m.attrs.isEmpty then d3 else { d3 with attrs := some m.attrs }) n3, ?_,
    defs_upd_last s3 s.defs _ _ hdefs3' hbase, rfl, hpend3⟩
  rw [elabModule_eq_tailG s m.toModule hfresh rfl]
  show elabTailG (afterEntry s m.name false) ⟨m.name, false, m.attrs, [], _, _⟩ = _
  rw [hs3, ← List.append_nil (_ ++ _), elabTailG_wPhases, hP]
  simp only [bind, Except.bind, List.foldlM_nil, pure, Except.pure]
  split
  · rfl
  · rw [St.put_upd s3 m.name d3 n3 _ hn3]

/-- non-vacuity: `module top (a, b, y); input [3:0] a; input b; (* keep *) output [1:0] y;
    wire [2:0] n; wire [1:0] y; wire b; wire [3:0] a; endmodule` -/
def exW : WMod :=
  ⟨"top", [("top_attr", some "1")],
   [⟨"a", .inp, some (3, 0), []⟩, ⟨"b", .inp, none, []⟩, ⟨"y", .out, some (1, 0), [("keep", none)]⟩],
   [⟨"n", "wire", some (2, 0), []⟩, ⟨"y", "wire", some (1, 0), []⟩, ⟨"b", "wire", none, []⟩, ⟨"a", "wire", some (3, 0), []⟩]⟩

theorem exW_builds : (buildW 0 exW).isSome = true := by decide
end Spydr.Verilog.Elab
