/-
  Verilog engine — helper lemmas for the writer's expression choice: what the reader makes of each
  bracket form, the invariant of the `_write_concatenation` loop, `_is_pinset_concatenated` on a
  reader-shaped pin vector.
-/
import Spydr.Verilog.Lemmas

namespace Spydr.Verilog

theorem runBits_length (c : String) (hi lo : Int) : (runBits c hi lo).length = (hi - lo + 1).toNat := by
  simp [runBits]

theorem runBits_getElem? (c : String) (hi lo : Int) (k : Nat) (h : k < (hi - lo + 1).toNat) :
    (runBits c hi lo)[k]? = some ⟨c, hi - k⟩ := by
  unfold runBits
  rw [List.getElem?_map, List.getElem?_range h]
  rfl

theorem eq_runBits {c : String} {hi lo : Int} {ws : List Bit} (hlen : ws.length = (hi - lo + 1).toNat)
    (h : ∀ k, k < ws.length → ws[k]? = some ⟨c, hi - k⟩) : ws = runBits c hi lo := by
  apply List.ext_getElem?
  intro k
  by_cases hk : k < ws.length
  · rw [h k hk, runBits_getElem? _ _ _ _ (hlen ▸ hk)]
  · rw [List.getElem?_eq_none (by omega), List.getElem?_eq_none (by rw [runBits_length]; omega)]

theorem runBits_single (c : String) (i : Int) : runBits c i i = [⟨c, i⟩] := by
  simp [runBits]

theorem runBits_snoc (c : String) (hi lo : Int) (h : lo ≤ hi) :
    runBits c hi (lo - 1) = runBits c hi lo ++ [⟨c, lo - 1⟩] := by
  unfold runBits
  rw [show (hi - (lo - 1) + 1).toNat = (hi - lo + 1).toNat + 1 by omega, List.range_succ, List.map_append]
  congr 1
  show [(⟨c, hi - ((hi - lo + 1).toNat : Int)⟩ : Bit)] = _
  congr 2
  omega

/-- the bits `c[i0], c[i0+1], …` in port order -/
def ascBits (c : String) (i0 : Int) (n : Nat) : List Bit :=
  (List.range n).map (fun (k : Nat) => (⟨c, i0 + (k : Int)⟩ : Bit))

theorem ascBits_length (c : String) (i0 : Int) (n : Nat) : (ascBits c i0 n).length = n := by
  simp [ascBits]

theorem ascBits_succ (c : String) (i0 : Int) (n : Nat) :
    ascBits c i0 (n + 1) = ⟨c, i0⟩ :: ascBits c (i0 + 1) n := by
  unfold ascBits
  rw [List.range_succ_eq_map, List.map_cons, List.map_map]
  congr 1
  · simp
  · exact List.map_congr_left fun k _ => by simp only [Function.comp]; congr 1; omega

theorem ascBits_getLast (c : String) (i0 : Int) (n : Nat) :
    (ascBits c i0 (n + 1)).getLast? = some ⟨c, i0 + n⟩ := by
  unfold ascBits
  rw [List.range_succ, List.map_append]
  simp

theorem ascBits_reverse (c : String) (i0 : Int) (n : Nat) :
    (ascBits c i0 (n + 1)).reverse = runBits c (i0 + n) i0 := by
  refine eq_runBits (by rw [List.length_reverse, ascBits_length]; omega) fun k hk => ?_
  rw [List.length_reverse, ascBits_length] at hk
  rw [List.getElem?_reverse (by rwa [ascBits_length]), ascBits_length, ascBits, List.getElem?_map,
    List.getElem?_range (by omega)]
  simp only [Option.map_some]
  congr 2
  omega

theorem cableBits_at (c : String) (lower : Int) (width : Nat) (i : Int)
    (h0 : lower ≤ i) (h1 : i < lower + width) :
    (cableBits c lower width).at? i = some ⟨c, i⟩ := by
  rw [Bundle.at?_of_le _ h0]
  show ((List.range width).map _)[(i - lower).toNat]? = _
  rw [List.getElem?_map, List.getElem?_range (by omega)]
  simp only [Option.map_some]
  congr 2
  omega

theorem cableBits_length (c : String) (lower : Int) (width : Nat) :
    (cableBits c lower width).items.length = width := by
  simp [cableBits]

theorem evalAtom_inCable (env : CableEnv) (a : Atom) (lower : Int) (width : Nat)
    (he : env a.name = some (lower, width)) (hin : inCable lower width a.range.1 a.range.2 = true) :
    evalAtom env a = getWires (cableBits a.name lower width) a.range.1 a.range.2 := by
  unfold evalAtom
  simp only [he, hin, if_true]

theorem evalAtom_part (env : CableEnv) (c : String) (lower : Int) (width : Nat) (hi lo : Int)
    (he : env c = some (lower, width)) (h0 : lower ≤ lo) (h1 : lo ≤ hi) (h2 : hi < lower + width) :
    evalAtom env (.part c hi lo) = some (runBits c hi lo) := by
  obtain ⟨ws, hw, hlen, hk⟩ := getWires_range (cableBits c lower width) hi lo
    (by rw [Int.min_eq_right h1]; exact h0) (by rw [Int.max_eq_left h1, cableBits_length]; exact h2)
  rw [Int.max_eq_left h1, Int.min_eq_right h1] at hlen
  rw [Int.max_eq_left h1] at hk
  rw [evalAtom_inCable env (.part c hi lo) lower width he (by simp [inCable, inRange, Atom.range]; omega)]
  exact hw.trans (congrArg some (eq_runBits hlen fun k hk' => by
    rw [hk k hk', cableBits_at _ _ _ _ (by omega) (by omega)]))

theorem evalAtom_bit (env : CableEnv) (c : String) (lower : Int) (width : Nat) (i : Int)
    (he : env c = some (lower, width)) (h0 : lower ≤ i) (h2 : i < lower + width) :
    evalAtom env (.bit c i) = some (runBits c i i) := by
  rw [evalAtom_inCable env (.bit c i) lower width he (by simp [inCable, inRange, Atom.range]; omega)]
  exact (getWires_single (cableBits c lower width) i h0).1.trans (by
    rw [cableBits_at _ _ _ _ h0 h2, runBits_single]; rfl)

theorem evalAtom_id (env : CableEnv) (c : String) (lower : Int) (width : Nat)
    (he : env c = some (lower, width)) :
    evalAtom env (.id c) = some (runBits c (lower + width - 1) lower) := by
  obtain ⟨ws, hw, hlen, hk⟩ := getWires_all (cableBits c lower width)
  rw [cableBits_length] at hlen hk
  change ∀ k : Nat, _ → _ = Bundle.at? _ (lower + width - 1 - k) at hk
  rw [evalAtom_inCable env (.id c) lower width he rfl]
  exact hw.trans (congrArg some (eq_runBits (by omega) fun k hk' => by
    rw [hk k hk']; exact cableBits_at _ _ _ _ (by omega) (by omega)))

/-- whatever bracket form `_write_brackets` chooses, the reader evaluates it to `c[hi..lo]` -/
theorem emitRange_eval (env : CableEnv) (c : String) (lower : Int) (width : Nat) (lo hi : Int)
    (he : env c = some (lower, width)) (h0 : lower ≤ lo) (h1 : lo ≤ hi) (h2 : hi < lower + width) :
    ∃ a, emitRange env c lo hi = some a ∧ evalAtom env a = some (runBits c hi lo) := by
  have hpart := evalAtom_part env c lower width hi lo he h0 h1 h2
  unfold emitRange
  simp only [he]
  rw [if_neg (by omega)]
  by_cases hw1 : width = 1
  · subst hw1
    obtain rfl : lo = lower := by omega
    obtain rfl : hi = lo := by omega
    exact ⟨.id c, by simp, by rw [evalAtom_id env c hi 1 he]; simp⟩
  · rw [if_neg hw1]
    by_cases hfull : lo = lower ∧ hi = lower + (width : Int) - 1
    · rw [if_pos hfull]
      exact ⟨_, rfl, hpart⟩
    · rw [if_neg hfull]
      by_cases heq : lo = hi
      · subst heq
        rw [if_pos rfl, if_pos (by omega)]
        exact ⟨_, rfl, evalAtom_bit env c lower width lo he h0 h2⟩
      · rw [if_neg heq, if_pos (by omega)]
        exact ⟨_, rfl, hpart⟩

theorem evalConcat_cons (env : CableEnv) (a : Atom) (bs : List Atom) (y z : List Bit)
    (h1 : evalAtom env a = some y) (h2 : evalConcat env bs = some z) :
    evalConcat env (a :: bs) = some (y ++ z) := by
  simp [evalConcat, h1, h2]

theorem evalConcat_app (env : CableEnv) (as bs : List Atom) (x z : List Bit)
    (h1 : evalConcat env as = some x) (h2 : evalConcat env bs = some z) :
    evalConcat env (as ++ bs) = some (x ++ z) := by
  induction as generalizing x with
  | nil => cases h1; exact h2
  | cons b as ih =>
    unfold evalConcat at h1
    split at h1
    · next xb xs hb hbs =>
      cases h1
      rw [List.cons_append, evalConcat_cons env b _ xb _ hb (ih xs hbs), List.append_assoc]
    · cases h1

/-- invariant of the `_write_concatenation` loop after the bits `P` (MSB first) have been processed -/
def CatInv (env : CableEnv) (s : CatSt) (P : List Bit) : Prop :=
  s.ok = true ∧ ∃ done, evalConcat env s.out = some done ∧
    ((s.has = false ∧ s.prev = none ∧ P = done) ∨
     (s.has = true ∧ ∃ c lower width, s.prev = some c ∧ env c = some (lower, width) ∧ lower ≤ s.prevIdx ∧
        s.prevIdx ≤ s.firstIdx ∧ s.firstIdx < lower + (width : Int) ∧
        P = done ++ runBits c s.firstIdx s.prevIdx))

/-- once the pending run (if any) is written, the atoms written evaluate to all of `P` -/
theorem CatInv.flush {env : CableEnv} {s : CatSt} {P : List Bit} (h : CatInv env s P) :
    (if s.has then s.flush env else s).ok = true ∧
    evalConcat env (if s.has then s.flush env else s).out = some P := by
  obtain ⟨hok, done, hd, ⟨hf, _, hP⟩ | ⟨hh, c, lower, width, hp, he, h0, h1, h2, hP⟩⟩ := h
  · rw [hf, hP]
    exact ⟨hok, hd⟩
  · obtain ⟨a, ha, hev⟩ := emitRange_eval env c lower width s.prevIdx s.firstIdx he h0 h1 h2
    have hf : s.flush env = { s with out := s.out ++ [a] } := by
      unfold CatSt.flush; simp only [hp, ha]
    rw [hh, if_pos rfl, hf, hP]
    exact ⟨hok, evalConcat_app env s.out [a] done _ hd (by simp [evalConcat, hev])⟩

theorem CatInv.step {env : CableEnv} {s : CatSt} {P : List Bit} (h : CatInv env s P) (b : Bit)
    (hb : ValidBit env b) : CatInv env (catStep env s (some b)) (P ++ [b]) := by
  obtain ⟨lower, width, he, hb0, hb1⟩ := hb
  -- whenever `b` does not continue the pending run, that run is written and `[b]` becomes the pending one
  have hnew : CatInv env { (if s.has then s.flush env else s) with
      prev := some b.cable, firstIdx := b.idx, prevIdx := b.idx, has := true } (P ++ [b]) :=
    ⟨h.flush.1, P, h.flush.2, .inr ⟨rfl, b.cable, lower, width, rfl, he, hb0, Int.le_refl _, hb1, by
      rw [runBits_single]⟩⟩
  unfold catStep
  simp only
  split
  · next hc =>
    obtain ⟨hok, done, hd, ⟨_, hp, _⟩ | ⟨hh, c, lower', width', hp, he', h0, h1, h2, hP⟩⟩ := h
    · rw [hp] at hc; cases hc
    · rw [hh, if_pos rfl] at hnew
      obtain rfl : b.cable = c := Option.some.inj (hc.trans hp)
      cases he.symm.trans he'
      split
      · next hi =>
        have hrun := runBits_snoc b.cable s.firstIdx s.prevIdx h1
        rw [← hi] at hrun
        exact ⟨hok, done, hd, .inr ⟨rfl, b.cable, lower, width, hp, he, hb0, by simp only; omega, h2, by
          simp only; rw [hrun, hP, List.append_assoc]⟩⟩
      · exact hnew
  · exact hnew

theorem CatInv.fold {env : CableEnv} (ws : List (Option Bit)) : ∀ {s : CatSt} {P : List Bit}, CatInv env s P →
    (∀ b, some b ∈ ws → ValidBit env b) →
    CatInv env (ws.foldl (catStep env) s) (P ++ ws.filterMap id) := by
  induction ws with
  | nil => intro s P h _; simpa using h
  | cons w ws ih =>
    intro s P h hv
    have hv' := fun b hb => hv b (List.mem_cons_of_mem _ hb)
    cases w with
    | none => simpa [catStep] using ih h hv'
    | some b => simpa using ih (h.step b (hv b List.mem_cons_self)) hv'

/-- `_write_concatenation` followed by the reader's `parse_cable_concatenation` returns exactly the
    connected bits, in order, for any sequence of bits of declared cables (runs are merged, `None`s skipped) -/
theorem emitConcat_eval (env : CableEnv) (ws : List (Option Bit))
    (hv : ∀ b, some b ∈ ws → ValidBit env b) :
    ∃ as, emitConcat env ws = some as ∧ evalConcat env as = some (ws.filterMap id) := by
  have h0 : CatInv env ⟨[], none, 0, 0, false, true⟩ [] := ⟨rfl, [], rfl, .inl ⟨rfl, rfl, rfl⟩⟩
  have h := (CatInv.fold ws h0 hv).flush
  rw [List.nil_append] at h
  unfold emitConcat
  simp only [h.1, if_true]
  exact ⟨_, rfl, h.2⟩

theorem filterMap_block {β : Type} (blk : List β) (m : Nat) :
    (blk.map some ++ List.replicate m none).filterMap id = blk := by
  simp [List.filterMap_append, List.filterMap_map]

theorem lastSome_eq {β : Type} (xs : List (Option β)) : lastSome xs = (xs.filterMap id).getLast? := by
  induction xs with
  | nil => rfl
  | cons x xs ih =>
    cases x <;> simp only [lastSome, ih, List.filterMap_cons, id, List.getLast?_cons] <;>
      cases (xs.filterMap id).getLast? <;> rfl

/-- over unconnected pins the scan changes nothing: it returns the flag it came with -/
theorem isConcatGo_none (name : Option String) : ∀ (pins : List (Option Bit)) (a nn : Bool) (last : Option Int),
    pins.all (fun x => x.isNone) = true → isConcatGo pins name a nn last = a
  | [], _, _, _, _ => rfl
  | none :: ps, a, _, last, h => by
    simp only [isConcatGo]; exact isConcatGo_none name ps a true last (by simpa using h)
  | some _ :: _, _, _, _, h => by simp at h

theorem isConcatGo_run (c : String) (m : Nat) (blk : List Bit) : ∀ li : Int,
    isConcatGo (blk.map some ++ List.replicate m none) (some c) false false (some li) = false ↔
      blk = ascBits c (li + 1) blk.length := by
  induction blk with
  | nil => intro li; simp [isConcatGo_none, ascBits]
  | cons b blk ih =>
    intro li
    rw [List.length_cons, ascBits_succ, List.cons.injEq, ← ih]
    obtain ⟨bc, bi⟩ := b
    simp only [List.map_cons, List.cons_append, isConcatGo, Bit.mk.injEq]
    by_cases hi : bi = li + 1 <;> by_cases hc : bc = c <;> simp [hi, hc]

/-- "not concatenated" on a reader-shaped vector: the block sits on the cable `c` at consecutive
    ascending indices -/
theorem isConcatenated_run (c : String) (m : Nat) (b0 : Bit) (rest : List Bit) :
    isConcatenated ((b0 :: rest).map some ++ List.replicate m none) (some c) = false ↔
      b0 :: rest = ascBits c b0.idx (rest.length + 1) := by
  rw [ascBits_succ, List.cons.injEq, ← isConcatGo_run c m]
  obtain ⟨bc, bi⟩ := b0
  by_cases hc : bc = c <;> simp [isConcatenated, isConcatGo, hc]

/-- core of `emit_eval`: the expression `_write_instance_port` chooses for a reader-shaped pin
    vector evaluates (in the reader) to the connected block, MSB first -/
theorem emitPortExpr_eval (env : CableEnv) (blk : List Bit) (m : Nat)
    (hne : blk.map some ++ List.replicate m none ≠ []) (hv : ∀ b ∈ blk, ValidBit env b) :
    ∃ e, emitPortExpr env (blk.map some ++ List.replicate m none) = some e ∧
      evalExpr env e = some blk.reverse := by
  cases blk with
  | nil =>
    cases m with
    | zero => exact absurd rfl hne
    | succ m =>
      exact ⟨.empty, by simp [List.replicate_succ, emitPortExpr, isConcatenated, isConcatGo, isConcatGo_none], rfl⟩
  | cons b0 rest =>
    simp only [List.map_cons, List.cons_append, emitPortExpr, Option.map_some]
    rw [← List.cons_append, ← List.map_cons]
    split
    · obtain ⟨as, h1, h2⟩ := emitConcat_eval env ((b0 :: rest).map some ++ List.replicate m none).reverse
        (fun b hb => hv b (by simpa using List.mem_reverse.mp hb))
      exact ⟨.concat as, by rw [h1]; rfl, by rw [evalExpr, h2, List.filterMap_reverse, filterMap_block]⟩
    · next hc =>
      have hasc := (isConcatenated_run b0.cable m b0 rest).mp (by simpa using hc)
      have hlast : (b0 :: rest).getLast? = some ⟨b0.cable, b0.idx + rest.length⟩ := by
        rw [hasc, ascBits_getLast]
      -- first and last bit of the block lie in the cable, hence the whole range does
      obtain ⟨lower, width, he, hb0, _⟩ := hv b0 List.mem_cons_self
      obtain ⟨lower', width', he', _, hb1⟩ := hv _ (List.mem_of_getLast? hlast)
      cases he.symm.trans he'
      obtain ⟨a, ha, hev⟩ := emitRange_eval env b0.cable lower width b0.idx (b0.idx + rest.length) he hb0
        (by omega) hb1
      rw [lastSome_eq, filterMap_block, hlast]
      exact ⟨.atom a, by simp only [ha]; rfl, by rw [evalExpr, hev, hasc, ascBits_reverse]⟩

/-- one side of an assign whose pins sit on `c[lo..lo+w]` in port order is written as that range -/
theorem emitAssignSide_eval (env : CableEnv) (c : String) (lo : Int) (w : Nat) (lc : Int) (wc : Nat)
    (hc : env c = some (lc, wc)) (h0 : lc ≤ lo) (h1 : lo + w < lc + wc) :
    ∃ a, emitAssignSide env ((ascBits c lo (w + 1)).map some) = some a ∧
      evalAtom env a = some (ascBits c lo (w + 1)).reverse := by
  obtain ⟨a, ha, hev⟩ := emitRange_eval env c lc wc lo (lo + w) hc h0 (by omega) (by omega)
  refine ⟨a, ?_, by rw [hev, ascBits_reverse]⟩
  have hcat : isConcatenated ((ascBits c lo (w + 1)).map some) (some c) = false := by
    rw [ascBits_succ]
    simpa using (isConcatenated_run c 0 ⟨c, lo⟩ (ascBits c (lo + 1) w)).mpr (by
      rw [ascBits_length, ascBits_succ])
  have hlast : ((ascBits c lo (w + 1)).map some).getLast? = some (some ⟨c, lo + w⟩) := by
    rw [List.getLast?_map, ascBits_getLast]; rfl
  unfold emitAssignSide
  rw [ascBits_succ] at hcat hlast ⊢
  simp only [List.map_cons] at hcat hlast ⊢
  rw [hcat, hlast]
  simpa using ha

end Spydr.Verilog
