/-
  C06 — the Verilog reader builds exactly the design the source describes.
  ONLY property theorems and their non-vacuity examples.  Bit-level theorems hold for all inputs
  (no bound on widths, indices, base indices, number of atoms).  `connect_low_aligned` and `connect_low_aligned_fresh`
  are also used as lemmas by the module-level chain (RoundTripInst, RoundTripFirst), which therefore imports this file;
  the module-level C06 theorems (`elabDesign_frag`, `reader_structWF`, `reader_wiresWF`, …) live in that chain.
-/
import Spydr.Verilog.Lemmas
import Spydr.Verilog.LemmasEmit
import Spydr.Verilog.LemmasElab

namespace Spydr.Verilog

/-- **getWires_spec.**  For any base index and either argument order, `get_wires_from_cable c l r`
    is the MSB-first list of the bits `max l r, …, min l r` of the cable. -/
theorem getWires_spec {α : Type} (c : Bundle α) (l r : Int)
    (hlo : c.lower ≤ min l r) (hhi : max l r < c.lower + c.items.length) :
    (∃ ws, getWires c (some l) (some r) = some ws ∧
      ws.length = (max l r - min l r + 1).toNat ∧
      ∀ k : Nat, k < ws.length → ws[k]? = c.at? (max l r - k)) ∧
    getWires c (some l) (some r) = getWires c (some r) (some l) :=
  ⟨getWires_range c l r hlo hhi, getWires_comm c l r⟩

/-- bit-select `c[i]` and the bare name `c` -/
theorem getWires_spec_single_all {α : Type} (c : Bundle α) (i : Int) (hlo : c.lower ≤ i) :
    getWires c (some i) none = (c.at? i).map (fun w => [w]) ∧
    (∃ ws, getWires c none none = some ws ∧ ws.length = c.items.length ∧
      ∀ k : Nat, k < ws.length → ws[k]? = c.at? (c.lower + c.items.length - 1 - k)) :=
  ⟨(getWires_single c i hlo).1, getWires_all c⟩

example : getWires (⟨4, ["w4", "w5", "w6", "w7"]⟩ : Bundle String) (some 5) (some 7) = some ["w7", "w6", "w5"] := by
  rfl
example : getWires (⟨4, ["w4", "w5", "w6", "w7"]⟩ : Bundle String) (some 7) (some 5) = some ["w7", "w6", "w5"] := by
  rfl

/-- **concat_spec.**  `{…, a, …}`: the value is the concatenation of the values of the atoms, and
    bit `j` of atom `a` (from its least significant end) is bit `j + (total width of the atoms to the
    right of a)` of the concatenation (from its least significant end). -/
theorem concat_spec (env : CableEnv) (as bs : List Atom) (a : Atom) (x y z : List Bit)
    (hx : evalConcat env as = some x) (hy : evalAtom env a = some y) (hz : evalConcat env bs = some z) :
    evalConcat env (as ++ a :: bs) = some (x ++ y ++ z) ∧
    ∀ j : Nat, j < y.length → (x ++ y ++ z).reverse[j + z.length]? = y.reverse[j]? := by
  refine ⟨?_, ?_⟩
  · rw [evalConcat_app env as (a :: bs) x (y ++ z) hx (evalConcat_cons env a bs y z hy hz), List.append_assoc]
  · intro j hj
    rw [List.reverse_append, List.reverse_append,
      List.getElem?_append_right (by simp), List.length_reverse, Nat.add_sub_cancel,
      List.getElem?_append_left (by simpa using hj)]

/-- **connect_low_aligned.**  Bit `k` of the expression, counted from its least significant end,
    meets pin `k` of the port; pins above the expression width stay unconnected.  Named and positional
    port maps both run this function.  (General form: any pin vector whose low `n` pins are free.) -/
theorem connect_low_aligned {β : Type} (pins : PinVec β) (ws : List β)
    (hw : ws.length ≤ pins.length) (hfree : ∀ k, k < ws.length → pins[k]? = some none) :
    connectLowAligned pins ws = some (ws.reverse.map some ++ pins.drop ws.length) := by
  unfold connectLowAligned
  rw [if_pos hw]
  -- the pins in use, `(range |pins|).reverse.drop (|pins| - |ws|)`, are `|ws| - 1, …, 0`
  simp only [List.drop_reverse, List.length_range, List.take_range]
  rw [show min (pins.length - (pins.length - ws.length)) pins.length = ws.length by omega]
  exact foldlM_setPin_free ws pins hw hfree

theorem connect_low_aligned_fresh {β : Type} (W : Nat) (ws : List β) (hw : ws.length ≤ W) :
    connectLowAligned (List.replicate W none) ws = some (lowAligned W ws) := by
  rw [connect_low_aligned _ ws (by simpa using hw) (fun k hk => by
    rw [List.getElem?_replicate, if_pos (by omega)])]
  simp [lowAligned]

theorem lowAligned_bit {β : Type} (W : Nat) (ws : List β) (k : Nat) :
    (k < ws.length → (lowAligned W ws)[k]? = (ws[ws.length - 1 - k]?).map some) ∧
    (ws.length ≤ k → k < W → (lowAligned W ws)[k]? = some none) := by
  unfold lowAligned
  refine ⟨fun hk => ?_, fun h1 h2 => ?_⟩
  · rw [List.getElem?_append_left (by simpa using hk), List.getElem?_map, List.getElem?_reverse hk]
  · rw [List.getElem?_append_right (by simpa using h1), List.getElem?_replicate, if_pos (by simp; omega)]

/-- wider than the port: refused, nothing is connected (the reader asserts) -/
theorem connect_too_wide {β : Type} (pins : PinVec β) (ws : List β) (h : pins.length < ws.length) :
    connectLowAligned pins ws = none := by
  unfold connectLowAligned
  rw [if_neg (by omega)]

example : connectLowAligned [none, none, none, none] ["m", "l"] = some [some "l", some "m", none, none] := by rfl

/-- **resize_stable.**  `create_or_update_cable` (`prepend_wires`, `postpend_wires`, re-basing on a
    defining declaration): the wire that was at absolute index `i` is afterwards at index
    `i - old base + new base'` where `base' = requested low end` if the call is defining and the old base
    otherwise — in particular it *keeps its absolute index* whenever the call is not defining or defines the
    base the cable already has (the case of ports based at 0), so connections made earlier are untouched
    by later growth; and the requested range is inside the cable afterwards. -/
theorem resize_stable {α : Type} (b : Bundle α) (l r : Option Int) (defining : Bool) (pre post : List α)
    (hpre : pre.length = (resizeCable b.lower b.items.length l r defining).pre)
    (hpost : post.length = (resizeCable b.lower b.items.length l r defining).post) :
    let rz := resizeCable b.lower b.items.length l r defining
    let base' := match inRange l r with
      | some (lo, _) => if defining then lo else b.lower
      | none => b.lower
    (∀ i x, b.at? i = some x → (b.resized rz pre post).at? (i - b.lower + base') = some x) ∧
    (∀ lo hi, inRange l r = some (lo, hi) → ∀ i, lo ≤ i → i ≤ hi → ((b.resized rz pre post).at? i).isSome) := by
  intro rz base'
  have hrz : rz.lower = base' - (pre.length : Int) :=
    hpre ▸ (resize_lower b.lower b.items.length l r defining).1
  refine ⟨fun i x => Bundle.at?_resized b rz pre post base' i hrz x, ?_⟩
  intro lo hi hin i h1 h2
  have hlohi := inRange_le hin
  have hb' : base' = if defining then lo else b.lower := by simp only [base', hin]
  rw [Bundle.at?_isSome]
  show rz.lower ≤ i ∧ i < rz.lower + ((pre ++ b.items ++ post).length : Int)
  rw [hrz, List.length_append, List.length_append, hpre, hpost]
  simp only [resizeCable, hin, ← hb', gt_iff_lt, ite_toNat]
  omega

/-- the special case the property speaks about: absolute indices are kept -/
theorem resize_keeps_index {α : Type} (b : Bundle α) (l r : Option Int) (defining : Bool) (pre post : List α)
    (hpre : pre.length = (resizeCable b.lower b.items.length l r defining).pre)
    (hpost : post.length = (resizeCable b.lower b.items.length l r defining).post)
    (hkeep : defining = false ∨ ∃ hi, inRange l r = some (b.lower, hi)) :
    ∀ i x, b.at? i = some x →
      (b.resized (resizeCable b.lower b.items.length l r defining) pre post).at? i = some x := by
  intro i x h
  have := (resize_stable b l r defining pre post hpre hpost).1 i x h
  change Bundle.at? _ (i - b.lower + resizeBase b.lower l r defining) = _ at this
  rwa [resizeBase_keep hkeep, Int.sub_add_cancel] at this

/-- ports: `create_or_update_port` differs from the cable version only by doing nothing when the
    requested width equals the present width.  Stated for ports is the index-keeping half only: on a call
    that is not defining, the pin at absolute index `i` stays at index `i` (no re-basing clause, no clause about
    the requested range) -/
theorem resize_port_stable {α : Type} (b : Bundle α) (l r : Option Int) (pre post : List α)
    (hpre : pre.length = (resizePort b.lower b.items.length l r false).pre) :
    ∀ i x, b.at? i = some x →
      (b.resized (resizePort b.lower b.items.length l r false) pre post).at? i = some x :=
  fun i x h => Int.sub_add_cancel i b.lower ▸ Bundle.at?_resized b _ pre post b.lower i
    (by rw [hpre, (resize_lower ..).2, resizeBase_keep (.inl rfl)]) x h

/-
  **verilog_reader_spec** (full statement, NOT proved):
    ∀ design a in the supported subset, view (elabV a) = denoteV a
  where elabV is the whole-design elaboration (black-box holder, forward references with late port
  growth, header/body declarations, deferred positional maps, assigns, top election) — modelled as
  `ModelElab.elabDesign` — and denoteV a denotation of the source that does not run the reader (not defined
  in Lean).
  Proved for all inputs: the per-instance statement below, the connection step inside `elabDesign`
  (`elab_connection_spec`), and that whatever the reader accepts is well-formed (`reader_structWF`,
  `reader_wiresWF`).  For the designs of a decidable fragment `elabDesign` equals a closed-form table
  (`elabDesign_frag` in `RoundTripDesign.lean`).  Not proved in general: the multi-module assembly (order-dependent
  growth of ports across modules, black-box holder, top election).  The end-to-end statement is evaluated on
  the implementation for every generated design (harness: verilog_view.check_c06).
-/

/-- **verilog_reader_spec_partial** (instance-connection level, all inputs): whenever the expression
    has a value `ws` in the module's declared cables and is not wider than the port, the pins the reader
    builds are the denotation `lowAligned W ws`: bit `k` of the expression from its least significant end on
    pin `k`, nothing above; and all connections of an instance (each on its own port) are treated so. -/
theorem verilog_reader_spec_partial (env : CableEnv) (conns : List (Nat × PExpr))
    (h : ∀ c ∈ conns, ∃ ws, evalExpr env c.2 = some ws ∧ ws.length ≤ c.1) :
    conns.mapM (fun c => readConn env c.1 c.2) =
      some (conns.map (fun c => lowAligned c.1 ((evalExpr env c.2).getD []))) :=
  mapM_eq_some_map conns fun c hc => by
    obtain ⟨ws, h1, h2⟩ := h c hc
    simp only [readConn, h1, connect_low_aligned_fresh c.1 ws h2, Option.getD_some]

example : readConn (fun n => if n = "a" then some (4, 4) else none) 3 (.atom (.part "a" 6 5))
    = some [some ⟨"a", 5⟩, some ⟨"a", 6⟩, none] := by rfl

example : resizeCable 0 1 (some 3) (some 0) true = ⟨0, 0, 3⟩ := by decide
example : resizeCable 4 2 (some 7) (some 2) false = ⟨2, 2, 2⟩ := by decide

/-- **assign (reader, as repaired).**  `assign L = R;` becomes an instance of width `min |L| |R|` whose pin
    `k` (of `o` and of `i`) carries bit `k` of `L` (resp. `R`) counted from the least significant end. -/
theorem connect_assign_spec {β : Type} (outWs inWs : List β) :
    (connectAssign outWs inWs).1.length = min outWs.length inWs.length ∧
    (connectAssign outWs inWs).2.length = min outWs.length inWs.length ∧
    ∀ k, k < min outWs.length inWs.length →
      (connectAssign outWs inWs).1[k]? = (outWs[outWs.length - 1 - k]?).map some ∧
      (connectAssign outWs inWs).2[k]? = (inWs[inWs.length - 1 - k]?).map some := by
  unfold connectAssign
  refine ⟨by simp, by simp, ?_⟩
  intro k hk
  simp only [List.getElem?_map]
  rw [List.getElem?_take_of_lt hk, List.getElem?_take_of_lt hk,
    List.getElem?_reverse (by omega), List.getElem?_reverse (by omega)]
  exact ⟨rfl, rfl⟩

/-- **alias header port (reader).**  `.p({a, b, …})`: a port of as many pins as bits; pin `k` carries bit
    `k` of the concatenation counted from its least significant end. -/
theorem connect_alias_spec {β : Type} (ws : List β) :
    (connectAlias ws).length = ws.length ∧
    ∀ k, k < ws.length → (connectAlias ws)[k]? = (ws[ws.length - 1 - k]?).map some := by
  unfold connectAlias
  refine ⟨by simp, ?_⟩
  intro k hk
  rw [List.getElem?_reverse (by simpa using hk)]
  simp

example : connectAssign ["a3", "a2", "a1"] ["b1", "b0"] = ([some "a1", some "a2"], [some "b0", some "b1"]) := by rfl

/-- **elab_connection_spec.**  Inside the whole-design elaboration (`ModelElab.elabDesign`, the function
    compared with `sdn.parse` on every design): whenever the connection step of a named or positional map
    succeeds on a row whose low `|ws|` pins are free, the instance's row becomes
    `ws.reverse.map some ++ row.drop |ws|` — bit `k` of the expression (from its least significant end) on
    pin `k`, the pins above untouched — and nothing else in the design changes. -/
theorem elab_connection_spec (s s' : Elab.St) (dn iname : String) (k : Nat) (ws : List Nat)
    (h : Elab.connectInstRow s dn iname k ws = .ok s') :
    ∃ d ii row, s.find dn = some d ∧ Elab.instIdx d iname = some ii ∧
      row = ((d.insts.getD ii default).pins).getD k [] ∧
      ws.length ≤ row.length ∧
      ((∀ j, j < ws.length → row[j]? = some none) →
        s' = s.upd dn (fun d' =>
          { d' with insts := d'.insts.set ii (let i := d.insts.getD ii default; { i with pins := i.pins.set k (ws.reverse.map some ++ row.drop ws.length) }) })) := by
  obtain ⟨d, ii, row', hd, hi, hc, hs⟩ := Elab.connectInstRow_eq s s' dn iname k ws h
  have hlen : ws.length ≤ (((d.insts.getD ii default).pins).getD k []).length :=
    Nat.le_of_not_lt fun hl => by rw [connect_too_wide _ _ hl] at hc; cases hc
  refine ⟨d, ii, _, hd, hi, rfl, hlen, fun hfree => ?_⟩
  rw [connect_low_aligned _ ws hlen hfree] at hc
  cases hc
  exact hs

/-- **elab_connection_total.**  Totality of the connection step: for an existing instance, a row at least as
    wide as the expression and free at its low `|ws|` pins, `connectInstRow` succeeds (so
    `elab_connection_spec` is not vacuous; for a row index `k` outside the instance the row is `[]` and only
    the empty expression is accepted). -/
theorem elab_connection_total (s : Elab.St) (dn iname : String) (k : Nat) (ws : List Nat) (d : Elab.Def) (ii : Nat)
    (hd : s.find dn = some d) (hi : Elab.instIdx d iname = some ii)
    (hlen : ws.length ≤ (((d.insts.getD ii default).pins).getD k []).length)
    (hfree : ∀ j, j < ws.length → (((d.insts.getD ii default).pins).getD k [])[j]? = some none) :
    ∃ s', Elab.connectInstRow s dn iname k ws = .ok s' := by
  unfold Elab.connectInstRow Elab.getDef
  simp only [hd, hi, bind, Except.bind, pure, Except.pure]
  rw [connect_low_aligned _ ws hlen hfree]
  exact ⟨_, rfl⟩

def exSt : Elab.St :=
  ⟨[⟨"top", some "work", false, [], none, [], [⟨"c", 0, true, [7, 8], none, none⟩],
      [⟨"u", "leaf", [], none, [[none, none, none]]⟩]⟩], 9, some "top", 0, []⟩

/-- non-vacuity: a two-bit expression on a free three-pin row of instance `u` -/
example : ∃ s', Elab.connectInstRow exSt "top" "u" 0 [8, 7] = .ok s' ∧
    (s'.find "top").map (fun d => (d.insts.map (·.pins))) = some [[[some 7, some 8, none]]] := by
  refine ⟨_, rfl, ?_⟩
  rfl
end Spydr.Verilog
