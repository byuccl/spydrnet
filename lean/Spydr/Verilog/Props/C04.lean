/-
  C04 — structural Verilog write-then-read returns the same netlist.
  ONLY property theorems and their non-vacuity examples.  The expression-level theorems are in `Props/C04Emit.lean`
  (imported here); this file holds the write-order theorems (over Mathlib's `Relation.ReflTransGen`).
-/
import Spydr.Verilog.Props.C04Emit
import Spydr.Verilog.LemmasOrder

namespace Spydr.Verilog

/-- **write_order_defined.**  When the work list emptied within the fuel (`finished`, reported by the
    driver and checked by the harness on every netlist), the from-top order contains exactly the
    modules reachable from the top through child references, each exactly once.  (The complete visit order
    of `_compose` is the subject of `visit_order_defined`.) -/
theorem write_order_defined (children : Nat → List Nat) (fuel top : Nat)
    (hfin : (writeOrder children fuel top).2 = true) :
    (∀ x, x ∈ (writeOrder children fuel top).1 ↔ Reaches children top x) ∧
    (writeOrder children fuel top).1.Nodup := by
  refine ⟨fun x => ⟨?_, writeOrder_complete children fuel top hfin x⟩, ?_⟩
  · exact writeOrderGo_sound children fuel [top] [] top
      (fun y hy => List.mem_singleton.mp hy ▸ .refl) nofun x
  · exact writeOrderGo_nodup children fuel [top] [] List.nodup_nil

/-- **write_order_total.**  The hypothesis `finished = true` is always met with the fuel the driver (and
    `composeV`) uses: in a netlist of `N` definitions whose child references stay inside the netlist, the
    from-top order with fuel `2 + N + Σ |children d|` contains exactly the reachable modules, each once. -/
theorem write_order_total (children : Nat → List Nat) (N top : Nat) (htop : top < N)
    (hclosed : ∀ d, d < N → ∀ c ∈ children d, c < N) :
    let fuel := 2 + N + ((List.range N).map (fun d => (children d).length)).sum
    (writeOrder children fuel top).2 = true ∧
    (∀ x, x ∈ (writeOrder children fuel top).1 ↔ Reaches children top x) ∧
    (writeOrder children fuel top).1.Nodup := by
  intro fuel
  have hfin := writeOrder_finishes children N top htop hclosed
  exact ⟨hfin, write_order_defined children fuel top hfin⟩

/-- **visit_order_defined.**  The complete visit order of `_compose` (from-top order, then the remaining
    definitions in library order) contains every definition of the netlist (`all`, duplicate-free) exactly once —
    for any fuel, also when the work list did not empty. -/
theorem visit_order_defined (children : Nat → List Nat) (fuel top : Nat) (all : List Nat)
    (hall : all.Nodup) :
    (visitOrder children fuel (some top) all).1.Nodup ∧
    (∀ x ∈ all, x ∈ (visitOrder children fuel (some top) all).1) := by
  unfold visitOrder
  simp only
  constructor
  · rw [List.nodup_append]
    refine ⟨writeOrderGo_nodup children fuel [top] [] List.nodup_nil,
      List.Nodup.sublist List.filter_sublist hall, ?_⟩
    rintro a ha _ hb rfl
    exact absurd ha (by simpa using (List.mem_filter.mp hb).2)
  · intro x hx
    by_cases h : x ∈ (writeOrder children fuel top).1
    · exact List.mem_append_left _ h
    · exact List.mem_append_right _ (List.mem_filter.mpr ⟨hx, by simp [h]⟩)

example : writeOrder (fun n => if n = 0 then [1, 2, 1] else if n = 1 then [2] else []) 10 0 = ([0, 1, 2], true) := by
  decide

end Spydr.Verilog
