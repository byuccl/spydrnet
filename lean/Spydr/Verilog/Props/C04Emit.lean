/-
  C04 — structural Verilog write-then-read returns the same netlist.
  ONLY property theorems and their non-vacuity examples: the expression / declaration / alias / assign part
  (no Mathlib import, so the driver can link what depends on it); the write-order part is `Props/C04.lean`.
-/
import Spydr.Verilog.Lemmas
import Spydr.Verilog.LemmasEmit
import Spydr.Verilog.Props.C06

namespace Spydr.Verilog

/-- **emit_eval.**  For every pin vector of reader shape (a block of connected pins at the low end of
    the port, each on a bit of a declared cable; unconnected pins above), whichever form
    `_write_instance_port` chooses — nothing, the bare name, `[i]`, `[hi:lo]`, or `{…}` with runs merged;
    the choice is made by `_is_pinset_concatenated`, transcribed exactly — the reader evaluates the written
    expression to exactly the connected bits (MSB first), and its port-map loop on a port of the same
    width restores the very same pin vector. -/
theorem emit_eval (env : CableEnv) (blk : List Bit) (m : Nat)
    (hne : blk.map some ++ List.replicate m none ≠ []) (hv : ∀ b ∈ blk, ValidBit env b) :
    ∃ e, emitPortExpr env (blk.map some ++ List.replicate m none) = some e ∧
      evalExpr env e = some blk.reverse ∧
      connectLowAligned (List.replicate (blk.map some ++ List.replicate m none).length none) blk.reverse
        = some (blk.map some ++ List.replicate m none) := by
  obtain ⟨e, h1, h2⟩ := emitPortExpr_eval env blk m hne hv
  refine ⟨e, h1, h2, ?_⟩
  rw [connect_low_aligned_fresh _ _ (by simp)]
  simp [lowAligned]

/-- the same, phrased with the executable specification predicates the harness evaluates -/
theorem emit_eval_spec (env : CableEnv) (pins : List (Option Bit)) (hne : pins ≠ [])
    (hs : ReaderShape env pins) :
    ∃ e, emitPortExpr env pins = some e ∧ portRoundTrip pins (evalExpr env e) = true := by
  obtain ⟨blk, m, hp, hv⟩ := hs
  subst hp
  obtain ⟨e, h1, h2, _⟩ := emit_eval env blk m hne hv
  refine ⟨e, h1, ?_⟩
  rw [h2]
  simp [portRoundTrip, lowAligned]

/-
  **verilog_roundtrip** (full statement, NOT proved):
    ∀ n = elabV a (also after uniquify / flatten / clone), ∀ options o,
      view04 <$> elabV (parseV (printV (composeV o n))) = some (view04 n)
  Not proved in this generality: the module-level assembly (declaration order of ports/cables, module order,
  black boxes written or re-inferred, parameters/attributes, token-level printer/parser inverse).  It is proved
  through the model's `composeV`, `lexV`, `parseV`, `elabDesign` for the netlists of a decidable fragment only
  (widest: `c04_text_hierA`; what the fragment leaves out: docs/verilog.md §2a).
  Proved for all inputs: every instance connection round-trips (`verilog_roundtrip_partial`),
  declarations (`decl_range_roundtrip`), alias header ports (`alias_header_roundtrip`), assigns
  (`assign_regen`), and the write order (`write_order_defined`).  The end-to-end statement is evaluated on
  the implementation for every generated / bundled netlist and option combination (harness).
-/

/-- **verilog_roundtrip_partial** (instance-connection level lifted to all ports of all instances of a
    module, all inputs): if every pin vector is non-empty and of reader shape, writing every port map
    expression and reading it back restores every pin vector. -/
theorem verilog_roundtrip_partial (env : CableEnv) (ports : List (List (Option Bit)))
    (h : ∀ p ∈ ports, p ≠ [] ∧ ReaderShape env p) :
    ports.mapM (portRT env) = some ports := by
  refine mapM_eq_some.mpr (List.map_congr_left fun p hp => ?_)
  obtain ⟨hne, blk, m, rfl, hv⟩ := h p hp
  obtain ⟨e, h1, h2, h3⟩ := emit_eval env blk m hne hv
  simp only [portRT, h1, h2, h3]

def exEnv : CableEnv := fun n =>
  if n = "a" then some (4, 4) else if n = "b" then some (0, 1) else none

example : ReaderShape exEnv [some ⟨"a", 5⟩, some ⟨"a", 6⟩, some ⟨"b", 0⟩, none] :=
  ⟨[⟨"a", 5⟩, ⟨"a", 6⟩, ⟨"b", 0⟩], 1, rfl, by
    intro b hb
    simp only [List.mem_cons, List.not_mem_nil, or_false] at hb
    rcases hb with rfl | rfl | rfl
    · exact ⟨4, 4, rfl, by decide, by decide⟩
    · exact ⟨4, 4, rfl, by decide, by decide⟩
    · exact ⟨0, 1, rfl, by decide, by decide⟩⟩

/-- a port unconnected in the middle is *not* of reader shape, and indeed does not survive
    (candidate 23 of DESIGN §7: out of the domain of C04, the reader never produces it) -/
example : (emitPortExpr exEnv [some ⟨"a", 5⟩, none, some ⟨"b", 0⟩]).map (evalExpr exEnv) =
    some (some [⟨"b", 0⟩, ⟨"a", 5⟩]) := by rfl

/-- **decl_range_roundtrip.**  `[msb:lsb]` written by `_write_brackets_defining` for a bundle of base
    `lower` and width `width ≥ 1`, read back, gives base `lower` and width `width` again — both when the
    name is new (wire declarations, ANSI header) and when the declaration meets the one-bit stub the
    header port list created (non-ANSI body port declaration). -/
theorem decl_range_roundtrip (lower : Int) (width : Nat) (hw : 0 < width) :
    readDeclNew (emitDeclRange lower width) = (lower, width) ∧
    readDeclStub (emitDeclRange lower width) = (lower, width) := by
  unfold emitDeclRange
  split
  · next h =>
    obtain ⟨rfl, rfl⟩ := h
    exact ⟨rfl, rfl⟩
  · have hle : lower ≤ lower + (width : Int) - 1 := by omega
    simp only [readDeclNew, readDeclStub, populateNew, resizeCable, inRange, Int.max_eq_left hle,
      Int.min_eq_right hle, if_true, gt_iff_lt, ite_toNat]
    constructor <;> congr 1 <;> omega

example : emitDeclRange 4 4 = some (7, 4) := by decide

/-- **alias_header_roundtrip.**  A header port whose inner pins are all connected to bits of declared
    cables is written as `.port({…})` exactly when `_is_pinset_concatenated(pins, port name)`; reading
    the concatenation back (`parse_module_header_port_alias`) creates a port of the same width whose
    pin `k` is on the same bit.  Otherwise it is written as the bare port name and its pins are
    consecutive ascending bits of the cable that carries the port's name (declared in the body). -/
theorem alias_header_roundtrip (env : CableEnv) (pname : String) (blk : List Bit)
    (hv : ∀ b ∈ blk, ValidBit env b) :
    (∀ as, emitHeaderPort env pname (blk.map some) = some (some as) →
        ∃ ws, evalConcat env as = some ws ∧ connectAlias ws = blk.map some) ∧
    (emitHeaderPort env pname (blk.map some) = some none →
        ∀ b0 rest, blk = b0 :: rest → blk = ascBits pname b0.idx blk.length) ∧
    (∃ r, emitHeaderPort env pname (blk.map some) = some r) := by
  obtain ⟨as0, h1, h2⟩ := emitConcat_eval env (blk.map some).reverse
    (fun b hb => hv b (by simpa using List.mem_reverse.mp hb))
  have hfm : ((blk.map some).reverse).filterMap id = blk.reverse := by
    rw [List.filterMap_reverse, ← List.append_nil (blk.map some), ← List.replicate_zero, filterMap_block]
  unfold emitHeaderPort
  split
  · rw [h1]
    refine ⟨fun as has => ?_, fun h => (by cases h), _, rfl⟩
    cases has
    exact ⟨_, h2, by rw [hfm]; simp [connectAlias]⟩
  · next hc =>
    refine ⟨fun as has => (by cases has), fun _ b0 rest hb => ?_, _, rfl⟩
    subst hb
    exact (isConcatenated_run pname 0 b0 rest).mp (by simpa using hc)

/-- **assign_regen.**  An assignment instance of width `w ≥ 1` whose `o` pins sit on `c[lo..lo+w-1]`
    and whose `i` pins sit on `d[lo'..lo'+w-1]` (pin `k` on bit `k` from the low end — what the repaired
    reader builds) is written as `assign c[..] = d[..];` and read back as an assignment instance of the
    same width joining the same bits pin by pin. -/
theorem assign_regen (env : CableEnv) (c d : String) (lo lo' : Int) (w : Nat)
    (lc : Int) (wc : Nat) (ld : Int) (wd : Nat)
    (hc : env c = some (lc, wc)) (hd : env d = some (ld, wd))
    (hc0 : lc ≤ lo) (hc1 : lo + w < lc + wc) (hd0 : ld ≤ lo') (hd1 : lo' + w < ld + wd) :
    ∃ l r, emitAssign env ((ascBits c lo (w + 1)).map some) ((ascBits d lo' (w + 1)).map some) = some (l, r) ∧
      readAssign env l r = some ((ascBits c lo (w + 1)).map some, (ascBits d lo' (w + 1)).map some) := by
  obtain ⟨l, hl, hle⟩ := emitAssignSide_eval env c lo w lc wc hc hc0 hc1
  obtain ⟨r, hr, hre⟩ := emitAssignSide_eval env d lo' w ld wd hd hd0 hd1
  refine ⟨l, r, ?_, ?_⟩
  · unfold emitAssign
    simp only [hl, hr]
  · unfold readAssign
    simp only [hle, hre, connectAssign, List.reverse_reverse, List.length_reverse, ascBits_length,
      Nat.min_self]
    rw [List.take_of_length_le (by rw [ascBits_length]; omega),
      List.take_of_length_le (by rw [ascBits_length]; omega)]

/-- the whole list of assigns of a module: same count, same widths, same bits (map-wise) -/
theorem assign_regen_all (env : CableEnv) (assigns : List (PinVec Bit × PinVec Bit))
    (h : ∀ a ∈ assigns, ∃ l r, emitAssign env a.1 a.2 = some (l, r) ∧ readAssign env l r = some a) :
    (assigns.mapM (fun a => (emitAssign env a.1 a.2).bind (fun lr => readAssign env lr.1 lr.2))) = some assigns := by
  refine mapM_eq_some.mpr (List.map_congr_left fun a ha => ?_)
  obtain ⟨l, r, h1, h2⟩ := h a ha
  simp only [h1, Option.bind_some, h2]

example : ∃ l r, emitAssign exEnv [some ⟨"a", 5⟩, some ⟨"a", 6⟩] [some ⟨"a", 4⟩, some ⟨"a", 5⟩] = some (l, r) :=
  ⟨_, _, rfl⟩

end Spydr.Verilog
