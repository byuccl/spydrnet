/-
  Verilog engine — `createOrUpdateCable_ww`: the one function that hands out wire ids keeps them distinct, below the
  counter and present in every net (`WW`); `createOrUpdateCable_pres`.
-/
import Spydr.Verilog.WFPort
namespace Spydr.Verilog.Elab
open Spydr.Verilog

theorem perm_flatMap {α β : Type} (f g : α → List β) :
    ∀ (l : List α), (∀ a ∈ l, (f a).Perm (g a)) → (l.flatMap f).Perm (l.flatMap g)
  | [], _ => .refl _
  | a :: l, h => by
    simp only [List.flatMap_cons]
    exact (h a List.mem_cons_self).append (perm_flatMap f g l fun x hx => h x (List.mem_cons_of_mem _ hx))

theorem grow_both (nm : String) (pre post : List Nat) (n n' : Nat) (cs : List Cable) (c0 C : Cable)
    (hn : (cs.map (·.name)).Nodup) (hf : (cs.flatMap (·.wires)).Nodup) (hb : ∀ c ∈ cs, ∀ w ∈ c.wires, w < n)
    (hc0 : c0 ∈ cs) (hc0n : c0.name = nm) (hCn : C.name = nm) (hCw : C.wires = pre ++ c0.wires ++ post)
    (hex : (pre ++ post).Nodup) (hrange : ∀ w ∈ pre ++ post, n ≤ w ∧ w < n') (hle : n ≤ n') :
    ((cs.map (fun y => if y.name == nm then C else y)).flatMap (·.wires)).Nodup ∧
    (∀ c ∈ cs.map (fun y => if y.name == nm then C else y), ∀ w ∈ c.wires, w < n') := by
  constructor
  · -- a permutation of the same table with the fresh wires all behind, which is `WF_grow`
    have g := (WF_grow nm (pre ++ post) n n' cs c0 { C with wires := c0.wires ++ (pre ++ post) } hn hf hb hc0 hc0n hCn rfl
      hex hrange hle).2.1
    refine (List.Perm.nodup_iff ?_).mpr g
    rw [List.flatMap_map, List.flatMap_map]
    refine perm_flatMap _ _ _ fun y _ => ?_
    split
    · rw [hCw]
      simpa [List.append_assoc] using (List.perm_append_comm (l₁ := pre)).append_right post
    · exact List.Perm.refl _
  · intro c hc w hw
    obtain ⟨y, hy, rfl⟩ := List.mem_map.mp hc
    split at hw
    · simp only [hCw, List.mem_append] at hw hrange
      rcases hw with (h | h) | h
      · exact (hrange w (.inl h)).2
      · exact Nat.lt_of_lt_of_le (hb c0 hc0 w h) hle
      · exact (hrange w (.inr h)).2
    · exact Nat.lt_of_lt_of_le (hb y hy w hw) hle

theorem populateNew_pos (l r : Option Int) : 1 ≤ (populateNew l r).2.1 := by
  unfold populateNew
  split <;> simp <;> omega

theorem ww_upd {s : St} {dn : String} {d : Def} (hs : WW s) (hd : Has s dn d) {f : Def → Def} {n : Nat} (hn : s.next ≤ n)
    (h1 : (wiresOf (f d)).Nodup) (h2 : ∀ c ∈ (f d).cables, ∀ w ∈ c.wires, w < n)
    (h3 : ∀ c ∈ (f d).cables, 1 ≤ c.wires.length) : WW ({ s with next := n }.upd dn f) := by
  intro d' hd'
  obtain ⟨x, hx, rfl⟩ := List.mem_map.mp hd'
  split
  · rename_i e
    rw [hd.2.2 x hx (by simpa using e)]
    refine ⟨h1, fun w hw => ?_, h3⟩
    obtain ⟨c, hc, hw⟩ := mem_wiresOf.mp hw
    exact h2 c hc w hw
  · obtain ⟨g1, g2, g3⟩ := hs x hx
    exact ⟨g1, fun w hw => Nat.lt_of_lt_of_le (g2 w hw) hn, g3⟩

theorem createOrUpdateCable_ww (s s' : St) (dn name : String) (l r : Option Int) (vt : Option String) (df : Bool)
    (hwf : TableWF s) (hs : WW s) (h : createOrUpdateCable s dn name l r vt df = .ok s') : WW s' := by
  simp only [createOrUpdateCable, fresh, ids_eq] at h
  obtain ⟨d, hg, h⟩ := bind_ok h
  have hd := find_has hwf (getDef_find hg)
  obtain ⟨h1, h2, h3⟩ := hs d hd.1
  have hW : WF d s.next := ⟨⟨(hwf.defs d hd.1).cables, h1⟩, fun c hc w hw => h2 w (mem_wiresOf.mpr ⟨c, hc, hw⟩)⟩
  split at h
  · -- a new net
    rename_i hnone
    cases h
    obtain ⟨⟨-, g1⟩, g2⟩ :=
      WF_append d _ ⟨name, (populateNew l r).1, (populateNew l r).2.2, _, vt, none⟩ (populateNew l r).2.1 hW hnone rfl
    refine ww_upd hs hd (Nat.le_add_right _ _) g1 g2 (List.forall_mem_append.mpr ⟨h3, List.forall_mem_singleton.mpr ?_⟩)
    simpa [ids] using populateNew_pos l r
  · -- an existing net grows
    rename_i c hc
    generalize resizeCable c.lower c.wires.length l r df = rz at h
    generalize hC : ({ c with lower := rz.lower, wires := _, ctype := _ } : Cable) = C at h
    cases h
    have hcm := List.mem_of_find?_eq_some hc
    have hcn := find_name hc
    -- the fresh wires in front and behind are one run of ids
    have hfresh := ids_append s.next rz.pre rz.post
    obtain ⟨g1, g2⟩ := grow_both name (ids s.next rz.pre) (ids (s.next + rz.pre) rz.post) s.next (s.next + rz.pre + rz.post)
      d.cables c C hW.1.1 h1 hW.2 hcm hcn (hC ▸ hcn) (hC ▸ rfl) (hfresh ▸ ids_nodup _ _)
      (fun w hw => by rw [hfresh] at hw; exact ⟨ids_ge _ _ _ hw, Nat.add_assoc _ _ _ ▸ ids_lt _ _ _ hw⟩) (by omega)
    refine ww_upd hs hd (by omega) g1 g2 fun c' hc' => ?_
    obtain ⟨y, hy, rfl⟩ := List.mem_map.mp hc'
    split
    · have := h3 c hcm
      simp only [← hC, List.length_append]
      omega
    · exact h3 y hy

theorem createOrUpdateCable_pres {s s' : St} {dn name : String} {l r : Option Int} {vt : Option String} {df : Bool}
    (hs : TableWF s) (h : createOrUpdateCable s dn name l r vt df = .ok s') : Pres s s' :=
  ⟨createOrUpdateCable_wf _ _ _ _ _ _ _ _ hs h, fun hw => createOrUpdateCable_ww _ _ _ _ _ _ _ _ hs hw h⟩
end Spydr.Verilog.Elab
