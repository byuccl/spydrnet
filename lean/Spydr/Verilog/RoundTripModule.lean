/-
  The entry of a module for any table (`elabModule_entry`: `entrySt`, then `elabTailG`), and a whole module of the fragment
  through the real `elabModule` (`elabModule_frag`).
-/
import Spydr.Verilog.RoundTripDecls
namespace Spydr.Verilog.Elab
open Spydr.Verilog

theorem filterMap_congr' {α β : Type} (f g : α → Option β) : ∀ (l : List α), (∀ x ∈ l, f x = g x) →
    l.filterMap f = l.filterMap g :=
  fun _ h => (List.filterMap_map (g := id)).symm.trans ((congrArg _ (List.map_congr_left h)).trans List.filterMap_map)

/-- a port list whose names are exactly `names` (distinct): every name finds its own position -/
theorem filterMap_portIdx (l : List Port) (names : List String)
    (hl : l.map (·.name) = names.map some) (hn : names.Nodup) :
    names.filterMap (fun n => l.findIdx? (fun p => p.name == some n)) = List.range l.length := by
  -- looking a name up in the ports is looking it up in `names`
  have hf : ∀ n ∈ names, l.findIdx? (fun p => p.name == some n) = some (names.idxOf n) := by
    intro n hmem
    have : l.findIdx? (fun p => p.name == some n) = (l.map (·.name)).findIdx? (· == some n) := by
      rw [List.findIdx?_map]; rfl
    rw [this, hl, List.findIdx?_map, List.findIdx?_eq_some_iff_findIdx_eq]
    exact ⟨List.idxOf_lt_length_iff.mpr hmem, by simp [List.idxOf, Function.comp_def]⟩
  rw [filterMap_congr' _ _ names hf, List.filterMap_eq_map', ← List.length_map (f := (·.name)) (as := l), hl,
    List.length_map]
  apply List.ext_getElem (by simp)
  intro i h1 _
  simpa using hn.idxOf_getElem i (by simpa using h1)

theorem reorderPorts_id (s : St) (dn : String) (d : Def) (names : List String) (hd : Has s dn d)
    (h : names.filterMap (portIdx d) = List.range d.ports.length) : reorderPorts s dn names = .ok s := by
  unfold reorderPorts
  rw [getDef_has hd]
  simp only [bind, Except.bind]
  split
  · rfl
  · rw [h]
    have : ((List.range d.ports.length).filter (fun i => !((List.range d.ports.length).contains i))) = [] := by
      rw [List.filter_eq_nil_iff]
      intro a ha
      simp [List.mem_range.mp ha]
    rw [this]
    simp
    rfl

/-- a module of the fragment: ANSI header, wire declarations, then instantiations with named port maps;
    a `celldefine` module has neither wires nor instances -/
structure FMod where
  name : String
  prim : Bool
  ports : List FPort
  wires : List FWire
  insts : List NInst

def FMod.toModule (m : FMod) : Module :=
  ⟨m.name, m.prim, [], [], m.ports.map FPort.hport, m.wires.map FWire.item ++ m.insts.map NInst.item⟩

def libOf (prim : Bool) : String := if prim then "hdi_primitives" else "work"

/-- the definition the reader builds for `m` (pure), wires numbered from `next` -/
def buildDef (lookup : String → Option Def) (next : Nat) (m : FMod) : Option (Def × Nat) :=
  let bp := buildPorts m.ports next
  let bw := buildWires m.wires bp.2.2
  let d0 : Def := ⟨m.name, some (libOf m.prim), false, [], none, bp.1, bp.2.1 ++ bw.1, []⟩
  (m.insts.mapM (buildInst lookup d0)).map (fun built => ({ d0 with insts := built }, bw.2))

theorem buildPorts_names : ∀ (ps : List FPort) (n : Nat),
    (buildPorts ps n).1.map (·.name) = ps.map (fun p => some p.name) ∧
    (buildPorts ps n).2.1.map (·.name) = ps.map (·.name)
  | [], _ => ⟨rfl, rfl⟩
  | p :: ps, n => by
    have := buildPorts_names ps (n + (shapeOf p.rng).2.1)
    simp only [buildPorts, List.map_cons, this.1, this.2]
    exact ⟨rfl, rfl⟩

theorem buildWires_names : ∀ (ws : List FWire) (n : Nat), (buildWires ws n).1.map (·.name) = ws.map (·.name)
  | [], _ => rfl
  | w :: ws, n => by
    simp only [buildWires, List.map_cons, buildWires_names ws (n + (shapeOf w.rng).2.1)]
    rfl

theorem RowsFull_base (S : St) (base : List Def) (e : Def) (h : S.defs = base ++ [e]) (ref : String) (n : Nat)
    (hr : ∀ d ∈ base, ∀ i ∈ d.insts, i.ref = ref → n ≤ i.pins.length) (he : e.insts = []) : RowsFull S ref n := by
  intro d hd i hi href
  rcases List.mem_append.mp (h ▸ hd) with h1 | h1
  · exact hr d h1 i hi href
  · rw [List.mem_singleton.mp h1, he] at hi; cases hi

/-- the state after the name has entered the table, the library is set and the top / assignment counter are adjusted -/
def afterEntry (s : St) (name : String) (prim : Bool) : St :=
  let s2 := ({ s with defs := s.defs ++ [⟨name, none, false, [], none, [], [], []⟩] } : St).upd name
    (fun d => { d with lib := some (if prim then "hdi_primitives" else "work") })
  if prim then s2 else { (if s2.top.isNone then { s2 with top := some name } else s2) with acount := 0 }

/-- header, reorder, body and attributes of `elabModule`: what follows the entry of the module -/
def elabTailG (s3 : St) (m : Module) : M St := do
  let s ← m.header.foldlM (fun s h => match h.alias with
    | some e => headerAlias s m.name h e
    | none => headerPort s m.name h) s3
  let s ← reorderPorts s m.name (m.header.map (·.name))
  let s ← m.items.foldlM (fun s it => elabItem s m.name m.prim it) s
  pure (if m.attrs.isEmpty then s else s.upd m.name (fun d => { d with attrs := some m.attrs }))

/-- the definition of a module on entry: its library, the parameters of the header merged in -/
def entryG (L : Def) (prim : Bool) (params : Params) : Def :=
  { L with lib := some (if prim then "hdi_primitives" else "work"), params := mergeParams L.params params }

/-- the table on entry of module `name`, whose definition (just created, or a stub made by instances) is `L`: a module
    that is not a primitive becomes the top if there is none yet, and starts counting its assignments from 0 -/
def entrySt (S : St) (name : String) (prim : Bool) (params : Params) (L : Def) : St :=
  if prim then S.put name (entryG L prim params) S.next
  else { S.put name (entryG L prim params) S.next with top := if S.top.isNone then some name else S.top, acount := 0 }

theorem entrySt_of_top {S : St} {t : String} (ht : S.top = some t) (name : String) (params : Params) (L : Def) :
    entrySt S name false params L = { S.put name (entryG L false params) S.next with acount := 0 } := by
  unfold entrySt
  simp only [Bool.false_eq_true, if_false, ht, Option.isNone_some]
  exact St.ext' _ _ rfl rfl ht.symm rfl rfl

/-- `elabModule` for any table: the name enters the table unless it is there as a stub, the entry bookkeeping, then
    `elabTailG` -/
theorem elabModule_entry (s : St) (m : Module) (L : Def) (hL : Has (s.ensure m.name) m.name L) (hlib : L.lib = none) :
    elabModule s m = elabTailG (entrySt (s.ensure m.name) m.name m.prim m.params L) m := by
  generalize hS : s.ensure m.name = S at hL
  have key : ∀ pr (g : Def → Def), g L = entryG L pr m.params → S.upd m.name g = S.put m.name (entryG L pr m.params) S.next := by
    intro pr g hg
    rw [St.upd_congr S m.name _ (fun _ => entryG L pr m.params) L hL hg]
    cases S; rfl
  have hentry : ∀ pr : Bool,
      (let s1 := S.upd m.name (fun d => { d with lib := some (if pr then "hdi_primitives" else "work") })
      let s2 := if pr then s1 else { (if s1.top.isNone then { s1 with top := some m.name } else s1) with acount := 0 }
      if m.params.isEmpty then s2 else s2.upd m.name (fun d => { d with params := mergeParams d.params m.params })) =
      entrySt S m.name pr m.params L := by
    intro pr
    unfold entrySt
    -- library and parameters are one rewriting of `L`; top and counter are fields beside the table
    by_cases hp : m.params.isEmpty = true
    · have h1 := congrArg St.defs (key pr (fun d => { d with lib := some (if pr then "hdi_primitives" else "work") })
        (by rw [List.isEmpty_iff.mp hp]; rfl))
      obtain ⟨defs, nx, tp, ac, pd⟩ := S
      -- primitive or not, a top or none: in each of the four cases `defs` is `h1`, the other fields agree by `rfl`
      cases pr <;> cases tp <;> simp only [hp, if_true, if_false, Bool.false_eq_true] <;>
        exact St.ext' _ _ h1 rfl rfl rfl rfl
    · have h1 := congrArg St.defs ((St.upd_upd S m.name
        (fun d => { d with lib := some (if pr then "hdi_primitives" else "work") })
        (fun d => { d with params := mergeParams d.params m.params }) (fun _ => rfl)).trans (key pr
        (fun d => { d with lib := some (if pr then "hdi_primitives" else "work"), params := mergeParams d.params m.params })
        rfl))
      obtain ⟨defs, nx, tp, ac, pd⟩ := S
      cases pr <;> cases tp <;> simp only [hp, if_true, if_false, Bool.false_eq_true] <;>
        exact St.ext' _ _ h1 rfl rfl rfl rfl
  unfold elabModule elabTailG
  simp only [hS, bind, Except.bind, getDef_has hL, hlib, Option.isSome_none, Bool.false_eq_true, if_false]
  rw [← hentry]
  rfl

theorem elabModule_eq_tailGP (s : St) (m : Module) (hfresh : s.find m.name = none) :
    elabModule s m = elabTailG (if m.params.isEmpty then afterEntry s m.name m.prim else
      (afterEntry s m.name m.prim).upd m.name (fun d => { d with params := mergeParams d.params m.params })) m := by
  have hbase := find_none_names s m.name hfresh
  have hens : s.ensure m.name = { s with defs := s.defs ++ [⟨m.name, none, false, [], none, [], [], []⟩] } := by
    unfold St.ensure; rw [hfresh]
  have hE1 : Has ({ s with defs := s.defs ++ [⟨m.name, none, false, [], none, [], [], []⟩] } : St) m.name
      ⟨m.name, none, false, [], none, [], [], []⟩ := Has_last _ s.defs _ rfl hbase
  by_cases he : m.params.isEmpty = true
  · unfold elabModule
    simp only [hens, bind, Except.bind, getDef_has hE1, Option.isSome_none, Bool.false_eq_true, if_false, he, if_true]
    unfold elabTailG afterEntry
    simp only [bind, Except.bind]
    rfl
  · unfold elabModule
    simp only [hens, bind, Except.bind, getDef_has hE1, Option.isSome_none, Bool.false_eq_true, if_false, he]
    unfold elabTailG afterEntry
    simp only [bind, Except.bind]
    rfl

theorem elabModule_eq_tailG (s : St) (m : Module) (hfresh : s.find m.name = none) (hp : m.params = []) :
    elabModule s m = elabTailG (afterEntry s m.name m.prim) m := by
  rw [elabModule_eq_tailGP s m hfresh, hp]
  rfl

/-- `elabTailG` on a module of the fragment, from a state whose last entry is the still empty definition `name`, the
    entries before it being those of `sB`: the entry becomes what `buildPorts`, `buildWires` and `buildInst` compute -/
theorem elabTail_spec (s3 sB : St) (name : String) (prim : Bool) (lib : Option String)
    (ports : List FPort) (wires : List FWire) (insts : List NInst) (built : List Inst)
    (hd3 : s3.defs = sB.defs ++ [⟨name, lib, false, [], none, [], [], []⟩]) (hn3 : s3.next = sB.next)
    (hfresh : sB.find name = none) (hnr : NoRef sB name)
    (hleaf : ∀ i ∈ insts, i.mod ≠ name ∧ ∃ rd, Has sB i.mod rd ∧ RowsFull sB i.mod rd.ports.length)
    (hwn : (ports.map (·.name) ++ wires.map (·.name)).Nodup)
    (hin : (insts.map (·.name)).Nodup)
    (hprim : prim = true → wires = [] ∧ insts = [])
    (hbi : insts.mapM (buildInst sB.find ⟨name, lib, false, [], none, (buildPorts ports sB.next).1,
      (buildPorts ports sB.next).2.1 ++ (buildWires wires (buildPorts ports sB.next).2.2).1, []⟩) = some built) :
    ∃ s6, elabTailG s3 ⟨name, prim, [], [], ports.map FPort.hport, wires.map FWire.item ++ insts.map NInst.item⟩ = .ok s6 ∧
      s6.defs = sB.defs ++ [⟨name, lib, false, [], none, (buildPorts ports sB.next).1,
        (buildPorts ports sB.next).2.1 ++ (buildWires wires (buildPorts ports sB.next).2.2).1, built⟩] ∧
      s6.next = (buildWires wires (buildPorts ports sB.next).2.2).2 ∧ s6.pending = s3.pending := by
  have hbase := find_none_names sB name hfresh
  obtain ⟨hpn, hwn2, hdisj⟩ := List.nodup_append.mp hwn
  have hnames := buildPorts_names ports sB.next
  have hwnames := buildWires_names wires (buildPorts ports sB.next).2.2
  generalize hbp : buildPorts ports sB.next = bp at hbi hnames hwnames ⊢
  generalize hbw : buildWires wires bp.2.2 = bw at hbi hwnames ⊢
  have hhdr := header_fold name ports s3 ⟨name, lib, false, [], none, [], [], []⟩ (Has_last s3 _ _ hd3 hbase)
    (NoRef_base s3 _ _ hd3 name hnr rfl) (fun p _ => ⟨rfl, rfl⟩) hpn
  rw [hn3, hbp] at hhdr
  generalize hs4 : withNext (s3.upd name _) bp.2.2 = s4 at hhdr
  have hd4 : s4.defs = sB.defs ++ [⟨name, lib, false, [], none, bp.1, bp.2.1, []⟩] :=
    hs4 ▸ defs_upd_last s3 _ ⟨name, lib, false, [], none, [], [], []⟩ _ hd3 hbase
  have hE4 := Has_last s4 _ _ hd4 hbase
  -- `reorderPorts` finds the ports in the declared order already
  have hro : reorderPorts s4 name ((ports.map FPort.hport).map (·.name)) = .ok s4 := by
    apply reorderPorts_id s4 name _ _ hE4
    rw [show (ports.map FPort.hport).map (·.name) = ports.map (·.name) by rw [List.map_map]; rfl]
    exact filterMap_portIdx bp.1 (ports.map (·.name)) (by rw [hnames.1, List.map_map]; rfl) hpn
  unfold elabTailG
  simp only [bind, Except.bind, List.isEmpty_nil, if_true]
  generalize hX : List.foldlM (m := Except String) _ s3 (List.map FPort.hport ports) = X
  rw [show X = .ok s4 from hX ▸ hhdr]
  simp only [hro]
  cases prim with
  | true =>
    obtain ⟨rfl, rfl⟩ := hprim rfl
    cases hbi
    refine ⟨s4, rfl, ?_, ?_, by rw [← hs4]; rfl⟩
    · rw [hd4, ← hbw]; simp [buildWires]
    · rw [← hs4, ← hbw]; rfl
  | false =>
    have hfrw : ∀ w ∈ wires, bp.2.1.find? (fun c => c.name == w.name) = none := by
      intro w hw
      rw [List.find?_eq_none]
      intro c hc e
      exact hdisj c.name (hnames.2 ▸ List.mem_map.mpr ⟨c, hc, rfl⟩) w.name (List.mem_map.mpr ⟨w, hw, rfl⟩)
        (by simpa using e)
    have hwf := wires_fold name wires s4 _ hE4 hfrw hwn2
    rw [show s4.next = bp.2.2 by rw [← hs4]; rfl, hbw] at hwf
    generalize hs5 : withNext (s4.upd name _) bw.2 = s5 at hwf
    have hd5 : s5.defs = sB.defs ++ [⟨name, lib, false, [], none, bp.1, bp.2.1 ++ bw.1, []⟩] :=
      hs5 ▸ defs_upd_last s4 _ ⟨name, lib, false, [], none, bp.1, bp.2.1, []⟩ _ hd4 hbase
    -- the instances: the modules they refer to are among the entries of `sB`
    have hleaf5 : ∀ i ∈ insts, i.mod ≠ name ∧ ∃ rd, Has s5 i.mod rd ∧ RowsFull s5 i.mod rd.ports.length := by
      intro i hi
      obtain ⟨hne, rd, hrd, hrf⟩ := hleaf i hi
      exact ⟨hne, rd, Has_base s5 _ _ hd5 i.mod rd hrd (fun e => hne e.symm), RowsFull_base s5 _ _ hd5 i.mod _ hrf rfl⟩
    have hb5 : insts.mapM (buildInst s5.find ⟨name, lib, false, [], none, bp.1, bp.2.1 ++ bw.1, []⟩) = some built := by
      rw [← hbi]
      apply mapM_option_congr
      intro i hi
      exact buildInst_congr _ _ _ _ i (find_base s5 _ _ hd5 i.mod (fun e => (hleaf i hi).1 e.symm)) rfl
    obtain ⟨s6, h6, hd6, hn6, hp6, _⟩ := instances_fold name insts s5 _ built (Has_last s5 _ _ hd5 hbase)
      (by simp only [List.map_append, hnames.2, hwnames]; exact hwn) hleaf5 hin (fun _ _ => rfl) hb5
    refine ⟨s6, ?_, ?_, by rw [hn6, ← hs5]; rfl, by rw [hp6, ← hs5, ← hs4]; rfl⟩
    · rw [List.foldlM_append, hwf]
      simp only [bind, Except.bind, h6]
      rfl
    · rw [hd6, hd5]
      simp only [List.map_append, List.map_cons, List.map_nil, beq_self_eq_true, if_true, List.nil_append]
      rw [map_id_of_mem (fun d hd => by simp [hbase d hd])]

theorem afterEntry_defs (s : St) (name : String) (prim : Bool) (hb : ∀ d ∈ s.defs, d.name ≠ name) :
    (afterEntry s name prim).defs = s.defs ++ [⟨name, some (libOf prim), false, [], none, [], [], []⟩] ∧
    (afterEntry s name prim).next = s.next ∧ (afterEntry s name prim).pending = s.pending := by
  have h2 : (({ s with defs := s.defs ++ [⟨name, none, false, [], none, [], [], []⟩] } : St).upd name
      (fun d => { d with lib := some (if prim then "hdi_primitives" else "work") })).defs
      = s.defs ++ [⟨name, some (libOf prim), false, [], none, [], [], []⟩] :=
    defs_upd_last _ s.defs ⟨name, none, false, [], none, [], [], []⟩ _ rfl hb
  unfold afterEntry
  simp only
  cases prim with
  | true => exact ⟨h2, rfl, rfl⟩
  | false =>
    simp only [Bool.false_eq_true, if_false]
    refine ⟨?_, ?_, ?_⟩
    · split <;> exact h2
    · split <;> rfl
    · split <;> rfl

/-- **elabModule_frag.**  One module of the fragment, elaborated (the real `elabModule`) into a table that does
    not know its name yet and in which nobody instances it, all instantiated modules being present: the table
    gains exactly the definition `buildDef` computes; nothing is deferred. -/
theorem elabModule_frag (s : St) (m : FMod) (D : Def) (n' : Nat)
    (hfresh : s.find m.name = none) (hnr : NoRef s m.name)
    (hleaf : ∀ i ∈ m.insts, i.mod ≠ m.name ∧ ∃ rd, Has s i.mod rd ∧ RowsFull s i.mod rd.ports.length)
    (hwn : (m.ports.map (·.name) ++ m.wires.map (·.name)).Nodup)
    (hin : (m.insts.map (·.name)).Nodup)
    (hprim : m.prim = true → m.wires = [] ∧ m.insts = [])
    (hb : buildDef s.find s.next m = some (D, n')) :
    ∃ s', elabModule s m.toModule = .ok s' ∧ s'.defs = s.defs ++ [D] ∧ s'.next = n' ∧ s'.pending = s.pending := by
  obtain ⟨hd3, hn3, hp3⟩ := afterEntry_defs s m.name m.prim (find_none_names s m.name hfresh)
  unfold buildDef at hb
  obtain ⟨built, hbi, hD⟩ := Option.map_eq_some_iff.mp hb
  obtain ⟨rfl, rfl⟩ := Prod.mk.inj hD
  obtain ⟨s6, h6, hd6, hn6, hp6⟩ := elabTail_spec (afterEntry s m.name m.prim) s m.name m.prim (some (libOf m.prim))
    m.ports m.wires m.insts built hd3 hn3 hfresh hnr hleaf hwn hin hprim hbi
  exact ⟨s6, by rw [FMod.toModule, elabModule_eq_tailG s _ hfresh rfl]; exact h6, hd6, hn6, by rw [hp6, hp3]⟩
end Spydr.Verilog.Elab
