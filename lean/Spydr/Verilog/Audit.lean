import Spydr.Verilog.Props.C04
import Spydr.Verilog.Props.C06
import Spydr.Verilog.RoundTripShape
import Spydr.Verilog.RoundTripSingle
import Spydr.Verilog.RoundTripBits
import Spydr.Verilog.RoundTripView
import Spydr.Verilog.TokWritten
import Spydr.Verilog.TextTop
import Spydr.Verilog.WFStruct
import Spydr.Verilog.RenderModule
import Spydr.Verilog.LexPieces
import Spydr.Verilog.ViewLeaves
import Spydr.Verilog.TextLeaves
import Spydr.Verilog.FileHier
import Spydr.Verilog.ViewHier
import Spydr.Verilog.TextHier
import Spydr.Verilog.ViewHierAssign
import Spydr.Verilog.TextHierAssign
import Spydr.Verilog.WFWiresC

#print axioms Spydr.Verilog.getWires_spec
#print axioms Spydr.Verilog.getWires_spec_single_all
#print axioms Spydr.Verilog.concat_spec
#print axioms Spydr.Verilog.connect_low_aligned
#print axioms Spydr.Verilog.connect_low_aligned_fresh
#print axioms Spydr.Verilog.lowAligned_bit
#print axioms Spydr.Verilog.connect_too_wide
#print axioms Spydr.Verilog.resize_stable
#print axioms Spydr.Verilog.resize_keeps_index
#print axioms Spydr.Verilog.resize_port_stable
#print axioms Spydr.Verilog.emit_eval
#print axioms Spydr.Verilog.emit_eval_spec
#print axioms Spydr.Verilog.decl_range_roundtrip
#print axioms Spydr.Verilog.alias_header_roundtrip
#print axioms Spydr.Verilog.assign_regen
#print axioms Spydr.Verilog.assign_regen_all
#print axioms Spydr.Verilog.write_order_defined
#print axioms Spydr.Verilog.visit_order_defined
#print axioms Spydr.Verilog.verilog_reader_spec_partial
#print axioms Spydr.Verilog.verilog_roundtrip_partial
#print axioms Spydr.Verilog.connect_assign_spec
#print axioms Spydr.Verilog.connect_alias_spec
#print axioms Spydr.Verilog.elab_connection_spec
#print axioms Spydr.Verilog.write_order_total
#print axioms Spydr.Verilog.elab_connection_total
#print axioms Spydr.Verilog.Elab.instantiate_named
#print axioms Spydr.Verilog.Elab.instances_fold
#print axioms Spydr.Verilog.Elab.header_fold
#print axioms Spydr.Verilog.Elab.wires_fold
#print axioms Spydr.Verilog.Elab.elabModule_frag
#print axioms Spydr.Verilog.Elab.elabDesign_frag
#print axioms Spydr.Verilog.Elab.exDesign_frag
#print axioms Spydr.Verilog.Elab.reader_shape_frag
#print axioms Spydr.Verilog.Elab.reader_rows_roundtrip
#print axioms Spydr.Verilog.Elab.portDecl_stub
#print axioms Spydr.Verilog.Elab.fold_local
#print axioms Spydr.Verilog.Elab.elabModule_wshape
#print axioms Spydr.Verilog.Elab.exW_builds
#print axioms Spydr.Verilog.Elab.instantiate_first
#print axioms Spydr.Verilog.Elab.elabDesign_wsingle
#print axioms Spydr.Verilog.Elab.exWI_builds
#print axioms Spydr.Verilog.Elab.exprWires_bits
#print axioms Spydr.Verilog.Elab.buildW3_WF
#print axioms Spydr.Verilog.Elab.instStep2_den
#print axioms Spydr.Verilog.Elab.row_roundtrip
#print axioms Spydr.Verilog.Elab.buildW3_cab
#print axioms Spydr.Verilog.Elab.buildW3_ports
#print axioms Spydr.Verilog.Elab.buildW3_PC
#print axioms Spydr.Verilog.Elab.cables_view
#print axioms Spydr.Verilog.Elab.ports_view
#print axioms Spydr.Verilog.Elab.inst_view_step
#print axioms Spydr.Verilog.Elab.c04_view
#print axioms Spydr.Verilog.Elab.c04_ast
#print axioms Spydr.Verilog.Elab.exNet_frag
#print axioms Spydr.Verilog.Elab.expr_toks
#print axioms Spydr.Verilog.Elab.star_toks
#print axioms Spydr.Verilog.Elab.paramMap_toks
#print axioms Spydr.Verilog.Elab.namedMapGo_toks
#print axioms Spydr.Verilog.Elab.instP_toks
#print axioms Spydr.Verilog.Elab.portDeclP_toks
#print axioms Spydr.Verilog.Elab.cableDeclGo_toks
#print axioms Spydr.Verilog.Elab.bodyGo_items
#print axioms Spydr.Verilog.Elab.moduleP_toks
#print axioms Spydr.Verilog.Elab.parseV_toks
#print axioms Spydr.Verilog.Elab.parse_tokens
#print axioms Spydr.Verilog.Elab.c04_tokens
#print axioms Spydr.Verilog.Elab.exNet_tokens
#print axioms Spydr.Verilog.Elab.c04_text
#print axioms Spydr.Verilog.Elab.exNet_full
#print axioms Spydr.Verilog.Elab.exNet_roundtrip
#print axioms Spydr.Verilog.Elab.regrow_wf
#print axioms Spydr.Verilog.Elab.createOrUpdateCable_wf
#print axioms Spydr.Verilog.Elab.createOrUpdatePort_wf
#print axioms Spydr.Verilog.Elab.reorderPorts_wf
#print axioms Spydr.Verilog.Elab.portDecl_wf
#print axioms Spydr.Verilog.Elab.connectInstRow_wf
#print axioms Spydr.Verilog.Elab.instantiate_wf
#print axioms Spydr.Verilog.Elab.positional_wf
#print axioms Spydr.Verilog.Elab.assignStmt_wf
#print axioms Spydr.Verilog.Elab.elabModule_wf
#print axioms Spydr.Verilog.Elab.elabDesign_wf
#print axioms Spydr.Verilog.Elab.readV_wf
#print axioms Spydr.Verilog.Elab.structWF_iff
#print axioms Spydr.Verilog.Elab.reader_structWF
#print axioms Spydr.Verilog.Elab.elab_structWF
#print axioms Spydr.Verilog.Elab.exNet_structWF
#print axioms Spydr.Verilog.Elab.pending_not_emptied
#print axioms Spydr.Verilog.Elab.composeV_text
#print axioms Spydr.Verilog.Elab.moduleText_top
#print axioms Spydr.Verilog.Elab.fragFull_of
#print axioms Spydr.Verilog.Elab.lexV_run
#print axioms Spydr.Verilog.Elab.add_pend
#print axioms Spydr.Verilog.Elab.add_word_end
#print axioms Spydr.Verilog.Elab.run_clean
#print axioms Spydr.Verilog.Elab.lex_pieces
#print axioms Spydr.Verilog.Elab.lexV_pieces
#print axioms Spydr.Verilog.Elab.chars_modP
#print axioms Spydr.Verilog.Elab.toks_modP
#print axioms Spydr.Verilog.Elab.chars_fileP
#print axioms Spydr.Verilog.Elab.lexR_of_pieces
#print axioms Spydr.Verilog.Elab.c04_text_struct
#print axioms Spydr.Verilog.Elab.exNet_struct
#print axioms Spydr.Verilog.Elab.declStepL_run
#print axioms Spydr.Verilog.Elab.hdrStepL_run
#print axioms Spydr.Verilog.Elab.elabModule_leaf
#print axioms Spydr.Verilog.Elab.elabDesign_bb
#print axioms Spydr.Verilog.Elab.exBB_builds
#print axioms Spydr.Verilog.Elab.foldLeaves_view
#print axioms Spydr.Verilog.Elab.buildLeaf_iface
#print axioms Spydr.Verilog.Elab.foldLeaves_iface
#print axioms Spydr.Verilog.Elab.c04_view_bb
#print axioms Spydr.Verilog.Elab.c04_ast_bb
#print axioms Spydr.Verilog.Elab.exNetBB_frag
#print axioms Spydr.Verilog.Elab.primBodyGo_ports
#print axioms Spydr.Verilog.Elab.moduleP_leaf
#print axioms Spydr.Verilog.Elab.topGo_leaf
#print axioms Spydr.Verilog.Elab.preprocess_keep
#print axioms Spydr.Verilog.Elab.parse_bb
#print axioms Spydr.Verilog.Elab.moduleText_leaf
#print axioms Spydr.Verilog.Elab.composeV_text_bb
#print axioms Spydr.Verilog.Elab.chars_leafP
#print axioms Spydr.Verilog.Elab.toks_leafP
#print axioms Spydr.Verilog.Elab.chars_filePbb
#print axioms Spydr.Verilog.Elab.c04_text_bb
#print axioms Spydr.Verilog.Elab.exNetBB_struct
#print axioms Spydr.Verilog.Elab.exNetBB_roundtrip
#print axioms Spydr.Verilog.Elab.buildBB_low
#print axioms Spydr.Verilog.Elab.c04_full_ast
#print axioms Spydr.Verilog.Elab.c04_full_bb
#print axioms Spydr.Verilog.Elab.exNetBB_full
#print axioms Spydr.Verilog.Elab.nobb_row_shrinks
#print axioms Spydr.Verilog.Elab.exNetRB_full
#print axioms Spydr.Verilog.Elab.instantiate_firstG
#print axioms Spydr.Verilog.Elab.instStep2_runG
#print axioms Spydr.Verilog.Elab.insts_foldG
#print axioms Spydr.Verilog.Elab.declStepA_run
#print axioms Spydr.Verilog.Elab.wire_foldG
#print axioms Spydr.Verilog.Elab.elabModule_lateW
#print axioms Spydr.Verilog.Elab.late_fold
#print axioms Spydr.Verilog.Elab.elabDesign_hier
#print axioms Spydr.Verilog.Elab.exHier_builds
#print axioms Spydr.Verilog.Elab.late_facts
#print axioms Spydr.Verilog.Elab.view_core
#print axioms Spydr.Verilog.Elab.buildLateW_view
#print axioms Spydr.Verilog.Elab.hier_fold
#print axioms Spydr.Verilog.Elab.c04_view_hier
#print axioms Spydr.Verilog.Elab.c04_ast_hier
#print axioms Spydr.Verilog.Elab.exNetH_frag
#print axioms Spydr.Verilog.Elab.topGo_work
#print axioms Spydr.Verilog.Elab.parse_hier
#print axioms Spydr.Verilog.Elab.composeV_text_hier
#print axioms Spydr.Verilog.Elab.chars_filePH
#print axioms Spydr.Verilog.Elab.c04_text_hier
#print axioms Spydr.Verilog.Elab.exNetH_struct
#print axioms Spydr.Verilog.Elab.exNetH_roundtrip
#print axioms Spydr.Verilog.Elab.asgStepR_run
#print axioms Spydr.Verilog.Elab.asg_foldG
#print axioms Spydr.Verilog.Elab.late_prefix
#print axioms Spydr.Verilog.Elab.elabModule_lateWA
#print axioms Spydr.Verilog.Elab.top_prefix
#print axioms Spydr.Verilog.Elab.elabModule_wtopA
#print axioms Spydr.Verilog.Elab.late_foldA
#print axioms Spydr.Verilog.Elab.elabDesign_hierA
#print axioms Spydr.Verilog.Elab.exHierA_builds
#print axioms Spydr.Verilog.Elab.asg_view_step
#print axioms Spydr.Verilog.Elab.asgs_view
#print axioms Spydr.Verilog.Elab.view_coreA
#print axioms Spydr.Verilog.Elab.buildLateWA_view
#print axioms Spydr.Verilog.Elab.hier_foldA
#print axioms Spydr.Verilog.Elab.c04_view_hierA
#print axioms Spydr.Verilog.Elab.c04_ast_hierA
#print axioms Spydr.Verilog.Elab.exNetHA_frag
#print axioms Spydr.Verilog.Elab.exNetHA_has_assigns
#print axioms Spydr.Verilog.Elab.bodyGo_asg
#print axioms Spydr.Verilog.Elab.topGo_mod
#print axioms Spydr.Verilog.Elab.parse_hierA
#print axioms Spydr.Verilog.Elab.assigns_foldA
#print axioms Spydr.Verilog.Elab.instances_foldA
#print axioms Spydr.Verilog.Elab.moduleText_topA
#print axioms Spydr.Verilog.Elab.anys_textA
#print axioms Spydr.Verilog.Elab.composeV_text_hierA
#print axioms Spydr.Verilog.Elab.chars_asgP
#print axioms Spydr.Verilog.Elab.toks_asgP
#print axioms Spydr.Verilog.Elab.chars_modPA
#print axioms Spydr.Verilog.Elab.toks_modPA
#print axioms Spydr.Verilog.Elab.chars_filePHA
#print axioms Spydr.Verilog.Elab.toks_filePHA
#print axioms Spydr.Verilog.Elab.c04_text_hierA
#print axioms Spydr.Verilog.Elab.exNetHA_struct
#print axioms Spydr.Verilog.Elab.exNetHA_roundtrip
#print axioms Spydr.Verilog.Elab.elabModule_eq_tailGP
#print axioms Spydr.Verilog.Elab.buildW3_params
#print axioms Spydr.Verilog.Elab.foldInst_params
#print axioms Spydr.Verilog.Elab.foldAsg_params
#print axioms Spydr.Verilog.Elab.headerParamsGo_toks
#print axioms Spydr.Verilog.Elab.headerParams_toks
#print axioms Spydr.Verilog.Elab.moduleP_toksP
#print axioms Spydr.Verilog.Elab.params_text
#print axioms Spydr.Verilog.Elab.chars_mparamP
#print axioms Spydr.Verilog.Elab.toks_mparamP
#print axioms Spydr.Verilog.Elab.astLeafU_iface
#print axioms Spydr.Verilog.Elab.moduleText_leafU
#print axioms Spydr.Verilog.Elab.chars_leafPU
#print axioms Spydr.Verilog.Elab.toks_leafPU
#print axioms Spydr.Verilog.Elab.preprocess_filter
#print axioms Spydr.Verilog.Elab.leafToksU_filter
#print axioms Spydr.Verilog.Elab.toks_filePHA
#print axioms Spydr.Verilog.Elab.parseV_dropC
#print axioms Spydr.Verilog.Elab.elabModule_prim
#print axioms Spydr.Verilog.Elab.elabModule_leafX
#print axioms Spydr.Verilog.Elab.buildLeafX_facts
#print axioms Spydr.Verilog.Elab.moduleP_leafX
#print axioms Spydr.Verilog.Elab.topGo_leafX
#print axioms Spydr.Verilog.Elab.moduleText_leafX
#print axioms Spydr.Verilog.Elab.chars_leafPX
#print axioms Spydr.Verilog.Elab.toks_leafPX
#print axioms Spydr.Verilog.Elab.leafToksXU_filter
#print axioms Spydr.Verilog.Elab.splitKey_sound
#print axioms Spydr.Verilog.Elab.hp_last
#print axioms Spydr.Verilog.Elab.hp_more
#print axioms Spydr.Verilog.Elab.chars_keyP
#print axioms Spydr.Verilog.Elab.toks_keyP
#print axioms Spydr.Verilog.Elab.createOrUpdateCable_ww
#print axioms Spydr.Verilog.Elab.elabDesign_ww
#print axioms Spydr.Verilog.Elab.reader_wiresWF
#print axioms Spydr.Verilog.Elab.elab_wiresWF
#print axioms Spydr.Verilog.Elab.exNet_wiresWF
#print axioms Spydr.Verilog.Elab.positional_too_many_rejected
#print axioms Spydr.Verilog.Elab.positional_undeclared_creates_ports
