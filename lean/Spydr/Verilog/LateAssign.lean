/-
  Assign statements, reader side, for ANY well-formed table: `assign l = r ;` finds or creates the assignment definition of that
  width and adds the instance `SDN_VERILOG_ASSIGNMENT_<w>_<k>` that connects `o` and `i`.  A work module with assigns and module
  parameters declared late (the assignment counter is reset on entry), and the first module of a file.
-/
import Spydr.Verilog.LateWork
namespace Spydr.Verilog.Elab
open Spydr.Verilog

def asgDef (w : Nat) : Def :=
  ⟨assignDefName w, some "SDN_VERILOG_ASSIGNMENT", false, [], none,
   [⟨some "i", .inp, 0, true, List.replicate w none, none⟩, ⟨some "o", .out, 0, true, List.replicate w none, none⟩], [], []⟩

/-- one assign statement (pure): the new instance of the assignment definition of the right width, which is appended to
    the table if it is not there yet.  `known` = the other definitions of the table, `ac` = the assignment counter. -/
def asgStepR (d : Def) (ac : Nat) (known : List Def) (a : XAtom × XAtom) : Option (Def × List Def) :=
  match atomWires d a.1, atomWires d a.2 with
  | some lw, some rw =>
    let w := min lw.length rw.length
    if d.name ≠ assignDefName w ∧ instIdx d (assignDefName w ++ "_" ++ toString ac) = none then
      let d' : Def := { d with insts := d.insts ++
        [⟨assignDefName w ++ "_" ++ toString ac, assignDefName w, [], none, [(connectAssign lw rw).2, (connectAssign lw rw).1]⟩] }
      match known.find? (fun x => x.name == assignDefName w) with
      | some rd =>
        if rd.lib = some "SDN_VERILOG_ASSIGNMENT" ∧ rd.ports.map (fun p => p.pins.length) = [w, w] then some (d', [])
        else none
      | none => some (d', [asgDef w])
    else none
  | _, _ => none

/-- what `asgStepR` finds when it accepts an assign: both sides evaluate, the instance name is free, the module is not
    the assignment definition itself, which is either known in the right shape or new -/
theorem asgStepR_eq {d : Def} {ac : Nat} {known : List Def} {a : XAtom × XAtom} {d' : Def} {new : List Def}
    (h : asgStepR d ac known a = some (d', new)) :
    ∃ lw rw w, atomWires d a.1 = some lw ∧ atomWires d a.2 = some rw ∧ w = min lw.length rw.length ∧
      d.name ≠ assignDefName w ∧ instIdx d (assignDefName w ++ "_" ++ toString ac) = none ∧
      d' = { d with insts := d.insts ++ [⟨assignDefName w ++ "_" ++ toString ac, assignDefName w, [], none,
        [(connectAssign lw rw).2, (connectAssign lw rw).1]⟩] } ∧
      ((∃ rd, known.find? (fun x => x.name == assignDefName w) = some rd ∧ rd.lib = some "SDN_VERILOG_ASSIGNMENT" ∧
          rd.ports.map (fun p => p.pins.length) = [w, w] ∧ new = []) ∨
        (known.find? (fun x => x.name == assignDefName w) = none ∧ new = [asgDef w])) := by
  unfold asgStepR at h
  split at h
  · rename_i lw rw hlw hrw
    simp only at h
    split at h
    · rename_i hc
      refine ⟨lw, rw, _, hlw, hrw, rfl, hc.1, hc.2, ?_⟩
      split at h
      · rename_i rd hf
        split at h
        · rename_i hc2
          cases h
          exact ⟨rfl, Or.inl ⟨rd, hf, hc2.1, hc2.2, rfl⟩⟩
        · cases h
      · rename_i hf
        cases h
        exact ⟨rfl, Or.inr ⟨hf, rfl⟩⟩
    · cases h
  · cases h

theorem asgStepR_run (s : St) (dn : String) (d : Def) (a : XAtom × XAtom) (d' : Def) (new : List Def)
    (hwf : TableWF s) (hd : Has s dn d) (hcn : (d.cables.map (·.name)).Nodup)
    (h : asgStepR d s.acount (others s dn) a = some (d', new)) :
    ∃ s', elabItem s dn false (.assign a.1 a.2) = .ok s' ∧ Has s' dn d' ∧
      s'.defs = s.defs.map (fun x => if x.name == dn then d' else x) ++ new ∧ s'.next = s.next ∧ s'.top = s.top ∧
      s'.acount = s.acount + 1 ∧ s'.pending = s.pending ∧ d'.name = d.name ∧ d'.cables = d.cables ∧ d'.ports = d.ports ∧
      others s' dn = others s dn ++ new := by
  obtain ⟨lw, rw, w, hlw, hrw, hw, hne, hfresh, rfl, hnew⟩ := asgStepR_eq h
  have hev1 := evalAtomE_fixed s dn a.1 d lw hd hcn hlw
  have hev2 := evalAtomE_fixed s dn a.2 d rw hd hcn hrw
  have hdn : dn ≠ assignDefName w := by rw [← hd.2.1]; exact hne
  obtain ⟨l1, l2⟩ := (connectAssign_spec lw rw).1
  rw [← hw] at l1 l2
  have hnn : ∀ x ∈ new, x.name ≠ dn := by
    rcases hnew with ⟨_, _, _, _, rfl⟩ | ⟨_, rfl⟩
    · intro x hx; cases hx
    · intro x hx; rw [List.mem_singleton.mp hx]; exact fun e => hdn e.symm
  -- the assignment definition is in the table afterwards: found, or appended
  have hens : ∃ s3 rd, ensureAssignDef s w = .ok s3 ∧ Has s3 (assignDefName w) rd ∧ Has s3 dn d ∧
      rd.ports.map (fun p => p.pins.length) = [w, w] ∧ s3.defs = s.defs ++ new ∧ s3.next = s.next ∧ s3.top = s.top ∧
      s3.acount = s.acount ∧ s3.pending = s.pending := by
    rcases hnew with ⟨rd, hf, hlib, hshape, rfl⟩ | ⟨hf, rfl⟩
    · have hHr := find_others_some hwf hf
      refine ⟨s, rd, ?_, hHr, hd, hshape, by simp, rfl, rfl, rfl, rfl⟩
      unfold ensureAssignDef
      rw [hHr.find]
      simp [hlib]
      rfl
    · have hfind := find_others_none hf fun e => hdn e.symm
      refine ⟨{ s with defs := s.defs ++ [asgDef w] }, asgDef w, ?_, Has_append_new s (asgDef w) hfind,
        Has_append_old s (asgDef w) dn d hd (fun e => hdn e.symm), by simp [asgDef], rfl, rfl, rfl, rfl, rfl⟩
      unfold ensureAssignDef
      rw [hfind]
      rfl
  obtain ⟨s3, rd, e1, e2, e3, e4, e5, e6, e7, e8, e9⟩ := hens
  have hchk : (rd.ports.map (fun p => p.pins.length) != [(connectAssign lw rw).2.length, (connectAssign lw rw).1.length]) = false := by
    rw [e4, l1, l2]; simp
  have hfresh3 : instIdx d (assignDefName w ++ "_" ++ toString s3.acount) = none := by rw [e8]; exact hfresh
  refine ⟨({ s3 with acount := s3.acount + 1 } : St).upd dn (fun d => { d with insts := d.insts ++
    [⟨assignDefName w ++ "_" ++ toString s3.acount, assignDefName w, [], none, [(connectAssign lw rw).2, (connectAssign lw rw).1]⟩] }),
    ?_, ?_, ?_, e6, e7, by show s3.acount + 1 = _; rw [e8], e9, rfl, rfl, rfl, ?_⟩
  · unfold elabItem assignStmt
    simp only [Bool.false_eq_true, if_false, bind, Except.bind, hev1, hev2, ← hw, e1, getDef_has e2, hchk, getDef_has e3,
      hfresh3, Option.isSome_none, pure, Except.pure]
  · rw [← e8]
    exact (Has.of_defs (s' := ({ s3 with acount := s3.acount + 1 } : St)) rfl e3).upd _ (fun _ => rfl)
  · show (s3.defs.map _) = _
    rw [e5, List.map_append, ← e8]
    congr 1
    · exact congrArg St.defs (St.upd_congr s dn _ _ d hd (by rfl))
    · exact map_id_of_mem fun x hx => by simp [hnn x hx]
  · unfold others
    show (s3.defs.map _).filter _ = _
    rw [e5, List.map_append, List.filter_append]
    congr 1
    · exact others_map s dn _ (fun _ => rfl)
    · rw [(List.map_congr_left fun x hx => by simp [hnn x hx] : new.map _ = new.map id), List.map_id]
      exact List.filter_eq_self.mpr (by simpa using hnn)

def foldAsg : Def → Nat → List Def → List (XAtom × XAtom) → Option (Def × Nat × List Def)
  | d, ac, known, [] => some (d, ac, known)
  | d, ac, known, a :: as =>
    match asgStepR d ac known a with
    | some r => foldAsg r.1 (ac + 1) (known ++ r.2) as
    | none => none

theorem foldAsg_cons {d : Def} {ac : Nat} {known : List Def} {a : XAtom × XAtom} {as : List (XAtom × XAtom)}
    {r : Def × Nat × List Def} (h : foldAsg d ac known (a :: as) = some r) :
    ∃ d1 new1, asgStepR d ac known a = some (d1, new1) ∧ foldAsg d1 (ac + 1) (known ++ new1) as = some r := by
  rw [foldAsg] at h
  cases hs : asgStepR d ac known a with
  | none => simp [hs] at h
  | some r1 => rw [hs] at h; exact ⟨r1.1, r1.2, rfl, h⟩

theorem foldAsg_pres {β : Type} (proj : Def → β)
    (h : ∀ d ac known a d' new, asgStepR d ac known a = some (d', new) → proj d' = proj d) :
    ∀ (as : List (XAtom × XAtom)) (d : Def) (ac : Nat) (known : List Def) (d' : Def) (ac' : Nat) (known' : List Def),
      foldAsg d ac known as = some (d', ac', known') → proj d' = proj d := by
  intro as
  induction as with
  | nil =>
    intro d ac known d' ac' known' hf
    simp only [foldAsg, Option.some.injEq, Prod.mk.injEq] at hf
    rw [← hf.1]
  | cons a as ih =>
    intro d ac known d' ac' known' hf
    obtain ⟨d1, new1, hs, hf⟩ := foldAsg_cons hf
    exact (ih d1 (ac + 1) (known ++ new1) d' ac' known' hf).trans (h d ac known a d1 new1 hs)

theorem asg_foldG (dn : String) : ∀ (as : List (XAtom × XAtom)) (s : St) (d d' : Def) (ac' : Nat) (known' : List Def),
    TableWF s → Has s dn d → (d.cables.map (·.name)).Nodup →
    foldAsg d s.acount (others s dn) as = some (d', ac', known') →
    ∃ s', (as.map (fun a => Item.assign a.1 a.2)).foldlM (fun s it => elabItem s dn false it) s = .ok s' ∧ TableWF s' ∧
      Has s' dn d' ∧ others s' dn = known' ∧ s'.next = s.next ∧ s'.top = s.top ∧ s'.acount = ac' ∧ s'.pending = s.pending ∧
      d'.name = d.name ∧ d'.cables = d.cables ∧ d'.ports = d.ports ∧
      ∃ new, known' = others s dn ++ new ∧ s'.defs = s.defs.map (fun x => if x.name == dn then d' else x) ++ new := by
  intro as
  induction as with
  | nil =>
    intro s d d' ac' known' hwf hd _ h
    simp only [foldAsg, Option.some.injEq, Prod.mk.injEq] at h
    obtain ⟨h1, h2, h3⟩ := h
    subst h1 h2 h3
    refine ⟨s, rfl, hwf, hd, rfl, rfl, rfl, rfl, rfl, rfl, rfl, rfl, [], by simp, ?_⟩
    rw [List.append_nil]
    exact hd.map_self.symm
  | cons a as ih =>
    intro s d d' ac' known' hwf hd hcn h
    obtain ⟨d1, new1, hs, h⟩ := foldAsg_cons h
    obtain ⟨s1, g1, g2, g3, g4, g5, g6, g7, g8, g9, g10, g11⟩ := asgStepR_run s dn d a d1 new1 hwf hd hcn hs
    have hwf1 : TableWF s1 := elabItem_wf s s1 dn false _ hwf g1
    rw [← g11, ← g6] at h
    obtain ⟨s2, f1, f2, f3, f4, f5, f6, f7, f8, f9, f10, f11, new2, fn2, fd2⟩ := ih s1 d1 d' ac' known' hwf1 g2
      (by rw [g9]; exact hcn) h
    refine ⟨s2, ?_, f2, f3, f4, f5.trans g4, f6.trans g5, f7, f8.trans g7, f9.trans g8, f10.trans g9, f11.trans g10,
      new1 ++ new2, by rw [fn2, g11, List.append_assoc], ?_⟩
    · simp only [List.map_cons, List.foldlM_cons, bind, Except.bind, g1]
      exact f1
    · rw [fd2, g3, List.map_append, map_replace_twice dn d1 d' (g8.trans hd.2.1), List.append_assoc,
        map_other dn d' new1 fun x hx =>
          (mem_others.mp (show x ∈ others s1 dn by rw [g11]; exact List.mem_append_right _ hx)).2]

/-- the counter of assignments does not matter at the start of a module that is no primitive: it is reset -/
theorem elabModule_acount (s : St) (M : Module) (hp : M.prim = false) :
    elabModule s M = elabModule { s with acount := 0 } M := by
  obtain ⟨defs, next, top, ac, pend⟩ := s
  unfold elabModule St.ensure St.find getDef
  simp only [hp, Bool.false_eq_true, if_false]
  cases top <;> cases hf : defs.find? (fun d => d.name == M.name) <;> simp only [St.find, hf] <;> rfl

def buildLateWA (L : Def) (ls : List Def) (n : Nat) (m : WModA) (topName : String) :
    Option (Def × List Def × Nat × List (Nat × Nat)) :=
  if L.lib = none ∧ L.insts = [] ∧ L.ports.map (·.name) = (m.base.ports.map (·.name)).map some ∧
      (m.base.ports.map (·.name)).Nodup ∧ m.base.insts.all (fun i => i.mod != topName) = true ∧ L.params = [] then
    match foldLocal hdrStepL (entryDef L m.params) n (m.base.ports.map (·.name)) with
    | none => none
    | some r1 =>
      match foldDeclA r1.1 r1.2 m.base.ports with
      | none => none
      | some r2 =>
        match foldLocal wireStep r2.1 r2.2.1 m.base.wires with
        | none => none
        | some r3 =>
          if (r3.1.cables.map (·.name)).Nodup then
            match foldAsg r3.1 0 (ls.map (fun x => padOpsD x m.base.name r2.2.2)) m.asgs with
            | none => none
            | some ra =>
              match foldInst ra.1 ra.2.2 m.base.insts with
              | none => none
              | some r4 => some (withAttrs m.base.attrs r4.1, r4.2, r3.2, r2.2.2)
          else none
  else none

theorem buildLateWA_some (L : Def) (ls : List Def) (n : Nat) (m : WModA) (t : String) (D : Def) (ls' : List Def) (n' : Nat)
    (ops : List (Nat × Nat)) (hb : buildLateWA L ls n m t = some (D, ls', n', ops)) :
    (L.lib = none ∧ L.insts = [] ∧ L.ports.map (·.name) = (m.base.ports.map (·.name)).map some ∧
      (m.base.ports.map (·.name)).Nodup ∧ m.base.insts.all (fun i => i.mod != t) = true ∧ L.params = []) ∧
    ∃ d1 n1 d2 n2 d3 d3a aca lsa d4, foldLocal hdrStepL (entryDef L m.params) n (m.base.ports.map (·.name)) = some (d1, n1) ∧
      foldDeclA d1 n1 m.base.ports = some (d2, n2, ops) ∧ foldLocal wireStep d2 n2 m.base.wires = some (d3, n') ∧
      (d3.cables.map (·.name)).Nodup ∧
      foldAsg d3 0 (ls.map (fun x => padOpsD x m.base.name ops)) m.asgs = some (d3a, aca, lsa) ∧
      foldInst d3a lsa m.base.insts = some (d4, ls') ∧ D = withAttrs m.base.attrs d4 := by
  unfold buildLateWA at hb
  split at hb
  rotate_left
  · cases hb
  rename_i hc
  split at hb
  · cases hb
  rename_i r1 h1
  split at hb
  · cases hb
  rename_i r2 h2
  split at hb
  · cases hb
  rename_i r3 h3
  split at hb
  rotate_left
  · cases hb
  rename_i hcn
  split at hb
  · cases hb
  rename_i ra ha
  split at hb
  · cases hb
  rename_i r4 h4
  simp only [Option.some.injEq, Prod.mk.injEq] at hb
  obtain ⟨rfl, rfl, rfl, rfl⟩ := hb
  exact ⟨hc, _, _, _, _, _, _, _, _, _, h1, h2, h3, hcn, ha, h4, rfl⟩

theorem asg_suffix (S3 : St) (name : String) (attrs : Attrs) (asgs : List (XAtom × XAtom)) (insts : List NInst)
    (d3 d3a d4 : Def) (aca : Nat) (lsa ls4 : List Def) (hwf : TableWF S3) (hH : Has S3 name d3) (hname : d3.name = name)
    (hcn : (d3.cables.map (·.name)).Nodup) (hmods : ∀ i ∈ insts, S3.top ≠ some i.mod)
    (ha : foldAsg d3 S3.acount (others S3 name) asgs = some (d3a, aca, lsa))
    (h4 : foldInst d3a lsa insts = some (d4, ls4)) :
    ∃ s', (do let s' ← (asgs.map (fun a => Item.assign a.1 a.2) ++ insts.map NInst.item).foldlM
                (fun s it => elabItem s name false it) S3
              pure (if attrs.isEmpty then s' else s'.upd name (fun d => { d with attrs := some attrs }))) = Except.ok s' ∧
      TableWF s' ∧ Has s' name (withAttrs attrs d4) ∧ others s' name = ls4 ∧ s'.next = S3.next ∧ s'.top = S3.top ∧
      s'.pending = S3.pending ∧
      ∃ new, ls4 = others S3 name ++ new ∧
        s'.defs = S3.defs.map (fun x => if x.name == name then withAttrs attrs d4 else x) ++ new := by
  obtain ⟨S3a, a1, a2, a3, a4, a5, a6, _, a8, a9, a10, _, newA, an1, an2⟩ := asg_foldG name asgs S3 d3 d3a aca lsa hwf hH hcn ha
  obtain ⟨s', k1, k2, k3, k4, k5, k6, _, k8, newI, kn, kd⟩ := inst_suffix S3a name attrs insts d3a d4 ls4 a2 a3
    (a9.trans hname) (by rw [a10]; exact hcn) (by rw [a6]; exact hmods) (by rw [a4]; exact h4)
  refine ⟨s', ?_, k2, k3, k4, by rw [k5, a5], by rw [k6, a6], by rw [k8, a8], newA ++ newI,
    by rw [kn, a4, an1, List.append_assoc], ?_⟩
  · simp only [List.foldlM_append, bind, Except.bind, a1] at k1 ⊢
    exact k1
  · rw [kd, an2, List.map_append, map_replace_twice name d3a _ (a9.trans hname), List.append_assoc,
      map_other name _ newA fun x hx =>
        (mem_others.mp (show x ∈ others S3a name by rw [a4, an1]; exact List.mem_append_right _ hx)).2]

theorem elabModule_lateWA (s : St) (m : WModA) (t : String) (L D : Def) (ls' : List Def) (n' : Nat) (ops : List (Nat × Nat))
    (hwf : TableWF s) (hL : Has s m.base.name L) (htop : s.top = some t)
    (hb : buildLateWA L (others s m.base.name) s.next m t = some (D, ls', n', ops)) :
    ∃ s', elabModule s m.toModule = .ok s' ∧ TableWF s' ∧ Has s' m.base.name D ∧ others s' m.base.name = ls' ∧ s'.next = n' ∧
      s'.top = s.top ∧ s'.pending = s.pending ∧
      ∃ new, ls' = (others s m.base.name).map (fun x => padOpsD x m.base.name ops) ++ new ∧
        s'.defs = s.defs.map (fun x => if x.name == m.base.name then D else padOpsD x m.base.name ops) ++ new := by
  -- the counter of assignments is reset on entry
  rw [elabModule_acount s m.toModule rfl]
  generalize hs0 : ({ s with acount := 0 } : St) = s0
  have hd0 : s0.defs = s.defs := by rw [← hs0]
  have hwf0 : TableWF s0 := by
    rw [← hs0]; exact ⟨hwf.defs, hwf.glob, hwf.top⟩
  have hL0 : Has s0 m.base.name L := Has.of_defs hd0 hL
  have htop0 : s0.top = some t := by rw [← hs0]; exact htop
  have hac0 : s0.acount = 0 := by rw [← hs0]
  have ho0 : others s0 m.base.name = others s m.base.name := by unfold others; rw [hd0]
  have hn0 : s0.next = s.next := by rw [← hs0]
  have hp0 : s0.pending = s.pending := by rw [← hs0]
  have ht0 : s0.top = s.top := by rw [← hs0]
  rw [← hd0, ← ho0, ← hp0, ← ht0]
  rw [← ho0, ← hn0] at hb
  clear hs0 hd0 ho0 hn0 hp0 hwf hL htop ht0
  obtain ⟨⟨hlib, hi, hnames, hnd, hmods, _⟩, d1, n1, d2, n2, d3, d3a, aca, lsa, d4, h1, h2, h3, hcn, ha, h4, rfl⟩ :=
    buildLateWA_some _ _ _ _ _ _ _ _ _ hb
  obtain ⟨S3, p1, p2, p3, p4, p5, p6, p7, p8, p9, p10⟩ := late_prefix s0 m.base.name m.base.attrs m.params m.base.ports
    m.base.wires (m.asgs.map (fun a => Item.assign a.1 a.2) ++ m.base.insts.map NInst.item) t L d1 d2 d3 n1 n2 n'
    ops hwf0 hL0 htop0 hac0 hlib hi hnames hnd h1 h2 h3
  obtain ⟨s', k1, k2, k3, k4, k5, k6, k8, new, kn, kd⟩ := asg_suffix S3 m.base.name m.base.attrs m.asgs m.base.insts d3 d3a d4
    aca lsa ls' p2 p3 p10 hcn
    (by
      intro i hi' e
      rw [p6] at e
      have := List.all_eq_true.mp hmods i hi'
      simp [(Option.some.inj e).symm] at this)
    (by rw [p7, p4]; exact ha) h4
  refine ⟨s', ?_, k2, k3, k4, by rw [k5, p5], by rw [k6, p6, htop0], by rw [k8, p8], new, by rw [kn, p4],
    by rw [kd, p9, map_replace_twice' m.base.name d3 _ p10 (padOpsD · m.base.name ops) fun _ => rfl]⟩
  have hrun : elabModule s0 m.toModule = elabModule s0 ⟨m.base.name, false, m.base.attrs, m.params,
      m.base.ports.map (fun p => ⟨p.name, none, none, none⟩),
      m.base.ports.map PDecl.item ++ m.base.wires.map FWire.item ++
        (m.asgs.map (fun a => Item.assign a.1 a.2) ++ m.base.insts.map NInst.item)⟩ := by
    unfold WModA.toModule; rw [List.append_assoc]
  rw [hrun, p1]; exact k1

/-- the definition of the first module of a file on entry -/
def topDef (name : String) (params : Params) : Def := ⟨name, some "work", false, mergeParams [] params, none, [], [], []⟩

theorem top_prefix (name : String) (params : Params) (ports : List PDecl) (wires : List FWire) (d3 : Def) (n3 : Nat)
    (h3 : buildW3 (topDef name params) 0 ports wires = some (d3, n3)) :
    (∀ (attrs : Attrs) (rest : List Item),
      elabModule ⟨[], 0, none, 0, []⟩ ⟨name, false, attrs, params, ports.map (fun p => ⟨p.name, none, none, none⟩),
        ports.map PDecl.item ++ wires.map FWire.item ++ rest⟩ =
      (do let s' ← rest.foldlM (fun s it => elabItem s name false it) (S2 d3 [] n3 (some name))
          pure (if attrs.isEmpty then s' else s'.upd name (fun d => { d with attrs := some attrs })))) ∧
    TableWF (S2 d3 [] n3 (some name)) ∧ Has (S2 d3 [] n3 (some name)) name d3 ∧ d3.name = name ∧ d3.insts = [] := by
  generalize hd0 : topDef name params = d0 at h3
  have hd0n : d0.name = name := by rw [← hd0]; rfl
  have hs3 : (if params.isEmpty then afterEntry ⟨[], 0, none, 0, []⟩ name false else
      (afterEntry ⟨[], 0, none, 0, []⟩ name false).upd name (fun d => { d with params := mergeParams d.params params })) =
      S2 d0 [] 0 (some name) := by
    rw [afterEntry_s0 name]
    split
    · rename_i he
      have hp : params = [] := List.isEmpty_iff.mp he
      rw [← hd0, hp]; rfl
    · have := upd_S2_top (⟨name, some "work", false, [], none, [], [], []⟩ : Def) [] 0 (some name)
        (fun d => { d with params := mergeParams d.params params }) (by intro l hl; cases hl)
      rw [this, ← hd0]; rfl
  have hH3 : Has (S2 d0 [] 0 (some name)) name d0 := by
    rw [← hd0n]; exact Has_S2_top d0 [] 0 _ (by intro l hl; cases hl)
  have hN3 : NoRef (S2 d0 [] 0 (some name)) name := by
    intro x hx i hi
    simp only [S2, List.mem_singleton] at hx
    rw [hx, ← hd0] at hi
    cases hi
  obtain ⟨hP, hn3, hi3⟩ := wshape_phases (S2 d0 [] 0 (some name)) name ports wires d0 d3 n3 hH3 hN3
    (by rw [← hd0]; rfl) h3
  rw [← hd0n, put_S2 d0 [] 0 _ d3 n3 (by intro l hl; cases hl), hd0n] at hP
  have hd3n : d3.name = name := hn3.trans hd0n
  have key : ∀ (attrs : Attrs) (rest : List Item),
      elabModule ⟨[], 0, none, 0, []⟩ ⟨name, false, attrs, params, ports.map (fun p => ⟨p.name, none, none, none⟩),
        ports.map PDecl.item ++ wires.map FWire.item ++ rest⟩ =
      (do let s' ← rest.foldlM (fun s it => elabItem s name false it) (S2 d3 [] n3 (some name))
          pure (if attrs.isEmpty then s' else s'.upd name (fun d => { d with attrs := some attrs }))) := by
    intro attrs rest
    rw [elabModule_eq_tailGP _ _ rfl]
    show elabTailG (if params.isEmpty then afterEntry ⟨[], 0, none, 0, []⟩ name false else
      (afterEntry ⟨[], 0, none, 0, []⟩ name false).upd name (fun d => { d with params := mergeParams d.params params })) _ = _
    rw [hs3, elabTailG_wPhases, hP]
    rfl
  refine ⟨key, ?_, ?_, hd3n, hi3⟩
  · have := key [] []
    simp only [List.foldlM_nil, pure, Except.pure, bind, Except.bind, List.isEmpty_nil, if_true] at this
    exact elabModule_wf _ _ _ tableWF_init this
  · rw [← hd3n]; exact Has_S2_top d3 [] n3 _ (by intro l hl; cases hl)

/-- the table after the top module with assigns (pure): its definition, the definitions it created, the wire counter -/
def buildTopA (m : WModA) : Option (Def × List Def × Nat) :=
  match buildW3 (topDef m.base.name m.params) 0 m.base.ports m.base.wires with
  | none => none
  | some r3 =>
    if (r3.1.cables.map (·.name)).Nodup ∧ m.base.insts.all (fun i => i.mod != m.base.name) = true then
      match foldAsg r3.1 0 [] m.asgs with
      | none => none
      | some ra =>
        match foldInst ra.1 ra.2.2 m.base.insts with
        | none => none
        | some r4 => some (withAttrs m.base.attrs r4.1, r4.2, r3.2)
    else none

theorem buildTopA_some (m : WModA) (D : Def) (ls : List Def) (n : Nat) (hb : buildTopA m = some (D, ls, n)) :
    ∃ d3 d3a aca lsa d4, buildW3 (topDef m.base.name m.params) 0 m.base.ports m.base.wires = some (d3, n) ∧
      (d3.cables.map (·.name)).Nodup ∧ m.base.insts.all (fun i => i.mod != m.base.name) = true ∧
      foldAsg d3 0 [] m.asgs = some (d3a, aca, lsa) ∧ foldInst d3a lsa m.base.insts = some (d4, ls) ∧
      D = withAttrs m.base.attrs d4 := by
  unfold buildTopA at hb
  split at hb
  · cases hb
  rename_i r3 h3
  split at hb
  rotate_left
  · cases hb
  rename_i hc
  split at hb
  · cases hb
  rename_i ra ha
  split at hb
  · cases hb
  rename_i r4 h4
  simp only [Option.some.injEq, Prod.mk.injEq] at hb
  obtain ⟨rfl, rfl, rfl⟩ := hb
  exact ⟨_, _, _, _, _, h3, hc.1, hc.2, ha, h4, rfl⟩

theorem elabModule_wtopA (m : WModA) (D : Def) (ls : List Def) (n : Nat) (hb : buildTopA m = some (D, ls, n)) :
    ∃ s', elabModule ⟨[], 0, none, 0, []⟩ m.toModule = .ok s' ∧ TableWF s' ∧ s'.defs = D :: ls ∧ s'.next = n ∧
      s'.top = some m.base.name ∧ s'.pending = [] ∧ Has s' m.base.name D := by
  obtain ⟨d3, d3a, aca, lsa, d4, h3, hcn, hself, ha, h4, rfl⟩ := buildTopA_some m D ls n hb
  obtain ⟨key, hwf3, hH3, hd3n, hi3⟩ := top_prefix m.base.name m.params m.base.ports m.base.wires d3 n h3
  generalize hS3 : S2 d3 [] n (some m.base.name) = S3 at key hwf3 hH3
  have ho3 : others S3 m.base.name = [] := by
    rw [← hS3]; unfold others S2; simp [hd3n]
  obtain ⟨s', k1, k2, k3, k4, k5, k6, k8, new, kn, kd⟩ := asg_suffix S3 m.base.name m.base.attrs m.asgs m.base.insts d3 d3a d4
    aca lsa ls hwf3 hH3 hd3n hcn
    (by
      intro i hi' e
      rw [← hS3] at e
      have := List.all_eq_true.mp hself i hi'
      simp [(Option.some.inj e).symm] at this)
    (by rw [ho3, ← hS3]; exact ha) h4
  refine ⟨s', ?_, k2, ?_, by rw [k5, ← hS3]; rfl, by rw [k6, ← hS3]; rfl, by rw [k8, ← hS3]; rfl, k3⟩
  · have hrun : elabModule ⟨[], 0, none, 0, []⟩ m.toModule = elabModule ⟨[], 0, none, 0, []⟩ ⟨m.base.name, false,
        m.base.attrs, m.params, m.base.ports.map (fun p => ⟨p.name, none, none, none⟩),
        m.base.ports.map PDecl.item ++ m.base.wires.map FWire.item ++
          (m.asgs.map (fun a => Item.assign a.1 a.2) ++ m.base.insts.map NInst.item)⟩ := by
      unfold WModA.toModule; rw [List.append_assoc]
    rw [hrun, key]; exact k1
  · rw [kd, kn, ho3, ← hS3]
    simp [S2, hd3n]
end Spydr.Verilog.Elab
