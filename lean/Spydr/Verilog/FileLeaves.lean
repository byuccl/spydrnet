/-
  A file that consists of a module in the writer's shape followed by the `celldefine` modules of the modules it instantiates
  (`write_blackbox=True` over primitives), through the real `elabDesign`: the table is the pure `buildBB`.
-/
import Spydr.Verilog.LateModule
namespace Spydr.Verilog.Elab
open Spydr.Verilog

theorem padOps_S2 (ls : List Def) (n : Nat) (t : Option String) (dn : String) (hl : ∀ l ∈ ls, l.insts = []) :
    ∀ (ops : List (Nat × Nat)) (D : Def), padOps (S2 D ls n t) dn ops = S2 (padOpsD D dn ops) ls n t := by
  intro ops
  induction ops with
  | nil =>
    intro D
    have hid : padOpsI dn [] = id := by funext i; rfl
    simp only [padOps, List.foldl_nil, padOpsD, hid, List.map_id]
  | cons op ops ih =>
    intro D
    have h1 : padS (S2 D ls n t) dn op.1 op.2 = S2 (padD D dn op.1 op.2) ls n t := by
      unfold padS
      rw [mapInstRows_S2 D ls n t dn op.1 _ hl]
      rfl
    simp only [padOps, List.foldl_cons]
    rw [h1]
    have := ih (padD D dn op.1 op.2)
    simp only [padOps] at this
    rw [this]
    congr 1
    simp only [padOpsD, padD, List.map_map]
    congr 1

def setLeaf (ls : List Def) (name : String) (L' : Def) : List Def := ls.map (fun l => if l.name == name then L' else l)

theorem put_S2_leaf (D : Def) (ls : List Def) (n : Nat) (t : Option String) (name : String) (L' : Def) (n' : Nat)
    (hne : D.name ≠ name) : (S2 D ls n t).put name L' n' = S2 D (setLeaf ls name L') n' t := by
  unfold St.put withNext St.upd S2 setLeaf
  simp [hne]

theorem mem_setLeaf {ls : List Def} {name : String} {L' l' : Def} (h : l' ∈ setLeaf ls name L') :
    (l' = L' ∧ ∃ l ∈ ls, l.name = name) ∨ (l' ∈ ls ∧ l'.name ≠ name) := by
  obtain ⟨l, hl, e⟩ := List.mem_map.mp h
  by_cases en : l.name = name
  · simp only [en, beq_self_eq_true, if_true] at e
    exact Or.inl ⟨e.symm, l, hl, en⟩
  · simp only [show (l.name == name) = false by simp [en], Bool.false_eq_true, if_false] at e
    exact Or.inr (e ▸ ⟨hl, en⟩)

theorem setLeaf_mem_self {ls : List Def} {name : String} {L : Def} (L' : Def) (hL : L ∈ ls) (hn : L.name = name) :
    L' ∈ setLeaf ls name L' :=
  List.mem_map.mpr ⟨L, hL, by simp [hn]⟩

theorem setLeaf_mem_other {ls : List Def} {name : String} {l : Def} (L' : Def) (hl : l ∈ ls) (hn : l.name ≠ name) :
    l ∈ setLeaf ls name L' :=
  List.mem_map.mpr ⟨l, hl, by simp [hn]⟩

theorem setLeaf_names (ls : List Def) (name : String) (L' : Def) (hn : L'.name = name) :
    (setLeaf ls name L').map (·.name) = ls.map (·.name) := by
  unfold setLeaf
  rw [List.map_map]
  apply List.map_congr_left
  intro l _
  simp only [Function.comp]
  by_cases e : l.name = name
  · simp [e, hn]
  · simp [e]

theorem LInv_leaf (D : Def) (ls : List Def) (name : String) (L L' : Def) (ops : List (Nat × Nat)) (inv : LInv D ls)
    (hL : L ∈ ls) (hLn : L.name = name) (hn : L'.name = name) (hi : L'.insts = []) (hp : L'.ports.length = L.ports.length) :
    LInv (padOpsD D name ops) (setLeaf ls name L') := by
  have hmem : ∀ l' ∈ setLeaf ls name L', ∃ l ∈ ls, l'.name = l.name ∧ l'.insts = [] ∧ l'.ports.length = l.ports.length := by
    intro l' hl'
    rcases mem_setLeaf hl' with ⟨rfl, l, hl, en⟩ | ⟨hl, _⟩
    · have : l = L := nodup_map_inj (·.name) ls inv.nodup l hl L hL (en.trans hLn.symm)
      exact ⟨l, hl, hn.trans en.symm, hi, by rw [hp, this]⟩
    · exact ⟨l', hl, rfl, inv.linsts l' hl, rfl⟩
  have himg : ∀ l ∈ ls, ∃ l' ∈ setLeaf ls name L', l'.name = l.name := by
    intro l hl
    by_cases en : l.name = name
    · exact ⟨L', setLeaf_mem_self L' hl en, hn.trans en.symm⟩
    · exact ⟨l, setLeaf_mem_other L' hl en, rfl⟩
  refine ⟨by rw [setLeaf_names ls name L' hn]; exact inv.nodup, ?_, ?_, ?_, ?_, inv.cables⟩
  · intro l' hl'
    obtain ⟨l, hl, e, _, _⟩ := hmem l' hl'
    rw [e]; exact inv.names l hl
  · intro l' hl'
    exact (hmem l' hl').choose_spec.2.2.1
  · intro j' hj'
    obtain ⟨j, hj, e⟩ := List.mem_map.mp hj'
    obtain ⟨rd, hrd, hrn⟩ := inv.closed j hj
    obtain ⟨rd', hrd', e'⟩ := himg rd hrd
    exact ⟨rd', hrd', by rw [e', hrn, ← e, (padOpsI_facts name ops j).2.1]⟩
  · intro j' hj' rd' hrd' hrn'
    obtain ⟨j, hj, e⟩ := List.mem_map.mp hj'
    obtain ⟨rd, hrd, e1, _, e3⟩ := hmem rd' hrd'
    obtain ⟨f1, f2, f3⟩ := padOpsI_facts name ops j
    have := inv.full j hj rd hrd (by rw [← e1, hrn', ← e, f2])
    rw [e3, ← e]; omega

def foldLeaves : Def → List Def → Nat → List WLeaf → Option (Def × List Def × Nat)
  | D, ls, n, [] => some (D, ls, n)
  | D, ls, n, m :: ms =>
    match ls.find? (fun l => l.name == m.name) with
    | some L =>
      match buildLeaf L n m.ports with
      | some r => foldLeaves (padOpsD D m.name r.2.2) (setLeaf ls m.name r.1) r.2.1 ms
      | none => none
    | none => none

theorem foldLeaves_cons {D : Def} {ls : List Def} {n : Nat} {m : WLeaf} {ms : List WLeaf} {r : Def × List Def × Nat}
    (h : foldLeaves D ls n (m :: ms) = some r) :
    ∃ L L' n1 ops, ls.find? (fun l => l.name == m.name) = some L ∧ buildLeaf L n m.ports = some (L', n1, ops) ∧
      foldLeaves (padOpsD D m.name ops) (setLeaf ls m.name L') n1 ms = some r := by
  rw [foldLeaves] at h
  split at h
  · rename_i L hf
    split at h
    · rename_i r1 hb
      exact ⟨L, _, _, _, hf, hb, h⟩
    · cases h
  · cases h

theorem leaf_step (D : Def) (ls : List Def) (n : Nat) (t : Option String) (m : WLeaf) (L L' : Def) (n' : Nat)
    (ops : List (Nat × Nat)) (inv : LInv D ls) (hf : ls.find? (fun l => l.name == m.name) = some L)
    (hb : buildLeaf L n m.ports = some (L', n', ops)) :
    elabModule (S2 D ls n t) m.toModule = .ok (S2 (padOpsD D m.name ops) (setLeaf ls m.name L') n' t) ∧
      LInv (padOpsD D m.name ops) (setLeaf ls m.name L') ∧ L'.name = m.name ∧ L'.ports.length = L.ports.length ∧
      (∀ op ∈ ops, op.1 < L.ports.length) := by
  have hLm := List.mem_of_find?_eq_some hf
  have hLn : L.name = m.name := by simpa using List.find?_some hf
  have hne : D.name ≠ L.name := fun e => inv.names L hLm e.symm
  have hH : Has (S2 D ls n t) m.name L := by rw [← hLn]; exact Has_S2_leaf D ls n t L hLm hne inv.nodup
  have hR : RowsFull (S2 D ls n t) m.name L.ports.length := by
    intro x hx j hj href
    rcases List.mem_cons.mp hx with e | e
    · rw [e] at hj; exact inv.full j hj L hLm (hLn.trans href.symm)
    · rw [inv.linsts x e] at hj; cases hj
  obtain ⟨g1, g2, g3, g4, g5⟩ := elabModule_leaf (S2 D ls n t) m L L' n' ops hH hR hb
  refine ⟨?_, LInv_leaf D ls m.name L L' ops inv hLm hLn g2 g3 g4, g2, g4, g5⟩
  rw [g1, padOps_S2 ls n t m.name inv.linsts, put_S2_leaf _ _ _ _ _ _ _ (by
    show D.name ≠ m.name
    rw [← hLn]; exact hne)]

theorem leaves_fold (t : Option String) : ∀ (ms : List WLeaf) (D : Def) (ls : List Def) (n : Nat) (D' : Def) (ls' : List Def)
    (n' : Nat), LInv D ls → foldLeaves D ls n ms = some (D', ls', n') →
    (ms.map WLeaf.toModule).foldlM elabModule (S2 D ls n t) = .ok (S2 D' ls' n' t) ∧ LInv D' ls' := by
  intro ms
  induction ms with
  | nil =>
    intro D ls n D' ls' n' inv h
    cases h
    exact ⟨rfl, inv⟩
  | cons m ms ih =>
    intro D ls n D' ls' n' inv h
    obtain ⟨L, L', n1, ops, hf, hb, h⟩ := foldLeaves_cons h
    obtain ⟨g1, g2, _, _, _⟩ := leaf_step D ls n t m L L' n1 ops inv hf hb
    obtain ⟨f1, f2⟩ := ih _ _ _ D' ls' n' g2 h
    refine ⟨?_, f2⟩
    simp only [List.map_cons, List.foldlM_cons, bind, Except.bind, g1]
    exact f1

/-- the table the reader builds for a file that consists of the top module followed by primitive modules (pure) -/
def buildBB (m : WModI) (leaves : List WLeaf) : Option (List Def × Nat) :=
  match buildW3 ⟨m.name, some "work", false, [], none, [], [], []⟩ 0 m.ports m.wires with
  | none => none
  | some r3 =>
    if (r3.1.cables.map (·.name)).Nodup then
      match foldInst r3.1 [] m.insts with
      | none => none
      | some r4 =>
        match foldLeaves (withAttrs m.attrs r4.1) r4.2 r3.2 leaves with
        | none => none
        | some r5 => some ((r5.1 :: r5.2.1).map markBB, r5.2.2)
    else none

theorem LInv.withAttrs {d : Def} {ls : List Def} (inv : LInv d ls) (a : Attrs) : LInv (withAttrs a d) ls := by
  unfold Elab.withAttrs
  split
  · exact inv
  · exact ⟨inv.nodup, inv.names, inv.linsts, inv.closed, inv.full, inv.cables⟩

theorem buildBB_inv {m : WModI} {leaves : List WLeaf} {defs : List Def} {n : Nat} (hb : buildBB m leaves = some (defs, n)) :
    ∃ d3 n3 d4 ls4 D ls, buildW3 ⟨m.name, some "work", false, [], none, [], [], []⟩ 0 m.ports m.wires = some (d3, n3) ∧
      (d3.cables.map (·.name)).Nodup ∧ foldInst d3 [] m.insts = some (d4, ls4) ∧
      foldLeaves (withAttrs m.attrs d4) ls4 n3 leaves = some (D, ls, n) ∧ defs = (D :: ls).map markBB := by
  unfold buildBB at hb
  split at hb
  · cases hb
  · rename_i r3 h3
    split at hb
    · rename_i hcn
      split at hb
      · cases hb
      · rename_i r4 h4
        split at hb
        · cases hb
        · rename_i r5 h5
          cases hb
          exact ⟨_, _, _, _, _, _, h3, hcn, h4, h5, rfl⟩
    · cases hb

/-- **elabDesign_bb.**  A file that consists of a module in the writer's shape followed by the `celldefine` modules of
    (some of) the modules it instantiates, through the REAL `elabDesign`: the table is `buildBB`. -/
theorem elabDesign_bb (m : WModI) (leaves : List WLeaf) (defs : List Def) (n : Nat) (hb : buildBB m leaves = some (defs, n)) :
    elabDesign (m.toModule :: leaves.map WLeaf.toModule) = .ok ⟨defs, n, some m.name, 0, []⟩ := by
  obtain ⟨d3, n3, d4, ls4, D, ls, h3, hcn, h4, h5, rfl⟩ := buildBB_inv hb
  obtain ⟨hE, inv4, hd4n⟩ := elabModule_wtop m d3 n3 d4 ls4 h3 hcn h4
  obtain ⟨hF, _⟩ := leaves_fold (some m.name) leaves _ ls4 n3 D ls n (inv4.withAttrs m.attrs) h5
  unfold withAttrs at hF
  exact elabDesign_eq (by rw [List.foldlM_cons, hE]; exact hF) rfl

/-- non-vacuity: `exWI` followed by `celldefine` modules of its two primitives; the address port of `RAM` is declared
    `[3:0]` after an instance connected four bits, `I1` of `LUT2` after an instance left it open -/
def exLeaves : List WLeaf :=
  [⟨"LUT2", [⟨"I0", .inp, none, []⟩, ⟨"I1", .inp, none, []⟩, ⟨"O", .out, none, []⟩]⟩,
   ⟨"RAM", [⟨"addr", .inp, some (3, 0), []⟩, ⟨"q", .out, none, []⟩]⟩]

theorem exBB_builds : (buildBB exWI exLeaves).isSome = true := by decide +kernel
end Spydr.Verilog.Elab
