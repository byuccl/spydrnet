/-
  A whole WORK module declared after it was instantiated, through the real `elabModule` in any well-formed table: its stub
  becomes the built definition, the instance rows of the other definitions are padded, the modules it instantiates first are
  appended.
-/
import Spydr.Verilog.LateInstances
import Spydr.Verilog.LateModule
namespace Spydr.Verilog.Elab
open Spydr.Verilog

theorem acount_eta (s : St) (h : s.acount = 0) : ({ s with acount := 0 } : St) = s := by
  cases s; simp_all

/-- the definition a work module declared after its instances ends with (pure), the other definitions (instance rows
    padded, new modules appended), the wire counter and the row paddings -/
def buildLateW (L : Def) (ls : List Def) (n : Nat) (m : WModI) (topName : String) :
    Option (Def × List Def × Nat × List (Nat × Nat)) :=
  if L.lib = none ∧ L.insts = [] ∧ L.ports.map (·.name) = (m.ports.map (·.name)).map some ∧
      (m.ports.map (·.name)).Nodup ∧ m.insts.all (fun i => i.mod != topName) = true then
    match foldLocal hdrStepL { L with lib := some "work" } n (m.ports.map (·.name)) with
    | none => none
    | some r1 =>
      match foldDeclA r1.1 r1.2 m.ports with
      | none => none
      | some r2 =>
        match foldLocal wireStep r2.1 r2.2.1 m.wires with
        | none => none
        | some r3 =>
          if (r3.1.cables.map (·.name)).Nodup then
            match foldInst r3.1 (ls.map (fun x => padOpsD x m.name r2.2.2)) m.insts with
            | none => none
            | some r4 => some (withAttrs m.attrs r4.1, r4.2, r3.2, r2.2.2)
          else none
  else none

theorem buildLateW_some (L : Def) (ls : List Def) (n : Nat) (m : WModI) (t : String) (D : Def) (ls' : List Def) (n' : Nat)
    (ops : List (Nat × Nat)) (hb : buildLateW L ls n m t = some (D, ls', n', ops)) :
    (L.lib = none ∧ L.insts = [] ∧ L.ports.map (·.name) = (m.ports.map (·.name)).map some ∧
      (m.ports.map (·.name)).Nodup ∧ m.insts.all (fun i => i.mod != t) = true) ∧
    ∃ d1 n1 d2 n2 d3 d4, foldLocal hdrStepL { L with lib := some "work" } n (m.ports.map (·.name)) = some (d1, n1) ∧
      foldDeclA d1 n1 m.ports = some (d2, n2, ops) ∧ foldLocal wireStep d2 n2 m.wires = some (d3, n') ∧
      (d3.cables.map (·.name)).Nodup ∧ foldInst d3 (ls.map (fun x => padOpsD x m.name ops)) m.insts = some (d4, ls') ∧
      D = withAttrs m.attrs d4 := by
  unfold buildLateW at hb
  split at hb
  rotate_left
  · cases hb
  rename_i hc
  split at hb
  · cases hb
  rename_i r1 h1
  split at hb
  · cases hb
  rename_i r2 h2
  split at hb
  · cases hb
  rename_i r3 h3
  split at hb
  rotate_left
  · cases hb
  rename_i hcn
  split at hb
  · cases hb
  rename_i r4 h4
  simp only [Option.some.injEq, Prod.mk.injEq] at hb
  obtain ⟨rfl, rfl, rfl, rfl⟩ := hb
  exact ⟨hc, _, _, _, _, _, _, h1, h2, h3, hcn, h4, rfl⟩

theorem defs_put_padOps (s : St) (dn : String) (d : Def) (n : Nat) (ops : List (Nat × Nat)) :
    ((padOps s dn ops).put dn d n).defs = s.defs.map (fun x => if x.name == dn then d else padOpsD x dn ops) := by
  unfold St.put withNext St.upd
  simp only
  rw [(padOps_defs dn ops s).1, List.map_map]
  apply List.map_congr_left
  intro x _
  show (if ((padOpsD x dn ops).name == dn) = true then d else padOpsD x dn ops) = _
  rw [padOpsD_name]

theorem others_put_padOps (s : St) (dn : String) (d : Def) (n : Nat) (ops : List (Nat × Nat)) (hn : d.name = dn) :
    others ((padOps s dn ops).put dn d n) dn = (others s dn).map (fun x => padOpsD x dn ops) := by
  unfold others
  rw [defs_put_padOps]
  exact others_map_if s dn (fun _ => d) (padOpsD · dn ops) (fun _ _ => hn) fun _ => rfl

def entryDef (L : Def) (params : Params) : Def := { L with lib := some "work", params := mergeParams L.params params }

/-- The rest of the items is left over, so that the lemma serves modules with and without assigns. -/
theorem late_prefix (s : St) (name : String) (attrs : Attrs) (params : Params) (ports : List PDecl) (wires : List FWire)
    (rest : List Item) (t : String) (L d1 d2 d3 : Def) (n1 n2 n3 : Nat) (ops : List (Nat × Nat))
    (hwf : TableWF s) (hL : Has s name L) (htop : s.top = some t) (hac : s.acount = 0)
    (hlib : L.lib = none) (hi : L.insts = []) (hnames : L.ports.map (·.name) = (ports.map (·.name)).map some)
    (hnd : (ports.map (·.name)).Nodup)
    (h1 : foldLocal hdrStepL (entryDef L params) s.next (ports.map (·.name)) = some (d1, n1))
    (h2 : foldDeclA d1 n1 ports = some (d2, n2, ops)) (h3 : foldLocal wireStep d2 n2 wires = some (d3, n3)) :
    ∃ S3, elabModule s ⟨name, false, attrs, params, ports.map (fun p => ⟨p.name, none, none, none⟩),
        ports.map PDecl.item ++ wires.map FWire.item ++ rest⟩ =
        (do let s' ← rest.foldlM (fun s it => elabItem s name false it) S3
            pure (if attrs.isEmpty then s' else s'.upd name (fun d => { d with attrs := some attrs }))) ∧
      TableWF S3 ∧ Has S3 name d3 ∧ others S3 name = (others s name).map (fun x => padOpsD x name ops) ∧
      S3.next = n3 ∧ S3.top = some t ∧ S3.acount = 0 ∧ S3.pending = s.pending ∧
      S3.defs = s.defs.map (fun x => if x.name == name then d3 else padOpsD x name ops) ∧ d3.name = name := by
  generalize hL1 : entryDef L params = L1 at h1
  have hL1n : L1.name = L.name := by rw [← hL1]; rfl
  have hL1i : L1.insts = [] := by rw [← hL1]; exact hi
  have hL1p : L1.ports = L.ports := by rw [← hL1]; rfl
  have hLn : L1.name = name := hL1n.trans hL.2.1
  generalize hS1 : s.put name L1 s.next = S1
  have hs1 : s.upd name (fun d => entryDef d params) = S1 := by
    rw [← hS1, ← hL1]; exact (withNext_self _).symm.trans (upd_eq_put s name L _ s.next hL)
  have hS1wf : TableWF S1 :=
    hs1 ▸ upd_meta_wf s name _ (fun _ => rfl) (fun _ => rfl) (fun _ => rfl) (fun _ => rfl) hwf
  have hH1 : Has S1 name L1 := by rw [← hS1]; exact hL.put L1 _ hL1n
  have hR1 : RowsFull S1 name L1.ports.length := by
    rw [← hS1, hL1p]
    have := rowsFull_of_wf hwf hL.1
    rw [hL.2.1] at this
    exact this.put _ _ _ hL1i
  have hS1n : S1.next = s.next := by rw [← hS1]; rfl
  rw [← hS1n] at h1
  obtain ⟨g1, g2, g3, _⟩ := hdr_foldL name (ports.map (·.name)) S1 L1 d1 n1 hH1 hL1i hR1 h1
  have hwf2 : TableWF (S1.put name d1 n1) :=
    foldlM_inv TableWF (fun _ _ _ _ hw hh => (headerPort_pres hw hh).1) hS1wf g1
  obtain ⟨f1, f2, _⟩ := decl_foldA name ports (S1.put name d1 n1) d1 d2 n2 ops (hH1.put d1 _ g2) g3
    (by rw [put_next]; exact h2)
  have hT := modTail_late S1 name false ports (wires.map FWire.item ++ rest) L1 d1 d2 n1 n2 ops hH1 hL1i hR1
    (by rw [hL1p]; exact hnames) hnd h1 f1
  have hS2 : (padOps S1 name ops).put name d2 n2 = (padOps s name ops).put name d2 n2 := by
    rw [← hS1, padOps_put name L1 hL1i ops s s.next, St.put_put _ name L1 d2 _ _ hLn]
  rw [padOps_put name d1 g3, St.put_put _ name d1 d2 _ _ (g2.trans hLn), hS2] at f1
  rw [hS2] at hT
  have hHp : Has (padOps s name ops) name L := hL.padOps hi ops
  have hd2n : d2.name = name := (f2.trans g2).trans hLn
  obtain ⟨w1, w2, _⟩ := wire_foldG name wires ((padOps s name ops).put name d2 n2) d2 d3 n3
    (hHp.put d2 _ (hd2n.trans hL.2.1.symm)) (by rw [put_next]; exact h3)
  rw [St.put_put _ name d2 d3 _ _ hd2n] at w1
  have hd3n : d3.name = name := w2.trans hd2n
  have hwf3 : TableWF ((padOps s name ops).put name d3 n3) :=
    foldlM_inv TableWF (fun _ _ _ _ hw hh => elabItem_wf _ _ _ _ _ hw hh)
      (foldlM_inv TableWF (fun _ _ _ _ hw hh => elabItem_wf _ _ _ _ _ hw hh) hwf2 f1) w1
  refine ⟨(padOps s name ops).put name d3 n3, ?_, hwf3, hHp.put d3 _ (hd3n.trans hL.2.1.symm),
    others_put_padOps s name d3 n3 ops hd3n, rfl, ?_, ?_, ?_, defs_put_padOps s name d3 n3 ops, hd3n⟩
  · rw [elabModule_known s _ L hL hlib (.inr (by rw [htop]; rfl))]
    have hent : ({ s with acount := 0 } : St).put name (entryDef L params) s.next = S1 := by
      rw [acount_eta s hac, hL1, hS1]
    simp only [Bool.false_eq_true, if_false]
    show (do
      let s' ← modTail (({ s with acount := 0 } : St).put name (entryDef L params) s.next) name false _ _
      pure _) = _
    rw [hent, List.append_assoc, hT]
    simp only [List.foldlM_append, List.foldlM_map, bind, Except.bind, w1]
  · show (padOps s name ops).top = _; rw [(padOps_defs name ops s).2.2.1]; exact htop
  · show (padOps s name ops).acount = _; rw [(padOps_defs name ops s).2.2.2.1]; exact hac
  · show (padOps s name ops).pending = _; rw [(padOps_defs name ops s).2.2.2.2]

theorem attrs_fin (S4 : St) (name : String) (attrs : Attrs) (d4 : Def) (hwf : TableWF S4) (hH : Has S4 name d4) :
    ∃ s', (if attrs.isEmpty = true then S4 else S4.upd name (fun d => { d with attrs := some attrs })) = s' ∧
      TableWF s' ∧ Has s' name (withAttrs attrs d4) ∧ others s' name = others S4 name ∧ s'.next = S4.next ∧
      s'.top = S4.top ∧ s'.acount = S4.acount ∧ s'.pending = S4.pending ∧
      s'.defs = S4.defs.map (fun x => if x.name == name then withAttrs attrs d4 else x) := by
  unfold withAttrs
  split
  · refine ⟨S4, rfl, hwf, hH, rfl, rfl, rfl, rfl, rfl, ?_⟩
    exact hH.map_self.symm
  · refine ⟨_, rfl, upd_meta_wf S4 name _ (fun _ => rfl) (fun _ => rfl) (fun _ => rfl) (fun _ => rfl) hwf,
      hH.upd _ (fun _ => rfl), others_map S4 name _ (fun _ => rfl), rfl, rfl, rfl, rfl, ?_⟩
    exact congrArg St.defs (St.upd_congr S4 name _ _ d4 hH (by rfl))

theorem inst_suffix (S : St) (name : String) (attrs : Attrs) (insts : List NInst) (d d4 : Def) (ls4 : List Def)
    (hwf : TableWF S) (hH : Has S name d) (hname : d.name = name) (hcn : (d.cables.map (·.name)).Nodup)
    (hmods : ∀ i ∈ insts, S.top ≠ some i.mod) (h4 : foldInst d (others S name) insts = some (d4, ls4)) :
    ∃ s', (do let s' ← (insts.map NInst.item).foldlM (fun s it => elabItem s name false it) S
              pure (if attrs.isEmpty then s' else s'.upd name (fun d => { d with attrs := some attrs }))) = Except.ok s' ∧
      TableWF s' ∧ Has s' name (withAttrs attrs d4) ∧ others s' name = ls4 ∧ s'.next = S.next ∧ s'.top = S.top ∧
      s'.acount = S.acount ∧ s'.pending = S.pending ∧
      ∃ new, ls4 = others S name ++ new ∧
        s'.defs = S.defs.map (fun x => if x.name == name then withAttrs attrs d4 else x) ++ new := by
  obtain ⟨S4, i1, i2, i3, i4, i5, i6, i7, i8, i9, _, new, in1, in2⟩ := insts_foldG name insts S d d4 ls4 hwf hH hmods hcn h4
  obtain ⟨s', k1, k2, k3, k4, k5, k6, k7, k8, k9⟩ := attrs_fin S4 name attrs d4 i2 i3
  refine ⟨s', ?_, k2, k3, by rw [k4, i4], by rw [k5, i5], by rw [k6, i6], by rw [k7, i7], by rw [k8, i8], new, in1, ?_⟩
  · simp only [bind, Except.bind, i1, pure, Except.pure]
    exact congrArg Except.ok k1
  · rw [k9, in2, List.map_append, map_replace_twice name d4 _ (i9.trans hname), map_other name _ new fun x hx =>
      (mem_others.mp (show x ∈ others S4 name by rw [i4, in1]; exact List.mem_append_right _ hx)).2]

theorem elabModule_lateW (s : St) (m : WModI) (t : String) (L D : Def) (ls' : List Def) (n' : Nat) (ops : List (Nat × Nat))
    (hwf : TableWF s) (hL : Has s m.name L) (htop : s.top = some t) (hac : s.acount = 0)
    (hb : buildLateW L (others s m.name) s.next m t = some (D, ls', n', ops)) :
    ∃ s', elabModule s m.toModule = .ok s' ∧ TableWF s' ∧ Has s' m.name D ∧ others s' m.name = ls' ∧ s'.next = n' ∧
      s'.top = s.top ∧ s'.acount = 0 ∧ s'.pending = s.pending ∧
      ∃ new, ls' = (others s m.name).map (fun x => padOpsD x m.name ops) ++ new ∧
        s'.defs = s.defs.map (fun x => if x.name == m.name then D else padOpsD x m.name ops) ++ new := by
  obtain ⟨⟨hlib, hi, hnames, hnd, hmods⟩, d1, n1, d2, n2, d3, d4, h1, h2, h3, hcn, h4, rfl⟩ := buildLateW_some _ _ _ _ _ _ _ _ _ hb
  obtain ⟨S3, p1, p2, p3, p4, p5, p6, p7, p8, p9, p10⟩ := late_prefix s m.name m.attrs [] m.ports m.wires
    (m.insts.map NInst.item) t L d1 d2 d3 n1 n2 n' ops hwf hL htop hac hlib hi hnames hnd h1 h2 h3
  obtain ⟨s', k1, k2, k3, k4, k5, k6, k7, k8, new, kn, kd⟩ := inst_suffix S3 m.name m.attrs m.insts d3 d4 ls' p2 p3 p10 hcn
    (by
      intro i hi' e
      rw [p6] at e
      have := List.all_eq_true.mp hmods i hi'
      simp [(Option.some.inj e).symm] at this)
    (by rw [p4]; exact h4)
  exact ⟨s', p1.trans k1, k2, k3, k4, by rw [k5, p5], by rw [k6, p6, htop], by rw [k7, p7], by rw [k8, p8], new,
    by rw [kn, p4], by rw [kd, p9, map_replace_twice' m.name d3 _ p10 (padOpsD · m.name ops) fun _ => rfl]⟩
end Spydr.Verilog.Elab
