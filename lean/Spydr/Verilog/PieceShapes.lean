/-
  The pieces of the `celldefine` shapes, as instances of the frame (`chars_frameP`, `toks_frameP`; a leaf without
  attributes and parameters is `leafPX` at `[]`, `[]`), and of whole files of modules: their characters are the rendering,
  their tokens the tokens of the syntax trees.
-/
import Spydr.Verilog.PieceModule
namespace Spydr.Verilog.Elab
open Spydr.Verilog
open Spydr.Verilog.Text (fixName showInt)

def leafPX (lf : WLeafX) : List Piece :=
  cellP ++ starP lf.attrs ++
    (T "module" ++ W1 ++ N (fixName lf.base.name) ++ NL ++ mparamP lf.params ++ T "(" ++
      List.intercalate (T ",") (lf.base.ports.map (fun p => NL ++ W4 ++ N (fixName p.name))) ++ NL ++ T ")" ++ T ";" ++ NL ++ NL) ++
    ((lf.base.ports.map portPU).flatten ++ NL) ++
    T "endmodule" ++ NL ++ endcellP ++ NL

theorem leafPX_frame (lf : WLeafX) : leafPX lf = frameP true lf.attrs lf.base.name lf.params (lf.base.ports.map (·.name))
    (lf.base.ports.map portPU).flatten [] := by
  simp [leafPX, frameP, List.map_map, Function.comp_def, List.append_assoc]

theorem renderLeafX_frame (lf : WLeafX) : renderLeafX lf = frameText true lf.attrs lf.base.name lf.params
    (lf.base.ports.map (·.name)) (String.join (lf.base.ports.map portLine)) "" := by
  delta renderLeafX
  simp [frameText, List.map_map, Function.comp_def, String.append_assoc]

theorem renderLeaf_frame (lf : WLeaf) : renderLeaf lf = frameText true [] lf.name [] (lf.ports.map (·.name))
    (String.join (lf.ports.map portLine)) "" := by
  delta renderLeaf
  simp [frameText, mparamsText, starText, Text.starConstraints, List.map_map, Function.comp_def, String.append_assoc]

theorem chars_leafPX (lf : WLeafX) : pchars (leafPX lf) = (renderLeafX lf).toList:= by
  rw [leafPX_frame, renderLeafX_frame]
  exact chars_frameP _ _ _ _ _ _ _ _ _ (pchars_lines _ _ chars_portPU _) rfl

theorem toks_leafPX (lf : WLeafX) (hd : ∀ p ∈ lf.base.ports, p.attrs = []) : ptoks (leafPX lf) = leafToksXU lf:= by
  rw [leafPX_frame, toks_frameP, ptoks_lines _ portCoreU _ (fun p hp => toks_portPU p (hd p hp))]
  simp [frameToks, leafToksXU, ptoks_nil]

def leafPU (lf : WLeaf) : List Piece :=
  cellP ++
    (T "module" ++ W1 ++ N (fixName lf.name) ++ NL ++ T "(" ++
      List.intercalate (T ",") (lf.ports.map (fun p => NL ++ W4 ++ N (fixName p.name))) ++ NL ++ T ")" ++ T ";" ++ NL ++ NL) ++
    ((lf.ports.map portPU).flatten ++ NL) ++
    T "endmodule" ++ NL ++ endcellP ++ NL

theorem chars_leafPU (lf : WLeaf) : pchars (leafPU lf) = (renderLeaf lf).toList:= by
  have h := chars_leafPX ⟨lf, [], []⟩
  rw [show renderLeafX ⟨lf, [], []⟩ = renderLeaf lf by rw [renderLeafX_frame, renderLeaf_frame]] at h
  simpa [leafPU, leafPX, mparamP, starP, pchars_append] using h

theorem toks_leafPU (lf : WLeaf) (hd : ∀ p ∈ lf.ports, p.attrs = []) : ptoks (leafPU lf) = leafToksU lf:= by
  simpa [leafPU, leafPX, mparamP, starP, ptoks_append, leafToksXU, leafToksU, starToks, mparamToks]
    using toks_leafPX ⟨lf, [], []⟩ hd

def leafP (lf : WLeaf) : List Piece :=
  cellP ++
    (T "module" ++ W1 ++ N (fixName lf.name) ++ NL ++ T "(" ++
      List.intercalate (T ",") (lf.ports.map (fun p => NL ++ W4 ++ N (fixName p.name))) ++ NL ++ T ")" ++ T ";" ++ NL ++ NL) ++
    ((lf.ports.map portP).flatten ++ NL) ++
    T "endmodule" ++ NL ++ endcellP ++ NL

theorem leafP_frame (lf : WLeaf) : leafP lf = frameP true [] lf.name [] (lf.ports.map (·.name)) (lf.ports.map portP).flatten [] := by
  simp [leafP, frameP, mparamP, starP, List.map_map, Function.comp_def, List.append_assoc]

theorem chars_leafP (lf : WLeaf) : pchars (leafP lf) = (renderLeaf lf).toList:= by
  rw [leafP_frame, renderLeaf_frame]
  exact chars_frameP _ _ _ _ _ _ _ _ _ (pchars_lines _ _ chars_portP _) rfl

theorem toks_leafP (lf : WLeaf) (hd : ∀ p ∈ lf.ports, p.dir ≠ .undef ∧ p.attrs = []) : ptoks (leafP lf) = leafToks lf:= by
  rw [leafP_frame, toks_frameP, ptoks_lines _ (fun p => portCore p.dir p.rng p.name) _ (fun p hp => by
    rw [toks_portP p (hd p hp).1]; simp [SItem.toks, SItem.attrs, SItem.core, (hd p hp).2, starToks])]
  simp [frameToks, leafToks, leafCore, mparamToks, starToks, ptoks_nil]

def anyPiecesA : WAnyPA → List Piece
  | .work m => modPA m
  | .leaf lf => leafPX lf

def filePA (n : Text.WNet) (m : WModPA) : List Piece :=
  [.self "//Generated from netlist by SpyDrNet\n" "//Generated from netlist by SpyDrNet",
   .self ("//netlist name: " ++ fixName n.name ++ "\n") ("//netlist name: " ++ fixName n.name)] ++ modPA m

theorem chars_filePA (n : Text.WNet) (m : WModPA) : pchars (filePA n m) = (fileHeader n ++ renderModA m).toList := by
  rw [fileHeader_split]
  unfold filePA
  rw [pchars_append, chars_modPA]
  simp only [pchars_cons, pchars_nil, Piece.chars, String.toList_append, List.append_nil, List.append_assoc]

def filePHA (n : Text.WNet) (m : WModPA) (Ps : List WAnyPA) : List Piece := filePA n m ++ (Ps.map anyPiecesA).flatten

theorem chars_filePHA (n : Text.WNet) (m : WModPA) (Ps : List WAnyPA) :
    pchars (filePHA n m Ps) = (fileHeader n ++ (renderModA m ++ String.join (Ps.map renderAnyA))).toList:= by
  unfold filePHA
  rw [pchars_append, chars_filePA, pchars_lines anyPiecesA renderAnyA (fun P => by
    cases P with
    | work m' => exact chars_modPA m'
    | leaf lf => exact chars_leafPX lf)]
  simp [String.toList_append, List.append_assoc]

def anyDirOKA : WAnyPA → Prop
  | .work m => ∀ p ∈ m.base.ports, p.dir ≠ .undef
  | .leaf lf => ∀ p ∈ lf.base.ports, p.attrs = []

/-- the tokens the lexer returns for the whole file, comments removed (the two header lines and the
    `/* undefined port direction */` comments of the leaves), are the tokens of the syntax trees -/
theorem toks_filePHA (n : Text.WNet) (m : WModPA) (Ps : List WAnyPA) (hd : ∀ p ∈ m.base.ports, p.dir ≠ .undef)
    (hl : ∀ P ∈ Ps, anyDirOKA P) (hc2 : Text.isCommentTok ("//netlist name: " ++ fixName n.name) = true)
    (hm : tokOKA m.toA = true) (hok : ∀ P ∈ Ps, anyOKA P.toAny = true) :
    ((filePHA n m Ps).flatMap Piece.toks).filter notC = fileToksA m.toA (Ps.map WAnyPA.toAny):= by
  have hclean : (tokensOfA m.toA).filter notC = tokensOfA m.toA := by
    simp only [tokOKA, Bool.and_eq_true] at hm; exact filter_keep (keep_of_clean _ hm.2)
  have h2 := ptoks_lines_filter anyPiecesA (fun P => anyToksA P.toAny) Ps (fun P hP => by
    have hPo := hok P hP
    have hPd := hl P hP
    cases P with
    | work m' =>
      simp only [WAnyPA.toAny, anyOKA, tokOKA, Bool.and_eq_true] at hPo
      simpa [anyPiecesA, WAnyPA.toAny, anyToksA, toks_modPA m' hPd] using filter_keep (keep_of_clean _ hPo.2)
    | leaf lf => simpa [anyPiecesA, WAnyPA.toAny, anyToksA, toks_leafPX lf hPd] using leafToksXU_filter lf hPo)
  show (ptoks (filePA n m ++ (Ps.map anyPiecesA).flatten)).filter notC = _
  rw [ptoks_append, List.filter_append, h2]
  simp [filePA, ptoks_cons, Piece.toks, toks_modPA m hd, notC, gen_comment, hc2, hclean, fileToksA, List.flatMap_map]

def anyPieces : WAnyP → List Piece
  | .work m => modP m
  | .leaf lf => leafP lf

def filePH (n : Text.WNet) (m : WModP) (Ps : List WAnyP) : List Piece := fileP n m ++ (Ps.map anyPieces).flatten

theorem chars_filePH (n : Text.WNet) (m : WModP) (Ps : List WAnyP) :
    pchars (filePH n m Ps) = (fileHeader n ++ (renderMod m ++ String.join (Ps.map renderAny))).toList:= by
  unfold filePH
  rw [pchars_append, chars_fileP, pchars_lines anyPieces renderAny (fun P => by
    cases P with
    | work m' => exact chars_modP m'
    | leaf lf => exact chars_leafP lf)]
  simp [String.toList_append, List.append_assoc]

def anyDirOK : WAnyP → Prop
  | .work m => ∀ p ∈ m.ports, p.dir ≠ .undef
  | .leaf lf => ∀ p ∈ lf.ports, p.dir ≠ .undef ∧ p.attrs = []

theorem toks_filePH (n : Text.WNet) (m : WModP) (Ps : List WAnyP) (hd : ∀ p ∈ m.ports, p.dir ≠ .undef)
    (hl : ∀ P ∈ Ps, anyDirOK P) :
    (filePH n m Ps).flatMap Piece.toks =
      ["//Generated from netlist by SpyDrNet", "//netlist name: " ++ fixName n.name] ++ fileToks m.toI (Ps.map WAnyP.toAny):= by
  show ptoks (fileP n m ++ (Ps.map anyPieces).flatten) = _
  rw [ptoks_append, ptoks_lines anyPieces (fun P => anyToks P.toAny) Ps (fun P hP => by
    cases P with
    | work m' => exact toks_modP m' (hl _ hP)
    | leaf lf => exact toks_leafP lf (hl _ hP))]
  simp [fileP, ptoks_cons, Piece.toks, toks_modP m hd, fileToks, List.flatMap_map]

def filePbb (n : Text.WNet) (m : WModP) (leaves : List WLeaf) : List Piece := fileP n m ++ (leaves.map leafP).flatten

theorem filePbb_eq (n : Text.WNet) (m : WModP) (leaves : List WLeaf) : filePbb n m leaves = filePH n m (leaves.map .leaf) := by
  simp [filePbb, filePH, anyPieces, List.map_map, Function.comp_def]

theorem chars_filePbb (n : Text.WNet) (m : WModP) (leaves : List WLeaf) :
    pchars (filePbb n m leaves) = (fileHeader n ++ (renderMod m ++ String.join (leaves.map renderLeaf))).toList:= by
  simpa [filePbb_eq, renderAny, List.map_map, Function.comp_def] using chars_filePH n m (leaves.map .leaf)

theorem toks_filePbb (n : Text.WNet) (m : WModP) (leaves : List WLeaf) (hd : ∀ p ∈ m.ports, p.dir ≠ .undef)
    (hl : ∀ lf ∈ leaves, ∀ p ∈ lf.ports, p.dir ≠ .undef ∧ p.attrs = []) :
    (filePbb n m leaves).flatMap Piece.toks =
      ["//Generated from netlist by SpyDrNet", "//netlist name: " ++ fixName n.name] ++ bbToks m.toI leaves:= by
  have := toks_filePH n m (leaves.map .leaf) hd (by simpa [anyDirOK] using hl)
  simpa [filePbb_eq, fileToks, bbToks, List.flatMap_map, anyToks, WAnyP.toAny, List.map_map, Function.comp_def] using this

theorem anyDirOK_of (P : WAnyP) (h : anyOK P.toAny = true) : anyDirOK P := by
  cases P with
  | work m => exact ports_dir_of_tokOK m h
  | leaf lf => exact leafOK_dirs h

theorem anyDirOKA_of (P : WAnyPA) (h : anyOKA P.toAny = true) : anyDirOKA P := by
  cases P with
  | work m => exact ports_dir_of_tokOKA m h
  | leaf lf =>
    intro p hp
    exact (leafOK_dirs (leafOKX_parts (lf := inoutifyX lf) h).1 _ (List.mem_map_of_mem hp)).2

end Spydr.Verilog.Elab
