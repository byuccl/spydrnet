/-
  Verilog engine — `structWF` / `TableWF`: whatever the reader accepts is well-formed and self-contained.  The structural invariant of
  the reader's table (`DefWF` inside a definition, `GlobalWF` across definitions, `TableWF` for the state), the changes of
  a table that keep it, and `create_or_update_cable`.  The wire ids of a definition (`WW`: distinct, below the counter, no
  net without one), the steps that leave the wires alone (`Keep`), and `Pres`: what every function of the elaborator does
  to a well-formed table, the form in which the files after this one go through the elaborator once for both.
-/
import Spydr.Verilog.RoundTripState
namespace Spydr.Verilog.Elab
open Spydr.Verilog

def wiresOf (d : Def) : List Nat := d.cables.flatMap (·.wires)

def RowOK (d : Def) (row : List (Option Nat)) : Prop := ∀ w, some w ∈ row → w ∈ wiresOf d

/-- inside one definition: named ports, cables and instances have distinct names; every connected pin (of a port, of an
    instance) is on a wire of a cable of this very definition -/
structure DefWF (d : Def) : Prop where
  ports : (d.ports.filterMap (·.name)).Nodup
  cables : (d.cables.map (·.name)).Nodup
  insts : (d.insts.map (·.name)).Nodup
  ppins : ∀ p ∈ d.ports, RowOK d p.pins
  ipins : ∀ i ∈ d.insts, ∀ row ∈ i.pins, RowOK d row

/-- what the rest of the table sees of a definition: its name, the widths of its ports, and for every instance the module
    it refers to and the widths of its pin rows -/
abbrev Shape := String × List Nat × List (String × List Nat)

def shape (d : Def) : Shape :=
  (d.name, d.ports.map (fun p => p.pins.length), d.insts.map (fun i => (i.ref, i.pins.map List.length)))

/-- across definitions: distinct names; every instance's module is in the table (`closed`); every instance carries one pin
    row per port of its module, each exactly as wide as that port is in the same table (`mirror`: when a port grows, the rows grow with it) -/
structure GlobalWF (L : List Shape) : Prop where
  names : (L.map (·.1)).Nodup
  closed : ∀ sh ∈ L, ∀ ir ∈ sh.2.2, ∃ sh' ∈ L, sh'.1 = ir.1
  mirror : ∀ sh ∈ L, ∀ ir ∈ sh.2.2, ∀ sh' ∈ L, sh'.1 = ir.1 → ir.2 = sh'.2.1

structure TableWF (s : St) : Prop where
  defs : ∀ d ∈ s.defs, DefWF d
  glob : GlobalWF (s.defs.map shape)
  top : ∀ t, s.top = some t → ∃ d ∈ s.defs, d.name = t

def wiresIn (s : St) (dn : String) : List Nat :=
  match s.find dn with
  | some d => wiresOf d
  | none => []

/-- nets only grow -/
def Grow (s s' : St) : Prop := ∀ dn w, w ∈ wiresIn s dn → w ∈ wiresIn s' dn

theorem ite_of {α : Type} {P : α → Prop} {c : Prop} [Decidable c] {a b : α} (ha : P a) (hb : P b) :
    P (if c then a else b) := by
  split
  · exact ha
  · exact hb

theorem TableWF.names {s : St} (h : TableWF s) : (s.defs.map (·.name)).Nodup := by
  have := h.glob.names
  rw [List.map_map] at this
  exact this

theorem find_has {s : St} (h : TableWF s) {n : String} {d : Def} (hf : s.find n = some d) : Has s n d := by
  unfold St.find at hf
  have hm := List.mem_of_find?_eq_some hf
  have hn : d.name = n := by simpa using List.find?_some hf
  exact ⟨hm, hn, fun d' hd' e => nodup_map_inj (·.name) s.defs h.names d' hd' d hm (e.trans hn.symm)⟩

theorem getDef_find {s : St} {n : String} {d : Def} (h : getDef s n = .ok d) : s.find n = some d := by
  unfold getDef at h
  split at h
  · cases h; assumption
  · cases h

theorem getDef_ok {s : St} (hs : TableWF s) {n : String} {d : Def} (h : getDef s n = .ok d) : Has s n d :=
  find_has hs (getDef_find h)

/-- the instance refers to a definition of the list and has one pin row per port of it, each as wide as the port -/
def Fits (L : List Def) (i : Inst) : Prop :=
  ∃ y ∈ L, y.name = i.ref ∧ i.pins.map List.length = y.ports.map (fun p => p.pins.length)

theorem TableWF.fits {s : St} (h : TableWF s) {x : Def} {i : Inst} (hx : x ∈ s.defs) (hi : i ∈ x.insts) :
    Fits s.defs i := by
  obtain ⟨sh, hsh, e⟩ := h.glob.closed (shape x) (List.mem_map_of_mem hx) (i.ref, i.pins.map List.length)
    (List.mem_map_of_mem hi)
  obtain ⟨y, hy, rfl⟩ := List.mem_map.mp hsh
  exact ⟨y, hy, e, h.glob.mirror _ (List.mem_map_of_mem hx) _ (List.mem_map_of_mem hi) _ (List.mem_map_of_mem hy) e⟩

theorem TableWF.of_defs {s : St} (hd : ∀ d ∈ s.defs, DefWF d) (hn : (s.defs.map (·.name)).Nodup)
    (hfit : ∀ x ∈ s.defs, ∀ i ∈ x.insts, Fits s.defs i) (ht : ∀ t, s.top = some t → ∃ d ∈ s.defs, d.name = t) :
    TableWF s := by
  refine ⟨hd, ⟨by rw [List.map_map]; exact hn, ?_, ?_⟩, ht⟩
  · intro sh hsh ir hir
    obtain ⟨x, hx, rfl⟩ := List.mem_map.mp hsh
    obtain ⟨i, hi, rfl⟩ := List.mem_map.mp hir
    obtain ⟨y, hy, e, _⟩ := hfit x hx i hi
    exact ⟨shape y, List.mem_map_of_mem hy, e⟩
  · intro sh hsh ir hir sh' hsh' e'
    obtain ⟨x, hx, rfl⟩ := List.mem_map.mp hsh
    obtain ⟨i, hi, rfl⟩ := List.mem_map.mp hir
    obtain ⟨y', hy', rfl⟩ := List.mem_map.mp hsh'
    obtain ⟨y, hy, e, hl⟩ := hfit x hx i hi
    rw [nodup_map_inj (·.name) s.defs hn y' hy' y hy (e'.trans e.symm)]
    exact hl

/-- rewriting every definition under its name: each result is well-formed and every instance fits the rewritten module -/
theorem TableWF.map {s : St} (hs : TableWF s) (F : Def → Def) (hn : ∀ x ∈ s.defs, (F x).name = x.name)
    (hwf : ∀ x ∈ s.defs, DefWF (F x))
    (hfit : ∀ x ∈ s.defs, ∀ i ∈ (F x).insts, ∃ y ∈ s.defs, y.name = i.ref ∧
      i.pins.map List.length = (F y).ports.map (fun p => p.pins.length)) :
    TableWF { s with defs := s.defs.map F } := by
  refine TableWF.of_defs ?_ ?_ ?_ ?_
  · intro d' hd'
    obtain ⟨x, hx, rfl⟩ := List.mem_map.mp hd'
    exact hwf x hx
  · show ((s.defs.map F).map (·.name)).Nodup
    rw [List.map_map, List.map_congr_left (g := (·.name)) hn]
    exact hs.names
  · intro x' hx' i hi
    obtain ⟨x, hx, rfl⟩ := List.mem_map.mp hx'
    obtain ⟨y, hy, e, hl⟩ := hfit x hx i hi
    exact ⟨F y, List.mem_map_of_mem hy, (hn y hy).trans e, hl⟩
  · intro t ht
    obtain ⟨d, hd, e⟩ := hs.top t ht
    exact ⟨F d, List.mem_map_of_mem hd, (hn d hd).trans e⟩

/-- rewriting definitions without changing their shapes: only their own well-formedness has to be re-established -/
theorem TableWF.map_shape {s : St} (hs : TableWF s) (F : Def → Def)
    (hF : ∀ x ∈ s.defs, shape (F x) = shape x ∧ DefWF (F x)) : TableWF { s with defs := s.defs.map F } := by
  have hmap : (s.defs.map F).map shape = s.defs.map shape := by
    rw [List.map_map]; exact List.map_congr_left fun x hx => (hF x hx).1
  refine ⟨?_, by show GlobalWF ((s.defs.map F).map shape); rw [hmap]; exact hs.glob, ?_⟩
  · intro d' hd'
    obtain ⟨x, hx, rfl⟩ := List.mem_map.mp hd'
    exact (hF x hx).2
  · intro t ht
    obtain ⟨d, hd, e⟩ := hs.top t ht
    exact ⟨F d, List.mem_map_of_mem hd, (congrArg Prod.fst (hF d hd).1).trans e⟩

theorem TableWF.upd {s : St} (hs : TableWF s) (dn : String) (f : Def → Def)
    (hf : ∀ d ∈ s.defs, d.name = dn → shape (f d) = shape d ∧ DefWF (f d)) : TableWF (s.upd dn f) :=
  hs.map_shape _ fun x hx => by
    split
    · rename_i e; exact hf x hx (by simpa using e)
    · exact ⟨rfl, hs.defs x hx⟩

theorem TableWF.upd_has {s : St} (hs : TableWF s) {dn : String} {d : Def} (hd : Has s dn d) (f : Def → Def)
    (hsh : shape (f d) = shape d) (hwf : DefWF (f d)) : TableWF (s.upd dn f) :=
  hs.upd dn f fun x hx e => by rw [hd.2.2 x hx e]; exact ⟨hsh, hwf⟩

theorem TableWF.push {s : St} (hs : TableWF s) (D : Def) (hnew : s.find D.name = none) (hD : DefWF D)
    (hi : D.insts = []) : TableWF { s with defs := s.defs ++ [D] } := by
  refine TableWF.of_defs ?_ ?_ ?_ ?_
  · exact List.forall_mem_append.mpr ⟨hs.defs, List.forall_mem_singleton.mpr hD⟩
  · show ((s.defs ++ [D]).map (·.name)).Nodup
    rw [List.map_append]
    refine nodup_snoc hs.names fun hm => ?_
    obtain ⟨d, hd, e⟩ := List.mem_map.mp hm
    exact find_none_names s D.name hnew d hd e
  · intro x hx i hi'
    rcases List.mem_append.mp hx with e | e
    · obtain ⟨y, hy, h⟩ := hs.fits e hi'
      exact ⟨y, List.mem_append_left _ hy, h⟩
    · rw [List.mem_singleton.mp e, hi] at hi'; cases hi'
  · intro t ht
    obtain ⟨d, hd, e⟩ := hs.top t ht
    exact ⟨d, List.mem_append_left _ hd, e⟩

theorem TableWF.of_next {s : St} (h : TableWF s) (n : Nat) : TableWF { s with next := n } :=
  ⟨h.defs, h.glob, h.top⟩

theorem DefWF.of_cables {d d' : Def} (h : DefWF d) (hp : d'.ports = d.ports) (hi : d'.insts = d.insts)
    (hn : (d'.cables.map (·.name)).Nodup) (hw : ∀ w ∈ wiresOf d, w ∈ wiresOf d') : DefWF d' :=
  ⟨by rw [hp]; exact h.ports, hn, by rw [hi]; exact h.insts,
   by rw [hp]; exact fun p hp' w hw' => hw w (h.ppins p hp' w hw'),
   by rw [hi]; exact fun i hi' row hr w hw' => hw w (h.ipins i hi' row hr w hw')⟩

theorem mem_wiresOf {d : Def} {w : Nat} : w ∈ wiresOf d ↔ ∃ c ∈ d.cables, w ∈ c.wires := by
  unfold wiresOf; exact List.mem_flatMap

theorem Grow.refl (s : St) : Grow s s := fun _ _ h => h
theorem Grow.trans {a b c : St} (h1 : Grow a b) (h2 : Grow b c) : Grow a c := fun dn w h => h2 dn w (h1 dn w h)

theorem wiresIn_has {s : St} {dn : String} {d : Def} (hd : Has s dn d) : wiresIn s dn = wiresOf d := by
  unfold wiresIn; rw [hd.find]

theorem grow_map (s : St) (F : Def → Def) (hn : ∀ d, (F d).name = d.name)
    (hw : ∀ d ∈ s.defs, ∀ w ∈ wiresOf d, w ∈ wiresOf (F d)) : Grow s { s with defs := s.defs.map F } := by
  intro n w hwn
  unfold wiresIn St.find at hwn ⊢
  simp only [List.find?_map, Function.comp_def, hn]
  cases hfn : s.defs.find? (fun d => d.name == n) with
  | none => rw [hfn] at hwn; cases hwn
  | some d => rw [hfn] at hwn; exact hw d (List.mem_of_find?_eq_some hfn) w hwn

theorem grow_upd (s : St) (dn : String) (f : Def → Def) (hf : ∀ d, (f d).name = d.name)
    (hw : ∀ d ∈ s.defs, d.name = dn → ∀ w ∈ wiresOf d, w ∈ wiresOf (f d)) : Grow s (s.upd dn f) :=
  grow_map s _ (fun d => by split <;> simp [hf]) fun d hd w hwd => by
    split
    · rename_i e; exact hw d hd (by simpa using e) w hwd
    · exact hwd

theorem upd_cables {s : St} {dn : String} {d : Def} (hs : TableWF s) (hd : Has s dn d) (g : List Cable → List Cable)
    (n : Nat) (hn : ((g d.cables).map (·.name)).Nodup)
    (hw : ∀ c ∈ d.cables, ∃ c' ∈ g d.cables, ∀ w ∈ c.wires, w ∈ c'.wires) :
    TableWF (({ s with next := n } : St).upd dn fun x => { x with cables := g x.cables }) ∧
    Grow s (({ s with next := n } : St).upd dn fun x => { x with cables := g x.cables }) := by
  have hw' : ∀ w ∈ wiresOf d, w ∈ wiresOf { d with cables := g d.cables } := by
    intro w hwd
    obtain ⟨c, hc, hwc⟩ := mem_wiresOf.mp hwd
    obtain ⟨c', hc', h⟩ := hw c hc
    exact mem_wiresOf.mpr ⟨c', hc', h w hwc⟩
  constructor
  · exact (hs.of_next n).upd_has hd _ rfl ((hs.defs d hd.1).of_cables rfl rfl hn hw')
  · exact grow_upd { s with next := n } dn _ (fun _ => rfl) fun x hx e => by rw [hd.2.2 x hx e]; exact hw'

theorem map_map_ite_mem {α β : Type} (f : α → β) (c : α → Bool) (g : α → α) (l : List α)
    (hg : ∀ x ∈ l, c x = true → f (g x) = f x) : (l.map fun x => if c x then g x else x).map f = l.map f := by
  rw [List.map_map]
  refine List.map_congr_left fun x hx => ?_
  simp only [Function.comp]
  split
  · exact hg x hx ‹_›
  · rfl

theorem map_map_ite {α β : Type} (f : α → β) (c : α → Bool) (g : α → α) (hg : ∀ x, f (g x) = f x) (l : List α) :
    (l.map fun x => if c x then g x else x).map f = l.map f :=
  map_map_ite_mem f c g l fun x _ _ => hg x

theorem createOrUpdateCable_spec (s s' : St) (dn name : String) (l r : Option Int) (vt : Option String) (df : Bool)
    (hs : TableWF s) (h : createOrUpdateCable s dn name l r vt df = .ok s') : TableWF s' ∧ Grow s s' := by
  unfold createOrUpdateCable at h
  obtain ⟨d, hg, h⟩ := bind_ok h
  have hd := getDef_ok hs hg
  cases hf : d.cables.find? (fun c => c.name == name) with
  | none =>
    simp only [hf, fresh, pure, Except.pure, Except.ok.injEq] at h
    rw [← h]
    refine upd_cables hs hd (· ++ [_]) _ ?_ fun c hc => ⟨c, List.mem_append_left _ hc, fun _ hw => hw⟩
    rw [List.map_append]
    refine nodup_snoc (hs.defs d hd.1).cables fun hm => ?_
    obtain ⟨c, hc, e⟩ := List.mem_map.mp hm
    simpa [e] using List.find?_eq_none.mp hf c hc
  | some c =>
    simp only [hf, fresh, pure, Except.pure, Except.ok.injEq] at h
    rw [← h]
    have hc := hasCable_of_find (hs.defs d hd.1).cables hf
    refine upd_cables hs hd (List.map fun x => if x.name == name then _ else x) _ ?_ ?_
    · rw [map_map_ite_mem (fun y : Cable => y.name)]
      · exact (hs.defs d hd.1).cables
      · intro x hx e
        rw [hc.2.2 x hx (by simpa using e)]
    · intro c0 hc0
      refine ⟨_, List.mem_map_of_mem hc0, ?_⟩
      split
      · rename_i e
        rw [hc.2.2 c0 hc0 (by simpa using e)]
        intro w hw; simp [hw]
      · exact fun _ hw => hw

theorem createOrUpdateCable_wf (s s' : St) (dn name : String) (l r : Option Int) (vt : Option String) (df : Bool)
    (hs : TableWF s) (h : createOrUpdateCable s dn name l r vt df = .ok s') : TableWF s' :=
  (createOrUpdateCable_spec s s' dn name l r vt df hs h).1

theorem setCableAttrs_wf (s : St) (dn name : String) (a : Attrs) (hs : TableWF s) : TableWF (setCableAttrs s dn name a) := by
  unfold setCableAttrs
  refine hs.upd dn _ fun x hx _ => ⟨rfl, (hs.defs x hx).of_cables rfl rfl ?_ ?_⟩
  · show ((x.cables.map fun y => if y.name == name then { y with attrs := some a } else y).map (·.name)).Nodup
    rw [map_map_ite (fun y : Cable => y.name)]
    · exact (hs.defs x hx).cables
    · exact fun _ => rfl
  · intro w hw
    obtain ⟨c0, hc0, hwc⟩ := mem_wiresOf.mp hw
    refine mem_wiresOf.mpr ⟨_, List.mem_map_of_mem hc0, ?_⟩
    split <;> exact hwc

/-- what `TableWF` does not say about the wire ids: distinct inside a definition, below the counter, no net without one -/
def WW (s : St) : Prop :=
  ∀ d ∈ s.defs, (wiresOf d).Nodup ∧ (∀ w ∈ wiresOf d, w < s.next) ∧ ∀ c ∈ d.cables, 1 ≤ c.wires.length

/-- the step neither hands out wire ids nor touches the wires of a net -/
def Keep (s s' : St) : Prop :=
  s.next ≤ s'.next ∧ ∀ d' ∈ s'.defs, d'.cables = [] ∨ ∃ d ∈ s.defs, d'.cables.map (·.wires) = d.cables.map (·.wires)

theorem wiresOf_eq (d : Def) : wiresOf d = (d.cables.map (·.wires)).flatten := by
  unfold wiresOf; rw [List.flatMap_def]

theorem WW.keep {s s' : St} (h : WW s) (k : Keep s s') : WW s' := by
  intro d' hd'
  -- all three clauses speak of the list `cables.map (·.wires)` only
  have len : ∀ d : Def, (∀ c ∈ d.cables, 1 ≤ c.wires.length) ↔ ∀ l ∈ d.cables.map (·.wires), 1 ≤ l.length :=
    fun d => by simp
  rw [wiresOf_eq, len]
  rcases k.2 d' hd' with e | ⟨d, hd, e⟩
  · simp [e]
  · rw [e, ← wiresOf_eq, ← len]
    obtain ⟨h1, h2, h3⟩ := h d hd
    exact ⟨h1, fun w hw => Nat.lt_of_lt_of_le (h2 w hw) k.1, h3⟩

theorem Keep.refl (s : St) : Keep s s := ⟨Nat.le_refl _, fun d hd => Or.inr ⟨d, hd, rfl⟩⟩

theorem Keep.trans {a b c : St} (h1 : Keep a b) (h2 : Keep b c) : Keep a c := by
  refine ⟨Nat.le_trans h1.1 h2.1, fun d'' hd'' => ?_⟩
  rcases h2.2 d'' hd'' with e | ⟨d', hd', e⟩
  · exact Or.inl e
  · rcases h1.2 d' hd' with e' | ⟨d, hd, e'⟩
    · exact Or.inl (by simpa [e'] using e)
    · exact Or.inr ⟨d, hd, e.trans e'⟩

theorem keep_fields (s : St) (t : Option String) (a : Nat) (p : List (String × String × List XExpr)) :
    Keep s { s with top := t, acount := a, pending := p } := Keep.refl s

theorem keep_defsmap {s : St} {g : Def → Def} (hg : ∀ d, (g d).cables.map (·.wires) = d.cables.map (·.wires)) :
    Keep s { s with defs := s.defs.map g } := by
  refine ⟨Nat.le_refl _, fun d' hd' => ?_⟩
  obtain ⟨d, hd, rfl⟩ := List.mem_map.mp hd'
  exact Or.inr ⟨d, hd, hg d⟩

theorem keep_upd {s : St} {dn : String} {f : Def → Def} (hf : ∀ d, (f d).cables.map (·.wires) = d.cables.map (·.wires)) :
    Keep s (s.upd dn f) :=
  keep_defsmap fun d => by
    split
    · exact hf d
    · rfl

theorem keep_append (s : St) (e : Def) (he : e.cables = []) : Keep s { s with defs := s.defs ++ [e] } :=
  ⟨Nat.le_refl _, List.forall_mem_append.mpr ⟨fun d h => Or.inr ⟨d, h, rfl⟩, List.forall_mem_singleton.mpr (Or.inl he)⟩⟩

theorem keep_ensure (s : St) (n : String) : Keep s (s.ensure n) := by
  unfold St.ensure
  split
  · exact Keep.refl s
  · exact keep_append s _ rfl

theorem setCableAttrs_keep (s : St) (dn name : String) (a : Attrs) : Keep s (setCableAttrs s dn name a) :=
  keep_upd fun d => map_map_ite (·.wires) _ (fun x => { x with attrs := some a }) (fun _ => rfl) d.cables

/-- the result is well-formed, and its wire ids are distinct, below the counter and present in every net if they were -/
def Pres (s s' : St) : Prop := TableWF s' ∧ (WW s → WW s')

theorem Pres.refl {s : St} (hs : TableWF s) : Pres s s := ⟨hs, id⟩

theorem Pres.trans {a b c : St} (h1 : Pres a b) (h2 : Pres b c) : Pres a c := ⟨h2.1, fun h => h2.2 (h1.2 h)⟩

theorem Pres.keep {s s' : St} (hs : TableWF s') (k : Keep s s') : Pres s s' := ⟨hs, fun h => h.keep k⟩

theorem Pres.foldlM {α : Type} {f : St → α → M St} (hf : ∀ s a s', TableWF s → f s a = .ok s' → Pres s s')
    {as : List α} {s s' : St} (hs : TableWF s) (h : as.foldlM f s = .ok s') : Pres s s' :=
  foldlM_inv (Pres s) (fun a _ S S' p hS => p.trans (hf S a S' p.1 hS)) (.refl hs) h
end Spydr.Verilog.Elab
