/-
  Token level, one module.  Every module the writer prints is the same frame — the `celldefine` lines of a primitive,
  `(* *)`, `module` name, `#(parameter …)`, the header with bare names, a body, `endmodule` — around a body that differs;
  `moduleP_frame` and `topGo_frame` read the frame back over the REAL parser for ANY body, given what the body loop does
  on it.  A work module with any items (`modToksP`, `topGo_mod`) is the instance with `bodyGo_body`; the other shapes are
  in TokShapes.
-/
import Spydr.Verilog.TokBody
namespace Spydr.Verilog.Elab
open Spydr.Verilog
open Spydr.Verilog.Parse

def sepNames : List String → List String
  | [] => []
  | [a] => [nameT a]
  | a :: rest => nameT a :: "," :: sepNames rest

theorem sepNames_sep : CommaSep (fun x => [nameT x]) sepNames := ⟨rfl, fun _ => rfl, fun _ _ _ => rfl⟩

theorem sepNames_len : ∀ (a : List String), a.length ≤ (sepNames a).length := sepNames_sep.len (fun _ => Nat.le_refl _)

/-- the closing parenthesis is not consumed: `header` expects it -/
theorem headerPortsGo_step (a : String) (acc : List HPort) (f : Nat) (t : String) (tail : Toks)
    (ha : nameTokB (nameT a) a = true) (ht : t = ")" ∨ t = ",") :
    headerPortsGo (f + 1) (nameT a :: t :: tail) acc =
      if t = ")" then .ok (acc ++ [⟨a, none, none, none⟩], ")" :: tail)
      else headerPortsGo f tail (acc ++ [⟨a, none, none, none⟩]) := by
  have hn := nameTok_sound _ _ ha
  have r := fun x hx => hn.res x hx
  conv => lhs; unfold headerPortsGo
  rcases ht with rfl | rfl <;>
    simp [peek, bind, Except.bind, r ")" (by decide), r "." (by decide), hn.dirOf_none, pure, Except.pure, r "[" (by decide),
      next, hn.valid, hn.strip]

theorem headerPortsGo_toks : ∀ (names : List String) (acc : List HPort) (f : Nat) (rest : Toks),
    names.length + 1 ≤ f → (∀ a ∈ names, nameTokB (nameT a) a = true) →
    headerPortsGo f (sepNames names ++ ")" :: rest) acc =
      .ok (acc ++ names.map (fun a => (⟨a, none, none, none⟩ : HPort)), ")" :: rest):= by
  intro names acc f rest hf hok
  cases names with
  | nil =>
    obtain ⟨g, rfl⟩ : ∃ g, f = g + 1 := ⟨f - 1, by simp at hf; omega⟩
    unfold headerPortsGo
    simp [sepNames, peek, bind, Except.bind, pure, Except.pure]
  | cons a names =>
    exact sepNames_sep.loop headerPortsGo (fun a => (⟨a, none, none, none⟩ : HPort)) ")" (fun r => ")" :: r) (by decide)
      (fun _ as => ∀ a ∈ as, nameTokB (nameT a) a = true) (fun _ _ _ h x hx => h x (List.mem_cons_of_mem _ hx))
      (fun a _ acc f t tail h ht => headerPortsGo_step a acc f t tail (h a List.mem_cons_self) ht)
      (a :: names) acc f rest (by simp) (by omega) hok

theorem header_toks (params : Params) (ports : List String) (body : Toks) (hpar : mparamsOK params = true)
    (hpn : ∀ a ∈ ports, nameTokB (nameT a) a = true) :
    header (mparamToks params ++ "(" :: (sepNames ports ++ ")" :: ";" :: body)) =
      .ok ((params, ports.map (fun a => (⟨a, none, none, none⟩ : HPort))), body) := by
  have hhp := headerPortsGo_toks ports [] ((sepNames ports).length + (body.length + 1 + 1) + 1) (";" :: body)
    (by have := sepNames_len ports; omega) hpn
  simp only [List.nil_append] at hhp
  unfold header
  by_cases hp : params = []
  · subst hp
    have e : ("(" == "#") = false := by decide
    simp only [mparamToks, List.isEmpty_nil, if_true, List.nil_append, peek, expect, next, bind, Except.bind, e,
      Bool.false_eq_true, if_false, pure, Except.pure, beq_self_eq_true, List.length_append, List.length_cons, hhp]
  · have hpars := headerParams_toks params ("(" :: (sepNames ports ++ ")" :: ";" :: body)) hp hpar
    have hem : params.isEmpty = false := by cases params <;> simp at hp ⊢
    obtain ⟨tl, htl⟩ : ∃ tl, mparamToks params ++ "(" :: (sepNames ports ++ ")" :: ";" :: body) = "#" :: tl := by
      unfold mparamToks; simp [hem]
    rw [htl] at hpars ⊢
    simp only [peek, expect, next, bind, Except.bind, beq_self_eq_true, if_true, hpars, pure, Except.pure,
      List.length_append, List.length_cons, hhp]

theorem moduleP_frame (cell : Bool) (pend : Attrs) (name : String) (params : Params) (ports : List String) (body rest : Toks)
    (items : List Item) (hn : nameTokB (nameT name) name = true) (hpar : mparamsOK params = true)
    (hpn : ∀ a ∈ ports, nameTokB (nameT a) a = true)
    (hbody : ∀ f, (body ++ "endmodule" :: rest).length + 1 ≤ f →
      (if cell then primBodyGo f (body ++ "endmodule" :: rest) [] else bodyGo f (body ++ "endmodule" :: rest) [] []) =
        .ok (items, rest)) :
    moduleP cell pend ("module" :: nameT name :: (mparamToks params ++ "(" :: (sepNames ports ++ ")" :: ";" ::
      (body ++ "endmodule" :: rest)))) =
      .ok (⟨name, cell, pend, params, ports.map (fun a => (⟨a, none, none, none⟩ : HPort)), items⟩, rest) := by
  have hn := nameTok_sound _ _ hn
  have hb := hbody _ (Nat.le_refl _)
  unfold moduleP
  simp only [expect, next, bind, Except.bind, beq_self_eq_true, if_true, hn.valid, Bool.not_true, Bool.false_eq_true,
    if_false, pure, Except.pure, header_toks params ports _ hpar hpn]
  cases cell <;> simp only [if_true, if_false, Bool.false_eq_true] at hb ⊢ <;> rw [hb] <;> simp [hn.strip]

theorem strip_plain (t : String) (h1 : t.toSlice.startsWith Char.isWhitespace = false)
    (h2 : t.toSlice.endsWith Char.isWhitespace = false) : strip t = t := by
  unfold strip String.trimAscii String.Slice.trimAscii String.Slice.trimAsciiStart String.Slice.trimAsciiEnd
  rw [String.Slice.dropWhile_eq_self h1, String.Slice.dropEndWhile_eq_self h2]
  simp

theorem splitOn_paren : ("(".splitOn " ") = ["("] := by
  unfold String.splitOn
  simp only [show (" " == "") = false by decide, Bool.false_eq_true, if_false]
  repeat (rw [String.splitOnAux]; simp (config := {decide := true}))

theorem splitOn_module : ("module".splitOn " ") = ["module"] := by
  unfold String.splitOn
  simp only [show (" " == "") = false by decide, Bool.false_eq_true, if_false]
  repeat (rw [String.splitOnAux]; simp (config := {decide := true}))

theorem firstWord_paren : firstWord "(" = "(" := by decide +kernel

theorem firstWord_module : firstWord "module" = "module" := by decide +kernel

theorem splitOn_cell : ("`celldefine".splitOn " ") = ["`celldefine"] := by
  unfold String.splitOn
  simp only [show (" " == "") = false by decide, Bool.false_eq_true, if_false]
  repeat (rw [String.splitOnAux]; simp (config := {decide := true}))

theorem splitOn_endcell : ("`endcelldefine".splitOn " ") = ["`endcelldefine"] := by
  unfold String.splitOn
  simp only [show (" " == "") = false by decide, Bool.false_eq_true, if_false]
  repeat (rw [String.splitOnAux]; simp (config := {decide := true}))

theorem firstWord_cell : firstWord "`celldefine" = "`celldefine" := by decide +kernel

theorem firstWord_endcell : firstWord "`endcelldefine" = "`endcelldefine" := by decide +kernel

theorem fw_module : (firstWord "module" == "`celldefine") = false ∧ (firstWord "module" == "`endcelldefine") = false := by
  rw [firstWord_module]; exact ⟨by decide, by decide⟩

theorem fw_paren : (firstWord "(" == "`celldefine") = false ∧ (firstWord "(" == "`endcelldefine") = false := by
  rw [firstWord_paren]; exact ⟨by decide, by decide⟩

def frameToks (cell : Bool) (attrs : Attrs) (name : String) (params : Params) (ports : List String) (body : List String) :
    List String :=
  (if cell then ["`celldefine"] else []) ++ (starToks attrs ++ "module" :: nameT name :: (mparamToks params ++ "(" ::
    (sepNames ports ++ ")" :: ";" :: (body ++ ["endmodule"])))) ++ (if cell then ["`endcelldefine"] else [])

theorem topGo_star (f : Nat) (attrs : Attrs) (ts : Toks) (cell : Bool) (acc : List Module) (hok : attrsOK attrs = true) :
    topGo (f + (if attrs = [] then 1 else 2)) (starToks attrs ++ ts) cell [] acc = topGo (f + 1) ts cell attrs acc := by
  by_cases ha : attrs = []
  · subst ha; rfl
  · have hnd : (attrs.map (·.1)).Nodup := by
      simp only [attrsOK, Bool.and_eq_true, decide_eq_true_eq] at hok; exact hok.2
    have hs := star_toks attrs ts ha hok
    have hem : attrs.isEmpty = false := by cases hma : attrs <;> simp [hma] at ha ⊢
    unfold starToks at hs ⊢
    rw [if_neg ha]
    simp only [hem, Bool.false_eq_true, if_false, List.cons_append, List.append_assoc, List.nil_append] at hs ⊢
    conv => lhs; unfold topGo
    have g1 : ("(" == "module") = false := by decide
    have g2 : ("(" == "primitive") = false := by decide
    simp only [fw_paren.1, fw_paren.2, g1, g2, Bool.false_eq_true, if_false, beq_self_eq_true, if_true, hs,
      mergeAttrs_nil attrs hnd]

/-- A written module anywhere at the top level of the file: one turn of the loop for the module, one more for its
    attributes, two more for the `celldefine` lines. -/
theorem topGo_frame (cell : Bool) (f : Nat) (attrs : Attrs) (name : String) (params : Params) (ports : List String)
    (body rest : Toks) (items : List Item) (acc : List Module) (hat : attrsOK attrs = true)
    (hn : nameTokB (nameT name) name = true) (hpar : mparamsOK params = true)
    (hpn : ∀ a ∈ ports, nameTokB (nameT a) a = true)
    (hbody : ∀ rest f, (body ++ "endmodule" :: rest).length + 1 ≤ f →
      (if cell then primBodyGo f (body ++ "endmodule" :: rest) [] else bodyGo f (body ++ "endmodule" :: rest) [] []) =
        .ok (items, rest)) :
    topGo (f + (if attrs = [] then 1 else 2) + (if cell then 2 else 0))
        (frameToks cell attrs name params ports body ++ rest) false [] acc =
      topGo f rest false []
        (acc ++ [⟨name, cell, attrs, params, ports.map (fun a => (⟨a, none, none, none⟩ : HPort)), items⟩]) := by
  have hmod : ∀ (g : Nat) (pend : Attrs) (rest : Toks), topGo (g + 1) ("module" :: nameT name :: (mparamToks params ++ "(" ::
      (sepNames ports ++ ")" :: ";" :: (body ++ "endmodule" :: rest)))) cell pend acc =
      topGo g rest cell [] (acc ++ [⟨name, cell, pend, params, ports.map (fun a => (⟨a, none, none, none⟩ : HPort)), items⟩]) := by
    intro g pend rest
    conv => lhs; unfold topGo
    simp only [fw_module.1, fw_module.2, Bool.false_eq_true, if_false, beq_self_eq_true, if_true,
      moduleP_frame cell pend name params ports body rest items hn hpar hpn (hbody rest)]
  cases cell with
  | false =>
    simp only [frameToks, Bool.false_eq_true, if_false, List.nil_append, List.append_nil, List.append_assoc, List.cons_append,
      Nat.add_zero]
    rw [topGo_star f attrs _ false acc hat, hmod _ attrs]
  | true =>
    simp only [frameToks, if_true, List.append_assoc, List.cons_append, List.nil_append]
    conv => lhs; unfold topGo
    simp only [firstWord_cell, beq_self_eq_true, if_true]
    have hf : f + (if attrs = [] then 1 else 2) + 1 = f + 1 + (if attrs = [] then 1 else 2) := by omega
    rw [hf, topGo_star (f + 1) attrs _ true acc hat, hmod _ attrs]
    conv => lhs; unfold topGo
    have e1 : ("`endcelldefine" == "`celldefine") = false := by decide
    simp only [firstWord_endcell, e1, Bool.false_eq_true, if_false, beq_self_eq_true, if_true]

def modToks (attrs : Attrs) (name : String) (ports : List String) (items : List SItem) : List String :=
  starToks attrs ++ "module" :: nameT name :: "(" :: (sepNames ports ++ ")" :: ";" :: (items.flatMap SItem.toks ++ ["endmodule"]))

def modOK (attrs : Attrs) (name : String) (ports : List String) (items : List SItem) : Bool :=
  attrsOK attrs && nameTokB (nameT name) name && ports.all (fun a => nameTokB (nameT a) a) && items.all SItem.ok

def modToksP (attrs : Attrs) (name : String) (params : Params) (ports : List String) (items : List SItem) : List String :=
  starToks attrs ++ "module" :: nameT name :: (mparamToks params ++
    "(" :: (sepNames ports ++ ")" :: ";" :: (items.flatMap SItem.toks ++ ["endmodule"])))

def modOKP (attrs : Attrs) (name : String) (params : Params) (ports : List String) (items : List SItem) : Bool :=
  modOK attrs name ports items && mparamsOK params

theorem modOK_parts {attrs : Attrs} {name : String} {ports : List String} {items : List SItem}
    (h : modOK attrs name ports items = true) :
    attrsOK attrs = true ∧ nameTokB (nameT name) name = true ∧ (∀ a ∈ ports, nameTokB (nameT a) a = true) ∧
      ∀ it ∈ items, it.ok = true := by
  simp only [modOK, Bool.and_eq_true, List.all_eq_true] at h
  exact ⟨h.1.1.1, h.1.1.2, h.1.2, h.2⟩

theorem modOKP_parts {attrs : Attrs} {name : String} {params : Params} {ports : List String} {items : List SItem}
    (h : modOKP attrs name params ports items = true) :
    modOK attrs name ports items = true ∧ mparamsOK params = true := by
  rwa [modOKP, Bool.and_eq_true] at h

theorem moduleP_toksP (attrs pend : Attrs) (name : String) (params : Params) (ports : List String) (items : List SItem)
    (rest : Toks) (h : modOKP attrs name params ports items = true) :
    moduleP false pend ("module" :: nameT name :: (mparamToks params ++
      "(" :: (sepNames ports ++ ")" :: ";" :: (items.flatMap SItem.toks ++ "endmodule" :: rest)))) =
      .ok (⟨name, false, pend, params, ports.map (fun a => (⟨a, none, none, none⟩ : HPort)), items.map SItem.toItem⟩, rest) := by
  obtain ⟨hm, hpar⟩ := modOKP_parts h
  obtain ⟨_, h2, h3, h4⟩ := modOK_parts hm
  exact moduleP_frame false pend name params ports _ rest _ h2 hpar h3 (fun f hf => bodyGo_body items rest f h4 hf)

theorem topGo_mod (f : Nat) (attrs : Attrs) (name : String) (params : Params) (ports : List String) (items : List SItem)
    (rest : Toks) (acc : List Module) (h : modOKP attrs name params ports items = true) :
    topGo (f + 2) (modToksP attrs name params ports items ++ rest) false [] acc =
      topGo (if attrs = [] then f + 1 else f) rest false []
        (acc ++ [⟨name, false, attrs, params, ports.map (fun a => (⟨a, none, none, none⟩ : HPort)), items.map SItem.toItem⟩]) := by
  obtain ⟨hm, hpar⟩ := modOKP_parts h
  obtain ⟨h1, h2, h3, h4⟩ := modOK_parts hm
  have := topGo_frame false (if attrs = [] then f + 1 else f) attrs name params ports _ rest _ acc h1 h2 hpar h3
    (fun rest f hf => bodyGo_body items rest f h4 hf)
  have hf : (if attrs = [] then f + 1 else f) + (if attrs = [] then 1 else 2) + 0 = f + 2 := by split <;> rfl
  simp only [Bool.false_eq_true, if_false, hf] at this
  simpa [frameToks, modToksP] using this

theorem modToksP_nil (attrs : Attrs) (name : String) (ports : List String) (items : List SItem) :
    modToksP attrs name [] ports items = modToks attrs name ports items := by
  simp [modToksP, modToks, mparamToks]

theorem modOKP_nil {attrs : Attrs} {name : String} {ports : List String} {items : List SItem}
    (h : modOK attrs name ports items = true) : modOKP attrs name [] ports items = true := by
  rw [modOKP, h]; rfl

theorem moduleP_toks (attrs pend : Attrs) (name : String) (ports : List String) (items : List SItem) (rest : Toks)
    (h : modOK attrs name ports items = true) :
    moduleP false pend ("module" :: nameT name :: "(" :: (sepNames ports ++ ")" :: ";" :: (items.flatMap SItem.toks ++ "endmodule" :: rest))) =
      .ok (⟨name, false, pend, [], ports.map (fun a => (⟨a, none, none, none⟩ : HPort)), items.map SItem.toItem⟩, rest) :=
  moduleP_toksP attrs pend name [] ports items rest (modOKP_nil h)
end Spydr.Verilog.Elab
