/-
  Token level, the vocabulary of the Tok files (`reserved`, `NameTok`, `intTokB`, `CommaSep` with the loop lemma
  `CommaSep.loop`) and expressions and attributes: `parse (print x ++ rest) = (x, rest)` for atoms, concatenations,
  expressions and `(* *)` groups of the fragment, over the REAL parser functions.
-/
import Spydr.Verilog.ModelParse
namespace Spydr.Verilog.Elab
open Spydr.Verilog
open Spydr.Verilog.Parse

/-- words the parser tests a token against -/
def reserved : List String :=
  ["(", ")", "[", "]", "{", "}", ",", ";", ".", ":", "#", "*", "=", "module", "endmodule", "input", "output", "inout",
   "wire", "reg", "tri0", "tri1", "assign", "defparam", "primitive", "endprimitive", "parameter"]

/-- `t` is the token of the name `nm` (decidable; every clause is something the parser looks at) -/
def nameTokB (t nm : String) : Bool :=
  validIdent t && strip t == nm && !(reserved.contains t) && !(Text.isCommentTok t) && !(t.startsWith "`") &&
  (match t.toList with
   | c :: _ => !c.isDigit
   | [] => false)

structure NameTok (t nm : String) : Prop where
  valid : validIdent t = true
  strip : Parse.strip t = nm
  res : ∀ r ∈ reserved, (t == r) = false
  nocomment : Text.isCommentTok t = false
  notick : t.startsWith "`" = false
  first : ∃ c cs, t.toList = c :: cs ∧ c.isDigit = false

theorem not_reserved {t : String} (h : reserved.contains t = false) : ∀ r ∈ reserved, (t == r) = false := by
  intro r hr
  cases hb : (t == r) with
  | false => rfl
  | true =>
    rw [eq_of_beq hb, List.contains_iff_mem.mpr hr] at h
    cases h

theorem nameTok_sound (t nm : String) (h : nameTokB t nm = true) : NameTok t nm := by
  unfold nameTokB at h
  simp only [Bool.and_eq_true, Bool.not_eq_eq_eq_not, Bool.not_true, beq_iff_eq] at h
  obtain ⟨⟨⟨⟨⟨h1, h2⟩, h3⟩, h4⟩, h5⟩, h6⟩ := h
  refine ⟨h1, h2, not_reserved h3, h4, h5, ?_⟩
  · cases hl : t.toList with
    | nil => simp [hl] at h6
    | cons c cs => exact ⟨c, cs, rfl, by simpa [hl] using h6⟩

theorem NameTok.dirOf_none {t nm : String} (h : NameTok t nm) : dirOf t = none := by
  unfold dirOf
  simp [h.res "input" (by decide), h.res "output" (by decide), h.res "inout" (by decide)]

/-- the integer prints as a token the parser reads back -/
def intTokB (i : Int) : Bool :=
  numericTok (Text.showInt i) && (match toInt (Text.showInt i) with | .ok j => j == i | .error _ => false) &&
  !(reserved.contains (Text.showInt i))

theorem intTok_sound (i : Int) (h : intTokB i = true) :
    numericTok (Text.showInt i) = true ∧ toInt (Text.showInt i) = .ok i ∧ ∀ r ∈ reserved, (Text.showInt i == r) = false := by
  unfold intTokB at h
  simp only [Bool.and_eq_true, Bool.not_eq_eq_eq_not, Bool.not_true] at h
  obtain ⟨⟨h1, h2⟩, h3⟩ := h
  refine ⟨h1, ?_, not_reserved h3⟩
  cases ht : toInt (Text.showInt i) with
  | error e => simp [ht] at h2
  | ok j => simp only [ht, beq_iff_eq] at h2; rw [h2]

def nameT (nm : String) : String := Text.fixName nm

def rangeToks : Option (Int × Int) → List String
  | none => []
  | some (a, b) => ["[", Text.showInt a, ":", Text.showInt b, "]"]

def atomToks : XAtom → List String
  | .id n => [nameT n]
  | .bit n i => [nameT n, "[", Text.showInt i, "]"]
  | .part n l r => [nameT n, "[", Text.showInt l, ":", Text.showInt r, "]"]
  | .const c => ["1'b" ++ c]

def atomOK : XAtom → Bool
  | .id n => nameTokB (nameT n) n
  | .bit n i => nameTokB (nameT n) n && intTokB i
  | .part n l r => nameTokB (nameT n) n && intTokB l && intTokB r
  | .const _ => false

theorem brackets_bit (i : Int) (rest : Toks) (hi : intTokB i = true) :
    brackets ("[" :: Text.showInt i :: "]" :: rest) = .ok ((i, none), rest) := by
  obtain ⟨h1, h2, _⟩ := intTok_sound i hi
  simp [brackets, expect, next, bind, Except.bind, h1, h2, pure, Except.pure]

theorem brackets_part (l r : Int) (rest : Toks) (hl : intTokB l = true) (hr : intTokB r = true) :
    brackets ("[" :: Text.showInt l :: ":" :: Text.showInt r :: "]" :: rest) = .ok ((l, some r), rest) := by
  obtain ⟨h1, h2, _⟩ := intTok_sound l hl
  obtain ⟨h3, h4, _⟩ := intTok_sound r hr
  simp [brackets, expect, next, bind, Except.bind, h1, h2, h3, h4, pure, Except.pure]

theorem atom_id (t nm : String) (ts : Toks) (h : NameTok t nm) (hts : ∀ r, ts ≠ "[" :: r) :
    atom (t :: ts) = .ok (.id nm, ts) := by
  obtain ⟨c, cs, hl, hc⟩ := h.first
  -- found in the context by `simp` when it chooses the branch of the match on the first character
  have hc1 : c ≠ '1' := by intro e; rw [e] at hc; simp at hc
  unfold atom
  simp only [next, bind, Except.bind, hl]
  simp only [hc, Bool.false_eq_true, if_false, h.valid, Bool.not_true, h.strip]
  rfl

theorem atom_bit (t nm : String) (i : Int) (rest : Toks) (h : NameTok t nm) (hi : intTokB i = true) :
    atom (t :: "[" :: Text.showInt i :: "]" :: rest) = .ok (.bit nm i, rest) := by
  obtain ⟨c, cs, hl, hc⟩ := h.first
  have hc1 : c ≠ '1' := by intro e; rw [e] at hc; simp at hc
  unfold atom
  simp only [next, bind, Except.bind, hl]
  simp only [hc, Bool.false_eq_true, if_false, h.valid, Bool.not_true, h.strip, brackets_bit i rest hi]
  rfl

theorem atom_part (t nm : String) (l r : Int) (rest : Toks) (h : NameTok t nm) (hl' : intTokB l = true) (hr : intTokB r = true) :
    atom (t :: "[" :: Text.showInt l :: ":" :: Text.showInt r :: "]" :: rest) = .ok (.part nm l r, rest) := by
  obtain ⟨c, cs, hl, hc⟩ := h.first
  have hc1 : c ≠ '1' := by intro e; rw [e] at hc; simp at hc
  unfold atom
  simp only [next, bind, Except.bind, hl]
  simp only [hc, Bool.false_eq_true, if_false, h.valid, Bool.not_true, h.strip, brackets_part l r rest hl' hr]
  rfl

theorem atom_toks (a : XAtom) (rest : Toks) (h : atomOK a = true) (hrest : ∀ r, rest ≠ "[" :: r) :
    atom (atomToks a ++ rest) = .ok (a, rest) := by
  cases a with
  | id n => exact atom_id _ n rest (nameTok_sound _ _ h) hrest
  | bit n i =>
    simp only [atomOK, Bool.and_eq_true] at h
    exact atom_bit _ n i rest (nameTok_sound _ _ h.1) h.2
  | part n l r =>
    simp only [atomOK, Bool.and_eq_true] at h
    exact atom_part _ n l r rest (nameTok_sound _ _ h.1.1) h.1.2 h.2
  | const c => simp [atomOK] at h

def sepToks : List XAtom → List String
  | [] => []
  | [a] => atomToks a
  | a :: as => atomToks a ++ "," :: sepToks as

def exprToks : XExpr → List String
  | .empty => []
  | .atom a => atomToks a
  | .cat as => "{" :: sepToks as ++ ["}"]

def exprOK : XExpr → Bool
  | .empty => true
  | .atom a => atomOK a
  | .cat as => !as.isEmpty && as.all atomOK

/-- where every element prints at least `k` tokens, the list prints at least `k` for each: what the fuel of the parser's
    loops is measured against -/
theorem flatMap_length_ge {α β : Type} (f : α → List β) (k : Nat) (h : ∀ a, k ≤ (f a).length) :
    ∀ (l : List α), k * l.length ≤ (l.flatMap f).length
  | [] => by simp
  | a :: l => by
    have := h a
    have := flatMap_length_ge f k h l
    simp only [List.flatMap_cons, List.length_append, List.length_cons, Nat.mul_succ]; omega

/-- `sep` prints a list element by element with `f`, with a comma between two elements -/
structure CommaSep {α : Type} (f : α → List String) (sep : List α → List String) : Prop where
  nil : sep [] = []
  one : ∀ a, sep [a] = f a
  more : ∀ a b t, sep (a :: b :: t) = f a ++ "," :: sep (b :: t)

theorem CommaSep.len {α : Type} {f : α → List String} {sep : List α → List String} (h : CommaSep f sep)
    (hf : ∀ a, 1 ≤ (f a).length) : ∀ as : List α, as.length ≤ (sep as).length
  | [] => Nat.zero_le _
  | [a] => by rw [h.one]; exact hf a
  | a :: b :: t => by
    have h1 := hf a
    have h2 := h.len hf (b :: t)
    rw [h.more, List.length_append]
    simp only [List.length_cons] at h2 ⊢
    omega

theorem CommaSep.eq_intercalate {α : Type} {f : α → List String} {sep : List α → List String} (h : CommaSep f sep) :
    ∀ as : List α, sep as = List.intercalate [","] (as.map f)
  | [] => by simp [h.nil, List.intercalate]
  | [a] => by simp [h.one, List.intercalate]
  | a :: b :: t => by
    have ih := h.eq_intercalate (b :: t)
    simp only [h.more, List.intercalate, List.intersperse, List.map_cons, List.flatten_cons] at ih ⊢
    rw [ih]; simp

/-- A parser loop over a comma-separated list, by what one turn does: it reads one element and the token after it;
    `close` ends the loop, `,` continues it.  `I acc as` is what the turn may assume of the elements read so far (their
    results `acc`) and those still to come (`as`). -/
theorem CommaSep.loop {α β : Type} {f : α → List String} {sep : List α → List String} (h : CommaSep f sep)
    (go : Nat → Toks → List β → Except String (List β × Toks)) (g : α → β) (close : String) (out : Toks → Toks)
    (hc : close ≠ ",") (I : List β → List α → Prop) (hI : ∀ acc a as, I acc (a :: as) → I (acc ++ [g a]) as)
    (hstep : ∀ a as acc fuel t tail, I acc (a :: as) → (t = close ∨ t = ",") →
      go (fuel + 1) (f a ++ t :: tail) acc =
        if t = close then .ok (acc ++ [g a], out tail) else go fuel tail (acc ++ [g a])) :
    ∀ (as : List α) (acc : List β) (fuel : Nat) (rest : Toks), as ≠ [] → as.length ≤ fuel → I acc as →
      go fuel (sep as ++ close :: rest) acc = .ok (acc ++ as.map g, out rest)
  | [], _, _, _, hne, _, _ => absurd rfl hne
  | [a], acc, fuel, rest, _, hf, hi => by
    obtain ⟨fuel, rfl⟩ : ∃ k, fuel = k + 1 := ⟨fuel - 1, by simp at hf; omega⟩
    rw [h.one, hstep a [] acc fuel close rest hi (Or.inl rfl), if_pos rfl]; rfl
  | a :: b :: t, acc, fuel, rest, _, hf, hi => by
    obtain ⟨fuel, rfl⟩ : ∃ k, fuel = k + 1 := ⟨fuel - 1, by simp at hf; omega⟩
    rw [h.more, List.append_assoc, List.cons_append, hstep a (b :: t) acc fuel "," _ hi (Or.inr rfl), if_neg (Ne.symm hc),
      CommaSep.loop h go g close out hc I hI hstep (b :: t) (acc ++ [g a]) fuel rest (by simp) (by simpa using hf)
        (hI acc a _ hi)]
    simp

theorem atomToks_len (a : XAtom) : 1 ≤ (atomToks a).length := by
  cases a <;> simp [atomToks]

theorem sepToks_sep : CommaSep atomToks sepToks := ⟨rfl, fun _ => rfl, fun _ _ _ => rfl⟩

theorem atomToks_head (a : XAtom) (h : atomOK a = true) : ∃ t nm tl, atomToks a = t :: tl ∧ NameTok t nm := by
  cases a with
  | id n => exact ⟨_, n, [], rfl, nameTok_sound _ _ h⟩
  | bit n i => simp only [atomOK, Bool.and_eq_true] at h; exact ⟨_, n, _, rfl, nameTok_sound _ _ h.1⟩
  | part n l r => simp only [atomOK, Bool.and_eq_true] at h; exact ⟨_, n, _, rfl, nameTok_sound _ _ h.1.1⟩
  | const c => simp [atomOK] at h

theorem concatGo_step (a : XAtom) (acc : List XAtom) (f : Nat) (t : String) (tail : Toks) (ha : atomOK a = true)
    (ht : t = "}" ∨ t = ",") :
    concatGo (f + 1) (atomToks a ++ t :: tail) acc =
      if t = "}" then .ok (acc ++ [a], tail) else concatGo f tail (acc ++ [a]) := by
  obtain ⟨t0, nm, tl, htl, hnt⟩ := atomToks_head a ha
  have hne : (t0 == "}") = false := hnt.res "}" (by decide)
  have hat := atom_toks a (t :: tail) ha (by rcases ht with rfl | rfl <;> intro r h <;> simp at h)
  conv => lhs; unfold concatGo
  rw [htl] at hat ⊢
  simp only [List.cons_append] at hat
  simp only [List.cons_append, peek, bind, Except.bind, hne, Bool.false_eq_true, if_false, hat, next]
  rcases ht with rfl | rfl <;> simp [pure, Except.pure]

theorem concatGo_toks : ∀ (as : List XAtom) (acc : List XAtom) (f : Nat) (rest : Toks), as ≠ [] → as.length ≤ f →
    (∀ a ∈ as, atomOK a = true) → concatGo f (sepToks as ++ "}" :: rest) acc = .ok (acc ++ as, rest):= by
  intro as acc f rest hne hf hok
  simpa using sepToks_sep.loop concatGo id "}" id (by decide) (fun _ as => ∀ a ∈ as, atomOK a = true)
    (fun _ _ _ h x hx => h x (List.mem_cons_of_mem _ hx))
    (fun a _ acc f t tail h ht => concatGo_step a acc f t tail (h a List.mem_cons_self) ht) as acc f rest hne hf hok

theorem expr_toks (e : XExpr) (rest : Toks) (h : exprOK e = true) (hne : e ≠ .empty) (hrest : ∀ r, rest ≠ "[" :: r) :
    expr (exprToks e ++ rest) = .ok (e, rest) := by
  cases e with
  | empty => exact absurd rfl hne
  | atom a =>
    obtain ⟨t, nm, tl, htl, hnt⟩ := atomToks_head a h
    have hb : (t == "{") = false := hnt.res "{" (by decide)
    have hat := atom_toks a rest h hrest
    unfold expr
    simp only [exprToks]
    rw [htl] at hat ⊢
    simp only [List.cons_append] at hat
    simp only [List.cons_append, peek, bind, Except.bind, hb, Bool.false_eq_true, if_false, hat]
    rfl
  | cat as =>
    simp only [exprOK, Bool.and_eq_true, Bool.not_eq_eq_eq_not, Bool.not_true, List.isEmpty_eq_false_iff, List.all_eq_true] at h
    unfold expr concat
    simp only [exprToks, List.cons_append, List.append_assoc, peek, bind, Except.bind, beq_self_eq_true, if_true, expect, next]
    have := concatGo_toks as [] ((sepToks as).length + (rest.length + 1) + 1) rest h.1 (by
      have := sepToks_sep.len atomToks_len as; omega) h.2
    simp only [pure, Except.pure, List.nil_append, List.length_append, List.length_cons] at this ⊢
    rw [this]

def attrToks (kv : String × Option String) : List String :=
  match kv.2 with
  | none => [kv.1]
  | some v => [kv.1, "=", v]

def sepAttr : Attrs → List String
  | [] => []
  | [kv] => attrToks kv
  | kv :: rest => attrToks kv ++ "," :: sepAttr rest

def starToks (a : Attrs) : List String :=
  if a.isEmpty then [] else "(" :: "*" :: sepAttr a ++ ["*", ")"]

def attrOK (kv : String × Option String) : Bool :=
  nameTokB kv.1 kv.1 && (match kv.2 with | none => true | some v => v != "*" && v != ",")

def attrsOK (a : Attrs) : Bool := a.all attrOK && decide ((a.map (·.1)).Nodup)

theorem val_one (v stop : String) (ts : Toks) (g : Nat) (hv1 : (v == "*") = false) (hv2 : (v == ",") = false)
    (hs : stop = "*" ∨ stop = ",") :
    starGo.val (g + 1 + 1) (v :: stop :: ts) "" = .ok ((v, stop), ts) := by
  unfold starGo.val
  simp only [next, bind, Except.bind, hv1, hv2, Bool.or_self, Bool.false_eq_true, if_false]
  unfold starGo.val
  rcases hs with e | e <;> subst e <;> simp [next, bind, Except.bind, pure, Except.pure]

/-- a key that is new among the keys read so far -/
theorem any_key_none {β : Type} (acc : List (String × β)) (kv : String × β) (b : List (String × β))
    (h : ((acc ++ kv :: b).map (·.1)).Nodup) : acc.any (fun x => x.1 == kv.1) = false := by
  rw [List.map_append, List.map_cons, List.nodup_append] at h
  rw [List.any_eq_false]
  intro x hx
  simp only [beq_iff_eq]
  exact fun e => h.2.2 x.1 (List.mem_map_of_mem hx) kv.1 List.mem_cons_self e

theorem filter_key_none (acc : Attrs) (kv : String × Option String) (b : Attrs) (h : ((acc ++ kv :: b).map (·.1)).Nodup) :
    acc.filter (fun x => x.1 != kv.1) = acc :=
  List.filter_eq_self.mpr fun x hx => by simpa using List.any_eq_false.mp (any_key_none acc kv b h) x hx

theorem sepAttr_sep : CommaSep attrToks sepAttr := ⟨rfl, fun _ => rfl, fun _ _ _ => rfl⟩

theorem starGo_step (kv : String × Option String) (b acc : Attrs) (f : Nat) (t : String) (tail : Toks)
    (hkv : attrOK kv = true) (hn : ((acc ++ kv :: b).map (·.1)).Nodup) (ht : t = "*" ∨ t = ",") :
    starGo (f + 1) (attrToks kv ++ t :: tail) acc =
      if t = "*" then .ok (acc ++ [kv], "*" :: tail) else starGo f tail (acc ++ [kv]) := by
  have hfil := filter_key_none acc kv b hn
  simp only [attrOK, Bool.and_eq_true] at hkv
  have hnt := nameTok_sound _ _ hkv.1
  have hstar : (kv.1 == "*") = false := hnt.res "*" (by decide)
  obtain ⟨k, v⟩ := kv
  cases v with
  | none =>
    conv => lhs; unfold starGo
    rcases ht with rfl | rfl <;>
      simp [attrToks, next, bind, Except.bind, hstar, hnt.valid, hnt.strip, hfil, pure, Except.pure]
  | some v =>
    simp only at hkv
    have hv := hkv.2
    simp only [Bool.and_eq_true, bne_iff_ne, ne_eq] at hv
    have hval := val_one v t tail (tail.length + 1) (by simp [hv.1]) (by simp [hv.2]) ht
    conv => lhs; unfold starGo
    simp only [attrToks, List.cons_append, List.nil_append, next, bind, Except.bind, hstar, Bool.false_eq_true, if_false,
      hnt.valid, Bool.not_true, hnt.strip, bne_self_eq_false, Bool.false_and, beq_self_eq_true, if_true, List.length_cons,
      hval, hfil]
    rcases ht with rfl | rfl <;> simp [pure, Except.pure]

theorem starGo_toks : ∀ (a : Attrs) (acc : Attrs) (f : Nat) (rest : Toks), a ≠ [] → a.length ≤ f →
    (∀ kv ∈ a, attrOK kv = true) → ((acc ++ a).map (·.1)).Nodup →
    starGo f (sepAttr a ++ "*" :: rest) acc = .ok (acc ++ a, "*" :: rest):= by
  intro a acc f rest hne hf hok hn
  simpa using sepAttr_sep.loop starGo id "*" (fun r => "*" :: r) (by decide)
    (fun acc a => (∀ kv ∈ a, attrOK kv = true) ∧ ((acc ++ a).map (·.1)).Nodup)
    (fun _ _ _ h => ⟨fun x hx => h.1 x (List.mem_cons_of_mem _ hx), by simpa using h.2⟩)
    (fun kv b acc f t tail h ht => starGo_step kv b acc f t tail (h.1 kv List.mem_cons_self) h.2 ht) a acc f rest hne hf ⟨hok, hn⟩

theorem mergeAttrs_nil (a : Attrs) (h : (a.map (·.1)).Nodup) : mergeAttrs [] a = a := by
  unfold mergeAttrs
  have : ∀ (b acc : Attrs), ((acc ++ b).map (·.1)).Nodup →
      b.foldl (fun acc kv => (acc.filter (fun x => x.1 != kv.1)) ++ [kv]) acc = acc ++ b := by
    intro b
    induction b with
    | nil => intro acc _; simp
    | cons kv b ih =>
      intro acc hn
      simp only [List.foldl_cons]
      rw [filter_key_none acc kv b hn, ih (acc ++ [kv]) (by simpa using hn)]
      simp
  simpa using this a [] (by simpa using h)

theorem star_toks (a : Attrs) (rest : Toks) (hne : a ≠ []) (hok : attrsOK a = true) :
    star (starToks a ++ rest) = .ok (a, rest) := by
  simp only [attrsOK, Bool.and_eq_true, List.all_eq_true, decide_eq_true_eq] at hok
  have hem : a.isEmpty = false := by cases a <;> simp at hne ⊢
  unfold star starToks
  simp only [hem, Bool.false_eq_true, if_false, List.cons_append, List.append_assoc, expect, next, bind, Except.bind,
    beq_self_eq_true, if_true, pure, Except.pure]
  have := starGo_toks a [] ((sepAttr a ++ ([ "*", ")"] ++ rest)).length + 1) (")" :: rest) hne (by
    have := sepAttr_sep.len (fun kv => by obtain ⟨k, v⟩ := kv; cases v <;> simp [attrToks]) a
    simp only [List.length_append]; omega) hok.1 (by simpa using hok.2)
  simp only [List.cons_append, List.nil_append] at this ⊢
  rw [this]
  simp
end Spydr.Verilog.Elab
