/-
  Token level, the module body: the items `SItem` of a work module (`bodyGo_items`, `bodyGo_body`) and the port
  declarations of a `celldefine` module (`primBodyGo_ports`, `primBodyGo_body`) over the REAL parser loops; at the end the
  tokens the LEXER returns for a port without direction (`portCoreU`: the comment is a token of its own).
-/
import Spydr.Verilog.TokParams
import Spydr.Verilog.SyntaxTypes
namespace Spydr.Verilog.Elab
open Spydr.Verilog
open Spydr.Verilog.Parse

inductive SItem
  | port (p : PDecl)
  | wire (w : FWire)
  | inst (i : NInst)
  | asg (l r : XAtom)

def SItem.toItem : SItem → Item
  | .port p => p.item
  | .wire w => w.item
  | .inst i => i.item
  | .asg l r => .assign l r

def SItem.attrs : SItem → Attrs
  | .port p => p.attrs
  | .wire w => w.attrs
  | .inst i => i.attrs
  | .asg _ _ => []

def SItem.core : SItem → List String
  | .port p => portCore p.dir p.rng p.name
  | .wire w => w.ty :: (rangeToks w.rng ++ [nameT w.name, ";"])
  | .inst i => instCore i.mod i.name i.params i.conns
  | .asg l r => "assign" :: (atomToks l ++ "=" :: (atomToks r ++ [";"]))

def SItem.toks (it : SItem) : List String := starToks it.attrs ++ it.core

def SItem.ok : SItem → Bool
  | .port p => portOK p.dir p.rng p.name && attrsOK p.attrs
  | .wire w => wireTypes.contains w.ty && rangeOK w.rng && nameTokB (nameT w.name) w.name && attrsOK w.attrs
  | .inst i => instOK i.mod i.name i.params i.conns && attrsOK i.attrs
  | .asg l r => atomOK l && atomOK r

theorem bodyGo_end (f : Nat) (rest : Toks) (pend : Attrs) (acc : List Item) :
    bodyGo (f + 1) ("endmodule" :: rest) pend acc = .ok (acc, rest) := by
  unfold bodyGo
  simp [peek, next, bind, Except.bind, pure, Except.pure]

/-- the attribute group in front of an item costs one more turn of the loop -/
theorem bodyGo_star (f : Nat) (a : Attrs) (tail : Toks) (acc : List Item) (hok : attrsOK a = true) :
    bodyGo (f + (if a = [] then 1 else 2)) (starToks a ++ tail) [] acc = bodyGo (f + 1) tail a acc := by
  by_cases hne : a = []
  · subst hne; rfl
  rw [if_neg hne]
  have hs := star_toks a tail hne hok
  have hem : a.isEmpty = false := by cases a <;> simp at hne ⊢
  have hnd : (a.map (·.1)).Nodup := by
    simp only [attrsOK, Bool.and_eq_true, decide_eq_true_eq] at hok; exact hok.2
  conv => lhs; unfold bodyGo
  unfold starToks at hs ⊢
  simp only [hem, Bool.false_eq_true, if_false, List.cons_append] at hs ⊢
  have e1 : ("(" == "endmodule") = false := by decide
  have e2 : dirOf "(" = none := by decide
  have e3 : ("(" == "wire") = false := by decide
  have e4 : ("(" == "reg") = false := by decide
  have e5 : ("(" == "tri0") = false := by decide
  have e6 : ("(" == "tri1") = false := by decide
  have e7 : ("(" == "assign") = false := by decide
  have e8 : ("(" == "defparam") = false := by decide
  have e9 : validIdent "(" = false := by decide +kernel
  simp only [peek, bind, Except.bind, e1, e2, e3, e4, e5, e6, e7, e8, e9, Option.isSome_none, Bool.or_self,
    Bool.false_eq_true, if_false, beq_self_eq_true, if_true, hs, mergeAttrs_nil a hnd]

theorem bodyGo_port (f : Nat) (p : PDecl) (pend : Attrs) (tail : Toks) (acc : List Item)
    (h : portOK p.dir p.rng p.name = true) :
    bodyGo (f + 1) (portCore p.dir p.rng p.name ++ tail) pend acc =
      bodyGo f tail [] (acc ++ [.portDecl p.dir none p.rng p.name pend]) := by
  have hp := portDeclP_toks pend p.dir p.rng p.name tail h
  have hdo := dirOf_dirTok p.dir (portOK_parts h).1
  have he := (dirTok_kw p.dir).1
  conv => lhs; unfold bodyGo
  unfold portCore at hp ⊢
  simp only [List.cons_append] at hp ⊢
  simp only [peek, bind, Except.bind, he, Bool.false_eq_true, if_false, hdo, Option.isSome_some, if_true, hp]

theorem bodyGo_wire (f : Nat) (w : FWire) (pend : Attrs) (tail : Toks) (acc : List Item)
    (ht : wireTypes.contains w.ty = true) (h2 : rangeOK w.rng = true) (h3 : nameTokB (nameT w.name) w.name = true) :
    bodyGo (f + 1) (w.ty :: (rangeToks w.rng ++ [nameT w.name, ";"]) ++ tail) pend acc =
      bodyGo f tail [] (acc ++ [.wireDecl w.ty w.rng w.name pend]) := by
  have hc := cableDeclGo_toks ((rangeToks w.rng).length + (tail.length + 1 + 1)) w.ty pend w.rng w.name tail h2 h3
  have hty : w.ty = "wire" ∨ w.ty = "reg" ∨ w.ty = "tri0" ∨ w.ty = "tri1" := by
    simpa [wireTypes] using ht
  conv => lhs; unfold bodyGo
  simp only [List.cons_append, List.append_assoc, List.nil_append]
  rcases hty with e | e | e | e <;> rw [e] at hc ⊢ <;>
    simp [peek, next, bind, Except.bind, dirOf, hc]

theorem bodyGo_inst (f : Nat) (i : NInst) (pend : Attrs) (tail : Toks) (acc : List Item)
    (h : instOK i.mod i.name i.params i.conns = true) :
    bodyGo (f + 1) (instCore i.mod i.name i.params i.conns ++ tail) pend acc =
      bodyGo f tail [] (acc ++ [.inst i.mod i.name i.params pend true (i.conns.map (fun c => (some c.1, c.2)))]) := by
  have hi := instP_toks pend i.mod i.name i.params i.conns tail h
  have hm : NameTok (nameT i.mod) i.mod := nameTok_sound _ _ (instOK_parts h).1
  have r := fun x hx => hm.res x hx
  have hdo := hm.dirOf_none
  conv => lhs; unfold bodyGo
  unfold instCore at hi ⊢
  simp only [List.cons_append] at hi ⊢
  simp only [peek, bind, Except.bind, r "endmodule" (by decide), hdo, Option.isSome_none, r "wire" (by decide),
    r "reg" (by decide), r "tri0" (by decide), r "tri1" (by decide), r "assign" (by decide), r "defparam" (by decide),
    Bool.or_self, Bool.false_eq_true, if_false, hm.valid, if_true, hi]

theorem bodyGo_asg (f : Nat) (l r : XAtom) (tail : Toks) (acc : List Item) (hl : atomOK l = true) (hr : atomOK r = true) :
    bodyGo (f + 1) ("assign" :: (atomToks l ++ "=" :: (atomToks r ++ [";"])) ++ tail) [] acc =
      bodyGo f tail [] (acc ++ [.assign l r]) := by
  have h1 := atom_toks l ("=" :: (atomToks r ++ ";" :: tail)) hl (by intro r' e; simp at e)
  have h2 := atom_toks r (";" :: tail) hr (by intro r' e; simp at e)
  conv => lhs; unfold bodyGo
  have e1 : ("assign" == "endmodule") = false := by decide
  have e2 : dirOf "assign" = none := by decide
  have e3 : ("assign" == "wire") = false := by decide
  have e4 : ("assign" == "reg") = false := by decide
  have e5 : ("assign" == "tri0") = false := by decide
  have e6 : ("assign" == "tri1") = false := by decide
  simp only [List.cons_append, List.append_assoc, List.nil_append, peek, next, bind, Except.bind, e1, e2, e3, e4, e5, e6,
    Option.isSome_none, Bool.or_self, Bool.false_eq_true, if_false, beq_self_eq_true, if_true, h1, expect, h2, pure,
    Except.pure]

/-- one item of the body, attributes included: one or two turns of the loop -/
theorem bodyGo_item (f : Nat) (it : SItem) (tail : Toks) (acc : List Item) (h : it.ok = true) :
    bodyGo (f + 2) (it.toks ++ tail) [] acc = bodyGo (if it.attrs = [] then f + 1 else f) tail [] (acc ++ [it.toItem]) := by
  have ha : attrsOK it.attrs = true := by
    cases it <;> simp only [SItem.ok, Bool.and_eq_true] at h <;> first | exact h.2 | rfl
  have hf : f + 2 = (if it.attrs = [] then f + 1 else f) + (if it.attrs = [] then 1 else 2) := by split <;> rfl
  rw [SItem.toks, List.append_assoc, hf, bodyGo_star _ _ _ _ ha]
  cases it with
  | port p => simp only [SItem.ok, Bool.and_eq_true] at h; exact bodyGo_port _ p p.attrs tail acc h.1
  | wire w => simp only [SItem.ok, Bool.and_eq_true] at h; exact bodyGo_wire _ w w.attrs tail acc h.1.1.1 h.1.1.2 h.1.2
  | inst i => simp only [SItem.ok, Bool.and_eq_true] at h; exact bodyGo_inst _ i i.attrs tail acc h.1
  | asg l r => simp only [SItem.ok, Bool.and_eq_true] at h; exact bodyGo_asg _ l r tail acc h.1 h.2

theorem bodyGo_items : ∀ (items : List SItem) (acc : List Item) (f : Nat) (rest : Toks),
    2 * items.length + 1 ≤ f → (∀ it ∈ items, it.ok = true) →
    bodyGo f (items.flatMap SItem.toks ++ "endmodule" :: rest) [] acc = .ok (acc ++ items.map SItem.toItem, rest) := by
  intro items
  induction items with
  | nil =>
    intro acc f rest hf _
    obtain ⟨g, rfl⟩ : ∃ g, f = g + 1 := ⟨f - 1, by simp at hf; omega⟩
    simp [bodyGo_end]
  | cons it items ih =>
    intro acc f rest hf hok
    obtain ⟨g, rfl⟩ : ∃ g, f = g + 2 := ⟨f - 2, by simp at hf; omega⟩
    simp only [List.flatMap_cons, List.append_assoc]
    rw [bodyGo_item g it _ acc (hok it List.mem_cons_self)]
    rw [ih (acc ++ [it.toItem]) _ rest (by simp only [List.length_cons] at hf; split <;> omega)
      (fun x hx => hok x (List.mem_cons_of_mem _ hx))]
    simp

theorem primBodyGo_end (f : Nat) (rest : Toks) (acc : List Item) :
    primBodyGo (f + 1) ("endmodule" :: rest) acc = .ok (acc, rest) := by
  unfold primBodyGo
  simp [peek, next, bind, Except.bind, pure, Except.pure]

theorem primBodyGo_port (f : Nat) (p : PDecl) (tail : Toks) (acc : List Item) (h : portOK p.dir p.rng p.name = true) :
    primBodyGo (f + 1) (portCore p.dir p.rng p.name ++ tail) acc =
      primBodyGo f tail (acc ++ [.portDecl p.dir none p.rng p.name []]) := by
  have hp := portDeclP_toks [] p.dir p.rng p.name tail h
  have hdo := dirOf_dirTok p.dir (portOK_parts h).1
  obtain ⟨he1, he2, he3, he4⟩ := dirTok_kw p.dir
  conv => lhs; unfold primBodyGo
  unfold portCore at hp ⊢
  simp only [List.cons_append] at hp ⊢
  simp only [peek, bind, Except.bind, he1, he2, he3, he4, Bool.or_self, Bool.false_eq_true, if_false, hdo,
    Option.isSome_some, if_true, hp]

theorem primBodyGo_ports : ∀ (ports : List PDecl) (acc : List Item) (f : Nat) (rest : Toks),
    ports.length + 1 ≤ f → (∀ p ∈ ports, portOK p.dir p.rng p.name = true) →
    primBodyGo f (ports.flatMap (fun p => portCore p.dir p.rng p.name) ++ "endmodule" :: rest) acc =
      .ok (acc ++ ports.map (fun p => Item.portDecl p.dir none p.rng p.name []), rest) := by
  intro ports
  induction ports with
  | nil =>
    intro acc f rest hf _
    obtain ⟨g, rfl⟩ : ∃ g, f = g + 1 := ⟨f - 1, by simp at hf; omega⟩
    simp [primBodyGo_end]
  | cons p ports ih =>
    intro acc f rest hf hok
    obtain ⟨g, rfl⟩ : ∃ g, f = g + 1 := ⟨f - 1, by simp at hf; omega⟩
    simp only [List.flatMap_cons, List.append_assoc]
    rw [primBodyGo_port g p _ acc (hok p List.mem_cons_self)]
    rw [ih _ g rest (by simp only [List.length_cons] at hf; omega) (fun x hx => hok x (List.mem_cons_of_mem _ hx))]
    simp

/-- a declared port among items that pass the token conditions has a direction -/
theorem items_port_dir {items : List SItem} (hok : ∀ it ∈ items, it.ok = true) {p : PDecl} (hp : SItem.port p ∈ items) :
    p.dir ≠ .undef := by
  have := hok _ hp
  simp only [SItem.ok, Bool.and_eq_true] at this
  exact (portOK_parts this.1).1

theorem items_toks_len (l : List SItem) : 2 * l.length ≤ (l.flatMap SItem.toks).length :=
  flatMap_length_ge SItem.toks 2 (fun it => by
    have : 2 ≤ it.core.length := by
      cases it with
      | port p => simp [SItem.core, portCore]
      | wire w => simp [SItem.core]
      | inst i => simp [SItem.core, instCore]; omega
      | asg l r => simp [SItem.core]; omega
    simp only [SItem.toks, List.length_append]; omega) l

theorem bodyGo_body (items : List SItem) (rest : Toks) (f : Nat) (hok : ∀ it ∈ items, it.ok = true)
    (hf : (items.flatMap SItem.toks ++ "endmodule" :: rest).length + 1 ≤ f) :
    bodyGo f (items.flatMap SItem.toks ++ "endmodule" :: rest) [] [] = .ok (items.map SItem.toItem, rest) := by
  have := bodyGo_items items [] f rest (by
    have := items_toks_len items
    simp only [List.length_append, List.length_cons] at hf; omega) hok
  simpa using this

theorem primBodyGo_body (ports : List PDecl) (rest : Toks) (f : Nat) (hok : ∀ p ∈ ports, portOK p.dir p.rng p.name = true)
    (hf : (ports.flatMap (fun p => portCore p.dir p.rng p.name) ++ "endmodule" :: rest).length + 1 ≤ f) :
    primBodyGo f (ports.flatMap (fun p => portCore p.dir p.rng p.name) ++ "endmodule" :: rest) [] =
      .ok (ports.map (fun p => Item.portDecl p.dir none p.rng p.name []), rest) := by
  have := primBodyGo_ports ports [] f rest (by
    have := flatMap_length_ge (fun p : PDecl => portCore p.dir p.rng p.name) 1 (fun a => by simp [portCore]) ports
    simp only [List.length_append, List.length_cons] at hf; omega) hok
  simpa using this

def cmtU : String := "/* undefined port direction */"

theorem cmtU_comment : Text.isCommentTok cmtU = true := by decide +kernel

/-- the tokens of a direction as the lexer returns them: the comment is a token of its own -/
def dirToksU : Dir → List String
  | .undef => [cmtU, "inout"]
  | d => [dirTok d]

def portCoreU (p : PDecl) : List String := dirToksU p.dir ++ (rangeToks p.rng ++ [nameT p.name, ";"])

end Spydr.Verilog.Elab
