/-
  Token level, statements: parameter maps, named port maps, instances, port and wire declarations, over the REAL
  parser functions.
-/
import Spydr.Verilog.TokExpr
namespace Spydr.Verilog.Elab
open Spydr.Verilog
open Spydr.Verilog.Parse

def paramToks1 (kv : String × String) : List String := [".", kv.1, "(", kv.2, ")"]

def sepParams : Params → List String
  | [] => []
  | [kv] => paramToks1 kv
  | kv :: rest => paramToks1 kv ++ "," :: sepParams rest

def paramToks (ps : Params) : List String :=
  if ps.isEmpty then [] else "#" :: "(" :: sepParams ps ++ [")"]

def paramsOK (ps : Params) : Bool := ps.all (fun kv => nameTokB kv.1 kv.1) && decide ((ps.map (·.1)).Nodup)

theorem sepParams_sep : CommaSep paramToks1 sepParams := ⟨rfl, fun _ => rfl, fun _ _ _ => rfl⟩

theorem paramMapGo_step (kv : String × String) (b acc : Params) (f : Nat) (t : String) (tail : Toks)
    (hk : nameTokB kv.1 kv.1 = true) (hn : ((acc ++ kv :: b).map (·.1)).Nodup) (ht : t = ")" ∨ t = ",") :
    paramMapGo (f + 1) (paramToks1 kv ++ t :: tail) acc =
      if t = ")" then .ok (acc ++ [kv], tail) else paramMapGo f tail (acc ++ [kv]) := by
  have hnt := nameTok_sound _ _ hk
  have hany := any_key_none acc kv b hn
  obtain ⟨k, v⟩ := kv
  conv => lhs; unfold paramMapGo
  rcases ht with rfl | rfl <;>
    simp [paramToks1, expect, next, bind, Except.bind, hnt.valid, hnt.strip, hany, pure, Except.pure]

theorem paramMapGo_toks : ∀ (ps acc : Params) (f : Nat) (rest : Toks), ps ≠ [] → ps.length ≤ f →
    (∀ kv ∈ ps, nameTokB kv.1 kv.1 = true) → ((acc ++ ps).map (·.1)).Nodup →
    paramMapGo f (sepParams ps ++ ")" :: rest) acc = .ok (acc ++ ps, rest):= by
  intro ps acc f rest hne hf hok hn
  simpa using sepParams_sep.loop paramMapGo id ")" id (by decide)
    (fun acc ps => (∀ kv ∈ ps, nameTokB kv.1 kv.1 = true) ∧ ((acc ++ ps).map (·.1)).Nodup)
    (fun _ _ _ h => ⟨fun x hx => h.1 x (List.mem_cons_of_mem _ hx), by simpa using h.2⟩)
    (fun kv b acc f t tail h ht => paramMapGo_step kv b acc f t tail (h.1 kv List.mem_cons_self) h.2 ht)
    ps acc f rest hne hf ⟨hok, hn⟩

theorem paramMap_toks (ps : Params) (rest : Toks) (hne : ps ≠ []) (hok : paramsOK ps = true) :
    paramMap (paramToks ps ++ rest) = .ok (ps, rest) := by
  simp only [paramsOK, Bool.and_eq_true, List.all_eq_true, decide_eq_true_eq] at hok
  have hem : ps.isEmpty = false := by cases ps <;> simp at hne ⊢
  obtain ⟨kv, ps', e⟩ := List.exists_cons_of_ne_nil hne
  have hhead : ∃ tl, sepParams ps = "." :: tl := by
    rw [e]; cases ps' <;> simp [sepParams, paramToks1]
  obtain ⟨tl, htl⟩ := hhead
  have hgo := paramMapGo_toks ps [] ((sepParams ps ++ ([")"] ++ rest)).length + 1) rest hne (by
    have := sepParams_sep.len (fun _ => by simp [paramToks1]) ps
    simp only [List.length_append]; omega) hok.1 (by simpa using hok.2)
  unfold paramMap paramToks
  simp only [hem, Bool.false_eq_true, if_false, List.cons_append, List.append_assoc, expect, next, bind, Except.bind,
    beq_self_eq_true, if_true, pure, Except.pure]
  simp only [List.cons_append, List.nil_append] at hgo ⊢
  rw [htl] at hgo ⊢
  simp only [List.cons_append, peek]
  have e1 : ("." == ")") = false := by decide
  simp only [e1, Bool.false_eq_true, if_false, List.length_cons, List.cons_append] at hgo ⊢
  exact hgo

def connToks (c : String × XExpr) : List String := "." :: nameT c.1 :: "(" :: exprToks c.2 ++ [")"]

def sepConns : List (String × XExpr) → List String
  | [] => []
  | [c] => connToks c
  | c :: rest => connToks c ++ "," :: sepConns rest

def connOK (c : String × XExpr) : Bool := nameTokB (nameT c.1) c.1 && exprOK c.2

theorem sepConns_sep : CommaSep connToks sepConns := ⟨rfl, fun _ => rfl, fun _ _ _ => rfl⟩

theorem exprToks_head (e : XExpr) (h : exprOK e = true) (hne : e ≠ .empty) :
    ∃ t tl, exprToks e = t :: tl ∧ (t == ")") = false := by
  cases e with
  | empty => exact absurd rfl hne
  | atom a =>
    obtain ⟨t, nm, tl, htl, hnt⟩ := atomToks_head a h
    exact ⟨t, tl, htl, hnt.res ")" (by decide)⟩
  | cat as => exact ⟨"{", _, rfl, by decide⟩

theorem namedMapGo_conn (c : String × XExpr) (acc : List (Option String × XExpr)) (f : Nat) (t : String) (tail : Toks)
    (hc : connOK c = true) (ht : t = ")" ∨ t = ",") :
    namedMapGo (f + 1) (connToks c ++ t :: tail) acc =
      if t = ")" then .ok (acc ++ [(some c.1, c.2)], tail) else namedMapGo f tail (acc ++ [(some c.1, c.2)]) := by
  simp only [connOK, Bool.and_eq_true] at hc
  have hnt := nameTok_sound _ _ hc.1
  obtain ⟨p, e⟩ := c
  by_cases hemp : e = .empty
  · subst hemp
    conv => lhs; unfold namedMapGo
    rcases ht with rfl | rfl <;>
      simp [connToks, exprToks, expect, next, peek, bind, Except.bind, hnt.valid, hnt.strip, pure, Except.pure]
  · obtain ⟨t', tl, htl, hb⟩ := exprToks_head e hc.2 hemp
    have hex := expr_toks e (")" :: t :: tail) hc.2 hemp (by intro r h; simp at h)
    conv => lhs; unfold namedMapGo
    simp only [connToks, List.cons_append, List.append_assoc, List.nil_append, expect, next, bind, Except.bind,
      beq_self_eq_true, if_true, hnt.valid, Bool.not_true, Bool.false_eq_true, if_false, hnt.strip, pure, Except.pure]
    rw [htl] at hex ⊢
    simp only [List.cons_append] at hex ⊢
    simp only [peek, hb, Bool.false_eq_true, if_false, hex]
    rcases ht with rfl | rfl <;> simp

theorem namedMapGo_toks : ∀ (cs : List (String × XExpr)) (acc : List (Option String × XExpr)) (f : Nat) (rest : Toks),
    cs ≠ [] → cs.length ≤ f → (∀ c ∈ cs, connOK c = true) →
    namedMapGo f (sepConns cs ++ ")" :: rest) acc = .ok (acc ++ cs.map (fun c => (some c.1, c.2)), rest):= by
  intro cs acc f rest hne hf hok
  exact sepConns_sep.loop namedMapGo (fun c => (some c.1, c.2)) ")" id (by decide) (fun _ cs => ∀ c ∈ cs, connOK c = true)
    (fun _ _ _ h x hx => h x (List.mem_cons_of_mem _ hx))
    (fun c _ acc f t tail h ht => namedMapGo_conn c acc f t tail (h c List.mem_cons_self) ht) cs acc f rest hne hf hok

def instCore (mod nm : String) (ps : Params) (cs : List (String × XExpr)) : List String :=
  nameT mod :: (paramToks ps ++ nameT nm :: "(" :: (sepConns cs ++ [")", ";"]))

def instOK (mod nm : String) (ps : Params) (cs : List (String × XExpr)) : Bool :=
  nameTokB (nameT mod) mod && nameTokB (nameT nm) nm && paramsOK ps && !cs.isEmpty && cs.all connOK

theorem instOK_parts {mod nm : String} {ps : Params} {cs : List (String × XExpr)} (h : instOK mod nm ps cs = true) :
    nameTokB (nameT mod) mod = true ∧ nameTokB (nameT nm) nm = true ∧ paramsOK ps = true ∧ cs ≠ [] ∧
      ∀ c ∈ cs, connOK c = true := by
  simp only [instOK, Bool.and_eq_true, Bool.not_eq_eq_eq_not, Bool.not_true, List.isEmpty_eq_false_iff, List.all_eq_true] at h
  exact ⟨h.1.1.1.1, h.1.1.1.2, h.1.1.2, h.1.2, h.2⟩

theorem sepConns_head (cs : List (String × XExpr)) (h : cs ≠ []) : ∃ tl, sepConns cs = "." :: tl := by
  cases cs with
  | nil => exact absurd rfl h
  | cons c cs => cases cs <;> simp [sepConns, connToks]

theorem instP_toks (attrs : Attrs) (mod nm : String) (ps : Params) (cs : List (String × XExpr)) (rest : Toks)
    (h : instOK mod nm ps cs = true) :
    instP attrs (instCore mod nm ps cs ++ rest) =
      .ok (.inst mod nm ps attrs true (cs.map (fun c => (some c.1, c.2))), rest) := by
  obtain ⟨h1, h2, h3, h4, h5⟩ := instOK_parts h
  have hm := nameTok_sound _ _ h1
  have hn := nameTok_sound _ _ h2
  obtain ⟨tl, htl⟩ := sepConns_head cs h4
  have hgo := namedMapGo_toks cs [] ((sepConns cs ++ ")" :: ";" :: rest).length + 1) (";" :: rest) h4 (by
    have := sepConns_sep.len (fun _ => by simp [connToks]) cs
    simp only [List.length_append]; omega) h5
  have hnh : (nameT nm == "#") = false := hn.res "#" (by decide)
  have e1 : ("." == ".") = true := by decide
  unfold instP instCore
  by_cases hps : ps = []
  · subst hps
    simp only [paramToks, List.isEmpty_nil, if_true, List.nil_append, List.cons_append, List.append_assoc, next, peek, bind,
      Except.bind, hm.valid, Bool.not_true, Bool.false_eq_true, if_false, hnh, hn.valid, expect, beq_self_eq_true, pure,
      Except.pure, hm.strip, hn.strip]
    rw [htl] at hgo ⊢
    simp only [List.cons_append, List.nil_append, List.length_cons] at hgo ⊢
    simp only [e1, if_true, hgo]
    simp
  · have hpm := paramMap_toks ps (nameT nm :: "(" :: (sepConns cs ++ ([")", ";"] ++ rest))) hps h3
    have hem : ps.isEmpty = false := by cases ps <;> simp at hps ⊢
    have hph : ∃ ptl, paramToks ps = "#" :: ptl := by unfold paramToks; rw [hem]; exact ⟨_, rfl⟩
    obtain ⟨ptl, hptl⟩ := hph
    simp only [List.cons_append, List.append_assoc, next, bind, Except.bind, hm.valid, Bool.not_true, Bool.false_eq_true,
      if_false]
    rw [hptl] at hpm ⊢
    simp only [List.cons_append] at hpm ⊢
    simp only [peek, bind, Except.bind, beq_self_eq_true, if_true, hpm, next, hn.valid, Bool.not_true, Bool.false_eq_true,
      if_false, expect, pure, Except.pure, hm.strip, hn.strip]
    rw [htl] at hgo ⊢
    simp only [List.cons_append, List.nil_append, List.length_cons] at hgo ⊢
    simp only [e1, if_true, hgo]
    simp

def dirTok : Dir → String
  | .inp => "input"
  | .out => "output"
  | .inout => "inout"
  | .undef => "inout"

def rangeOK : Option (Int × Int) → Bool
  | none => true
  | some (a, b) => intTokB a && intTokB b

def portCore (dir : Dir) (rng : Option (Int × Int)) (nm : String) : List String :=
  dirTok dir :: (rangeToks rng ++ [nameT nm, ";"])

def portOK (dir : Dir) (rng : Option (Int × Int)) (nm : String) : Bool :=
  (dir != .undef) && rangeOK rng && nameTokB (nameT nm) nm

theorem portOK_parts {dir : Dir} {rng : Option (Int × Int)} {nm : String} (h : portOK dir rng nm = true) :
    dir ≠ .undef ∧ rangeOK rng = true ∧ nameTokB (nameT nm) nm = true := by
  simp only [portOK, Bool.and_eq_true, bne_iff_ne, ne_eq] at h
  exact ⟨h.1.1, h.1.2, h.2⟩

theorem dirOf_dirTok (d : Dir) (h : d ≠ .undef) : dirOf (dirTok d) = some d := by
  cases d <;> first | rfl | exact absurd rfl h

/-- a direction keyword is none of the words the body loops of the parser look for first -/
theorem dirTok_kw (d : Dir) : (dirTok d == "endmodule") = false ∧ (dirTok d == "endprimitive") = false ∧
    (dirTok d == "function") = false ∧ (dirTok d == "task") = false := by
  cases d <;> decide

theorem portDeclP_toks (attrs : Attrs) (dir : Dir) (rng : Option (Int × Int)) (nm : String) (rest : Toks)
    (h : portOK dir rng nm = true) :
    portDeclP attrs (portCore dir rng nm ++ rest) = .ok ([.portDecl dir none rng nm attrs], rest) := by
  obtain ⟨h1, h2, h3⟩ := portOK_parts h
  have hn := nameTok_sound _ _ h3
  have r1 : (nameT nm == "reg") = false := hn.res "reg" (by decide)
  have r2 : (nameT nm == "wire") = false := hn.res "wire" (by decide)
  have r3 : (nameT nm == "[") = false := hn.res "[" (by decide)
  unfold portDeclP portCore
  simp only [List.cons_append, next, bind, Except.bind, dirOf_dirTok dir h1]
  cases rng with
  | none =>
    simp only [rangeToks, List.nil_append, List.cons_append, peek, r1, r2, r3, Bool.or_self,
      Bool.false_eq_true, if_false, pure, Except.pure, hn.valid, Bool.not_true, hn.strip]
    unfold namesGo
    simp [next, bind, Except.bind, pure, Except.pure]
  | some p =>
    obtain ⟨a, b⟩ := p
    simp only [rangeOK, Bool.and_eq_true] at h2
    have hb := brackets_part a b (nameT nm :: ";" :: rest) h2.1 h2.2
    have e1 : ("[" == "reg") = false := by decide
    have e2 : ("[" == "wire") = false := by decide
    simp only [rangeToks, List.cons_append, List.nil_append, peek, e1, e2, Bool.or_self,
      Bool.false_eq_true, if_false, pure, Except.pure, beq_self_eq_true, if_true, hb, hn.valid, Bool.not_true, hn.strip]
    unfold namesGo
    simp [next, bind, Except.bind, pure, Except.pure]

def wireTypes : List String := ["wire", "reg", "tri0", "tri1"]

theorem cableDeclGo_toks (f : Nat) (ty : String) (attrs : Attrs) (rng : Option (Int × Int)) (nm : String) (rest : Toks)
    (h2 : rangeOK rng = true) (h3 : nameTokB (nameT nm) nm = true) :
    cableDeclGo (f + 1) (rangeToks rng ++ nameT nm :: ";" :: rest) ty attrs none [] =
      .ok ([.wireDecl ty rng nm attrs], rest) := by
  have hn := nameTok_sound _ _ h3
  have r3 : (nameT nm == "[") = false := hn.res "[" (by decide)
  unfold cableDeclGo
  cases rng with
  | none =>
    simp [rangeToks, peek, bind, Except.bind, r3, pure, Except.pure, next, hn.valid, hn.strip]
  | some p =>
    obtain ⟨a, b⟩ := p
    simp only [rangeOK, Bool.and_eq_true] at h2
    have hb := brackets_part a b (nameT nm :: ";" :: rest) h2.1 h2.2
    simp [rangeToks, peek, bind, Except.bind, hb, pure, Except.pure, next, hn.valid, hn.strip]

end Spydr.Verilog.Elab
