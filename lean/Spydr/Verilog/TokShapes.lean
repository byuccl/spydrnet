/-
  Token level: the shapes of module the writer prints besides the plain work module of TokModule — `celldefine`
  modules, a work module with assigns as a record — and whole files of them, as instances of `topGo_frame` and
  `parseV_file`; and the tokens the LEXER returns for a primitive whose ports have no direction (the comment
  `/* undefined port direction */` is a token, which the preprocessor drops: `leafToksXU_filter`).
-/
import Spydr.Verilog.TokWritten
namespace Spydr.Verilog.Elab
open Spydr.Verilog
open Spydr.Verilog.Parse
open Spydr.Verilog.Text (fixName)

def leafCore (lf : WLeaf) : List String :=
  "module" :: nameT lf.name :: "(" :: (sepNames (lf.ports.map (·.name)) ++ ")" :: ";" ::
    (lf.ports.flatMap (fun p => portCore p.dir p.rng p.name) ++ ["endmodule"]))

def leafToks (lf : WLeaf) : List String := "`celldefine" :: (leafCore lf ++ ["`endcelldefine"])

def leafOK (lf : WLeaf) : Bool :=
  nameTokB (nameT lf.name) lf.name &&
  lf.ports.all (fun p => portOK p.dir p.rng p.name && p.attrs.isEmpty) && cleanToks (leafCore lf)

def leafK (lf : WLeaf) : Bool :=
  nameK lf.name && lf.ports.all (fun p => portK p.dir p.rng p.name && p.attrs.isEmpty) && cleanToks (leafCore lf)

theorem leafK_sound (lf : WLeaf) : leafK lf = true → leafOK lf = true :=
  and_mono (and_mono (nameK_sound _) (all_mono _ fun _ => and_mono (portK_sound _ _ _) id)) id

theorem leafOK_parts {lf : WLeaf} (h : leafOK lf = true) :
    nameTokB (nameT lf.name) lf.name = true ∧ (∀ p ∈ lf.ports, portOK p.dir p.rng p.name = true) ∧
    (∀ a ∈ lf.ports.map (·.name), nameTokB (nameT a) a = true) ∧
    lf.ports.map (fun p => Item.portDecl p.dir none p.rng p.name []) = lf.ports.map PDecl.item := by
  simp only [leafOK, Bool.and_eq_true, List.all_eq_true] at h
  obtain ⟨⟨h2, h3⟩, _⟩ := h
  refine ⟨h2, fun p hp => (h3 p hp).1, ?_, List.map_congr_left fun p hp => ?_⟩
  · intro a ha
    obtain ⟨p, hp, e⟩ := List.mem_map.mp ha
    rw [← e]; exact (portOK_parts (h3 p hp).1).2.2
  · unfold PDecl.item; rw [List.isEmpty_iff.mp (h3 p hp).2]

theorem leafOK_dirs {lf : WLeaf} (h : leafOK lf = true) : ∀ p ∈ lf.ports, p.dir ≠ .undef ∧ p.attrs = [] := by
  intro p hp
  simp only [leafOK, Bool.and_eq_true, List.all_eq_true] at h
  have hp' := h.1.2 p hp
  exact ⟨(portOK_parts hp'.1).1, List.isEmpty_iff.mp hp'.2⟩

def leafCoreX (lf : WLeafX) : List String :=
  starToks lf.attrs ++ "module" :: nameT lf.base.name :: (mparamToks lf.params ++ "(" ::
    (sepNames (lf.base.ports.map (·.name)) ++ ")" :: ";" ::
      (lf.base.ports.flatMap (fun p => portCore p.dir p.rng p.name) ++ ["endmodule"])))

def leafToksX (lf : WLeafX) : List String := "`celldefine" :: (leafCoreX lf ++ ["`endcelldefine"])

def leafOKX (lf : WLeafX) : Bool :=
  leafOK lf.base && attrsOK lf.attrs && mparamsOK lf.params && cleanToks (leafCoreX lf)

theorem leafOKX_parts {lf : WLeafX} (h : leafOKX lf = true) :
    leafOK lf.base = true ∧ attrsOK lf.attrs = true ∧ mparamsOK lf.params = true ∧ cleanToks (leafCoreX lf) = true := by
  simp only [leafOKX, Bool.and_eq_true] at h
  exact ⟨h.1.1.1, h.1.1.2, h.1.2, h.2⟩

theorem moduleP_leafX (lf : WLeafX) (pend : Attrs) (rest : Toks) (h : leafOK lf.base = true) (hpar : mparamsOK lf.params = true) :
    moduleP true pend ("module" :: nameT lf.base.name :: (mparamToks lf.params ++ "(" ::
      (sepNames (lf.base.ports.map (·.name)) ++ ")" :: ";" ::
        (lf.base.ports.flatMap (fun p => portCore p.dir p.rng p.name) ++ "endmodule" :: rest)))) =
      .ok (⟨lf.base.name, true, pend, lf.params, lf.base.ports.map (fun p => (⟨p.name, none, none, none⟩ : HPort)),
        lf.base.ports.map (fun p => Item.portDecl p.dir none p.rng p.name [])⟩, rest):= by
  obtain ⟨h2, h3, hpn, _⟩ := leafOK_parts h
  simpa [List.map_map, Function.comp_def] using moduleP_frame true pend lf.base.name lf.params _ _ rest _ h2 hpar hpn
    (fun f hf => primBodyGo_body lf.base.ports rest f h3 hf)

theorem topGo_leafX (f : Nat) (lf : WLeafX) (rest : Toks) (acc : List Module) (h : leafOKX lf = true) :
    topGo (f + 4) (leafToksX lf ++ rest) false [] acc = topGo (if lf.attrs = [] then f + 1 else f) rest false [] (acc ++ [lf.toModule]):= by
  obtain ⟨hb, hat, hpar, _⟩ := leafOKX_parts h
  obtain ⟨h2, h3, hpn, hit⟩ := leafOK_parts hb
  have := topGo_frame true (if lf.attrs = [] then f + 1 else f) lf.attrs lf.base.name lf.params _ _ rest _ acc hat h2 hpar hpn
    (fun rest f hf => primBodyGo_body lf.base.ports rest f h3 hf)
  have hf : (if lf.attrs = [] then f + 1 else f) + (if lf.attrs = [] then 1 else 2) + 2 = f + 4 := by split <;> rfl
  simp only [if_true, hf] at this
  simpa [frameToks, leafToksX, leafCoreX, WLeafX.toModule, hit, List.map_map, Function.comp_def] using this

theorem moduleP_leaf (lf : WLeaf) (pend : Attrs) (rest : Toks) (h : leafOK lf = true) :
    moduleP true pend ("module" :: nameT lf.name :: "(" :: (sepNames (lf.ports.map (·.name)) ++ ")" :: ";" ::
      (lf.ports.flatMap (fun p => portCore p.dir p.rng p.name) ++ "endmodule" :: rest))) =
      .ok (⟨lf.name, true, pend, [], lf.ports.map (fun p => (⟨p.name, none, none, none⟩ : HPort)),
        lf.ports.map (fun p => Item.portDecl p.dir none p.rng p.name [])⟩, rest):=
  moduleP_leafX ⟨lf, [], []⟩ pend rest h (show mparamsOK [] = true by decide)

/-- one `celldefine` module at the top level of the file: three turns of the loop -/
theorem topGo_leaf (f : Nat) (lf : WLeaf) (rest : Toks) (acc : List Module) (h : leafOK lf = true) :
    topGo (f + 3) (leafToks lf ++ rest) false [] acc = topGo f rest false [] (acc ++ [lf.toModule]):= by
  obtain ⟨h2, h3, hpn, hit⟩ := leafOK_parts h
  have := topGo_frame true f [] lf.name [] _ _ rest _ acc rfl h2 (by decide) hpn
    (fun rest f hf => primBodyGo_body lf.ports rest f h3 hf)
  simpa [frameToks, leafToks, leafCore, WLeaf.toModule, hit, starToks, mparamToks, List.map_map, Function.comp_def] using this

theorem cell_keep {core : Toks} (h : cleanToks core = true) : ("`celldefine" :: (core ++ ["`endcelldefine"])).all keepTok = true := by
  have := keep_of_clean _ h
  simp only [List.all_cons, List.all_append, List.all_nil, Bool.and_true, this]
  decide +kernel

theorem leafToks_keep (lf : WLeaf) (h : leafOK lf = true) : (leafToks lf).all keepTok = true := by
  simp only [leafOK, Bool.and_eq_true] at h
  exact cell_keep h.2

theorem leafToksX_keep (lf : WLeafX) (h : leafOKX lf = true) : (leafToksX lf).all keepTok = true := by
  exact cell_keep (leafOKX_parts h).2.2.2

def WModA.sitems (m : WModA) : List SItem :=
  m.base.ports.map .port ++ m.base.wires.map .wire ++ m.asgs.map (fun a => SItem.asg a.1 a.2) ++ m.base.insts.map .inst

def tokensOfA (m : WModA) : List String := modToksP m.base.attrs m.base.name m.params (m.base.ports.map (·.name)) m.sitems

def tokOKA (m : WModA) : Bool :=
  modOKP m.base.attrs m.base.name m.params (m.base.ports.map (·.name)) m.sitems && cleanToks (tokensOfA m)

theorem sitemsA_items (m : WModA) : m.sitems.map SItem.toItem = m.toModule.items := by
  simp [WModA.toModule, WModA.sitems, SItem.toItem, Function.comp_def]

theorem topGo_work (f : Nat) (m : WModI) (rest : Toks) (acc : List Module) (h : modOK m.attrs m.name (m.ports.map (·.name)) m.sitems = true) :
    topGo (f + 2) (tokensOf m ++ rest) false [] acc =
      topGo (if m.attrs = [] then f + 1 else f) rest false [] (acc ++ [m.toModule]):= by
  have := topGo_mod f m.attrs m.name [] (m.ports.map (·.name)) m.sitems rest acc (modOKP_nil h)
  simpa [tokensOf, modToksP_nil, WModI.toModule, WModI.sitems, SItem.toItem, Function.comp_def] using this

def anyToks : WAny → List String
  | .work m => tokensOf m
  | .leaf lf => leafToks lf

def anyOK : WAny → Bool
  | .work m => tokOK m
  | .leaf lf => leafOK lf

theorem topGo_any (M : WAny) (h : anyOK M = true) (f : Nat) (rest : Toks) (acc : List Module) :
    ∃ f', f ≤ f' ∧ topGo (f + 3) (anyToks M ++ rest) false [] acc = topGo f' rest false [] (acc ++ [M.toModule]) := by
  cases M with
  | work m =>
    simp only [anyOK, tokOK, Bool.and_eq_true] at h
    exact ⟨_, by split <;> omega, topGo_work (f + 1) m rest acc h.1⟩
  | leaf lf => exact ⟨f, Nat.le_refl f, topGo_leaf f lf rest acc h⟩

theorem topGo_anys : ∀ (Ms : List WAny) (f : Nat) (acc : List Module),
    3 * Ms.length + 1 ≤ f → (∀ M ∈ Ms, anyOK M = true) →
    topGo f (Ms.flatMap anyToks) false [] acc = .ok (acc ++ Ms.map WAny.toModule) :=
  topGo_list anyToks WAny.toModule (anyOK · = true) 3 topGo_any

/-- the tokens of a hierarchical file (without the comment lines) -/
def fileToks (m : WModI) (Ms : List WAny) : List String := tokensOf m ++ Ms.flatMap anyToks

theorem anyToks_keep (M : WAny) (h : anyOK M = true) : (anyToks M).all keepTok = true := by
  cases M with
  | work m =>
    simp only [anyOK, tokOK, Bool.and_eq_true] at h
    exact keep_of_clean _ h.2
  | leaf lf => exact leafToks_keep lf h

theorem anyToks_len (M : WAny) : 3 ≤ (anyToks M).length := by
  cases M with
  | work m => simp [anyToks, tokensOf, modToks]; omega
  | leaf lf => simp [anyToks, leafToks, leafCore]

/-- **parse_hier.**  Token level for a hierarchical file: the REAL `parseV` on the comment lines followed by the tokens of
    the top module and of the later modules (work modules and `celldefine` modules, in any order) returns exactly their
    syntax trees. -/
theorem parse_hier (cs : Toks) (m : WModI) (Ms : List WAny) (hc : ∀ c ∈ cs, Text.isCommentTok c = true)
    (h : tokOK m = true) (hl : ∀ M ∈ Ms, anyOK M = true) :
    parseV (cs ++ fileToks m Ms) = .ok (m.toModule :: Ms.map WAny.toModule) :=
  parse_list anyToks WAny.toModule (anyOK · = true) 3 topGo_any anyToks_keep anyToks_len cs (.work m :: Ms) hc
    (List.forall_mem_cons.mpr ⟨h, hl⟩)

/-- the tokens of the whole file (without the comment lines): the top module, then the `celldefine` modules -/
def bbToks (m : WModI) (leaves : List WLeaf) : List String := tokensOf m ++ leaves.flatMap leafToks

/-- **parse_bb.**  Token level with the leaves written: the REAL `parseV` on the comment lines followed by the tokens of
    the top module and of the `celldefine` modules returns exactly their syntax trees. -/
theorem parse_bb (cs : Toks) (m : WModI) (leaves : List WLeaf) (hc : ∀ c ∈ cs, Text.isCommentTok c = true)
    (h : tokOK m = true) (hl : ∀ lf ∈ leaves, leafOK lf = true) :
    parseV (cs ++ bbToks m leaves) = .ok (m.toModule :: leaves.map WLeaf.toModule):= by
  have := parse_hier cs m (leaves.map .leaf) hc h (by simpa [anyOK] using hl)
  simpa [fileToks, bbToks, List.flatMap_map, anyToks, WAny.toModule, Function.comp_def] using this

def anyToksA : WAnyA → List String
  | .work m => tokensOfA m
  | .leaf lf => leafToksX lf

def anyOKA : WAnyA → Bool
  | .work m => tokOKA m
  | .leaf lf => leafOKX lf

def tokKA (m : WModA) : Bool :=
  modK m.base.attrs m.base.name (m.base.ports.map (·.name)) m.sitems && mparamsK m.params && cleanToks (tokensOfA m)

theorem tokKA_sound (m : WModA) : tokKA m = true → tokOKA m = true :=
  and_mono (and_mono (modK_sound _ _ _ _) (mparamsK_sound _)) id

def anyKA : WAnyA → Bool
  | .work m => tokKA m
  | .leaf lf => leafK lf.base && attrsK lf.attrs && mparamsK lf.params && cleanToks (leafCoreX lf)

theorem anyKA_sound : ∀ M, anyKA M = true → anyOKA M = true
  | .work m => tokKA_sound m
  | .leaf _ => and_mono (and_mono (and_mono (leafK_sound _) (attrsK_sound _)) (mparamsK_sound _)) id

theorem topGo_anyA (M : WAnyA) (h : anyOKA M = true) (f : Nat) (rest : Toks) (acc : List Module) :
    ∃ f', f ≤ f' ∧ topGo (f + 4) (anyToksA M ++ rest) false [] acc = topGo f' rest false [] (acc ++ [M.toModule]) := by
  cases M with
  | work m =>
    simp only [anyOKA, tokOKA, Bool.and_eq_true] at h
    refine ⟨if m.base.attrs = [] then f + 2 + 1 else f + 2, by split <;> omega, ?_⟩
    rw [anyToksA, tokensOfA, topGo_mod (f + 2) _ _ _ _ _ rest acc h.1, sitemsA_items]
    congr 3
    simp [WAnyA.toModule, WModA.toModule, Function.comp_def]
  | leaf lf => exact ⟨_, by split <;> omega, topGo_leafX f lf rest acc h⟩

/-- the tokens of a hierarchical file with assigns (without the comment lines) -/
def fileToksA (m : WModA) (Ms : List WAnyA) : List String := tokensOfA m ++ Ms.flatMap anyToksA

theorem anyToksA_keep (M : WAnyA) (h : anyOKA M = true) : (anyToksA M).all keepTok = true := by
  cases M with
  | work m =>
    simp only [anyOKA, tokOKA, Bool.and_eq_true] at h
    exact keep_of_clean _ h.2
  | leaf lf => exact leafToksX_keep lf h

theorem anyToksA_len (M : WAnyA) : 4 ≤ (anyToksA M).length := by
  cases M with
  | work m => simp [anyToksA, tokensOfA, modToksP]; omega
  | leaf lf => simp [anyToksA, leafToksX, leafCoreX]; omega

/-- **parse_hierA.**  Token level for a hierarchical file with assigns: the REAL `parseV` on the comment lines followed by
    the tokens of the top module and of the later modules returns exactly their syntax trees. -/
theorem parse_hierA (cs : Toks) (m : WModA) (Ms : List WAnyA) (hc : ∀ c ∈ cs, Text.isCommentTok c = true)
    (h : tokOKA m = true) (hl : ∀ M ∈ Ms, anyOKA M = true) :
    parseV (cs ++ fileToksA m Ms) = .ok (m.toModule :: Ms.map WAnyA.toModule) :=
  parse_list anyToksA WAnyA.toModule (anyOKA · = true) 4 topGo_anyA anyToksA_keep anyToksA_len cs (.work m :: Ms) hc
    (List.forall_mem_cons.mpr ⟨h, hl⟩)

/-- the REAL `parseV` on a token list with comments anywhere: they are dropped by the preprocessor -/
theorem parseV_dropC (L : List String) (m : WModA) (Ms : List WAnyA) (hf : L.filter notC = fileToksA m Ms)
    (h : tokOKA m = true) (hl : ∀ M ∈ Ms, anyOKA M = true) :
    Parse.parseV L = .ok (m.toModule :: Ms.map WAnyA.toModule):=
  parseV_file anyToksA WAnyA.toModule (anyOKA · = true) 4 topGo_anyA anyToksA_keep anyToksA_len L (.work m :: Ms) hf
    (List.forall_mem_cons.mpr ⟨h, hl⟩)

/-- the tokens the lexer returns for a written primitive (block comments included) -/
def leafToksXU (lf : WLeafX) : List String :=
  "`celldefine" :: ((starToks lf.attrs ++ "module" :: nameT lf.base.name :: (mparamToks lf.params ++ "(" ::
    (sepNames (lf.base.ports.map (·.name)) ++ ")" :: ";" :: (lf.base.ports.flatMap portCoreU ++ ["endmodule"])))) ++
      ["`endcelldefine"])

theorem portCoreU_filter : ∀ (ports : List PDecl), (ports.flatMap portCoreU).filter notC =
    ((ports.map (fun p => ({ p with dir := inoutD p.dir } : PDecl))).flatMap (fun p => portCore p.dir p.rng p.name)).filter notC := by
  intro ports
  rw [List.flatMap_map]
  induction ports with
  | nil => rfl
  | cons p ps ih =>
    simp only [List.flatMap_cons, List.filter_append, ih]
    congr 1
    unfold portCoreU portCore
    cases hd : p.dir <;> simp [dirToksU, inoutD, dirTok, notC, cmtU_comment, List.filter_cons]

/-- the comments removed, the tokens of a written primitive are the tokens of the module the parser returns -/
theorem leafToksXU_filter (lf : WLeafX) (h : leafOKX (inoutifyX lf) = true) :
    (leafToksXU lf).filter notC = leafToksX (inoutifyX lf) := by
  rw [← filter_keep (leafToksX_keep (inoutifyX lf) h)]
  unfold leafToksXU leafToksX leafCoreX inoutifyX inoutify
  simp only [List.filter_cons, List.filter_append, List.map_map, Function.comp_def, portCoreU_filter]

/-- the tokens the lexer returns for a written leaf (block comments included) -/
def leafToksU (lf : WLeaf) : List String :=
  "`celldefine" :: (("module" :: nameT lf.name :: "(" :: (sepNames (lf.ports.map (·.name)) ++ ")" :: ";" ::
    (lf.ports.flatMap portCoreU ++ ["endmodule"]))) ++ ["`endcelldefine"])

theorem leafToksU_filter (lf : WLeaf) (h : leafOK (inoutify lf) = true) :
    (leafToksU lf).filter notC = leafToks (inoutify lf):= by
  have hc : cleanToks (leafCore (inoutify lf)) = true := by simp only [leafOK, Bool.and_eq_true] at h; exact h.2
  have e : leafCoreX ⟨inoutify lf, [], []⟩ = leafCore (inoutify lf) := by simp [leafCoreX, leafCore, starToks, mparamToks]
  have := leafToksXU_filter ⟨lf, [], []⟩ (by
    simp only [inoutifyX, leafOKX, h, e, hc, Bool.true_and, Bool.and_true]; decide)
  simpa [leafToksXU, leafToksU, leafToksX, inoutifyX, e, leafToks, starToks, mparamToks] using this

theorem ports_dir_of_tokOKA (m : WModPA) (h : tokOKA m.toA = true) : ∀ p ∈ m.base.ports, p.dir ≠ .undef := by
  intro p hp
  rw [tokOKA, Bool.and_eq_true] at h
  exact items_port_dir (modOK_parts (modOKP_parts h.1).1).2.2.2 (by
    simp only [WModPA.toA, WModP.toI, WModA.sitems, List.mem_append, List.mem_map]
    exact Or.inl (Or.inl (Or.inl ⟨p, hp, rfl⟩)))

end Spydr.Verilog.Elab
