/-
  What the declaration phases of a written module leave behind, in closed form: every net by name (`buildW3_cab`),
  the ports in order (`buildW3_ports`), every port wired to the net of its name (`buildW3_PC`).
-/
import Spydr.Verilog.RoundTripBits
namespace Spydr.Verilog.Elab
open Spydr.Verilog

theorem foldLocal_track {α β : Type} (tr : Def → β) (upd : β → α → β) (step : Def → Nat → α → Option (Def × Nat))
    (h : ∀ d n a d' n', step d n a = some (d', n') → tr d' = upd (tr d) a) :
    ∀ (as : List α) (d : Def) (n : Nat) (d' : Def) (n' : Nat), foldLocal step d n as = some (d', n') →
      tr d' = as.foldl upd (tr d) := by
  intro as
  induction as with
  | nil => intro d n d' n' hf; cases hf; rfl
  | cons a as ih =>
    intro d n d' n' hf
    obtain ⟨d1, n1, hs, hf⟩ := (foldLocal_cons ..).mp hf
    rw [ih d1 n1 d' n' hf, h d n a d1 n1 hs]
    rfl

def updS (f : String → Option CabV) (a : String) : String → Option CabV :=
  fun nm => if nm = a then some (0, 1, none, none) else f nm

def updD (f : String → Option CabV) (p : PDecl) : String → Option CabV :=
  fun nm => if nm = p.name then (f nm).map (fun v => (stubLo p.rng, 1 + stubExtra p.rng, v.2.2.1, v.2.2.2)) else f nm

def updW (f : String → Option CabV) (w : FWire) : String → Option CabV :=
  fun nm => if nm = w.name then
      (match f nm with
       | none => some ((shapeOf w.rng).1, (shapeOf w.rng).2.1, some w.ty, some w.attrs)
       | some v => some (v.1, v.2.1, some w.ty, some w.attrs))
    else f nm

theorem find_append_single (cs : List Cable) (c : Cable) (nm : String) (h : cs.find? (fun x => x.name == c.name) = none) :
    (cs ++ [c]).find? (fun x => x.name == nm) = if nm = c.name then some c else cs.find? (fun x => x.name == nm) := by
  rw [List.find?_append]
  by_cases e : nm = c.name
  · subst e; rw [h]; simp
  · simp only [e, if_false]
    cases cs.find? (fun x => x.name == nm) with
    | some v => rfl
    | none => simp; exact fun h' => e h'.symm

theorem stubStep_cab (d : Def) (n : Nat) (a : String) (d' : Def) (n' : Nat) (h : stubStep d n a = some (d', n')) :
    cabOf d' = updS (cabOf d) a := by
  obtain ⟨⟨_, hc⟩, rfl, rfl⟩ := stubStep_eq h
  funext nm
  simp only [cabOf, updS, find_append_single d.cables (portCable a 0 true [n]) nm hc]
  by_cases e : nm = a <;> simp [e, portCable]

/-- the replaced cable keeps its name, so the same cables are found, the replaced one in its new form -/
theorem find_map_replace (cs : List Cable) (nm0 nm : String) (C : Cable) (hC : C.name = nm0) :
    (cs.map (fun y => if y.name == nm0 then C else y)).find? (fun x => x.name == nm) =
      if nm = nm0 then (cs.find? (fun x => x.name == nm)).map (fun _ => C) else cs.find? (fun x => x.name == nm) := by
  rw [find?_map_keep Cable.name (· == nm) _ fun y => by by_cases e : y.name = nm0 <;> simp [e, hC]]
  cases hf : cs.find? (fun x => x.name == nm) with
  | none => simp
  | some y =>
    have := find_name hf
    by_cases e : nm = nm0 <;> simp [e, this]

theorem declStep_cab (d : Def) (n : Nat) (p : PDecl) (d' : Def) (n' : Nat) (h : declStep d n p = some (d', n')) :
    cabOf d' = updD (cabOf d) p := by
  obtain ⟨k, c0, w0, m, rfl, rfl⟩ := declStep_eq h
  funext nm
  simp only [cabOf, updD, find_map_replace d.cables p.name nm (grownCable c0 p.rng n) m.cname]
  by_cases e : nm = p.name
  · subst e
    simp [m.find, grownCable, m.wires, ids]
    omega
  · simp [e]

theorem wireStep_cab (d : Def) (n : Nat) (w : FWire) (d' : Def) (n' : Nat) (h : wireStep d n w = some (d', n')) :
    cabOf d' = updW (cabOf d) w := by
  obtain ⟨hc, rfl, rfl⟩ | ⟨c, hc, hcn, _, rfl, rfl⟩ := wireStep_eq h
  · funext nm
    simp only [cabOf, updW, find_append_single d.cables (wireCable w n) nm hc]
    by_cases e : nm = w.name
    · subst e; simp [hc, wireCable, ids]
    · simp [e, wireCable]
  · funext nm
    simp only [cabOf, updW, find_map_replace d.cables w.name nm { c with ctype := some w.ty, attrs := some w.attrs } hcn]
    by_cases e : nm = w.name
    · subst e; simp [hc]
    · simp [e]

/-- folding pointwise updates: only the items with that key matter -/
theorem foldl_pointwise {α V : Type} (key : α → String) (g : α → Option V → Option V)
    (upd : (String → Option V) → α → String → Option V)
    (hupd : ∀ f a nm, upd f a nm = if nm = key a then g a (f nm) else f nm) (nm : String) :
    ∀ (as : List α) (f : String → Option V),
      (as.foldl upd f) nm = (as.filter (fun a => key a == nm)).foldl (fun v a => g a v) (f nm) := by
  intro as
  induction as with
  | nil => intro f; rfl
  | cons a as ih =>
    intro f
    simp only [List.foldl_cons, List.filter_cons]
    rw [ih, hupd]
    by_cases e : nm = key a
    · subst e; simp
    · have : (key a == nm) = false := by simp; exact fun h => e h.symm
      simp [e, this]

theorem filter_key_nodup {α : Type} (key : α → String) (nm : String) : ∀ (as : List α), (as.map key).Nodup →
    (as.filter (fun a => key a == nm) = [] ∧ nm ∉ as.map key) ∨
    (∃ a ∈ as, key a = nm ∧ as.filter (fun a => key a == nm) = [a]) := by
  intro as hn
  by_cases h : nm ∈ as.map key
  · -- `as = l1 ++ a :: l2` with the key only at `a`
    obtain ⟨a, ha, rfl⟩ := List.mem_map.mp h
    obtain ⟨l1, l2, rfl⟩ := List.append_of_mem ha
    rw [List.map_append, List.map_cons, List.nodup_append, List.nodup_cons] at hn
    have h1 : l1.filter (fun x => key x == key a) = [] := List.filter_eq_nil_iff.mpr fun x hx hk =>
      hn.2.2 _ (List.mem_map.mpr ⟨x, hx, rfl⟩) _ List.mem_cons_self (by simpa using hk)
    have h2 : l2.filter (fun x => key x == key a) = [] := List.filter_eq_nil_iff.mpr fun x hx hk =>
      hn.2.1.1 (List.mem_map.mpr ⟨x, hx, by simpa using hk⟩)
    exact Or.inr ⟨a, ha, rfl, by simp [h1, h2]⟩
  · exact Or.inl ⟨List.filter_eq_nil_iff.mpr fun x hx hk => h (List.mem_map.mpr ⟨x, hx, by simpa using hk⟩), h⟩

theorem buildW3_cab (d0 : Def) (n : Nat) (ports : List PDecl) (wires : List FWire) (d3 : Def) (n3 : Nat)
    (hb : buildW3 d0 n ports wires = some (d3, n3)) :
    cabOf d3 = wires.foldl updW (ports.foldl updD ((ports.map (·.name)).foldl updS (cabOf d0))) := by
  obtain ⟨d1, n1, d2, n2, h1, _, h2, h3⟩ := buildW3_inv hb
  rw [foldLocal_track cabOf updW wireStep wireStep_cab _ _ _ _ _ h3,
    foldLocal_track cabOf updD declStep declStep_cab _ _ _ _ _ h2,
    foldLocal_track cabOf updS stubStep stubStep_cab _ _ _ _ _ h1]

/-- name, direction, lower index, width, attributes of a port -/
abbrev PV := Option String × Dir × Int × Nat × Option Attrs

def pv (P : Port) : PV := (P.name, P.dir, P.lower, P.pins.length, P.attrs)

def stubV (a : String) : PV := (some a, .undef, 0, 1, none)
def declV (p : PDecl) : PV :=
  (some p.name, p.dir, stubLo p.rng, 1 + stubExtra p.rng, if p.attrs.isEmpty then none else some p.attrs)

theorem stub_fold_ports (names : List String) (d : Def) (n : Nat) (d' : Def) (n' : Nat)
    (h : foldLocal stubStep d n names = some (d', n')) : d'.ports.map pv = d.ports.map pv ++ names.map stubV := by
  rw [foldLocal_track (fun d => d.ports.map pv) (fun l a => l ++ [stubV a]) stubStep (fun d n a d' n' hs => by
      obtain ⟨_, rfl, _⟩ := stubStep_eq hs
      simp [pv, stubV, wiredPort]) names d n d' n' h,
    List.foldl_append_eq_append, ← List.flatMap_def, ← List.map_eq_flatMap]

theorem portIdx_of_nodup (rd : Def) (k : Nat) (pn : String) (hn : (rd.ports.map (·.name)).Nodup) (hk : k < rd.ports.length)
    (hname : rd.ports[k].name = some pn) : portIdx rd pn = some k := by
  have := hn.idxOf_getElem k (by simpa using hk)
  rw [List.getElem_map, hname, List.idxOf, List.findIdx_map] at this
  exact List.findIdx?_eq_some_iff_findIdx_eq.mpr ⟨hk, this⟩

/-- the body declarations meet the stubs one by one, in the order of the header -/
theorem decl_fold_ports : ∀ (todo : List PDecl) (done : List PV) (d : Def) (n : Nat) (d' : Def) (n' : Nat),
    d.ports.map pv = done ++ todo.map (fun p => stubV p.name) →
    foldLocal declStep d n todo = some (d', n') → d'.ports.map pv = done ++ todo.map declV := by
  intro todo
  induction todo with
  | nil =>
    intro done d n d' n' hv h
    cases h
    exact hv
  | cons p ps ih =>
    intro done d n d' n' hv h
    obtain ⟨d1, n1, hs, h⟩ := (foldLocal_cons ..).mp h
    have := ih (done ++ [declV p]) d1 n1 d' n' ?_ h
    · simpa using this
    · obtain ⟨k, c0, w0, m, rfl, rfl⟩ := declStep_eq hs
      -- the stub of `p` stands at position `done.length`, so that is the port the declaration meets
      have hlt : done.length < d.ports.length := by
        have := congrArg List.length hv
        simp only [List.length_map, List.length_append, List.length_cons] at this
        omega
      have hP : pv d.ports[done.length] = stubV p.name := by
        have := congrArg (fun l => l[done.length]?) hv
        simpa [List.getElem?_eq_getElem hlt] using this
      simp only [pv, stubV, Prod.mk.injEq] at hP
      obtain rfl : k = done.length := Option.some.inj (m.idx.symm.trans (portIdx_of_nodup d _ _ m.nodup hlt hP.1))
      rw [List.map_set, hv, List.set_append_right _ _ (by simp)]
      simp [pv, declV, grownPort, ids, hlt, hP]
      omega

theorem wireStep_ports (d : Def) (n : Nat) (w : FWire) (d' : Def) (n' : Nat) (h : wireStep d n w = some (d', n')) :
    d'.ports = d.ports := by
  obtain ⟨_, rfl, _⟩ | ⟨c, _, _, _, _, rfl⟩ := wireStep_eq h <;> rfl

theorem buildW3_ports_append {d0 : Def} {n : Nat} {ports : List PDecl} {wires : List FWire} {d3 : Def} {n3 : Nat}
    (hb : buildW3 d0 n ports wires = some (d3, n3)) : d3.ports.map pv = d0.ports.map pv ++ ports.map declV := by
  obtain ⟨d1, n1, d2, n2, h1, _, h2, h3⟩ := buildW3_inv hb
  rw [foldLocal_pres (·.ports) wireStep wireStep_ports _ _ _ _ _ h3]
  exact decl_fold_ports ports _ d1 n1 d2 n2 (by rw [stub_fold_ports _ d0 n d1 n1 h1, List.map_map]; rfl) h2

theorem buildW3_ports (d0 : Def) (n : Nat) (ports : List PDecl) (wires : List FWire) (d3 : Def) (n3 : Nat)
    (h0 : d0.ports = []) (hn : (ports.map (·.name)).Nodup)
    (hb : buildW3 d0 n ports wires = some (d3, n3)) : d3.ports.map pv = ports.map declV := by
  simpa [h0] using buildW3_ports_append hb

def PC (d : Def) : Prop :=
  ∀ P ∈ d.ports, ∃ nm C, P.name = some nm ∧ d.cables.find? (fun c => c.name == nm) = some C ∧
    P.pins = C.wires.map some ∧ P.lower = C.lower

theorem stubStep_PC (d : Def) (n : Nat) (a : String) (d' : Def) (n' : Nat) (h : PC d)
    (hs : stubStep d n a = some (d', n')) : PC d' := by
  obtain ⟨⟨_, hc⟩, rfl, rfl⟩ := stubStep_eq hs
  intro P hP
  rcases List.mem_append.mp hP with e | e
  · obtain ⟨nm, C, h1, h2, h3, h4⟩ := h P e
    exact ⟨nm, C, h1, by simp [h2], h3, h4⟩
  · rw [List.mem_singleton.mp e]
    exact ⟨a, portCable a 0 true [n], rfl, by simp [hc, portCable], rfl, rfl⟩

theorem declStep_PC (d : Def) (n : Nat) (p : PDecl) (d' : Def) (n' : Nat) (h : PC d)
    (hs : declStep d n p = some (d', n')) : PC d' := by
  obtain ⟨k, c0, w0, m, rfl, rfl⟩ := declStep_eq hs
  have hfind := fun nm => find_map_replace d.cables p.name nm (grownCable c0 p.rng n) m.cname
  intro P hP
  dsimp only at hP ⊢
  obtain ⟨i, hi, hPi⟩ := List.getElem_of_mem hP
  simp only [List.length_set] at hi
  rw [List.getElem_set] at hPi
  split at hPi
  · -- the port of the declaration: grown like its cable
    refine ⟨p.name, grownCable c0 p.rng n, by rw [← hPi]; exact m.pname, ?_,
      by rw [← hPi]; simp [grownPort, grownCable, m.wires], by rw [← hPi]; rfl⟩
    rw [hfind, if_pos rfl, m.find]; rfl
  · -- another port: its name is not that of the declaration
    rename_i hik
    obtain ⟨nm, C, h1, h2, h3, h4⟩ := h P (by rw [← hPi]; exact List.getElem_mem hi)
    have hne : nm ≠ p.name := fun e =>
      hik (Option.some.inj (m.idx.symm.trans (portIdx_of_nodup d i p.name m.nodup hi (by rw [hPi, h1, e]))))
    exact ⟨nm, C, h1, by rw [hfind, if_neg hne, h2], h3, h4⟩

theorem wireStep_PC (d : Def) (n : Nat) (w : FWire) (d' : Def) (n' : Nat) (h : PC d)
    (hs : wireStep d n w = some (d', n')) : PC d' := by
  intro P hP
  rw [wireStep_ports d n w d' n' hs] at hP
  obtain ⟨nm, C, h1, h2, h3, h4⟩ := h P hP
  obtain ⟨hc, rfl, rfl⟩ | ⟨c, hc, hcn, _, rfl, rfl⟩ := wireStep_eq hs
  · exact ⟨nm, C, h1, by simp [h2], h3, h4⟩
  · have hfind := find_map_replace d.cables w.name nm { c with ctype := some w.ty, attrs := some w.attrs } hcn
    by_cases en : nm = w.name
    · -- the net of the port: only type and attributes change
      obtain rfl : c = C := Option.some.inj (hc.symm.trans (en ▸ h2))
      exact ⟨nm, { c with ctype := some w.ty, attrs := some w.attrs }, h1, by rw [hfind, if_pos en, en, hc]; rfl, h3, h4⟩
    · exact ⟨nm, C, h1, by rw [hfind, if_neg en, h2], h3, h4⟩

theorem buildW3_PC (d0 : Def) (n : Nat) (ports : List PDecl) (wires : List FWire) (d3 : Def) (n3 : Nat)
    (h0 : PC d0) (hb : buildW3 d0 n ports wires = some (d3, n3)) : PC d3 :=
  buildW3_pres (fun d _ => PC d) stubStep_PC declStep_PC wireStep_PC h0 hb
end Spydr.Verilog.Elab
