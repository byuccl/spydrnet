/-
  C04 for a hierarchical netlist WITH ASSIGNS, module parameters and primitives with attributes / parameters / ports without
  direction, up to the syntax trees: the widest statement of the reader side.  How its conclusion has to be read is said at
  `c04_view_hierA`.
-/
import Spydr.Verilog.ViewHier
namespace Spydr.Verilog.Elab
open Spydr.Verilog

theorem buildLeafX_facts (L : Def) (n : Nat) (lf : WLeafX) (D : Def) (n' : Nat) (ops : List (Nat × Nat))
    (hb : buildLeafX L n lf = some (D, n', ops)) (hlow : ∀ P ∈ L.ports, P.lower = 0) (hat : L.attrs = none) :
    (∀ op ∈ ops, op.1 < L.ports.length) ∧ L.lib = none ∧ D.ports.map (·.name) = L.ports.map (·.name) ∧ D.name = L.name ∧
      ifaceD D = ifaceP lf.base.ports ∧ D.lib = some "hdi_primitives" ∧ D.attrs.getD [] = lf.attrs ∧
      D.params = mergeParams [] lf.params := by
  obtain ⟨hLp, L', hb0, rfl⟩ := buildLeafX_some hb
  generalize hL0 : ({ L with params := mergeParams L.params lf.params } : Def) = L0 at hb0
  obtain ⟨b1, b2, b3, b4⟩ := buildLeaf_bound L0 n lf.base.ports L' n' ops hb0
  obtain ⟨c1, c2⟩ := buildLeaf_iface L0 n lf.base.ports L' n' ops hb0 (by rw [← hL0]; exact hlow)
  obtain ⟨m1, m2⟩ := buildLeaf_meta L0 n lf.base.ports L' n' ops hb0
  refine ⟨by rw [← hL0] at b1; exact b1, by rw [← hL0] at b2; exact b2, by rw [withAttrs_ports, b3, ← hL0],
    by rw [withAttrs_name, b4, ← hL0], ?_, by rw [withAttrs_lib, c2], ?_,
    by rw [withAttrs_params, m2, ← hL0]; show mergeParams L.params lf.params = _; rw [hLp]⟩
  · unfold ifaceD; rw [withAttrs_ports]; exact c1
  · unfold withAttrs
    split
    · rename_i he
      rw [m1, ← hL0]
      show L.attrs.getD [] = _
      rw [hat]; exact (List.isEmpty_iff.mp he).symm
    · rfl

/-- the module parameters a written definition comes back with: the written ones, a repeated key keeps its first value -/
def paramsOf (W : Text.WDef) : Params := mergeParams [] ((astParams W).getD [])

def DoneLX (defs : List Def) (Rl : List Text.WDef) : Prop :=
  ∀ r ∈ Rl, ∃ L ∈ defs, L.name = r.name ∧ L.lib = some "hdi_primitives" ∧ ifaceD L = ifaceT r ∧
    L.attrs.getD [] = r.attrs.getD [] ∧ L.params = paramsOf r

/-- the syntax the writer prints for a definition written after the top: a `celldefine` module for a primitive, a module
    for anything else -/
def astAnyA (n : Text.WNet) (r : Text.WDef) : Option WAnyA :=
  if r.lib == "hdi_primitives" then (astLeafXU r).map (fun lf => WAnyA.leaf (inoutifyX lf))
  else (astOfA n r).map (fun m => WAnyA.work m.toA)

/-- the fragment, one module: a primitive, or a work module in `fragTop` whose assignment instances are in `asgsOK` -/
def fragTopA (n : Text.WNet) (r : Text.WDef) : Bool := fragTop n r && asgsOK n r 0 (asgI n r)

def fragAnyA (n : Text.WNet) (r : Text.WDef) : Bool := r.lib == "hdi_primitives" || fragTopA n r

def DoneWA (n : Text.WNet) (defs : List Def) (Ws : List Text.WDef) : Prop :=
  ∀ W ∈ Ws, ∃ D ∈ defs, D.name = W.name ∧ viewD D = viewTA n W ∧ D.lib = some "work" ∧ D.params = paramsOf W

theorem astOfA_name (n : Text.WNet) (r : Text.WDef) (m : WModPA) (hm : astOfA n r = some m) :
    m.toA.base.name = r.name ∧ m.toA.base.attrs = r.attrs.getD [] ∧ astParams r = some m.params := by
  obtain ⟨_, _, _, _, _, _, _, hp, rfl⟩ := astOfA_some n r m hm
  exact ⟨rfl, rfl, hp⟩

theorem astAnyA_name (n : Text.WNet) (r : Text.WDef) (M : WAnyA) (h : astAnyA n r = some M) : M.name = r.name := by
  unfold astAnyA at h
  split at h
  · simp only [Option.map_eq_some_iff] at h
    obtain ⟨lf, hlf, e⟩ := h
    rw [← e]
    exact (astLeafU_iface r lf.base (astLeafXU_spec r lf hlf).1).1
  · simp only [Option.map_eq_some_iff] at h
    obtain ⟨m, hm, e⟩ := h
    rw [← e]
    exact (astOfA_name n r m hm).1

theorem done_padA (n : Text.WNet) (defs : List Def) (nm : String) (D L : Def) (ops : List (Nat × Nat)) (extra : List Def)
    (Ws Rl : List Text.WDef) (hfull : FullT defs) (hL : L ∈ defs) (hLn : L.name = nm)
    (hops : ∀ op ∈ ops, op.1 < L.ports.length) (hdw : DoneWA n defs Ws) (hdl : DoneLX defs Rl)
    (hnw : ∀ W ∈ Ws, W.name ≠ nm) (hnl : ∀ x ∈ Rl, x.name ≠ nm) :
    DoneWA n (defs.map (fun x => if x.name == nm then D else padOpsD x nm ops) ++ extra) Ws ∧
    DoneLX (defs.map (fun x => if x.name == nm then D else padOpsD x nm ops) ++ extra) Rl := by
  constructor
  · intro W hW
    obtain ⟨D0, hD0, e1, e2, e3, e4⟩ := hdw W hW
    have hne : D0.name ≠ nm := by rw [e1]; exact hnw W hW
    refine ⟨padOpsD D0 nm ops, List.mem_append_left _ (maptbl_other defs nm D ops D0 hD0 hne), e1, ?_, e3, e4⟩
    rw [viewD_padOps D0 nm L.ports.length ops (fun i hi e => hfull L hL D0 hD0 i hi (e.trans hLn.symm)) hops]
    exact e2
  · intro x hx
    obtain ⟨L0, hL0, e1, e2, e3, e4, e5⟩ := hdl x hx
    have hne : L0.name ≠ nm := by rw [e1]; exact hnl x hx
    exact ⟨padOpsD L0 nm ops, List.mem_append_left _ (maptbl_other defs nm D ops L0 hL0 hne), e1, e2, e3, e4, e5⟩

theorem hier_tbl_workA (n : Text.WNet) (t : String) (defs : List Def) (nx : Nat) (r : Text.WDef) (m : WModPA)
    (tbl' : List Def) (n' : Nat) (Ws Rl : List Text.WDef) (hfull : FullT defs) (hleaf : LeafInv n defs)
    (hstub : ∀ D ∈ defs, StubOK D) (hfrag : fragTopA n r = true) (hm : astOfA n r = some m)
    (hstep : lateStepA defs nx t (.work m.toA) = some (tbl', n'))
    (hdw : DoneWA n defs Ws) (hdl : DoneLX defs Rl) (hnw : ∀ W ∈ Ws, W.name ≠ r.name) (hnl : ∀ x ∈ Rl, x.name ≠ r.name) :
    LeafInv n tbl' ∧ (∀ D ∈ tbl', StubOK D) ∧ DoneWA n tbl' (r :: Ws) ∧ DoneLX tbl' Rl := by
  obtain ⟨hMn, _, hMp⟩ := astOfA_name n r m hm
  have hfr : fragTop n r = true ∧ asgsOK n r 0 (asgI n r) = true := by
    simpa [fragTopA] using hfrag
  obtain ⟨L, D, ls', ops, hLm, hLn, hb, rfl⟩ := lateStepA_work _ _ _ _ _ _ hstep
  obtain ⟨v1, v2, v3, v4, ⟨new, en, hnew⟩, v6, _, v8, v9⟩ := buildLateWA_view n r m L _ nx t D ls' n' ops hfr.1 hfr.2 hm
    (hstub L hLm) (leafInv_sub n defs _ hleaf) hb
  rw [en, List.drop_left' (List.length_map _), hMn]
  rw [hMn] at hLn
  obtain ⟨p1, p2⟩ := done_padA n defs r.name D L ops new Ws Rl hfull hLm hLn v6 hdw hdl hnw hnl
  obtain ⟨q1, q2⟩ := pad_inv n defs r.name D L ops new hleaf hstub hLm v3 v8 (by simp [v2])
    (fun x h => v4 x (by rw [en]; exact List.mem_append_right _ h)) hnew
  exact ⟨q1, q2, List.forall_mem_cons.mpr
    ⟨⟨D, List.mem_append_left _ (maptbl_self defs r.name D ops L hLm hLn), v3.trans hLn, v1, v2,
      by rw [v9]; unfold paramsOf; rw [hMp]; rfl⟩, p1⟩, p2⟩

theorem hier_tbl_leafA (n : Text.WNet) (t : String) (defs : List Def) (nx : Nat) (r : Text.WDef) (lfU : WLeafX)
    (tbl' : List Def) (n' : Nat) (Ws Rl : List Text.WDef) (hfull : FullT defs) (hleaf : LeafInv n defs)
    (hstub : ∀ D ∈ defs, StubOK D) (ha : astLeafXU r = some lfU)
    (hstep : lateStepA defs nx t (.leaf (inoutifyX lfU)) = some (tbl', n'))
    (hdw : DoneWA n defs Ws) (hdl : DoneLX defs Rl) (hnw : ∀ W ∈ Ws, W.name ≠ r.name) (hnl : ∀ x ∈ Rl, x.name ≠ r.name) :
    LeafInv n tbl' ∧ (∀ D ∈ tbl', StubOK D) ∧ DoneWA n tbl' Ws ∧ DoneLX tbl' (r :: Rl) := by
  obtain ⟨hU, hat, hpar⟩ := astLeafXU_spec r lfU ha
  obtain ⟨hMn, hifc⟩ := astLeafU_iface r lfU.base hU
  generalize hlf : inoutifyX lfU = lf at hstep
  have hlfb : lf.base = inoutify lfU.base := by rw [← hlf]; rfl
  have hlfa : lf.attrs = lfU.attrs := by rw [← hlf]; rfl
  have hlfp : lf.params = lfU.params := by rw [← hlf]; rfl
  rw [← hlfb] at hMn hifc
  obtain ⟨L, L', ops, hLm, hLn, hb, rfl⟩ := lateStepA_leaf _ _ _ _ _ _ hstep
  have hlibL : L.lib = none := by
    obtain ⟨_, L0, hb0, _⟩ := buildLeafX_some hb
    exact (buildLeaf_bound _ nx lf.base.ports L0 n' ops hb0).2.1
  obtain ⟨sc, _, sa, sp⟩ := hstub L hLm hlibL
  obtain ⟨b1, b2, b3, b4, c1, c2, c3, c4⟩ := buildLeafX_facts L nx lf L' n' ops hb (fun P hP => (sp P hP).1) sa
  rw [hMn] at hLn ⊢
  obtain ⟨p1, p2⟩ := done_padA n defs r.name L' L ops [] Ws Rl hfull hLm hLn b1 hdw hdl hnw hnl
  obtain ⟨q1, q2⟩ := pad_inv n defs r.name L' L ops [] hleaf hstub hLm b4 b3 (by simp [c2])
    (fun _ h => nomatch h) (fun _ h => nomatch h)
  simp only [List.append_nil] at p1 p2 q1 q2
  exact ⟨q1, q2, p1, List.forall_mem_cons.mpr
    ⟨⟨L', maptbl_self defs r.name L' ops L hLm hLn, b4.trans hLn, c2, c1.trans hifc,
      by rw [c3, hlfa, hat], by rw [c4, hlfp]; unfold paramsOf; rw [hpar]; rfl⟩, p2⟩⟩

/-- **hier_foldA.**  The later modules of a hierarchical file, one after the other: the run succeeds, and at the end every
    work module shows the view and every primitive the interface of its definition in the netlist. -/
theorem hier_foldA (n : Text.WNet) (t : String) : ∀ (Rs : List Text.WDef) (Ms : List WAnyA) (s : St) (tbl' : List Def) (n' : Nat)
    (Ws Rl : List Text.WDef), Rs.mapM (astAnyA n) = some Ms → (∀ r ∈ Rs, fragAnyA n r = true) → (Rs.map (·.name)).Nodup →
    (∀ r ∈ Rs, ∀ W ∈ Ws, W.name ≠ r.name) → (∀ r ∈ Rs, ∀ x ∈ Rl, x.name ≠ r.name) →
    HI n s → s.top = some t → foldLateA s.defs s.next t Ms = some (tbl', n') →
    DoneWA n s.defs Ws → DoneLX s.defs Rl →
    ∃ s', (Ms.map WAnyA.toModule).foldlM elabModule s = .ok s' ∧ s'.defs = tbl' ∧ s'.next = n' ∧ s'.top = some t ∧
      s'.pending = s.pending ∧
      DoneWA n s'.defs (Ws ++ Rs.filter (fun r => !isPrim r)) ∧ DoneLX s'.defs (Rl ++ Rs.filter isPrim) := by
  intro Rs Ms s tbl' n' Ws Rl hM hfa hnd hnw hnl hi htop h hdw hdl
  obtain ⟨s', f1, f2, f3, f4, f5, f7, f8⟩ := hier_run n (astAnyA n) WAnyA.toModule (lateStepA · · t) (foldLateA · · t)
    (fun _ _ => rfl) (fun tbl n => foldLateA_cons tbl n t) (fragAnyA n) (fun s => s.top = some t)
    (fun defs W => ∃ D ∈ defs, D.name = W.name ∧ viewD D = viewTA n W ∧ D.lib = some "work" ∧ D.params = paramsOf W)
    (fun defs r => ∃ L ∈ defs, L.name = r.name ∧ L.lib = some "hdi_primitives" ∧ ifaceD L = ifaceT r ∧
      L.attrs.getD [] = r.attrs.getD [] ∧ L.params = paramsOf r)
    (by
      intro r M s tbl1 n1 Ws Rl ha hfr hi htop hdw hdl hnw hnl hs
      obtain ⟨s1, g1, g2, g3, g4, g5, g7⟩ := late_stepA s t M tbl1 n1 hi.wf htop hs
      refine ⟨s1, g1, g3, g4, g7, ?_⟩
      rw [g3]
      unfold astAnyA at ha
      unfold fragAnyA at hfr
      unfold isPrim
      by_cases hp : (r.lib == "hdi_primitives") = true
      · simp only [hp, if_true, Option.map_eq_some_iff] at ha ⊢
        obtain ⟨lf, hlf, rfl⟩ := ha
        obtain ⟨k1, k2, k3, k4⟩ := hier_tbl_leafA n t s.defs s.next r lf tbl1 n1 Ws Rl (fullT_of_wf hi.wf) hi.leaf hi.stub
          hlf hs hdw hdl hnw hnl
        obtain ⟨k4, k5⟩ := List.forall_mem_cons.mp k4
        exact ⟨⟨g2, g3 ▸ k1, g3 ▸ k2⟩, g5, k3, k5, k4⟩
      · have hp' : (r.lib == "hdi_primitives") = false := by simpa using hp
        simp only [hp', Bool.false_eq_true, if_false, Option.map_eq_some_iff, Bool.false_or] at ha hfr ⊢
        obtain ⟨m, hm, rfl⟩ := ha
        obtain ⟨k1, k2, k3, k4⟩ := hier_tbl_workA n t s.defs s.next r m tbl1 n1 Ws Rl (fullT_of_wf hi.wf) hi.leaf hi.stub
          hfr hm hs hdw hdl hnw hnl
        obtain ⟨k3, k5⟩ := List.forall_mem_cons.mp k3
        exact ⟨⟨g2, g3 ▸ k1, g3 ▸ k2⟩, g5, k5, k4, k3⟩)
    Rs Ms s tbl' n' Ws Rl hM hfa hnd hnw hnl hi htop h hdw hdl
  exact ⟨s', f1, f2, f3, f5, f4, f7, f8⟩

theorem viewTA_port_names (n : Text.WNet) (T : Text.WDef) : (viewTA n T).ports.map (·.name) = T.ports.map (·.name) := by
  unfold viewTA viewT; simp [List.map_map, Function.comp_def]

/-- **c04_view_hierA.**  C04 for a HIERARCHICAL netlist WITH ASSIGNS, up to the syntax trees: the file `top; then the
    definitions `Rs` in the writer's order` is accepted by the REAL `elabDesign`, the top is elected, and EVERY module shows
    the view (`viewTA`: assignment instances first) of its definition in the netlist and its module parameters as written,
    every primitive its interface, attributes and parameters.  Readings: the instance ORDER of a module with assigns changes
    unless the assignment instances already come first; directions are compared through `dirV` (an undefined direction
    counts as `inout`: the re-read port of an inferred black box is INOUT); instance rows are compared through
    `connectedBlock` (no row widths); the netlist name, `n.top` as such and the order of the definitions are not stated. -/
theorem c04_view_hierA (n : Text.WNet) (T : Text.WDef) (Rs : List Text.WDef) (m : WModPA) (Ms : List WAnyA)
    (defs : List Def) (nx : Nat) (hfragA : fragTopA n T = true) (hm : astOfA n T = some m)
    (hRs : Rs.mapM (astAnyA n) = some Ms) (hfa : ∀ r ∈ Rs, fragAnyA n r = true)
    (hnd : (T.name :: Rs.map (·.name)).Nodup)
    (hrefT : ∃ r0, Text.refOf n T.name = some r0 ∧ T.ports.map (·.name) = r0.ports.map (·.name))
    (hb : buildHierA m.toA Ms = some (defs, nx)) :
    (∃ ac, elabDesign (m.toA.toModule :: Ms.map WAnyA.toModule) = .ok ⟨defs, nx, some T.name, ac, []⟩) ∧
    (∃ D ∈ defs, D.name = T.name ∧ viewD D = viewTA n T ∧ D.lib = some "work" ∧ D.params = paramsOf T) ∧
    (∀ r ∈ Rs, isPrim r = false →
      ∃ D ∈ defs, D.name = r.name ∧ viewD D = viewTA n r ∧ D.lib = some "work" ∧ D.params = paramsOf r) ∧
    (∀ r ∈ Rs, isPrim r = true → ∃ L ∈ defs, L.name = r.name ∧ L.lib = some "hdi_primitives" ∧ ifaceD L = ifaceT r ∧
      L.attrs.getD [] = r.attrs.getD [] ∧ L.params = paramsOf r) := by
  obtain ⟨hTn, hTa, hTp⟩ := astOfA_name n T m hm
  have hfr : fragTop n T = true ∧ asgsOK n T 0 (asgI n T) = true := by simpa [fragTopA] using hfragA
  obtain ⟨hfrag, hok⟩ := hfr
  have hrun := elabDesign_hierA m.toA Ms defs nx hb
  rw [hTn] at hrun
  refine ⟨hrun, ?_⟩
  obtain ⟨ports, insts, as, pars, hports, hinsts, hasg, hpar, rfl⟩ := astOfA_some n T m hm
  obtain ⟨D, ls4, n3, tbl, hbt0, h5, rfl⟩ := buildHierA_some _ Ms defs nx hb
  obtain ⟨d3, d3a, aca, lsa, d4, h3, _, _, ha, h4, rfl⟩ := buildTopA_some _ _ _ _ hbt0
  simp only [WModPA.toA, WModP.toI] at h3 ha h4 h5
  obtain ⟨hpv, hPC, hWF, hcabE, hi3, ha3, hl3, hn3⟩ := top_facts _ ports _ d3 n3 rfl rfl h3
  obtain ⟨v1, v2, _, _⟩ := view_coreA n T ports insts as d3 d3a d4 [] lsa ls4 n3 aca hfrag hports hinsts hasg hok
    hpv hPC hWF hcabE hi3 ha3 (by intro L hL; cases hL) ha h4
  obtain ⟨hn4, hl4, hp4, new, en, hnew⟩ := foldAsgInst_frame ha h4
  have hlib4 : (withAttrs (T.attrs.getD []) d4).lib = some "work" := by rw [withAttrs_lib, hl4, hl3]; rfl
  have hname4 : (withAttrs (T.attrs.getD []) d4).name = T.name := by rw [withAttrs_name, hn4, hn3]; rfl
  obtain ⟨S1, hE', hwf1, hS1d, hS1n, hS1t, _, _⟩ := elabModule_wtopA _ _ _ _ hbt0
  simp only [WModPA.toA, WModP.toI] at hS1d hS1t
  have hi1 : HI n S1 := HI_top n T hwf1 hS1d hrefT hname4 hlib4 (by rw [← viewD_port_names, v1, viewTA_port_names]) v2
    (fun x hx => hnew x (by rw [en] at hx; simpa using hx))
  rw [List.nodup_cons] at hnd
  have hdw0 : DoneWA n S1.defs [T] := by
    intro W hW
    simp only [List.mem_singleton] at hW
    rw [hW, hS1d]
    refine ⟨_, List.mem_cons_self, hname4, v1, hlib4, ?_⟩
    rw [withAttrs_params, hp4, buildW3_params _ 0 ports _ d3 n3 h3]
    unfold paramsOf
    rw [hpar]; rfl
  obtain ⟨s', _, f2, _, _, _, f7, f8⟩ := hier_foldA n T.name Rs Ms S1 tbl nx [T] [] hRs hfa hnd.2
    (by
      intro r hr W hW
      simp only [List.mem_singleton] at hW
      rw [hW]
      exact fun e => hnd.1 (List.mem_map.mpr ⟨r, hr, e.symm⟩))
    (by intro r _ x hx; cases hx) hi1 hS1t
    (by rw [hS1d, hS1n]; exact h5) hdw0 (by intro x hx; cases hx)
  rw [f2] at f7 f8
  exact ⟨exists_markBB (fun D e => by rw [e.2.2.1]; rfl) (f7 T (by simp)),
    fun r hr hp => exists_markBB (fun D e => by rw [e.2.2.1]; rfl)
      (f7 r (List.mem_append_right _ (List.mem_filter.mpr ⟨hr, by simp [hp]⟩))),
    fun r hr hp => exists_markBB (fun D e => by rw [e.2.1]; rfl)
      (f8 r (List.mem_append_right _ (List.mem_filter.mpr ⟨hr, hp⟩)))⟩

/-- the fragment of the hierarchical theorem with assigns up to the syntax trees (decidable): the top `T` and every other
    work module in `fragTopA`, distinct module names, `T` found under its name, and the pure reader `buildHierA` accepts the
    file (a computed clause) -/
def fragHierA (n : Text.WNet) (T : Text.WDef) (Rs : List Text.WDef) : Bool :=
  fragTopA n T && Rs.all (fragAnyA n) && decide ((T.name :: Rs.map (·.name)).Nodup) &&
  (match Text.refOf n T.name with
   | some r0 => decide (T.ports.map (·.name) = r0.ports.map (·.name))
   | none => false) &&
  (match astOfA n T, Rs.mapM (astAnyA n) with
   | some m, some Ms => (buildHierA m.toA Ms).isSome
   | _, _ => false)

/-- **c04_ast_hierA.**  `c04_view_hierA` from the decidable fragment predicate `fragHierA` (which contains the computed clause
    `(buildHierA …).isSome`: the closed-form reader accepts the file, and `readAssign (emitAssign o i) = (o, i)` per
    assignment instance).  See `c04_view_hierA` for how the conclusion has to be read. -/
theorem c04_ast_hierA (n : Text.WNet) (T : Text.WDef) (Rs : List Text.WDef) (h : fragHierA n T Rs = true) :
    ∃ m Ms s, astOfA n T = some m ∧ Rs.mapM (astAnyA n) = some Ms ∧
      elabDesign (m.toA.toModule :: Ms.map WAnyA.toModule) = .ok s ∧ s.top = some T.name ∧ s.pending = [] ∧
      (∃ D ∈ s.defs, D.name = T.name ∧ viewD D = viewTA n T ∧ D.lib = some "work" ∧ D.params = paramsOf T) ∧
      (∀ r ∈ Rs, isPrim r = false →
        ∃ D ∈ s.defs, D.name = r.name ∧ viewD D = viewTA n r ∧ D.lib = some "work" ∧ D.params = paramsOf r) ∧
      (∀ r ∈ Rs, isPrim r = true → ∃ L ∈ s.defs, L.name = r.name ∧ L.lib = some "hdi_primitives" ∧ ifaceD L = ifaceT r ∧
        L.attrs.getD [] = r.attrs.getD [] ∧ L.params = paramsOf r) := by
  unfold fragHierA at h
  simp only [Bool.and_eq_true, decide_eq_true_eq, List.all_eq_true] at h
  obtain ⟨⟨⟨⟨h1, h2⟩, h3⟩, h4⟩, h5⟩ := h
  split at h4
  · rename_i r0 hr
    split at h5
    · rename_i m Ms hm hM
      obtain ⟨⟨defs, nx⟩, hb⟩ := Option.isSome_iff_exists.mp h5
      obtain ⟨⟨ac, a1⟩, a2, a3, a4⟩ := c04_view_hierA n T Rs m Ms defs nx h1 hm hM h2 h3 ⟨r0, hr, of_decide_eq_true h4⟩ hb
      exact ⟨m, Ms, _, hm, hM, a1, rfl, rfl, a2, a3, a4⟩
    · cases h5
  · cases h4

/-- non-vacuity: the three-level netlist of `exNetH` with assignment instances — a two-bit and a one-bit one in `top`
    (listed AFTER the ordinary instances: the re-read definition has them first), a one-bit one in `sub` (its assignment
    definition is already in the table when `sub` is read); `top` and `sub` have module parameters; the primitive `LUT1` has an attribute and a parameter; `BBX` is an inferred black
    box whose port has no direction (written `/* undefined port direction */ inout`, re-read INOUT) -/
def exNetHA : Text.WNet :=
  let b (c : String) (i : Int) : Option Bit := some ⟨c, i⟩
  { name := "exha", top := some "top",
    defs := [
      { name := "top", lib := "work", params := some [("WIDTH", some "2")], attrs := none,
        ports := [⟨some "a", "IN", 0, 2, [b "a" 0, b "a" 1], none⟩, ⟨some "y", "OUT", 0, 1, [b "y" 0], none⟩],
        cables := [⟨"a", 0, 2, none, none⟩, ⟨"y", 0, 1, none, none⟩, ⟨"w", 0, 1, none, none⟩, ⟨"v", 0, 2, none, none⟩,
                   ⟨"z", 0, 1, none, none⟩],
        insts := [⟨"u0", "sub", none, none, [[b "a" 0, b "a" 1], [b "w" 0]]⟩,
                  ⟨"u1", "LUT1", none, none, [[b "w" 0], [b "y" 0]]⟩,
                  ⟨"u2", "BBX", none, none, [[b "z" 0]]⟩,
                  ⟨"SDN_VERILOG_ASSIGNMENT_2_0", "SDN_VERILOG_ASSIGNMENT_2", none, none, [[b "a" 0, b "a" 1], [b "v" 0, b "v" 1]]⟩,
                  ⟨"SDN_VERILOG_ASSIGNMENT_1_1", "SDN_VERILOG_ASSIGNMENT_1", none, none, [[b "w" 0], [b "z" 0]]⟩] },
      { name := "sub", lib := "work", params := some [("[3:0] DEPTH", some "4'h3"), ("MODE", some "\"fast\"")],
        attrs := some [("keep", none)],
        ports := [⟨some "p", "IN", 0, 2, [b "p" 0, b "p" 1], none⟩, ⟨some "q", "OUT", 0, 1, [b "q" 0], some [("mark", none)]⟩],
        cables := [⟨"p", 0, 2, none, none⟩, ⟨"q", 0, 1, none, none⟩, ⟨"r", 0, 1, none, none⟩],
        insts := [⟨"SDN_VERILOG_ASSIGNMENT_1_0", "SDN_VERILOG_ASSIGNMENT_1", none, none, [[b "r" 0], [b "q" 0]]⟩,
                  ⟨"g0", "LUT1", none, none, [[b "p" 0], [b "r" 0]]⟩] },
      { name := "LUT1", lib := "hdi_primitives", params := some [("INIT", some "2'h1")], attrs := some [("cell", none)],
        ports := [⟨some "I0", "IN", 0, 1, [none], none⟩, ⟨some "O", "OUT", 0, 1, [none], none⟩],
        cables := [], insts := [] },
      { name := "BBX", lib := "hdi_primitives", params := none, attrs := none,
        ports := [⟨some "P", "UNDEFINED", 0, 1, [none], none⟩], cables := [], insts := [] },
      { name := "SDN_VERILOG_ASSIGNMENT_2", lib := "SDN_VERILOG_ASSIGNMENT", params := none, attrs := none,
        ports := [⟨some "i", "IN", 0, 2, [none, none], none⟩, ⟨some "o", "OUT", 0, 2, [none, none], none⟩],
        cables := [], insts := [] },
      { name := "SDN_VERILOG_ASSIGNMENT_1", lib := "SDN_VERILOG_ASSIGNMENT", params := none, attrs := none,
        ports := [⟨some "i", "IN", 0, 1, [none], none⟩, ⟨some "o", "OUT", 0, 1, [none], none⟩],
        cables := [], insts := [] }] }

def exTopHA : Text.WDef := exNetHA.defs.headD default

theorem exNetHA_frag : fragHierA exNetHA exTopHA ((exNetHA.defs.drop 1).take 3) = true := by decide +kernel

theorem exNetHA_has_assigns : (asgI exNetHA exTopHA).length = 2 ∧ (ordI exNetHA exTopHA).length = 3 := by decide
end Spydr.Verilog.Elab
