/-
  Verilog engine — evidence side: for a generated case, is it inside the fragment of a theorem, and if not, which clause
  fails first?  The verdict `in` is the theorem's own decidable predicate; the label after `out:` is an explanation
  computed by walking the clauses in a reader-friendly order (features first).  Nothing here is used by a theorem, and
  no check of the harness depends on it.
-/
import Spydr.Verilog.TextLeaves
import Spydr.Verilog.TextHier
import Spydr.Verilog.TextHierAssign
import Spydr.Verilog.RoundTripDesign
namespace Spydr.Verilog.Elab
open Spydr.Verilog

def orElseS (a : Option String) (b : Unit → Option String) : Option String :=
  match a with
  | some x => some x
  | none => b ()

def nameWhy (what nm : String) : Option String :=
  if nameTokB (nameT nm) nm then none
  else if nm.startsWith "\\" then some (what ++ ":escaped-identifier-token")
  else some (what ++ ":name-token")

def whyAstPort (T : Text.WDef) (p : Text.WPort) : Option String :=
  match p.name with
  | none => some "port-unnamed"
  | some nm =>
    match T.cables.find? (fun c => c.name == nm) with
    | none => some "port-without-net-of-its-name"
    | some _ =>
      match dirOfS p.dir with
      | none => some "port-direction-undefined"
      | some _ => if emitHeaderPort (Text.envOf T) nm p.pins = some none then none else some "header-port-alias-or-concatenation"

def whyAstInst (n : Text.WNet) (T : Text.WDef) (i : Text.WInst) : Option String :=
  match Text.refOf n i.ref with
  | none => some "instance-reference-not-in-netlist"
  | some r => (List.range r.ports.length).findSome? (fun k =>
      match (r.ports.getD k default).name, emitPortExpr (Text.envOf T) (i.pins.getD k []) with
      | none, _ => some "instance-of-module-with-unnamed-port"
      | _, none => some "writer-raises-on-instance-port"
      | _, _ => none)

def whyFragTop (n : Text.WNet) (T : Text.WDef) : Option String :=
  if !decide ((T.cables.map (·.name)).Nodup) then some "net-names-not-distinct"
  else if T.cables.any (fun c => c.width == 0) then some "net-of-width-0"
  else if !decide ((T.ports.map (·.name)).Nodup) then some "port-names-not-distinct"
  else
    orElseS (T.ports.findSome? (fun p =>
      match p.name with
      | none => some "port-unnamed"
      | some nm =>
        match T.cables.find? (fun c => c.name == nm) with
        | none => some "port-without-net-of-its-name"
        | some c =>
          if decide (p.lower = c.lower) && decide (p.width = c.width) &&
              decide (p.pins = (cableBits nm c.lower c.width).items.map some) then none
          else some "port-not-wired-to-the-whole-net-of-its-name")) fun _ =>
    T.insts.findSome? (fun i =>
      match Text.refOf n i.ref with
      | none => some "instance-reference-not-in-netlist"
      | some r =>
        if !decide ((r.ports.map (·.name)).Nodup) then some "referenced-module-port-names-not-distinct"
        else if r.ports.any (fun q => q.name.isNone) then some "instance-of-module-with-unnamed-port"
        else if !decide (((i.params.getD []).map (·.1)).Nodup) then some "parameter-keys-not-distinct"
        else (List.range r.ports.length).findSome? (fun k =>
          if (i.pins.getD k []).isEmpty then some "instance-row-empty"
          else if !readerShape (Text.envOf T) (i.pins.getD k []) then some "instance-row-not-a-low-aligned-block"
          else none))

def whyItem (it : SItem) : Option String :=
  match it with
  | .port p =>
    if p.dir == .undef then some "port-direction-undefined"
    else if !rangeOK p.rng then some "port-range-token"
    else orElseS (nameWhy "port" p.name) fun _ => if attrsOK p.attrs then none else some "port-attribute-tokens"
  | .wire w =>
    if !wireTypes.contains w.ty then some "net-type"
    else if !rangeOK w.rng then some "net-range-token"
    else orElseS (nameWhy "net" w.name) fun _ => if attrsOK w.attrs then none else some "net-attribute-tokens"
  | .inst i =>
    orElseS (nameWhy "module" i.mod) fun _ => orElseS (nameWhy "instance" i.name) fun _ =>
    if !paramsOK i.params then some "parameter-tokens"
    else if i.conns.isEmpty then some "instance-without-ports"
    else orElseS (i.conns.findSome? (fun c => orElseS (nameWhy "port" c.1) fun _ =>
      if exprOK c.2 then none else some "expression-tokens")) fun _ =>
    if attrsOK i.attrs then none else some "instance-attribute-tokens"
  | .asg l r => if atomOK l && atomOK r then none else some "assign-expression-tokens"

def whyTok (m : WModI) : Option String :=
  if !attrsOK m.attrs then some "module-attribute-tokens"
  else orElseS (nameWhy "module" m.name) fun _ =>
    orElseS ((m.ports.map (·.name)).findSome? (nameWhy "port")) fun _ =>
    orElseS (m.sitems.findSome? whyItem) fun _ =>
    if cleanToks (tokensOf m) then none else some "comment-or-directive-like-token"

def pieceWhy (p : Piece) : Option String :=
  if p.ok then none else
  match p with
  | .ws _ => some "white-space"
  | .tok s =>
    if s.startsWith "\\" then some "escaped-identifier-as-a-word-piece"
    else if s.toList.any (fun c => Text.breakers.contains c || c == '.' || c == '/' || c == '\'') then some "word-with-a-breaking-character"
    else some "word"
  | .self t _ => if t.startsWith "\"" then some "string-literal" else some "self-terminated-piece"

/-- the written top and its index -/
def topOf (n : Text.WNet) : Option (Nat × Text.WDef) :=
  match n.top with
  | none => none
  | some t =>
    match n.defs.findIdx? (fun d => d.name == t) with
    | none => none
    | some k => some (k, n.defs.getD k default)

/-- features of the netlist that put it outside every text-level theorem, named first -/
def whyFeatures (n : Text.WNet) (T : Text.WDef) (kT : Nat) (bb : Bool) : Option String :=
  if T.insts.any (fun i => match Text.refOf n i.ref with | some r => r.lib == "SDN_VERILOG_ASSIGNMENT" | none => false) then
    some "assign-statements"
  else if (composeOrder n).any (fun k => k != kT && (n.defs.getD k default).lib != "hdi_primitives" &&
      (n.defs.getD k default).lib != "SDN_VERILOG_ASSIGNMENT") then some "hierarchy:another-non-primitive-module"
  else if (composeOrder n).any (fun k => k != kT && (n.defs.getD k default).lib == "SDN_VERILOG_ASSIGNMENT") then
    some "assign-definition-in-the-netlist"
  else if T.params.isSome then some "module-parameters"
  else if T.lib == "hdi_primitives" || T.lib == "SDN_VERILOG_ASSIGNMENT" then some "top-is-not-a-work-module"
  else if bb then (if (composeOrder n).head? != some kT then some "top-not-written-first" else none)
  else if (composeOrder n).count kT != 1 then some "top-not-visited-exactly-once"
  else none

/-- `c04_text_struct`: (inside?, explanation) -/
def reportStruct (n : Text.WNet) : Bool × String :=
  match topOf n with
  | none => (false, "out:no-top")
  | some (kT, T) =>
    let inside := fragStruct n T kT
    if inside then (true, "in") else
    let why : Option String :=
      orElseS (whyFeatures n T kT false) fun _ =>
      orElseS ((T.ports.findSome? (whyAstPort T)).map (fun s => "astOf:" ++ s)) fun _ =>
      orElseS ((T.insts.findSome? (whyAstInst n T)).map (fun s => "astOf:" ++ s)) fun _ =>
      orElseS ((whyFragTop n T).map (fun s => "fragTop:" ++ s)) fun _ =>
      match astOf n T with
      | none => some "astOf"
      | some m =>
        if (buildWI m.toI).isNone then some "buildWI:the-pure-reader-refuses(row-wider-than-the-first-instance's)"
        else if !topTextB n T then some "topText:empty-parameter-list"
        else orElseS ((whyTok m.toI).map (fun s => "tokOK:" ++ s)) fun _ =>
          orElseS (((fileP n m).findSome? pieceWhy).map (fun s => "piece:" ++ s)) fun _ =>
          if !adjOK (fileP n m) then some "adjOK:a-word-runs-into-the-next-piece"
          else if !Text.isCommentTok ("//netlist name: " ++ Text.fixName n.name) then some "netlist-name-comment"
          else none
    (false, "out:" ++ why.getD "unexplained")

def whyLeaf (r : Text.WDef) : Option String :=
  if r.lib != "hdi_primitives" then some "not-a-primitive"
  else if !(r.attrs.getD []).isEmpty then some "attributes"
  else if r.params.isSome then some "parameters"
  else r.ports.findSome? (fun p =>
    match p.name, dirOfS p.dir with
    | none, _ => some "port-unnamed"
    | _, none => some "port-direction-undefined"
    | some nm, some _ =>
      if p.width == 0 then some "port-of-width-0"
      else if !(p.attrs.getD []).isEmpty then some "port-attributes"
      else if p.pins.all (fun b => b.isNone) then none
      else match r.cables.find? (fun c => c.name == nm) with
        | none => some "inner-pins-wired-but-no-net-of-the-port's-name"
        | some c =>
          if decide (p.lower = c.lower) && decide (p.width = c.width) &&
              decide (p.pins = (cableBits nm c.lower c.width).items.map some) then
            (if emitHeaderPort (Text.envOf r) nm p.pins = some none then none else some "port-alias")
          else some "port-not-wired-to-the-whole-net-of-its-name")

/-- as `whyLeaf`, but a port without direction is accepted (`astLeafU`) -/
def whyLeafU (r : Text.WDef) : Option String :=
  if r.lib != "hdi_primitives" then some "not-a-primitive"
  else if (astParams r).isNone then some "parameter-without-value"
  else r.ports.findSome? (fun p =>
    match p.name with
    | none => some "port-unnamed"
    | some nm =>
      if p.width == 0 then some "port-of-width-0"
      else if !(p.attrs.getD []).isEmpty then some "port-attributes"
      else if p.pins.all (fun b => b.isNone) then none
      else match r.cables.find? (fun c => c.name == nm) with
        | none => some "inner-pins-wired-but-no-net-of-the-port's-name"
        | some c =>
          if decide (p.lower = c.lower) && decide (p.width = c.width) &&
              decide (p.pins = (cableBits nm c.lower c.width).items.map some) then
            (if emitHeaderPort (Text.envOf r) nm p.pins = some none then none else some "port-alias")
          else some "port-not-wired-to-the-whole-net-of-its-name")

/-- `c04_text_bb`: (inside?, explanation) -/
def reportBB (n : Text.WNet) : Bool × String :=
  match topOf n with
  | none => (false, "out:no-top")
  | some (kT, T) =>
    let ks := (composeOrder n).drop 1
    let inside := fragStructBB n T kT ks
    if inside then (true, "in") else
    let rs := leafDefs n ks
    let why : Option String :=
      orElseS (whyFeatures n T kT true) fun _ =>
      orElseS ((rs.findSome? whyLeaf).map (fun s => "leaf:" ++ s)) fun _ =>
      orElseS ((T.ports.findSome? (whyAstPort T)).map (fun s => "astOf:" ++ s)) fun _ =>
      orElseS ((T.insts.findSome? (whyAstInst n T)).map (fun s => "astOf:" ++ s)) fun _ =>
      orElseS ((whyFragTop n T).map (fun s => "fragTop:" ++ s)) fun _ =>
      match astOf n T, rs.mapM astLeaf with
      | some m, some leaves =>
        if !decide ((rs.map (·.name)).Nodup) then some "leaf-names-not-distinct"
        else if (buildBB m.toI leaves).isNone then
          (if (buildWI m.toI).isNone then some "buildWI:the-pure-reader-refuses(row-wider-than-the-first-instance's)"
           else some "buildBB:a-leaf-is-not-instantiated-or-declares-fewer-bits-than-connected")
        else if !topTextB n T then some "topText:empty-parameter-list"
        else orElseS ((whyTok m.toI).map (fun s => "tokOK:" ++ s)) fun _ =>
          if !leaves.all leafOK then some "leafOK:tokens-of-a-leaf"
          else if !leaves.all (fun lf => decide ((lf.ports.map (·.name)).Nodup)) then some "leaf-port-names-not-distinct"
          else orElseS (((filePbb n m leaves).findSome? pieceWhy).map (fun s => "piece:" ++ s)) fun _ =>
          if !adjOK (filePbb n m leaves) then some "adjOK:a-word-runs-into-the-next-piece"
          else if !Text.isCommentTok ("//netlist name: " ++ Text.fixName n.name) then some "netlist-name-comment"
          else none
      | _, _ => some "astOf"
    (false, "out:" ++ why.getD "unexplained")

/-- `c04_full_bb` (full rows): inside `c04_text_bb` and consistent about widths -/
def reportFullBB (n : Text.WNet) : Bool × String :=
  match reportBB n with
  | (false, why) => (false, why)
  | (true, _) =>
    match topOf n with
    | none => (false, "out:no-top")
    | some (_, T) =>
      if rowsFitB n T (leafDefs n ((composeOrder n).drop 1)) then (true, "in")
      else (false, "out:rowsFit:an-instance-row-is-not-as-wide-as-the-port")

/-- `c04_ast_hier` (hierarchical netlists, up to the syntax trees): (inside?, explanation) -/
def reportHier (n : Text.WNet) : Bool × String :=
  match topOf n with
  | none => (false, "out:no-top")
  | some (kT, T) =>
    if (composeOrder n).head? != some kT then (false, "out:top-not-written-first") else
    let Rs := leafDefs n ((composeOrder n).drop 1)
    if fragHier n T Rs then (true, "in") else
    let works := T :: Rs.filter (fun r => !isPrim r)
    let why : Option String :=
      if (T :: Rs).any (fun r => r.lib == "SDN_VERILOG_ASSIGNMENT") then some "assign-statements"
      else if works.any (fun r => r.params.isSome) then some "module-parameters"
      else orElseS ((Rs.filter isPrim).findSome? (fun r => (whyLeaf r).map (fun s => "leaf:" ++ s))) fun _ =>
        orElseS (works.findSome? (fun W => orElseS ((W.ports.findSome? (whyAstPort W)).map (fun s => "astOf:" ++ s)) fun _ =>
          orElseS ((W.insts.findSome? (whyAstInst n W)).map (fun s => "astOf:" ++ s)) fun _ =>
          (whyFragTop n W).map (fun s => "fragTop:" ++ s))) fun _ =>
        if !decide ((T.name :: Rs.map (·.name)).Nodup) then some "module-names-not-distinct"
        else match astOf n T, Rs.mapM (astAny n) with
          | some m, some Ms =>
            if (buildHier m.toI Ms).isNone then
              some "buildHier:the-pure-reader-refuses(a-module-not-instantiated-before-its-declaration,row-wider-than-the-first-instance's,…)"
            else none
          | _, _ => some "astOf"
    (false, "out:" ++ why.getD "unexplained")

/-- the definitions written after the top, without the assignment definitions (the writer prints nothing for them) -/
def laterDefsA (n : Text.WNet) : List Text.WDef :=
  (leafDefs n ((composeOrder n).drop 1)).filter (fun r => r.lib != "SDN_VERILOG_ASSIGNMENT")

/-- which stage of the pure reader refuses a late work module (explanation only) -/
def whyLateWA (L : Def) (ls : List Def) (n : Nat) (m : WModA) (topName : String) : String :=
  if L.lib.isSome then "module-declared-twice-or-already-known"
  else if !L.insts.isEmpty then "stub-with-instances"
  else if L.ports.map (·.name) != (m.base.ports.map (·.name)).map some then "ports-of-the-first-instance-are-not-the-declared-ports(order-or-subset)"
  else if !decide ((m.base.ports.map (·.name)).Nodup) then "port-names-not-distinct"
  else if !m.base.insts.all (fun i => i.mod != topName) then "instantiates-the-top"
  else if !L.params.isEmpty then "stub-with-parameters"
  else match foldLocal hdrStepL (entryDef L m.params) n (m.base.ports.map (·.name)) with
    | none => "header(a-port-of-the-stub-already-wired-or-empty)"
    | some r1 => match foldDeclA r1.1 r1.2 m.base.ports with
      | none => "port-declaration(range-narrower-than-the-first-instance's-row,…)"
      | some r2 => match foldLocal wireStep r2.1 r2.2.1 m.base.wires with
        | none => "net-declaration"
        | some r3 =>
          if !decide ((r3.1.cables.map (·.name)).Nodup) then "net-names-not-distinct"
          else match foldAsg r3.1 0 (ls.map (fun x => padOpsD x m.base.name r2.2.2)) m.asgs with
            | none => "assign(atom-not-evaluable,assignment-definition-of-another-shape,name-taken)"
            | some ra => match foldInst ra.1 ra.2.2 m.base.insts with
              | none => "instance(row-wider-than-the-port-known-so-far,port-unknown-to-a-declared-module,name-taken,…)"
              | some _ => "accepted"

def whyFoldLateA : List Def → Nat → String → List WAnyA → String
  | _, _, _, [] => "accepted"
  | tbl, n, t, M :: Ms =>
    match lateStepA tbl n t M with
    | some r => whyFoldLateA r.1 r.2 t Ms
    | none =>
      match tbl.find? (fun d => d.name == M.name) with
      | none => "late:module-never-instantiated-before-its-declaration"
      | some L =>
        match M with
        | .work m => "late-work:" ++ whyLateWA L (tbl.filter (fun x => x.name != m.base.name)) n m t
        | .leaf lf =>
          if L.lib.isSome then "late-leaf:declared-twice"
          else if L.ports.map (·.name) != (lf.base.ports.map (·.name)).map some then
            "late-leaf:ports-of-the-first-instance-are-not-the-declared-ports(order-or-subset)"
          else "late-leaf:header-or-port-declaration(range-narrower-than-the-first-instance's-row,…)"

def whyBuildHierA (m : WModA) (Ms : List WAnyA) : String :=
  match buildTopA m with
  | none => "top(declaration-phases,assign,instance-row-wider-than-the-port-known-so-far,self-instantiation,…)"
  | some r => whyFoldLateA (r.1 :: r.2.1) r.2.2 m.base.name Ms

/-- `c04_ast_hierA` (hierarchical netlists WITH ASSIGNS, up to the syntax trees): (inside?, explanation) -/
def reportHierA (n : Text.WNet) : Bool × String :=
  match topOf n with
  | none => (false, "out:no-top")
  | some (kT, T) =>
    if (composeOrder n).head? != some kT then (false, "out:top-not-written-first") else
    let Rs := laterDefsA n
    if fragHierA n T Rs then (true, "in") else
    let works := T :: Rs.filter (fun r => !isPrim r)
    let why : Option String :=
      if works.any (fun r => (astParams r).isNone) then some "module-parameter-without-value"
      else orElseS ((Rs.filter isPrim).findSome? (fun r => (whyLeafU r).map (fun s => "leaf:" ++ s))) fun _ =>
        orElseS (works.findSome? (fun W => orElseS ((W.ports.findSome? (whyAstPort W)).map (fun s => "astOf:" ++ s)) fun _ =>
          orElseS (((ordI n W).findSome? (whyAstInst n W)).map (fun s => "astOf:" ++ s)) fun _ =>
          orElseS ((whyFragTop n W).map (fun s => "fragTop:" ++ s)) fun _ =>
          if ((asgI n W).mapM (astAsg n W)).isNone then some "astAsg:the-writer-raises-on-an-assignment-instance(pins-not-one-block-of-one-net)"
          else if !asgsOK n W 0 (asgI n W) then
            some "asgOK:an-assignment-instance(definition-or-instance-name-not-the-reader's,parameters/attributes,sides-of-unequal-width)"
          else none)) fun _ =>
        if !decide ((T.name :: Rs.map (·.name)).Nodup) then some "module-names-not-distinct"
        else match astOfA n T, Rs.mapM (astAnyA n) with
          | some m, some Ms =>
            if (buildHierA m.toA Ms).isNone then some ("buildHierA:" ++ whyBuildHierA m.toA Ms)
            else none
          | _, _ => some "astOf"
    (false, "out:" ++ why.getD "unexplained")

/-- `c04_text_hier` (hierarchical netlists, from characters): inside `c04_ast_hier` plus the text / token / piece clauses -/
def reportHierText (n : Text.WNet) : Bool × String :=
  match reportHier n with
  | (false, why) => (false, why)
  | (true, _) =>
    match topOf n with
    | none => (false, "out:no-top")
    | some (kT, T) =>
      let ks := (composeOrder n).drop 1
      if fragStructH n T kT ks then (true, "in") else
      match astOf n T, (leafDefs n ks).mapM (astAnyP n) with
      | some m, some Ps =>
        let why : Option String :=
          if !topTextB n T then some "topText:empty-parameter-list"
          else if !(leafDefs n ks).all (anyTextB n) then some "anyText:a-later-module(attributes-or-parameters-on-a-primitive,empty-parameter-list)"
          else orElseS ((whyTok m.toI).map (fun s => "tokOK:" ++ s)) fun _ =>
            orElseS (Ps.findSome? (fun P => match P with
              | .work mm => (whyTok mm.toI).map (fun s => "tokOK:" ++ s)
              | .leaf lf => if leafOK lf then none else some "leafOK:tokens-of-a-leaf")) fun _ =>
            orElseS (((filePH n m Ps).findSome? pieceWhy).map (fun s => "piece:" ++ s)) fun _ =>
            if !adjOK (filePH n m Ps) then some "adjOK:a-word-runs-into-the-next-piece"
            else if !Text.isCommentTok ("//netlist name: " ++ Text.fixName n.name) then some "netlist-name-comment"
            else none
        (false, "out:" ++ why.getD "unexplained")
      | _, _ => (false, "out:astOf")

def whyTokA (m : WModA) : Option String :=
  if !attrsOK m.base.attrs then some "module-attribute-tokens"
  else if !mparamsOK m.params then some "module-parameter-key(neither-a-plain-name-nor-[l:r]-name,`integer`,or-repeated)"
  else orElseS (nameWhy "module" m.base.name) fun _ =>
    orElseS ((m.base.ports.map (·.name)).findSome? (nameWhy "port")) fun _ =>
    orElseS (m.sitems.findSome? whyItem) fun _ =>
    if cleanToks (tokensOfA m) then none else some "comment-or-directive-like-token"

/-- `c04_text_hierA` (hierarchical netlists with assigns, from characters): inside `c04_ast_hierA` plus the text / token /
    piece clauses -/
def reportHierTextA (n : Text.WNet) : Bool × String :=
  match reportHierA n with
  | (false, why) => (false, why)
  | (true, _) =>
    match topOf n with
    | none => (false, "out:no-top")
    | some (kT, T) =>
      let ks := (composeOrder n).drop 1
      if fragStructHA n T kT ks then (true, "in") else
      match astOfA n T, (laterA n ks).mapM (astAnyPA n) with
      | some m, some Ps =>
        let why : Option String :=
          if !topTextBA n T then some "topText:empty-parameter-list(instance-or-module)"
          else if !(laterA n ks).all (anyTextBA n) then some "anyText:a-later-module(attributes-or-parameters-on-a-primitive,empty-parameter-list)"
          else orElseS ((whyTokA m.toA).map (fun s => "tokOK:" ++ s)) fun _ =>
            orElseS (Ps.findSome? (fun P => match P with
              | .work mm => (whyTokA mm.toA).map (fun s => "tokOK:" ++ s)
              | .leaf lf => if leafOKX (inoutifyX lf) then none else some "leafOK:tokens-of-a-leaf(names,attributes,parameter-keys)")) fun _ =>
            orElseS (((filePHA n m Ps).findSome? pieceWhy).map (fun s => "piece:" ++ s)) fun _ =>
            if !adjOK (filePHA n m Ps) then some "adjOK:a-word-runs-into-the-next-piece"
            else if !Text.isCommentTok ("//netlist name: " ++ Text.fixName n.name) then some "netlist-name-comment"
            else none
        (false, "out:" ++ why.getD "unexplained")
      | _, _ => (false, "out:astOf")

/-! ### C06: the source text, through the syntax trees the parser returns -/

def toFMod (m : Module) : Except String FMod := do
  if !m.attrs.isEmpty then throw "module-attributes"
  if !m.params.isEmpty then throw "module-parameters"
  let ports ← m.header.mapM (fun h =>
    match h.alias, h.dir with
    | some _, _ => .error "header-port-alias"
    | none, none => .error "non-ANSI-header"
    | none, some d => .ok (⟨h.name, d, h.rng⟩ : FPort))
  let rec go (its : List Item) (ws : List FWire) (is : List NInst) : Except String (List FWire × List NInst) :=
    match its with
    | [] => .ok (ws, is)
    | .wireDecl ty rng nm a :: rest => if is.isEmpty then go rest (ws ++ [⟨nm, ty, rng, a⟩]) is else .error "net-declared-after-an-instance"
    | .inst md nm ps a named cs :: rest =>
      if !named then .error "positional-port-map" else
      match cs.mapM (fun c => c.1.map (fun p => (p, c.2))) with
      | none => .error "positional-port-map"
      | some conns => go rest ws (is ++ [⟨nm, md, ps, a, conns⟩])
    | .portDecl .. :: _ => .error "body-port-declaration"
    | .assign .. :: _ => .error "assign-statement"
    | .defparam .. :: _ => .error "defparam"
  let (ws, is) ← go m.items [] []
  pure ⟨m.name, m.prim, ports, ws, is⟩

/-- `elabDesign_frag` (ANSI modules, leaves first): (inside?, explanation) -/
def reportFragDesign (ms : List Module) : Bool × String :=
  match ms.mapM toFMod with
  | .error e => (false, "out:" ++ e)
  | .ok fs =>
    if fragDesign fs then (true, "in")
    else if !modsOK [] fs then
      (false, if fs.any (fun m => m.prim && !(m.wires.isEmpty && m.insts.isEmpty)) then "out:modsOK:primitive-with-a-body"
        else "out:modsOK:module-used-before-declared-or-names-not-distinct")
    else (false, "out:buildDesign:the-pure-reader-refuses(growth,implicit-nets,constants)")

def toWModI (m : Module) : Except String WModI := do
  if m.prim then throw "top-is-a-primitive"
  if !m.params.isEmpty then throw "module-parameters"
  if m.header.any (fun h => h.alias.isSome) then throw "header-port-alias"
  if m.header.any (fun h => h.dir.isSome || h.rng.isSome) then throw "ANSI-header"
  let rec go (its : List Item) (ps : List PDecl) (ws : List FWire) (is : List NInst) (phase : Nat) :
      Except String (List PDecl × List FWire × List NInst) :=
    match its with
    | [] => .ok (ps, ws, is)
    | .portDecl d vt rng nm a :: rest =>
      if vt.isSome then .error "port-declaration-with-net-type" else
      if phase > 0 then .error "port-declared-after-a-net-or-instance" else go rest (ps ++ [⟨nm, d, rng, a⟩]) ws is 0
    | .wireDecl ty rng nm a :: rest => if phase > 1 then .error "net-declared-after-an-instance" else go rest ps (ws ++ [⟨nm, ty, rng, a⟩]) is 1
    | .inst md nm prs a named cs :: rest =>
      if !named then .error "positional-port-map" else
      match cs.mapM (fun c => c.1.map (fun p => (p, c.2))) with
      | none => .error "positional-port-map"
      | some conns => go rest ps ws (is ++ [⟨nm, md, prs, a, conns⟩]) 2
    | .assign .. :: _ => .error "assign-statement"
    | .defparam .. :: _ => .error "defparam"
  let (ps, ws, is) ← go m.items [] [] [] 0
  if ps.map (·.name) != m.header.map (·.name) then throw "body-port-declarations-differ-from-the-header-list"
  pure ⟨m.name, m.attrs, ps, ws, is⟩

def toWLeaf (m : Module) : Except String WLeaf := do
  if !m.prim then throw "a-later-module-is-not-a-primitive"
  if !m.attrs.isEmpty || !m.params.isEmpty then throw "leaf-attributes-or-parameters"
  if m.header.any (fun h => h.alias.isSome || h.dir.isSome || h.rng.isSome) then throw "leaf-header-not-bare-names"
  let ps ← m.items.mapM (fun it => match it with
    | .portDecl d none rng nm _ => .ok (⟨nm, d, rng, []⟩ : PDecl)
    | _ => .error "leaf-body-item-other-than-a-port-declaration")
  if ps.map (·.name) != m.header.map (·.name) then throw "leaf-port-declarations-differ-from-the-header-list"
  pure ⟨m.name, ps⟩

/-- `elabDesign_wsingle` / `elabDesign_bb` (writer-shaped top, then `celldefine` leaves): (inside?, explanation) -/
def reportWriterShape (ms : List Module) : Bool × String :=
  match ms with
  | [] => (false, "out:empty-file")
  | t :: rest =>
    match toWModI t, rest.mapM toWLeaf with
    | .error e, _ => (false, "out:" ++ e)
    | _, .error e => (false, "out:" ++ e)
    | .ok m, .ok leaves =>
      if (buildBB m leaves).isSome then (true, "in")
      else if (buildWI m).isNone then (false, "out:buildWI:the-pure-reader-refuses(implicit-nets,growth,constants)")
      else (false, "out:buildBB:a-leaf-is-not-instantiated-or-declares-fewer-bits-than-connected")

/-- a module of the source in the writer's shape (bare header names; ports, nets, assigns, instances in this order) -/
def toWModA (m : Module) : Except String WModA := do
  if m.prim then throw "a-primitive-where-a-work-module-is-expected"
  if m.header.any (fun h => h.alias.isSome) then throw "header-port-alias"
  if m.header.any (fun h => h.dir.isSome || h.rng.isSome) then throw "ANSI-header"
  let rec go (its : List Item) (ps : List PDecl) (ws : List FWire) (as : List (XAtom × XAtom)) (is : List NInst) (phase : Nat) :
      Except String (List PDecl × List FWire × List (XAtom × XAtom) × List NInst) :=
    match its with
    | [] => .ok (ps, ws, as, is)
    | .portDecl d vt rng nm a :: rest =>
      if vt.isSome then .error "port-declaration-with-net-type" else
      if phase > 0 then .error "port-declared-after-a-net-or-instance" else go rest (ps ++ [⟨nm, d, rng, a⟩]) ws as is 0
    | .wireDecl ty rng nm a :: rest =>
      if phase > 1 then .error "net-declared-after-an-assign-or-instance" else go rest ps (ws ++ [⟨nm, ty, rng, a⟩]) as is 1
    | .assign l r :: rest => if phase > 2 then .error "assign-after-an-instance" else go rest ps ws (as ++ [(l, r)]) is 2
    | .inst md nm prs a named cs :: rest =>
      if !named then .error "positional-port-map" else
      match cs.mapM (fun c => c.1.map (fun p => (p, c.2))) with
      | none => .error "positional-port-map"
      | some conns => go rest ps ws as (is ++ [⟨nm, md, prs, a, conns⟩]) 3
    | .defparam .. :: _ => .error "defparam"
  let (ps, ws, as, is) ← go m.items [] [] [] [] 0
  if ps.map (·.name) != m.header.map (·.name) then throw "body-port-declarations-differ-from-the-header-list"
  pure ⟨⟨m.name, m.attrs, ps, ws, is⟩, as, m.params⟩

def toWLeafX (m : Module) : Except String WLeafX := do
  if m.header.any (fun h => h.alias.isSome || h.dir.isSome || h.rng.isSome) then throw "leaf-header-not-bare-names"
  let ps ← m.items.mapM (fun it => match it with
    | .portDecl d none rng nm _ => .ok (⟨nm, d, rng, []⟩ : PDecl)
    | _ => .error "leaf-body-item-other-than-a-port-declaration")
  if ps.map (·.name) != m.header.map (·.name) then throw "leaf-port-declarations-differ-from-the-header-list"
  pure ⟨⟨m.name, ps⟩, m.attrs, m.params⟩

/-- `elabDesign_hierA` on a source file (C06): the file is `top; later modules` in the writer's shape and the pure reader
    `buildHierA` accepts it — then the REAL `elabDesign` builds exactly that table: (inside?, explanation) -/
def reportHierDesignA (ms : List Module) : Bool × String :=
  match ms with
  | [] => (false, "out:empty-file")
  | t :: rest =>
    match toWModA t, rest.mapM (fun m => if m.prim then (toWLeafX m).map WAnyA.leaf else (toWModA m).map WAnyA.work) with
    | .error e, _ => (false, "out:" ++ e)
    | _, .error e => (false, "out:" ++ e)
    | .ok m, .ok Ms =>
      if (buildHierA m Ms).isSome then (true, "in") else (false, "out:buildHierA:" ++ whyBuildHierA m Ms)

end Spydr.Verilog.Elab
