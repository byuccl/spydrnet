/-
  The steps of `LateSteps` folded over a header and a body, through the real elaborator; the declaration fold hands back the
  paddings of the instance rows it caused.  The fold of a primitive is the general one on the declarations without attributes.
  Wire declarations of a module in any table (`wire_foldG`, an instance of `fold_localI`).
-/
import Spydr.Verilog.LateSteps
namespace Spydr.Verilog.Elab
open Spydr.Verilog

theorem hdr_foldL (dn : String) : ∀ (as : List String) (s : St) (d d' : Def) (n' : Nat),
    Has s dn d → d.insts = [] → RowsFull s dn d.ports.length → foldLocal hdrStepL d s.next as = some (d', n') →
    as.foldlM (fun s a => headerPort s dn ⟨a, none, none, none⟩) s = .ok (s.put dn d' n') ∧ d'.name = d.name ∧
      d'.insts = [] ∧ d'.ports.length = d.ports.length := by
  intro as
  induction as with
  | nil =>
    intro s d d' n' hd hi _ h
    cases h
    exact ⟨congrArg Except.ok (St.put_self s dn d hd).symm, rfl, hi, rfl⟩
  | cons a as ih =>
    intro s d d' n' hd hi hr h
    obtain ⟨d1, n1, hs, h⟩ := (foldLocal_cons ..).mp h
    obtain ⟨g1, g2, g3, g4⟩ := hdrStepL_run dn s d a d1 n1 hd hr hs
    have hi1 : d1.insts = [] := by rw [g3, hi]
    have hd1 : Has (s.put dn d1 n1) dn d1 := hd.put d1 n1 g2
    have hr1 : RowsFull (s.put dn d1 n1) dn d1.ports.length := by rw [g4]; exact hr.put dn d1 n1 hi1
    obtain ⟨e1, e2, e3, e4⟩ := ih (s.put dn d1 n1) d1 d' n' hd1 hi1 hr1 h
    refine ⟨?_, e2.trans g2, e3, e4.trans g4⟩
    simp only [List.foldlM_cons, bind, Except.bind, g1]
    rw [e1, St.put_put s dn d1 d' n1 n' (by rw [g2, hd.2.1])]

theorem hdrStepL_names (d : Def) (n : Nat) (a : String) (d' : Def) (n' : Nat) (h : hdrStepL d n a = some (d', n')) :
    d'.ports.map (·.name) = d.ports.map (·.name) :=
  (hdrStepL_frame d n a d' n' h).2.2.2

theorem hdrFold_frame (as : List String) (d : Def) (n : Nat) (d' : Def) (n' : Nat)
    (h : foldLocal hdrStepL d n as = some (d', n')) :
    d'.name = d.name ∧ d'.attrs = d.attrs ∧ d'.params = d.params ∧ d'.ports.map (·.name) = d.ports.map (·.name) :=
  ⟨foldLocal_pres (·.name) hdrStepL (fun d n a d' n' h => (hdrStepL_frame d n a d' n' h).1) _ _ _ _ _ h,
   foldLocal_pres (·.attrs) hdrStepL (fun d n a d' n' h => (hdrStepL_frame d n a d' n' h).2.1) _ _ _ _ _ h,
   foldLocal_pres (·.params) hdrStepL (fun d n a d' n' h => (hdrStepL_frame d n a d' n' h).2.2.1) _ _ _ _ _ h,
   foldLocal_pres (fun d => d.ports.map (·.name)) hdrStepL hdrStepL_names _ _ _ _ _ h⟩

def foldDecl : Def → Nat → List PDecl → Option (Def × Nat × List (Nat × Nat))
  | d, n, [] => some (d, n, [])
  | d, n, p :: ps =>
    match declStepL d n p with
    | some r => (foldDecl r.1 r.2.1 ps).map (fun q => (q.1, q.2.1, (r.2.2.1, r.2.2.2) :: q.2.2))
    | none => none

def padOps (s : St) (dn : String) (ops : List (Nat × Nat)) : St := ops.foldl (fun s op => padS s dn op.1 op.2) s

theorem padOps_put (dn : String) (d : Def) (hi : d.insts = []) : ∀ (ops : List (Nat × Nat)) (s : St) (n : Nat),
    padOps (s.put dn d n) dn ops = (padOps s dn ops).put dn d n := by
  intro ops
  induction ops with
  | nil => intro s n; rfl
  | cons op ops ih =>
    intro s n
    simp only [padOps, List.foldl_cons]
    unfold padS
    rw [mapInstRows_put _ _ _ _ _ _ hi]
    exact ih _ _

def padI (dn : String) (k post : Nat) (i : Inst) : Inst :=
  if i.ref == dn then
    let rows := i.pins ++ List.replicate (k + 1 - i.pins.length) []
    { i with pins := rows.set k (padRow post (rows.getD k [])) }
  else i

def padD (D : Def) (dn : String) (k post : Nat) : Def := { D with insts := D.insts.map (padI dn k post) }

def padOpsI (dn : String) (ops : List (Nat × Nat)) (i : Inst) : Inst := ops.foldl (fun i op => padI dn op.1 op.2 i) i

def padOpsD (D : Def) (dn : String) (ops : List (Nat × Nat)) : Def := { D with insts := D.insts.map (padOpsI dn ops) }

theorem padI_facts (dn : String) (k post : Nat) (i : Inst) :
    (padI dn k post i).name = i.name ∧ (padI dn k post i).ref = i.ref ∧ i.pins.length ≤ (padI dn k post i).pins.length := by
  unfold padI
  split
  · refine ⟨rfl, rfl, ?_⟩
    simp only [List.length_set, List.length_append, List.length_replicate]; omega
  · exact ⟨rfl, rfl, Nat.le_refl _⟩

theorem padOpsI_inv (P : Inst → Prop) (dn : String) (h : ∀ k post i, P i → P (padI dn k post i)) :
    ∀ (ops : List (Nat × Nat)) (i : Inst), P i → P (padOpsI dn ops i)
  | [], _, hi => hi
  | op :: ops, i, hi => padOpsI_inv P dn h ops _ (h op.1 op.2 i hi)

theorem padOpsI_facts (dn : String) (ops : List (Nat × Nat)) (i : Inst) :
    (padOpsI dn ops i).name = i.name ∧ (padOpsI dn ops i).ref = i.ref ∧ i.pins.length ≤ (padOpsI dn ops i).pins.length :=
  padOpsI_inv (fun j => j.name = i.name ∧ j.ref = i.ref ∧ i.pins.length ≤ j.pins.length) dn
    (fun k post j ⟨b1, b2, b3⟩ => by
      obtain ⟨a1, a2, a3⟩ := padI_facts dn k post j
      exact ⟨a1.trans b1, a2.trans b2, Nat.le_trans b3 a3⟩) ops i ⟨rfl, rfl, Nat.le_refl _⟩

theorem padOpsD_name (D : Def) (dn : String) (ops : List (Nat × Nat)) : (padOpsD D dn ops).name = D.name := rfl

theorem padS_defs (s : St) (dn : String) (k post : Nat) : (padS s dn k post).defs = s.defs.map (fun x => padD x dn k post) := rfl

theorem padOpsD_cons (D : Def) (dn : String) (op : Nat × Nat) (ops : List (Nat × Nat)) :
    padOpsD (padD D dn op.1 op.2) dn ops = padOpsD D dn (op :: ops) := by
  simp only [padOpsD, padD, List.map_map]
  congr 1

theorem padOpsD_nil (D : Def) (dn : String) : padOpsD D dn [] = D := by
  have hid : padOpsI dn [] = id := by funext i; rfl
  simp only [padOpsD, hid, List.map_id]

theorem padOps_defs (dn : String) : ∀ (ops : List (Nat × Nat)) (s : St),
    (padOps s dn ops).defs = s.defs.map (fun x => padOpsD x dn ops) ∧ (padOps s dn ops).next = s.next ∧
      (padOps s dn ops).top = s.top ∧ (padOps s dn ops).acount = s.acount ∧ (padOps s dn ops).pending = s.pending := by
  intro ops
  induction ops with
  | nil =>
    intro s
    refine ⟨?_, rfl, rfl, rfl, rfl⟩
    simp only [padOps, List.foldl_nil]
    exact (map_id_of_mem fun x _ => by rw [padOpsD_nil]).symm
  | cons op ops ih =>
    intro s
    obtain ⟨h1, h2, h3, h4, h5⟩ := ih (padS s dn op.1 op.2)
    simp only [padOps, List.foldl_cons] at h1 h2 h3 h4 h5 ⊢
    refine ⟨?_, h2, h3, h4, h5⟩
    rw [h1, padS_defs, List.map_map]
    apply List.map_congr_left
    intro x _
    exact padOpsD_cons x dn op ops

theorem Has.padOps {s : St} {dn : String} {d : Def} (h : Has s dn d) (hi : d.insts = []) : ∀ (ops : List (Nat × Nat)),
    Has (Elab.padOps s dn ops) dn d := by
  intro ops
  induction ops generalizing s with
  | nil => exact h
  | cons op ops ih =>
    simp only [Elab.padOps, List.foldl_cons]
    exact ih (h.mapRows hi dn op.1 _)

def foldDeclA : Def → Nat → List PDecl → Option (Def × Nat × List (Nat × Nat))
  | d, n, [] => some (d, n, [])
  | d, n, p :: ps =>
    match declStepA d n p with
    | some r => (foldDeclA r.1 r.2.1 ps).map (fun q => (q.1, q.2.1, (r.2.2.1, r.2.2.2) :: q.2.2))
    | none => none

theorem foldDeclA_cons_some {d : Def} {n : Nat} {p : PDecl} {ps : List PDecl} {d' : Def} {n' : Nat} {ops : List (Nat × Nat)}
    (h : foldDeclA d n (p :: ps) = some (d', n', ops)) :
    ∃ d1 n1 k post d2 n2 ops2, declStepA d n p = some (d1, n1, k, post) ∧ foldDeclA d1 n1 ps = some (d2, n2, ops2) ∧
      d2 = d' ∧ n2 = n' ∧ (k, post) :: ops2 = ops := by
  unfold foldDeclA at h
  split at h
  rotate_left
  · cases h
  rename_i r hs
  obtain ⟨d1, n1, k, post⟩ := r
  simp only [Option.map_eq_some_iff, Prod.mk.injEq] at h
  obtain ⟨⟨d2, n2, ops2⟩, hq, he⟩ := h
  exact ⟨d1, n1, k, post, d2, n2, ops2, hs, hq, he⟩

theorem decl_foldA (dn : String) : ∀ (ps : List PDecl) (s : St) (d d' : Def) (n' : Nat) (ops : List (Nat × Nat)),
    Has s dn d → d.insts = [] → foldDeclA d s.next ps = some (d', n', ops) →
    ps.foldlM (fun s p => elabItem s dn false p.item) s = .ok ((padOps s dn ops).put dn d' n') ∧ d'.name = d.name ∧
      d'.insts = [] ∧ d'.ports.length = d.ports.length ∧ ∀ op ∈ ops, op.1 < d.ports.length := by
  intro ps
  induction ps with
  | nil =>
    intro s d d' n' ops hd hi h
    simp only [foldDeclA, Option.some.injEq, Prod.mk.injEq] at h
    obtain ⟨h1, h2, h3⟩ := h
    subst h1 h2 h3
    refine ⟨?_, rfl, hi, rfl, by intro op hop; cases hop⟩
    simp only [List.foldlM_nil, pure, Except.pure, padOps, List.foldl_nil]
    rw [St.put_self s dn d hd]
  | cons p ps ih =>
    intro s d d' n' ops hd hi h
    obtain ⟨d1, n1, k, post, d2, n2, ops2, hs, hq, he⟩ := foldDeclA_cons_some h
    obtain ⟨e1, e2, e3⟩ := he
    subst e1 e2 e3
    obtain ⟨g1, g2, g3, g4, g5⟩ := declStepA_run dn s d p d1 n1 k post hd hi hs
    have hi1 : d1.insts = [] := by rw [g3, hi]
    have hdp : Has (padS s dn k post) dn d := hd.mapRows hi dn k _
    have hd1 : Has ((padS s dn k post).put dn d1 n1) dn d1 := hdp.put d1 n1 g2
    obtain ⟨f1, f2, f3, f4, f5⟩ := ih ((padS s dn k post).put dn d1 n1) d1 d2 n2 ops2 hd1 hi1 (by rw [put_next]; exact hq)
    refine ⟨?_, f2.trans g2, f3, f4.trans g4, ?_⟩
    · have hstep : elabItem s dn false p.item = .ok ((padS s dn k post).put dn d1 n1) := by
        unfold PDecl.item elabItem
        simpa using g1
      simp only [List.foldlM_cons, bind, Except.bind, hstep]
      rw [f1, padOps_put dn d1 hi1, St.put_put _ dn d1 d2 n1 n2 (by rw [g2, hd.2.1])]
      rfl
    · intro op hop
      rcases List.mem_cons.mp hop with e | e
      · rw [e]; exact g5
      · have := f5 op e; omega

theorem foldDeclA_frame : ∀ (ps : List PDecl) (d : Def) (n : Nat) (d' : Def) (n' : Nat) (ops : List (Nat × Nat)),
    foldDeclA d n ps = some (d', n', ops) →
    d'.name = d.name ∧ d'.lib = d.lib ∧ d'.insts = d.insts ∧ d'.attrs = d.attrs ∧ d'.params = d.params ∧
      d'.ports.map (·.name) = d.ports.map (·.name) ∧ ∀ op ∈ ops, op.1 < d.ports.length := by
  intro ps
  induction ps with
  | nil =>
    intro d n d' n' ops h
    simp only [foldDeclA, Option.some.injEq, Prod.mk.injEq] at h
    obtain ⟨rfl, _, rfl⟩ := h
    exact ⟨rfl, rfl, rfl, rfl, rfl, rfl, nofun⟩
  | cons p ps ih =>
    intro d n d' n' ops h
    obtain ⟨d1, n1, k, post, d2, n2, ops2, hs, hq, rfl, _, rfl⟩ := foldDeclA_cons_some h
    obtain ⟨hk, _, _, _, _, _, _, _, _, _, _, _, _, _, a1, a2, a3, a4, a5⟩ := declStepA_spec d n p d1 n1 k post hs
    have a6 := declStepA_names d n p d1 n1 k post hs
    obtain ⟨b1, b2, b3, b4, b5, b6, b7⟩ := ih d1 n1 d2 n2 ops2 hq
    refine ⟨b1.trans a1, b2.trans a2, b3.trans a3, b4.trans a4, b5.trans a5, b6.trans a6, ?_⟩
    intro op hop
    rcases List.mem_cons.mp hop with e | e
    · rw [e]; exact hk
    · have := b7 op e
      rwa [← List.length_map (f := (·.name)), a6, List.length_map] at this

theorem foldDecl_bare : ∀ (ps : List PDecl) (d : Def) (n : Nat), (d.ports.map (·.name)).Nodup →
    foldDecl d n ps = foldDeclA d n (ps.map PDecl.bare) := by
  intro ps
  induction ps with
  | nil => intro d n _; rfl
  | cons p ps ih =>
    intro d n hnp
    rw [List.map_cons, foldDecl, foldDeclA, declStepL_bare d n p hnp]
    cases hs : declStepA d n p.bare with
    | none => rfl
    | some r =>
      obtain ⟨d1, n1, k, post⟩ := r
      simp only []
      rw [ih d1 n1 (by rw [declStepA_names d n p.bare d1 n1 k post hs]; exact hnp)]

theorem decl_foldL (dn : String) (ps : List PDecl) (s : St) (d d' : Def) (n' : Nat) (ops : List (Nat × Nat))
    (hd : Has s dn d) (hi : d.insts = []) (hnp : (d.ports.map (·.name)).Nodup)
    (h : foldDecl d s.next ps = some (d', n', ops)) :
    ps.foldlM (fun s p => elabItem s dn true p.item) s = .ok ((padOps s dn ops).put dn d' n') ∧ d'.name = d.name ∧
      d'.insts = [] ∧ d'.ports.length = d.ports.length ∧ ∀ op ∈ ops, op.1 < d.ports.length := by
  rw [foldDecl_bare ps d s.next hnp] at h
  have := decl_foldA dn (ps.map PDecl.bare) s d d' n' ops hd hi h
  rwa [List.foldlM_map] at this

theorem wire_foldG (dn : String) : ∀ (ws : List FWire) (s : St) (d d' : Def) (n' : Nat),
    Has s dn d → foldLocal wireStep d s.next ws = some (d', n') →
    ws.foldlM (fun s w => elabItem s dn false w.item) s = .ok (s.put dn d' n') ∧ d'.name = d.name ∧
      d'.insts = d.insts ∧ d'.ports = d.ports :=
  fun ws s d d' n' hd h =>
    ⟨fold_localI dn (fun _ => True) (fun s w => elabItem s dn false w.item) wireStep
        (fun s d w d' n' hd _ hs => ⟨(wireStep_runG dn s d w d' n' hd hs).1, (wireStep_name d _ w d' n' hs).1, trivial⟩)
        ws s d d' n' hd trivial h,
      foldLocal_pres (·.name) wireStep (fun d n w d' n' hs => (wireStep_name d n w d' n' hs).1) ws d _ d' n' h,
      foldLocal_pres (·.insts) wireStep (fun d n w d' n' hs => (wireStep_name d n w d' n' hs).2) ws d _ d' n' h,
      foldLocal_pres (·.ports) wireStep wireStep_ports ws d _ d' n' h⟩
end Spydr.Verilog.Elab
