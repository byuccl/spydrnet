/-
  Verilog engine — the writer's from-top order (`_write_from_top`) is a breadth-first work list;
  soundness, completeness (when the fuel sufficed), duplicate-freeness, and a fuel that always suffices.
-/
import Spydr.Verilog.Model
import Mathlib.Logic.Relation

namespace Spydr.Verilog

/-- `b` is the reference of a child of `a` -/
def ChildRef (children : Nat → List Nat) (a b : Nat) : Prop := b ∈ children a

abbrev Reaches (children : Nat → List Nat) := Relation.ReflTransGen (ChildRef children)

theorem writeOrderGo_mono (children : Nat → List Nat) (f : Nat) (q w : List Nat) :
    ∀ x ∈ w, x ∈ (writeOrderGo children f q w).1 := by
  fun_induction writeOrderGo children f q w with
  | case1 | case2 => exact fun _ h => h
  | case3 _ _ _ _ _ ih => exact ih
  | case4 _ _ _ _ _ ih => exact fun x hx => ih x (List.mem_append_left _ hx)

theorem writeOrderGo_sound (children : Nat → List Nat) (f : Nat) (q w : List Nat) (top : Nat)
    (hq : ∀ x ∈ q, Reaches children top x) (hw : ∀ x ∈ w, Reaches children top x) :
    ∀ x ∈ (writeOrderGo children f q w).1, Reaches children top x := by
  fun_induction writeOrderGo children f q w with
  | case1 | case2 => exact hw
  | case3 _ _ _ _ _ ih => exact ih (fun x hx => hq x (List.mem_cons_of_mem _ hx)) hw
  | case4 _ d _ _ _ ih =>
    have hd := hq d List.mem_cons_self
    refine ih (fun x hx => ?_) (fun x hx => ?_)
    · rcases List.mem_append.mp hx with hx | hx
      · exact hq x (List.mem_cons_of_mem _ hx)
      · exact hd.tail (List.mem_filter.mp hx).1
    · rcases List.mem_append.mp hx with hx | hx
      · exact hw x hx
      · rw [List.mem_singleton.mp hx]; exact hd

theorem writeOrderGo_nodup (children : Nat → List Nat) (f : Nat) (q w : List Nat) (h : w.Nodup) :
    (writeOrderGo children f q w).1.Nodup := by
  fun_induction writeOrderGo children f q w with
  | case1 | case2 => exact h
  | case3 _ _ _ _ _ ih => exact ih h
  | case4 _ d _ _ hd ih =>
    exact ih (List.nodup_append.mpr ⟨h, List.nodup_cons.mpr ⟨List.not_mem_nil, List.nodup_nil⟩,
      fun a ha b hb e => hd (List.mem_singleton.mp hb ▸ e ▸ ha)⟩)

/-- work-list invariant: every child reference of a written module is written or queued -/
def OrderClosed (children : Nat → List Nat) (q w : List Nat) : Prop :=
  ∀ x ∈ w, ∀ y ∈ children x, y ∈ w ∨ y ∈ q

theorem OrderClosed.nil {children : Nat → List Nat} {w : List Nat} (hc : OrderClosed children [] w) :
    ∀ x ∈ w, ∀ y ∈ children x, y ∈ w :=
  fun x hx y hy => (hc x hx y hy).resolve_right List.not_mem_nil

theorem OrderClosed.skip {children : Nat → List Nat} {d : Nat} {q w : List Nat}
    (hc : OrderClosed children (d :: q) w) (hd : d ∈ w) : OrderClosed children q w :=
  fun x hx y hy => (hc x hx y hy).elim .inl fun h =>
    (List.mem_cons.mp h).elim (fun e => .inl (e ▸ hd)) .inr

theorem OrderClosed.write {children : Nat → List Nat} {d : Nat} {q w : List Nat}
    (hc : OrderClosed children (d :: q) w) :
    OrderClosed children (q ++ (children d).filter (fun c => !(c == d) && !(w.contains c))) (w ++ [d]) := by
  intro x hx y hy
  simp only [List.mem_append, List.mem_singleton, List.mem_filter, Bool.and_eq_true, Bool.not_eq_true',
    beq_eq_false_iff_ne, List.contains_eq_mem, decide_eq_false_iff_not] at hx ⊢
  rcases hx with hx | rfl
  · rcases hc x hx y hy with h | h
    · exact .inl (.inl h)
    · rcases List.mem_cons.mp h with rfl | h
      · exact .inl (.inr rfl)
      · exact .inr (.inl h)
  · by_cases e : y = x
    · exact .inl (.inr e)
    · by_cases hyw : y ∈ w
      · exact .inl (.inl hyw)
      · exact .inr (.inr ⟨hy, e, hyw⟩)

theorem writeOrderGo_closed (children : Nat → List Nat) (f : Nat) (q w : List Nat)
    (hc : OrderClosed children q w) (hfin : (writeOrderGo children f q w).2 = true) :
    (∀ x ∈ q, x ∈ (writeOrderGo children f q w).1) ∧
    (∀ x ∈ (writeOrderGo children f q w).1, ∀ y ∈ children x, y ∈ (writeOrderGo children f q w).1) := by
  fun_induction writeOrderGo children f q w with
  | case1 q w =>
    obtain rfl : q = [] := List.isEmpty_iff.mp hfin
    exact ⟨nofun, hc.nil⟩
  | case2 => exact ⟨nofun, hc.nil⟩
  | case3 f d q w hd ih =>
    obtain ⟨h1, h2⟩ := ih (hc.skip hd) hfin
    exact ⟨fun x hx => (List.mem_cons.mp hx).elim (· ▸ writeOrderGo_mono children f q w d hd) (h1 x), h2⟩
  | case4 f d q w hd ih =>
    obtain ⟨h1, h2⟩ := ih hc.write hfin
    refine ⟨fun x hx => ?_, h2⟩
    rcases List.mem_cons.mp hx with rfl | hx
    · exact writeOrderGo_mono children f _ _ x (List.mem_append_right _ (List.mem_singleton_self x))
    · exact h1 x (List.mem_append_left _ hx)

theorem writeOrder_complete (children : Nat → List Nat) (f : Nat) (top : Nat)
    (hfin : (writeOrder children f top).2 = true) :
    ∀ x, Reaches children top x → x ∈ (writeOrder children f top).1 := by
  obtain ⟨h1, h2⟩ := writeOrderGo_closed children f [top] [] (fun x hx => nomatch hx) hfin
  intro x hr
  induction hr with
  | refl => exact h1 top (List.mem_singleton_self top)
  | tail _ hstep ih => exact h2 _ ih _ hstep

/-- remaining work: one unit per module not yet written plus one per child reference of it -/
def orderCost (children : Nat → List Nat) (univ w : List Nat) : Nat :=
  (univ.map (fun d => if d ∈ w then 0 else 1 + (children d).length)).sum

/-- writing `d` takes its share off the remaining work -/
theorem orderCost_write (children : Nat → List Nat) (univ w : List Nat) (d : Nat) (hw : d ∉ w) :
    orderCost children univ (w ++ [d]) + (if d ∈ univ then 1 + (children d).length else 0) ≤
      orderCost children univ w := by
  unfold orderCost
  induction univ with
  | nil => exact Nat.le_refl 0
  | cons x xs ih =>
    rw [List.map_cons, List.sum_cons, List.map_cons, List.sum_cons]
    by_cases hxd : x = d
    · subst hxd
      rw [if_pos (List.mem_append_right _ (List.mem_singleton_self x)), if_pos List.mem_cons_self, if_neg hw]
      split at ih <;> omega
    · have h1 : x ∈ w ++ [d] ↔ x ∈ w := by simp [hxd]
      have h2 : d ∈ x :: xs ↔ d ∈ xs := by simp [Ne.symm hxd]
      simp only [h1, h2]
      omega

/-- the fuel suffices: the work list empties as soon as the fuel exceeds `|queue| + remaining cost` -/
theorem writeOrderGo_finishes (children : Nat → List Nat) (univ : List Nat)
    (hclosed : ∀ d ∈ univ, ∀ c ∈ children d, c ∈ univ) (fuel : Nat) (q w : List Nat)
    (hq : ∀ x ∈ q, x ∈ univ) (h : q.length + orderCost children univ w < fuel) :
    (writeOrderGo children fuel q w).2 = true := by
  fun_induction writeOrderGo children fuel q w with
  | case1 => omega
  | case2 => rfl
  | case3 _ _ _ _ _ ih =>
    exact ih (fun x hx => hq x (List.mem_cons_of_mem _ hx)) (by rw [List.length_cons] at h; omega)
  | case4 _ d _ w hdw ih =>
    have hdu := hq d List.mem_cons_self
    have hc := orderCost_write children univ w d hdw
    rw [if_pos hdu] at hc
    have hf := List.length_filter_le (fun c => !(c == d) && !(w.contains c)) (children d)
    refine ih (fun x hx => ?_) (by rw [List.length_cons] at h; rw [List.length_append]; omega)
    rcases List.mem_append.mp hx with hx | hx
    · exact hq x (List.mem_cons_of_mem _ hx)
    · exact hclosed d hdu x (List.mem_filter.mp hx).1

theorem sum_map_succ (l : List Nat) (f : Nat → Nat) :
    (l.map (fun d => 1 + f d)).sum = l.length + (l.map f).sum := by
  induction l with
  | nil => rfl
  | cons x xs ih => simp only [List.map_cons, List.sum_cons, List.length_cons, ih]; omega

/-- **fuel sufficiency.**  In a netlist of `N` definitions (child references inside `0..N-1`) the fuel
    the driver uses, `2 + N + Σ |children d|`, always empties the work list. -/
theorem writeOrder_finishes (children : Nat → List Nat) (N top : Nat) (htop : top < N)
    (hclosed : ∀ d, d < N → ∀ c ∈ children d, c < N) :
    (writeOrder children (2 + N + ((List.range N).map (fun d => (children d).length)).sum) top).2 = true := by
  refine writeOrderGo_finishes children (List.range N)
    (fun d hd c hc => List.mem_range.mpr (hclosed d (List.mem_range.mp hd) c hc)) _ [top] []
    (fun x hx => List.mem_singleton.mp hx ▸ List.mem_range.mpr htop) ?_
  have : orderCost children (List.range N) [] = N + ((List.range N).map (fun d => (children d).length)).sum := by
    simp only [orderCost, List.not_mem_nil, if_false, sum_map_succ, List.length_range]
  rw [this, List.length_singleton]
  omega

end Spydr.Verilog
