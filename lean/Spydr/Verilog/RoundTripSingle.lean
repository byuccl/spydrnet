/-
  A file that consists of ONE module in the writer's shape, with instances of modules the file does not declare,
  through the real `elabDesign` (`elabModule_wtop`, `elabDesign_wsingle`); what instances bring into the table are stubs
  (`StubOK`, `foldInst_new`).
-/
import Spydr.Verilog.RoundTripFirst
namespace Spydr.Verilog.Elab
open Spydr.Verilog

/-- invariant of the table while the instances of the only module of the file are read -/
structure LInv (d : Def) (ls : List Def) : Prop where
  nodup : (ls.map (·.name)).Nodup
  names : ∀ l ∈ ls, l.name ≠ d.name
  linsts : ∀ l ∈ ls, l.insts = []
  closed : ∀ j ∈ d.insts, ∃ rd ∈ ls, rd.name = j.ref
  full : ∀ j ∈ d.insts, ∀ rd ∈ ls, rd.name = j.ref → rd.ports.length ≤ j.pins.length
  cables : (d.cables.map (·.name)).Nodup

/-- one instance with a named port map: of a module seen before (its ports exist and are wide enough), or the
    first instance of a new module (which creates the ports) -/
def instStep2 (d : Def) (ls : List Def) (i : NInst) : Option (Def × List Def) :=
  if instIdx d i.name = none ∧ i.mod ≠ d.name then
    match ls.find? (fun l => l.name == i.mod) with
    | some rd =>
      (i.conns.foldlM (connStep d rd) (rd.ports.map (fun p => List.replicate p.pins.length none))).map
        (fun rows => ({ d with insts := d.insts ++ [⟨i.name, i.mod, mergeP i.params, some i.attrs, rows⟩] }, ls))
    | none =>
      (i.conns.foldlM (firstStep d) ([], [])).map
        (fun r => ({ d with insts := d.insts ++ [⟨i.name, i.mod, mergeP i.params, some i.attrs, r.2⟩] },
                   ls ++ [⟨i.mod, none, false, [], none, r.1, [], []⟩]))
  else none

theorem instStep2_eq {d : Def} {ls : List Def} {i : NInst} {d' : Def} {ls' : List Def}
    (h : instStep2 d ls i = some (d', ls')) :
    (instIdx d i.name = none ∧ i.mod ≠ d.name) ∧
    ∃ rows, d' = { d with insts := d.insts ++ [⟨i.name, i.mod, mergeP i.params, some i.attrs, rows⟩] } ∧
      match ls.find? (fun l => l.name == i.mod) with
      | some rd => ls' = ls ∧
          i.conns.foldlM (connStep d rd) (rd.ports.map (fun p => List.replicate p.pins.length none)) = some rows
      | none => ∃ ps, i.conns.foldlM (firstStep d) ([], []) = some (ps, rows) ∧
          ls' = ls ++ [⟨i.mod, none, false, [], none, ps, [], []⟩] := by
  unfold instStep2 at h
  split at h
  · rename_i hc
    refine ⟨hc, ?_⟩
    cases hf : ls.find? (fun l => l.name == i.mod) with
    | some rd =>
      simp only [hf, Option.map_eq_some_iff, Prod.mk.injEq] at h
      obtain ⟨rows, hrows, rfl, rfl⟩ := h
      exact ⟨rows, rfl, rfl, hrows⟩
    | none =>
      simp only [hf, Option.map_eq_some_iff, Prod.mk.injEq] at h
      obtain ⟨r, hr, rfl, rfl⟩ := h
      exact ⟨r.2, rfl, r.1, hr, rfl⟩
  · cases h

theorem LInv.noref {d : Def} {ls : List Def} (inv : LInv d ls) {nm : String} (h : ∀ l ∈ ls, l.name ≠ nm) :
    ∀ j ∈ d.insts, j.ref ≠ nm := by
  intro j hj e
  obtain ⟨rd, hrd, hn⟩ := inv.closed j hj
  exact h rd hrd (hn.trans e)

theorem LInv.add_leaf {d : Def} {ls : List Def} (inv : LInv d ls) (L : Def) (hnew : ∀ l ∈ ls, l.name ≠ L.name)
    (hne : L.name ≠ d.name) (hi : L.insts = []) : LInv d (ls ++ [L]) := by
  refine ⟨by simpa [List.nodup_append, inv.nodup] using hnew, List.forall_mem_append.mpr ⟨inv.names, by simpa using hne⟩,
    List.forall_mem_append.mpr ⟨inv.linsts, by simpa using hi⟩, ?_, ?_, inv.cables⟩
  · intro j hj
    obtain ⟨rd, hrd, hn⟩ := inv.closed j hj
    exact ⟨rd, List.mem_append_left _ hrd, hn⟩
  · intro j hj rd hrd hn
    rcases List.mem_append.mp hrd with e | e
    · exact inv.full j hj rd e hn
    · rw [List.mem_singleton.mp e] at hn
      exact absurd hn.symm (inv.noref hnew j hj)

theorem LInv.add_inst {d : Def} {ls : List Def} (inv : LInv d ls) (j : Inst) (rd : Def) (hrd : rd ∈ ls)
    (hn : rd.name = j.ref) (hlen : rd.ports.length ≤ j.pins.length) : LInv { d with insts := d.insts ++ [j] } ls := by
  refine ⟨inv.nodup, inv.names, inv.linsts, List.forall_mem_append.mpr ⟨inv.closed, by simpa using ⟨rd, hrd, hn⟩⟩, ?_,
    inv.cables⟩
  intro j' hj' rd' hrd' hn'
  rcases List.mem_append.mp hj' with e | e
  · exact inv.full j' e rd' hrd' hn'
  · rw [List.mem_singleton.mp e] at hn' ⊢
    rw [nodup_map_inj (·.name) ls inv.nodup rd' hrd' rd hrd (hn'.trans hn.symm)]
    exact hlen

theorem instStep2_run (d : Def) (ls : List Def) (n : Nat) (i : NInst) (d' : Def) (ls' : List Def)
    (inv : LInv d ls) (h : instStep2 d ls i = some (d', ls')) :
    elabItem (S2 d ls n (some d.name)) d.name false i.item = .ok (S2 d' ls' n (some d.name)) ∧ LInv d' ls' ∧
      d'.name = d.name := by
  obtain ⟨⟨hfresh, hne⟩, rows, rfl, hm⟩ := instStep2_eq h
  have hne' : d.name ≠ i.mod := fun e => hne e.symm
  rw [show elabItem _ _ false i.item = instantiate _ _ i.mod i.name i.params i.attrs true _ from rfl]
  cases hf : ls.find? (fun l => l.name == i.mod) with
  | some rd =>
    -- a module of the table: `instantiate_named`, whose result is again a table of this shape
    simp only [hf] at hm
    obtain ⟨e, hrows⟩ := hm
    subst ls'
    have hrdm : rd ∈ ls := List.mem_of_find?_eq_some hf
    have hrdn : rd.name = i.mod := by simpa using List.find?_some hf
    have hRF : RowsFull (S2 d ls n (some d.name)) i.mod rd.ports.length := by
      intro x hx j hj href
      rcases List.mem_cons.mp hx with e | e
      · rw [e] at hj; exact inv.full j hj rd hrdm (hrdn.trans href.symm)
      · rw [inv.linsts x e] at hj; cases hj
    obtain ⟨s', h1, h2, h3, h4, h5, h6⟩ := instantiate_named (S2 d ls n (some d.name)) d.name i.mod i.name i.params i.attrs
      i.conns d rd rows (Has_S2_top d ls n _ inv.names) (hrdn ▸ Has_S2_leaf d ls n _ rd hrdm (hrdn ▸ hne') inv.nodup) hne
      inv.cables hfresh hRF hrows
    refine ⟨?_, inv.add_inst _ rd hrdm hrdn (by rw [foldlM_connStep_length d rd i.conns _ rows hrows]; simp), rfl⟩
    rw [h1]
    congr 1
    refine St.ext' _ _ ?_ h3 ?_ h5 h4
    · rw [h2]
      exact congrArg St.defs (upd_S2_top d ls n _ (fun x => { x with insts := x.insts ++ [_] }) inv.names)
    · rw [h6]
      exact if_neg (by simpa [S2] using hne')
  | none =>
    -- a module never seen: `instantiate_first`
    simp only [hf] at hm
    obtain ⟨ports', hr, rfl⟩ := hm
    have hnotin : ∀ l ∈ ls, l.name ≠ i.mod := fun l hl => by simpa using List.find?_eq_none.mp hf l hl
    exact ⟨instantiate_first d ls n (some d.name) i.mod i.name i.params i.attrs i.conns ports' rows
        (fun e => hne' (Option.some.inj e)) hne' (fun l hl => ⟨hnotin l hl, inv.names l hl, inv.linsts l hl⟩) inv.nodup
        hfresh (inv.noref hnotin) inv.cables hr,
      (inv.add_leaf ⟨i.mod, none, false, [], none, ports', [], []⟩ hnotin hne rfl).add_inst _
        ⟨i.mod, none, false, [], none, ports', [], []⟩ (by simp) rfl
        (Nat.le_of_eq (firstStep_len d i.conns ([], []) (ports', rows) rfl hr)), rfl⟩

def foldInst : Def → List Def → List NInst → Option (Def × List Def)
  | d, ls, [] => some (d, ls)
  | d, ls, i :: is =>
    match instStep2 d ls i with
    | some r => foldInst r.1 r.2 is
    | none => none

theorem foldInst_cons (d : Def) (ls : List Def) (i : NInst) (is : List NInst) (r : Def × List Def) :
    foldInst d ls (i :: is) = some r ↔ ∃ d1 ls1, instStep2 d ls i = some (d1, ls1) ∧ foldInst d1 ls1 is = some r := by
  rw [foldInst]
  cases instStep2 d ls i with
  | none => simp
  | some r1 => exact ⟨fun h => ⟨r1.1, r1.2, rfl, h⟩, fun ⟨_, _, e, h⟩ => by cases e; exact h⟩

theorem insts_fold2 (n : Nat) : ∀ (is : List NInst) (d : Def) (ls : List Def) (d' : Def) (ls' : List Def),
    LInv d ls → foldInst d ls is = some (d', ls') →
    (is.map NInst.item).foldlM (fun s it => elabItem s d.name false it) (S2 d ls n (some d.name)) =
      .ok (S2 d' ls' n (some d.name)) ∧ LInv d' ls' ∧ d'.name = d.name := by
  intro is
  induction is with
  | nil =>
    intro d ls d' ls' inv h
    cases h
    exact ⟨rfl, inv, rfl⟩
  | cons i is ih =>
    intro d ls d' ls' inv h
    obtain ⟨d1, ls1, hs, h⟩ := (foldInst_cons ..).mp h
    obtain ⟨h1, inv1, hn1⟩ := instStep2_run d ls n i d1 ls1 inv hs
    obtain ⟨h2, inv2, hn2⟩ := ih d1 ls1 d' ls' inv1 h
    refine ⟨?_, inv2, hn2.trans hn1⟩
    simp only [List.map_cons, List.foldlM_cons, bind, Except.bind, h1]
    rw [← hn1]
    exact h2

/-- the inferred black boxes get their library at the end of the file -/
def markBB (d : Def) : Def :=
  if d.lib.isNone then { d with lib := some "hdi_primitives", primitive := true } else d

/-- the table the reader builds for a file that consists of this one module (pure): the module, then the
    modules it instantiates, in the order of their first instance -/
def buildWI (m : WModI) : Option (List Def × Nat) :=
  match buildW 0 ⟨m.name, [], m.ports, m.wires⟩ with
  | none => none
  | some r3 =>
    if (r3.1.cables.map (·.name)).Nodup then
      match foldInst r3.1 [] m.insts with
      | none => none
      | some r4 =>
        some ((((if m.attrs.isEmpty then r4.1 else { r4.1 with attrs := some m.attrs }) :: r4.2).map markBB), r3.2)
    else none

theorem buildWI_inv {m : WModI} {defs : List Def} {n : Nat} (h : buildWI m = some (defs, n)) :
    ∃ d3 d4 ls4, buildW3 ⟨m.name, some "work", false, [], none, [], [], []⟩ 0 m.ports m.wires = some (d3, n) ∧
      (d3.cables.map (·.name)).Nodup ∧ foldInst d3 [] m.insts = some (d4, ls4) ∧
      defs = ((if m.attrs.isEmpty then d4 else { d4 with attrs := some m.attrs }) :: ls4).map markBB := by
  unfold buildWI at h
  rw [buildW_eq3] at h
  split at h
  · cases h
  · rename_i r3 h3
    split at h
    · rename_i hcn
      split at h
      · cases h
      · rename_i r4 h4
        cases h
        exact ⟨r3.1, r4.1, r4.2, h3, hcn, h4, rfl⟩
    · cases h

theorem put_S2 (d : Def) (ls : List Def) (n : Nat) (t : Option String) (d' : Def) (n' : Nat)
    (h : ∀ l ∈ ls, l.name ≠ d.name) : (S2 d ls n t).put d.name d' n' = S2 d' ls n' t := by
  unfold St.put
  rw [upd_S2_top d ls n t _ h]
  rfl

theorem afterEntry_s0 (name : String) :
    afterEntry ⟨[], 0, none, 0, []⟩ name false = S2 ⟨name, some "work", false, [], none, [], [], []⟩ [] 0 (some name) := by
  unfold afterEntry St.upd S2
  simp

theorem elabModule_wtop (m : WModI) (d3 : Def) (n3 : Nat) (d4 : Def) (ls4 : List Def)
    (h3 : buildW3 ⟨m.name, some "work", false, [], none, [], [], []⟩ 0 m.ports m.wires = some (d3, n3))
    (hcn : (d3.cables.map (·.name)).Nodup) (h4 : foldInst d3 [] m.insts = some (d4, ls4)) :
    elabModule ⟨[], 0, none, 0, []⟩ m.toModule =
        .ok (S2 (if m.attrs.isEmpty then d4 else { d4 with attrs := some m.attrs }) ls4 n3 (some m.name)) ∧
      LInv d4 ls4 ∧ d4.name = m.name := by
  obtain ⟨hP, (hd3n : d3.name = m.name), hi3⟩ := wshape_phases (S2 ⟨m.name, some "work", false, [], none, [], [], []⟩ [] 0 (some m.name))
    m.name m.ports m.wires _ d3 n3 (Has_S2_top _ [] 0 _ (by simp)) (by simp [NoRef, S2]) rfl h3
  rw [put_S2 ⟨m.name, some "work", false, [], none, [], [], []⟩ [] 0 _ d3 n3 (by simp)] at hP
  obtain ⟨hI, inv4, hd4n⟩ := insts_fold2 n3 m.insts d3 [] d4 ls4
    ⟨List.nodup_nil, by simp, by simp, by simp [hi3], by simp [hi3], hcn⟩ h4
  rw [hd3n] at hI hd4n
  refine ⟨?_, inv4, hd4n⟩
  rw [elabModule_eq_tailG _ m.toModule rfl rfl]
  show elabTailG (afterEntry ⟨[], 0, none, 0, []⟩ m.name false) ⟨m.name, false, m.attrs, [], _, _⟩ = _
  rw [afterEntry_s0, elabTailG_wPhases, hP]
  simp only [bind, Except.bind, hI, pure, Except.pure]
  split
  · rfl
  · rw [← hd4n, upd_S2_top d4 ls4 n3 _ _ inv4.names]

/-- **elabDesign_wsingle.**  A file that consists of one module in the writer's shape — bare names in the header, one
    body declaration per port, `wire` declarations of all nets, instances with named port maps of modules the file
    does not declare — through the REAL `elabDesign`: the table is `buildWI`. -/
theorem elabDesign_wsingle (m : WModI) (defs : List Def) (n : Nat) (hb : buildWI m = some (defs, n)) :
    elabDesign [m.toModule] = .ok ⟨defs, n, some m.name, 0, []⟩ := by
  obtain ⟨d3, d4, ls4, h3, hcn, h4, rfl⟩ := buildWI_inv hb
  obtain ⟨hE, _, _⟩ := elabModule_wtop m d3 n d4 ls4 h3 hcn h4
  rw [elabDesign_eq (by rw [List.foldlM_cons, hE]; rfl) rfl]
  rfl

/-- non-vacuity: the text the writer produces for a top module with three instances of two undeclared primitives
    (`write_blackbox = False`): `module top (a, b, y); input [3:0] a; input b; output [1:0] y;
    wire [2:0] n; wire [1:0] y; wire b; wire [3:0] a;
    LUT2 #(.INIT(4'h8)) u0 (.I0(a[0]), .I1(b), .O(y[0]));
    LUT2 u1 (.I0(n[0]), .I1(), .O(y[1]));
    RAM r0 (.addr({n[2:1], a[3], b}), .q(n[0])); endmodule` -/
def exWI : WModI :=
  ⟨"top", [],
   [⟨"a", .inp, some (3, 0), []⟩, ⟨"b", .inp, none, []⟩, ⟨"y", .out, some (1, 0), []⟩],
   [⟨"n", "wire", some (2, 0), []⟩, ⟨"y", "wire", some (1, 0), []⟩, ⟨"b", "wire", none, []⟩, ⟨"a", "wire", some (3, 0), []⟩],
   [⟨"u0", "LUT2", [("INIT", "4'h8")], [], [("I0", .atom (.bit "a" 0)), ("I1", .atom (.id "b")), ("O", .atom (.bit "y" 0))]⟩,
    ⟨"u1", "LUT2", [], [], [("I0", .atom (.bit "n" 0)), ("I1", .empty), ("O", .atom (.bit "y" 1))]⟩,
    ⟨"r0", "RAM", [], [], [("addr", .cat [.part "n" 2 1, .bit "a" 3, .id "b"]), ("q", .atom (.bit "n" 0))]⟩]⟩

theorem exWI_builds : (buildWI exWI).isSome = true := by decide

theorem foldInst_pres {β : Type} (proj : Def → β)
    (h : ∀ d ls i d' ls', instStep2 d ls i = some (d', ls') → proj d' = proj d) :
    ∀ (is : List NInst) (d : Def) (ls : List Def) (d' : Def) (ls' : List Def),
      foldInst d ls is = some (d', ls') → proj d' = proj d := by
  intro is
  induction is with
  | nil => intro d ls d' ls' hf; simp only [foldInst, Option.some.injEq, Prod.mk.injEq] at hf; rw [← hf.1]
  | cons i is ih =>
    intro d ls d' ls' hf
    obtain ⟨d1, ls1, hs, hf⟩ := (foldInst_cons _ _ _ _ _).mp hf
    exact (ih d1 ls1 d' ls' hf).trans (h d ls i d1 ls1 hs)

theorem instStep2_meta (d : Def) (ls : List Def) (i : NInst) (d' : Def) (ls' : List Def)
    (h : instStep2 d ls i = some (d', ls')) : d'.name = d.name ∧ d'.params = d.params ∧ d'.lib = d.lib := by
  obtain ⟨_, _, rfl, _⟩ := instStep2_eq h
  exact ⟨rfl, rfl, rfl⟩

theorem foldInst_name : ∀ (is : List NInst) (d : Def) (ls : List Def) (d' : Def) (ls' : List Def),
    foldInst d ls is = some (d', ls') → d'.name = d.name :=
  foldInst_pres (·.name) fun d ls i d' ls' h => (instStep2_meta d ls i d' ls' h).1

theorem foldInst_params : ∀ (is : List NInst) (d : Def) (ls : List Def) (d' : Def) (ls' : List Def),
    foldInst d ls is = some (d', ls') → d'.params = d.params :=
  foldInst_pres (·.params) fun d ls i d' ls' h => (instStep2_meta d ls i d' ls' h).2.1

theorem foldInst_lib : ∀ (is : List NInst) (d : Def) (ls : List Def) (d' : Def) (ls' : List Def),
    foldInst d ls is = some (d', ls') → d'.lib = d.lib :=
  foldInst_pres (·.lib) fun d ls i d' ls' h => (instStep2_meta d ls i d' ls' h).2.2

/-- what is known of a definition the file has not declared yet: no nets, no instances, ports based at 0 -/
def StubOK (L : Def) : Prop :=
  L.lib = none → L.cables = [] ∧ L.insts = [] ∧ L.attrs = none ∧ ∀ P ∈ L.ports, P.lower = 0 ∧ P.attrs = none

theorem firstStep_stub (d0 : Def) (conns : List (String × XExpr)) (a b : List Port × List (List (Option Nat)))
    (h : ∀ P ∈ a.1, P.lower = 0 ∧ P.attrs = none) (hf : conns.foldlM (firstStep d0) a = some b) :
    ∀ P ∈ b.1, P.lower = 0 ∧ P.attrs = none :=
  foldlM_some_inv (fun r => ∀ P ∈ r.1, P.lower = 0 ∧ P.attrs = none) (fun c _ acc r hacc hs => by
    obtain ⟨_, w, row, rfl, _⟩ := firstStep_inv hs
    intro P hP
    rcases List.mem_append.mp hP with e | e
    · exact hacc P e
    · rw [List.mem_singleton.mp e]; exact ⟨rfl, rfl⟩) h hf

theorem foldInst_new : ∀ (is : List NInst) (d : Def) (ls : List Def) (d' : Def) (ls' : List Def),
    foldInst d ls is = some (d', ls') → ∃ new, ls' = ls ++ new ∧ ∀ x ∈ new, StubOK x ∧ x.lib = none := by
  intro is
  induction is with
  | nil => intro d ls d' ls' h; cases h; exact ⟨[], (List.append_nil _).symm, fun x hx => nomatch hx⟩
  | cons i is ih =>
    intro d ls d' ls' h
    obtain ⟨d1, ls1, hs, h⟩ := (foldInst_cons ..).mp h
    obtain ⟨new2, rfl, h2⟩ := ih d1 ls1 d' ls' h
    obtain ⟨_, rows, _, hm⟩ := instStep2_eq hs
    split at hm
    · rw [hm.1]; exact ⟨new2, rfl, h2⟩
    · obtain ⟨ps, hr, rfl⟩ := hm
      refine ⟨⟨i.mod, none, false, [], none, ps, [], []⟩ :: new2, by simp, List.forall_mem_cons.mpr ⟨⟨fun _ => ⟨rfl, rfl, rfl, ?_⟩, rfl⟩, h2⟩⟩
      exact firstStep_stub d i.conns ([], []) (ps, rows) (fun P hP => nomatch hP) hr

theorem foldInst_lower : ∀ (is : List NInst) (d : Def) (ls : List Def) (d' : Def) (ls' : List Def),
    foldInst d ls is = some (d', ls') → (∀ l ∈ ls, ∀ P ∈ l.ports, P.lower = 0) → ∀ l ∈ ls', ∀ P ∈ l.ports, P.lower = 0 := by
  intro is d ls d' ls' h hl
  obtain ⟨new, rfl, hnew⟩ := foldInst_new is d ls d' ls' h
  intro l hl'
  rcases List.mem_append.mp hl' with e | e
  · exact hl l e
  · exact fun P hP => (((hnew l e).1 (hnew l e).2).2.2.2 P hP).1
end Spydr.Verilog.Elab
