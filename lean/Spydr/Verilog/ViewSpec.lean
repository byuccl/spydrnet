/-
  The vocabulary in which the module-level theorems (`c04_view`, `c04_ast*`, `c04_text*`) compare a netlist the writer is given
  (`Text.WNet`, `Text.WDef`) with a definition of the table the reader builds (`Def`): bits for wire ids (`pinBits`, `envOf`), the
  view of a definition on either side (`viewT`, `viewD`), the interface of a leaf (`ifaceT`, `ifaceD`), full pin rows, and the
  fragment of top definitions `fragTop`.  Definitions only.
-/
import Spydr.Verilog.ModelElab
import Spydr.Verilog.ModelText
import Spydr.Verilog.Spec
namespace Spydr.Verilog.Elab
open Spydr.Verilog

/-- the cable environment of a definition of the table: name ↦ (lower index, width) -/
def envOf (d : Def) : CableEnv :=
  fun n => (d.cables.find? (fun c => c.name == n)).map (fun c => (c.lower, c.wires.length))

/-- a row of the table as the bit-level model sees it: wire ids replaced by (cable, index) -/
def pinBits (d : Def) (row : List (Option Nat)) : List (Option Bit) := row.map (fun p => p.bind (bitOf d))

/-- lower index, width, type, attributes of the net called `nm` -/
abbrev CabV := Int × Nat × Option String × Option Attrs

def cabOf (d : Def) (nm : String) : Option CabV :=
  (d.cables.find? (fun c => c.name == nm)).map (fun c => (c.lower, c.wires.length, c.ctype, c.attrs))

def normV (v : CabV) : Int × Nat × String × Attrs := (v.1, v.2.1, v.2.2.1.getD "wire", v.2.2.2.getD [])

def dirOfS : String → Option Dir
  | "IN" => some .inp
  | "OUT" => some .out
  | "INOUT" => some .inout
  | _ => none

def dirV (s : String) : Dir := (dirOfS s).getD .inout

structure PortView where
  name : Option String
  dir : Dir
  lower : Int
  attrs : Attrs
  pins : List (Option Bit)

structure InstView where
  name : String
  ref : String
  params : Params
  attrs : Attrs
  rows : List (List Bit)          -- per port of the referenced definition: the connected bits, pin 0 first

structure DefView where
  attrs : Attrs
  ports : List PortView
  cables : String → Option (Int × Nat × String × Attrs)     -- by name: lower index, width, type, attributes
  insts : List InstView

def viewT (n : Text.WNet) (T : Text.WDef) : DefView :=
  { attrs := T.attrs.getD []
    ports := T.ports.map (fun p => ⟨p.name, dirV p.dir, p.lower, p.attrs.getD [], p.pins⟩)
    cables := fun nm => (T.cables.find? (fun c => c.name == nm)).map
      (fun c => (c.lower, c.width, c.ctype.getD "wire", c.attrs.getD []))
    insts := T.insts.map (fun i => ⟨i.name, i.ref, i.params.getD [], i.attrs.getD [],
      (List.range (((Text.refOf n i.ref).map (fun (r : Text.WDef) => r.ports.length)).getD 0)).map (fun k => connectedBlock (i.pins.getD k []))⟩) }

def viewD (D : Def) : DefView :=
  { attrs := D.attrs.getD []
    ports := D.ports.map (fun P => ⟨P.name, P.dir, P.lower, P.attrs.getD [], pinBits D P.pins⟩)
    cables := fun nm => (cabOf D nm).map (fun v => (v.1, v.2.1, v.2.2.1.getD "wire", v.2.2.2.getD []))
    insts := D.insts.map (fun i => ⟨i.name, i.ref, i.params, i.attrs.getD [],
      i.pins.map (fun row => connectedBlock (pinBits D row))⟩) }

def instViewD (d : Def) (i : Inst) : InstView :=
  ⟨i.name, i.ref, i.params, i.attrs.getD [], i.pins.map (fun row => connectedBlock (pinBits d row))⟩

def instViewT (n : Text.WNet) (i : Text.WInst) : InstView :=
  ⟨i.name, i.ref, i.params.getD [], i.attrs.getD [],
   (List.range (((Text.refOf n i.ref).map (fun (r : Text.WDef) => r.ports.length)).getD 0)).map
     (fun k => connectedBlock (i.pins.getD k []))⟩

/-- the modules the file does not declare: each enters the table with the port names of its definition in the netlist -/
def LeafInv (n : Text.WNet) (ls : List Def) : Prop :=
  ∀ L ∈ ls, ∃ r, Text.refOf n L.name = some r ∧ L.ports.map (·.name) = r.ports.map (·.name)

abbrev Iface := List (Option String × Dir × Int × Nat)

def ifaceD (L : Def) : Iface := L.ports.map (fun P => (P.name, P.dir, P.lower, P.pins.length))

/-- the interface of a definition of the netlist: name, direction, base index, width of every port, in order -/
def ifaceT (r : Text.WDef) : Iface := r.ports.map (fun p => (p.name, dirV p.dir, p.lower, p.width))

def isPrim (r : Text.WDef) : Bool := r.lib == "hdi_primitives"

def fullRowsT (n : Text.WNet) (i : Text.WInst) : List (List (Option Bit)) :=
  (List.range (((Text.refOf n i.ref).map (fun (r : Text.WDef) => r.ports.length)).getD 0)).map (fun k => i.pins.getD k [])

def fullRowsD (D : Def) (i : Inst) : List (List (Option Bit)) := i.pins.map (pinBits D)

/-- the netlist is consistent about widths (decidable): every pin row of every instance of `T` is as wide as the port of
    the referenced definition, which is one of the written leaves -/
def rowsFitB (n : Text.WNet) (T : Text.WDef) (rs : List Text.WDef) : Bool :=
  T.insts.all (fun i =>
    match rs.find? (fun r => r.name == i.ref), Text.refOf n i.ref with
    | some r', some r => decide (r'.ports.map (·.width) = r.ports.map (·.width)) &&
        (List.range r.ports.length).all (fun k => (i.pins.getD k []).length == (r.ports.getD k default).width)
    | _, _ => false)

/-- the netlists of the fragment (decidable): the top definition `T` of `n`
    * nets: distinct names, at least one wire each;
    * ports: named, distinct, each wired pin by pin to the whole net of its own name (same base and width);
    * instances: of definitions of `n` whose ports are named and distinct, every port row non-empty and of reader
      shape (a block of bits of declared nets at the low end, free pins above), parameter keys distinct -/
def fragTop (n : Text.WNet) (T : Text.WDef) : Bool :=
  decide ((T.cables.map (·.name)).Nodup) && T.cables.all (fun c => decide (1 ≤ c.width)) &&
  decide ((T.ports.map (·.name)).Nodup) &&
  T.ports.all (fun p => match p.name with
    | none => false
    | some nm => match T.cables.find? (fun c => c.name == nm) with
      | none => false
      | some c => decide (p.lower = c.lower) && decide (p.width = c.width) &&
          decide (p.pins = (cableBits nm c.lower c.width).items.map some)) &&
  T.insts.all (fun i => match Text.refOf n i.ref with
    | none => false
    | some r => decide ((r.ports.map (·.name)).Nodup) && r.ports.all (fun q => q.name.isSome) &&
        decide (((i.params.getD []).map (·.1)).Nodup) &&
        (List.range r.ports.length).all (fun k => !(i.pins.getD k []).isEmpty && readerShape (Text.envOf T) (i.pins.getD k [])))

/-- the fragment, clause by clause -/
structure FragTop (n : Text.WNet) (T : Text.WDef) : Prop where
  netNames : (T.cables.map (·.name)).Nodup
  netWidth : ∀ c ∈ T.cables, 1 ≤ c.width
  portNames : (T.ports.map (·.name)).Nodup
  ports : ∀ p ∈ T.ports, ∀ nm, p.name = some nm → ∀ c, T.cables.find? (fun c => c.name == nm) = some c →
    p.lower = c.lower ∧ p.width = c.width ∧ p.pins = (cableBits nm c.lower c.width).items.map some
  insts : ∀ i ∈ T.insts, ∀ r, Text.refOf n i.ref = some r → (r.ports.map (·.name)).Nodup ∧
    ((i.params.getD []).map (·.1)).Nodup ∧
    ∀ k, k < r.ports.length → i.pins.getD k [] ≠ [] ∧ ReaderShape (Text.envOf T) (i.pins.getD k [])
end Spydr.Verilog.Elab
