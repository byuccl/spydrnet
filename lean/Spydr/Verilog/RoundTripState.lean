/-
  The elaboration state under references that stay inside what is declared (no growth): lookups, updates that
  change nothing, evaluation of expressions.  The driver runs these functions (`exprWires` through the closed-form
  readers) only for the fragment report of `FragmentReport.lean`, on which no verdict depends.
-/
import Spydr.Verilog.LemmasElab
theorem nodup_map_inj {α β} (f : α → β) : ∀ (l : List α), (l.map f).Nodup → ∀ x ∈ l, ∀ y ∈ l, f x = f y → x = y :=
  fun _ h _ hx _ hy e => Spydr.inj_of_nodup_map h hx hy e

namespace Spydr.Verilog.Elab
open Spydr.Verilog

theorem set_getD_self {α} (l : List α) (k : Nat) (a : α) : l.set k (l.getD k a) = l := by
  by_cases h : k < l.length
  · simp [List.getD_eq_getElem?_getD, h]
  · exact List.set_eq_of_length_le (by omega)

theorem getD_set_self {α} (l : List α) (k : Nat) (a b : α) (h : k < l.length) : (l.set k a).getD k b = a := by
  simp [List.getD_eq_getElem?_getD, h]

theorem getD_map {α β : Type} (f : α → β) (l : List α) (k : Nat) (d : α) : (l.map f).getD k (f d) = f (l.getD k d) := by
  simp only [List.getD_eq_getElem?_getD, List.getElem?_map]; cases l[k]? <;> rfl

theorem map_set_getD {α β : Type} (f : α → β) (l : List α) (k : Nat) (d a : α) (h : f a = f (l.getD k d)) :
    (l.set k a).map f = l.map f := by
  rw [List.map_set, h, ← getD_map f l k d, set_getD_self]

def HasCable (d : Def) (name : String) (c : Cable) : Prop :=
  c ∈ d.cables ∧ c.name = name ∧ ∀ x ∈ d.cables, x.name = name → x = c

theorem HasCable.find {d : Def} {n : String} {c : Cable} (h : HasCable d n c) :
    d.cables.find? (fun c => c.name == n) = some c :=
  find?_unique h.1 (by simp [h.2.1]) (fun x hx hp => h.2.2 x hx (by simpa using hp))

theorem fresh_zero (s : St) : fresh s 0 = (s, []) := by
  simp [fresh]

theorem resizeCable_inside (lower : Int) (width : Nat) (l r : Option Int)
    (h : inCable lower width l r = true) : resizeCable lower width l r false = ⟨lower, 0, 0⟩ := by
  unfold resizeCable
  unfold inCable at h
  cases hr : inRange l r with
  | none => rfl
  | some p =>
    obtain ⟨lo, hi⟩ := p
    simp only [hr, Bool.and_eq_true, decide_eq_true_eq] at h
    simp only [Bool.false_eq_true, if_false]
    have h1 : ¬ lo < lower := by omega
    have h2 : ¬ hi > lower + (width : Int) - 1 := by omega
    simp [h1, h2]

theorem createOrUpdateCable_inside (s : St) (dn name : String) (l r : Option Int) (d : Def) (c : Cable)
    (hd : Has s dn d) (hc : HasCable d name c) (hin : inCable c.lower c.wires.length l r = true) :
    createOrUpdateCable s dn name l r none false = .ok s := by
  rw [createOrUpdateCable_eq hd]
  simp only [cableUpd, hc.find, resizeCable_inside _ _ _ _ hin]
  have hC : ({ c with lower := c.lower, wires := ids s.next 0 ++ c.wires ++ ids (s.next + 0) 0,
                         ctype := (none : Option String).or c.ctype } : Cable) = c := by
    simp [ids]
  rw [hC, show setCable name c d = d by
    unfold setCable; rw [map_id_of_mem fun x hx => by
      by_cases e : x.name = name
      · simp [hc.2.2 x hx e]
      · simp [e]]]
  exact congrArg Except.ok (St.put_self s dn d hd)

theorem evalAtomE_inside (s : St) (dn : String) (a : XAtom) (d : Def) (c : Cable)
    (hd : Has s dn d) (hc : HasCable d (atomParts a).1 c)
    (hin : inCable c.lower c.wires.length (atomParts a).2.1 (atomParts a).2.2 = true) :
    evalAtomE s dn a = (getWires ⟨c.lower, c.wires⟩ (atomParts a).2.1 (atomParts a).2.2).elim (.error "index") (fun ws => .ok (s, ws)) := by
  unfold evalAtomE
  generalize hp : atomParts a = p at hc hin ⊢
  obtain ⟨n, l, r⟩ := p
  simp only at hc hin ⊢
  simp only [bind, Except.bind, createOrUpdateCable_inside s dn n l r d c hd hc hin, getDef_has hd, hc.find]
  cases getWires ⟨c.lower, c.wires⟩ l r <;> rfl

theorem hasCable_of_find {d : Def} {n : String} {c : Cable} (hn : (d.cables.map (·.name)).Nodup)
    (hf : d.cables.find? (fun c => c.name == n) = some c) : HasCable d n c := by
  have h1 := List.mem_of_find?_eq_some hf
  have h2 : c.name = n := find_name hf
  refine ⟨h1, h2, ?_⟩
  intro x hx hxn
  exact nodup_map_inj (·.name) d.cables hn x hx c h1 (by rw [hxn, h2])

/-- the wires an atom denotes in a definition whose cables already contain it (no growth) -/
def atomWires (d : Def) (a : XAtom) : Option (List Nat) :=
  match d.cables.find? (fun c => c.name == (atomParts a).1) with
  | some c =>
    if inCable c.lower c.wires.length (atomParts a).2.1 (atomParts a).2.2 then
      getWires ⟨c.lower, c.wires⟩ (atomParts a).2.1 (atomParts a).2.2
    else none
  | none => none

def atomsWires (d : Def) : List XAtom → Option (List Nat)
  | [] => some []
  | a :: as =>
    match atomWires d a, atomsWires d as with
    | some x, some y => some (x ++ y)
    | _, _ => none

def exprWires (d : Def) : XExpr → Option (List Nat)
  | .empty => some []
  | .atom a => atomWires d a
  | .cat as => atomsWires d as

theorem atomsWires_cons_some {d : Def} {a : XAtom} {as : List XAtom} {ws : List Nat}
    (h : atomsWires d (a :: as) = some ws) :
    ∃ x y, atomWires d a = some x ∧ atomsWires d as = some y ∧ ws = x ++ y := by
  unfold atomsWires at h
  cases h1 : atomWires d a with
  | none => simp [h1] at h
  | some x =>
    cases h2 : atomsWires d as with
    | none => simp [h1, h2] at h
    | some y => exact ⟨x, y, rfl, rfl, by simpa [h1, h2] using h.symm⟩

theorem evalAtomE_fixed (s : St) (dn : String) (a : XAtom) (d : Def) (ws : List Nat)
    (hd : Has s dn d) (hn : (d.cables.map (·.name)).Nodup) (h : atomWires d a = some ws) :
    evalAtomE s dn a = .ok (s, ws) := by
  unfold atomWires at h
  cases hf : d.cables.find? (fun c => c.name == (atomParts a).1) with
  | none => simp [hf] at h
  | some c =>
    simp only [hf] at h
    split at h
    · rename_i hin
      rw [evalAtomE_inside s dn a d c hd (hasCable_of_find hn hf) hin, h]
      rfl
    · cases h

theorem evalAtomsE_fixed (s : St) (dn : String) (as : List XAtom) (d : Def)
    (hd : Has s dn d) (hn : (d.cables.map (·.name)).Nodup) :
    ∀ ws, atomsWires d as = some ws → evalAtomsE s dn as = .ok (s, ws) := by
  induction as with
  | nil => intro ws h; cases h; rfl
  | cons a as ih =>
    intro ws h
    obtain ⟨x, y, h1, h2, rfl⟩ := atomsWires_cons_some h
    simp only [evalAtomsE, bind, Except.bind, evalAtomE_fixed s dn a d x hd hn h1, ih y h2, pure, Except.pure]

theorem evalExprE_fixed (s : St) (dn : String) (e : XExpr) (d : Def) (ws : List Nat)
    (hd : Has s dn d) (hn : (d.cables.map (·.name)).Nodup) (h : exprWires d e = some ws) :
    evalExprE s dn e = .ok (s, ws) := by
  cases e with
  | empty => simp [exprWires] at h; subst h; rfl
  | atom a => exact evalAtomE_fixed s dn a d ws hd hn h
  | cat as => exact evalAtomsE_fixed s dn as d hd hn ws h
end Spydr.Verilog.Elab
