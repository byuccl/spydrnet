/-
  From the writer's netlist to the syntax it prints (`astOf`), what the fragment predicate `fragTop` says clause by clause
  (`fragTop_spec`), and the nets part of the view equality (`cables_view`).
-/
import Spydr.Verilog.RoundTripTrack
import Spydr.Verilog.ModelText
namespace Spydr.Verilog.Elab
open Spydr.Verilog

theorem mapM_index {α β : Type} (f : α → Option β) : ∀ (l : List α) (r : List β), l.mapM f = some r →
    r.length = l.length ∧ ∀ k (hk : k < l.length) (hk' : k < r.length), f l[k] = some r[k] := by
  intro l r h
  have hm := mapM_eq_some.mp h
  refine ⟨by simpa using (congrArg List.length hm).symm, fun k hk hk' => ?_⟩
  simpa [hk, hk'] using congrArg (·[k]?) hm

theorem validBit_sound (env : CableEnv) (b : Bit) (h : validBit env b = true) : ValidBit env b := by
  unfold validBit at h
  split at h
  · cases h
  · rename_i lo w he
    simp only [Bool.and_eq_true, decide_eq_true_eq] at h
    exact ⟨lo, w, he, h⟩

theorem readerShape_sound (env : CableEnv) : ∀ (pins : List (Option Bit)), readerShape env pins = true → ReaderShape env pins := by
  intro pins h
  fun_induction readerShape env pins with
  | case1 => exact ⟨[], 0, rfl, fun b hb => nomatch hb⟩
  | case2 ps =>
    have hps : ps = List.replicate ps.length none :=
      List.eq_replicate_iff.mpr ⟨rfl, fun b hb => by simpa using List.all_eq_true.mp h b hb⟩
    exact ⟨[], ps.length + 1, by simp [List.replicate_succ, ← hps], fun b hb => nomatch hb⟩
  | case3 b ps ih =>
    rw [Bool.and_eq_true] at h
    obtain ⟨blk, m, e, hv⟩ := ih h.2
    exact ⟨b :: blk, m, by simp [e], List.forall_mem_cons.mpr ⟨validBit_sound env b h.1, hv⟩⟩

theorem connectedBlock_low {β : Type} (blk : List β) (m : Nat) :
    connectedBlock (blk.map some ++ List.replicate m none) = blk := by
  induction blk with
  | nil => cases m <;> simp [connectedBlock, List.replicate_succ]
  | cons b bs ih => simp [connectedBlock, ih]

theorem fragTop_spec {n : Text.WNet} {T : Text.WDef} (h : fragTop n T = true) : FragTop n T := by
  simp only [fragTop, Bool.and_eq_true, decide_eq_true_eq, List.all_eq_true] at h
  obtain ⟨⟨⟨⟨F1, F1w⟩, F2n⟩, F2⟩, F3⟩ := h
  refine ⟨F1, fun c hc => by simpa using F1w c hc, F2n, fun p hp nm hn c hc => ?_, fun i hi r hr => ?_⟩
  · simpa [hn, hc, and_assoc] using F2 p hp
  · have := F3 i hi
    simp only [hr, Bool.and_eq_true, decide_eq_true_eq, List.all_eq_true, List.mem_range, Bool.not_eq_eq_eq_not,
      Bool.not_true] at this
    obtain ⟨⟨⟨g1, _⟩, g3⟩, g4⟩ := this
    refine ⟨g1, g3, fun k hk => ?_⟩
    obtain ⟨a, b⟩ := g4 k hk
    exact ⟨by intro e; rw [e] at a; simp at a, readerShape_sound _ _ b⟩

theorem mergeP_go (ps : Params) : ∀ (acc : Params), ((acc ++ ps).map (·.1)).Nodup →
    ps.foldl (fun acc kv => if acc.any (fun x => x.1 == kv.1) then acc else acc ++ [kv]) acc = acc ++ ps := by
  induction ps with
  | nil => intro acc _; simp
  | cons kv ps ih =>
    intro acc hn
    have hnot : acc.any (fun x => x.1 == kv.1) = false := by
      rw [List.map_append, List.map_cons, List.nodup_append] at hn
      simpa using fun a b (hx : (a, b) ∈ acc) => hn.2.2 a (List.mem_map.mpr ⟨_, hx, rfl⟩) kv.1 List.mem_cons_self
    rw [List.foldl_cons, hnot, if_neg Bool.false_ne_true, ih _ (by simpa using hn), List.append_assoc]
    rfl

theorem mergeP_nodup (ps : Params) (h : (ps.map (·.1)).Nodup) : mergeP ps = ps := by
  simpa [mergeP] using mergeP_go ps [] (by simpa using h)

theorem stub_declRange (lower : Int) (width : Nat) (hw : 1 ≤ width) :
    stubLo (emitDeclRange lower width) = lower ∧ 1 + stubExtra (emitDeclRange lower width) = width ∧
    rngOK (emitDeclRange lower width) := by
  unfold emitDeclRange
  split
  · rename_i h; simp [stubLo, stubExtra, rngOK, h.1, h.2]
  · refine ⟨rfl, ?_, ?_⟩
    · show 1 + (lower + ↑width - 1 - lower).toNat = width; omega
    · show lower ≤ lower + ↑width - 1; omega

theorem shapeOf_stub (rng : Option (Int × Int)) (h : rngOK rng) :
    (shapeOf rng).1 = stubLo rng ∧ (shapeOf rng).2.1 = 1 + stubExtra rng := by
  cases rng with
  | none => exact ⟨rfl, rfl⟩
  | some p =>
    have hab : p.2 ≤ p.1 := h
    simp only [shapeOf, rngL, rngR, Option.map_some, populateNew, stubLo, stubExtra]
    omega

/-- `_write_module_header` + `_write_module_body_ports` for one port: a plain name in the header, then
    `dir [msb:lsb] name ;` with the range of the net of that name -/
def astPort (T : Text.WDef) (p : Text.WPort) : Option PDecl :=
  match p.name with
  | none => none
  | some nm =>
    match T.cables.find? (fun c => c.name == nm), dirOfS p.dir with
    | some c, some dir =>
      if emitHeaderPort (Text.envOf T) nm p.pins = some none then
        some ⟨nm, dir, emitDeclRange c.lower c.width, p.attrs.getD []⟩
      else none
    | _, _ => none

/-- `_write_module_body_cables` for one net -/
def astWire (c : Text.WCable) : FWire := ⟨c.name, c.ctype.getD "wire", emitDeclRange c.lower c.width, c.attrs.getD []⟩

/-- `_write_module_body_instances` for one instance: every port of the referenced definition, in order, with the
    expression `_write_instance_port` chooses -/
def astInst (n : Text.WNet) (T : Text.WDef) (i : Text.WInst) : Option PInst :=
  match Text.refOf n i.ref with
  | none => none
  | some r =>
    ((List.range r.ports.length).mapM (fun k =>
      match (r.ports.getD k default).name, emitPortExpr (Text.envOf T) (i.pins.getD k []) with
      | some pn, some pe => some (pn, pe)
      | _, _ => none)).map (fun conns => ⟨i.name, i.ref, i.params.getD [], i.attrs.getD [], conns⟩)

def astOf (n : Text.WNet) (T : Text.WDef) : Option WModP :=
  match T.ports.mapM (astPort T), T.insts.mapM (astInst n T) with
  | some ports, some insts => some ⟨T.name, T.attrs.getD [], ports, T.cables.reverse.map astWire, insts⟩
  | _, _ => none

theorem astPort_spec (T : Text.WDef) (p : Text.WPort) (mp : PDecl) (h : astPort T p = some mp) :
    ∃ nm c dir, p.name = some nm ∧ T.cables.find? (fun c => c.name == nm) = some c ∧ dirOfS p.dir = some dir ∧
      mp = ⟨nm, dir, emitDeclRange c.lower c.width, p.attrs.getD []⟩ := by
  unfold astPort at h
  split at h
  · cases h
  · rename_i nm hn
    split at h
    · rename_i c dir hc hd
      split at h
      · simp only [Option.some.injEq] at h
        exact ⟨nm, c, dir, hn, hc, hd, h.symm⟩
      · cases h
    · cases h

theorem astPorts_names (T : Text.WDef) {ps : List Text.WPort} (ports : List PDecl) (hports : ps.mapM (astPort T) = some ports) :
    (ports.map (·.name)).map some = ps.map (·.name) := by
  obtain ⟨hplen, hpidx⟩ := mapM_index _ _ _ hports
  apply List.ext_getElem (by simp [hplen])
  intro k g1 g2
  simp only [List.length_map] at g1 g2
  simp only [List.getElem_map]
  obtain ⟨nm, c, dir, hn, _, _, e⟩ := astPort_spec T _ _ (hpidx k g2 g1)
  rw [e, hn]

theorem astPorts_nodup (T : Text.WDef) {ps : List Text.WPort} (ports : List PDecl) (hports : ps.mapM (astPort T) = some ports)
    (hn : (ps.map (·.name)).Nodup) : (ports.map (·.name)).Nodup := by
  rw [← astPorts_names T ports hports] at hn
  exact (List.pairwise_map.mp hn).imp (fun h e => h (congrArg some e))

theorem astOf_eq {n : Text.WNet} {T : Text.WDef} {m : WModP} (hm : astOf n T = some m) :
    ∃ ports insts, T.ports.mapM (astPort T) = some ports ∧ T.insts.mapM (astInst n T) = some insts ∧
      m = ⟨T.name, T.attrs.getD [], ports, T.cables.reverse.map astWire, insts⟩ := by
  unfold astOf at hm
  split at hm
  · rename_i ports insts h1 h2
    cases hm
    exact ⟨ports, insts, h1, h2, rfl⟩
  · cases hm

/-- with distinct keys only the one item of key `nm`, wherever it stands, touches the value at `nm` -/
theorem foldl_pointwise_nodup {α V : Type} (key : α → String) (g : α → Option V → Option V)
    (upd : (String → Option V) → α → String → Option V)
    (hupd : ∀ f a nm, upd f a nm = if nm = key a then g a (f nm) else f nm) (nm : String)
    (as bs : List α) (hp : bs.Perm as) (hn : (as.map key).Nodup) (f : String → Option V) :
    (bs.foldl upd f) nm = match as.find? (fun a => key a == nm) with
      | none => f nm
      | some a => g a (f nm) := by
  rw [foldl_pointwise key g upd hupd nm, ← List.head?_filter]
  have hp := hp.filter (fun a => key a == nm)
  rcases filter_key_nodup key nm as hn with ⟨h, _⟩ | ⟨a, _, _, h⟩ <;> rw [h] at hp ⊢
  · rw [List.perm_nil.mp hp]; rfl
  · rw [List.perm_singleton.mp hp]; rfl

theorem cables_view (cs : List Text.WCable) (ports : List PDecl)
    (H1 : (cs.map (·.name)).Nodup) (H2 : ∀ c ∈ cs, 1 ≤ c.width) (H3 : (ports.map (·.name)).Nodup)
    (H4 : ∀ p ∈ ports, ∃ c ∈ cs, c.name = p.name ∧ p.rng = emitDeclRange c.lower c.width) (nm : String) :
    (((cs.reverse.map astWire).foldl updW (ports.foldl updD ((ports.map (·.name)).foldl updS (fun _ => none)))) nm).map normV =
      (cs.find? (fun c => c.name == nm)).map (fun c => (c.lower, c.width, c.ctype.getD "wire", c.attrs.getD [])) := by
  -- after the port phases: nothing, or the stub grown to the declared range
  have hF2 : (ports.foldl updD ((ports.map (·.name)).foldl updS (fun _ => none))) nm =
      (ports.find? (fun p => p.name == nm)).map (fun p => (stubLo p.rng, 1 + stubExtra p.rng, none, none)) := by
    rw [foldl_pointwise_nodup (fun (p : PDecl) => p.name)
        (fun p v => v.map (fun v => (stubLo p.rng, 1 + stubExtra p.rng, v.2.2.1, v.2.2.2))) updD (fun _ _ _ => rfl) nm ports ports .rfl H3,
      foldl_pointwise_nodup (fun (a : String) => a) (fun _ _ => some (0, 1, none, none)) updS (fun _ _ _ => rfl) nm
        (ports.map (·.name)) _ .rfl (by simpa [Function.comp_def] using H3)]
    simp only [List.find?_map, Function.comp_def]
    cases ports.find? (fun p => p.name == nm) <;> rfl
  rw [foldl_pointwise_nodup (fun (w : FWire) => w.name) (fun w v => match v with
      | none => some ((shapeOf w.rng).1, (shapeOf w.rng).2.1, some w.ty, some w.attrs)
      | some v => some (v.1, v.2.1, some w.ty, some w.attrs)) updW (fun _ _ _ => rfl) nm (cs.map astWire) _
    ((List.reverse_perm cs).map astWire) (by rw [List.map_map]; exact H1), hF2]
  simp only [List.find?_map, Function.comp_def, astWire]
  cases hc : cs.find? (fun c => c.name == nm) with
  | none =>
    -- no net of that name: then no port either
    cases hp : ports.find? (fun p => p.name == nm) with
    | none => rfl
    | some p =>
      obtain ⟨c, hcm, hcn, _⟩ := H4 p (List.mem_of_find?_eq_some hp)
      have hpn : p.name = nm := by simpa using List.find?_some hp
      exact absurd (beq_iff_eq.mpr (hcn.trans hpn)) (List.find?_eq_none.mp hc c hcm)
  | some c =>
    have hcm := List.mem_of_find?_eq_some hc
    have hcn : c.name = nm := by simpa using List.find?_some hc
    obtain ⟨s1, s2, ok⟩ := stub_declRange c.lower c.width (H2 c hcm)
    cases hp : ports.find? (fun p => p.name == nm) with
    | none =>
      -- a net of its own
      simp [astWire, normV, shapeOf_stub _ ok, s1, s2]
    | some p =>
      -- the net of a port, declared with the range of this net
      obtain ⟨c', hc', hcn', hrng⟩ := H4 p (List.mem_of_find?_eq_some hp)
      have hpn : p.name = nm := by simpa using List.find?_some hp
      obtain rfl : c' = c := nodup_map_inj (·.name) cs H1 c' hc' c hcm (hcn'.trans (hpn.trans hcn.symm))
      simp [astWire, normV, hrng, s1, s2]
end Spydr.Verilog.Elab
