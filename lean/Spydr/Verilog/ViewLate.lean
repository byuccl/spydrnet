/-
  What the definition of a work module declared late shows: it satisfies the four facts of `LateFacts`, so by `view_core`
  it shows, with the instances folded in and the attributes set, the view of its definition in the netlist.  With assigns the
  view is `viewTA` (assignment instances first), and the module parameters come back as written.
-/
import Spydr.Verilog.LateFacts
import Spydr.Verilog.LateAssign
namespace Spydr.Verilog.Elab
open Spydr.Verilog

theorem pv_names (d : Def) (ports : List PDecl) (h : d.ports.map pv = ports.map declV) :
    d.ports.map (·.name) = (ports.map (·.name)).map some := by
  have := congrArg (List.map (fun (x : PV) => x.1)) h
  simp only [List.map_map, pv, declV, Function.comp_def] at this
  rw [this, List.map_map]; rfl

theorem foldDeclA_bound (ps : List PDecl) (d : Def) (n : Nat) (d' : Def) (n' : Nat) (ops : List (Nat × Nat))
    (h : foldDeclA d n ps = some (d', n', ops)) : ∀ op ∈ ops, op.1 < d.ports.length :=
  (foldDeclA_frame ps d n d' n' ops h).2.2.2.2.2.2

theorem leafInv_pad (n : Text.WNet) (ls : List Def) (nm : String) (ops : List (Nat × Nat)) (hl : LeafInv n ls) :
    LeafInv n (ls.map (fun x => padOpsD x nm ops)) := by
  intro x hx
  obtain ⟨y, hy, e⟩ := List.mem_map.mp hx
  rw [← e]
  exact hl y hy

theorem late_ops_bound (L1 : Def) (nn : Nat) (ports : List PDecl) (d1 : Def) (n1 : Nat) (d2 : Def) (n2 : Nat)
    (ops : List (Nat × Nat)) (h1 : foldLocal hdrStepL L1 nn (ports.map (·.name)) = some (d1, n1))
    (h2 : foldDeclA d1 n1 ports = some (d2, n2, ops)) : ∀ op ∈ ops, op.1 < L1.ports.length := by
  have hlen := congrArg List.length (foldLocal_pres (fun d => d.ports.map (·.name)) hdrStepL hdrStepL_names _ _ _ _ _ h1)
  simp only [List.length_map] at hlen
  intro op hop
  rw [← hlen]; exact foldDeclA_bound ports d1 n1 d2 n2 ops h2 op hop

/-- **buildLateW_view.**  The definition `buildLateW` ends with for a work module `W` of the netlist (its written syntax
    `astOf n W`) shows the view of `W`. -/
theorem buildLateW_view (n : Text.WNet) (W : Text.WDef) (mW : WModP) (L : Def) (ls : List Def) (nn : Nat) (t : String)
    (D : Def) (ls' : List Def) (n' : Nat) (ops : List (Nat × Nat))
    (hfrag : fragTop n W = true) (hm : astOf n W = some mW) (hstub : StubOK L) (hl : LeafInv n ls)
    (hb : buildLateW L ls nn mW.toI t = some (D, ls', n', ops)) :
    viewD D = viewT n W ∧ D.lib = some "work" ∧ D.name = L.name ∧ LeafInv n ls' ∧
      (∃ new, ls' = ls.map (fun x => padOpsD x W.name ops) ++ new ∧ ∀ x ∈ new, StubOK x ∧ x.lib = none) ∧
      (∀ op ∈ ops, op.1 < L.ports.length) ∧ D.ports.map (·.name) = W.ports.map (·.name) ∧
      D.ports.map (·.name) = L.ports.map (·.name) := by
  obtain ⟨ports, insts, hports, hinsts, rfl⟩ := astOf_eq hm
  obtain ⟨⟨hlib, hi, hnames, hnd, _⟩, d1, n1, d2, n2, d3, d4, h1, h2, h3, _, h4, rfl⟩ := buildLateW_some _ _ _ _ _ _ _ _ _ hb
  simp only [WModP.toI] at hnames hnd h1 h2 h3 h4 ⊢
  obtain ⟨hLc, _, hLa, hLp⟩ := hstub hlib
  generalize hL1 : ({ L with lib := some "work" } : Def) = L1 at h1
  generalize hws : W.cables.reverse.map astWire = wires at h3
  have hf := late_facts L1 nn ports wires d1 d2 d3 n1 n2 n' ops (by rw [← hL1]; exact hLc) (by rw [← hL1]; exact hnames)
    hnd (by rw [← hL1]; exact hLp) h1 h2 h3
  obtain ⟨f1, f2, f3, f4, f5, f6, f7, f8⟩ := hf
  rw [← hws] at f4
  have hlpad : LeafInv n (ls.map (fun x => padOpsD x W.name ops)) := leafInv_pad n ls W.name ops hl
  obtain ⟨v1, v2, v3, v4⟩ := view_core n W ports insts d3 d4 _ ls' n' hfrag hports hinsts f1 f2 f3 f4
    (by rw [f5, ← hL1]; exact hi) (by rw [f6, ← hL1]; exact hLa) hlpad h4
  have hlib4 : d4.lib = some "work" := by rw [foldInst_lib _ d3 _ d4 ls' h4, f7, ← hL1]
  have hname4 : d4.name = L.name := by rw [foldInst_name _ d3 _ d4 ls' h4, f8, ← hL1]
  have hnm4 : (withAttrs (W.attrs.getD []) d4).ports.map (·.name) = (ports.map (·.name)).map some := by
    rw [withAttrs_ports, v3]; exact pv_names d3 ports f1
  exact ⟨v1, by rw [withAttrs_lib, hlib4], by rw [withAttrs_name, hname4], v2, foldInst_new _ d3 _ d4 ls' h4,
    by rw [show L.ports = L1.ports by rw [← hL1]]; exact late_ops_bound L1 nn ports d1 n1 d2 n2 ops h1 h2,
    by rw [hnm4, astPorts_names W ports hports],
    by rw [hnm4, hnames]⟩

theorem hdrStepL_params (d : Def) (n : Nat) (a : String) (d' : Def) (n' : Nat) (h : hdrStepL d n a = some (d', n')) :
    d'.params = d.params :=
  (hdrStepL_frame d n a d' n' h).2.2.1

theorem foldDeclA_params (ps : List PDecl) (d : Def) (n : Nat) (d' : Def) (n' : Nat) (ops : List (Nat × Nat))
    (h : foldDeclA d n ps = some (d', n', ops)) : d'.params = d.params :=
  (foldDeclA_frame ps d n d' n' ops h).2.2.2.2.1

theorem asgStepR_frame (d : Def) (ac : Nat) (known : List Def) (a : XAtom × XAtom) (d' : Def) (new : List Def)
    (h : asgStepR d ac known a = some (d', new)) : d'.name = d.name ∧ d'.lib = d.lib ∧ d'.params = d.params := by
  obtain ⟨_, _, _, _, _, _, _, _, rfl, _⟩ := asgStepR_eq h
  exact ⟨rfl, rfl, rfl⟩

theorem foldAsg_params : ∀ (as : List (XAtom × XAtom)) (d : Def) (ac : Nat) (known : List Def) (d' : Def) (ac' : Nat)
    (known' : List Def), foldAsg d ac known as = some (d', ac', known') → d'.params = d.params :=
  foldAsg_pres (·.params) fun d ac known a d' new h => (asgStepR_frame d ac known a d' new h).2.2

theorem withAttrs_params (a : Attrs) (d : Def) : (withAttrs a d).params = d.params := by
  unfold withAttrs; split <;> rfl

theorem padOpsD_params (x : Def) (dn : String) (ops : List (Nat × Nat)) : (padOpsD x dn ops).params = x.params := by
  rfl

/-- the fragment, one assignment instance (the `k`-th of its module): its definition has the ports `i`, `o` in this order,
    no parameters and attributes on the instance, the two sides read back give the pins (a computed clause: one run of
    `readAssign`; `assign_regen` proves it for blocks of bits), and the names are the ones the reader generates -/
def asgOK (n : Text.WNet) (T : Text.WDef) (k : Nat) (i : Text.WInst) : Bool :=
  match Text.refOf n i.ref, astAsg n T i with
  | some r, some lr =>
    decide (r.ports.map (·.name) = [some "i", some "o"]) && (i.params.getD []).isEmpty && (i.attrs.getD []).isEmpty &&
    decide (readAssign (Text.envOf T) lr.1 lr.2 = some (i.pins.getD 1 [], i.pins.getD 0 [])) &&
    i.ref == assignDefName (i.pins.getD 1 []).length &&
    i.name == assignDefName (i.pins.getD 1 []).length ++ "_" ++ toString k
  | _, _ => false

def asgsOK (n : Text.WNet) (T : Text.WDef) : Nat → List Text.WInst → Bool
  | _, [] => true
  | k, i :: is => asgOK n T k i && asgsOK n T (k + 1) is

theorem asg_view_step (n : Text.WNet) (T : Text.WDef) (d : Def) (ac : Nat) (known : List Def) (i : Text.WInst)
    (lr : Atom × Atom) (d' : Def) (new : List Def) (hw : WInv d) (henv : envOf d = Text.envOf T)
    (ha : astAsg n T i = some lr) (hok : asgOK n T ac i = true) (hl : LeafInv n known)
    (hs : asgStepR d ac known (toX lr.1, toX lr.2) = some (d', new)) :
    ∃ inst, d'.insts = d.insts ++ [inst] ∧ d'.cables = d.cables ∧ d'.ports = d.ports ∧ d'.name = d.name ∧
      d'.attrs = d.attrs ∧ d'.lib = d.lib ∧ instViewD d inst = instViewT n i ∧ LeafInv n (known ++ new) := by
  unfold asgOK at hok
  cases hr : Text.refOf n i.ref with
  | none => simp [hr] at hok
  | some r =>
    simp only [hr, ha, Bool.and_eq_true, decide_eq_true_eq, List.isEmpty_iff, beq_iff_eq] at hok
    obtain ⟨⟨⟨⟨⟨o1, o2⟩, o3⟩, o4⟩, o5⟩, o6⟩ := hok
    obtain ⟨lw, rw, w, hlw, hrw, hwv, _, _, rfl, hnew⟩ := asgStepR_eq hs
    obtain ⟨lbs, el, ml⟩ := atomWires_bits d hw lr.1 lw hlw
    obtain ⟨rbs, er, mr⟩ := atomWires_bits d hw lr.2 rw hrw
    rw [henv] at el er
    have hll : lw.length = lbs.length := by have := congrArg List.length ml; simpa using this
    have hrl : rw.length = rbs.length := by have := congrArg List.length mr; simpa using this
    have o4' : connectAssign lbs rbs = (i.pins.getD 1 [], i.pins.getD 0 []) := by
      unfold readAssign at o4
      rw [el, er] at o4
      exact Option.some.inj o4
    have p1 : (connectAssign lbs rbs).1 = i.pins.getD 1 [] := by rw [o4']
    have p0 : (connectAssign lbs rbs).2 = i.pins.getD 0 [] := by rw [o4']
    have hwd : (i.pins.getD 1 []).length = w := by
      rw [hwv, ← p1, hll, hrl]; unfold connectAssign; simp
    have hrows : pinBits d (connectAssign lw rw).2 = i.pins.getD 0 [] ∧ pinBits d (connectAssign lw rw).1 = i.pins.getD 1 [] := by
      rw [← p0, ← p1]
      unfold connectAssign
      simp only [pinBits_some, hll, hrl]
      constructor
      · rw [List.map_take, List.map_reverse, mr, ← List.map_reverse, List.map_take]
      · rw [List.map_take, List.map_reverse, ml, ← List.map_reverse, List.map_take]
    have hview : instViewD d ⟨assignDefName w ++ "_" ++ toString ac, assignDefName w, [], none,
        [(connectAssign lw rw).2, (connectAssign lw rw).1]⟩ = instViewT n i := by
      unfold instViewD instViewT
      have hlen : r.ports.length = 2 := by have := congrArg List.length o1; simpa using this
      simp only [hr, Option.map_some, Option.getD_some, hlen, o2, o3, List.map_cons, List.map_nil, hrows.1, hrows.2,
        Option.getD_none]
      rw [o5, o6, hwd]
      rfl
    refine ⟨_, rfl, rfl, rfl, rfl, rfl, rfl, hview, ?_⟩
    rcases hnew with ⟨_, _, _, _, rfl⟩ | ⟨_, rfl⟩
    · rw [List.append_nil]; exact hl
    · intro L hL
      rcases List.mem_append.mp hL with h | h
      · exact hl L h
      · rw [List.mem_singleton.mp h]
        exact ⟨r, by show Text.refOf n (assignDefName w) = some r; rw [← hwd, ← o5]; exact hr, by rw [o1]; rfl⟩

theorem WInv_cables (d d' : Def) (h : d'.cables = d.cables) (hw : WInv d) : WInv d' := by
  unfold WInv at hw ⊢; rw [h]; exact hw

/-- **asgs_view.**  The assigns of a module, folded in: the new instances show the views of the assignment instances of
    the netlist, in order; the assignment definitions that enter the table are known to the netlist. -/
theorem asgs_view (n : Text.WNet) (T : Text.WDef) : ∀ (is : List Text.WInst) (as : List (Atom × Atom)) (k0 : Nat) (d : Def)
    (known : List Def) (d' : Def) (ac' : Nat) (known' : List Def),
    is.mapM (astAsg n T) = some as →
    foldAsg d k0 known (as.map (fun lr => (toX lr.1, toX lr.2))) = some (d', ac', known') →
    WInv d → envOf d = Text.envOf T → asgsOK n T k0 is = true → LeafInv n known →
    d'.insts.map (instViewD d) = d.insts.map (instViewD d) ++ is.map (instViewT n) ∧ d'.cables = d.cables ∧
      d'.ports = d.ports ∧ d'.name = d.name ∧ d'.attrs = d.attrs ∧ d'.lib = d.lib ∧ LeafInv n known' := by
  intro is
  induction is with
  | nil =>
    intro as k0 d known d' ac' known' hm hf _ _ _ hl
    simp only [List.mapM_nil, pure, Option.some.injEq] at hm
    subst hm
    simp only [List.map_nil, foldAsg, Option.some.injEq, Prod.mk.injEq] at hf
    obtain ⟨e1, _, e3⟩ := hf
    subst e1 e3
    exact ⟨by simp, rfl, rfl, rfl, rfl, rfl, hl⟩
  | cons i is ih =>
    intro as k0 d known d' ac' known' hm hf hw henv hok hl
    rw [List.mapM_cons] at hm
    cases ha : astAsg n T i with
    | none => simp [ha] at hm
    | some lr =>
      cases hr : is.mapM (astAsg n T) with
      | none => simp [ha, hr] at hm
      | some as' =>
        simp only [ha, hr, Option.bind_eq_bind, Option.bind_some, pure, Option.some.injEq] at hm
        subst hm
        simp only [asgsOK, Bool.and_eq_true] at hok
        simp only [List.map_cons] at hf
        obtain ⟨d1, new1, hs, hf⟩ := foldAsg_cons hf
        obtain ⟨inst, g1, g2, g3, g4, g5, g6, g7, g8⟩ := asg_view_step n T d k0 known i lr d1 new1 hw henv ha hok.1 hl hs
        obtain ⟨f1, f2, f3, f4, f5, f6, f7⟩ := ih as' (k0 + 1) d1 (known ++ new1) d' ac' known' hr hf
          (WInv_cables d d1 g2 hw) (by rw [envOf_cables d d1 g2]; exact henv) hok.2 g8
        refine ⟨?_, f2.trans g2, f3.trans g3, f4.trans g4, f5.trans g5, f6.trans g6, f7⟩
        rw [instViewD_cables d d1 g2] at f1
        rw [f1, g1]
        simp only [List.map_append, List.map_cons, List.map_nil, List.append_assoc, List.cons_append, List.nil_append, g7]

/-- the view the re-read definition is compared with: as `viewT`, but the assignment instances come first (the writer
    prints the assigns of a module before its instances, whatever their order in the netlist) -/
def viewTA (n : Text.WNet) (T : Text.WDef) : DefView :=
  { viewT n T with insts := (asgI n T ++ ordI n T).map (instViewT n) }

theorem view_coreA (n : Text.WNet) (T : Text.WDef) (ports : List PDecl) (insts : List PInst) (as : List (Atom × Atom))
    (d3 d3a d4 : Def) (ls lsa ls4 : List Def) (n3 aca : Nat) (hfrag : fragTop n T = true)
    (hports : T.ports.mapM (astPort T) = some ports) (hinsts : (ordI n T).mapM (astInst n T) = some insts)
    (hasg : (asgI n T).mapM (astAsg n T) = some as) (hok : asgsOK n T 0 (asgI n T) = true)
    (hpv : d3.ports.map pv = ports.map declV) (hPC : PC d3) (hWF : WF d3 n3)
    (hcabE : cabOf d3 = (T.cables.reverse.map astWire).foldl updW (ports.foldl updD ((ports.map (·.name)).foldl updS (fun _ => none))))
    (hi3 : d3.insts = []) (ha3 : d3.attrs = none) (hl : LeafInv n ls)
    (ha : foldAsg d3 0 ls (as.map (fun lr => (toX lr.1, toX lr.2))) = some (d3a, aca, lsa))
    (h4 : foldInst d3a lsa (insts.map PInst.toN) = some (d4, ls4)) :
    viewD (withAttrs (T.attrs.getD []) d4) = viewTA n T ∧ LeafInv n ls4 ∧ d4.ports = d3.ports ∧ d4.cables = d3.cables := by
  obtain ⟨hcab, hportsV, henv⟩ := decl_view n T ports d3 n3 hfrag hports hpv hPC hWF hcabE
  obtain ⟨z1, z2, z3, _, z5, _, z7⟩ := asgs_view n T (asgI n T) as 0 d3 ls d3a aca lsa hasg ha hWF.1 henv hok hl
  obtain ⟨k1, _, k3⟩ := insts_view n T (ordI n T) insts d3a lsa d4 ls4 hinsts h4 (WInv_cables d3 d3a z2 hWF.1)
    (by rw [envOf_cables d3 d3a z2]; exact henv) (fun i hi => (fragTop_spec hfrag).insts i (List.mem_filter.mp hi).1) z7
  obtain ⟨q1, q2, q3⟩ := foldInst_frame _ d3a lsa d4 ls4 h4
  rw [instViewD_cables d3 d3a z2, z1, hi3, List.map_nil, List.nil_append, ← List.map_append] at k1
  exact ⟨view_of_decl n T d3 d4 _ hcab hportsV ha3 (q1.trans z3) (q2.trans z2) (q3.trans z5) k1, k3, q1.trans z3, q2.trans z2⟩

theorem foldAsg_new : ∀ (as : List (XAtom × XAtom)) (d : Def) (ac : Nat) (known : List Def) (d' : Def) (ac' : Nat)
    (known' : List Def), foldAsg d ac known as = some (d', ac', known') →
    ∃ new, known' = known ++ new ∧ ∀ x ∈ new, x.lib = some "SDN_VERILOG_ASSIGNMENT" := by
  intro as
  induction as with
  | nil =>
    intro d ac known d' ac' known' h
    simp only [foldAsg, Option.some.injEq, Prod.mk.injEq] at h
    exact ⟨[], by rw [← h.2.2]; simp, by intro x hx; cases hx⟩
  | cons a as ih =>
    intro d ac known d' ac' known' h
    obtain ⟨d1, new1, hs, h⟩ := foldAsg_cons h
    obtain ⟨new2, e2, h2⟩ := ih d1 (ac + 1) (known ++ new1) d' ac' known' h
    refine ⟨new1 ++ new2, by rw [e2, List.append_assoc], ?_⟩
    intro x hx
    rcases List.mem_append.mp hx with e | e
    · obtain ⟨_, _, _, _, _, _, _, _, _, ⟨_, _, _, _, rfl⟩ | ⟨_, rfl⟩⟩ := asgStepR_eq hs
      · cases e
      · rw [List.mem_singleton.mp e]; rfl
    · exact h2 x e
theorem foldAsg_frame : ∀ (as : List (XAtom × XAtom)) (d : Def) (ac : Nat) (known : List Def) (d' : Def) (ac' : Nat)
    (known' : List Def), foldAsg d ac known as = some (d', ac', known') → d'.name = d.name ∧ d'.lib = d.lib :=
  fun as d ac known d' ac' known' h =>
    ⟨foldAsg_pres (·.name) (fun d ac known a d' new h => (asgStepR_frame d ac known a d' new h).1) as d ac known d' ac' known' h,
     foldAsg_pres (·.lib) (fun d ac known a d' new h => (asgStepR_frame d ac known a d' new h).2.1) as d ac known d' ac' known' h⟩

theorem foldAsgInst_frame {as : List (XAtom × XAtom)} {is : List NInst} {d3 d3a d4 : Def} {ls lsa ls4 : List Def} {aca : Nat}
    (ha : foldAsg d3 0 ls as = some (d3a, aca, lsa)) (h4 : foldInst d3a lsa is = some (d4, ls4)) :
    d4.name = d3.name ∧ d4.lib = d3.lib ∧ d4.params = d3.params ∧ ∃ new, ls4 = ls ++ new ∧ ∀ x ∈ new, StubOK x := by
  obtain ⟨newA, enA, hnewA⟩ := foldAsg_new _ d3 0 _ d3a aca lsa ha
  obtain ⟨new, en, hnew⟩ := foldInst_new _ d3a _ d4 ls4 h4
  obtain ⟨z4, z6⟩ := foldAsg_frame _ d3 0 _ d3a aca lsa ha
  refine ⟨(foldInst_name _ d3a _ d4 ls4 h4).trans z4, (foldInst_lib _ d3a _ d4 ls4 h4).trans z6,
    (foldInst_params _ d3a _ d4 ls4 h4).trans (foldAsg_params _ d3 0 _ d3a aca lsa ha),
    newA ++ new, by rw [en, enA, List.append_assoc], ?_⟩
  intro x hx
  rcases List.mem_append.mp hx with e | e
  · intro hl'; rw [hnewA x e] at hl'; cases hl'
  · exact (hnew x e).1

/-- **buildLateWA_view.**  The definition `buildLateWA` ends with for a work module `W` of the netlist (its written
    syntax `astOfA n W`) shows the view `viewTA` of `W`. -/
theorem buildLateWA_view (n : Text.WNet) (W : Text.WDef) (mW : WModPA) (L : Def) (ls : List Def) (nn : Nat) (t : String)
    (D : Def) (ls' : List Def) (n' : Nat) (ops : List (Nat × Nat))
    (hfrag : fragTop n W = true) (hok : asgsOK n W 0 (asgI n W) = true) (hm : astOfA n W = some mW) (hstub : StubOK L)
    (hl : LeafInv n ls) (hb : buildLateWA L ls nn mW.toA t = some (D, ls', n', ops)) :
    viewD D = viewTA n W ∧ D.lib = some "work" ∧ D.name = L.name ∧ LeafInv n ls' ∧
      (∃ new, ls' = ls.map (fun x => padOpsD x W.name ops) ++ new ∧ ∀ x ∈ new, StubOK x) ∧
      (∀ op ∈ ops, op.1 < L.ports.length) ∧ D.ports.map (·.name) = W.ports.map (·.name) ∧
      D.ports.map (·.name) = L.ports.map (·.name) ∧ D.params = mergeParams [] mW.params := by
  obtain ⟨ports, insts, as, pars, hports, hinsts, hasg, hpar, rfl⟩ := astOfA_some n W mW hm
  obtain ⟨⟨hlib, hi, hnames, hnd, _, hLpar⟩, d1, n1, d2, n2, d3, d3a, aca, lsa, d4, h1, h2, h3, _, ha, h4, rfl⟩ :=
    buildLateWA_some _ _ _ _ _ _ _ _ _ hb
  simp only [WModPA.toA, WModP.toI] at hnames hnd h1 h2 h3 ha h4 ⊢
  obtain ⟨hLc, _, hLa, hLp⟩ := hstub hlib
  generalize hL1 : entryDef L pars = L1 at h1
  generalize hws : W.cables.reverse.map astWire = wires at h3
  have hf := late_facts L1 nn ports wires d1 d2 d3 n1 n2 n' ops (by rw [← hL1]; exact hLc) (by rw [← hL1]; exact hnames)
    hnd (by rw [← hL1]; exact hLp) h1 h2 h3
  obtain ⟨f1, f2, f3, f4, f5, f6, f7, f8⟩ := hf
  rw [← hws] at f4
  have hlpad : LeafInv n (ls.map (fun x => padOpsD x W.name ops)) := leafInv_pad n ls W.name ops hl
  obtain ⟨v1, v2, v3, v4⟩ := view_coreA n W ports insts as d3 d3a d4 _ lsa ls' n' aca hfrag hports hinsts hasg
    hok f1 f2 f3 f4 (by rw [f5, ← hL1]; exact hi) (by rw [f6, ← hL1]; exact hLa) hlpad ha h4
  obtain ⟨hname4, hlib4, hpar4, hnew⟩ := foldAsgInst_frame ha h4
  have hnm4 : (withAttrs (W.attrs.getD []) d4).ports.map (·.name) = (ports.map (·.name)).map some := by
    rw [withAttrs_ports, v3]; exact pv_names d3 ports f1
  refine ⟨v1, by rw [withAttrs_lib, hlib4, f7, ← hL1]; rfl, by rw [withAttrs_name, hname4, f8, ← hL1]; rfl, v2, hnew,
    by rw [show L.ports = L1.ports by rw [← hL1]; rfl]; exact late_ops_bound L1 nn ports d1 n1 d2 n2 ops h1 h2,
    by rw [hnm4, astPorts_names W ports hports], by rw [hnm4, hnames], ?_⟩
  rw [withAttrs_params, hpar4, foldLocal_pres (·.params) wireStep wireStep_params _ _ _ _ _ h3,
    foldDeclA_params ports d1 n1 d2 n2 ops h2, foldLocal_pres (·.params) hdrStepL hdrStepL_params _ _ _ _ _ h1, ← hL1]
  show mergeParams L.params pars = _
  rw [hLpar]
end Spydr.Verilog.Elab
