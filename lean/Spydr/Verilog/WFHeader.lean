/-
  Verilog engine — header ports, alias ports and the declared order of the ports.
-/
import Spydr.Verilog.WFEval
namespace Spydr.Verilog.Elab
open Spydr.Verilog

theorem headerPort_pres {s s' : St} {dn : String} {h : HPort} (hs : TableWF s) (hh : headerPort s dn h = .ok s') :
    Pres s s' := by
  unfold headerPort at hh
  obtain ⟨s1, h1, hh⟩ := bind_ok hh
  obtain ⟨d, _, hh⟩ := bind_ok hh
  obtain ⟨s2, h2, hh⟩ := bind_ok hh
  have p1 := createOrUpdatePort_pres hs h1
  have p2 := createOrUpdateCable_pres p1.1 h2
  exact (p1.trans p2).trans (connectPortCable_pres p2.1 hh)

theorem headerAlias_pres {s s' : St} {dn : String} {h : HPort} {e : XExpr} (hs : TableWF s)
    (hh : headerAlias s dn h e = .ok s') : Pres s s' := by
  unfold headerAlias at hh
  obtain ⟨⟨s1, ws⟩, h1, hh⟩ := bind_ok hh
  obtain ⟨s2, h2, hh⟩ := bind_ok hh
  obtain ⟨d, h3, hh⟩ := bind_ok hh
  obtain ⟨p1, _, m1⟩ := evalExprE_pres s s1 dn e ws hs h1
  have p2 := createOrUpdatePort_pres p1.1 h2
  have g2 := (createOrUpdatePort_spec s1 s2 dn h.name _ _ _ _ p1.1 h2).2.1
  have hd := getDef_ok p2.1 h3
  refine (p1.trans p2).trans ?_
  split at hh
  · cases hh
  · rename_i k hk
    dsimp only at hh
    split at hh
    · cases hh
    · obtain ⟨pins, hf, hh⟩ := bind_ok hh
      cases hh
      exact .keep (fill_port_wf s2 dn d k ws pins p2.1 hd (portIdx_lt hk)
        (fun v hv => wiresIn_has hd ▸ g2 dn v (m1 v hv)) (setRow_fold_fill ws _ _ _ hf)) (keep_upd fun _ => rfl)

theorem nodup_filterMap_inj {α β : Type} (h : α → Option β) (l : List α) (hn : l.Nodup)
    (hinj : ∀ a ∈ l, ∀ b ∈ l, ∀ x, h a = some x → h b = some x → a = b) : (l.filterMap h).Nodup :=
  List.pairwise_filterMap.mpr (hn.imp_of_mem fun ha hb hne x hx _ hy e => hne (hinj _ ha _ hb x hx (e ▸ hy)))

theorem named_inj (ps : List Port) (h : (ps.filterMap (·.name)).Nodup) (i j : Nat) (hi : i < ps.length) (hj : j < ps.length)
    (x : String) (h1 : (ps.getD i default).name = some x) (h2 : (ps.getD j default).name = some x) : i = j := by
  rw [getD_of_lt _ _ _ hi] at h1
  rw [getD_of_lt _ _ _ hj] at h2
  have hp := List.pairwise_iff_getElem.mp (List.pairwise_filterMap.mp h)
  rcases Nat.lt_trichotomy i j with e | e | e
  · exact absurd rfl (hp i j hi hj e x h1 x h2)
  · exact e
  · exact absurd rfl (hp j i hj hi e x h2 x h1)

theorem eraseDups_len : ∀ (l : List String),
    l.eraseDups.length ≤ l.length ∧ (l.eraseDups.length = l.length → l.Nodup)
  | [] => by simp
  | a :: as => by
    have hf : (as.filter fun b => !b == a).length ≤ as.length := List.length_filter_le _ as
    obtain ⟨h1, h2⟩ := eraseDups_len (as.filter fun b => !b == a)
    rw [List.eraseDups_cons]
    simp only [List.length_cons]
    refine ⟨by omega, fun h => ?_⟩
    have hfe : as.filter (fun b => !b == a) = as :=
      List.filter_eq_self.mpr (List.length_filter_eq_length_iff.mp (by omega))
    rw [hfe] at h h2
    exact List.nodup_cons.mpr ⟨fun hm => by simpa using List.filter_eq_self.mp hfe a hm, h2 (by omega)⟩
termination_by l => l.length
decreasing_by exact Nat.lt_succ_of_le (List.length_filter_le _ as)

theorem default_port_pins : (default : Port).pins = [] := rfl

theorem portIdx_name {d : Def} {n : String} {k : Nat} (h : portIdx d n = some k) :
    (d.ports.getD k default).name = some n := by
  obtain ⟨hk, hp, _⟩ := List.findIdx?_eq_some_iff_getElem.mp h
  rw [getD_of_lt _ _ _ hk]; simpa using hp

/-- the ports of `dn`, and the rows of its instances alike, rearranged by a list of distinct positions -/
theorem permute_ports_wf (s : St) (dn : String) (d : Def) (perm : List Nat) (hs : TableWF s) (hd : Has s dn d)
    (hnd : perm.Nodup) (hlt : ∀ j ∈ perm, j < d.ports.length) :
    TableWF (regrow s dn (fun ps => perm.map (fun i => ps.getD i default))
      (fun pins => perm.map (fun j => (pins ++ List.replicate (d.ports.length - pins.length) []).getD j []))) := by
  apply regrow_wf s dn d _ _ hs hd
  · intro pins hp
    have hlen : d.ports.length - pins.length = 0 := by
      have := congrArg List.length hp; simp at this; omega
    simp only [List.map_map, hlen, List.replicate_zero, List.append_nil]
    exact List.map_congr_left fun j _ => getD_width hp j
  · intro pins row' hr w hw
    obtain ⟨j, _, rfl⟩ := List.mem_map.mp hr
    exact pad_getD_mem hw
  · rw [List.filterMap_map]
    refine nodup_filterMap_inj _ perm hnd fun a ha b hb x h1 h2 => ?_
    exact named_inj d.ports (hs.defs d hd.1).ports a b (hlt a ha) (hlt b hb) x h1 h2
  · intro p hp w hw
    obtain ⟨j, hj, rfl⟩ := List.mem_map.mp hp
    exact ⟨_, getD_mem _ _ _ (hlt j hj), hw⟩

theorem reorderPorts_pres {s s' : St} {dn : String} {names : List String} (hs : TableWF s)
    (h : reorderPorts s dn names = .ok s') : Pres s s' := by
  unfold reorderPorts at h
  obtain ⟨d, hg, h⟩ := bind_ok h
  split at h
  · cases h; exact .refl hs
  · rename_i hcond
    dsimp only at h
    split at h
    · cases h; exact .refl hs
    · simp only [pure, Except.pure, Except.ok.injEq] at h
      rw [h.symm.trans (upd_regrow s dn (fun ps => List.map (fun i => ps.getD i default) _)
        (fun pins => List.map (fun j => (pins ++ List.replicate (d.ports.length - pins.length) []).getD j []) _))]
      refine .keep (permute_ports_wf s dn d _ hs (getDef_ok hs hg) ?_ ?_) (regrow_keep _ _ _ _)
      · -- distinct names have distinct positions; the rest is a part of `range` that avoids them
        refine List.nodup_append.mpr ⟨?_, List.Nodup.sublist List.filter_sublist List.nodup_range, ?_⟩
        · have hnn : names.Nodup := (eraseDups_len names).2 (by
            simp only [Bool.or_eq_true, decide_eq_true_eq, not_or, Bool.not_eq_true] at hcond; simpa using hcond.2)
          exact nodup_filterMap_inj _ names hnn fun a _ b _ k ha hb =>
            Option.some.inj ((portIdx_name ha).symm.trans (portIdx_name hb))
        · intro a ha b hb e
          have := (List.mem_filter.mp hb).2
          rw [← e, List.contains_iff_mem.mpr ha] at this
          cases this
      · intro j hj
        rcases List.mem_append.mp hj with e | e
        · obtain ⟨nm, _, hk⟩ := List.mem_filterMap.mp e
          exact portIdx_lt hk
        · exact List.mem_range.mp (List.mem_filter.mp e).1

theorem reorderPorts_wf (s s' : St) (dn : String) (names : List String) (hs : TableWF s)
    (h : reorderPorts s dn names = .ok s') : TableWF s' :=
  (reorderPorts_pres hs h).1
end Spydr.Verilog.Elab
