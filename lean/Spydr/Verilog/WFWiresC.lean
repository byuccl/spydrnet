/-
  Verilog engine — witnesses.  Non-vacuity of `reader_structWF` and `reader_wiresWF` (the text written for the example
  netlist is accepted); two witnesses about positional port maps: `positional_too_many_rejected` (a positional map longer
  than the port list of a DECLARED module: rejected after the repair docs/fixes/verilog_positional_too_many.diff) and
  `positional_undeclared_creates_ports`.
-/
import Spydr.Verilog.WFWiresB
import Spydr.Verilog.TextTop
namespace Spydr.Verilog.Elab
open Spydr.Verilog

/-- non-vacuity: the text written for the example netlist is accepted, so the premise is satisfiable -/
theorem exNet_structWF : ∃ text s, Parse.readV text = .ok s ∧ structWF s = true := by
  obtain ⟨text, _, s, _, _, _, h, _⟩ := exNet_roundtrip
  exact ⟨text, s, h, reader_structWF text s h⟩

/-- non-vacuity -/
theorem exNet_wiresWF : ∃ text s, Parse.readV text = .ok s ∧ wiresWF s = true := by
  obtain ⟨text, _, s, _, _, _, h, _⟩ := exNet_roundtrip
  exact ⟨text, s, h, reader_wiresWF text s h⟩

/-- A positional port map with more expressions than a DECLARED module has ports.  The unrepaired reader silently added an
    UNNAMED port to the declared module (finding `sdn.parse.accepts.positional-map-longer-than-declared-port-list`,
    docs/fixes/verilog_positional_too_many.diff); the repaired reader — and the model — reject the text. -/
def exUnnamed : List Module :=
  [⟨"M", false, [], [], [⟨"a", none, none, none⟩], [.portDecl .inp none none "a" []]⟩,
   ⟨"top", false, [], [], [⟨"x", none, none, none⟩, ⟨"y", none, none, none⟩],
     [.portDecl .inp none none "x" [], .portDecl .inp none none "y" [],
      .inst "M" "u0" [] [] false [(none, .atom (.id "x")), (none, .atom (.id "y"))]]⟩]

theorem positional_too_many_rejected : ∃ e, elabDesign exUnnamed = .error e :=
  match elabDesign exUnnamed, (by decide +kernel : (elabDesign exUnnamed).isOk = false) with
  | .error e, _ => ⟨e, rfl⟩

/-- the same map on a module the file never declares still creates the (unnamed) ports -/
def exUnnamedBB : List Module :=
  [⟨"top", false, [], [], [⟨"x", none, none, none⟩, ⟨"y", none, none, none⟩],
     [.portDecl .inp none none "x" [], .portDecl .inp none none "y" [],
      .inst "M" "u0" [] [] false [(none, .atom (.id "x")), (none, .atom (.id "y"))]]⟩]

theorem positional_undeclared_creates_ports :
    ∃ s D, elabDesign exUnnamedBB = .ok s ∧ D ∈ s.defs ∧ D.name = "M" ∧ D.primitive = true ∧ D.ports.map (·.name) = [none, none] := by
  have hk : (match elabDesign exUnnamedBB with
    | .ok s => s.defs.any (fun D => D.name == "M" && D.primitive && D.ports.map (·.name) == [none, none])
    | .error _ => false) = true := by decide +kernel
  match elabDesign exUnnamedBB, hk with
  | .ok s, hk =>
    simp only [List.any_eq_true, Bool.and_eq_true, beq_iff_eq] at hk
    obtain ⟨D, hD, ⟨h1, h2⟩, h3⟩ := hk
    exact ⟨s, D, rfl, hD, h1, h2, h3⟩
end Spydr.Verilog.Elab
