/-
  C16 — the EDIF pre-pass: what `nameElem`/`seqMap`/`reorder` preserve; the pre-pass changes only what
  is documented (`edifify_documented_only`), establishes `PrePassed`, of which it is then a fixpoint
  (`edifify_fixpoint`); and it never touches an element that already carries an EDIF identifier (e.g.
  one left by the EDIF reader), a name, or anything in `extra` (`edifify_keeps_existing`).
-/
import Spydr.IO.SpecEdifify
import Spydr.IO.LemmasTopo
import Spydr.Common.List
namespace Spydr.IO
open Topo

theorem filter_map_set (d : Data) (k v : String) (hk : isIdKey k = true) :
    (d.map (fun kv => if kv.1 == k then (k, v) else kv)).filter (fun kv => !isIdKey kv.1) =
      d.filter (fun kv => !isIdKey kv.1) := by
  induction d with
  | nil => rfl
  | cons kv r ih =>
    rw [List.map_cons, List.filter_cons, List.filter_cons, ih]
    split
    next h => simp [hk, beq_iff_eq.mp h ▸ hk]
    · rfl

theorem stripData_dataSet (d : Data) (k v : String) (hk : isIdKey k = true) :
    stripData (dataSet d k v) = stripData d := by
  unfold dataSet
  split
  · exact filter_map_set d k v hk
  · simp [stripData, List.filter_append, hk]

theorem dataHas_dataSet (d : Data) (k v k' : String) (h : dataHas d k' = true ∨ k = k') :
    dataHas (dataSet d k v) k' = true := by
  unfold dataSet
  split
  next hk =>
    have h' : dataHas d k' = true := h.elim id (· ▸ hk)
    simp only [dataHas, List.any_eq_true] at h' ⊢
    obtain ⟨kv, hm, hkv⟩ := h'
    exact ⟨_, List.mem_map_of_mem hm, by split <;> simp_all⟩
  · simp only [dataHas, List.any_append, Bool.or_eq_true] at h ⊢
    exact h.imp id (fun e => by simp [e])

def namedElem (e : Elem) : Prop := dataHas e.data "EDIF.identifier" = true

theorem nameElem_strip (mkId : MkId) (e : Elem) (sibs : List Elem) :
    stripElem (nameElem mkId e sibs) = stripElem e := by
  unfold nameElem
  split
  · rfl
  · simp only [stripElem]
    split
    · rw [stripData_dataSet _ _ _ (by decide), stripData_dataSet _ _ _ (by decide)]
    · rw [stripData_dataSet _ _ _ (by decide)]

theorem nameElem_named (mkId : MkId) (e : Elem) (sibs : List Elem) : namedElem (nameElem mkId e sibs) := by
  unfold nameElem namedElem
  split
  · assumption
  · dsimp only
    split
    · exact dataHas_dataSet _ _ _ _ (Or.inl (dataHas_dataSet _ _ _ _ (Or.inr rfl)))
    · exact dataHas_dataSet _ _ _ _ (Or.inr rfl)

theorem nameElem_of_named (mkId : MkId) (e : Elem) (sibs : List Elem) (h : namedElem e) :
    nameElem mkId e sibs = e := if_pos h

section seq
variable {β γ : Type}

theorem seqMap_id (f : List β → β → List β → β) (todo : List β)
    (h : ∀ e ∈ todo, ∀ done rest, f done e rest = e) (done : List β) :
    seqMap f done todo = done ++ todo := by
  induction todo generalizing done with
  | nil => simp [seqMap]
  | cons e r ih =>
    rw [seqMap, h e (by simp), ih (fun e he => h e (List.mem_cons_of_mem _ he)), List.append_assoc]
    rfl

theorem pairAll_append {R : β → γ → Prop} {a b : List β} {c d : List γ}
    (h1 : PairAll R a c) (h2 : PairAll R b d) : PairAll R (a ++ b) (c ++ d) := by
  induction h1 with
  | nil => exact h2
  | cons h _ ih => exact PairAll.cons h ih

theorem pairAll_mem_right {R : β → γ → Prop} {xs : List β} {ys : List γ}
    (h : PairAll R xs ys) : ∀ y ∈ ys, ∃ x ∈ xs, R x y := by
  induction h with
  | nil => nofun
  | cons hab _ ih =>
    intro y hy
    rcases List.mem_cons.mp hy with rfl | hy
    · exact ⟨_, by simp, hab⟩
    · obtain ⟨x, hx, hr⟩ := ih y hy
      exact ⟨x, List.mem_cons_of_mem _ hx, hr⟩

theorem pairAll_map (R : γ → γ → Prop) (f g : β → γ) (l : List β)
    (h : ∀ x ∈ l, R (f x) (g x)) : PairAll R (l.map f) (l.map g) := by
  induction l with
  | nil => exact PairAll.nil
  | cons a r ih =>
    exact PairAll.cons (h a (by simp)) (ih (fun x hx => h x (List.mem_cons_of_mem _ hx)))

theorem pairAll_map_eq {δ : Type} {R : β → γ → Prop} (f : β → δ) (g : γ → δ) (hR : ∀ a b, R a b → f a = g b)
    {xs : List β} {ys : List γ} (h : PairAll R xs ys) : xs.map f = ys.map g := by
  induction h with
  | nil => rfl
  | cons hab _ ih => rw [List.map_cons, List.map_cons, hR _ _ hab, ih]

/-- every element of the result is the rewriting of the element at its position -/
theorem seqMap_pairAll (R : β → β → Prop) (f : List β → β → List β → β)
    (h : ∀ done e rest, R e (f done e rest)) (todo : List β) : PairAll R todo (seqMap f [] todo) := by
  suffices ∀ done0 done, PairAll R done0 done → PairAll R (done0 ++ todo) (seqMap f done todo) from
    this [] [] PairAll.nil
  induction todo with
  | nil => intro done0 done hd; simpa [seqMap] using hd
  | cons e r ih =>
    intro done0 done hd
    simpa [seqMap] using ih _ _ (pairAll_append hd (PairAll.cons (h done e r) PairAll.nil))

theorem seqMap_map (f : List β → β → List β → β) (g : β → γ)
    (h : ∀ done e rest, g (f done e rest) = g e) (todo : List β) : (seqMap f [] todo).map g = todo.map g :=
  (pairAll_map_eq g g (fun _ _ e => e.symm) (seqMap_pairAll (fun e x => g x = g e) f h todo)).symm

/-- what every rewriting establishes (from `Q` of the element rewritten) holds of the whole result -/
theorem seqMap_forall (P Q : β → Prop) (f : List β → β → List β → β)
    (h : ∀ done e rest, Q e → P (f done e rest)) (todo : List β) (ht : ∀ x ∈ todo, Q x) :
    ∀ x ∈ seqMap f [] todo, P x := by
  intro x hx
  obtain ⟨e, he, hr⟩ := pairAll_mem_right (seqMap_pairAll (fun e x => Q e → P x) f h todo) x hx
  exact hr (ht e he)

theorem seqMap_forall' (P : β → Prop) (f : List β → β → List β → β)
    (h : ∀ done e rest, P (f done e rest)) (todo : List β) : ∀ x ∈ seqMap f [] todo, P x :=
  seqMap_forall P (fun _ => True) f (fun _ _ _ _ => h _ _ _) todo (fun _ _ => trivial)

end seq

theorem nameList_strip (mkId : MkId) (l : List Elem) : (nameList mkId l).map stripElem = l.map stripElem :=
  seqMap_map _ stripElem (fun _ e _ => nameElem_strip mkId e _) l

theorem nameList_named (mkId : MkId) (l : List Elem) : ∀ e ∈ nameList mkId l, namedElem e :=
  seqMap_forall' namedElem _ (fun _ _ _ => nameElem_named mkId _ _) l

theorem nameList_of_named (mkId : MkId) (l : List Elem) (h : ∀ e ∈ l, namedElem e) : nameList mkId l = l :=
  seqMap_id _ l (fun e he _ _ => nameElem_of_named mkId e _ (h e he)) []

structure namedDef (d : EDef) : Prop where
  self : namedElem d.self
  ports : ∀ e ∈ d.ports, namedElem e
  cables : ∀ e ∈ d.cables, namedElem e
  insts : ∀ e ∈ d.insts, namedElem e

structure namedLib (l : ELib) : Prop where
  self : namedElem l.self
  defs : ∀ d ∈ l.defs, namedDef d

theorem nameDef_strip (mkId : MkId) (done : List EDef) (d : EDef) (rest : List EDef) :
    stripDef (nameDef mkId done d rest) = stripDef d := by
  simp [stripDef, nameDef, nameElem_strip, nameList_strip]

theorem nameDef_named (mkId : MkId) (done : List EDef) (d : EDef) (rest : List EDef) :
    namedDef (nameDef mkId done d rest) :=
  ⟨nameElem_named _ _ _, nameList_named _ _, nameList_named _ _, nameList_named _ _⟩

theorem nameDef_of_named (mkId : MkId) (done : List EDef) (d : EDef) (rest : List EDef) (h : namedDef d) :
    nameDef mkId done d rest = d := by
  obtain ⟨id, self, ports, cables, insts⟩ := d
  simp only [nameDef]
  rw [nameElem_of_named _ _ _ h.self, nameList_of_named _ _ h.ports, nameList_of_named _ _ h.cables,
    nameList_of_named _ _ h.insts]

theorem nameLib_strip (mkId : MkId) (done : List ELib) (l : ELib) (rest : List ELib) :
    stripLib (nameLib mkId done l rest) = stripLib l := by
  simp only [stripLib, nameLib, nameElem_strip, seqMap_map _ stripDef (nameDef_strip mkId)]

theorem nameDef_id (mkId : MkId) (done : List EDef) (d : EDef) (rest : List EDef) :
    (nameDef mkId done d rest).id = d.id := rfl

theorem nameLib_id (mkId : MkId) (done : List ELib) (l : ELib) (rest : List ELib) :
    (nameLib mkId done l rest).id = l.id := rfl

theorem nameLib_defIds (mkId : MkId) (done : List ELib) (l : ELib) (rest : List ELib) :
    (nameLib mkId done l rest).defs.map (·.id) = l.defs.map (·.id) :=
  seqMap_map (nameDef mkId) (·.id) (nameDef_id mkId) l.defs

theorem nameLib_named (mkId : MkId) (done : List ELib) (l : ELib) (rest : List ELib) :
    namedLib (nameLib mkId done l rest) :=
  ⟨nameElem_named _ _ _, seqMap_forall' namedDef _ (nameDef_named mkId) _⟩

theorem nameLib_of_named (mkId : MkId) (done : List ELib) (l : ELib) (rest : List ELib) (h : namedLib l) :
    nameLib mkId done l rest = l := by
  obtain ⟨id, self, defs⟩ := l
  simp only [nameLib]
  rw [nameElem_of_named _ _ _ h.self,
    seqMap_id _ defs (fun d hd done rest => nameDef_of_named mkId done d rest (h.defs d hd))]
  rfl

section reorder
variable {β : Type}

theorem reorder_map_ids (idOf : β → Nat) (objs : List β) (h : (objs.map idOf).Nodup) (l : List β)
    (hl : ∀ x ∈ l, x ∈ objs) : reorder idOf (l.map idOf) objs = l := by
  induction l with
  | nil => rfl
  | cons a r ih =>
    have ih' := ih (fun x hx => hl x (List.mem_cons_of_mem _ hx))
    unfold reorder at ih' ⊢
    simp [find?_key idOf h (hl a (by simp)), ih']

theorem reorder_self (idOf : β → Nat) (objs : List β) (h : (objs.map idOf).Nodup) :
    reorder idOf (objs.map idOf) objs = objs :=
  reorder_map_ids idOf objs h objs (fun _ hx => hx)

theorem mem_reorder (idOf : β → Nat) (ids : List Nat) (objs : List β) (x : β)
    (hx : x ∈ reorder idOf ids objs) : x ∈ objs ∧ idOf x ∈ ids := by
  simp only [reorder, List.mem_filterMap] at hx
  obtain ⟨i, hi, hf⟩ := hx
  have : idOf x = i := by simpa using List.find?_some hf
  exact ⟨List.mem_of_find?_eq_some hf, this ▸ hi⟩

theorem reorder_ids (idOf : β → Nat) (ids : List Nat) (objs : List β)
    (hsub : ∀ i ∈ ids, i ∈ objs.map idOf) : (reorder idOf ids objs).map idOf = ids := by
  induction ids with
  | nil => rfl
  | cons i r ih =>
    have ih' := ih (fun j hj => hsub j (List.mem_cons_of_mem _ hj))
    obtain ⟨x, hx, rfl⟩ := List.mem_map.mp (hsub i (by simp))
    obtain ⟨y, hy⟩ : ∃ y, objs.find? (fun o => idOf o == idOf x) = some y :=
      Option.isSome_iff_exists.mp (List.find?_isSome.mpr ⟨x, hx, beq_self_eq_true _⟩)
    have : idOf y = idOf x := by simpa using List.find?_some hy
    unfold reorder at ih' ⊢
    simp [hy, this, ih']

theorem reorder_perm (idOf : β → Nat) (ids : List Nat) (objs : List β)
    (h : (objs.map idOf).Nodup) (hp : ids.Perm (objs.map idOf)) : (reorder idOf ids objs).Perm objs := by
  have := hp.filterMap (fun i => objs.find? (fun o => idOf o == i))
  rwa [show List.filterMap _ (objs.map idOf) = objs from reorder_self idOf objs h] at this

end reorder

/-- hypotheses on the netlist and the oracles: identities are distinct, dependency sets stay inside
    the netlist (self-contained) and nothing depends on itself -/
structure EdifHyp (depL : Nat → List Nat) (depD : Nat → Nat → List Nat) (n : ENet) : Prop where
  libIds : (n.libs.map (·.id)).Nodup
  libNoSelf : NoSelf depL
  libClosed : Closed depL (n.libs.map (·.id))
  defIds : ∀ l ∈ n.libs, (l.defs.map (·.id)).Nodup
  defNoSelf : ∀ l ∈ n.libs, NoSelf (depD l.id)
  defClosed : ∀ l ∈ n.libs, Closed (depD l.id) (l.defs.map (·.id))

/-- what the pre-pass establishes, and what makes a netlist a fixpoint of it -/
structure PrePassed (depL : Nat → List Nat) (depD : Nat → Nat → List Nat) (n : ENet) : Prop where
  hasName : n.name.isSome
  nlNamed : dataHas n.data "EDIF.identifier" = true
  topNamed : namedElem n.top
  libsNamed : ∀ l ∈ n.libs, namedLib l
  libIds : (n.libs.map (·.id)).Nodup
  libOrder : DepOrdered depL (n.libs.map (·.id))
  defIds : ∀ l ∈ n.libs, (l.defs.map (·.id)).Nodup
  defOrder : ∀ l ∈ n.libs, DepOrdered (depD l.id) (l.defs.map (·.id))

theorem sortDefs_id (depD : Nat → Nat → List Nat) (fuel : Nat) (l : ELib) :
    (sortDefs depD fuel l).1.id = l.id ∧ (sortDefs depD fuel l).1.self = l.self := ⟨rfl, rfl⟩

theorem sortDefs_spec (depD : Nat → Nat → List Nat) (fuel : Nat) (l : ELib)
    (hnd : (l.defs.map (·.id)).Nodup) (hns : NoSelf (depD l.id)) (hcl : Closed (depD l.id) (l.defs.map (·.id)))
    (hfin : (sortDefs depD fuel l).2 = true) :
    (sortDefs depD fuel l).1.defs.Perm l.defs ∧
    ((sortDefs depD fuel l).1.defs.map (·.id)).Nodup ∧
    DepOrdered (depD l.id) ((sortDefs depD fuel l).1.defs.map (·.id)) := by
  obtain ⟨hperm, hord⟩ := toposort_ok _ _ fuel hns hcl hnd hfin
  refine ⟨reorder_perm _ _ _ hnd hperm, ?_⟩
  show ((reorder (·.id) _ l.defs).map (·.id)).Nodup ∧ DepOrdered (depD l.id) ((reorder (·.id) _ l.defs).map (·.id))
  rw [reorder_ids _ _ _ (fun i hi => hperm.mem_iff.mp hi)]
  exact ⟨hperm.nodup_iff.mpr hnd, hord⟩

theorem sortDefs_sorted (depD : Nat → Nat → List Nat) (fuel : Nat) (l : ELib)
    (hnd : (l.defs.map (·.id)).Nodup) (hord : DepOrdered (depD l.id) (l.defs.map (·.id)))
    (hfuel : 2 * l.defs.length ≤ fuel) : sortDefs depD fuel l = (l, true) := by
  rw [sortDefs, toposort_fixpoint _ _ fuel hord hnd (by rwa [List.length_map]), reorder_self (·.id) l.defs hnd]

/-- the libraries after the two sorts, before any identifier is recorded -/
def sortedLibs (depL : Nat → List Nat) (depD : Nat → Nat → List Nat) (fuel : Nat) (n : ENet) : List ELib :=
  ((reorder (·.id) (toposort depL fuel (n.libs.map (·.id))).1 n.libs).map (sortDefs depD fuel)).map (·.1)

theorem edifify_libs (depL : Nat → List Nat) (depD : Nat → Nat → List Nat) (mkId : MkId) (fuel : Nat) (n : ENet) :
    (edifify depL depD mkId fuel n).1.libs = seqMap (nameLib mkId) [] (sortedLibs depL depD fuel n) := rfl

theorem mem_sortedLibs {depL : Nat → List Nat} {depD : Nat → Nat → List Nat} {fuel : Nat} {n : ENet} {l' : ELib}
    (h : l' ∈ sortedLibs depL depD fuel n) :
    ∃ l ∈ reorder (·.id) (toposort depL fuel (n.libs.map (·.id))).1 n.libs, l' = (sortDefs depD fuel l).1 := by
  simp only [sortedLibs, List.map_map, List.mem_map, Function.comp] at h
  obtain ⟨l, hl, rfl⟩ := h
  exact ⟨l, hl, rfl⟩

/-- what the flag reports: the libraries have been put in a dependency-first order, and the cells of each -/
theorem edifify_sorts (depL : Nat → List Nat) (depD : Nat → Nat → List Nat) (mkId : MkId) (fuel : Nat)
    (n : ENet) (hy : EdifHyp depL depD n) (hfin : (edifify depL depD mkId fuel n).2 = true) :
    TopoOrder depL (n.libs.map (·.id)) (toposort depL fuel (n.libs.map (·.id))).1 ∧
    ∀ l ∈ reorder (·.id) (toposort depL fuel (n.libs.map (·.id))).1 n.libs,
      (sortDefs depD fuel l).1.defs.Perm l.defs ∧ ((sortDefs depD fuel l).1.defs.map (·.id)).Nodup ∧
      DepOrdered (depD l.id) ((sortDefs depD fuel l).1.defs.map (·.id)) := by
  simp only [edifify, Bool.and_eq_true, List.all_eq_true, List.mem_map, forall_exists_index, and_imp,
    forall_apply_eq_imp_iff₂] at hfin
  refine ⟨toposort_ok _ _ fuel hy.libNoSelf hy.libClosed hy.libIds hfin.1, fun l hl => ?_⟩
  have hln := (mem_reorder _ _ _ l hl).1
  exact sortDefs_spec depD fuel l (hy.defIds l hln) (hy.defNoSelf l hln) (hy.defClosed l hln) (hfin.2 l hl)

/-- T `edifify_documented_only`: the pre-passed netlist equals the given one up to exactly the
    documented effects — `DocEq` forgets the keys `EDIF.identifier`/`EDIF.rename`, a defaulted netlist
    name, and the order of libraries and of cells inside a library (as multisets: `List.Perm`);
    everything else (every other datum, every `extra`: directions, widths, indices, connectivity,
    references) is equal. -/
theorem edifify_documented_only (depL : Nat → List Nat) (depD : Nat → Nat → List Nat) (mkId : MkId)
    (fuel : Nat) (n : ENet) (hy : EdifHyp depL depD n)
    (hfin : (edifify depL depD mkId fuel n).2 = true) :
    DocEq (edifify depL depD mkId fuel n).1 n := by
  obtain ⟨hto, hdefs⟩ := edifify_sorts depL depD mkId fuel n hy hfin
  refine ⟨by simp [edifify], congrArg Elem.data (nameElem_strip mkId ⟨n.name.getD n.top.name, n.data, ""⟩ []),
    nameElem_strip mkId n.top [], ?_⟩
  rw [edifify_libs, seqMap_map (nameLib mkId) stripLib (nameLib_strip mkId)]
  simp only [sortedLibs, List.map_map]
  exact ⟨_, (reorder_perm (·.id) _ n.libs hy.libIds hto.1).map stripLib,
    pairAll_map _ _ _ _ fun l hl => ⟨rfl, rfl, (hdefs l hl).1.map _⟩⟩

theorem edifify_prepassed (depL : Nat → List Nat) (depD : Nat → Nat → List Nat) (mkId : MkId) (fuel : Nat)
    (n : ENet) (hy : EdifHyp depL depD n) (hfin : (edifify depL depD mkId fuel n).2 = true) :
    PrePassed depL depD (edifify depL depD mkId fuel n).1 := by
  obtain ⟨hto, hdefs⟩ := edifify_sorts depL depD mkId fuel n hy hfin
  have hlibids : (edifify depL depD mkId fuel n).1.libs.map (·.id) = (toposort depL fuel (n.libs.map (·.id))).1 := by
    rw [edifify_libs, seqMap_map (nameLib mkId) (·.id) (nameLib_id mkId),
      ← reorder_ids (·.id) _ n.libs (fun i hi => hto.1.mem_iff.mp hi)]
    simp only [sortedLibs, List.map_map]
    rfl
  -- per-library facts: naming establishes `namedLib` and carries the order of the cells through the loop
  have hper : ∀ l ∈ (edifify depL depD mkId fuel n).1.libs,
      namedLib l ∧ (l.defs.map (·.id)).Nodup ∧ DepOrdered (depD l.id) (l.defs.map (·.id)) := by
    rw [edifify_libs]
    refine seqMap_forall _ (fun l : ELib => (l.defs.map (·.id)).Nodup ∧ DepOrdered (depD l.id) (l.defs.map (·.id)))
      (nameLib mkId) (fun done e rest he => ⟨nameLib_named mkId done e rest, ?_⟩) _ ?_
    · intro x hx
      obtain ⟨l, hl, rfl⟩ := mem_sortedLibs hx
      exact (hdefs l hl).2
    · rw [nameLib_defIds]; exact he
  refine ⟨by simp [edifify], nameElem_named mkId ⟨n.name.getD n.top.name, n.data, ""⟩ [], nameElem_named _ _ _,
    fun l hl => (hper l hl).1, ?_, ?_, fun l hl => (hper l hl).2.1, fun l hl => (hper l hl).2.2⟩
  · rw [hlibids]; exact hto.1.nodup_iff.mpr hy.libIds
  · rw [hlibids]; exact hto.2

/-- a pre-passed netlist is returned unchanged by the pre-pass, for every oracle and identifier
    generator -/
theorem edifify_fixpoint (depL : Nat → List Nat) (depD : Nat → Nat → List Nat) (mkId : MkId) (fuel : Nat)
    (n : ENet) (hp : PrePassed depL depD n)
    (hfuelL : 2 * n.libs.length ≤ fuel) (hfuelD : ∀ l ∈ n.libs, 2 * l.defs.length ≤ fuel) :
    edifify depL depD mkId fuel n = (n, true) := by
  have hsortL := toposort_fixpoint depL (n.libs.map (·.id)) fuel hp.libOrder hp.libIds (by rwa [List.length_map])
  have hsd : n.libs.map (sortDefs depD fuel) = n.libs.map (fun l => (l, true)) :=
    List.map_congr_left fun l hl => sortDefs_sorted depD fuel l (hp.defIds l hl) (hp.defOrder l hl) (hfuelD l hl)
  have hre := reorder_self (·.id) n.libs hp.libIds
  obtain ⟨name, data, top, libs⟩ := n
  obtain ⟨nm, rfl⟩ := Option.isSome_iff_exists.mp hp.hasName
  have hnl : nameElem mkId ⟨nm, data, ""⟩ [] = ⟨nm, data, ""⟩ := nameElem_of_named _ _ _ hp.nlNamed
  have htop : nameElem mkId top [] = top := nameElem_of_named _ _ _ hp.topNamed
  have hlibs : seqMap (nameLib mkId) [] libs = libs :=
    seqMap_id (nameLib mkId) libs (fun l hl done rest => nameLib_of_named mkId done l rest (hp.libsNamed l hl)) []
  dsimp only at hsortL hre hsd
  simp [edifify, hsortL, hre, hsd, hnl, htop, Function.comp_def, hlibs]

/-- `a` is what the pre-pass may make of `b`: same name, same `extra`; identical if `b` was named -/
def KeepElem (b a : Elem) : Prop := a.name = b.name ∧ a.extra = b.extra ∧ (namedElem b → a = b)

def KeepDef (b a : EDef) : Prop :=
  a.id = b.id ∧ KeepElem b.self a.self ∧ PairAll KeepElem b.ports a.ports ∧
  PairAll KeepElem b.cables a.cables ∧ PairAll KeepElem b.insts a.insts

def KeepLib (b a : ELib) : Prop :=
  a.id = b.id ∧ KeepElem b.self a.self ∧ ∀ d' ∈ a.defs, ∃ d ∈ b.defs, KeepDef d d'

theorem nameElem_keep (mkId : MkId) (e : Elem) (sibs : List Elem) : KeepElem e (nameElem mkId e sibs) := by
  refine ⟨?_, ?_, nameElem_of_named mkId e sibs⟩ <;> (unfold nameElem; split <;> rfl)

theorem nameList_keep (mkId : MkId) (l : List Elem) : PairAll KeepElem l (nameList mkId l) :=
  seqMap_pairAll KeepElem _ (fun _ e _ => nameElem_keep mkId e _) l

theorem nameDef_keep (mkId : MkId) (done : List EDef) (d : EDef) (rest : List EDef) :
    KeepDef d (nameDef mkId done d rest) :=
  ⟨rfl, nameElem_keep _ _ _, nameList_keep _ _, nameList_keep _ _, nameList_keep _ _⟩

theorem nameLib_keep (mkId : MkId) (done : List ELib) (l : ELib) (rest : List ELib) :
    KeepLib l (nameLib mkId done l rest) :=
  ⟨rfl, nameElem_keep _ _ _, pairAll_mem_right (seqMap_pairAll KeepDef _ (nameDef_keep mkId) l.defs)⟩

/-- T `edifify_keeps_existing` (what `DocEq` alone would not say, since it forgets the two keys
    wherever they are): the pre-pass never OVERWRITES — an element that already carries
    `EDIF.identifier` (e.g. left by the EDIF reader) comes out identical, data and all; no element's
    name or `extra` changes; the netlist's own data is identical if it was named; every library / cell of
    the result is one of the given ones.  Holds whether or not the sorts finish. -/
theorem edifify_keeps_existing (depL : Nat → List Nat) (depD : Nat → Nat → List Nat) (mkId : MkId)
    (fuel : Nat) (n : ENet) :
    KeepElem n.top (edifify depL depD mkId fuel n).1.top ∧
    (dataHas n.data "EDIF.identifier" = true → (edifify depL depD mkId fuel n).1.data = n.data) ∧
    ∀ l' ∈ (edifify depL depD mkId fuel n).1.libs, ∃ l ∈ n.libs, KeepLib l l' := by
  refine ⟨nameElem_keep mkId n.top [], fun h => congrArg Elem.data
    (nameElem_of_named mkId ⟨n.name.getD n.top.name, n.data, ""⟩ [] h), fun l' hl' => ?_⟩
  obtain ⟨l2, hl2, hk⟩ := pairAll_mem_right (seqMap_pairAll KeepLib _ (nameLib_keep mkId) _) l' hl'
  obtain ⟨l1, hl1, rfl⟩ := mem_sortedLibs hl2
  refine ⟨l1, (mem_reorder _ _ _ l1 hl1).1, hk.1, hk.2.1, fun d' hd' => ?_⟩
  obtain ⟨d2, hd2, hkd⟩ := hk.2.2 d' hd'
  exact ⟨d2, (mem_reorder _ _ _ d2 hd2).1, hkd⟩

end Spydr.IO
