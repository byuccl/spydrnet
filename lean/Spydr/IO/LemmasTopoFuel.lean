/-
  C16 — termination of `_topological_sort` on acyclic, self-contained input: the fuel
  `3·|input| + Σ_x |deps x| + 1` suffices.

  Proof device: a GHOST copy of the machine whose stack entries carry a flag "this entry has already
  pushed its children" (the Python code has no such flag; the ghost machine erases to the real one
  step by step).  Invariants: a flagged entry has every unvisited dependency above it on the stack and
  everything above it has a strictly smaller rank — so, under acyclicity, no element pushes its children
  twice — and the potential
      2·|todo| + |stack| + Σ { |deps x| + 1 : x ∈ input, x not yet output, x not flagged on the stack }
  drops at every step.
-/
import Spydr.IO.LemmasTopo
namespace Spydr.IO.Topo

variable {α : Type} [DecidableEq α]

structure GS (α : Type) where
  stack : List (α × Bool)
  todo : List α
  out : List α

def GS.erase (g : GS α) : TS α := ⟨g.stack.map (·.1), g.todo, g.out⟩

def gstep (deps : α → List α) (g : GS α) : Option (GS α) :=
  match g.stack with
  | (o, fl) :: rest =>
    match (pushed deps g.out o).reverse with
    | [] => some { g with stack := rest, out := visit g.out o }
    | t :: ts =>
      if t = o then some { g with stack := ts.map (·, false) ++ (o, fl) :: rest, out := visit g.out o }
      else some { g with stack := (t :: ts).map (·, false) ++ (o, true) :: rest }
  | [] =>
    match g.todo with
    | [] => none
    | o :: todo' =>
      if o ∈ g.out then some { g with todo := todo' }
      else some { g with todo := todo', stack := [(o, false)] }

theorem erase_gstep (deps : α → List α) (g : GS α) :
    (gstep deps g).map GS.erase = step deps g.erase := by
  obtain ⟨stack, todo, out⟩ := g
  rcases stack with _ | ⟨⟨o, fl⟩, rest⟩
  · cases todo with
    | nil => rfl
    | cons o t => simp only [gstep, step, GS.erase, List.map_nil]; split <;> rfl
  · simp only [gstep, step, GS.erase, List.map_cons]
    cases (pushed deps out o).reverse with
    | nil => rfl
    | cons t ts => dsimp only; split <;> simp [GS.erase, Function.comp_def]

def wsum (deps : α → List α) (input : List α) (p : α → Bool) : Nat :=
  ((input.filter p).map (fun x => (deps x).length + 1)).sum

theorem wsum_mono (deps : α → List α) (input : List α) (p p' : α → Bool)
    (h : ∀ x ∈ input, p' x = true → p x = true) : wsum deps input p' ≤ wsum deps input p := by
  induction input with
  | nil => simp [wsum]
  | cons a r ih =>
    have ih' := ih (fun x hx => h x (List.mem_cons_of_mem _ hx))
    have ha := h a (by simp)
    simp only [wsum, List.filter_cons] at ih' ⊢
    split
    · rw [if_pos (ha ‹_›), List.map_cons, List.map_cons, List.sum_cons, List.sum_cons]; omega
    · split
      · rw [List.map_cons, List.sum_cons]; omega
      · exact ih'

theorem wsum_strict (deps : α → List α) (input : List α) (p p' : α → Bool) (o : α)
    (ho : o ∈ input) (hpo : p o = true) (hpo' : p' o = false)
    (h : ∀ x ∈ input, p' x = true → p x = true) :
    wsum deps input p' + ((deps o).length + 1) ≤ wsum deps input p := by
  obtain ⟨l1, l2, rfl⟩ := List.append_of_mem ho
  have h1 := wsum_mono deps l1 p p' (fun x hx => h x (by simp [hx]))
  have h2 := wsum_mono deps l2 p p' (fun x hx => h x (by simp [hx]))
  simp only [wsum, List.filter_append, List.filter_cons, hpo, hpo', List.map_append, List.sum_append] at *
  simp
  omega

theorem split_unflagged {β : Type} {l1 : List β} {a : β} {l2 above : List β} {b : β} {below : List β}
    (h : l1 ++ a :: l2 = above ++ b :: below) (hb : b ∉ l1) :
    (above = l1 ∧ a = b ∧ below = l2) ∨ (∃ above', above = l1 ++ a :: above' ∧ l2 = above' ++ b :: below) := by
  rcases List.append_eq_append_iff.mp h with ⟨a', rfl, h'⟩ | ⟨c', rfl, h'⟩
  · rcases List.cons_eq_append_iff.mp h' with ⟨rfl, h''⟩ | ⟨a'', rfl, rfl⟩
    · cases h''; simp
    · exact Or.inr ⟨a'', rfl, rfl⟩
  · rcases List.cons_eq_append_iff.mp h' with ⟨rfl, h''⟩ | ⟨c'', rfl, _⟩
    · cases h''; simp
    · simp at hb

def pending (out : List α) (stack : List (α × Bool)) (x : α) : Bool :=
  decide (x ∉ out) && decide ((x, true) ∉ stack)

def potential (deps : α → List α) (input : List α) (g : GS α) : Nat :=
  2 * g.todo.length + g.stack.length + wsum deps input (pending g.out g.stack)

structure GInv (deps : α → List α) (r : α → Nat) (input : List α) (g : GS α) : Prop where
  outClosed : ∀ v ∈ g.out, ∀ d ∈ deps v, d ∈ g.out
  stackIn : ∀ e ∈ g.stack, e.1 ∈ input
  todoIn : ∀ x ∈ g.todo, x ∈ input
  rank : g.stack.Pairwise (fun y e => e.2 = true → r y.1 < r e.1)
  kids : ∀ above e below, g.stack = above ++ (e, true) :: below →
    ∀ d ∈ deps e, d ∈ g.out ∨ d ∈ above.map (·.1)

theorem ginv_init (deps : α → List α) (r : α → Nat) (input : List α) :
    GInv deps r input ⟨[], input, []⟩ :=
  ⟨by simp, by simp, fun x hx => hx, List.Pairwise.nil, by simp⟩

theorem gstep_inv {deps : α → List α} {r : α → Nat} {input : List α}
    (hr : ∀ x, ∀ d ∈ deps x, r d < r x) (hcl : Closed deps input)
    {g g' : GS α} (hi : GInv deps r input g) (hs : gstep deps g = some g') :
    GInv deps r input g' ∧ potential deps input g' + 1 ≤ potential deps input g := by
  obtain ⟨stack, todo, out⟩ := g
  obtain ⟨hoc, hsi, hti, hrk, hkd⟩ := hi
  dsimp only at hoc hsi hti hrk hkd
  cases stack with
  | nil =>
    cases todo with
    | nil => simp [gstep] at hs
    | cons o todo' =>
      have hti' : ∀ x ∈ todo', x ∈ input := fun x hx => hti x (List.mem_cons_of_mem _ hx)
      simp only [gstep] at hs
      split at hs <;> cases hs
      · exact ⟨⟨hoc, hsi, hti', hrk, hkd⟩, by simp only [potential, List.length_cons]; omega⟩
      · have hw := wsum_mono deps input (pending out []) (pending out [(o, false)]) (by simp [pending])
        refine ⟨⟨hoc, by simpa using hti o, hti', by simp, by simp [List.cons_eq_append_iff]⟩, ?_⟩
        simp only [potential, List.length_cons, List.length_nil]
        omega
  | cons e rest =>
    obtain ⟨o, fl⟩ := e
    have hoin : o ∈ input := hsi (o, fl) (by simp)
    obtain ⟨hrk_o, hrk_rest⟩ := List.pairwise_cons.mp hrk
    simp only [gstep] at hs
    cases hrev : (pushed deps out o).reverse with
    | nil =>
      -- nothing pushed: every dependency of `o` is output, `o` is popped and output
      have hall := pushed_eq_nil.mp (List.reverse_eq_nil_iff.mp hrev)
      simp only [hrev] at hs
      cases hs
      have hw := wsum_mono deps input (pending out ((o, fl) :: rest)) (pending (visit out o) rest)
        (by simp +contextual [pending, mem_visit])
      refine ⟨⟨?_, fun e he => hsi e (List.mem_cons_of_mem _ he), hti, hrk_rest, ?_⟩, ?_⟩
      · intro v hv d hd
        exact mem_visit.mpr (Or.inl ((mem_visit.mp hv).elim (hoc v · d hd) (fun e => hall d (e ▸ hd))))
      · intro a e b h d hd
        simpa [mem_visit, or_assoc] using hkd ((o, fl) :: a) e b (congrArg (_ :: ·) h) d hd
      · simp only [potential, List.length_cons]
        omega
    | cons t ts =>
      have htmem : ∀ c ∈ t :: ts, c ∈ deps o ∧ c ∉ out := by simp [← hrev, mem_pushed]
      have ht := htmem t (by simp)
      have hto : t ≠ o := fun h => Nat.lt_irrefl _ (h ▸ hr o t ht.1)
      simp only [hrev, hto, if_false] at hs
      cases hs
      -- `o` is not output and not flagged anywhere on the stack
      have ho_out : o ∉ out := fun h => ht.2 (hoc o h t ht.1)
      have ho_flag : (o, true) ∉ (o, fl) :: rest := by
        rintro (_ | ⟨_, hm⟩)
        · -- the top itself is flagged: its unvisited dependencies would be above it
          simpa [ht.2] using hkd [] o rest rfl t ht.1
        · exact Nat.lt_irrefl _ (hrk_o (o, true) hm rfl)
      have hw := wsum_strict deps input (pending out ((o, fl) :: rest))
        (pending out ((t :: ts).map (·, false) ++ (o, true) :: rest)) o hoin
        (by simp [pending, ho_out, ho_flag]) (by simp [pending]) (by simp +contextual [pending])
      have hlen : (t :: ts).length ≤ (deps o).length := by
        rw [← hrev, List.length_reverse]; exact List.length_filter_le _ _
      refine ⟨⟨hoc, ?_, hti, ?_, ?_⟩, ?_⟩
      · exact List.forall_mem_append.mpr ⟨List.forall_mem_map.mpr fun c hc => hcl o hoin c (htmem c hc).1,
          List.forall_mem_cons.mpr ⟨hoin, fun e he => hsi e (List.mem_cons_of_mem _ he)⟩⟩
      · -- the pushed children are unflagged, and rank below `o`, hence below everything `o` ranks below
        refine List.pairwise_append.mpr ⟨List.pairwise_map.mpr (List.pairwise_of_forall (by simp)),
          List.pairwise_cons.mpr ⟨hrk_o, hrk_rest⟩, List.forall_mem_map.mpr fun c hc => ?_⟩
        have hc := hr o c (htmem c hc).1
        exact List.forall_mem_cons.mpr ⟨fun _ => hc, fun b hb hfl => Nat.lt_trans hc (hrk_o b hb hfl)⟩
      · intro a e b h d hd
        rcases split_unflagged h (by simp) with ⟨rfl, he, _⟩ | ⟨a', rfl, rfl⟩
        · -- `e` is `o` itself: its dependencies not yet output are the children just pushed
          cases he
          by_cases hdo : d ∈ out
          · exact Or.inl hdo
          · have : d ∈ t :: ts := by simp [← hrev, mem_pushed, hd, hdo]
            exact Or.inr (by simpa [Function.comp_def] using this)
        · exact (hkd ((o, fl) :: a') e b rfl d hd).imp_right fun h => by
            rw [List.map_append]; exact List.mem_append_right _ h
      · simp only [potential, List.length_append, List.length_map, List.length_cons] at hw hlen ⊢
        omega

theorem run_finishes {deps : α → List α} {r : α → Nat} {input : List α}
    (hr : ∀ x, ∀ d ∈ deps x, r d < r x) (hcl : Closed deps input)
    (f : Nat) (g : GS α) (hi : GInv deps r input g) (hf : potential deps input g ≤ f) :
    (run deps f g.erase).2 = true := by
  induction f generalizing g with
  | zero =>
    cases hg : gstep deps g with
    | none => simp [run, ← erase_gstep, hg]
    | some g' => have := (gstep_inv hr hcl hi hg).2; omega
  | succ f ih =>
    cases hg : gstep deps g with
    | none => simp [run, ← erase_gstep, hg]
    | some g' =>
      obtain ⟨hi', hp⟩ := gstep_inv hr hcl hi hg
      simpa [run, ← erase_gstep, hg] using ih g' hi' (by omega)

theorem sum_succ (deps : α → List α) (l : List α) :
    (l.map (fun x => (deps x).length + 1)).sum = (l.map (fun x => (deps x).length)).sum + l.length := by
  induction l with
  | nil => rfl
  | cons a t ih => simp only [List.map_cons, List.sum_cons, List.length_cons, ih]; omega

end Spydr.IO.Topo

namespace Spydr.IO
open Topo
variable {α : Type} [DecidableEq α]

/-- T `toposort_finishes` (the sufficiency lemma): on acyclic, self-contained dependencies the Python
    loops end, within `fuelFor = 3·|input| + Σ|deps x| + 1` iterations — for every iteration order. -/
theorem toposort_finishes (deps : α → List α) (input : List α)
    (hac : Acyclic deps) (hcl : Closed deps input) :
    (toposort deps (fuelFor deps input) input).2 = true := by
  obtain ⟨r, hr⟩ := hac
  refine run_finishes hr hcl (fuelFor deps input) ⟨[], input, []⟩ (ginv_init deps r input) ?_
  have : input.filter (pending [] []) = input := List.filter_eq_self.mpr (by simp [pending])
  simp only [potential, fuelFor, wsum, this, sum_succ, List.length_nil]
  omega

end Spydr.IO
