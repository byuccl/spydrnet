/-
  C16 — invariant of the `_topological_sort` machine, partial correctness, fixpoint on sorted input,
  fuel monotonicity.
-/
import Spydr.IO.ModelTopo
import Spydr.IO.SpecTopo
namespace Spydr.IO.Topo

variable {α : Type} [DecidableEq α]

theorem pushed_eq_nil {deps : α → List α} {out : List α} {o : α} :
    pushed deps out o = [] ↔ ∀ d ∈ deps o, d ∈ out := by
  simp [pushed, List.filter_eq_nil_iff]

theorem mem_pushed {deps : α → List α} {out : List α} {o c : α} :
    c ∈ pushed deps out o ↔ c ∈ deps o ∧ c ∉ out := by
  simp [pushed, List.mem_filter]

theorem depOrdered_nil (deps : α → List α) : DepOrdered deps [] := by
  intro pre x post h
  cases pre <;> simp at h

theorem depOrdered_concat {deps : α → List α} {out : List α} {o : α}
    (h : DepOrdered deps out) (ho : ∀ d ∈ deps o, d ∈ out) : DepOrdered deps (out ++ [o]) := by
  intro pre x post heq
  rcases List.eq_nil_or_concat post with rfl | ⟨post', y, rfl⟩
  · obtain ⟨rfl, h'⟩ := List.append_inj' heq rfl
    cases h'; exact ho
  · rw [List.concat_eq_append, ← List.cons_append, ← List.append_assoc] at heq
    exact h pre x post' (List.append_inj' heq rfl).1

theorem depOrdered_prefix {deps : α → List α} {a b : List α}
    (h : DepOrdered deps (a ++ b)) : DepOrdered deps a := by
  intro pre x post heq d hd
  exact h pre x (post ++ b) (by rw [heq]; simp) d hd

structure Inv (deps : α → List α) (input : List α) (s : TS α) : Prop where
  nodup : s.out.Nodup
  ordered : DepOrdered deps s.out
  outIn : ∀ x ∈ s.out, x ∈ input
  stackIn : ∀ x ∈ s.stack, x ∈ input
  consumed : ∃ pre, input = pre ++ s.todo ∧ ∀ x ∈ pre, x ∈ s.out ∨ x ∈ s.stack

theorem inv_init (deps : α → List α) (input : List α) : Inv deps input (init input) :=
  ⟨List.nodup_nil, depOrdered_nil deps, by simp [init], by simp [init], ⟨[], by simp [init], by simp⟩⟩

theorem visit_nodup {out : List α} {o : α} (h : out.Nodup) : (visit out o).Nodup := by
  unfold visit
  split
  · exact h
  · simpa [List.nodup_append, h] using fun a ha (e : a = o) => by simp_all

theorem mem_visit {out : List α} {o x : α} : x ∈ visit out o ↔ x ∈ out ∨ x = o := by
  unfold visit
  split
  · rename_i ho
    exact ⟨Or.inl, fun h => h.elim id (fun e => e ▸ ho)⟩
  · simp

theorem visit_ordered {deps : α → List α} {out : List α} {o : α}
    (h : DepOrdered deps out) (ho : ∀ d ∈ deps o, d ∈ out) : DepOrdered deps (visit out o) := by
  unfold visit
  split
  · exact h
  · exact depOrdered_concat h ho

theorem step_inv {deps : α → List α} {input : List α} (hns : NoSelf deps) (hcl : Closed deps input)
    {s s' : TS α} (hi : Inv deps input s) (hs : step deps s = some s') : Inv deps input s' := by
  obtain ⟨stack, todo, out⟩ := s
  obtain ⟨hnd, hord, hout, hstk, pre, hpre, hcons⟩ := hi
  dsimp only at hnd hord hout hstk hpre hcons
  cases stack with
  | nil =>
    cases todo with
    | nil => simp [step] at hs
    | cons o todo' =>
      -- the outer `for` takes `o`, which joins the consumed prefix: already output, or now on the stack
      have hpre' : input = (pre ++ [o]) ++ todo' := by rw [hpre, List.append_assoc]; rfl
      simp only [step] at hs
      split at hs <;> cases hs
      · exact ⟨hnd, hord, hout, hstk, _, hpre',
          List.forall_mem_append.mpr ⟨hcons, List.forall_mem_singleton.mpr (Or.inl ‹o ∈ out›)⟩⟩
      · exact ⟨hnd, hord, hout, by simp [hpre], _, hpre', List.forall_mem_append.mpr
          ⟨fun x hx => (hcons x hx).imp_right nofun, List.forall_mem_singleton.mpr (Or.inr (List.mem_singleton_self o))⟩⟩
  | cons o rest =>
    have hoin : o ∈ input := hstk o (by simp)
    simp only [step] at hs
    split at hs
    · -- nothing pushed: every dependency of `o` is output, `o` is popped and output
      rename_i hnil
      have hall := pushed_eq_nil.mp (List.reverse_eq_nil_iff.mp hnil)
      cases hs
      refine ⟨visit_nodup hnd, visit_ordered hord hall, ?_, fun x hx => hstk x (List.mem_cons_of_mem _ hx),
        pre, hpre, fun x hx => ?_⟩
      · simpa [mem_visit, or_imp, forall_and, hoin] using hout
      · rcases hcons x hx with h | h
        · exact Or.inl (mem_visit.mpr (Or.inl h))
        · exact (List.mem_cons.mp h).imp (fun h => mem_visit.mpr (Or.inr h)) id
    · rename_i t ts hrev
      have htmem : ∀ c ∈ t :: ts, c ∈ deps o ∧ c ∉ out :=
        fun c hc => mem_pushed.mp (List.mem_reverse.mp (hrev ▸ hc))
      split at hs
      · -- the child pushed last is `o`: a self-dependency
        rename_i hto
        exact absurd (hto ▸ (htmem t (by simp)).1) (hns o)
      · cases hs
        exact ⟨hnd, hord, hout, List.forall_mem_append.mpr ⟨fun x hx => hcl o hoin x (htmem x hx).1, hstk⟩,
          pre, hpre, fun x hx => (hcons x hx).imp_right (List.mem_append_right _)⟩

theorem run_inv {deps : α → List α} {input : List α} (hns : NoSelf deps) (hcl : Closed deps input)
    (f : Nat) (s : TS α) (hi : Inv deps input s) : Inv deps input (run deps f s).1 := by
  fun_induction run deps f s with
  | case1 s => exact hi
  | case2 f s hs => exact hi
  | case3 f s s' hs ih => exact ih (step_inv hns hcl hi hs)

theorem step_none {deps : α → List α} {s : TS α} (h : step deps s = none) : s.stack = [] ∧ s.todo = [] := by
  obtain ⟨stack, todo, out⟩ := s
  cases stack with
  | nil =>
    cases todo with
    | nil => exact ⟨rfl, rfl⟩
    | cons o t => simp only [step] at h; split at h <;> cases h
  | cons o rest =>
    simp only [step] at h
    split at h
    · cases h
    · split at h <;> cases h

theorem run_finished {deps : α → List α} (f : Nat) (s : TS α) (h : (run deps f s).2 = true) :
    step deps (run deps f s).1 = none := by
  fun_induction run deps f s with
  | case1 s => simpa using h
  | case2 f s hs => exact hs
  | case3 f s s' hs ih => exact ih h

theorem run_sorted (deps : α → List α) (todo out : List α) (k : Nat)
    (hord : DepOrdered deps (out ++ todo)) (hnd : (out ++ todo).Nodup) :
    run deps (2 * todo.length + k) ⟨[], todo, out⟩ = (⟨[], [], out ++ todo⟩, true) := by
  induction todo generalizing out with
  | nil => cases k <;> simp [run, step]
  | cons o t ih =>
    -- two steps: `o` goes to the stack, then, its dependencies being output, to the output
    have ho : o ∉ out := fun h => (List.nodup_append.mp hnd).2.2 o h o (by simp) rfl
    have hp : pushed deps out o = [] := pushed_eq_nil.mpr (hord out o t rfl)
    have := ih (out ++ [o]) (by simpa using hord) (by simpa using hnd)
    rw [show 2 * (o :: t).length + k = (2 * t.length + k) + 1 + 1 by simp; omega]
    simpa [run, step, ho, hp, visit] using this

theorem run_mono (deps : α → List α) (f k : Nat) (s : TS α) (h : (run deps f s).2 = true) :
    run deps (f + k) s = run deps f s := by
  fun_induction run deps f s with
  | case1 s => cases k <;> simp_all [run]
  | case2 f s hs => rw [Nat.succ_add, run, hs]
  | case3 f s s' hs ih => rw [Nat.succ_add, run, hs]; exact ih h

theorem depOrderedFrom_iff (deps : α → List α) (seen l : List α) :
    depOrderedFrom deps seen l = true ↔
      ∀ pre x post, l = pre ++ x :: post → ∀ d ∈ deps x, d ∈ seen ++ pre := by
  induction l generalizing seen with
  | nil => simp [depOrderedFrom]
  | cons y r ih =>
    simp only [depOrderedFrom, Bool.and_eq_true, List.all_eq_true, decide_eq_true_eq, ih]
    constructor
    · rintro ⟨h1, h2⟩ (_ | ⟨p, pre⟩) x post heq <;> cases heq
      · rwa [List.append_nil]
      · exact List.append_assoc seen [y] pre ▸ h2 pre x post rfl
    · exact fun h => ⟨fun d hd => List.append_nil seen ▸ h [] y r rfl d hd,
        fun pre x post e => List.append_assoc seen [y] pre ▸ h (y :: pre) x post (e ▸ rfl)⟩

theorem depOrderedB_iff (deps : α → List α) (l : List α) :
    depOrderedB deps l = true ↔ DepOrdered deps l := by
  simp [depOrderedB, depOrderedFrom_iff, DepOrdered]

end Spydr.IO.Topo

namespace Spydr.IO
open Topo
variable {α : Type} [DecidableEq α]

/-- T `toposort_ok`: when the loops end, the output is a permutation of the input in which every
    element comes after all of its dependencies — for every iteration order of the dependency sets.
    (Termination: `toposort_finishes`; the driver also reports the flag.) -/
theorem toposort_ok (deps : α → List α) (input : List α) (fuel : Nat)
    (hns : NoSelf deps) (hcl : Closed deps input) (hnd : input.Nodup)
    (hfin : (toposort deps fuel input).2 = true) :
    TopoOrder deps input (toposort deps fuel input).1 := by
  obtain ⟨hnd', hord, hout, _, pre, hpre, hcons⟩ := run_inv hns hcl fuel (init input) (inv_init deps input)
  obtain ⟨hstk, htodo⟩ := step_none (run_finished fuel (init input) hfin)
  refine ⟨(List.perm_ext_iff_of_nodup hnd' hnd).mpr fun a => ⟨hout a, fun ha => ?_⟩, hord⟩
  rw [hpre, htodo, List.append_nil] at ha
  simpa [hstk] using hcons a ha

/-- T `toposort_fixpoint`: a dependency-ordered list is returned unchanged (and within 2·n steps),
    whatever the iteration order of the sets. -/
theorem toposort_fixpoint (deps : α → List α) (l : List α) (fuel : Nat)
    (hord : DepOrdered deps l) (hnd : l.Nodup) (hfuel : 2 * l.length ≤ fuel) :
    toposort deps fuel l = (l, true) := by
  obtain ⟨k, rfl⟩ := Nat.exists_eq_add_of_le hfuel
  have := run_sorted deps l [] k (by simpa using hord) (by simpa using hnd)
  simp [toposort, init, this]

end Spydr.IO
