/-
  C15 — rejected input fails cleanly and leaves no process-wide residue.
  Property theorems only (policy discipline part; the EDIF reference-resolution part is in
  Props/C15Resolve.lean).  Model: Spydr/IO/ModelRead.lean, spec: Spydr/IO/SpecRead.lean.
-/
import Spydr.IO.ModelRead
import Spydr.IO.SpecRead
namespace Spydr.IO

variable {ρ ε α ι : Type}

/-- T `read_policy_restored`, the two readers that switch the policy (EDIF, Verilog): whatever the
    parse body does — succeed, raise at any point, even assign the policy itself — the policy after
    `parse()` is the policy before it. -/
theorem read_policy_restored_switching (f : Fmt) (hf : switchOf f ≠ none) (body : Call ρ ε α) :
    PolicyClean (read f body) := by
  intro s
  cases f
  · simp [read, switchOf, withPolicy]
  · simp [read, switchOf, withPolicy]
  · exact absurd rfl hf

/-- All three formats.  For EBLIF (no switch) the body is policy-read-only BY ASSUMPTION (`ReadOnly`:
    the source never names `namespace_manager`; re-checked syntactically and by the trajectory
    correspondence on every run) and the clause is immediate — it is not a result about the EBLIF
    parse body. -/
theorem read_policy_restored (f : Fmt) (body : Call ρ ε α)
    (h : switchOf f = none → ReadOnly body) : PolicyClean (read f body) := by
  intro s
  cases f
  · exact read_policy_restored_switching .edif (by simp [switchOf]) body s
  · exact read_policy_restored_switching .verilog (by simp [switchOf]) body s
  · obtain ⟨b, rfl⟩ := h rfl
    rfl

/-- The model is not a constant: the outcome (return value or error) is the body's, run under the
    switched policy; and everything but the policy is what the body left. -/
theorem read_outcome (f : Fmt) (body : Call ρ ε α) (s : Proc ρ) :
    (read f body s).2 = (body { s with policy := (switchOf f).getD s.policy }).2 ∧
    (read f body s).1.rest = (body { s with policy := (switchOf f).getD s.policy }).1.rest := by
  cases f <;> simp [read, switchOf, withPolicy]

/-- Non-vacuity: a body that fails half-way after scribbling over the policy; all three readers. -/
example : ∀ f : Fmt, f ≠ .eblif →
    (read (ρ := Nat) (ε := String) (α := Unit) f
      (fun s => ({ policy := .edif, rest := s.rest + 1 }, .error "unexpected token"))
      { policy := .default, rest := 0 }).1.policy = .default := by
  intro f hf; cases f <;> simp_all [read, switchOf, withPolicy]

/-- The defect at the pinned commit, as a theorem about the unrepaired control flow: there is a body
    and a start state for which the policy is NOT restored (EDIF: a failing parse started under
    DEFAULT leaves EDIF; Verilog: a failing parse started under EDIF leaves DEFAULT). -/
theorem unrepaired_leaks :
    (∃ (body : Call Unit String Unit) (s : Proc Unit), (readUnrepaired .edif body s).1.policy ≠ s.policy) ∧
    (∃ (body : Call Unit String Unit) (s : Proc Unit), (readUnrepaired .verilog body s).1.policy ≠ s.policy) := by
  refine ⟨⟨fun s => (s, .error "x"), ⟨.default, ()⟩, ?_⟩, ⟨fun s => (s, .error "x"), ⟨.edif, ()⟩, ?_⟩⟩ <;>
    simp [readUnrepaired, switchOf, withPolicyUnrepaired]

/-- Bodies of readers that do not switch the policy are policy-read-only (assumption, see `ReadOnly`). -/
def NeutralBodies (body : Fmt → ι → Call ρ ε α) : Prop :=
  ∀ f i, switchOf f = none → ReadOnly (body f i)

theorem step_parse_policy (body : Fmt → ι → Call ρ ε α) (hb : NeutralBodies body)
    (s : Proc ρ) (f : Fmt) (i : ι) : (step read body s (.parse f i)).1.policy = s.policy := by
  simpa [step] using read_policy_restored f (body f i) (hb f i) s

theorem policy_constant (body : Fmt → ι → Call ρ ε α) (hb : NeutralBodies body)
    (h : List (Op ι)) (hno : ∀ o ∈ h, ∀ p, o ≠ .setPolicy p) (s : Proc ρ) :
    (run read body s h).1.policy = s.policy ∧ ∀ q ∈ trajectory read body s h, q = s.policy := by
  induction h generalizing s with
  | nil => exact ⟨rfl, nofun⟩
  | cons o os ih =>
    have hstep : (step read body s o).1.policy = s.policy := by
      cases o with
      | parse f i => exact step_parse_policy body hb s f i
      | create => rfl
      | setPolicy p => exact absurd rfl (hno _ List.mem_cons_self p)
    obtain ⟨h1, h2⟩ := ih (fun o ho => hno o (List.mem_cons_of_mem _ ho)) (step read body s o).1
    exact ⟨h1.trans hstep, List.forall_mem_cons.mpr ⟨hstep, fun q hq => (h2 q hq).trans hstep⟩⟩

/-- T (history form of `read_policy_restored`): in a history made of parses (of valid or rejected
    input, in any of the formats) and policy-observing edits, the policy component of the process state
    is invariant. -/
theorem run_policy_invariant (body : Fmt → ι → Call ρ ε α) (hb : NeutralBodies body)
    (h : List (Op ι)) (hno : ∀ o ∈ h, ∀ p, o ≠ .setPolicy p) (s : Proc ρ) :
    (run read body s h).1.policy = s.policy :=
  (policy_constant body hb h hno s).1

theorem trajectory_constant (body : Fmt → ι → Call ρ ε α) (hb : NeutralBodies body)
    (h : List (Op ι)) (hno : ∀ o ∈ h, ∀ p, o ≠ .setPolicy p) (s : Proc ρ) :
    ∀ q ∈ trajectory read body s h, q = s.policy :=
  (policy_constant body hb h hno s).2

/-- Two process states with the same policy are indistinguishable for policy-only bodies. -/
def PolicyOnlyBodies (body : Fmt → ι → Call ρ ε α) : Prop :=
  ∀ f i, PolicyOnly (body f i)

theorem read_policyOnly (f : Fmt) (body : Call ρ ε α) (hp : PolicyOnly body)
    (s t : Proc ρ) (hst : s.policy = t.policy) : (read f body s).2 = (read f body t).2 := by
  cases f
  · simp only [read, switchOf, withPolicy]; exact hp _ _ rfl
  · simp only [read, switchOf, withPolicy]; exact hp _ _ rfl
  · simp only [read, switchOf]; exact hp _ _ hst

theorem step_congr (body : Fmt → ι → Call ρ ε α) (hb : NeutralBodies body) (hp : PolicyOnlyBodies body)
    (o : Op ι) (s t : Proc ρ) (hst : s.policy = t.policy) :
    (step read body s o).2 = (step read body t o).2 ∧
    (step read body s o).1.policy = (step read body t o).1.policy := by
  cases o with
  | parse f i =>
    exact ⟨congrArg Obs.parsed (read_policyOnly f _ (hp f i) s t hst),
      by rw [step_parse_policy body hb, step_parse_policy body hb, hst]⟩
  | create => exact ⟨congrArg Obs.created hst, hst⟩
  | setPolicy p => exact ⟨rfl, rfl⟩

theorem run_congr (body : Fmt → ι → Call ρ ε α) (hb : NeutralBodies body) (hp : PolicyOnlyBodies body)
    (h : List (Op ι)) (s t : Proc ρ) (hst : s.policy = t.policy) :
    (run read body s h).2 = (run read body t h).2 ∧
    (run read body s h).1.policy = (run read body t h).1.policy := by
  induction h generalizing s t with
  | nil => exact ⟨rfl, hst⟩
  | cons o os ih =>
    obtain ⟨h2, h1⟩ := step_congr body hb hp o s t hst
    obtain ⟨a, b⟩ := ih _ _ h1
    exact ⟨by simp only [run]; rw [a, h2], b⟩

theorem run_append (rd : Fmt → Call ρ ε α → Call ρ ε α) (body : Fmt → ι → Call ρ ε α)
    (s : Proc ρ) (h1 h2 : List (Op ι)) :
    run rd body s (h1 ++ h2) =
      ((run rd body (run rd body s h1).1 h2).1, (run rd body s h1).2 ++ (run rd body (run rd body s h1).1 h2).2) := by
  induction h1 generalizing s with
  | nil => simp [run]
  | cons o os ih => simp [run, ih]

/-- T `fresh_process` ("any later parse or edit in the same process behaves exactly as in a fresh
    process"): after ANY prefix of parses — accepted or rejected, any format — every later call (parse
    results included, for bodies that depend on the process through the policy only) observes exactly
    what it would observe had the prefix never run. -/
theorem fresh_process (body : Fmt → ι → Call ρ ε α) (hb : NeutralBodies body) (hp : PolicyOnlyBodies body)
    (h1 h2 : List (Op ι)) (hpar : ∀ o ∈ h1, o.isParse = true) (s : Proc ρ) :
    (run read body (run read body s h1).1 h2).2 = (run read body s h2).2 ∧
    (run read body s (h1 ++ h2)).1.policy = (run read body s h2).1.policy := by
  have hpol : (run read body s h1).1.policy = s.policy := by
    apply run_policy_invariant body hb
    intro o ho p heq
    have := hpar o ho
    rw [heq] at this
    simp [Op.isParse] at this
  obtain ⟨a, b⟩ := run_congr body hb hp h2 _ s hpol
  refine ⟨a, ?_⟩
  rw [run_append]; exact b

/-- T `parses_invisible`: without any assumption on how bodies use the rest of the state, the policy
    after a history and everything `create` observed are those of the same history with all parses
    erased. -/
theorem parses_invisible (body : Fmt → ι → Call ρ ε α) (hb : NeutralBodies body)
    (h : List (Op ι)) (s : Proc ρ) :
    ∀ t : Proc ρ, t.policy = s.policy →
    (run read body s h).1.policy = (run read body t (h.filter (fun o => !o.isParse))).1.policy ∧
    createdOf (run read body s h).2 = createdOf (run read body t (h.filter (fun o => !o.isParse))).2 := by
  induction h generalizing s with
  | nil => intro t ht; exact ⟨ht.symm, rfl⟩
  | cons o os ih =>
    intro t ht
    cases o with
    | parse f i => exact ih (step read body s (.parse f i)).1 t (by rw [ht, step_parse_policy body hb])
    | create =>
      obtain ⟨a, b⟩ := ih s t ht
      exact ⟨a, show s.policy :: _ = t.policy :: _ by rw [ht]; exact congrArg _ b⟩
    | setPolicy p => exact ih { s with policy := p } { t with policy := p } rfl

/-- Non-vacuity: a history mixing a failing EDIF parse, a succeeding Verilog parse, an EBLIF parse and
    edits; bodies that really use the policy. -/
example :
    let body : Fmt → Nat → Call Nat String Policy := fun _ i s =>
      ({ s with rest := s.rest + 1 }, if i % 2 = 0 then .ok s.policy else .error "bad token")
    createdOf (run read body ⟨.default, 0⟩
      [.parse .edif 1, .create, .parse .verilog 2, .setPolicy .edif, .parse .verilog 3, .create, .parse .eblif 5]).2
      = [.default, .edif] := by
  decide +kernel

end Spydr.IO
