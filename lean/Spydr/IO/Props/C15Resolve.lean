/-
  C15 — "EDIF references to cells, ports, instances or libraries that were never declared … are
  always rejected"; what is accepted is self-contained.
  Model: Spydr/IO/ModelResolve.lean (`resolve`); spec: Spydr/IO/SpecResolve.lean — the scoping rules
  as a positions-only visibility fold `visAt` and the declarative `RefOk` (bound to that scope, first
  match in declaration order).  Together the theorems pin `resolve` exactly:
      (∃ rs, resolve evs = ok rs) ↔ wellScoped evs,   and every (k, r) ∈ rs is THE r with RefOk evs k r.
-/
import Spydr.IO.LemmasResolve
namespace Spydr.IO
open Resolve

/-- T `resolved_declared`: if the resolver accepts the stream, every resolution is the one the scoping
    rules prescribe (`RefOk`): an instance's cell is the first cell of that name among the CLOSED cells
    of the library its libraryRef names (current library by name or by default, else the first closed
    library of that name) — or the enclosing cell for a bare viewRef — with the named view; a portRef
    without instanceRef is a port of the ENCLOSING cell; with instanceRef, the instance is the first of
    that name declared so far IN THE SAME contents and the port belongs to the cell that very instance
    refers to; the port is the first of that name and the member index is inside it; the design's cell
    is the first of that name in the first closed library of that name.  Hence self-contained. -/
theorem resolved_declared (evs : List Ev) (rs : List (Nat × RRef)) (h : resolve evs = .ok rs) :
    ∀ kr ∈ rs, RefOk evs kr.1 kr.2 :=
  (go_sound evs [] evs rfl Scope.empty (inv_init evs) rs h).1

/-- no reference is skipped: the resolutions are those of the reference events, in order -/
theorem resolve_complete (evs : List Ev) (rs : List (Nat × RRef)) (h : resolve evs = .ok rs) :
    rs.map (·.1) = refPositions 0 evs :=
  (go_sound evs [] evs rfl Scope.empty (inv_init evs) rs h).2.1

theorem resolved_ref {evs : List Ev} {rs : List (Nat × RRef)} {k : Nat} {e : Ev} (h : resolve evs = .ok rs)
    (he : evs[k]? = some e) (hr : isRef e = true) : ∃ r, RefOk evs k r := by
  have hk := mem_refPositions evs 0 k e he hr
  rw [Nat.zero_add, ← resolve_complete evs rs h] at hk
  obtain ⟨kr, hkr, rfl⟩ := List.mem_map.mp hk
  exact ⟨kr.2, resolved_declared evs rs h kr hkr⟩

/-- T `out_of_scope_rejected`: a reference for which the scoping rules allow NO resolution — its name
    has no declaration visible at that point (declared nowhere, or only in another cell / another
    library / later / in a library not yet closed), the view does not match, the member index is out of
    range — makes the resolver reject the stream. -/
theorem out_of_scope_rejected (evs : List Ev) (k : Nat) (e : Ev) (he : evs[k]? = some e) (hr : isRef e = true)
    (hno : ¬ ∃ r, RefOk evs k r) : ∃ err, resolve evs = .error err := by
  cases hres : resolve evs with
  | error err => exact ⟨err, rfl⟩
  | ok rs => exact absurd (resolved_ref hres he hr) hno

/-- T `wellScoped_accepted`: conversely, a properly nested stream in which the rules allow a resolution
    for every reference is accepted. -/
theorem wellScoped_accepted (evs : List Ev) (h : wellScoped evs) : ∃ rs, resolve evs = .ok rs :=
  go_complete evs h.1 h.2 [] evs rfl Scope.empty (inv_init evs)

theorem resolve_iff_wellScoped (evs : List Ev) : (∃ rs, resolve evs = .ok rs) ↔ wellScoped evs := by
  refine ⟨?_, wellScoped_accepted evs⟩
  rintro ⟨rs, h⟩
  exact ⟨fun k hk => by simpa using (go_sound evs [] evs rfl Scope.empty (inv_init evs) rs h).2.2 k hk,
    fun _ _ he hr => resolved_ref h he hr⟩

/-- the rules prescribe at most one resolution: with the theorems above, `resolve` is determined exactly -/
theorem resolution_unique (evs : List Ev) (k : Nat) (r r' : RRef) (h : RefOk evs k r) (h' : RefOk evs k r') :
    r = r' := by
  cases r with
  | cell d =>
    have ⟨_, _, _, _, _, he, _⟩ := h
    cases r' with
    | cell d' => rw [CellRefOk.unique h h']
    | _ => cases h'.kind he
  | top d =>
    obtain ⟨cn, ln, v, q, cells, h1, h2, h3, h4⟩ := h
    cases r' with
    | top d' =>
      obtain ⟨cn', ln', v', q', cells', h1', h2', h3', h4'⟩ := h'
      cases h1.symm.trans h1'
      cases h2.symm.trans h2'
      cases h3.unique h3'
      rw [h4.unique h4']
    | _ => cases h'.kind h1
  | pin c port bit ia =>
    obtain ⟨pid, m, io, v, cc, is, h1, h2, h3, h4, ps, pd, h5, h6, h7, _⟩ := h
    cases r' with
    | pin c' port' bit' ia' =>
      obtain ⟨pid', m', io', v', cc', is', h1', h2', h3', h4', ps', pd', h5', h6', h7', _⟩ := h'
      cases h1.symm.trans h1'
      cases h2.symm.trans h2'
      cases h3.symm.trans h3'
      -- the owner: the enclosing cell, or what the first instance of that name refers to
      have hc : c = c' ∧ ia = ia' := by
        cases io <;> cases ia <;> try exact h4.elim
        all_goals cases ia' <;> try exact h4'.elim
        · exact ⟨h4.trans h4'.symm, rfl⟩
        · cases h4.1.unique h4'.1
          exact ⟨h4.2.unique h4'.2, rfl⟩
      obtain ⟨rfl, rfl⟩ := hc
      cases h5.symm.trans h5'
      obtain ⟨rfl, _⟩ := h6.unique h6'
      rw [h7, h7']
    | _ => cases h'.kind h1

theorem mem_filterMap_lower {evs : List Ev} {f : Ev → Option String} {k : Nat} {e : Ev} {i n : String}
    (he : evs[k]? = some e) (hf : f e = some i.toLower) (hn : eqI i n = true) :
    n.toLower ∈ evs.filterMap f :=
  eqI_lower hn ▸ List.mem_filterMap.mpr ⟨e, List.mem_of_getElem? he, hf⟩

theorem mem_declaredCells {evs : List Ev} {n : String} {d : Nat} (h : CellNamed evs n d) :
    n.toLower ∈ declaredCells evs :=
  let ⟨_, _, _, he, hn⟩ := h; mem_filterMap_lower he rfl hn

theorem mem_declaredLibs {evs : List Ev} {n : String} {p : Nat} (h : LibNamed evs n p) :
    n.toLower ∈ declaredLibs evs :=
  let ⟨_, he, hn⟩ := h; mem_filterMap_lower he rfl hn

theorem mem_declaredInsts {evs : List Ev} {n : String} {a : Nat} (h : InstNamed evs n a) :
    n.toLower ∈ declaredInsts evs :=
  let ⟨_, _, _, _, he, hn⟩ := h; mem_filterMap_lower he rfl hn

theorem mem_declaredViews {evs : List Ev} {n : String} {d : Nat} (h : ViewIs evs n d) :
    n.toLower ∈ declaredViews evs :=
  let ⟨_, _, _, he, hn⟩ := h; mem_filterMap_lower he rfl hn

theorem mem_declaredPorts {evs : List Ev} {c k : Nat} {ps : List PortDecl} {pid : String} {pd : PortDecl}
    (hps : portsOf evs c = some ps) (h : FirstPort ps pid k pd) : pid.toLower ∈ declaredPorts evs := by
  unfold portsOf at hps
  split at hps <;> cases hps
  next hc =>
    rw [← eqI_lower h.2.1]
    exact List.mem_flatMap.mpr ⟨_, List.mem_of_getElem? hc, List.mem_map.mpr ⟨pd, List.mem_of_getElem? h.1, rfl⟩⟩

theorem libCells_declared {evs : List Ev} {v : Vis} {ln : String} {cells : List Nat}
    (h : LibCells evs v (some ln) cells) : ln.toLower ∈ declaredLibs evs := by
  obtain ⟨p, cs, _, ⟨hn, _⟩ | ⟨_, q, hq⟩⟩ := h
  · exact mem_declaredLibs hn
  · exact mem_declaredLibs hq.mem.2

theorem refOk_declared (evs : List Ev) (k : Nat) (e : Ev) (he : evs[k]? = some e) (r : RRef)
    (h : RefOk evs k r) : undeclared evs e = false := by
  cases r with
  | cell d =>
    obtain ⟨iid, iv, co, lo, v, h1, _, hview, hm⟩ := h
    cases he.symm.trans h1
    cases co with
    | none => simp [undeclared, mem_declaredViews hview]
    | some cn =>
      obtain ⟨cells, hl, hf⟩ := hm
      cases lo with
      | none => simp [undeclared, mem_declaredViews hview, mem_declaredCells hf.mem.2]
      | some ln => simp [undeclared, mem_declaredViews hview, mem_declaredCells hf.mem.2, libCells_declared hl]
  | pin c port bit ia =>
    obtain ⟨pid, m, io, v, cc, is, h1, _, _, h4, ps, pd, h5, h6, _, _⟩ := h
    cases he.symm.trans h1
    cases io with
    | none => simp [undeclared, mem_declaredPorts h5 h6]
    | some iname =>
      cases ia with
      | none => exact h4.elim
      | some a => simp [undeclared, mem_declaredPorts h5 h6, mem_declaredInsts h4.1.mem.2]
  | top d =>
    obtain ⟨cn, ln, v, q, cells, h1, _, h3, h4⟩ := h
    cases he.symm.trans h1
    simp [undeclared, mem_declaredCells h4.mem.2, mem_declaredLibs h3.mem.2]

/-- T `dangling_rejected` (the coarse form): a stream in which some cellRef / libraryRef / viewRef /
    portRef / instanceRef / design target names an identifier declared nowhere in the file is rejected. -/
theorem dangling_rejected (evs : List Ev) (h : hasUndeclared evs = true) : ∃ e, resolve evs = .error e := by
  simp only [hasUndeclared, List.any_eq_true] at h
  obtain ⟨e, hmem, hu⟩ := h
  obtain ⟨k, hk⟩ := List.getElem?_of_mem hmem
  have hr : isRef e = true := by
    cases e <;> simp [undeclared] at hu <;> rfl
  apply out_of_scope_rejected evs k e hk hr
  rintro ⟨r, hr'⟩
  rw [refOk_declared evs k e hk r hr'] at hu
  cases hu

/-! non-vacuity (symbolic in the identifiers, so that no string evaluation is needed):
    a two-library file — a primitive with a 2-bit port, a module instantiating it through
    `(viewRef v (cellRef c (libraryRef l)))`, a `(portRef (member p 1) (instanceRef u))`, a design — is
    accepted with the expected resolution; a cellRef to a name that is not a declared cell is rejected;
    an instanceRef to an instance that exists only in ANOTHER cell is rejected. -/
example (l l2 c t v u p : String) (h : l2.toLower ≠ l.toLower) :
    resolve [.lib l, .cell c v [⟨p, 2⟩], .endCell, .endLib,
             .lib l2, .cell t v [], .inst u v (some c) (some l), .portRef p (some 1) (some u), .endCell, .endLib,
             .design t l2]
      = .ok [(6, .cell 1), (7, .pin 1 0 1 (some 6)), (10, .top 5)] := by
  have h' : ¬ l.toLower = l2.toLower := fun e => h e.symm
  simp only [resolve, go, stepEv, Scope.empty, Nat.zero_add, List.nil_append, Nat.reduceAdd, resolveTarget,
    targetCells, isLibNamed, List.length_cons, List.length_nil, Nat.reduceLT, getElem?_pos, List.getElem_cons_succ,
    List.getElem_cons_zero, eqI, beq_iff_eq, h, ↓reduceIte, Nat.zero_lt_succ, BEq.rfl, List.find?_cons_of_pos, pickCell,
    isCellNamed, viewIs, ownerOf, isInstNamed, pickPort, portsOf, findPort, Option.getD_some, Nat.lt_add_one,
    List.cons_append, pickTop, h', not_false_eq_true, List.find?_cons_of_neg]

example (l c v u x : String) (h : x.toLower ≠ c.toLower) :
    ∃ e, resolve [.lib l, .cell c v [], .inst u v (some x) none, .endCell, .endLib] = .error e := by
  apply dangling_rejected
  simp [hasUndeclared, undeclared, declaredCells, declaredViews, h]

example (l a b v u p : String) :
    resolve [.lib l, .cell a v [⟨p, 1⟩], .inst u v none none, .endCell,
             .cell b v [], .portRef p none (some u), .endCell, .endLib]
      = .error .danglingInstance := by
  simp [resolve, go, stepEv, Scope.empty, resolveTarget, viewIs, ownerOf, eqI]

end Spydr.IO
