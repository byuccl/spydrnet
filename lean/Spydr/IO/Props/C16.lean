/-
  C16 — writing a netlist does not change it (beyond the documented EDIF side effects) and is
  repeatable.  The property theorems, except `toposort_ok`, `toposort_fixpoint` (end of LemmasTopo.lean),
  `toposort_finishes` (LemmasTopoFuel.lean), `edifify_documented_only` and `edifify_keeps_existing`
  (LemmasEdifify.lean, with the predicates `EdifHyp`, `PrePassed`, `KeepElem` they speak of).
  Models: ModelTopo (`_topological_sort`), ModelEdifify (`_edifify_netlist`, the three writers);
  specs: SpecTopo (`TopoOrder`), SpecEdifify (`DocEq`).
  Every theorem is for EVERY oracle (`deps`, `depL`, `depD` = iteration order of the Python sets) and
  every identifier generator `mkId`.
-/
import Spydr.IO.LemmasEdifify
import Spydr.IO.LemmasTopoFuel
namespace Spydr.IO
open Topo

section topo
variable {α : Type} [DecidableEq α]

/-- `toposort_ok` without the `finished` hypothesis: total correctness for acyclic dependencies. -/
theorem toposort_total (deps : α → List α) (input : List α)
    (hac : Acyclic deps) (hcl : Closed deps input) (hnd : input.Nodup) :
    TopoOrder deps input (toposort deps (fuelFor deps input) input).1 := by
  have hns : NoSelf deps := by
    obtain ⟨r, hr⟩ := hac
    intro x hx
    exact Nat.lt_irrefl _ (hr x x hx)
  exact toposort_ok deps input _ hns hcl hnd (toposort_finishes deps input hac hcl)

/-- the order of iteration may even change between the two runs: only membership matters -/
theorem depOrdered_congr (deps deps' : α → List α) (h : ∀ x d, d ∈ deps' x ↔ d ∈ deps x) (l : List α)
    (ho : DepOrdered deps l) : DepOrdered deps' l :=
  fun pre x post heq d hd => ho pre x post heq d ((h x d).mp hd)

/-- T `toposort_idem`: sorting the result again — even with a different iteration order of the same
    sets — gives the same list. -/
theorem toposort_idem (deps deps' : α → List α) (hsame : ∀ x d, d ∈ deps' x ↔ d ∈ deps x)
    (input : List α) (fuel : Nat)
    (hns : NoSelf deps) (hcl : Closed deps input) (hnd : input.Nodup)
    (hfin : (toposort deps fuel input).2 = true) (hfuel : 2 * input.length ≤ fuel) :
    toposort deps' fuel (toposort deps fuel input).1 = ((toposort deps fuel input).1, true) := by
  obtain ⟨hperm, hord⟩ := toposort_ok deps input fuel hns hcl hnd hfin
  apply toposort_fixpoint deps' _ fuel (depOrdered_congr deps deps' hsame _ hord) (hperm.nodup_iff.mpr hnd)
  rw [hperm.length_eq]; exact hfuel

/-- more fuel never changes a finished sort (so "the result of the Python loop" is well defined) -/
theorem toposort_fuel_irrelevant (deps : α → List α) (input : List α) (f k : Nat)
    (hfin : (toposort deps f input).2 = true) : toposort deps (f + k) input = toposort deps f input := by
  simp only [toposort] at hfin ⊢
  rw [run_mono deps f k (init input) hfin]

/-- the executable check the harness runs on the order the implementation chose -/
theorem topoOrderB_iff (deps : α → List α) (input l : List α) :
    topoOrderB deps input l = true ↔ TopoOrder deps input l := by
  simp [topoOrderB, TopoOrder, depOrderedB_iff, List.isPerm_iff]

end topo

/-! non-vacuity: a diamond with a tail, two different iteration orders -/
def exDeps : Nat → List Nat := fun x =>
  if x = 0 then [1, 2] else if x = 1 then [3] else if x = 2 then [3, 1] else []
def exDeps' : Nat → List Nat := fun x =>
  if x = 0 then [2, 1] else if x = 1 then [3] else if x = 2 then [1, 3] else []

example : toposort exDeps 30 [0, 1, 2, 3] = ([3, 1, 2, 0], true) := by decide +kernel
example : toposort exDeps' 30 [0, 1, 2, 3] = ([3, 1, 2, 0], true) := by decide +kernel
example : toposort exDeps (fuelFor exDeps [2, 0, 3, 1]) [2, 0, 3, 1] = ([3, 1, 2, 0], true) := by decide +kernel
example : Acyclic exDeps := ⟨fun x => if x = 0 then 3 else if x = 2 then 2 else if x = 1 then 1 else 0, by
  intro x d hd
  match x with
  | 0 | 1 | 2 | 3 => revert d; decide
  | n + 4 => simp [exDeps] at hd⟩
example : NoSelf exDeps ∧ Closed exDeps [0, 1, 2, 3] ∧ [0, 1, 2, 3].Nodup := by
  refine ⟨fun x => ?_, by unfold Closed; decide, by decide⟩
  match x with
  | 0 | 1 | 2 | 3 => decide
  | n + 4 => simp [exDeps]

/-- the pre-pass terminates on a self-contained netlist with acyclic library and cell dependencies
    (the flag the other theorems assume is then `true`) -/
theorem edifify_finishes (depL : Nat → List Nat) (depD : Nat → Nat → List Nat) (mkId : MkId)
    (fuel : Nat) (n : ENet) (hy : EdifHyp depL depD n)
    (haL : Acyclic depL) (haD : ∀ l ∈ n.libs, Acyclic (depD l.id))
    (hfL : fuelFor depL (n.libs.map (·.id)) ≤ fuel)
    (hfD : ∀ l ∈ n.libs, fuelFor (depD l.id) (l.defs.map (·.id)) ≤ fuel) :
    (edifify depL depD mkId fuel n).2 = true := by
  have fin : ∀ (deps : Nat → List Nat) (input : List Nat), Acyclic deps → Closed deps input →
      fuelFor deps input ≤ fuel → (toposort deps fuel input).2 = true := by
    intro deps input ha hc hf
    obtain ⟨k, rfl⟩ := Nat.exists_eq_add_of_le hf
    rw [toposort_fuel_irrelevant deps input _ k (toposort_finishes deps input ha hc)]
    exact toposort_finishes deps input ha hc
  simp only [edifify, Bool.and_eq_true, List.all_eq_true, List.mem_map, forall_exists_index, and_imp,
    forall_apply_eq_imp_iff₂]
  refine ⟨fin _ _ haL hy.libClosed hfL, ?_⟩
  intro l hl
  have hln : l ∈ n.libs := (mem_reorder _ _ _ l hl).1
  exact fin _ _ (haD l hln) (hy.defClosed l hln) (hfD l hln)

/-- T `edifify_idem`: running the pre-pass on its own result — with any iteration order of the same
    dependency sets and any identifier generator — is the identity. -/
theorem edifify_idem (depL depL' : Nat → List Nat) (depD depD' : Nat → Nat → List Nat) (mkId mkId' : MkId)
    (hL : ∀ x d, d ∈ depL' x ↔ d ∈ depL x) (hD : ∀ l x d, d ∈ depD' l x ↔ d ∈ depD l x)
    (fuel : Nat) (n : ENet) (hy : EdifHyp depL depD n)
    (hfin : (edifify depL depD mkId fuel n).2 = true)
    (hfuelL : 2 * n.libs.length ≤ fuel) (hfuelD : ∀ l ∈ n.libs, 2 * l.defs.length ≤ fuel) :
    edifify depL' depD' mkId' fuel (edifify depL depD mkId fuel n).1 = ((edifify depL depD mkId fuel n).1, true) := by
  have hp := edifify_prepassed depL depD mkId fuel n hy hfin
  have hd := edifify_documented_only depL depD mkId fuel n hy hfin
  have hp' : PrePassed depL' depD' (edifify depL depD mkId fuel n).1 :=
    { hp with
      libOrder := depOrdered_congr depL depL' hL _ hp.libOrder
      defOrder := fun l hl => depOrdered_congr (depD l.id) (depD' l.id) (hD l.id) _ (hp.defOrder l hl) }
  -- the sizes are those of the original netlist
  obtain ⟨ls, hperm, hpa⟩ := hd.2.2.2
  have hsz : ((edifify depL depD mkId fuel n).1.libs.map (·.defs.length)).Perm (n.libs.map (·.defs.length)) := by
    have := pairAll_map_eq (R := SLibEq) (fun x : SLib => x.defs.length) (fun x : SLib => x.defs.length)
      (fun _ _ h => h.2.2.length_eq) hpa ▸ hperm.map (fun x : SLib => x.defs.length)
    simpa only [List.map_map, Function.comp_def, stripLib, List.length_map] using this
  apply edifify_fixpoint depL' depD' mkId' fuel _ hp'
  · rw [← List.length_map (f := (·.defs.length)), hsz.length_eq, List.length_map]; exact hfuelL
  · intro l hl
    obtain ⟨l0, hl0, h⟩ := List.mem_map.mp (hsz.mem_iff.mp (List.mem_map_of_mem hl))
    rw [← h]; exact hfuelD l0 hl0

/-! non-vacuity on a concrete netlist: library `work` (id 1) is listed first but instantiates a cell of
    `prims` (id 2); nothing is named yet and the netlist has no name.  The pre-pass is NOT the identity
    here (libraries swapped, name defaulted, identifiers recorded) and `DocEq` holds. -/
def exNet : ENet :=
  { name := none, data := [], top := ⟨"top", [], "t"⟩,
    libs := [ ⟨1, ⟨"work", [], "L1"⟩, [⟨10, ⟨"m", [], "D10"⟩, [⟨"p", [], "x"⟩], [], [⟨"u0", [], "ref=20"⟩]⟩]⟩,
              ⟨2, ⟨"prims", [], "L2"⟩, [⟨20, ⟨"INV", [], "D20"⟩, [], [], []⟩]⟩ ] }
def exDepL : Nat → List Nat := fun x => if x = 1 then [2] else []
def exDepD : Nat → Nat → List Nat := fun _ _ => []
def exMkId : MkId := fun e _ => e.name

theorem exNet_hyp : EdifHyp exDepL exDepD exNet where
  libIds := by decide
  libNoSelf x := by unfold exDepL; split <;> simp_all
  libClosed := by unfold Closed; decide
  defIds := by decide
  defNoSelf l _ x := by simp [exDepD]
  defClosed := by unfold Closed; decide

example : (edifify exDepL exDepD exMkId 20 exNet).2 = true := by decide +kernel
example : (edifify exDepL exDepD exMkId 20 exNet).1.libs.map (·.id) = [2, 1] := by decide +kernel
example : exNet.libs.map (·.id) = [1, 2] := by decide +kernel
example : (edifify exDepL exDepD exMkId 20 exNet).1.name = some "top" := rfl
example : DocEq (edifify exDepL exDepD exMkId 20 exNet).1 exNet :=
  edifify_documented_only _ _ _ _ _ exNet_hyp (by decide +kernel)
example : ∀ l ∈ (edifify exDepL exDepD exMkId 20 exNet).1.libs, namedLib l :=
  (edifify_prepassed _ _ _ _ _ exNet_hyp (by decide +kernel)).libsNamed
example : ∀ l ∈ exNet.libs, ¬ namedElem l.self := by
  intro l hl; simp [exNet] at hl; rcases hl with rfl | rfl <;> simp [namedElem, dataHas]
example : (edifify exDepL exDepD exMkId 20 exNet).1 ≠ exNet := by
  intro h
  have : (edifify exDepL exDepD exMkId 20 exNet).1.libs.map (·.id) = exNet.libs.map (·.id) := by rw [h]
  revert this; decide +kernel

/-- T `compose_repeatable`: composing the netlist the first composition left behind — immediately or
    after any number of read-only queries, with whatever set iteration order — runs a pre-pass that is
    the identity, so the same pure emission runs on the same netlist: same text (the timestamp is
    outside the model: `datetime.now()`), and the netlist is not changed a second time. -/
theorem compose_repeatable (depL depL' : Nat → List Nat) (depD depD' : Nat → Nat → List Nat) (mkId mkId' : MkId)
    (hL : ∀ x d, d ∈ depL' x ↔ d ∈ depL x) (hD : ∀ l x d, d ∈ depD' l x ↔ d ∈ depD l x)
    (render : ENet → String) (fuel : Nat) (n : ENet) (hy : EdifHyp depL depD n)
    (hfin : (composeEdif depL depD mkId fuel render n).2.2 = true)
    (hfuelL : 2 * n.libs.length ≤ fuel) (hfuelD : ∀ l ∈ n.libs, 2 * l.defs.length ≤ fuel) :
    composeEdif depL' depD' mkId' fuel render (composeEdif depL depD mkId fuel render n).1 =
      composeEdif depL depD mkId fuel render n := by
  have h := edifify_idem depL depL' depD depD' mkId mkId' hL hD fuel n hy hfin hfuelL hfuelD
  have hfin' : (edifify depL depD mkId fuel n).2 = true := hfin
  simp only [composeEdif, h]
  rw [Prod.mk.injEq, Prod.mk.injEq]
  exact ⟨rfl, rfl, hfin'.symm⟩

/-- For Verilog and EBLIF the model writer is a pure function: "unchanged" and "repeatable" hold by
    construction.  Stated so that the claim is explicit; the content for these two formats is in the
    correspondence check. -/
theorem pure_writer_unchanged {Opt : Type} (render : Opt → ENet → String) (o : Opt) (n : ENet) :
    (composePure render o n).1 = n ∧
    composePure render o (composePure render o n).1 = composePure render o n := ⟨rfl, rfl⟩

/-! ### the executable comparison the harness runs on before/after snapshots is sound -/

theorem sLibEqB_sound (a b : SLib) (h : sLibEqB a b = true) : SLibEq a b := by
  simp only [sLibEqB, Bool.and_eq_true, beq_iff_eq, List.isPerm_iff] at h
  exact ⟨h.1.1, h.1.2, h.2⟩

theorem matchLibs_sound (xs ys : List SLib) (h : matchLibs xs ys = true) : LibsEq xs ys := by
  induction xs generalizing ys with
  | nil =>
    have : ys = [] := by simpa [matchLibs] using h
    subst this
    exact ⟨[], List.Perm.refl _, PairAll.nil⟩
  | cons x xs ih =>
    simp only [matchLibs] at h
    split at h
    · cases h
    · rename_i y hf
      obtain ⟨l, hl, hpa⟩ := ih _ h
      have hy : y ∈ ys := List.mem_of_find?_eq_some hf
      refine ⟨y :: l, ?_, PairAll.cons (sLibEqB_sound x y (List.find?_some hf)) hpa⟩
      exact (List.Perm.cons y hl).trans (List.perm_cons_erase hy).symm

theorem docEqB_sound (a b : ENet) (h : docEqB a b = true) : DocEq a b := by
  simp only [docEqB, Bool.and_eq_true, beq_iff_eq] at h
  exact ⟨h.1.1.1, h.1.1.2, h.1.2, matchLibs_sound _ _ h.2⟩

end Spydr.IO
