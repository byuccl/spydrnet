/-
  The written child blocks through the elaborator, at any creation position.  Success and effect are
  kept apart: a block re-reads (`kid_ok`), and a list of them in any order whose written names differ
  (`kids_ok`); a block that was read has created one instance of the same kind with the written data,
  declared exactly `kidJoinsAt` and kept every invariant (`kid_facts`, over a list: `kids_facts`).
-/
import Spydr.Eblif.NetShape

namespace Spydr.Eblif

theorem kidOK_of_shape (o : Opts) (n : BNet) (t : String) (hw : WellNamed n)
    (hcab : ∀ c ∈ n.cables, plainName c.1.2 ∧ c.1.2.toList ≠ []) (k : Inst × Nat) (hki : k ∈ n.insts.zipIdx)
    (hn : k.1.typ ≠ "EBLIF.names") (hl : k.1.typ ≠ "EBLIF.latch") (hs : KidShapeW n k) : KidOK o n t k := by
  unfold KidShapeW at hs
  simp only [hn, hl, if_false] at hs
  obtain ⟨hnd, hpp, _⟩ := hs
  have hi : k.1 ∈ n.insts := mem_zipIdx_fst hki
  obtain ⟨_, hmod, _⟩ := hw.2.2.1 k.1 hi
  obtain ⟨_, hpn, _⟩ := findDef_ok hw hmod
  refine ⟨?_, ?_, hnd⟩
  · intro fa hfa
    obtain ⟨p, hpm, q, hq, hqp, rfl⟩ := mem_connsOf.mp hfa
    exact ⟨p.name, q.2, splitIdx_formalText p q.2 (hpp p hpm).1 (okWord_nonempty (hpn p hpm)) ((hpp p hpm).2 q hq hqp)⟩
  · intro fa hfa
    obtain ⟨p, _, q, _, _, rfl⟩ := mem_connsOf.mp hfa
    exact splitIdx_netText_ok n _ hcab

theorem output_in_take (m : Nat) (h2 : 2 ≤ m) (h5 : m ≤ 5) : "output" ∈ latchOrder.take m := by
  have : m = 2 ∨ m = 3 ∨ m = 4 ∨ m = 5 := by omega
  rcases this with rfl | rfl | rfl | rfl <;> decide

theorem kid_ok (o : Opts) (n : BNet) (t : String) (hw : WellNamed n)
    (hcab : ∀ c ∈ n.cables, plainName c.1.2 ∧ c.1.2.toList ≠ []) (k : Inst × Nat) (hki : k ∈ n.insts.zipIdx)
    (hs : KidShapeW n k) (j : Nat) (st : St) (hlen : st.insts.length = j)
    (hx : o.writeCname = true → ∀ j', j' ≠ j → (namesOf st)[j']? ≠ some k.1.name)
    (hstd : k.1.typ = "EBLIF.names" → Std st (k.1.pins.length - 1)) :
    ∃ st', elabStmt st t (stmtOfFull o n k) = Except.ok st' ∧ st'.insts.length = j + 1 ∧
      (o.writeCname = true → namesOf st' = namesOf st ++ [k.1.name]) := by
  rcases kid_cases o n k hs with ⟨hn, hsh, e⟩ | ⟨hn, hl, ⟨_, h2, h5, h4, _⟩, e⟩ | ⟨hn, hl, _, _⟩
  · obtain ⟨hnets, hK⟩ := namesNets_std n k hsh
    rw [e]
    refine names_stmt_ok o k.1 t _ _ st j ?_ ?_ (by rw [hK]; exact hstd hn) hlen hx
    · intro he
      have := congrArg List.length he
      rw [hnets] at this
      simp [std_length] at this
    · intro nt hnt
      rw [namesNets_eq] at hnt
      obtain ⟨q, _, rfl⟩ := List.mem_map.mp hnt
      exact splitIdx_netText_ok n _ hcab
  · rw [e]
    refine latch_stmt_ok o k.1 t _ st j ?_ ?_ hlen hx
    · rw [latchToks_eq, h4, List.map_map, zip_take_map]
      exact Option.isSome_iff_exists.mp (List.find?_isSome.mpr
        ⟨_, List.mem_map.mpr ⟨"output", output_in_take _ h2 h5, rfl⟩, by simp⟩)
    · intro tk htk
      rw [latchToks_eq] at htk
      obtain ⟨q, _, rfl⟩ := List.mem_map.mp htk
      exact splitIdx_netText_ok n _ hcab
  · rw [stmtOfFull_sub o n k hn hl]
    exact stmtOf_ok_at o n t k (kidOK_of_shape o n t hw hcab k hki hn hl hs) j st hlen hx

theorem isInst_full (o : Opts) (n : BNet) (k : Inst × Nat) : Stmt.isInstance (stmtOfFull o n k) = true := by
  unfold stmtOfFull; split
  · rfl
  · split <;> rfl

theorem stmtInfo_full (o : Opts) (n : BNet) (k : Inst × Nat) : stmtInfo (stmtOfFull o n k) = infoStmts o k.1 := by
  unfold stmtOfFull; split
  · rfl
  · split <;> rfl

theorem full_ne_bb (o : Opts) (n : BNet) (k : Inst × Nat) : stmtOfFull o n k ≠ Stmt.blackbox := by
  intro h
  have := isInst_full o n k
  rw [h] at this
  cases this

theorem stmtModel_full (o : Opts) (n : BNet) (k : Inst × Nat) (hs : KidShapeW n k) :
    stmtModel (stmtOfFull o n k) = k.1.model := by
  rcases kid_cases o n k hs with ⟨_, hsh, e⟩ | ⟨_, _, hsh, e⟩ | ⟨_, _, _, e⟩
  · rw [e, stmtModel, (namesNets_std n k hsh).2, hsh.2.1]
  · rw [e, stmtModel, hsh.1]
  · rw [e, stmtModel]

theorem stmtKind_full (o : Opts) (n : BNet) (t : String) (k : Inst × Nat) (hs : KidShapeW n k) (hp : k.1.parent = t)
    (hty : k.1.typ = "EBLIF.subckt" ∨ k.1.typ = "EBLIF.gate" ∨ k.1.typ = "EBLIF.names" ∨ k.1.typ = "EBLIF.latch") :
    stmtKind t (stmtOfFull o n k) = [kindOf k.1] := by
  have hm := stmtModel_full o n k hs
  rcases kid_cases o n k hs with ⟨hn, _, e⟩ | ⟨_, hl, _, e⟩ | ⟨hn, hl, _, e⟩
  · rw [e] at hm ⊢
    simp only [stmtModel] at hm
    simp only [stmtKind, kindOf, hm, hp, hn]
  · rw [e] at hm ⊢
    simp only [stmtModel] at hm
    simp only [stmtKind, kindOf, hm, hp, hl]
  · rw [e]
    simp only [stmtKind, kindOf, hp]
    rcases hty with h | h | h | h
    · simp [h]
    · simp [h]
    · exact absurd h hn
    · exact absurd h hl

theorem kid_std (o : Opts) (n : BNet) (t : String) (k : Inst × Nat) (hs : KidShapeW n k) {st st' : St}
    (hstd : k.1.typ = "EBLIF.names" → Std st (k.1.pins.length - 1))
    (h : elabStmt st t (stmtOfFull o n k) = Except.ok st') :
    (∀ K, "logic-gate_" ++ natStr K ≠ k.1.model → Std st K → Std st' K) ∧
    (k.1.typ = "EBLIF.names" → Std st' (k.1.pins.length - 1)) := by
  refine ⟨fun K hK hs0 => std_other (isInst_full o n k) (by rw [stmtModel_full o n k hs]; exact hK) hs0 h, fun hn => ?_⟩
  rcases kid_cases o n k hs with ⟨_, hsh, e⟩ | ⟨hn', _⟩ | ⟨hn', _⟩
  · have hK := (namesNets_std n k hsh).2
    rw [e] at h
    have := std_names_self (by rw [hK]; exact hstd hn) h
    rw [hK] at this
    exact Or.inr this
  · exact absurd hn hn'
  · exact absurd hn hn'

/-- the ports of the model being read are kept only if the child does not instantiate it -/
theorem kid_facts (o : Opts) (n : BNet) (t : String) (k : Inst × Nat) (hs : KidShapeW n k) (hp : k.1.parent = t)
    (hty : k.1.typ = "EBLIF.subckt" ∨ k.1.typ = "EBLIF.gate" ∨ k.1.typ = "EBLIF.names" ∨ k.1.typ = "EBLIF.latch")
    (j : Nat) {st st' : St} (hlen : st.insts.length = j)
    (hstd : k.1.typ = "EBLIF.names" → Std st (k.1.pins.length - 1))
    (h : elabStmt st t (stmtOfFull o n k) = Except.ok st') :
    instKinds st' = instKinds st ++ [kindOf k.1] ∧
    (∀ J, Exact st J → Exact st' (J ++ kidJoinsAt n t j k)) ∧
    dataAt st' j = some (infoFold (infoStmts o k.1) (none, [], [])) ∧
    (∀ j', j' < j → dataAt st' j' = dataAt st j') ∧
    st'.alias = st.alias ∧ (LInv st → LInv st') ∧ (t ≠ k.1.model → DefEx st t → Fr t st st') ∧
    (∀ K, "logic-gate_" ++ natStr K ≠ k.1.model → Std st K → Std st' K) ∧
    (k.1.typ = "EBLIF.names" → Std st' (k.1.pins.length - 1)) := by
  have hi := isInst_full o n k
  have hmod := stmtModel_full o n k hs
  refine ⟨?_, ?_, ?_, ?_, alias_elabStmt_inst hi h, fun r => linv_netInv.elabStmt r h,
    fun hne hd => fr_elabStmt_inst hi hd (by rw [hmod]; exact hne) h, (kid_std o n t k hs hstd h).1, (kid_std o n t k hs hstd h).2⟩
  · rw [ik_elabStmt h, stmtKind_full o n t k hs hp hty]
  · intro J e
    have := exact_elabStmt (full_ne_bb o n k) e h
    rw [stmtJoins_kid o n t k j st hlen hs hstd] at this
    exact this
  · have := elabStmt_inst_data hi h
    rw [stmtInfo_full, hlen] at this
    exact this
  · intro j' hj
    exact data_elabStmt_old (by omega) h

theorem lg_inj {a b : Nat} (h : "logic-gate_" ++ natStr a = "logic-gate_" ++ natStr b) : a = b :=
  natStr_inj ((String.append_right_inj "logic-gate_").mp h)

/-- the generated `.names` definitions of `n`'s children are absent or standard -/
def StdKids (n : BNet) (st : St) : Prop := ∀ j ∈ n.insts, j.typ = "EBLIF.names" → Std st (j.pins.length - 1)

theorem names_model (n : BNet) (t : String) (hk : KidsOKW n t) (j : Inst) (hj : j ∈ n.insts) (hn : j.typ = "EBLIF.names") :
    j.model = "logic-gate_" ++ natStr (j.pins.length - 1) := by
  obtain ⟨idx, hidx⟩ := List.getElem?_of_mem hj |>.imp (fun i h => h)
  have hm : (j, idx) ∈ n.insts.zipIdx := List.mem_zipIdx_iff_getElem?.mpr hidx
  exact ((hk _ hm).1.names hn).2.1

theorem stdKids_step (n : BNet) (t : String) (hk : KidsOKW n t) (k : Inst × Nat) (hki : k ∈ n.insts.zipIdx) (st st' : St)
    (h1 : ∀ K, "logic-gate_" ++ natStr K ≠ k.1.model → Std st K → Std st' K)
    (h2 : k.1.typ = "EBLIF.names" → Std st' (k.1.pins.length - 1)) (hs : StdKids n st) : StdKids n st' := by
  intro j hj hjn
  have hjm := names_model n t hk j hj hjn
  by_cases hkn : k.1.typ = "EBLIF.names"
  · have hkm := names_model n t hk k.1 (mem_zipIdx_fst hki) hkn
    by_cases he : j.pins.length - 1 = k.1.pins.length - 1
    · rw [he]; exact h2 hkn
    · refine h1 _ ?_ (hs j hj hjn)
      rw [hkm]
      exact fun e => he (lg_inj e)
  · refine h1 _ ?_ (hs j hj hjn)
    rw [← hjm]
    exact fun e => (hk k hki).2.2.2.2 hkn j hj hjn e.symm

theorem stdKids_kid (o : Opts) (n : BNet) (t : String) (hk : KidsOKW n t) (k : Inst × Nat) (hki : k ∈ n.insts.zipIdx)
    {st st' : St} (hs : StdKids n st) (h : elabStmt st t (stmtOfFull o n k) = Except.ok st') : StdKids n st' := by
  obtain ⟨h1, h2⟩ := kid_std o n t k (hk k hki).1 (fun hn => hs k.1 (mem_zipIdx_fst hki) hn) h
  exact stdKids_step n t hk k hki st st' h1 h2 hs

theorem kids_ok (o : Opts) (n : BNet) (t : String) (hw : WellNamed n)
    (hcab : ∀ c ∈ n.cables, plainName c.1.2 ∧ c.1.2.toList ≠ []) (hk : KidsOKW n t) :
    ∀ (l pre : List (Inst × Nat)), (∀ k ∈ l, k ∈ n.insts.zipIdx) →
      (o.writeCname = true → ((pre ++ l).map (·.1.name)).Nodup) →
    ∀ st : St, st.insts.length = pre.length → (o.writeCname = true → namesOf st = pre.map (·.1.name)) → StdKids n st →
      ∃ st', elabStmts st t (l.map (stmtOfFull o n)) = Except.ok st' := by
  intro l
  induction l with
  | nil => intro pre _ _ st _ _ _; exact ⟨st, rfl⟩
  | cons a r ih =>
    intro pre hmem hnd st hlen hnames hstd
    have hkm : a ∈ n.insts.zipIdx := hmem a (by simp)
    have hx : o.writeCname = true → ∀ j', j' ≠ pre.length → (namesOf st)[j']? ≠ some a.1.name := by
      intro hwc j' hj hs
      rw [hnames hwc] at hs
      have hnd' := hnd hwc
      simp only [List.map_append, List.map_cons] at hnd'
      rw [List.nodup_append] at hnd'
      have hmem' : a.1.name ∈ pre.map (·.1.name) := List.mem_of_getElem? hs
      exact hnd'.2.2 _ hmem' _ (by simp) rfl
    obtain ⟨s1, h1, l1, n1⟩ := kid_ok o n t hw hcab a hkm (hk a hkm).1 pre.length st hlen hx
      (fun hn => hstd a.1 (mem_zipIdx_fst hkm) hn)
    obtain ⟨s2, h2⟩ := ih (pre ++ [a]) (fun k hkm' => hmem k (by simp [hkm']))
      (by intro hwc; simpa [List.append_assoc] using hnd hwc) s1 (by simpa using l1) (by
        intro hwc
        rw [n1 hwc, hnames hwc]; simp) (stdKids_kid o n t hk a hkm hstd h1)
    refine ⟨s2, ?_⟩
    simp only [List.map_cons]
    unfold elabStmts
    rw [h1]; exact h2

theorem kids_facts (o : Opts) (n : BNet) (t : String) (hk : KidsOKW n t)
    (hkids : ∀ i ∈ n.insts, i.parent = t ∧
      (i.typ = "EBLIF.subckt" ∨ i.typ = "EBLIF.gate" ∨ i.typ = "EBLIF.names" ∨ i.typ = "EBLIF.latch")) :
    ∀ (l : List (Inst × Nat)) (m : Nat), (∀ k ∈ l, k ∈ n.insts.zipIdx) →
    ∀ {st st' : St}, st.insts.length = m → StdKids n st →
      elabStmts st t (l.map (stmtOfFull o n)) = Except.ok st' →
        instKinds st' = instKinds st ++ l.map (fun k => kindOf k.1) ∧
        (∀ J, Exact st J → Exact st' (J ++ (l.zipIdx m).flatMap (fun kj => kidJoinsAt n t kj.2 kj.1))) ∧
        (∀ kj ∈ l.zipIdx m, dataAt st' kj.2 = some (infoFold (infoStmts o kj.1.1) (none, [], []))) ∧
        (∀ j, j < m → dataAt st' j = dataAt st j) ∧
        st'.alias = st.alias ∧ (LInv st → LInv st') ∧ ((∀ k ∈ l, t ≠ k.1.model) → DefEx st t → Fr t st st') ∧
        StdKids n st' := by
  intro l
  induction l with
  | nil =>
    intro m _ st st' _ hstd h
    cases h
    exact ⟨by simp, fun J e => by simpa using e, fun kk h => by simp at h, fun _ _ => rfl, rfl, id, fun _ hd => ⟨rfl, hd⟩, hstd⟩
  | cons a r ih =>
    intro m hmem st st' hlen hstd h
    have hkm : a ∈ n.insts.zipIdx := hmem a (by simp)
    have hai : a.1 ∈ n.insts := mem_zipIdx_fst hkm
    obtain ⟨s1, h1, h2⟩ := bind_ok (show (elabStmt st t (stmtOfFull o n a) >>= fun x =>
      elabStmts x t (r.map (stmtOfFull o n))) = _ from h)
    obtain ⟨k1, e1, d1, o1, a1, li1, f1, sd1, sn1⟩ :=
      kid_facts o n t a (hk a hkm).1 (hkids a.1 hai).1 (hkids a.1 hai).2 m hlen (fun hn => hstd a.1 hai hn) h1
    have l1 : s1.insts.length = m + 1 := by
      have := congrArg List.length k1
      simpa [instKinds, hlen] using this
    obtain ⟨k2, e2, d2, o2, a2, li2, f2, hstd2⟩ := ih (m + 1) (fun k hkm' => hmem k (by simp [hkm'])) l1
      (stdKids_step n t hk a hkm st s1 sd1 sn1 hstd) h2
    refine ⟨?_, ?_, ?_, ?_, a2.trans a1, fun r => li2 (li1 r), ?_, hstd2⟩
    · rw [k2, k1]; simp
    · intro J e
      have := e2 _ (e1 J e)
      simpa [List.zipIdx_cons, List.append_assoc] using this
    · intro kk hkk
      simp only [List.zipIdx_cons, List.mem_cons] at hkk
      rcases hkk with rfl | hkk
      · rw [o2 m (by omega)]; exact d1
      · exact d2 kk hkk
    · intro j hj
      rw [o2 j (by omega), o1 j hj]
    · intro hne hd
      have g1 := f1 (hne a (by simp)) hd
      exact Fr.trans g1 (f2 (fun k hk' => hne k (by simp [hk'])) g1.2)

end Spydr.Eblif
