/-
  C18: the parser side for everything the writer emits.
-/
import Spydr.Eblif.WriterParse

namespace Spydr.Eblif

/-- **Parser side, whole output of the writer**: for every netlist whose top model is in `work` and
    whose children are `.subckt`/`.gate`/`.names`/`.latch` instances (`FragFull`: no `=` in port
    names, truth-table rows start with a cover word), the composed lines -- comments, header with
    `.clock`, every instance block (truth-table rows, `.cname/.attr/.param`), `.conn` lines and the
    black-box block -- parse to the explicit AST `astOfFull o n t`. -/
theorem parse_composed_lines_full (o : Opts) (n : BNet) (t : String) (hf : FragFull n t) :
    parseLines (composeLines o n) = Except.ok (astOfFull o n t) := parse_composeLines_w o n t hf.toW

/-- hence, for a well-named netlist, reading the composed text is elaborating `astOfFull` -/
theorem read_composed_full (o : Opts) (n : BNet) (t : String) (hw : WellNamed n) (hf : FragFull n t) :
    readB (composeText o n) = elabB (astOfFull o n t) := by
  rw [read_composeText o n hw, parse_composed_lines_full o n t hf]
  rfl

/-- a rendered `.names` block (header line, truth-table rows, info lines), met while a model is
    open in any mode, parses to exactly that `Stmt.names` -/
theorem parse_rendered_names (s : PSt) (c : Model) (hc : s.cur = some c) (hm : OpenMode s.mode)
    (nets : List String) (rows : List (List String)) (hr : ∀ r ∈ rows, CoverRow r) (info : List InfoStmt) :
    ((".names" :: nets) :: rows ++ info.map infoLine).foldl pstep s =
      { s with cur := some { c with body := c.body ++ [Stmt.names nets (rows.map coverText) info] },
               mode := if info = [] then Mode.covers else Mode.info } :=
  names_block s c hc hm nets rows hr info

/-- a rendered `.latch` block parses to exactly that `Stmt.latch` -/
theorem parse_rendered_latch (s : PSt) (c : Model) (hc : s.cur = some c) (hm : OpenMode s.mode)
    (toks : List String) (info : List InfoStmt) :
    ((".latch" :: toks) :: info.map infoLine).foldl pstep s =
      { s with cur := some { c with body := c.body ++ [Stmt.latch toks info] }, mode := Mode.info } :=
  latch_block s c hc hm toks info

/-- a `.conn a b` line parses to `Stmt.conn a b` in every open mode -/
theorem parse_rendered_conn (s : PSt) (c : Model) (hc : s.cur = some c) (hm : OpenMode s.mode) (a b : String) :
    pstep s [".conn", a, b] = { s with cur := some { c with body := c.body ++ [Stmt.conn a b] }, mode := Mode.body } :=
  pstep_conn_line s c hc hm a b

set_option maxRecDepth 100000 in
example : (match parseLines [[".model", "t"], [".names", "a", "b", "y"], ["11", "1"], ["0-", "1"], [".cname", "g"],
                             [".latch", "y", "q", "re", "clk", "0"], [".conn", "q", "z"], [".end"]] with
           | Except.ok a => a.models.map (·.body)
           | _ => []) =
    [[Stmt.names ["a", "b", "y"] ["11 1", "0- 1"] [InfoStmt.cname "g"], Stmt.latch ["y", "q", "re", "clk", "0"] [],
      Stmt.conn "q" "z"]] := by decide +kernel

end Spydr.Eblif
