/-
  C18: the second read cannot fail on the fragment (round trip without the success hypothesis),
  ports never shrink (`formal_actual`'s port in the final state).
-/
import Spydr.Eblif.Props.C18RoundTrip

namespace Spydr.Eblif

/-- **The second read cannot fail.**  For a well-named netlist of the `.subckt`/`.gate` fragment in
    reader shape whose written `.cname`s are pairwise different (`NamesOK`: instance names `Nodup`
    when `write_eblif_cname` is on), `readB` accepts the text `composeB` writes. -/
theorem eblif_read_ok (o : Opts) (n : BNet) (t : String) (hw : WellNamed n) (hf : FragP o n t) (hn : NetOK n t)
    (hnm : NamesOK o n) : ∃ n', readB (composeText o n) = Except.ok n' :=
  read_ok o n t hw hf.toB hn hnm (fun hwb d hd => by simp [hf.bbDefs hwb] at hd)

/-- **Round trip, total form**: the read succeeds and returns the same instances (parent, model,
    type, order), the same `.attr`/`.param`/`.cname` data and exactly the same pins on every net bit. -/
theorem eblif_roundtrip_subckt_total (o : Opts) (n : BNet) (t : String) (hw : WellNamed n) (hf : FragP o n t)
    (hn : NetOK n t) (hnm : NamesOK o n) :
    ∃ n', readB (composeText o n) = Except.ok n' ∧
      n'.insts.map kindOf = n.insts.map kindOf ∧
      (∀ j : Nat, (n'.insts[j]?).map infoOf =
        (n.insts[j]?).map (fun (i : Inst) => (if o.writeCname then some i.name else none, i.attrs, i.params))) ∧
      (∀ x k, OnNet n' x k ↔ OnNet n x k) := by
  obtain ⟨n', h⟩ := eblif_read_ok o n t hw hf hn hnm
  exact ⟨n', h, eblif_roundtrip_subckt o n t hw hf hn n' h⟩

/-- a netlist of the fragment with two instances of the same name -/
def exNetDup : BNet :=
  { name := some "t", top := some "t", comments := [],
    defs := [{ name := "t", ports := [{ name := "a", dir := Dir.inp, width := 1 }], declared := true },
             { name := "B", ports := [{ name := "I", dir := Dir.undef, width := 1 }] }],
    insts := [{ parent := "t", name := "u", model := "B", typ := "EBLIF.subckt", pins := [("I", 0)] },
              { parent := "t", name := "u", model := "B", typ := "EBLIF.subckt", pins := [("I", 0)] }],
    cables := [(("t", "a"), [[Pin.top "t" "a" 0, Pin.inst 0 "I" 0, Pin.inst 1 "I" 0]])] }

/-- `NamesOK` cannot be dropped from `eblif_read_ok`: `exNetDup` satisfies `WellNamed`, `FragP`, `NetOK`
    and its read FAILS (the second `.cname u` conflicts). -/
theorem read_fails_on_equal_names :
    WellNamed exNetDup ∧ NetOK exNetDup "t" ∧ FragP { writeBlackbox := false } exNetDup "t" ∧
    isOk (readB (composeText { writeBlackbox := false } exNetDup)) = false := by
  have hw : WellNamed exNetDup := by decide +kernel
  have hf : FragP { writeBlackbox := false } exNetDup "t" :=
    ⟨rfl, by decide +kernel, by decide +kernel, by decide +kernel, by decide +kernel, by decide +kernel, by decide +kernel⟩
  refine ⟨hw, by decide +kernel, hf, ?_⟩
  rw [read_composed_text _ _ hw, parse_composed_lines _ _ "t" hf]
  decide +kernel

set_option maxRecDepth 100000 in
set_option maxHeartbeats 2000000 in
example : NamesOK { writeBlackbox := false } exNet := by decide +kernel

/-- **`formal_actual`, port side, final state**: the instantiated definition has the formal's port,
    wider than the formal's bit, at the end of the body whatever follows (also `.blackbox`) -/
theorem formal_actual_port (st st' : St) (cur : String) (pre post : List Stmt) (gate : Bool) (model : String)
    (conns : List (String × String)) (info : List InfoStmt)
    (h : elabStmts st cur (pre ++ Stmt.subckt gate model conns info :: post) = Except.ok st') :
    ∀ fa ∈ infoMapOf conns, ∀ cn ci pn pi, splitIdx fa.2 = Except.ok (cn, ci) → splitIdx fa.1 = Except.ok (pn, pi) →
      cn ≠ "unconn" → ∃ p, findIn (portsOf st' model) pn = some p ∧ pi < p.width := by
  obtain ⟨stm, s1, _, h1, hpost⟩ := elabStmts_split h
  intro fa hfa cn ci pn pi e1 e2 hu
  obtain ⟨sa, _, sb, _, _, _, hb, h1⟩ := elabStmt_inst_cases (s := Stmt.subckt gate model conns info) rfl h1
  obtain ⟨p, hp, hpi⟩ := connectAll_port _ hb fa hfa cn ci pn pi e1 e2 hu
  obtain ⟨p1, hp1, l1⟩ := pm_applyInfo info h1 model pn p hp
  obtain ⟨p2, hp2, l2⟩ := pm_elabStmts post hpost model pn p1 hp1
  exact ⟨p2, hp2, by omega⟩

/-- ports never disappear and never get narrower, through any list of models -/
theorem ports_never_shrink (ms : List Model) (st st' : St) (h : elabModels st ms = Except.ok st') :
    ∀ dn pn p, findIn (portsOf st dn) pn = some p → ∃ p', findIn (portsOf st' dn) pn = some p' ∧ p.width ≤ p'.width :=
  ports_monotone ms st st' h

set_option maxRecDepth 100000 in
example : (match elabStmts {} "t" [Stmt.subckt false "B" [("A[2]", "x")] [], Stmt.subckt false "B" [("A[0]", "y")] [], Stmt.blackbox] with
           | Except.ok s => (portsOf s "B").map (fun p => (p.name, p.width))
           | _ => []) = [("A", 3)] := by decide +kernel

end Spydr.Eblif
