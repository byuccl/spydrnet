/-
  C18: write-then-read for the writer's output on flat designs, for ANY order
  of the instances (the statements of an EBLIF file need not come in the writer's category order).

  Compared by the conclusion of `eblif_roundtrip_any_order` / `eblif_roundtrip_covers`: instance kinds
  (parent, model, EBLIF.type) and order, `.cname/.attr/.param` data, the truth tables of `.names`
  instances, the pins on every net bit, the top model's port list.
  NOT compared (see docs/eblif.md): `Inst.unconn`, instance names when `write_eblif_cname` is off,
  netlist name / top / comments / `.clock`.  The ports of the non-top definitions are compared by
  `eblif_roundtrip_leaf_ports` (port/bit sets, when no pin dangles) and `eblif_roundtrip_leaf_dirs`
  (directions); `leaf_port_kept` is the regression example for bus bits that are `unconn` everywhere.

  Also here, for every text the reader accepts: truth tables (`eblif_covers_read`), self-containedness
  (`eblif_self_contained_text`, `eblif_undeclared_leaf_text`), exact connectivity
  (`eblif_onNet_exact_text`).
-/
import Spydr.Eblif.LeafSpec
import Spydr.Eblif.Props.C18Full
import Spydr.Eblif.TextLevel

namespace Spydr.Eblif

open Spydr.Eblif.Any

/-- **Round trip, whole writer output, any instance order, total form.**  As `eblif_roundtrip_full`,
    but the instances of `n` may stand in any order (`NetOKA`: the children the writer writes,
    `kidsFull n t` = subckt, gate, names, latch children each in instance order, are a permutation of
    all instances).  The reader accepts the composed text; the result has the instances in WRITER
    order (`kidsFull n t`) with the same kinds and data, the top model's ports, and exactly the same
    pins on every net bit up to the renaming of instance indices to writer positions
    (`Renames (kidsFull n t) x y`: a top-level pin is itself, pin (idx, port, bit) of `n` is pin
    (j, port, bit) where `(kidsFull n t)[j]` is instance `idx`). -/
theorem eblif_roundtrip_any_order (o : Opts) (n : BNet) (t : String) (hw : WellNamed n) (hf : FragFull n t)
    (hn : NetOKA n t) (hnm : NamesOK o n) (hbp : BBPlain n t) :
    ∃ n', readB (composeText o n) = Except.ok n' ∧
      n'.insts.map kindOf = (kidsFull n t).map (fun k => kindOf k.1) ∧
      (∀ j : Nat, (n'.insts[j]?).map infoOf =
        ((kidsFull n t)[j]?).map (fun k => (if o.writeCname then some k.1.name else none, k.1.attrs, k.1.params))) ∧
      (∀ y k, OnNet n' y k ↔ ∃ x, Renames (kidsFull n t) x y ∧ OnNet n x k) ∧
      (n'.findDef t).ports = insPorts (n.findDef t) ++ pureOuts (n.findDef t) ∧
      n'.insts.map (·.covers) = (kidsFull n t).map covOfKid := by
  obtain ⟨n', h, a, b, c, d⟩ := roundtrip_any o n t hw hf hn hnm hbp
  exact ⟨n', h, a, b, c, d, roundtrip_covers o n t hw hf.toW n' h⟩

/-- the truth tables: `covOfKid k` is the child's own `covers` when `n` stores cover rows the way the
    reader does (`CoversNF`, decidable: words joined by single blanks, none on non-`.names` instances) -/
theorem eblif_roundtrip_covers (o : Opts) (n : BNet) (t : String) (hw : WellNamed n) (hf : FragFull n t)
    (hc : CoversNF n) (n' : BNet) (h : readB (composeText o n) = Except.ok n') :
    n'.insts.map (·.covers) = (kidsFull n t).map (fun k => k.1.covers) := by
  rw [roundtrip_covers o n t hw hf.toW n' h]
  apply List.map_congr_left
  intro k hk
  exact covOfKid_nf n hc k (mem_zipIdx_fst (mem_kidsFull hk).1)

/-- **truth tables are read faithfully, all inputs** -/
theorem eblif_covers_read (text : List Char) (n : BNet) (h : readB text = Except.ok n) :
    ∃ a, parseB (lexB text) = Except.ok a ∧
      n.insts.map (·.covers) = a.models.flatMap (fun m => m.body.flatMap stmtCov) := covers_read text n h

/-- **whatever the reader accepts is self-contained** -- text level, all inputs -/
theorem eblif_self_contained_text (text : List Char) (n : BNet) (h : readB text = Except.ok n) :
    (n.defs.map (·.name)).Nodup ∧
    (∀ i ∈ n.insts, (∃ d ∈ n.defs, d.name = i.model) ∧ ∃ d ∈ n.defs, d.name = i.parent ∧ d.declared = true) ∧
    (∀ c ∈ n.cables, ∃ d ∈ n.defs, d.name = c.1.1 ∧ d.declared = true) := self_contained_text text n h

theorem eblif_undeclared_leaf_text (text : List Char) (n : BNet) (h : readB text = Except.ok n)
    (d : DefD) (hd : d ∈ n.defs) (hu : d.declared = false) : isLeaf n d.name = true ∧ d.inWork = false :=
  undeclared_leaf_text text n h d hd hu

/-- exact connectivity, text level.  `modelsAcc` is threaded through the elaborator (computed alongside
    `elabModel`); it is a bookkeeping of the declared joins, not an independent specification. -/
theorem eblif_onNet_exact_text (text : List Char) (n : BNet) (h : readB text = Except.ok n) :
    ∃ a st, parseB (lexB text) = Except.ok a ∧ elabModels {} a.models = Except.ok st ∧
      ∀ p k, OnNet n p k ↔ ∃ k', (p, k') ∈ modelsAcc {} [] a.models ∧ st.alias k' = k := onNet_exact_text text n h

/-- non-vacuity: `exFull` with its instances in the order names, latch, gate, subckt -/
def exAny : BNet :=
  { exFull with
    insts := [{ parent := "t", name := "g1", model := "logic-gate_2", typ := "EBLIF.names", covers := some ["11 1"],
                pins := [("in_0", 0), ("in_1", 0), ("out", 0)] },
              { parent := "t", name := "l1", model := "generic-latch", typ := "EBLIF.latch",
                pins := [("input", 0), ("output", 0), ("type", 0), ("control", 0)] },
              { parent := "t", name := "g2", model := "G", typ := "EBLIF.gate", cname := some "g2",
                params := [("p", "1")], pins := [("X", 0), ("X", 1), ("Y", 0)] },
              { parent := "t", name := "u1", model := "B", typ := "EBLIF.subckt", cname := some "u1",
                attrs := [("k", "v")], pins := [("I", 0), ("O", 0)] }],
    cables := [(("t", "a"), [[Pin.top "t" "a" 0, Pin.inst 3 "I" 0, Pin.inst 0 "in_0" 0]]),
               (("t", "b"), [[Pin.top "t" "b" 0, Pin.inst 2 "X" 0], [Pin.top "t" "b" 1, Pin.inst 2 "X" 1]]),
               (("t", "io"), [[Pin.top "t" "io" 0, Pin.inst 0 "in_1" 0]]),
               (("t", "w"), [[Pin.inst 3 "O" 0, Pin.inst 1 "input" 0]]),
               (("t", "gy"), [[Pin.inst 2 "Y" 0]]),
               (("t", "n1"), [[Pin.inst 0 "out" 0, Pin.top "t" "y" 0]]),
               (("t", "q"), [[Pin.inst 1 "output" 0, Pin.top "t" "q" 0]]),
               (("t", "re"), [[Pin.inst 1 "type" 0]]),
               (("t", "clk"), [[Pin.inst 1 "control" 0]])] }

set_option maxRecDepth 100000 in
set_option maxHeartbeats 4000000 in
example : WellNamed exAny ∧ NetOKA exAny "t" ∧ ¬ NetOKF exAny "t" ∧ NamesOK {} exAny ∧ BBPlain exAny "t" := by decide +kernel

set_option maxRecDepth 100000 in
set_option maxHeartbeats 4000000 in
example : (kidsFull exAny "t").map (·.2) = [3, 2, 0, 1] ∧ CoversNF exAny ∧ CoversNF exFull := by decide +kernel

/-- **the interfaces of the instantiated definitions survive write-then-read**: for every child, the
    definition it instantiates has in the re-read netlist exactly the (port, bit) pairs it has in `n`
    (same port names, same widths); the generated definitions come back with their standard port
    lists, directions included (`logic-gate_k`: in_0..in_{k-1} IN, out OUT; `generic-latch`: the first a
    of input, output, type, control, init-val).  Extra hypotheses, all decidable: the pin mirror of `n` (what
    `pin_mirror` proves for every netlist the reader produces), `LatchSep n t` (`generic-latch` is
    instantiated by `.latch` children only), `BBWide` (ports of black-box definitions have a pin).
    This holds for the REPAIRED reader (`parse_subcircuit_port` gives a port pins up to the formal's
    index also for `unconn` actuals, docs/fixes/eblif_unconn_bus_bit_keeps_width.diff); with the
    original code upper bus bits that are `unconn` on every instance were lost (`exShrink`). -/
theorem eblif_roundtrip_leaf_ports (o : Opts) (n : BNet) (t : String) (hw : WellNamed n) (hf : FragFull n t)
    (hn : NetOKA n t) (hnm : NamesOK o n) (hbp : BBPlain n t) (hpm : n.PinMirror) (hdg : LatchSep n t)
    (hbw : BBWide n t) (n' : BNet) (h : readB (composeText o n) = Except.ok n') :
    (∀ k ∈ kidsFull n t, ∀ pn b,
      (pn, b) ∈ allPins (n'.findDef k.1.model) ↔ (pn, b) ∈ allPins (n.findDef k.1.model)) ∧
    (∀ k ∈ kidsFull n t, k.1.typ = "EBLIF.names" →
      (n'.findDef k.1.model).ports = stdNamesPorts (k.1.pins.length - 1)) ∧
    (∀ k ∈ kidsFull n t, k.1.typ = "EBLIF.latch" →
      ∃ a, a ≤ 5 ∧ (n'.findDef "generic-latch").ports = stdLatchPorts.take a) :=
  roundtrip_leaf_ports o n t hw hf hn hbp hpm hdg hbw n' h

/-- **directions of the definitions `.subckt` / `.gate` children instantiate**: in the re-read netlist
    every port of such a definition has the direction `leafDir` gives its name -- with a black-box
    block written (`write_blackbox` on and the definition among `bbDefs`): OUT for the OUT ports of
    `n`'s definition, IN for its IN ports, UNDEFINED for the others; without one: UNDEFINED.  (So IN /
    OUT directions of black boxes survive exactly when their block is written; INOUT does not.) -/
theorem eblif_roundtrip_leaf_dirs (o : Opts) (n : BNet) (t : String) (hw : WellNamed n) (hf : FragFull n t)
    (hn : NetOKA n t) (hnm : NamesOK o n) (hbp : BBPlain n t) (hpm : n.PinMirror) (hdg : LatchSep n t)
    (n' : BNet) (h : readB (composeText o n) = Except.ok n') :
    ∀ k ∈ kidsFull n t, (k.1.typ = "EBLIF.subckt" ∨ k.1.typ = "EBLIF.gate") →
      ∀ p ∈ (n'.findDef k.1.model).ports, p.dir = leafDir o n t k.1.model p.name :=
  roundtrip_leaf_dirs o n t hw hf hn hbp hpm hdg n' h

set_option maxRecDepth 100000 in
set_option maxHeartbeats 4000000 in
example : exAny.PinMirror ∧ LatchSep exAny "t" ∧ BBWide exAny "t" ∧ exFull.PinMirror ∧ LatchSep exFull "t" ∧ BBWide exFull "t" := by
  decide +kernel

/-! ### the regression example of the finding `eblif.unconn-bus-bit-loses-width`

  A leaf definition whose bus port has its upper bits unconnected on every instance: the writer emits
  `J[1]=unconn J[0]=unconn`.  The original `parse_subcircuit_port` gave a port at most one more pin
  per formal and `connect_instance_pins` skips `unconn` actuals, so `J` came back one pin wide.  With
  the repaired reader (which the model follows) the port keeps both pins. -/

def exShrink : BNet :=
  { name := some "t", top := some "t", comments := [],
    defs := [{ name := "t", ports := [{ name := "y", dir := Dir.out, width := 1 }], declared := true },
             { name := "B", ports := [{ name := "J", dir := Dir.undef, width := 2 }, { name := "O", dir := Dir.undef, width := 1 }] }],
    insts := [{ parent := "t", name := "u", model := "B", typ := "EBLIF.subckt", cname := some "u",
                unconn := ["J[0]", "J[1]"], pins := [("J", 0), ("J", 1), ("O", 0)] }],
    cables := [(("t", "y"), [[Pin.inst 0 "O" 0, Pin.top "t" "y" 0]])] }

/-- (port name, width) list of definition `dn` in a read result; empty when the read failed -/
def portsAfter (r : Except Err BNet) (dn : String) : List (String × Nat) :=
  match r with
  | Except.ok n' => (n'.findDef dn).ports.map (fun p => (p.name, p.width))
  | Except.error _ => []

theorem exShrink_frag : FragFull exShrink "t" := by
  refine ⟨rfl, by decide +kernel, by decide +kernel, by decide +kernel, ?_⟩
  intro i hi r hr
  have hall : ∀ i ∈ exShrink.insts, coverRows i = [] := by decide +kernel
  rw [hall i hi] at hr
  cases hr

theorem leaf_port_kept :
    WellNamed exShrink ∧ NetOKA exShrink "t" ∧ NamesOK {} exShrink ∧ BBPlain exShrink "t" ∧ exShrink.PinMirror ∧
    BBWide exShrink "t" ∧ LatchSep exShrink "t" ∧
    ((exShrink.findDef "B").ports.map (fun p => (p.name, p.width)) = [("J", 2), ("O", 1)]) ∧
    portsAfter (readB (composeText {} exShrink)) "B" = [("J", 2), ("O", 1)] := by
  have hw : WellNamed exShrink := by decide +kernel
  refine ⟨hw, ?_⟩
  -- by the lexer and parser theorems the read is the elaboration of `astOfFull`; only that is evaluated
  rw [read_composed_text _ _ hw, parse_composeLines_w _ _ "t" exShrink_frag.toW]
  decide +kernel

end Spydr.Eblif
