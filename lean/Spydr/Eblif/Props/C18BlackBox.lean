/-
  C18: write-then-read with the black-box block (the default options of the writer), total form.
-/
import Spydr.Eblif.Props.C18Ports
import Spydr.Eblif.RoundTrip

namespace Spydr.Eblif

/-- the composed lines of the fragment (black-box block included) parse to the explicit AST `astOfB`:
    the top model followed by one `.blackbox` model per written leaf definition -/
theorem parse_composed_lines_bb (o : Opts) (n : BNet) (t : String) (hf : FragB n t) :
    parseLines (composeLines o n) = Except.ok (astOfB o n t) := parse_composeLines_bb o n t hf

/-- **Round trip for either value of `write_blackbox`, total form.**  For a well-named netlist of the
    `.subckt`/`.gate` fragment in reader shape (`FragB`, `NetOK`, `NamesOK`, `BBPlain`, no child
    instantiating the top model -- all decidable), `readB` accepts the text `composeB` writes, and
    the result has the same instances (parent, model, type, order), the same `.attr`/`.param`/`.cname`
    data, exactly the same pins on every net bit, and the top model has `n`'s ports (inputs then
    outputs).  The `.model … .blackbox .end` blocks written for the used leaf definitions change
    nothing of this. -/
theorem eblif_roundtrip_blackbox (o : Opts) (n : BNet) (t : String) (hw : WellNamed n) (hf : FragB n t)
    (hn : NetOK n t) (hnm : NamesOK o n) (hbp : BBPlain n t) (hself : ∀ i ∈ n.insts, t ≠ i.model) :
    ∃ n', readB (composeText o n) = Except.ok n' ∧
      n'.insts.map kindOf = n.insts.map kindOf ∧
      (∀ j : Nat, (n'.insts[j]?).map infoOf =
        (n.insts[j]?).map (fun (i : Inst) => (if o.writeCname then some i.name else none, i.attrs, i.params))) ∧
      (∀ x k, OnNet n' x k ↔ OnNet n x k) ∧
      (n'.findDef t).ports = insPorts (n.findDef t) ++ outsPorts (n.findDef t) := by
  obtain ⟨n', h⟩ := read_ok o n t hw hf hn hnm (fun _ => hbp)
  obtain ⟨h1, h2, h3, h4⟩ := roundtrip o n t hw hf hn (fun _ d hd => (hbp d hd).1) n' h
  exact ⟨n', h, h1, h2, h3, h4 hself⟩

/-- non-vacuity with the default options: `exNet`'s leaf `B` is written as a black-box block -/
example : FragB exNet "t" := exNet_frag.toB

set_option maxRecDepth 100000 in
set_option maxHeartbeats 2000000 in
example : NamesOK {} exNet ∧ BBPlain exNet "t" ∧ (∀ i ∈ exNet.insts, "t" ≠ i.model) ∧ (bbDefs exNet "t").length = 1 := by decide +kernel

/-- elaborating black-box models after the top model keeps instance kinds, instance data, the
    exact join set of the top model and the top model's port list -/
theorem blackbox_models_frame (t : String) (J : List (Pin × Key)) (hJ : ∀ e ∈ J, e.2.1 = t) (ds : List DefD)
    (hne : ∀ d ∈ ds, d.name ≠ t) (s s' : St) (inv : TopInv t J s) (h : elabModels s (ds.map bbModel) = Except.ok s') :
    TopInv t J s' ∧ instKinds s' = instKinds s ∧ (∀ j, dataAt s' j = dataAt s j) ∧ portsOf s' t = portsOf s t := by
  obtain ⟨i, r⟩ := bb_models_foldF t J id hJ ds hne ((topInv_iff t J s).mp inv) h
  exact ⟨(topInv_iff t J s').mpr i, r⟩

end Spydr.Eblif
