/-
  C18: the generated definitions of `.names` and `.latch` have exactly the documented ports, for
  every state and arity (`names_latch_shape` in Props/C18.lean is one instance of it).
-/
import Spydr.Eblif.GenDefs
import Spydr.Eblif.StmtJoins

namespace Spydr.Eblif

/-- decimal printing is injective (from core's `ofDigitChars (toDigits 10 n) = n`), so the generated
    port names `in_0, in_1, …` are pairwise different and different from `out` -/
theorem generated_names_distinct : (∀ a b, inName a = inName b → a = b) ∧ (∀ i, inName i ≠ "out") :=
  ⟨fun _ _ h => inName_inj h, inName_ne_out⟩

theorem portsOf_ensureDef_fresh (st : St) (dn : String) (h : findDef st dn = none) : portsOf (ensureDef st dn) dn = [] := by
  unfold ensureDef portsOf
  simp only [h]
  unfold findDef at h ⊢
  simp [List.find?_append, h]

theorem portsOf_ensureDef_old (st : St) (dn : String) (h : DefEx st dn) : portsOf (ensureDef st dn) dn = portsOf st dn := by
  unfold ensureDef DefEx at *
  cases hf : findDef st dn with
  | none => rw [hf] at h; cases h
  | some d => rfl

/-- **`.names`: ports of the generated definition.**  If `logic-gate_k` does not exist yet, or exists
    with exactly the ports in_0 .. in_{k-1} (IN, one pin), out (OUT, one pin), then the definition the
    `.names` statement instantiates (`namesDef`) has exactly these ports. -/
theorem names_generated_ports (st : St) (k : Nat)
    (h : findDef st ("logic-gate_" ++ natStr k) = none ∨
         (DefEx st ("logic-gate_" ++ natStr k) ∧ portsOf st ("logic-gate_" ++ natStr k) = stdNamesPorts k)) :
    (namesDef st k).ports = stdNamesPorts k := by
  have hports : (namesDef st k).ports =
      portsOf (addNamesPorts (ensureDef st ("logic-gate_" ++ natStr k)) ("logic-gate_" ++ natStr k) k) ("logic-gate_" ++ natStr k) := by
    unfold namesDef portsOf
    simp only
    cases findDef (addNamesPorts (ensureDef st ("logic-gate_" ++ natStr k)) ("logic-gate_" ++ natStr k) k) ("logic-gate_" ++ natStr k) <;> rfl
  rw [hports]
  rcases h with h | ⟨hd, hp⟩
  · exact names_def_fresh _ _ k (defEx_ensureDef _ _) (portsOf_ensureDef_fresh st _ h)
  · have e : portsOf (ensureDef st ("logic-gate_" ++ natStr k)) ("logic-gate_" ++ natStr k) = stdNamesPorts k := by
      rw [portsOf_ensureDef_old st _ hd]; exact hp
    rw [names_def_again _ _ k e]; exact e

theorem nodup_map_of_inj {α β : Type} (f : α → β) (l : List α) (hl : l.Nodup) (hf : ∀ a ∈ l, ∀ b ∈ l, f a = f b → a = b) :
    (l.map f).Nodup :=
  nodup_map_of_inj_on hl hf

theorem zip_fst_sublist {α β : Type} : ∀ (a : List α) (b : List β), ((a.zip b).map Prod.fst).Sublist a
  | [], _ => by simp
  | _ :: _, [] => by simp
  | x :: r, y :: s => by
      simp only [List.zip_cons_cons, List.map_cons]
      exact (zip_fst_sublist r s).cons_cons x

theorem stdNames_nodup (k : Nat) : ((stdNamesPorts k).map (·.name)).Nodup := by
  unfold stdNamesPorts
  simp only [List.map_append, List.map_map, List.map_cons, List.map_nil]
  rw [List.nodup_append]
  refine ⟨?_, by simp, ?_⟩
  · exact nodup_map_of_inj _ _ List.nodup_range (fun a _ b _ h => inName_inj h)
  · intro a ha b hb
    simp only [List.mem_map, List.mem_range, Function.comp] at ha
    obtain ⟨i, _, rfl⟩ := ha
    simp only [List.mem_singleton] at hb
    subst hb
    exact inName_ne_out i

/-- … hence the formal -> actual dict of the `.names` statement is: in_i ↦ i-th net, out ↦ last net
    (the ports in order zipped with the listed nets; nothing collapses because the names differ) -/
theorem names_info_std (st : St) (nets : List String)
    (h : findDef st ("logic-gate_" ++ natStr (nets.length - 1)) = none ∨
         (DefEx st ("logic-gate_" ++ natStr (nets.length - 1)) ∧
          portsOf st ("logic-gate_" ++ natStr (nets.length - 1)) = stdNamesPorts (nets.length - 1))) :
    namesInfo st nets = ((stdNamesPorts (nets.length - 1)).zip nets).map (fun pn => (pn.1.name, pn.2)) := by
  unfold namesInfo
  rw [names_generated_ports st (nets.length - 1) h]
  have hgen : ∀ (l : List (PortD × String)) (acc : List (String × String)),
      l.foldl (fun l pn => dictSet l pn.1.name pn.2) acc =
        (l.map (fun pn => (pn.1.name, pn.2))).foldl (fun l fa => dictSet l fa.1 fa.2) acc := by
    intro l
    induction l with
    | nil => intro acc; rfl
    | cons a r ih => intro acc; simp [List.foldl_cons, ih]
  rw [hgen]
  have hnd : ((((stdNamesPorts (nets.length - 1)).zip nets).map (fun pn => (pn.1.name, pn.2))).map (·.1)).Nodup := by
    rw [List.map_map]
    have : ((fun x : String × String => x.1) ∘ fun pn : PortD × String => (pn.1.name, pn.2)) = (fun pn => pn.1.name) := rfl
    rw [this]
    have hsub : (((stdNamesPorts (nets.length - 1)).zip nets).map (fun pn => pn.1.name)).Sublist ((stdNamesPorts (nets.length - 1)).map (·.name)) := by
      have : ((stdNamesPorts (nets.length - 1)).zip nets).map (fun pn => pn.1.name) =
          (((stdNamesPorts (nets.length - 1)).zip nets).map Prod.fst).map (·.name) := by rw [List.map_map]; rfl
      rw [this]
      exact (zip_fst_sublist _ _).map _
    exact (stdNames_nodup _).sublist hsub
  rw [foldl_dictSet_nodup _ [] hnd (fun p hp => by cases hp)]
  simp

/-- **`.latch`: ports of the generated definition** (prefix rule) -/
theorem latch_generated_ports (m : Nat) (hm : m ≤ 5) (st : St) (a : Nat) (ha : a ≤ 5) (hd : DefEx st "generic-latch")
    (hp : portsOf st "generic-latch" = stdLatchPorts.take a) :
    portsOf (addLatchPorts st (latchOrder.take m)) "generic-latch" = stdLatchPorts.take (max a m) :=
  (latch_def_shape m hm st a ha hd hp).1

end Spydr.Eblif
