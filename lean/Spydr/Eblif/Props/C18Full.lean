/-
  C18: write-then-read in total form for the writer's output on flat designs:
  `.subckt` / `.gate` / `.names` / `.latch` children, IN / OUT / INOUT top ports, `.clock`, `.conn`
  lines for port pins on differently named nets, black-box block (either value of the options).
  The conclusion compares instance kinds and order, `.cname/.attr/.param` data, the pins on every net
  bit and the top model's port list (truth tables: see Props/C18Any.lean; not compared: `unconn`,
  names without `.cname`, ports of non-top definitions, netlist name / top / comments / `.clock`).
-/
import Spydr.Eblif.Props.C18BlackBox
import Spydr.Eblif.RoundTrip

namespace Spydr.Eblif

open Any

theorem flatMap_zipIdx_zipIdx {α β : Type} (F : Nat → α × Nat → List β) (l : List α) :
    ∀ m, ((l.zipIdx m).zipIdx m).flatMap (fun kj => F kj.2 kj.1) = (l.zipIdx m).flatMap (fun k => F k.2 k) := by
  induction l with
  | nil => intro m; rfl
  | cons a r ih => intro m; simp only [List.zipIdx_cons, List.flatMap_cons, ih]

/-- **Round trip, whole writer output, total form.**  For a well-named netlist (`WellNamed`) whose top
    model is in `work` and whose children are `.subckt`/`.gate`/`.names`/`.latch` instances
    (`FragFull`), in reader shape (`NetOKF`: writer order = instance order; top ports IN/OUT/INOUT with
    every pin on a wire; every pin occurrence on exactly one wire of a cable of the top model; a port
    bit whose pin sits on another net names no net of its own; per-kind shape of the children),
    with pairwise different written names (`NamesOK`) and plain black-box ports (`BBPlain`) -- all
    decidable except the cover-row clause of `FragFull` -- the reader ACCEPTS the text the writer
    composes, for either value of `write_blackbox` / `write_eblif_cname`, and the result has
    * the same instances in the same order with the same (parent, model, EBLIF.type),
    * the same `.attr` / `.param` data and `EBLIF.cname` = written name (none when not written),
    * exactly the same pins on every net bit (`OnNet`), `.conn` merges included,
    * the top model's ports: `n`'s inputs and inouts in order, then its pure outputs, each with its
      direction and width (identical list when `n` lists them in that order). -/
theorem eblif_roundtrip_full (o : Opts) (n : BNet) (t : String) (hw : WellNamed n) (hf : FragFull n t)
    (hn : NetOKF n t) (hnm : NamesOK o n) (hbp : BBPlain n t) :
    ∃ n', readB (composeText o n) = Except.ok n' ∧
      n'.insts.map kindOf = n.insts.map kindOf ∧
      (∀ j : Nat, (n'.insts[j]?).map infoOf =
        (n.insts[j]?).map (fun (i : Inst) => (if o.writeCname then some i.name else none, i.attrs, i.params))) ∧
      (∀ x k, OnNet n' x k ↔ OnNet n x k) ∧
      (n'.findDef t).ports = insPorts (n.findDef t) ++ pureOuts (n.findDef t) := by
  obtain ⟨n', h, hk, hd, ho, hp⟩ := roundtrip_any o n t hw hf (netOKA_of_netOKF n t hn) hnm hbp
  rw [hn.1] at hk hd ho
  refine ⟨n', h, ?_, fun j => ?_, fun x k => (ho x k).trans (renames_zipIdx n t hn.2.2.2.1 x k), hp⟩
  · rw [hk]
    exact (List.map_map (f := Prod.fst) (g := kindOf)).symm.trans (by rw [List.zipIdx_map_fst])
  · rw [hd j, List.getElem?_zipIdx, Option.map_map]; rfl

/-- **one written child block, any kind**: re-reading it succeeds, creates one instance of the same
    kind carrying the written data, declares exactly the joins `kidJoinsF` (state-free), keeps the
    alias table, the liveness invariant, the ports of the enclosing model and the standard shape of
    the generated `.names` definitions -/
theorem child_block_step (o : Opts) (n : BNet) (t : String) (hw : WellNamed n)
    (hcab : ∀ c ∈ n.cables, plainName c.1.2 ∧ c.1.2.toList ≠ []) (k : Inst × Nat) (hki : k ∈ n.insts.zipIdx)
    (hs : KidShape n k) (hp : k.1.parent = t) (hne : t ≠ k.1.model)
    (hty : k.1.typ = "EBLIF.subckt" ∨ k.1.typ = "EBLIF.gate" ∨ k.1.typ = "EBLIF.names" ∨ k.1.typ = "EBLIF.latch")
    (st : St) (hlen : st.insts.length = k.2)
    (hx : o.writeCname = true → ∀ j, j ≠ k.2 → (namesOf st)[j]? ≠ some k.1.name)
    (hstd : k.1.typ = "EBLIF.names" → Std st (k.1.pins.length - 1)) (hd : DefEx st t) :
    ∃ st', elabStmt st t (stmtOfFull o n k) = Except.ok st' ∧ st'.insts.length = k.2 + 1 ∧
      (o.writeCname = true → namesOf st' = namesOf st ++ [k.1.name]) ∧
      instKinds st' = instKinds st ++ [kindOf k.1] ∧
      (∀ J, Exact st J → Exact st' (J ++ kidJoinsF n t k)) ∧
      dataAt st' k.2 = some (infoFold (infoStmts o k.1) (none, [], [])) ∧
      (∀ j, j < k.2 → dataAt st' j = dataAt st j) ∧
      st'.alias = st.alias ∧ (LInv st → LInv st') ∧ Fr t st st' ∧
      (∀ K, "logic-gate_" ++ natStr K ≠ k.1.model → Std st K → Std st' K) ∧
      (k.1.typ = "EBLIF.names" → Std st' (k.1.pins.length - 1)) := by
  obtain ⟨st', h, hl', hn'⟩ := kid_ok o n t hw hcab k hki hs.toW k.2 st hlen hx hstd
  obtain ⟨f1, f2, f3, f4, f5, f6, f7, f8, f9⟩ := kid_facts o n t k hs.toW hp hty k.2 hlen hstd h
  exact ⟨st', h, hl', hn', f1, f2, f3, f4, f5, f6, f7 hne hd, f8, f9⟩

/-- **header with INOUT ports and `.clock`**: exact port list, exact joins, invariants -/
theorem header_inout (t : String) (d : DefD)
    (hP : ∀ p ∈ d.ports, (p.dir = Dir.inp ∨ p.dir = Dir.out ∨ p.dir = Dir.inout) ∧ plainName p.name ∧
      p.name.toList ≠ [] ∧ 1 ≤ p.width)
    (hnd : (d.ports.map (·.name)).Nodup) (sh : St)
    (h : elabHdrs (beginModel {} t) t (hdrOfFull d) = Except.ok sh) :
    portsOf sh t = insPorts d ++ pureOuts d ∧ DefEx sh t ∧ RInv sh ∧
    Exact sh (wordJoins t ((insPorts d).flatMap portBits) ++ wordJoins t ((pureOuts d).flatMap portBits)) ∧
    instKinds sh = [] :=
  have ⟨p, d, r, e⟩ := hdr_full t d hP hnd sh h
  ⟨p, d, r, e, (ik_elabHdrs h).trans (ik_beginModel _ _)⟩

/-- **`.conn` lines, closed form of the alias table**: for pairwise different sources none of which
    is a target, after the `.conn` statements every source stands for its target and every other
    bit for itself -/
theorem conn_alias_closed_form (t : String) (l : List (String × String)) (ks : List (Key × Key))
    (hk : l.map (connKey t) = ks.map some) (hnd : (ks.map (·.2)).Nodup) (hdis : ∀ p ∈ ks, p.1 ∉ ks.map (·.2))
    (st : St) (hid : st.alias = id) :
    ∃ st', elabStmts st t (l.map (fun ab => Stmt.conn ab.1 ab.2)) = Except.ok st' ∧ st'.alias = aliasOf ks := by
  obtain ⟨st', h, ha, _, _⟩ := conn_stmts t l ks hk st
  refine ⟨st', h, ?_⟩
  rw [ha, hid, ← aliasOf_nil]
  have := alias_fold ks [] (by simpa using hnd) (by simpa using hdis)
  simpa using this

/-- **the joins the written text declares, followed through the `.conn` aliases, are exactly the
    pin / net-bit incidences of the netlist it was written from** -/
theorem written_joins_are_net (n : BNet) (t : String) (hw : WellNamed n) (ht : okWord t = true) (hn : NetOKF n t)
    (x : Pin) (k : Key) :
    (∃ k', (x, k') ∈ JF n t ∧ aliasOf (connKeys n t (n.findDef t)) k' = k) ↔ OnNet n x k := by
  have hJ : JFA n t = JF n t := by
    unfold JFA JF
    rw [hn.1, flatMap_zipIdx_zipIdx]
    rfl
  rw [← hJ, joins_iff_onNet n t hw ht (netOKW_of_netOKA n t (netOKA_of_netOKF n t hn)) x k, hn.1]
  exact renames_zipIdx n t hn.2.2.2.1 x k

/-! ### non-vacuity: a netlist with all four child kinds (`.subckt`, `.gate`, `.names`, `.latch`), a
    two-bit bus port and a two-bit instance port, an INOUT port, `.clock`, and an output port whose
    pin sits on a differently named net (one `.conn` line), two black-box blocks -/

def exFull : BNet :=
  { name := some "t", top := some "t", comments := [],
    defs := [{ name := "t", ports := [{ name := "a", dir := Dir.inp, width := 1 }, { name := "b", dir := Dir.inp, width := 2 },
                                      { name := "io", dir := Dir.inout, width := 1 },
                                      { name := "y", dir := Dir.out, width := 1 }, { name := "q", dir := Dir.out, width := 1 }],
               declared := true, clock := some ["clk"] },
             { name := "B", ports := [{ name := "I", dir := Dir.undef, width := 1 }, { name := "O", dir := Dir.undef, width := 1 }] },
             { name := "G", ports := [{ name := "X", dir := Dir.undef, width := 2 }, { name := "Y", dir := Dir.undef, width := 1 }] },
             { name := "logic-gate_2", ports := [{ name := "in_0", dir := Dir.inp, width := 1 }, { name := "in_1", dir := Dir.inp, width := 1 },
                                                 { name := "out", dir := Dir.out, width := 1 }] },
             { name := "generic-latch", ports := [{ name := "input", dir := Dir.inp, width := 1 }, { name := "output", dir := Dir.out, width := 1 },
                                                  { name := "type", dir := Dir.inp, width := 1 }, { name := "control", dir := Dir.inp, width := 1 }] }],
    insts := [{ parent := "t", name := "u1", model := "B", typ := "EBLIF.subckt", cname := some "u1",
                attrs := [("k", "v")], pins := [("I", 0), ("O", 0)] },
              { parent := "t", name := "g2", model := "G", typ := "EBLIF.gate", cname := some "g2",
                params := [("p", "1")], pins := [("X", 0), ("X", 1), ("Y", 0)] },
              { parent := "t", name := "g1", model := "logic-gate_2", typ := "EBLIF.names", covers := some ["11 1"],
                pins := [("in_0", 0), ("in_1", 0), ("out", 0)] },
              { parent := "t", name := "l1", model := "generic-latch", typ := "EBLIF.latch",
                pins := [("input", 0), ("output", 0), ("type", 0), ("control", 0)] }],
    cables := [(("t", "a"), [[Pin.top "t" "a" 0, Pin.inst 0 "I" 0, Pin.inst 2 "in_0" 0]]),
               (("t", "b"), [[Pin.top "t" "b" 0, Pin.inst 1 "X" 0], [Pin.top "t" "b" 1, Pin.inst 1 "X" 1]]),
               (("t", "io"), [[Pin.top "t" "io" 0, Pin.inst 2 "in_1" 0]]),
               (("t", "w"), [[Pin.inst 0 "O" 0, Pin.inst 3 "input" 0]]),
               (("t", "gy"), [[Pin.inst 1 "Y" 0]]),
               (("t", "n1"), [[Pin.inst 2 "out" 0, Pin.top "t" "y" 0]]),
               (("t", "q"), [[Pin.inst 3 "output" 0, Pin.top "t" "q" 0]]),
               (("t", "re"), [[Pin.inst 3 "type" 0]]),
               (("t", "clk"), [[Pin.inst 3 "control" 0]])] }

set_option maxRecDepth 100000 in
set_option maxHeartbeats 4000000 in
example : WellNamed exFull ∧ NetOKF exFull "t" := by decide +kernel

set_option maxRecDepth 100000 in
set_option maxHeartbeats 4000000 in
example : NamesOK {} exFull ∧ BBPlain exFull "t" ∧ (connKeys exFull "t" (exFull.findDef "t")).length = 1 := by decide +kernel

set_option maxRecDepth 100000 in
set_option maxHeartbeats 4000000 in
example : FragFull exFull "t" := by
  refine ⟨rfl, by decide +kernel, by decide +kernel, by decide +kernel, ?_⟩
  intro i hi r hr
  have hall : ∀ i ∈ exFull.insts, ∀ r ∈ coverRows i, r = ["11", "1"] := by decide +kernel
  rw [hall i hi r hr]
  exact ⟨"11", ["1"], rfl, by decide⟩

end Spydr.Eblif
