/-
  C18: the port list of the top model survives write-then-read.
-/
import Spydr.Eblif.Props.C18ReadOk
import Spydr.Eblif.RoundTrip

namespace Spydr.Eblif

/-- **Round trip, top port list** (fragment; no child instantiates the top model): the re-read top
    model has the ports of `n`'s top model with the same names, directions and widths, inputs first
    (in their order) then outputs (in their order); the identical list when `n` already lists its
    inputs before its outputs (as every reader result of a composed file does). -/
theorem eblif_roundtrip_ports (o : Opts) (n : BNet) (t : String) (hw : WellNamed n) (hf : FragP o n t) (hn : NetOK n t)
    (hself : ∀ i ∈ n.insts, t ≠ i.model) (n' : BNet) (h : readB (composeText o n) = Except.ok n') :
    (n'.findDef t).ports = insPorts (n.findDef t) ++ outsPorts (n.findDef t) ∧
    ((n.findDef t).ports = insPorts (n.findDef t) ++ outsPorts (n.findDef t) → (n'.findDef t).ports = (n.findDef t).ports) := by
  have hp := (roundtrip o n t hw hf.toB hn (fun hwb => by simp [hf.bbDefs hwb]) n' h).2.2.2 hself
  exact ⟨hp, fun hs => by rw [hp, ← hs]⟩

set_option maxRecDepth 100000 in
example : (∀ i ∈ exNet.insts, "t" ≠ i.model) ∧
    (exNet.findDef "t").ports = insPorts (exNet.findDef "t") ++ outsPorts (exNet.findDef "t") := by decide +kernel

/-- exact port list of the model being read after the words of a list of new input ports, then of
    new output ports (any state in which the model exists) -/
theorem hdr_port_list (t : String) (I O : List PortD) (st s1 s2 : St)
    (hI : ∀ p ∈ I, plainName p.name ∧ p.name.toList ≠ [] ∧ 1 ≤ p.width ∧ p.dir = Dir.inp)
    (hO : ∀ p ∈ O, plainName p.name ∧ p.name.toList ≠ [] ∧ 1 ≤ p.width ∧ p.dir = Dir.out)
    (hnd : ((I ++ O).map (·.name)).Nodup) (hd : DefEx st t) (hp : portsOf st t = [])
    (h1 : elabToks elabInput st t (I.flatMap portBits) = Except.ok s1)
    (h2 : elabToks elabOutput s1 t (O.flatMap portBits) = Except.ok s2) :
    portsOf s2 t = I ++ O := by
  simp only [List.map_append] at hnd
  obtain ⟨n1, n2, n3⟩ := List.nodup_append.mp hnd
  obtain ⟨pa, da⟩ := ports_words elabInput_bit t I hI [] st s1 (fun q hq => by cases hq) n1 hd hp h1
  obtain ⟨pb, _⟩ := ports_words elabOutput_bit t O hO ([] ++ I) s1 s2 (by
      intro q hq p hpm he
      simp only [List.nil_append] at hq
      exact n3 q.name (List.mem_map.mpr ⟨q, hq, rfl⟩) p.name (List.mem_map.mpr ⟨p, hpm, rfl⟩) he) n2 da pa h2
  simpa using pb

end Spydr.Eblif
