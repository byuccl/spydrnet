/-
  C18: write-then-read for the `.subckt`/`.gate` fragment (all netlists of the class given by the
  decidable predicates `WellNamed`, `FragP`, `NetOK`); and, for every list of models, exactness across
  `.blackbox` and models, self-containedness, materialisation.
-/
import Spydr.Eblif.RoundTrip

namespace Spydr.Eblif

/-- the hypothesis of `eblif_roundtrip_partial` holds for a well-named netlist (all names are words:
    no blank / line end inside, not the lone backslash -- `WellNamed`, decidable): every token the
    writer emits is read back by the tokenizer as itself -/
theorem compose_tokens_good (o : Opts) (n : BNet) (hw : WellNamed n) :
    ∀ t ∈ composeB o n, GoodTok t ∧ t ≠ bsl := composeB_good o n hw

/-- reading the composed text = line-parsing the composed lines and elaborating -/
theorem read_composed_text (o : Opts) (n : BNet) (hw : WellNamed n) :
    readB (composeText o n) = (parseLines (composeLines o n) >>= elabB) := read_composeText o n hw

/-- for the `.subckt`/`.gate` fragment the composed lines parse to the explicit AST `astOf`:
    one model, header = the IN / OUT port bits, one instance statement per child with its
    formal=actual pairs (`connsOf`) and info lines (`infoStmts`), in the writer's order -/
theorem parse_composed_lines (o : Opts) (n : BNet) (t : String) (hf : FragP o n t) :
    parseLines (composeLines o n) = Except.ok (astOf o n t) := parse_composeLines o n t hf

/-- the writer's `name[index]` is read back as bit (name, index), whatever the name; a name not
    ending in `]` as (name, 0) -/
theorem split_written_bit (a : String) (i : Nat) :
    splitIdx (a ++ "[" ++ natStr i ++ "]") = Except.ok (a, i) ∧
    (plainName a → a.toList ≠ [] → splitIdx a = Except.ok (a, 0)) :=
  ⟨splitIdx_idx a i, fun h1 h2 => splitIdx_plain a h1 h2⟩

/-- **Round trip, `.subckt`/`.gate` fragment** (top model in `work`, children all `.subckt`/`.gate`
    in the writer's order, IN/OUT ports, every port pin on the bit named after it, no black-box block
    written -- `FragP`, `NetOK`, decidable): whatever `readB` makes of the text `composeB` writes has
    the same instances (parent, model, type, in order), the same `.attr`/`.param` data and
    `EBLIF.cname` = name iff `write_eblif_cname`, and exactly the same pins on every net bit. -/
theorem eblif_roundtrip_subckt (o : Opts) (n : BNet) (t : String) (hw : WellNamed n) (hf : FragP o n t)
    (hn : NetOK n t) (n' : BNet) (h : readB (composeText o n) = Except.ok n') :
    n'.insts.map kindOf = n.insts.map kindOf ∧
    (∀ j : Nat, (n'.insts[j]?).map infoOf =
      (n.insts[j]?).map (fun (i : Inst) => (if o.writeCname then some i.name else none, i.attrs, i.params))) ∧
    (∀ x k, OnNet n' x k ↔ OnNet n x k) := by
  obtain ⟨h1, h2, h3, _⟩ := roundtrip o n t hw hf.toB hn (fun hwb => by simp [hf.bbDefs hwb]) n' h
  exact ⟨h1, h2, h3⟩

/-- non-vacuity: a netlist with a scalar and a bus input, an output, one instance with `.cname` and
    `.attr`, three cables -/
def exNet : BNet :=
  { name := some "t", top := some "t", comments := [],
    defs := [{ name := "t", ports := [{ name := "a", dir := Dir.inp, width := 1 }, { name := "b", dir := Dir.inp, width := 2 },
                                      { name := "y", dir := Dir.out, width := 1 }], declared := true },
             { name := "B", ports := [{ name := "I", dir := Dir.undef, width := 1 }, { name := "J", dir := Dir.undef, width := 2 },
                                      { name := "O", dir := Dir.undef, width := 1 }] }],
    insts := [{ parent := "t", name := "u1", model := "B", typ := "EBLIF.subckt", cname := some "u1",
                attrs := [("k", "v")], pins := [("I", 0), ("J", 0), ("J", 1), ("O", 0)] }],
    cables := [(("t", "a"), [[Pin.top "t" "a" 0, Pin.inst 0 "I" 0]]),
               (("t", "b"), [[Pin.top "t" "b" 0, Pin.inst 0 "J" 0], [Pin.top "t" "b" 1, Pin.inst 0 "J" 1]]),
               (("t", "y"), [[Pin.top "t" "y" 0, Pin.inst 0 "O" 0]])] }

theorem exNet_wellNamed : WellNamed exNet := by decide +kernel

theorem exNet_frag : FragP { writeBlackbox := false } exNet "t" :=
  ⟨rfl, by decide +kernel, by decide +kernel, by decide +kernel, by decide +kernel, by decide +kernel, by decide +kernel⟩

set_option maxRecDepth 100000 in
set_option maxHeartbeats 2000000 in
example : WellNamed exNet ∧ NetOK exNet "t" := ⟨exNet_wellNamed, by decide +kernel⟩

example : FragP { writeBlackbox := false } exNet "t" := exNet_frag

-- by the lexer and parser theorems the read is the elaboration of `astOf`; only that is evaluated
set_option maxRecDepth 100000 in
set_option maxHeartbeats 4000000 in
example : isOk (readB (composeText { writeBlackbox := false } exNet)) = true := by
  rw [read_composed_text _ _ exNet_wellNamed, parse_composed_lines _ _ "t" exNet_frag]
  decide +kernel

/-- For ANY list of models elaborated from the empty state (any headers, any statements including
    `.conn` and `.blackbox`, several models): pin `p` is on wire `k` of the final wire table IFF the
    threaded join list `modelsAcc` holds a pair `(p, k')` with `k` the wire `k'` stands for.
    `modelsAcc` adds, per `.inputs` word its pin/bit pair, per `.outputs` word its pair unless the
    word names an existing input port, per instance statement `stmtJoins`, and on `.blackbox`
    removes every pair declared for a bit of that model. -/
theorem pins_exact_all (ms : List Model) (st' : St) (h : elabModels {} ms = Except.ok st') :
    ∀ p k, p ∈ st'.pins k ↔ ∃ k', (p, k') ∈ modelsAcc {} [] ms ∧ st'.alias k' = k :=
  exact_elabModels_all ms WF.init Exact.init h

/-- ... and the materialised netlist shows exactly those pins (no pin is lost or invented by
    `St.toNet`; pins sit on live wires only) -/
theorem onNet_exact_all (ms : List Model) (st' : St) (h : elabModels {} ms = Except.ok st') :
    ∀ p k, OnNet st'.toNet p k ↔ ∃ k', (p, k') ∈ modelsAcc {} [] ms ∧ st'.alias k' = k := by
  intro p k
  rw [onNet_toNet st' (linv_netInv.elabModels ms LInv.init h).pl p k]
  exact pins_exact_all ms st' h p k

set_option maxRecDepth 100000 in
example : (match elabModels {} [{ name := "t", hdr := [Hdr.inputs ["a"]], body := [Stmt.subckt false "B" [("I", "a")] []] },
                                { name := "B", hdr := [Hdr.inputs ["I"]], body := [Stmt.blackbox] }] with
           | Except.ok s => (s.pins ("t", "a", 0), s.pins ("B", "I", 0))
           | _ => ([], [])) = ([Pin.top "t" "a" 0, Pin.inst 0 "I" 0], []) := by decide +kernel

/-- the elaboration result of any model list is self-contained: definition names are pairwise
    different, every instance's model is a definition of the netlist, every instance parent and
    every cable owner is a declared model -/
theorem self_contained (ms : List Model) (st' : St) (h : elabModels {} ms = Except.ok st') :
    (st'.defs.map (·.name)).Nodup ∧
    (∀ i ∈ st'.insts, (∃ d ∈ st'.defs, d.name = i.model) ∧ ∃ d ∈ st'.defs, d.name = i.parent ∧ d.declared = true) ∧
    (∀ c ∈ st'.cables, ∃ d ∈ st'.defs, d.name = c.1 ∧ d.declared = true) := by
  have s := sc_elabModels ms SC.init h
  refine ⟨?_, (sc_resolves s).1, (sc_resolves s).2⟩
  have := s.nodup
  simp only [defNames, defsView, List.map_map] at this
  exact this

/-- a definition that no `.model` declared (an undeclared black box, a generated `logic-gate_k`,
    `generic-latch`) is a leaf -- no child, no cable -- and is not in library `work` -/
theorem undeclared_leaf (ms : List Model) (st' : St) (h : elabModels {} ms = Except.ok st')
    (d : DefD) (hd : d ∈ st'.defs) (hu : d.declared = false) :
    isLeaf st'.toNet d.name = true ∧ d.inWork = false :=
  sc_undeclared_leaf (sc_elabModels ms SC.init h) hd hu

set_option maxRecDepth 100000 in
example : (match elabModels {} [{ name := "t", hdr := [], body := [Stmt.subckt false "X" [("A", "n")] [], Stmt.names ["n", "y"] [] []] }] with
           | Except.ok s => s.defs.map (fun d => (d.name, d.declared, isLeaf s.toNet d.name))
           | _ => []) = [("t", true, false), ("X", false, true), ("logic-gate_1", false, true)] := by decide +kernel

/-- right after a `formal=actual` (actual not `unconn`) is connected, definition `model` exists and
    has port `pn` with more than `pi` pins.  For the final state: `formal_actual_port`, with
    `ports_never_shrink` (Props/C18ReadOk.lean). -/
theorem formal_actual_port_step (st st' : St) (idx : Nat) (parent model : String) (fa : String × String)
    (cn pn : String) (ci pi : Nat) (h1 : splitIdx fa.2 = Except.ok (cn, ci)) (h2 : splitIdx fa.1 = Except.ok (pn, pi))
    (hu : cn ≠ "unconn") (h : connectOne st idx parent model fa = Except.ok st') :
    (findDef st' model).isSome = true ∧ pi < portWidth st' model pn :=
  connectOne_port h1 h2 hu h

end Spydr.Eblif
