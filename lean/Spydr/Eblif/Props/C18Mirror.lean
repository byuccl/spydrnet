/-
  C18: the instance / definition pin mirror, for ANY accepted text.

  Whatever `readB` accepts, every instance of the result carries exactly one pin per port bit of
  the definition it references: the definition exists and is unique by name, its port names are
  distinct, and the instance's pin list is a duplicate-free enumeration of
  { (port, bit) | port in the definition, bit < width of port }.
  No hypothesis on the text (any models, any order, any `.subckt` / `.names` / `.latch` / `.conn` /
  `.blackbox` mix, ports that grow after instances were made).
-/
import Spydr.Eblif.Mirror
import Spydr.Eblif.Props.C18GenDefs
import Spydr.Eblif.OnNet

namespace Spydr.Eblif

def BNet.PinMirror (n : BNet) : Prop :=
  (n.defs.map (·.name)).Nodup ∧
  (∀ d ∈ n.defs, (d.ports.map (·.name)).Nodup) ∧
  ∀ i ∈ n.insts, ∃ d ∈ n.defs, d.name = i.model ∧ i.pins.Perm (allPins d)

theorem mem_bitsFrom (pn : String) (lo hi : Nat) (x : String × Nat) :
    x ∈ bitsFrom pn lo hi ↔ x.1 = pn ∧ lo ≤ x.2 ∧ x.2 < hi := by
  unfold bitsFrom
  simp only [List.mem_map, List.mem_range]
  constructor
  · rintro ⟨k, hk, rfl⟩
    exact ⟨rfl, by simp, by simp only; omega⟩
  · rintro ⟨h1, h2, h3⟩
    refine ⟨x.2 - lo, by omega, ?_⟩
    rcases x with ⟨a, b⟩
    simp only at h1 h2 h3 ⊢
    subst h1
    congr 1
    omega

theorem bitsFrom_nodup (pn : String) (lo hi : Nat) : (bitsFrom pn lo hi).Nodup := by
  unfold bitsFrom
  refine nodup_map_of_inj _ _ List.nodup_range ?_
  intro a _ b _ h
  simp only [Prod.mk.injEq, true_and] at h
  omega

theorem mem_allPins (d : DefD) (p : String) (b : Nat) :
    (p, b) ∈ allPins d ↔ ∃ q ∈ d.ports, q.name = p ∧ b < q.width := by
  unfold allPins
  simp only [List.mem_flatMap, mem_bitsFrom]
  constructor
  · rintro ⟨q, hq, h1, _, h3⟩; exact ⟨q, hq, h1.symm, h3⟩
  · rintro ⟨q, hq, h1, h3⟩; exact ⟨q, hq, h1.symm, Nat.zero_le _, h3⟩

theorem allPins_nodup (d : DefD) (h : (d.ports.map (·.name)).Nodup) : (allPins d).Nodup := by
  unfold allPins
  generalize d.ports = l at h
  induction l with
  | nil => simp
  | cons q r ih =>
    simp only [List.map_cons, List.nodup_cons, List.mem_map, not_exists, not_and] at h
    simp only [List.flatMap_cons]
    rw [List.nodup_append]
    refine ⟨bitsFrom_nodup _ _ _, ih h.2, ?_⟩
    intro a ha b hb e
    subst e
    rw [mem_bitsFrom] at ha
    simp only [List.mem_flatMap, mem_bitsFrom] at hb
    obtain ⟨q', hq', h1, _⟩ := hb
    exact h.1 q' hq' (h1.symm.trans ha.1)

theorem allPins_length (d : DefD) : (allPins d).length = (d.ports.map (·.width)).sum := by
  simp [allPins, List.length_flatMap, bitsFrom]

theorem pinMirror_of_mirror {st : St} (m : Mirror st) : st.toNet.PinMirror := by
  refine ⟨m.dn, ?_, ?_⟩
  · intro d hd
    have := m.pn d hd
    simp only [nwOf, List.map_map] at this
    exact this
  · intro i hi
    obtain ⟨d, hd, hn, hp⟩ := m.mir i hi
    exact ⟨d, hd, hn, by rw [allPins_nw]; exact hp⟩

/-- **Pin mirror, elaborator level**: for ANY syntax tree the elaborator accepts. -/
theorem pin_mirror_elab (a : BAst) (n : BNet) (h : elabB a = Except.ok n) : n.PinMirror := by
  obtain ⟨s0, h0, hdefs, hins, _, _⟩ := elab_decompose a n h
  obtain ⟨d1, d2, d3⟩ := pinMirror_of_mirror (mirror_elabModels h0 Mirror.init)
  refine ⟨by rw [hdefs]; exact d1, by rw [hdefs]; exact d2, ?_⟩
  intro i hi
  have : eraseName i ∈ n.insts.map eraseName := List.mem_map.mpr ⟨i, hi, rfl⟩
  rw [hins] at this
  obtain ⟨j, hj, he⟩ := List.mem_map.mp this
  have hm : j.model = i.model := congrArg Inst.model he |> (by simpa [eraseName] using ·)
  have hp : j.pins = i.pins := congrArg Inst.pins he |> (by simpa [eraseName] using ·)
  obtain ⟨d, hd, hn, hperm⟩ := d3 j hj
  exact ⟨d, by rw [hdefs]; exact hd, hn.trans hm, by rw [← hp]; exact hperm⟩

/-- **Pin mirror, reader level**: `readB text = ok n` implies the pin mirror, for any text. -/
theorem pin_mirror (text : List Char) (n : BNet) (h : readB text = Except.ok n) : n.PinMirror := by
  unfold readB at h
  obtain ⟨a, _, h⟩ := bind_ok h
  exact pin_mirror_elab a n h

/-- the same, spelt out per instance: the definition the instance names is the one `find?` returns,
    the pin list has no duplicates, contains exactly the (port, bit) pairs of that definition, and its
    length is the sum of the port widths. -/
theorem pin_mirror_bits (text : List Char) (n : BNet) (h : readB text = Except.ok n) :
    ∀ i ∈ n.insts, ∃ d, n.defs.find? (fun d => d.name = i.model) = some d ∧
      i.pins.Nodup ∧
      (∀ p b, (p, b) ∈ i.pins ↔ ∃ q ∈ d.ports, q.name = p ∧ b < q.width) ∧
      i.pins.length = (d.ports.map (·.width)).sum := by
  obtain ⟨h1, h2, h3⟩ := pin_mirror text n h
  intro i hi
  obtain ⟨d, hd, hn, hp⟩ := h3 i hi
  refine ⟨d, ?_, ?_, ?_, ?_⟩
  · have := findDef_of_mem (st := { defs := n.defs }) h1 hd
    unfold findDef at this
    rw [← hn]; exact this
  · exact hp.symm.nodup (allPins_nodup d (h2 d hd))
  · intro p b
    rw [hp.mem_iff]; exact mem_allPins d p b
  · rw [hp.length_eq]; exact allPins_length d

instance (n : BNet) : Decidable n.PinMirror := by unfold BNet.PinMirror; exact inferInstance

/-- not vacuous: an instance that misses bit 1 of a two-bit port (what the unrepaired reader
    produced when a later formal widened a port) violates the mirror; the repaired shape has it -/
example : ¬ BNet.PinMirror
  { defs := [{ name := "m", ports := [{ name := "a", dir := Dir.inp, width := 2 }] }],
    insts := [{ parent := "t", name := "i", model := "m", typ := "EBLIF.subckt", pins := [("a", 0)] }] } := by decide +kernel

example : BNet.PinMirror
  { defs := [{ name := "m", ports := [{ name := "a", dir := Dir.inp, width := 2 }, { name := "y", dir := Dir.out, width := 1 }] }],
    insts := [{ parent := "t", name := "i", model := "m", typ := "EBLIF.subckt", pins := [("a", 0), ("y", 0), ("a", 1)] }] } := by decide +kernel

end Spydr.Eblif
