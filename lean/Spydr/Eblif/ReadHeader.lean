/-
  The header of the written top model, with INOUT ports and `.clock`: an `.outputs` word that names
  an input port flips it to INOUT and joins nothing, so the header yields `n`'s inputs and inouts in
  order, then its pure outputs.
-/
import Spydr.Eblif.NetOK
import Spydr.Eblif.ReadBlackBox
import Spydr.Eblif.WriterParse

namespace Spydr.Eblif

theorem setDirL_idem (ps : List PortD) (pn : String) (d : Dir) : setDirL (setDirL ps pn d) pn d = setDirL ps pn d := by
  unfold setDirL
  rw [List.map_map]
  apply List.map_congr_left
  intro p _
  simp only [Function.comp]
  by_cases h : p.name = pn <;> simp [h]

theorem findIn_setDirL_self (ps : List PortD) (pn : String) (d : Dir) :
    findIn (setDirL ps pn d) pn = (findIn ps pn).map (fun p => { p with dir := d }) := by
  rw [findIn_setDirL]; simp

theorem findIn_setDirL_other (ps : List PortD) (pn qn : String) (d : Dir) (hne : pn ≠ qn) :
    findIn (setDirL ps pn d) qn = findIn ps qn := by
  rw [findIn_setDirL]; cases findIn ps qn <;> simp [Ne.symm hne]

theorem elabOutput_inout {st st' : St} {t tok pn : String} {pi : Nat} (hd : DefEx st t)
    (hs : splitIdx tok = Except.ok (pn, pi)) (e : PortD) (he : findIn (portsOf st t) pn = some e)
    (hdir : e.dir = Dir.inp ∨ e.dir = Dir.inout) (hw : pi + 1 ≤ e.width)
    (h : elabOutput st t tok = Except.ok st') :
    portsOf st' t = setDirL (portsOf st t) pn Dir.inout ∧ netFields st' = netFields st ∧ DefEx st' t ∧
      st'.insts = st.insts := by
  have hh : hasPort st t pn = true := by rw [hasPort_eq, he]; rfl
  have hadd : addPort st t pn Dir.out 0 = st := addPort_of_has hh _ _
  have hpd : portDir st t pn = e.dir := by rw [portDir_eq, he]
  obtain ⟨pn', pi', _, hs', rfl, hc⟩ := elabOutput_cases h
  obtain ⟨rfl, rfl⟩ : pn = pn' ∧ pi = pi' := by rw [hs] at hs'; cases hs'; exact ⟨rfl, rfl⟩
  rw [hadd, hpd] at hc
  obtain ⟨_, rfl⟩ : _ ∧ st' = growPort (setDir st t pn Dir.inout) t pn (pi + 1) := by
    rcases hc with hc | ⟨h1, h2, _⟩
    · exact hc
    · rcases hdir with h' | h'
      · exact absurd h' h1
      · exact absurd h' h2
  obtain ⟨_, _, h3⟩ := setDir_port st t pn Dir.inout hd hh
  have hpw : portWidth (setDir st t pn Dir.inout) t pn = e.width := by
    rw [portWidth_eq, portsOf_setDir, findIn_setDirL_self, he]
    rfl
  have hgrow : growPort (setDir st t pn Dir.inout) t pn (pi + 1) = setDir st t pn Dir.inout :=
    growPort_of_le (hpw ▸ hw)
  rw [hgrow]
  exact ⟨portsOf_setDir _ _ _ _, rfl, h3, rfl⟩

theorem inout_rest (t pn : String) (ps0 : List PortD) (e : PortD) (he : findIn ps0 pn = some e) (ws : List String)
    (hws : ∀ w ∈ ws, ∃ pi, splitIdx w = Except.ok (pn, pi) ∧ pi + 1 ≤ e.width) :
    ∀ (st st' : St), DefEx st t → portsOf st t = setDirL ps0 pn Dir.inout →
      elabToks elabOutput st t ws = Except.ok st' →
      portsOf st' t = setDirL ps0 pn Dir.inout ∧ netFields st' = netFields st ∧ DefEx st' t ∧ st'.insts = st.insts := by
  induction ws with
  | nil => intro st st' hd hp h; cases h; exact ⟨hp, rfl, hd, rfl⟩
  | cons w r ih =>
    intro st st' hd hp h
    unfold elabToks at h
    obtain ⟨s1, h1, h2⟩ := bind_ok h
    obtain ⟨pi, hs, hle⟩ := hws w (by simp)
    have hf : findIn (portsOf st t) pn = some { e with dir := Dir.inout } := by
      rw [hp, findIn_setDirL_self, he]; rfl
    obtain ⟨a1, a2, a3, a4⟩ := elabOutput_inout hd hs _ hf (Or.inr rfl) hle h1
    rw [hp, setDirL_idem] at a1
    obtain ⟨b1, b2, b3, b4⟩ := ih (fun x hx => hws x (by simp [hx])) s1 st' a3 a1 h2
    exact ⟨b1, b2.trans a2, b3, b4.trans a4⟩

theorem inout_port (t : String) (p : PortD) (hpl : plainName p.name) (hne : p.name.toList ≠ []) (hw : 1 ≤ p.width)
    (st st' : St) (hd : DefEx st t) (e : PortD) (he : findIn (portsOf st t) p.name = some e)
    (hdir : e.dir = Dir.inp ∨ e.dir = Dir.inout) (hwe : e.width = p.width)
    (h : elabToks elabOutput st t (portBits p) = Except.ok st') :
    portsOf st' t = setDirL (portsOf st t) p.name Dir.inout ∧ netFields st' = netFields st ∧ DefEx st' t ∧
      st'.insts = st.insts := by
  obtain ⟨hlen, hsp⟩ := portBits_spec p hpl hne hw
  have hall : ∀ w ∈ portBits p, ∃ pi, splitIdx w = Except.ok (p.name, pi) ∧ pi + 1 ≤ e.width := by
    intro w hwm
    obtain ⟨j, hj, rfl⟩ := List.getElem_of_mem hwm
    exact ⟨j, hsp j hj, by omega⟩
  cases hws : portBits p with
  | nil => rw [hws] at hlen; simp at hlen; omega
  | cons w r =>
    rw [hws] at h hall
    unfold elabToks at h
    obtain ⟨s1, h1, h2⟩ := bind_ok h
    obtain ⟨pi, hs, hle⟩ := hall w (by simp)
    obtain ⟨a1, a2, a3, a4⟩ := elabOutput_inout hd hs e he hdir hle h1
    obtain ⟨b1, b2, b3, b4⟩ := inout_rest t p.name (portsOf st t) e he r (fun x hx => hall x (by simp [hx])) s1 st' a3 a1 h2
    exact ⟨b1, b2.trans a2, b3, b4.trans a4⟩

/-- port list after the `.outputs` line: an INOUT port flips its direction, an OUT port is appended -/
def outRes (ps : List PortD) : List PortD → List PortD
  | [] => ps
  | p :: r => outRes (if p.dir = Dir.inout then setDirL ps p.name Dir.inout else ps ++ [p]) r

theorem out_phase (t : String) (Q : List PortD) :
    ∀ (ps : List PortD) (st st' : St) (J : List (Pin × Key)),
      (∀ p ∈ Q, (p.dir = Dir.out ∨ p.dir = Dir.inout) ∧ plainName p.name ∧ p.name.toList ≠ [] ∧ 1 ≤ p.width) →
      (Q.map (·.name)).Nodup →
      (∀ p ∈ Q, p.dir = Dir.inout → ∃ e, findIn ps p.name = some e ∧ (e.dir = Dir.inp ∨ e.dir = Dir.inout) ∧ e.width = p.width) →
      (∀ p ∈ Q, p.dir = Dir.out → ∀ e ∈ ps, e.name ≠ p.name) →
      DefEx st t → portsOf st t = ps → RInv st → Exact st J →
      elabToks elabOutput st t (Q.flatMap portBits) = Except.ok st' →
      portsOf st' t = outRes ps Q ∧ DefEx st' t ∧ RInv st' ∧
        Exact st' (J ++ wordJoins t ((Q.filter (fun p => p.dir = Dir.out)).flatMap portBits)) := by
  -- one port's words at a time (`elabToks_append`): an INOUT port exists as an input, its words flip it and join nothing
  -- (`inout_port`; port list `setDirL`); a pure OUT port is new, its words append it and join its bits (`port_words elabOutput_bit`,
  -- `hinv_outputs`); the hypotheses on the remaining ports are carried over the changed port list
  induction Q with
  | nil =>
    intro ps st st' J _ _ _ _ hd hp r e h
    cases h
    exact ⟨hp, hd, r, by simpa [wordJoins] using e⟩
  | cons p q ih =>
    intro ps st st' J hQ hnd hio hout hd hp r e h
    simp only [List.flatMap_cons] at h
    rw [elabToks_append] at h
    obtain ⟨s1, h1, h2⟩ := bind_ok h
    obtain ⟨hdir, hpl, hne, hw⟩ := hQ p (by simp)
    simp only [List.map_cons, List.nodup_cons, List.mem_map, not_exists, not_and] at hnd
    by_cases hpd : p.dir = Dir.inout
    ·
      obtain ⟨e0, he0, hd0, hw0⟩ := hio p (by simp) hpd
      rw [← hp] at he0
      obtain ⟨a1, a2, a3, _⟩ := inout_port t p hpl hne hw st s1 hd e0 he0 hd0 hw0 h1
      rw [hp] at a1
      have := ih (setDirL ps p.name Dir.inout) s1 st' J (fun x hx => hQ x (by simp [hx])) hnd.2
        (by
          intro x hx hxd
          obtain ⟨e1, h1', h2', h3'⟩ := hio x (by simp [hx]) hxd
          refine ⟨e1, ?_, h2', h3'⟩
          rw [findIn_setDirL_other ps p.name x.name Dir.inout (fun e => hnd.1 x hx e.symm)]
          exact h1')
        (by
          intro x hx hxd e1 he1
          unfold setDirL at he1
          obtain ⟨e2, he2, rfl⟩ := List.mem_map.mp he1
          have := hout x (by simp [hx]) hxd e2 he2
          split <;> exact this)
        a3 a1 (RInv.of_fields a2 r) (Exact.of_pa (pa_of_nf a2) e) h2
      obtain ⟨b1, b2, b3, b4⟩ := this
      refine ⟨?_, b2, b3, ?_⟩
      · simp only [outRes, hpd, if_true]; exact b1
      · have : (p :: q).filter (fun p => p.dir = Dir.out) = q.filter (fun p => p.dir = Dir.out) := by
          simp [hpd]
        rw [this]; exact b4
    ·
      have hpo : p.dir = Dir.out := by rcases hdir with h' | h'; exact h'; exact absurd h' hpd
      have hnew : ∀ e ∈ ps, e.name ≠ p.name := hout p (by simp) hpo
      obtain ⟨a1, a3⟩ := port_words elabOutput_bit t p hpl hne hw ps hnew st s1 hd hp h1
      have hrec : ({ name := p.name, dir := Dir.out, width := p.width } : PortD) = p := by rw [← hpo]
      rw [hrec] at a1
      have hi0 : HInv st t [p.name] J := by
        refine ⟨hd, ?_, r, e⟩
        intro pn hpn hh
        simp only [List.mem_singleton] at hpn
        subst hpn
        rw [hasPort_eq, hp, findIn_none_of ps p.name hnew] at hh
        cases hh
      have hi1 := hinv_outputs t [p.name] (portBits p) (by
          intro w hwm
          obtain ⟨hlen, hsp⟩ := portBits_spec p hpl hne hw
          obtain ⟨j, hj, rfl⟩ := List.getElem_of_mem hwm
          exact ⟨p.name, j, hsp j hj, by simp⟩) hi0 h1
      have := ih (ps ++ [p]) s1 st' (J ++ wordJoins t (portBits p)) (fun x hx => hQ x (by simp [hx])) hnd.2
        (by
          intro x hx hxd
          obtain ⟨e1, h1', h2', h3'⟩ := hio x (by simp [hx]) hxd
          refine ⟨e1, ?_, h2', h3'⟩
          rw [findIn_append_other ps p x.name (fun e => hnd.1 x hx e.symm)]
          exact h1')
        (by
          intro x hx hxd e1 he1
          rcases List.mem_append.mp he1 with h' | h'
          · exact hout x (by simp [hx]) hxd e1 h'
          · simp only [List.mem_singleton] at h'
            subst h'
            exact fun e => hnd.1 x hx e.symm)
        a3 a1 hi1.rinv hi1.ex h2
      obtain ⟨b1, b2, b3, b4⟩ := this
      refine ⟨?_, b2, b3, ?_⟩
      · simp only [outRes, hpd, if_false]; exact b1
      · have : (p :: q).filter (fun p => p.dir = Dir.out) = p :: q.filter (fun p => p.dir = Dir.out) := by
          simp [hpo]
        rw [this, List.flatMap_cons, wordJoins_append, ← List.append_assoc]
        exact b4

theorem hdrOfFull_eq (d : DefD) :
    hdrOfFull d = Hdr.inputs ((insPorts d).flatMap portBits) :: Hdr.outputs ((outsPorts d).flatMap portBits) ::
      (match d.clock with | some c => [Hdr.clock c] | none => []) := rfl

def pureOuts (d : DefD) : List PortD := d.ports.filter (fun p => p.dir = Dir.out)

def toInp (p : PortD) : PortD := if p.dir = Dir.inout then { p with dir := Dir.inp } else p

theorem toInp_name (p : PortD) : (toInp p).name = p.name := by unfold toInp; split <;> rfl
theorem toInp_width (p : PortD) : (toInp p).width = p.width := by unfold toInp; split <;> rfl
theorem portBits_toInp (p : PortD) : portBits (toInp p) = portBits p := by
  unfold portBits; rw [toInp_name, toInp_width]

theorem findIn_of_mem_nodup {ps : List PortD} (hn : (ps.map (·.name)).Nodup) {e : PortD} (he : e ∈ ps) :
    findIn ps e.name = some e :=
  find?_key_eq (fun x : PortD => x.name) hn he

theorem foldl_setDirL_append (N : List PortD) (p : PortD) (hp : ∀ q ∈ N, q.name ≠ p.name) :
    ∀ acc : List PortD, N.foldl (fun a q => setDirL a q.name Dir.inout) (acc ++ [p]) =
      N.foldl (fun a q => setDirL a q.name Dir.inout) acc ++ [p] := by
  induction N with
  | nil => intro acc; rfl
  | cons q r ih =>
    intro acc
    simp only [List.foldl_cons]
    have : setDirL (acc ++ [p]) q.name Dir.inout = setDirL acc q.name Dir.inout ++ [p] := by
      unfold setDirL
      rw [List.map_append]
      have hne : ¬ p.name = q.name := fun e => hp q (by simp) e.symm
      simp [hne]
    rw [this, ih (fun x hx => hp x (by simp [hx]))]

theorem outRes_split (Q : List PortD) (hd : ∀ p ∈ Q, p.dir = Dir.out ∨ p.dir = Dir.inout)
    (hne : ∀ p ∈ Q, p.dir = Dir.out → ∀ q ∈ Q, q.dir = Dir.inout → q.name ≠ p.name) :
    ∀ acc, outRes acc Q = (Q.filter (fun p => p.dir = Dir.inout)).foldl (fun a q => setDirL a q.name Dir.inout) acc ++
      Q.filter (fun p => p.dir = Dir.out) := by
  induction Q with
  | nil => intro acc; simp [outRes]
  | cons p r ih =>
    intro acc
    have ihr := ih (fun x hx => hd x (by simp [hx])) (fun x hx hxd y hy hyd => hne x (by simp [hx]) hxd y (by simp [hy]) hyd)
    by_cases hpd : p.dir = Dir.inout
    · simp only [outRes, hpd, if_true]
      rw [ihr]
      simp [hpd]
    · have hpo : p.dir = Dir.out := by rcases hd p (by simp) with h | h; exact h; exact absurd h hpd
      simp only [outRes, hpd, if_false]
      rw [ihr, foldl_setDirL_append _ p (by
        intro q hq
        simp only [List.mem_filter, decide_eq_true_eq] at hq
        exact hne p (by simp) hpo q (by simp [hq.1]) hq.2)]
      simp [hpo]

theorem foldl_setDirL_map (N : List PortD) :
    ∀ L : List PortD, N.foldl (fun a q => setDirL a q.name Dir.inout) L =
      L.map (fun x => if x.name ∈ N.map (·.name) then { x with dir := Dir.inout } else x) := by
  induction N with
  | nil => intro L; simp
  | cons p r ih =>
    intro L
    simp only [List.foldl_cons]
    rw [ih]
    unfold setDirL
    rw [List.map_map]
    apply List.map_congr_left
    intro x _
    simp only [Function.comp, List.map_cons, List.mem_cons]
    by_cases h1 : x.name = p.name
    · simp [h1]
    · simp [h1]

theorem outs_filter_out (d : DefD) : (outsPorts d).filter (fun p => p.dir = Dir.out) = pureOuts d := by
  unfold outsPorts pureOuts
  rw [List.filter_filter]
  congr 1
  funext p
  cases p.dir <;> simp

theorem outRes_ports (d : DefD) (hnd : (d.ports.map (·.name)).Nodup) :
    outRes ((insPorts d).map toInp) (outsPorts d) = insPorts d ++ pureOuts d := by
  rw [outRes_split]
  · have e1 := outs_filter_out d
    have e2 : (outsPorts d).filter (fun p => p.dir = Dir.inout) = d.ports.filter (fun p => p.dir = Dir.inout) := by
      unfold outsPorts
      rw [List.filter_filter]
      congr 1
      funext p
      cases p.dir <;> simp
    rw [e1, e2, foldl_setDirL_map, List.map_map]
    congr 1
    have : ∀ x ∈ insPorts d, ((fun x : PortD => if x.name ∈ (d.ports.filter (fun p => p.dir = Dir.inout)).map (·.name)
        then { x with dir := Dir.inout } else x) ∘ toInp) x = id x := by
      intro x hx
      have hxm : x ∈ d.ports := (List.mem_filter.mp hx).1
      simp only [Function.comp, id]
      rw [toInp_name]
      by_cases hxd : x.dir = Dir.inout
      · have hm : x.name ∈ (d.ports.filter (fun p => p.dir = Dir.inout)).map (·.name) :=
          List.mem_map.mpr ⟨x, List.mem_filter.mpr ⟨hxm, by simp [hxd]⟩, rfl⟩
        simp only [hm, if_true]
        unfold toInp
        simp only [hxd, if_true]
        rw [← hxd]
      · have hm : ¬ x.name ∈ (d.ports.filter (fun p => p.dir = Dir.inout)).map (·.name) := by
          intro hm
          obtain ⟨y, hy, hyn⟩ := List.mem_map.mp hm
          simp only [List.mem_filter, decide_eq_true_eq] at hy
          have := eq_of_nodup_name hnd hy.1 hxm hyn
          subst this
          exact hxd hy.2
        simp only [hm, if_false]
        unfold toInp
        simp [hxd]
    rw [List.map_congr_left this]
    simp
  · intro p hp
    simp only [outsPorts, List.mem_filter, Bool.or_eq_true, decide_eq_true_eq] at hp
    exact hp.2
  · intro p hp hpd q hq hqd e
    have hp' := (List.mem_filter.mp hp).1
    have hq' := (List.mem_filter.mp hq).1
    have := eq_of_nodup_name hnd hq' hp' e
    subst this
    rw [hpd] at hqd; cases hqd

theorem portsOf_updDef_keep (st : St) (n : String) (f : DefD → DefD) (h1 : ∀ x, (f x).name = x.name)
    (h2 : ∀ x, (f x).ports = x.ports) (m : String) : portsOf (updDef st n f) m = portsOf st m := by
  unfold portsOf
  rw [findDef_updDef st n f h1 m]
  cases findDef st m with
  | none => rfl
  | some d => simp only [Option.map_some]; split <;> simp [h2]

theorem hdr_full (t : String) (d : DefD)
    (hP : ∀ p ∈ d.ports, (p.dir = Dir.inp ∨ p.dir = Dir.out ∨ p.dir = Dir.inout) ∧ plainName p.name ∧
      p.name.toList ≠ [] ∧ 1 ≤ p.width)
    (hnd : (d.ports.map (·.name)).Nodup) (sh : St)
    (h : elabHdrs (beginModel {} t) t (hdrOfFull d) = Except.ok sh) :
    portsOf sh t = insPorts d ++ pureOuts d ∧ DefEx sh t ∧ RInv sh ∧
    Exact sh (wordJoins t ((insPorts d).flatMap portBits) ++ wordJoins t ((pureOuts d).flatMap portBits)) := by
  -- `.inputs` words: the input and inout ports appear as IN ports (`toInp`; `ports_words elabInput_bit`, `hinv_inputs`); `.outputs`
  -- words: the inouts flip, the pure outputs are appended (`out_phase`, `outRes_ports`); `.clock` touches neither
  rw [hdrOfFull_eq] at h
  obtain ⟨sa, sb, hin, hout, h⟩ := elabHdrs_io_iff.mp h
  have hbits : ((insPorts d).map toInp).flatMap portBits = (insPorts d).flatMap portBits := by
    rw [List.flatMap_map]
    congr 1
    funext p
    exact portBits_toInp p
  have hIn : ∀ p ∈ (insPorts d).map toInp, plainName p.name ∧ p.name.toList ≠ [] ∧ 1 ≤ p.width ∧ p.dir = Dir.inp := by
    intro p hp
    obtain ⟨x, hx, rfl⟩ := List.mem_map.mp hp
    simp only [insPorts, List.mem_filter, Bool.or_eq_true, decide_eq_true_eq] at hx
    obtain ⟨_, h2, h3, h4⟩ := hP x hx.1
    rw [toInp_name, toInp_width]
    refine ⟨h2, h3, h4, ?_⟩
    unfold toInp
    rcases hx.2 with h' | h'
    · simp [h']
    · simp [h']
  have hnames : ((insPorts d).map toInp).map (·.name) = (insPorts d).map (·.name) := by
    rw [List.map_map]; congr 1; funext p; exact toInp_name p
  have hndI : (((insPorts d).map toInp).map (·.name)).Nodup := by
    rw [hnames]; exact hnd.sublist (List.filter_sublist.map _)
  rw [← hbits] at hin
  obtain ⟨pa, da⟩ := ports_words elabInput_bit t ((insPorts d).map toInp) hIn [] (beginModel {} t) sa
    (fun q hq => by cases hq) hndI (beginModel_defEx t) (portsOf_beginModel_empty t) hin
  have hi0 : HInv (beginModel {} t) t [] [] :=
    ⟨beginModel_defEx t, (fun pn hpn => by cases hpn),
     RInv.of_fields (nf_beginModel _ _) RInv.init, Exact.of_pa (pa_of_nf (nf_beginModel _ _)) Exact.init⟩
  have hi1 := hinv_inputs t [] _ (by
      intro w hw
      obtain ⟨p, hp, hwp⟩ := List.mem_flatMap.mp hw
      obtain ⟨h2, h3, _, _⟩ := hIn p hp
      obtain ⟨pi, hs⟩ := splitIdx_portBits p h2 h3 w hwp
      exact ⟨p.name, pi, hs, by simp⟩) hi0 hin
  rw [hbits] at hi1
  have hOutQ : ∀ p ∈ outsPorts d, (p.dir = Dir.out ∨ p.dir = Dir.inout) ∧ plainName p.name ∧ p.name.toList ≠ [] ∧ 1 ≤ p.width := by
    intro p hp
    simp only [outsPorts, List.mem_filter, Bool.or_eq_true, decide_eq_true_eq] at hp
    obtain ⟨_, h2, h3, h4⟩ := hP p hp.1
    exact ⟨hp.2, h2, h3, h4⟩
  obtain ⟨pb, db, rb, eb⟩ := out_phase t (outsPorts d) ([] ++ (insPorts d).map toInp) sa sb _ hOutQ
    (hnd.sublist (List.filter_sublist.map _))
    (by
      intro p hp hpd
      have hpm : p ∈ d.ports := (List.mem_filter.mp hp).1
      have hpi : p ∈ insPorts d := List.mem_filter.mpr ⟨hpm, by simp [hpd]⟩
      refine ⟨toInp p, ?_, ?_, toInp_width p⟩
      · have := findIn_of_mem_nodup (ps := [] ++ (insPorts d).map toInp) (by simpa using hndI)
          (e := toInp p) (by simpa using List.mem_map.mpr ⟨p, hpi, rfl⟩)
        rw [toInp_name] at this
        exact this
      · left; unfold toInp; simp [hpd])
    (by
      intro p hp hpd e he
      simp only [List.nil_append] at he
      obtain ⟨x, hx, rfl⟩ := List.mem_map.mp he
      rw [toInp_name]
      intro hn
      have hxm := List.mem_filter.mp hx
      have hpm : p ∈ d.ports := (List.mem_filter.mp hp).1
      have := eq_of_nodup_name hnd hxm.1 hpm hn
      subst this
      have := hxm.2
      simp [hpd] at this)
    da pa hi1.rinv hi1.ex hout
  simp only [List.nil_append] at pb eb
  rw [outRes_ports d hnd] at pb
  rw [outs_filter_out] at eb
  cases hc : d.clock with
  | none =>
    simp only [hc] at h
    cases h
    exact ⟨pb, db, rb, eb⟩
  | some c =>
    simp only [hc] at h
    unfold elabHdrs at h
    obtain ⟨sc, hclk, h⟩ := bind_ok h
    cases h
    simp only [elabHdr] at hclk
    cases hclk
    refine ⟨?_, isSome_updDef _ _ _ (fun _ => rfl) db, RInv.of_fields (nf_updDef _ _ _) rb,
      Exact.of_pa (pa_of_nf (nf_updDef _ _ _)) eb⟩
    rw [← pb]
    exact portsOf_updDef_keep sb t _ (by intro; rfl) (by intro; rfl) t

end Spydr.Eblif
