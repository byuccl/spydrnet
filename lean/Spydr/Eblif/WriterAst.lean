/-
  What the composed lines stand for, for the `.subckt`/`.gate` fragment: the top model (`astOf`)
  followed by one `.blackbox` model per written leaf definition (`astOfB`), the fragment (`FragP`,
  `FragB`), and the writer's comment, instance and black-box lines in terms of the parser.  The parse
  theorem for the whole writer output is in WriterParse.lean.
-/
import Spydr.Eblif.WriterWords
import Spydr.Eblif.ParseComments

namespace Spydr.Eblif

def formalText (p : PortD) (b : Nat) : String :=
  if p.width > 1 then p.name ++ "[" ++ natStr b ++ "]" else p.name

/-- the `formal = actual` pairs the writer emits for instance `idx` -/
def connsOf (n : BNet) (idx : Nat) (i : Inst) : List (String × String) :=
  (n.findDef i.model).ports.flatMap (fun p =>
    (i.pins.reverse.filter (fun q => q.1 = p.name)).map (fun q =>
      (formalText p q.2, netText n (Pin.inst idx q.1 q.2))))

def infoStmts (o : Opts) (i : Inst) : List InfoStmt :=
  (if o.writeCname then [InfoStmt.cname i.name] else [])
  ++ i.attrs.map (fun kv => InfoStmt.attr kv.1 kv.2)
  ++ i.params.map (fun kv => InfoStmt.param kv.1 kv.2)

def stmtOf (o : Opts) (n : BNet) (p : Inst × Nat) : Stmt :=
  Stmt.subckt (p.1.typ = "EBLIF.gate") p.1.model (connsOf n p.2 p.1) (infoStmts o p.1)

/-- children of the top model in the writer's order -/
def kidsOrd (n : BNet) (t : String) : List (Inst × Nat) :=
  let kids := n.insts.zipIdx.filter (fun (p : Inst × Nat) => p.1.parent = t)
  kids.filter (fun (p : Inst × Nat) => p.1.typ = "EBLIF.subckt") ++ kids.filter (fun (p : Inst × Nat) => p.1.typ = "EBLIF.gate")

def hdrOf (d : DefD) : List Hdr :=
  [Hdr.inputs ((d.ports.filter (fun p => p.dir = Dir.inp || p.dir = Dir.inout)).flatMap portBits),
   Hdr.outputs ((d.ports.filter (fun p => p.dir = Dir.out || p.dir = Dir.inout)).flatMap portBits)]

def astOf (o : Opts) (n : BNet) (t : String) : BAst :=
  { comments := n.comments.map (fun c => commentText (splitOnBlank c.toList)) ++ ["Generated by 'BYU spydrnet tool' "],
    models := [{ name := t, hdr := hdrOf (n.findDef t), body := (kidsOrd n t).map (stmtOf o n) }] }

/-- the fragment: a top model in `work` without `.clock`, whose children are all `.subckt`/`.gate`
    instances, no port pin on a foreign net (no `.conn` line), no black-box block written, and no
    `=` inside a port name -/
structure FragP (o : Opts) (n : BNet) (t : String) : Prop where
  top : n.top = some t
  work : (n.findDef t).inWork = true
  noclock : (n.findDef t).clock = none
  kinds : ∀ i ∈ n.insts, i.parent = t → (i.typ = "EBLIF.subckt" ∨ i.typ = "EBLIF.gate")
  noconn : connLines n (n.findDef t) = []
  nobb : (if o.writeBlackbox then blackboxLines n t else []) = []
  noeq : ∀ d ∈ n.defs, ∀ p ∈ d.ports, '=' ∉ p.name.toList

theorem formalText_noeq {p : PortD} (h : '=' ∉ p.name.toList) (b : Nat) : '=' ∉ (formalText p b).toList := by
  unfold formalText
  split
  · simp only [String.toList_append, List.mem_append, not_or]
    refine ⟨⟨⟨h, by decide⟩, ?_⟩, by decide⟩
    intro hm
    have := gcs_natStr b '=' hm
    have hd : '=' ∈ Nat.toDigits 10 b := by simpa [natStr] using hm
    have := toDigits_bounds (hd)
    simp at this
  · exact h

theorem findDef_ports_mem {n : BNet} {dn : String} {p : PortD} (h : p ∈ (n.findDef dn).ports) :
    ∃ d ∈ n.defs, p ∈ d.ports := by
  rcases n.findDef_cases dn with hd | hd
  · exact ⟨_, hd.1, h⟩
  · rw [hd] at h; cases h

theorem mem_connsOf {n : BNet} {idx : Nat} {i : Inst} {fa : String × String} :
    fa ∈ connsOf n idx i ↔ ∃ p ∈ (n.findDef i.model).ports, ∃ q ∈ i.pins, q.1 = p.name ∧
      fa = (formalText p q.2, netText n (Pin.inst idx q.1 q.2)) := by
  unfold connsOf
  simp only [List.mem_flatMap, List.mem_map, List.mem_filter, List.mem_reverse, decide_eq_true_eq]
  constructor
  · rintro ⟨p, hp, q, ⟨hq, hqp⟩, rfl⟩; exact ⟨p, hp, q, hq, hqp, rfl⟩
  · rintro ⟨p, hp, q, hq, hqp, rfl⟩; exact ⟨p, hp, q, ⟨hq, hqp⟩, rfl⟩

theorem infoLines_eq (o : Opts) (i : Inst) : infoLines o i = (infoStmts o i).map infoLine := by
  unfold infoLines infoStmts
  simp only [List.map_append, List.map_map]
  congr 1
  · congr 1
    split <;> rfl

theorem instLines_eq (o : Opts) (n : BNet) (p : Inst × Nat)
    (ht : p.1.typ = "EBLIF.subckt" ∨ p.1.typ = "EBLIF.gate") :
    instLines o n p = subcktLines (p.1.typ = "EBLIF.gate") p.1.model (connsOf n p.2 p.1) (infoStmts o p.1) := by
  obtain ⟨i, idx⟩ := p
  have hline : ∀ g : Bool, subcktLine n idx i g = [subcktKw g, i.model] ++ (connsOf n idx i).map connWord := by
    intro g
    unfold subcktLine connsOf subcktKw
    simp only [List.map_flatMap, List.map_map]
    congr 1
  unfold instLines subcktLines
  simp only at ht ⊢
  rcases ht with h | h
  · simp [h, hline, infoLines_eq]
  · simp [h, hline, infoLines_eq]

theorem comments_fold (cs : List String) :
    ∀ (s : PSt), s.mode = Mode.outside →
      (cs.map (fun c => ["#"] ++ splitOnBlank c.toList)).foldl pstep s =
        { s with comments := s.comments ++ cs.map (fun c => commentText (splitOnBlank c.toList)) } := by
  induction cs with
  | nil => intro s _; simp
  | cons c r ih =>
    intro s hm
    simp only [List.map_cons, List.foldl_cons]
    have : pstep s (["#"] ++ splitOnBlank c.toList) = s.setC (s.comments ++ [commentText (splitOnBlank c.toList)]) :=
      pstep_comment s _ (by rw [hm]; decide)
    rw [this, ih _ (by simpa [PSt.setC] using hm)]
    simp [PSt.setC]

/-- leaf definitions the writer declares after the top model -/
def bbDefs (n : BNet) (t : String) : List DefD :=
  let used := ((n.insts.filter (fun i => i.parent = t &&
                  (i.typ = "EBLIF.subckt" || i.typ = "EBLIF.gate" || i.typ = "EBLIF.other") && isLeaf n i.model)).map (·.model))
  n.defs.filter (fun d => !d.inWork && d.name ∈ used && !containsSub d.name.toList "logic-gate".toList)

def bbModel (d : DefD) : Model :=
  { name := d.name,
    hdr := [Hdr.inputs ((d.ports.filter (fun p => p.dir = Dir.inp)).map (·.name)),
            Hdr.outputs ((d.ports.filter (fun p => p.dir = Dir.out)).map (·.name))],
    body := [Stmt.blackbox] }

def bbPart (o : Opts) (n : BNet) (t : String) : List Model :=
  if o.writeBlackbox then (bbDefs n t).map bbModel else []

theorem bbDefs_sub {n : BNet} {t : String} {d : DefD} (h : d ∈ bbDefs n t) : d ∈ n.defs :=
  (List.mem_filter.mp h).1

theorem bbPart_cases {o : Opts} {n : BNet} {t : String} {sc sf : St}
    (h : elabModels sc (bbPart o n t) = Except.ok sf) :
    (o.writeBlackbox = true ∧ elabModels sc ((bbDefs n t).map bbModel) = Except.ok sf) ∨
    (¬ o.writeBlackbox = true ∧ sf = sc) := by
  unfold bbPart at h
  split at h
  · exact Or.inl ⟨‹_›, h⟩
  · exact Or.inr ⟨‹_›, (Except.ok.inj h).symm⟩

def astOfB (o : Opts) (n : BNet) (t : String) : BAst :=
  { comments := (astOf o n t).comments, models := (astOf o n t).models ++ bbPart o n t }

/-- the fragment without the "no black-box block" condition -/
structure FragB (n : BNet) (t : String) : Prop where
  top : n.top = some t
  work : (n.findDef t).inWork = true
  noclock : (n.findDef t).clock = none
  kinds : ∀ i ∈ n.insts, i.parent = t → (i.typ = "EBLIF.subckt" ∨ i.typ = "EBLIF.gate")
  noconn : connLines n (n.findDef t) = []
  noeq : ∀ d ∈ n.defs, ∀ p ∈ d.ports, '=' ∉ p.name.toList

theorem bb_lines_fold (ds : List DefD) :
    ∀ (s : PSt), s.mode = Mode.outside → s.cur = none →
      (ds.flatMap (fun d =>
        [[".model", d.name],
         [".inputs"] ++ (d.ports.filter (fun p => p.dir = Dir.inp)).map (·.name),
         [".outputs"] ++ (d.ports.filter (fun p => p.dir = Dir.out)).map (·.name),
         [".blackbox"], [".end"], []])).foldl pstep s = { s with done := s.done ++ ds.map bbModel } := by
  induction ds with
  | nil => intro s _ _; simp
  | cons d r ih =>
    intro s hm hc
    simp only [List.flatMap_cons, List.foldl_append, List.foldl_cons, List.foldl_nil]
    have h1 : pstep (pstep (pstep (pstep (pstep (pstep s [".model", d.name])
        ([".inputs"] ++ (d.ports.filter (fun p => p.dir = Dir.inp)).map (·.name)))
        ([".outputs"] ++ (d.ports.filter (fun p => p.dir = Dir.out)).map (·.name))) [".blackbox"]) [".end"]) [] =
        { s with done := s.done ++ [bbModel d] } := by
      cases s with
      | mk mode comments done cur err =>
        simp only at hm hc
        subst hm; subst hc
        simp [pstep, stepOutside, stepHeader, stepBody, PSt.pushHdr, PSt.pushStmt, bbModel]
    rw [h1]
    have := ih { s with done := s.done ++ [bbModel d] } hm hc
    rw [this]
    simp

theorem FragP.toB {o : Opts} {n : BNet} {t : String} (hf : FragP o n t) : FragB n t :=
  ⟨hf.top, hf.work, hf.noclock, hf.kinds, hf.noconn, hf.noeq⟩

theorem FragP.bbPart {o : Opts} {n : BNet} {t : String} (hf : FragP o n t) : bbPart o n t = [] := by
  have h := hf.nobb
  unfold Spydr.Eblif.bbPart
  split
  · rename_i hwb
    rw [if_pos hwb] at h
    cases hb : bbDefs n t with
    | nil => rfl
    | cons d r =>
      have : blackboxLines n t = (bbDefs n t).flatMap _ := rfl
      rw [this, hb] at h
      simp at h
  · rfl

end Spydr.Eblif
