/-
  What is joined stays joined through every statement but `.blackbox`; every pair an instance statement
  connects is joined afterwards.
-/
import Spydr.Eblif.Edits

namespace Spydr.Eblif

theorem dictSet_fresh (l : List (String × String)) (k v : String) (h : ∀ p ∈ l, p.1 ≠ k) :
    dictSet l k v = l ++ [(k, v)] := by
  unfold dictSet
  have : l.find? (fun p => p.1 = k) = none := by
    simp only [List.find?_eq_none, decide_eq_true_eq]
    exact h
  simp [this]

theorem foldl_dictSet_nodup (conns : List (String × String)) :
    ∀ acc : List (String × String), (conns.map (·.1)).Nodup → (∀ p ∈ acc, ∀ q ∈ conns, p.1 ≠ q.1) →
      conns.foldl (fun l fa => dictSet l fa.1 fa.2) acc = acc ++ conns := by
  induction conns with
  | nil => intro acc _ _; simp
  | cons c r ih =>
    intro acc hn hd
    simp only [List.map_cons, List.nodup_cons] at hn
    simp only [List.foldl_cons]
    rw [dictSet_fresh acc c.1 c.2 (fun p hp => hd p hp c (by simp))]
    rw [ih (acc ++ [(c.1, c.2)]) hn.2]
    · simp
    · intro p hp q hq
      rcases List.mem_append.mp hp with hp | hp
      · exact hd p hp q (by simp [hq])
      · simp only [List.mem_singleton] at hp
        subst hp
        intro he
        exact hn.1 (List.mem_map.mpr ⟨q, hq, he.symm⟩)

/-- with pairwise different formals the dict is the list itself -/
theorem infoMapOf_nodup (conns : List (String × String)) (h : (conns.map (·.1)).Nodup) :
    infoMapOf conns = conns := by
  unfold infoMapOf
  rw [foldl_dictSet_nodup conns [] h (fun p hp => by cases hp)]
  simp

/-- only `connectAll` touches the nets while an instance statement is elaborated; `.conn` creates the
    two wires and merges them -/
theorem ext_elabStmt {st st' : St} {cur : String} {s : Stmt} (hs : s ≠ Stmt.blackbox)
    (h : elabStmt st cur s = Except.ok st') : Ext st st' := by
  cases hi : Stmt.isInstance s with
  | true =>
    obtain ⟨sA, m, t, _, r1, _, _, r2⟩ := Run.elabStmt_inst hi h
    exact r1.ext.trans ((Ext.of_fields (nf_newInst _ _ _ _)).trans
      ((withCovers_rel Ext.refl (fun _ _ _ => Ext.of_fields (nf_updInst _ _ _)) _ _ _).trans r2.ext))
  | false =>
    cases s with
    | conn a b =>
      obtain ⟨n1, i1, n2, i2, _, _, rfl⟩ := elabStmt_conn_cases h
      exact Ext.trans (ext_ensureWire _ _ _ _) (Ext.trans (ext_ensureWire _ _ _ _) (ext_mergeKeys _ _ _))
    | blackbox => exact absurd rfl hs
    | _ => cases hi

/-- every pair an instance statement connects (actual not `unconn`) is joined to the named bit afterwards -/
theorem inst_conns_joined {st st' : St} {cur : String} {s : Stmt} (hs : Stmt.isInstance s = true)
    (h : elabStmt st cur s = Except.ok st') :
    ∀ fa ∈ stmtConns st s, ∀ cn ci pn pi, splitIdx fa.2 = Except.ok (cn, ci) → splitIdx fa.1 = Except.ok (pn, pi) →
      cn ≠ "unconn" → Joined st' (Pin.inst st.insts.length pn pi) (cur, cn, ci) ∧ Live st' (cur, cn, ci) := by
  obtain ⟨_, _, s2, _, _, _, h2, h3⟩ := elabStmt_inst_cases hs h
  intro fa hfa cn ci pn pi x1 x2 hu
  have hj := connectAll_joins _ h2 fa hfa cn ci pn pi x1 x2 hu
  have e23 : Ext s2 st' := Ext.of_fields (nf_applyInfo _ h3)
  exact ⟨e23.joined _ _ hj.1, e23.live _ hj.2⟩

theorem ext_elabStmts {cur : String} (l : List Stmt) (hl : ∀ s ∈ l, s ≠ Stmt.blackbox) {st st' : St}
    (h : elabStmts st cur l = Except.ok st') : Ext st st' :=
  elabStmts_rel Ext.refl Ext.trans (fun s hs _ _ h => ext_elabStmt (hl s hs) h) h

theorem elabStmts_append {cur : String} (a b : List Stmt) :
    ∀ st : St, elabStmts st cur (a ++ b) = (elabStmts st cur a >>= fun s => elabStmts s cur b) :=
  loop_append (go := fun s l => elabStmts s cur l) (fun _ => rfl) (fun _ _ _ => rfl) a b

theorem elabStmts_split {cur : String} {pre post : List Stmt} {s : Stmt} {st st' : St}
    (h : elabStmts st cur (pre ++ s :: post) = Except.ok st') :
    ∃ stm s1, elabStmts st cur pre = Except.ok stm ∧ elabStmt stm cur s = Except.ok s1 ∧
      elabStmts s1 cur post = Except.ok st' := by
  rw [elabStmts_append] at h
  obtain ⟨stm, hpre, h⟩ := bind_ok h
  obtain ⟨s1, h1, h⟩ := bind_ok (show (elabStmt stm cur s >>= _) = _ from h)
  exact ⟨stm, s1, hpre, h1, h⟩

theorem elabStmt_conn {st st' : St} {cur a b : String} (h : elabStmt st cur (Stmt.conn a b) = Except.ok st') :
    ∃ n1 i1 n2 i2, splitIdx a = Except.ok (n1, i1) ∧ splitIdx b = Except.ok (n2, i2) ∧
      st'.alias (cur, n1, i1) = st'.alias (cur, n2, i2) ∧ Live st' (cur, n1, i1) ∧ Live st' (cur, n2, i2) := by
  obtain ⟨n1, i1, n2, i2, e1, e2, rfl⟩ := elabStmt_conn_cases h
  refine ⟨n1, i1, n2, i2, e1, e2, mergeKeys_alias _ _ _, ?_, ?_⟩
  · exact (ext_mergeKeys _ _ _).live _ ((ext_ensureWire _ _ _ _).live _ (ensureWire_live _ _ _ _))
  · exact (ext_mergeKeys _ _ _).live _ (ensureWire_live _ _ _ _)

end Spydr.Eblif
