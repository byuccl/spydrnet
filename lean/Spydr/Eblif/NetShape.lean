/-
  Shape conditions on the netlist, all decidable (`NetOKF` in writer order, `NetOKA` in any order, `NetOKW`
  what the `.subckt`/`.gate` fragment and the whole writer output share), and the joins of the written text,
  followed through the `.conn` aliases, against the netlist it was written from: equal up to the renaming of
  instance indices to writer positions (`Renames`).
-/
import Spydr.Eblif.ChildShape
import Spydr.Eblif.ReadConn
import Spydr.Eblif.ReadHeader

namespace Spydr.Eblif

/-- a pin found in a wire of `n` is one the writer writes -/
def CoveredF (n : BNet) (t : String) : Pin → Prop
  | Pin.top o pn b => o = t ∧ ∃ p ∈ (n.findDef t).ports, p.name = pn ∧ b < p.width
  | Pin.inst idx pn b => ∃ i ∈ (n.insts[idx]?).toList, (pn, b) ∈ i.pins

instance (n : BNet) (t : String) (x : Pin) : Decidable (CoveredF n t x) := by
  cases x with
  | top o pn b => unfold CoveredF; infer_instance
  | inst idx pn b => unfold CoveredF; infer_instance

/-- top-level ports: IN, OUT or INOUT, plain names, at least one pin, every pin on some wire -/
def PortsOKF (n : BNet) (t : String) : Prop :=
  ∀ p ∈ (n.findDef t).ports, (p.dir = Dir.inp ∨ p.dir = Dir.out ∨ p.dir = Dir.inout) ∧ plainName p.name ∧ 1 ≤ p.width ∧
    ∀ b, b < p.width → (n.wireOf (Pin.top t p.name b)).isSome = true

instance (n : BNet) (t : String) : Decidable (PortsOKF n t) := by unfold PortsOKF; infer_instance

def CablesOKF (n : BNet) (t : String) : Prop :=
  ∀ cw ∈ n.cables, cw.1.1 = t ∧ plainName cw.1.2 ∧ cw.1.2 ≠ "unconn" ∧
    ∀ pw ∈ cw.2.zipIdx, ∀ x ∈ pw.1, n.wireOf x = some (cw.1, pw.2, cw.2.length) ∧ CoveredF n t x

instance (n : BNet) (t : String) : Decidable (CablesOKF n t) := by unfold CablesOKF; infer_instance

/-- a port bit whose pin sits on a differently named net (it gets a `.conn` line) names no net of
    its own: the wire called after it is absent or empty -/
def ConnOK (n : BNet) (t : String) : Prop :=
  ∀ kk ∈ connKeys n t (n.findDef t), ∀ cw ∈ n.cables, cw.1 = (kk.2.1, kk.2.2.1) →
    ∀ w, cw.2[kk.2.2.2]? = some w → w = []

instance (n : BNet) (t : String) : Decidable (ConnOK n t) := by
  unfold ConnOK
  have : ∀ (l : List (List Pin)) (j : Nat), Decidable (∀ w, l[j]? = some w → w = []) := by
    intro l j
    cases l[j]? with
    | none => exact isTrue (fun _ h => by cases h)
    | some w =>
      by_cases hw : w = []
      · exact isTrue (fun _ h => by cases h; exact hw)
      · exact isFalse (fun h => hw (h w rfl))
  infer_instance

/-- children: per-kind shape, pairwise different attr / param keys, no child instantiates the top
    model, a `.names` definition is not also used by a child of another kind -/
def KidsOKF (n : BNet) (t : String) : Prop :=
  ∀ k ∈ n.insts.zipIdx, KidShape n k ∧ (k.1.attrs.map (·.1)).Nodup ∧ (k.1.params.map (·.1)).Nodup ∧ t ≠ k.1.model ∧
    (k.1.typ ≠ "EBLIF.names" → ∀ j ∈ n.insts, j.typ = "EBLIF.names" → k.1.model ≠ j.model)

instance (n : BNet) (t : String) : Decidable (KidsOKF n t) := by unfold KidsOKF; infer_instance

def NetOKF (n : BNet) (t : String) : Prop :=
  kidsFull n t = n.insts.zipIdx ∧ PortsOKF n t ∧ ((n.findDef t).ports.map (·.name)).Nodup ∧
  CablesOKF n t ∧ ConnOK n t ∧ KidsOKF n t

instance (n : BNet) (t : String) : Decidable (NetOKF n t) := by unfold NetOKF; infer_instance

/-- joins of the header of the written top model -/
def hdrJ (n : BNet) (t : String) : List (Pin × Key) :=
  wordJoins t ((insPorts (n.findDef t)).flatMap portBits) ++ wordJoins t ((pureOuts (n.findDef t)).flatMap portBits)

/-- all joins the written text declares, before the `.conn` aliases -/
def JF (n : BNet) (t : String) : List (Pin × Key) := hdrJ n t ++ n.insts.zipIdx.flatMap (kidJoinsF n t)

theorem mem_hdrJ (n : BNet) (t : String) (hw : WellNamed n) (ht : okWord t = true) (hp : PortsOKF n t)
    (x : Pin) (k : Key) :
    (x, k) ∈ hdrJ n t ↔ ∃ p ∈ (n.findDef t).ports, ∃ b, b < p.width ∧ x = Pin.top t p.name b ∧ k = (t, p.name, b) := by
  obtain ⟨_, hpn, _⟩ := findDef_ok hw ht
  have hok : ∀ ps : List PortD, (∀ p ∈ ps, p ∈ (n.findDef t).ports) →
      wordJoins t (ps.flatMap portBits) = ps.flatMap (portJoins t) := by
    intro ps hps
    apply wordJoins_ports
    intro p hpm
    obtain ⟨_, hpl, hwd, _⟩ := hp p (hps p hpm)
    exact ⟨hpl, okWord_nonempty (hpn p (hps p hpm)), hwd⟩
  unfold hdrJ
  rw [hok (insPorts (n.findDef t)) (fun p h => (List.mem_filter.mp h).1),
    hok (pureOuts (n.findDef t)) (fun p h => (List.mem_filter.mp h).1)]
  simp only [List.mem_append, List.mem_flatMap, portJoins, List.mem_map, List.mem_range, Prod.mk.injEq,
    insPorts, pureOuts, List.mem_filter, Bool.or_eq_true, decide_eq_true_eq]
  constructor
  · rintro (⟨p, ⟨hpm, _⟩, b, hb, e1, e2⟩ | ⟨p, ⟨hpm, _⟩, b, hb, e1, e2⟩)
    · exact ⟨p, hpm, b, hb, e1.symm, e2.symm⟩
    · exact ⟨p, hpm, b, hb, e1.symm, e2.symm⟩
  · rintro ⟨p, hpm, b, hb, e1, e2⟩
    rcases (hp p hpm).1 with hd | hd | hd
    · exact Or.inl ⟨p, ⟨hpm, Or.inl hd⟩, b, hb, e1.symm, e2.symm⟩
    · exact Or.inr ⟨p, ⟨hpm, hd⟩, b, hb, e1.symm, e2.symm⟩
    · exact Or.inl ⟨p, ⟨hpm, Or.inr hd⟩, b, hb, e1.symm, e2.symm⟩

theorem alias_portbit (n : BNet) (t : String) (hnd : ((n.findDef t).ports.map (·.name)).Nodup)
    (p : PortD) (hp : p ∈ (n.findDef t).ports) (b : Nat) (hb : b < p.width) (c : CKey) (wi len : Nat)
    (hwo : n.wireOf (Pin.top t p.name b) = some (c, wi, len)) :
    aliasOf (connKeys n t (n.findDef t)) (t, p.name, b) = (t, c.2, wi) := by
  have hsrc : ∀ ka, (ka, ((t, p.name, b) : Key)) ∈ connKeys n t (n.findDef t) → ka = (t, c.2, wi) ∧ ¬ (c.2 = p.name ∧ wi = b) := by
    intro ka hm
    obtain ⟨p', hp', b', hb', c', wi', len', hwo', hne, rfl, he⟩ := (mem_connKeys n t _ ka _).mp hm
    rw [findDef_name] at hwo'
    simp only [Prod.mk.injEq, true_and] at he
    have := eq_of_nodup_name hnd hp hp' he.1
    subst this
    rw [← he.2, hwo] at hwo'
    simp only [Option.some.injEq, Prod.mk.injEq] at hwo'
    obtain ⟨rfl, rfl, _⟩ := hwo'
    exact ⟨rfl, by rw [he.2]; exact hne⟩
  by_cases hsame : c.2 = p.name ∧ wi = b
  · have : (t, p.name, b) ∉ (connKeys n t (n.findDef t)).map (·.2) := by
      intro hm
      obtain ⟨pp, hpp, he⟩ := List.mem_map.mp hm
      obtain ⟨ka, kb⟩ := pp
      simp only at he
      subst he
      exact (hsrc ka hpp).2 hsame
    rw [aliasOf_not_mem this, hsame.1, hsame.2]
  · have hm : ((t, c.2, wi), ((t, p.name, b) : Key)) ∈ connKeys n t (n.findDef t) :=
      (mem_connKeys n t _ _ _).mpr ⟨p, hp, b, hb, c, wi, len, by rw [findDef_name]; exact hwo, hsame, rfl, rfl⟩
    obtain ⟨pp, hpp, he, ha⟩ := aliasOf_mem (List.mem_map.mpr ⟨_, hm, rfl⟩)
    obtain ⟨ka, kb⟩ := pp
    simp only at he ha
    subst he
    rw [ha]
    exact (hsrc ka hpp).1

theorem carrier_not_src (n : BNet) (t : String) (hc : ConnOK n t) (x : Pin) (k : Key) (ho : OnNet n x k) :
    k ∉ (connKeys n t (n.findDef t)).map (·.2) := by
  intro hm
  obtain ⟨pp, hpp, he⟩ := List.mem_map.mp hm
  obtain ⟨ws, w, hmem, hws, hx⟩ := ho
  have := hc pp hpp ((k.1, k.2.1), ws) hmem (by rw [he]) w (by rw [he]; exact hws)
  rw [this] at hx
  cases hx

theorem alias_carrier (n : BNet) (t : String) (hc : ConnOK n t) (x : Pin) (k : Key) (ho : OnNet n x k) :
    aliasOf (connKeys n t (n.findDef t)) k = k := aliasOf_not_mem (carrier_not_src n t hc x k ho)

-- `Any`: the hypothesis and the pin renaming of the round trip for ANY instance order (`eblif_roundtrip_any_order`)
namespace Any

/-- `NetOKF` without the order condition: the children the writer writes are all the instances, in
    some order -/
def NetOKA (n : BNet) (t : String) : Prop :=
  (kidsFull n t).Perm n.insts.zipIdx ∧ PortsOKF n t ∧ ((n.findDef t).ports.map (·.name)).Nodup ∧
  CablesOKF n t ∧ ConnOK n t ∧ KidsOKF n t

instance (n : BNet) (t : String) : Decidable (NetOKA n t) := by unfold NetOKA; infer_instance

/-- pin `y` of the re-read netlist is pin `x` of `n`: top-level pins are themselves, a pin of the
    instance with index `idx` in `n` is the same pin of the instance at the writer position of `idx` -/
def Renames (ks : List (Inst × Nat)) : Pin → Pin → Prop
  | Pin.top o p b, y => y = Pin.top o p b
  | Pin.inst idx p b, y => ∃ j i, ks[j]? = some (i, idx) ∧ y = Pin.inst j p b

end Any

open Any

theorem netOKA_of_netOKF (n : BNet) (t : String) (h : NetOKF n t) : NetOKA n t :=
  ⟨by rw [h.1], h.2⟩

/-- children, as far as write-then-read needs them: shape `KidShapeW`, pairwise different attr / param
    keys, a `.names` / `.latch` child does not instantiate the top model (a `.subckt` / `.gate` child
    may: only the top port list then differs), a `.names` definition is not also used by a child of
    another kind -/
def KidsOKW (n : BNet) (t : String) : Prop :=
  ∀ k ∈ n.insts.zipIdx, KidShapeW n k ∧ (k.1.attrs.map (·.1)).Nodup ∧ (k.1.params.map (·.1)).Nodup ∧
    ((k.1.typ = "EBLIF.names" ∨ k.1.typ = "EBLIF.latch") → t ≠ k.1.model) ∧
    (k.1.typ ≠ "EBLIF.names" → ∀ j ∈ n.insts, j.typ = "EBLIF.names" → k.1.model ≠ j.model)

instance (n : BNet) (t : String) : Decidable (KidsOKW n t) := by unfold KidsOKW; infer_instance

/-- the shape conditions under which the writer's text reads back to the same netlist: what `NetOK`
    (the `.subckt` / `.gate` fragment) and `NetOKA` (the whole writer output) have in common -/
def NetOKW (n : BNet) (t : String) : Prop :=
  (kidsFull n t).Perm n.insts.zipIdx ∧ PortsOKF n t ∧ ((n.findDef t).ports.map (·.name)).Nodup ∧
  CablesOKF n t ∧ ConnOK n t ∧ KidsOKW n t

instance (n : BNet) (t : String) : Decidable (NetOKW n t) := by unfold NetOKW; infer_instance

theorem KidsOKF.toW {n : BNet} {t : String} (h : KidsOKF n t) : KidsOKW n t := fun k hk =>
  ⟨(h k hk).1.toW, (h k hk).2.1, (h k hk).2.2.1, fun _ => (h k hk).2.2.2.1, (h k hk).2.2.2.2⟩

theorem netOKW_of_netOKA (n : BNet) (t : String) (h : NetOKA n t) : NetOKW n t :=
  ⟨h.1, h.2.1, h.2.2.1, h.2.2.2.1, h.2.2.2.2.1, h.2.2.2.2.2.toW⟩

theorem netOKW_of_netOK (n : BNet) (t : String) (hf : FragB n t) (h : NetOK n t) : NetOKW n t := by
  -- clause by clause: writer order (`kidsFull_fragB`); ports (a pin on its own bit is on a wire); cables (`Covered`
  -- is `CoveredF` plus a port); no `.conn` key (every port pin sits on the bit named after it); children (all
  -- `.subckt`/`.gate`; a pin on a wire has a port by `Covered`)
  obtain ⟨hord, hp, hnd, hcb, hin⟩ := h
  have hkf : kidsFull n t = n.insts.zipIdx := (kidsFull_fragB hf).trans hord
  have hkind : ∀ k ∈ n.insts.zipIdx, k.1.typ = "EBLIF.subckt" ∨ k.1.typ = "EBLIF.gate" := by
    intro k hk
    rw [← hord] at hk
    unfold kidsOrd at hk
    simp only [List.mem_append, List.mem_filter, decide_eq_true_eq] at hk
    rcases hk with h' | h'
    · exact Or.inl h'.2
    · exact Or.inr h'.2
  refine ⟨by rw [hkf], ?_, hnd, ?_, ?_, ?_⟩
  · intro p hpm
    obtain ⟨hd, hpl, hw1, hb⟩ := hp p hpm
    exact ⟨hd.elim Or.inl (fun h' => Or.inr (Or.inl h')), hpl, hw1, fun b hbw => by
      have := hb b hbw
      cases hwo : n.wireOf (Pin.top t p.name b) with
      | none => rw [hwo] at this; cases this
      | some r => rfl⟩
  · intro cw hcw
    obtain ⟨h1, h2, h3, h4⟩ := hcb cw hcw
    refine ⟨h1, h2, h3, fun pw hpw x hx => ⟨(h4 pw hpw x hx).1, ?_⟩⟩
    have hc := (h4 pw hpw x hx).2
    cases x with
    | top o pn b => exact hc
    | inst idx pn b =>
      obtain ⟨i, hi, hq, _⟩ := hc
      exact ⟨i, hi, hq⟩
  · intro kk hkk
    obtain ⟨ka, kb⟩ := kk
    obtain ⟨p, hpm, b, hb, c, wi, len, hwo, hne, _, _⟩ := (mem_connKeys n t _ ka kb).mp hkk
    rw [findDef_name] at hwo
    have := (hp p hpm).2.2.2 b hb
    rw [hwo] at this
    simp only [Option.map_some, Option.some.injEq, Prod.mk.injEq] at this
    exact absurd ⟨by rw [this.1], this.2⟩ hne
  · intro k hk
    obtain ⟨hnd', ha, hpa, hpp⟩ := hin k hk
    have hty := hkind k hk
    have hn' : k.1.typ ≠ "EBLIF.names" := by rcases hty with h' | h' <;> (rw [h']; decide)
    have hl' : k.1.typ ≠ "EBLIF.latch" := by rcases hty with h' | h' <;> (rw [h']; decide)
    refine ⟨?_, ha, hpa, fun h' => (h'.elim (absurd · hn') (absurd · hl')), fun _ j hj hjn => ?_⟩
    · unfold KidShapeW
      rw [if_neg hn', if_neg hl']
      refine ⟨hnd', hpp, fun q hq hsome => ?_⟩
      cases hwo : n.wireOf (Pin.inst k.2 q.1 q.2) with
      | none => rw [hwo] at hsome; cases hsome
      | some r =>
        obtain ⟨c, wi, len⟩ := r
        obtain ⟨ws, w, hm, _, hws, hx⟩ := wireOf_spec hwo
        obtain ⟨i, hi, _, hport⟩ := ((hcb (c, ws) hm).2.2.2 (w, wi) (List.mem_zipIdx_iff_getElem?.mpr hws) _ hx).2
        have : n.insts[k.2]? = some k.1 := List.mem_zipIdx_iff_getElem?.mp hk
        rw [this] at hi
        simp only [Option.toList_some, List.mem_singleton] at hi
        rw [hi] at hport
        exact hport
    · obtain ⟨idx, hidx⟩ := List.getElem?_of_mem hj
      rcases hkind (j, idx) (List.mem_zipIdx_iff_getElem?.mpr hidx) with h' | h' <;>
        (simp only at h'; rw [hjn] at h'; exact absurd h' (by decide))

def JFA (n : BNet) (t : String) : List (Pin × Key) :=
  hdrJ n t ++ ((kidsFull n t).zipIdx).flatMap (fun kj => kidJoinsAt n t kj.2 kj.1)

theorem cables_plain (n : BNet) (t : String) (hw : WellNamed n) (hcb : CablesOKF n t) :
    ∀ c ∈ n.cables, plainName c.1.2 ∧ c.1.2 ≠ "unconn" ∧ c.1.2.toList ≠ [] := by
  intro c hc
  obtain ⟨_, h2, h3, _⟩ := hcb c hc
  exact ⟨h2, h3, okWord_nonempty (hw.2.2.2.1 c hc)⟩

theorem onNet_of_wireOf (n : BNet) (t : String) (hcb : CablesOKF n t) {y : Pin} {c : CKey} {wi len : Nat}
    (hwo : n.wireOf y = some (c, wi, len)) : OnNet n y (t, c.2, wi) := by
  obtain ⟨ws, w, hm, _, hws, hx⟩ := wireOf_spec hwo
  obtain ⟨hown, _⟩ := hcb (c, ws) hm
  refine ⟨ws, w, ?_, hws, hx⟩
  simp only at hown ⊢
  rw [← hown]; exact hm

theorem jfa_owner (n : BNet) (t : String) (hw : WellNamed n) (ht : okWord t = true) (hn : NetOKW n t) :
    ∀ e ∈ JFA n t, e.2.1 = t := by
  obtain ⟨hperm, hp, _, hcb, _, hk⟩ := hn
  have hcab := cables_plain n t hw hcb
  intro e he
  obtain ⟨x, k⟩ := e
  unfold JFA at he
  rcases List.mem_append.mp he with h | h
  · obtain ⟨p, _, b, _, _, rfl⟩ := (mem_hdrJ n t hw ht hp x k).mp h
    rfl
  · obtain ⟨kj, hkj, hj⟩ := List.mem_flatMap.mp h
    have hkk : kj.1 ∈ n.insts.zipIdx := hperm.mem_iff.mp (mem_zipIdx_fst hkj)
    obtain ⟨q, _, c, wi, len, _, _, rfl⟩ := (mem_kidJoinsAt n t kj.1 kj.2 hw hkk (hk kj.1 hkk).1 hcab x k).mp hj
    rfl

theorem joins_iff_onNet (n : BNet) (t : String) (hw : WellNamed n) (ht : okWord t = true) (hn : NetOKW n t)
    (y : Pin) (k : Key) :
    (∃ k', (y, k') ∈ JFA n t ∧ aliasOf (connKeys n t (n.findDef t)) k' = k) ↔
    ∃ x, Renames (kidsFull n t) x y ∧ OnNet n x k := by
  -- →: a declared join is a header join (`mem_hdrJ`; `alias_portbit` sends the port bit to the wire its pin sits on)
  -- or a child join (`mem_kidJoinsAt`: the pin's own wire, which no `.conn` redirects: `alias_carrier`);
  -- ←: a pin on a wire is one the writer writes (`CablesOKF`): a port pin gives the header join, an instance pin
  -- the join of its child at its writer position
  have hn' := hn
  obtain ⟨hperm, hp, hnd, hcb, hcn, hk⟩ := hn'
  have hcab := cables_plain n t hw hcb
  have honnet := fun (z : Pin) (c : CKey) (wi len : Nat) => onNet_of_wireOf n t hcb (y := z) (c := c) (wi := wi) (len := len)
  constructor
  · rintro ⟨k', hm, ha⟩
    unfold JFA at hm
    rcases List.mem_append.mp hm with h | h
    · obtain ⟨p, hpm, b, hb, rfl, rfl⟩ := (mem_hdrJ n t hw ht hp y k').mp h
      obtain ⟨_, _, _, hsome⟩ := hp p hpm
      cases hwo : n.wireOf (Pin.top t p.name b) with
      | none => have := hsome b hb; rw [hwo] at this; cases this
      | some r =>
        obtain ⟨c, wi, len⟩ := r
        rw [alias_portbit n t hnd p hpm b hb c wi len hwo] at ha
        rw [← ha]
        exact ⟨Pin.top t p.name b, rfl, honnet _ c wi len hwo⟩
    · obtain ⟨kj, hkj, hj⟩ := List.mem_flatMap.mp h
      have hkk : kj.1 ∈ n.insts.zipIdx := hperm.mem_iff.mp (mem_zipIdx_fst hkj)
      obtain ⟨q, _, c, wi, len, hwo, rfl, rfl⟩ := (mem_kidJoinsAt n t kj.1 kj.2 hw hkk (hk kj.1 hkk).1 hcab y k').mp hj
      have ho := honnet _ c wi len hwo
      rw [alias_carrier n t hcn _ _ ho] at ha
      rw [← ha]
      refine ⟨Pin.inst kj.1.2 q.1 q.2, ⟨kj.2, kj.1.1, ?_, rfl⟩, ho⟩
      exact List.mem_zipIdx_iff_getElem?.mp hkj
  · rintro ⟨x, hren, ws, w, hm, hws, hx⟩
    have ho : OnNet n x k := ⟨ws, w, hm, hws, hx⟩
    obtain ⟨hown, _, _, hun⟩ := hcb ((k.1, k.2.1), ws) hm
    have hpw : (w, k.2.2) ∈ ws.zipIdx := List.mem_zipIdx_iff_getElem?.mpr hws
    obtain ⟨hwo, hcov⟩ := hun (w, k.2.2) hpw x hx
    simp only at hown hwo
    have hkeq : (t, k.2.1, k.2.2) = k := by
      obtain ⟨k1, k2, k3⟩ := k
      simp only at hown ⊢
      rw [hown]
    cases x with
    | top o pn b =>
      simp only [Renames] at hren
      subst hren
      simp only [CoveredF] at hcov
      obtain ⟨rfl, p, hpm, rfl, hb⟩ := hcov
      refine ⟨(o, p.name, b), ?_, ?_⟩
      · unfold JFA
        exact List.mem_append.mpr (Or.inl ((mem_hdrJ n o hw ht hp _ _).mpr ⟨p, hpm, b, hb, rfl, rfl⟩))
      · rw [alias_portbit n o hnd p hpm b hb _ _ _ hwo]
        exact hkeq
    | inst idx pn b =>
      simp only [Renames] at hren
      obtain ⟨j, i', hget, rfl⟩ := hren
      simp only [CoveredF, Option.mem_toList] at hcov
      obtain ⟨i, hi, hqm⟩ := hcov
      have hkj : ((i', idx), j) ∈ (kidsFull n t).zipIdx := List.mem_zipIdx_iff_getElem?.mpr hget
      have hkk : (i', idx) ∈ n.insts.zipIdx := hperm.mem_iff.mp (mem_zipIdx_fst hkj)
      have hii : i' = i := by
        have := List.mem_zipIdx_iff_getElem?.mp hkk
        simp only at this
        rw [this] at hi
        simpa using hi
      subst hii
      refine ⟨k, ?_, alias_carrier n t hcn _ _ ho⟩
      unfold JFA
      refine List.mem_append.mpr (Or.inr (List.mem_flatMap.mpr ⟨((i', idx), j), hkj, ?_⟩))
      exact (mem_kidJoinsAt n t (i', idx) j hw hkk (hk _ hkk).1 hcab _ _).mpr
        ⟨(pn, b), hqm, _, _, _, hwo, rfl, hkeq.symm⟩

/-- the identity only on pins that sit on a wire: those belong to an existing instance (`CablesOKF`) -/
theorem renames_zipIdx (n : BNet) (t : String) (hcb : CablesOKF n t) (y : Pin) (k : Key) :
    (∃ x, Renames n.insts.zipIdx x y ∧ OnNet n x k) ↔ OnNet n y k := by
  constructor
  · rintro ⟨x, hr, ho⟩
    cases x with
    | top o p b => cases hr; exact ho
    | inst idx p b =>
      obtain ⟨j, i, hget, rfl⟩ := hr
      have : j = idx := by
        rw [List.getElem?_zipIdx] at hget
        cases hi : n.insts[j]? with
        | none => rw [hi] at hget; cases hget
        | some a => rw [hi] at hget; simpa using (congrArg Prod.snd (Option.some.inj hget))
      rw [this]; exact ho
  · intro ho
    refine ⟨y, ?_, ho⟩
    cases y with
    | top o p b => rfl
    | inst idx p b =>
      obtain ⟨ws, w, hm, hws, hx⟩ := ho
      obtain ⟨i, hi, _⟩ := ((hcb _ hm).2.2.2 (w, k.2.2) (List.mem_zipIdx_iff_getElem?.mpr hws) _ hx).2
      exact ⟨idx, i, by rw [List.getElem?_zipIdx]; simpa using hi, rfl⟩

end Spydr.Eblif
