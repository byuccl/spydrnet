/-
  What the elaborator does to its state, as a relation.  `PrimQ cur idx D a b`: `b` arises from `a` by one
  of the primitive edits that create no instance and neither merge nor strip wires, made while model
  `cur` is open; `idx` is the only instance whose fields it may edit, `D` holds of the definitions it may
  create or whose ports it may change, and `growPort` is never applied to a port that an existing
  definition lacks.  `Prim cur` adds the new instance (always of an existing definition), the merge of
  `.conn` and the stripping of `.blackbox`.  A successful phase of the elaborator is a run of such edits,
  so an invariant is proved by one case distinction over them and a frame property by looking at `idx`
  and `D`.  A run carries relations between the state before and after (invariants, monotone facts,
  frames); it forgets which instance was created and which pins were connected.  What a statement ADDS
  (kind, data, truth table and joins of its instance) is read off its normal form instead: an instance
  statement is five phases (`elabStmt_inst_eq`), and what it connects, names and attaches is a function
  of the statement.
-/
import Spydr.Eblif.DefsPorts

namespace Spydr.Eblif

inductive Edit : (Inst → Inst) → Prop
  | name (n : String) : Edit (fun i => { i with name := n })
  | unconn (s : String) : Edit (fun i => { i with unconn := i.unconn ++ [s] })
  | cname (n : String) : Edit (fun i => { i with cname := some n })
  | attr (k v : String) : Edit (fun i => { i with attrs := dictSet i.attrs k v })
  | param (k v : String) : Edit (fun i => { i with params := dictSet i.params k v })

theorem Edit.frame {f : Inst → Inst} (h : Edit f) (x : Inst) :
    kindOf (f x) = kindOf x ∧ (f x).pins = x.pins ∧ (f x).covers = x.covers := by
  cases h <;> exact ⟨rfl, rfl, rfl⟩

inductive PrimQ (cur : String) (idx : Nat) (D : String → Prop) : St → St → Prop
  | ensureDef (a n) (hD : D n) : PrimQ cur idx D a (ensureDef a n)
  | checkHierarchy (a d) : PrimQ cur idx D a (checkHierarchy a cur d)
  | addPort (a dn pn d w) (hD : D dn) : PrimQ cur idx D a (addPort a dn pn d w)
  | growPort (a dn pn w) (hD : D dn) (hp : DefEx a dn → hasPort a dn pn = true) : PrimQ cur idx D a (growPort a dn pn w)
  | setDir (a dn pn d) (hD : D dn) : PrimQ cur idx D a (setDir a dn pn d)
  | edit (a f) (hf : Edit f) : PrimQ cur idx D a (updInst a idx f)
  | assignDefault (a m) : PrimQ cur idx D a (assignDefault a idx cur m)
  | connect (a p n i) : PrimQ cur idx D a (connect a p cur n i)
  | clock (a l) (hD : D cur) : PrimQ cur idx D a (updDef a cur (fun d =>
      { d with clock := some ((match d.clock with | some c => c | none => []) ++ l) }))

inductive Prim (cur : String) : St → St → Prop
  | quiet {idx D a b} : PrimQ cur idx D a b → Prim cur a b
  | newInst {a} (m t) (hd : DefEx a m) : Prim cur a (newInst a cur m t).1
  | covers {a} (i c) : Prim cur a (updInst a i (fun x => { x with covers := some c }))
  | conn {a} (n1 i1 n2 i2) :
      Prim cur a (mergeKeys (ensureWire (ensureWire a cur n1 i1) cur n2 i2) (cur, n1, i1) (cur, n2, i2))
  | blackbox {a} : Prim cur a (updDef (clearOwner a cur) cur (fun d => { d with blackbox := true }))

/-- reflexive-transitive closure -/
inductive Run (P : St → St → Prop) : St → St → Prop
  | refl (a) : Run P a a
  | step {a b c} : Run P a b → P b c → Run P a c

namespace Run
variable {P : St → St → Prop}

theorem one {a b : St} (h : P a b) : Run P a b := .step (.refl a) h

theorem trans {a b c : St} (h1 : Run P a b) (h2 : Run P b c) : Run P a c := by
  induction h2 with
  | refl => exact h1
  | step _ p ih => exact .step ih p

theorem lift {R : St → St → Prop} (refl : ∀ s, R s s) (trans : ∀ {a b c}, R a b → R b c → R a c)
    (step : ∀ {a b}, P a b → R a b) {a b : St} (h : Run P a b) : R a b := by
  induction h with
  | refl => exact refl _
  | step _ p ih => exact trans ih (step p)

theorem keeps {I : St → Prop} (step : ∀ {a b}, P a b → I a → I b) {a b : St} (h : Run P a b) : I a → I b :=
  lift (Keeps.refl I) Keeps.trans step h

theorem mono {P' : St → St → Prop} (sub : ∀ {a b}, P a b → P' a b) {a b : St} (h : Run P a b) : Run P' a b :=
  lift Run.refl Run.trans (fun p => one (sub p)) h

end Run

theorem PrimQ.defEx {cur : String} {idx : Nat} {D : String → Prop} {a b : St} (h : PrimQ cur idx D a b) {n : String} (hd : DefEx a n) :
    DefEx b n := by
  cases h with
  | ensureDef m _ => unfold DefEx; rw [findDef_ensureDef hd]; exact hd
  | clock l => refine defEx_of_dv (dv_updDef _ _ _ ?_) hd; exact fun _ => ⟨rfl, rfl⟩
  -- all other quiet edits keep `defsView` (`dv_` simp lemmas)
  | _ => exact defEx_of_dv (by simp) hd

theorem Run.defEx {cur : String} {idx : Nat} {D : String → Prop} {a b : St} (h : Run (PrimQ cur idx D) a b) {n : String} :
    DefEx a n → DefEx b n :=
  h.keeps (I := (DefEx · n)) (fun p => p.defEx)

/-- a `.names` statement stores its truth table on the instance it has just created -/
def withCovers (a : St) (idx : Nat) : Stmt → St
  | Stmt.names _ covers _ => updInst a idx (fun i => { i with covers := some covers })
  | _ => a

theorem withCovers_rel {R : St → St → Prop} (refl : ∀ s, R s s)
    (upd : ∀ a i c, R a (updInst a i (fun x => { x with covers := some c }))) (a : St) (i : Nat) (s : Stmt) :
    R a (withCovers a i s) := by
  cases s <;> first | exact refl _ | exact upd _ _ _

namespace Run
variable {cur : String} {idx : Nat} {D : String → Prop} {st st' : St}

theorem declFormals {model : String} {l : List (String × String)} (hD : D model)
    (h : declFormals st model l = Except.ok st') : Run (PrimQ cur idx D) st st' := by
  refine declFormals_rel Run.refl Run.trans (fun fa _ a b h => ?_) h
  obtain ⟨pn, pi, _, rfl⟩ := declFormal_iff.mp h
  exact .step (one (.addPort _ _ _ _ _ hD))
    (.growPort _ _ _ _ hD fun hd => (addPort_has a model pn _ _ (defEx_of_dv (dv_addPort _ _ _ _ _).symm hd)).1)

theorem connectOne {model : String} {fa : String × String} (hD : D model)
    (h : connectOne st idx cur model fa = Except.ok st') : Run (PrimQ cur idx D) st st' := by
  obtain ⟨cn, ci, pn, pi, _, _, ⟨_, rfl⟩ | ⟨_, hh, rfl⟩⟩ := connectOne_eq h
  · exact one (.edit _ _ (.unconn _))
  · exact .step (one (.growPort _ _ _ _ hD fun _ => hh)) (.connect _ _ _ _)

theorem connectAll {model : String} {l : List (String × String)} (hD : D model)
    (h : connectAll st idx cur model l = Except.ok st') : Run (PrimQ cur idx D) st st' :=
  connectAll_rel Run.refl Run.trans (fun _ _ _ _ h => connectOne hD h) h

theorem rename {n : String} (h : rename st idx cur n = Except.ok st') : Run (PrimQ cur idx D) st st' := by
  rcases rename_cases h with rfl | rfl
  · exact one (.assignDefault _ _)
  · exact one (.edit _ _ (.name n))

theorem applyInfo {l : List InfoStmt} (h : applyInfo st idx cur l = Except.ok st') : Run (PrimQ cur idx D) st st' := by
  refine applyInfo_rel Run.refl Run.trans (fun x _ a b h => ?_) h
  cases x with
  | cname n =>
    have h : Eblif.renameStrict (Eblif.updInst a idx fun i => { i with cname := some n }) idx cur n = Except.ok b := h
    rw [renameStrict_eq h]
    exact .step (one (.edit _ _ (.cname n))) (.edit _ _ (.name n))
  | attr k v => cases h; exact one (.edit _ _ (.attr k v))
  | param k v => cases h; exact one (.edit _ _ (.param k v))

theorem addLatchPorts (hD : D "generic-latch") (l : List String) (st : St) :
    Run (PrimQ cur idx D) st (addLatchPorts st l) :=
  addLatchPorts_rel Run.refl Run.trans (fun _ _ _ _ => one (.addPort _ _ _ _ _ hD)) l st

theorem addNamesPorts {dn : String} (hD : D dn) (st : St) (k : Nat) : Run (PrimQ cur idx D) st (addNamesPorts st dn k) :=
  addNamesPorts_rel Run.refl Run.trans (fun _ _ _ _ => one (.addPort _ _ _ _ _ hD)) st k

end Run

/-- the `formal -> actual` pairs an instance statement connects -/
def stmtConns (st : St) : Stmt → List (String × String)
  | Stmt.subckt _ _ conns _ => infoMapOf conns
  | Stmt.names nets _ _ => namesInfo st nets
  | Stmt.latch toks _ => latchOrder.zip toks
  | _ => []

theorem stmtKind_inst {cur : String} {s : Stmt} (hs : Stmt.isInstance s = true) :
    stmtKind cur s = [(cur, stmtModel s, stmtTyp s)] := by
  cases s <;> first | rfl | cases hs

theorem stmtKind_model {cur : String} {s : Stmt} {k : String × String × String} (hk : k ∈ stmtKind cur s) :
    k.2.1 = stmtModel s := by
  cases s <;> simp only [stmtKind, List.mem_singleton, List.not_mem_nil] at hk <;> subst hk <;> rfl

theorem stmtJoins_eq (st : St) (cur : String) (s : Stmt) :
    stmtJoins st cur s = (stmtConns st s).flatMap (joinOf st.insts.length cur) := by
  cases s <;> rfl

/-- `sA` is the state in which the definition an instance statement instantiates has been prepared -/
def Prep (st : St) (cur : String) : Stmt → St → Prop
  | Stmt.subckt _ m conns _, sA => declFormals (ensureDef (checkHierarchy st cur m) m) m conns = Except.ok sA
  | Stmt.names nets _ _, sA =>
      sA = addNamesPorts (ensureDef st ("logic-gate_" ++ natStr (nets.length - 1)))
        ("logic-gate_" ++ natStr (nets.length - 1)) (nets.length - 1)
  | Stmt.latch toks _, sA => sA = addLatchPorts (ensureDef st "generic-latch") ((latchOrder.zip toks).map (·.1))
  | _, _ => False

/-- the new instance gets the provisional name or a net-derived one -/
def Naming (sI : St) (idx : Nat) (cur m : String) (s1 : St) : Prop :=
  s1 = assignDefault sI idx cur m ∨ ∃ n, rename sI idx cur n = Except.ok s1

theorem Prep.len {st sA : St} {cur : String} {s : Stmt} (h : Prep st cur s sA) : sA.insts.length = st.insts.length := by
  cases s with
  | subckt gate model conns info => rw [len_declFormals conns h]; simp
  | names nets covers info => subst h; simp
  | latch toks info => subst h; rw [len_addLatchPorts]; simp
  | conn a b => cases h
  | blackbox => cases h

/-- the name an instance statement gives the instance it has created -/
def nameStmt (sI : St) (idx : Nat) (cur : String) : Stmt → Except Err St
  | Stmt.subckt _ m _ _ => pure (assignDefault sI idx cur m)
  | Stmt.names nets _ _ =>
      match nets.getLast? with
      | none => Except.error (Err.index "names without nets")
      | some outNet =>
        if containsSub outNet.toList "unconn".toList then pure (assignDefault sI idx cur ("logic-gate_" ++ natStr (nets.length - 1)))
        else rename sI idx cur outNet
  | Stmt.latch toks _ =>
      match (latchOrder.zip toks).find? (fun p => p.1 = "output") with
      | none => Except.error (Err.key "latch without output")
      | some o => rename sI idx cur o.2
  | _ => pure sI

theorem nameStmt_naming {sI s1 : St} {idx : Nat} {cur : String} {s : Stmt} (hs : Stmt.isInstance s = true)
    (h : nameStmt sI idx cur s = Except.ok s1) : Naming sI idx cur (stmtModel s) s1 := by
  cases s with
  | subckt g m c i => exact .inl (Except.ok.inj h).symm
  | names nets cv i =>
    simp only [nameStmt] at h
    split at h
    · cases h
    · split at h
      · exact .inl (Except.ok.inj h).symm
      · exact .inr ⟨_, h⟩
  | latch toks i =>
    simp only [nameStmt] at h
    split at h
    · cases h
    · exact .inr ⟨_, h⟩
  | conn a b => cases hs
  | blackbox => cases hs

/-- the preparation of the instantiated definition, as a computation -/
def prepStmt (st : St) (cur : String) : Stmt → Except Err St
  | Stmt.subckt _ m conns _ => declFormals (ensureDef (checkHierarchy st cur m) m) m conns
  | Stmt.names nets _ _ =>
      pure (addNamesPorts (ensureDef st ("logic-gate_" ++ natStr (nets.length - 1))) ("logic-gate_" ++ natStr (nets.length - 1)) (nets.length - 1))
  | Stmt.latch toks _ => pure (addLatchPorts (ensureDef st "generic-latch") ((latchOrder.zip toks).map (·.1)))
  | _ => pure st

theorem prep_iff {st sA : St} {cur : String} {s : Stmt} (hs : Stmt.isInstance s = true) :
    Prep st cur s sA ↔ prepStmt st cur s = Except.ok sA := by
  cases s with
  | subckt g m c i => exact Iff.rfl
  | names n c i => exact ⟨fun h => h ▸ rfl, fun h => (Except.ok.inj h).symm⟩
  | latch t i => exact ⟨fun h => h ▸ rfl, fun h => (Except.ok.inj h).symm⟩
  | conn a b => cases hs
  | blackbox => cases hs

/-- **An instance statement is its five phases**, as an equation between computations. -/
theorem elabStmt_inst_eq {st : St} {cur : String} {s : Stmt} (hs : Stmt.isInstance s = true) :
    elabStmt st cur s = prepStmt st cur s >>= fun sA =>
      nameStmt (withCovers (newInst sA cur (stmtModel s) (stmtTyp s)).1 sA.insts.length s) sA.insts.length cur s >>= fun s1 =>
      connectAll s1 sA.insts.length cur (stmtModel s) (stmtConns st s) >>= fun s2 =>
      applyInfo s2 sA.insts.length cur (stmtInfo s) := by
  cases s with
  | subckt gate model conns info => rfl
  | names nets covers info =>
    simp only [elabStmt, prepStmt, nameStmt]
    cases nets.getLast? <;> rfl
  | latch toks info =>
    simp only [elabStmt, prepStmt, nameStmt]
    cases (latchOrder.zip toks).find? (fun p => p.1 = "output") <;> rfl
  | conn a b => cases hs
  | blackbox => cases hs

theorem elabStmt_inst_iff {st st' : St} {cur : String} {s : Stmt} (hs : Stmt.isInstance s = true) :
    elabStmt st cur s = Except.ok st' ↔
    ∃ sA s1 s2, Prep st cur s sA ∧
      nameStmt (withCovers (newInst sA cur (stmtModel s) (stmtTyp s)).1 sA.insts.length s) sA.insts.length cur s = Except.ok s1 ∧
      connectAll s1 sA.insts.length cur (stmtModel s) (stmtConns st s) = Except.ok s2 ∧
      applyInfo s2 sA.insts.length cur (stmtInfo s) = Except.ok st' := by
  simp only [elabStmt_inst_eq hs, bind_eq_ok, prep_iff hs]
  exact ⟨fun ⟨sA, hp, s1, h1, s2, h2, h3⟩ => ⟨sA, s1, s2, hp, h1, h2, h3⟩,
    fun ⟨sA, s1, s2, hp, h1, h2, h3⟩ => ⟨sA, hp, s1, h1, s2, h2, h3⟩⟩

/-- **Normal form of an instance statement**: prepare the definition, create ONE instance of it, at index
    `st.insts.length` (a `.names` gives it its truth table), name it, connect the formals to the actuals, attach
    the info lines. -/
theorem elabStmt_inst_cases {st st' : St} {cur : String} {s : Stmt} (hs : Stmt.isInstance s = true)
    (h : elabStmt st cur s = Except.ok st') :
    ∃ sA s1 s2, Prep st cur s sA ∧ sA.insts.length = st.insts.length ∧
      Naming (withCovers (newInst sA cur (stmtModel s) (stmtTyp s)).1 st.insts.length s) st.insts.length cur (stmtModel s) s1 ∧
      connectAll s1 st.insts.length cur (stmtModel s) (stmtConns st s) = Except.ok s2 ∧
      applyInfo s2 st.insts.length cur (stmtInfo s) = Except.ok st' := by
  obtain ⟨sA, s1, s2, hp, h1, h2, h3⟩ := (elabStmt_inst_iff hs).mp h
  rw [hp.len] at h1 h2 h3
  exact ⟨sA, s1, s2, hp, hp.len, nameStmt_naming hs h1, h2, h3⟩

theorem Prep.run {st sA : St} {cur : String} {s : Stmt} {idx : Nat} (h : Prep st cur s sA) :
    Run (PrimQ cur idx (· = stmtModel s)) st sA := by
  cases s with
  | subckt gate model conns info =>
    exact (Run.step (.one (.checkHierarchy _ _)) (.ensureDef _ _ rfl)).trans (Run.declFormals rfl h)
  | names nets covers info =>
    subst h
    exact (Run.one (.ensureDef _ _ rfl)).trans (Run.addNamesPorts (D := (· = "logic-gate_" ++ natStr (nets.length - 1))) rfl _ _)
  | latch toks info =>
    subst h
    exact (Run.one (.ensureDef _ _ rfl)).trans (Run.addLatchPorts (D := (· = "generic-latch")) rfl _ _)
  | conn a b => cases h
  | blackbox => cases h

theorem Prep.defEx {st sA : St} {cur : String} {s : Stmt} (h : Prep st cur s sA) : DefEx sA (stmtModel s) := by
  cases s with
  | subckt gate model conns info =>
    exact (Run.declFormals (cur := cur) (idx := 0) (D := (· = model)) rfl h).defEx (defEx_ensureDef _ model)
  | names nets covers info =>
    subst h
    exact (Run.addNamesPorts (cur := cur) (idx := 0) (D := (· = "logic-gate_" ++ natStr (nets.length - 1))) rfl _ _).defEx
      (defEx_ensureDef st _)
  | latch toks info =>
    subst h
    exact (Run.addLatchPorts (cur := cur) (idx := 0) (D := (· = "generic-latch")) rfl _ _).defEx (defEx_ensureDef st _)
  | conn a b => cases h
  | blackbox => cases h

theorem Prep.nf {st sA : St} {cur : String} {s : Stmt} (h : Prep st cur s sA) : netFields sA = netFields st := by
  cases s with
  | subckt gate model conns info => simp [nf_declFormals conns h]
  | names nets covers info => subst h; simp
  | latch toks info => subst h; simp [nf_addLatchPorts]
  | conn a b => cases h
  | blackbox => cases h

theorem Naming.run {sI s1 : St} {idx : Nat} {cur m : String} {D : String → Prop} (h : Naming sI idx cur m s1) :
    Run (PrimQ cur idx D) sI s1 := by
  rcases h with rfl | ⟨n, h⟩
  · exact .one (.assignDefault _ _)
  · exact Run.rename h

theorem Naming.nf {sI s1 : St} {idx : Nat} {cur m : String} (h : Naming sI idx cur m s1) : netFields s1 = netFields sI := by
  rcases h with rfl | ⟨n, h⟩
  · simp
  · exact nf_rename h

namespace Run
variable {cur : String} {idx : Nat} {D : String → Prop} {st st' : St}

/-- the anonymous form: two quiet runs around the creation of the instance -/
theorem elabStmt_inst {s : Stmt} (hs : Stmt.isInstance s = true) (h : elabStmt st cur s = Except.ok st') :
    ∃ sA model typ, stmtKind cur s = [(cur, model, typ)] ∧ Run (PrimQ cur st.insts.length (· = model)) st sA ∧
      DefEx sA model ∧ sA.insts.length = st.insts.length ∧
      Run (PrimQ cur st.insts.length (· = model)) (withCovers (newInst sA cur model typ).1 st.insts.length s) st' := by
  obtain ⟨sA, s1, s2, hp, hl, hn, h2, h3⟩ := elabStmt_inst_cases hs h
  exact ⟨sA, _, _, stmtKind_inst hs, hp.run, hp.defEx, hl,
    hn.run.trans ((connectAll (D := (· = stmtModel s)) rfl h2).trans (applyInfo h3))⟩

theorem elabStmt {s : Stmt} (h : elabStmt st cur s = Except.ok st') : Run (Prim cur) st st' := by
  cases hs : Stmt.isInstance s with
  | true =>
    obtain ⟨sA, m, t, _, r1, hd, _, r2⟩ := elabStmt_inst hs h
    exact (r1.mono .quiet).trans ((one (.newInst _ _ hd)).trans
      ((withCovers_rel Run.refl (fun _ _ _ => one (.covers _ _)) _ _ _).trans (r2.mono .quiet)))
  | false =>
    cases s with
    | conn a b =>
      obtain ⟨n1, i1, n2, i2, _, _, rfl⟩ := elabStmt_conn_cases h
      exact one (.conn _ _ _ _)
    | blackbox => rw [elabStmt_blackbox_eq h]; exact one .blackbox
    | _ => cases hs

theorem elabStmts {l : List Stmt} (h : elabStmts st cur l = Except.ok st') : Run (Prim cur) st st' :=
  elabStmts_rel Run.refl Run.trans (fun _ _ _ _ h => elabStmt h) h

theorem elabInput {tok : String} (h : elabInput st cur tok = Except.ok st') : Run (PrimQ cur idx (· = cur)) st st' := by
  obtain ⟨pn, pi, _, rfl⟩ := elabInput_cases h
  refine .step (.step (b := if hasPort st cur pn then setDir st cur pn Dir.inp else addPort st cur pn Dir.inp 0) ?_
    (.growPort _ _ _ _ rfl fun hd => ?_)) (.connect _ _ _ _)
  · split
    · exact one (.setDir _ _ _ _ rfl)
    · exact one (.addPort _ _ _ _ _ rfl)
  · have hd : DefEx st cur := defEx_of_dv (by split <;> simp) hd
    split
    · rename_i hh; exact (setDir_port st cur pn Dir.inp hd hh).2.1
    · exact (addPort_has st cur pn Dir.inp 0 hd).1

theorem elabOutput {tok : String} (h : elabOutput st cur tok = Except.ok st') : Run (PrimQ cur idx (· = cur)) st st' := by
  obtain ⟨pn, pi, _, _, rfl, hc⟩ := elabOutput_cases h
  have hg : ∀ d, DefEx (setDir (addPort st cur pn Dir.out 0) cur pn d) cur →
      hasPort (setDir (addPort st cur pn Dir.out 0) cur pn d) cur pn = true := fun d hd => by
    obtain ⟨hh1, hd1⟩ := addPort_has st cur pn Dir.out 0 (defEx_of_dv (by simp : defsView st = _) hd)
    exact (setDir_port _ cur pn d hd1 hh1).2.1
  rcases hc with ⟨_, rfl⟩ | ⟨_, _, rfl⟩
  · exact .step (.step (one (.addPort _ _ _ _ _ rfl)) (.setDir _ _ _ _ rfl)) (.growPort _ _ _ _ rfl (hg _))
  · exact .step (.step (.step (one (.addPort _ _ _ _ _ rfl)) (.setDir _ _ _ _ rfl)) (.growPort _ _ _ _ rfl (hg _)))
      (.connect _ _ _ _)

/-- the header touches the open model's definition only, and no instance: any `idx` -/
theorem elabHdrs {l : List Hdr} (h : elabHdrs st cur l = Except.ok st') : Run (PrimQ cur idx (· = cur)) st st' :=
  elabHdrs_words_rel Run.refl Run.trans elabInput elabOutput (fun _ _ => one (.clock _ _ rfl)) h

end Run

theorem Run.elabModel {st st' : St} {m : Model} (h : elabModel st m = Except.ok st') :
    Run (Prim m.name) (beginModel st m.name) st' := by
  obtain ⟨s1, h1, h2⟩ := bind_ok (show (Eblif.elabHdrs _ m.name m.hdr >>= _) = _ from h)
  exact ((Run.elabHdrs (idx := 0) h1).mono .quiet).trans (Run.elabStmts h2)

/-- The elaborator keeps an invariant `P` that may speak of the open model (`Q cur`): `begin` establishes it for
    the new model, every primitive edit keeps it, and it can be forgotten (`close`) when the model ends. -/
theorem elabModels_inv {P : St → Prop} {Q : String → St → Prop} (begin : ∀ {a}, P a → ∀ n, Q n (beginModel a n))
    (step : ∀ {cur a b}, Prim cur a b → Q cur a → Q cur b) (close : ∀ {cur a}, Q cur a → P a)
    {ms : List Model} {st st' : St} (h : elabModels st ms = Except.ok st') : P st → P st' :=
  elabModels_rel (Keeps.refl P) Keeps.trans (fun m _ _ _ h p => close ((Run.elabModel h).keeps (I := Q m.name) step (begin p m.name))) h

/-- **Frame.**  A quiet edit leaves every definition outside its footprint `D` as it is, absent or present. -/
theorem findDef_quiet {cur t : String} {idx : Nat} {D : String → Prop} {a b : St} (h : PrimQ cur idx D a b) (ht : ¬ D t) :
    findDef b t = findDef a t := by
  have upd : ∀ (s : St) (n : String) (f : DefD → DefD), (∀ d, (f d).name = d.name) → D n →
      findDef (updDef s n f) t = findDef s t :=
    fun s n f hf hD => findDef_updDef_other (fun (e : t = n) => ht (e ▸ hD)) s f hf
  cases h with
  | ensureDef n hD =>
    unfold ensureDef
    split
    · rfl
    · unfold findDef
      rw [List.find?_append]
      cases a.defs.find? (fun d => decide (d.name = t)) <;> simp [show ¬ n = t from fun e => ht (e ▸ hD)]
  | addPort dn pn d w hD =>
    unfold addPort; split
    · rfl
    · exact (findDef_of_defs (defs_appendPins _ _ _) t).trans (upd _ _ _ (fun _ => rfl) hD)
  | growPort dn pn w hD _ =>
    unfold growPort; simp only []; split
    · rfl
    · exact (findDef_of_defs (defs_appendPins _ _ _) t).trans (upd _ _ _ (fun _ => rfl) hD)
  | setDir dn pn d hD => exact upd _ _ _ (fun _ => rfl) hD
  | clock l hD => exact upd _ _ _ (fun _ => rfl) hD
  | checkHierarchy d => exact findDef_of_defs (by unfold checkHierarchy; split <;> rfl) t
  | edit f hf => rfl
  | assignDefault m => rfl
  | connect p n i => exact findDef_of_defs (defs_connect _ _ _ _ _) t

theorem Run.findDef {cur t : String} {idx : Nat} {D : String → Prop} {a b : St} (h : Run (PrimQ cur idx D) a b)
    (ht : ¬ D t) : Eblif.findDef b t = Eblif.findDef a t :=
  h.lift (Same.refl (Eblif.findDef · t)) Same.trans (fun q => findDef_quiet q ht)

theorem findDef_beginModel {t n : String} (hne : t ≠ n) (st : St) : findDef (beginModel st n) t = findDef st t :=
  beginModel_rel (R := Same (findDef · t)) Same.trans
    (fun a => findDef_quiet (cur := n) (idx := 0) (D := (· = n)) (.ensureDef a n rfl) hne)
    (fun a => findDef_updDef_other hne a _ (fun _ => rfl)) (fun _ _ _ => rfl) st

/-- **Frame of an instance statement.**  Every definition other than the one it instantiates is left as it
    is, absent or present. -/
theorem findDef_elabStmt_inst {st st' : St} {cur m : String} {s : Stmt} (hs : Stmt.isInstance s = true)
    (hne : m ≠ stmtModel s) (h : elabStmt st cur s = Except.ok st') : findDef st' m = findDef st m := by
  obtain ⟨sA, model, typ, hk, r1, _, _, r2⟩ := Run.elabStmt_inst hs h
  have ht : ¬ m = model := by
    rw [show model = stmtModel s from stmtKind_model (cur := cur) (k := (cur, model, typ)) (by rw [hk]; exact List.mem_singleton.mpr rfl)]
    exact hne
  rw [r2.findDef ht, ← r1.findDef ht]
  exact findDef_of_defs (withCovers_rel (Same.refl (·.defs)) (fun _ _ _ => rfl) _ _ _) m

theorem PrimQ.nf {cur : String} {idx : Nat} {D : String → Prop} {a b : St} (h : PrimQ cur idx D a b) :
    netFields b = netFields a ∨ ∃ p n i, b = Eblif.connect a p cur n i := by
  cases h with
  | connect p n i => exact .inr ⟨p, n, i, rfl⟩
  | clock l => exact .inl (nf_updDef _ _ _)
  -- all other quiet edits keep the net fields (`nf_` simp lemmas)
  | _ => exact .inl (by simp)

theorem ext_quiet {cur : String} {idx : Nat} {D : String → Prop} {a b : St} (h : PrimQ cur idx D a b) : Ext a b := by
  rcases h.nf with e | ⟨p, n, i, rfl⟩
  · exact Ext.of_fields e
  · exact ext_connect _ _ _ _ _

theorem Run.ext {cur : String} {idx : Nat} {D : String → Prop} {a b : St} (h : Run (PrimQ cur idx D) a b) : Ext a b :=
  h.lift Ext.refl Ext.trans ext_quiet

/-- every `formal=actual` of the list (actual not `unconn`) ends up joined to the named bit -/
theorem connectAll_joins {idx : Nat} {parent model : String} (l : List (String × String)) :
    ∀ {st st' : St}, connectAll st idx parent model l = Except.ok st' →
      ∀ fa ∈ l, ∀ cn ci pn pi, splitIdx fa.2 = Except.ok (cn, ci) → splitIdx fa.1 = Except.ok (pn, pi) →
        cn ≠ "unconn" → Joined st' (Pin.inst idx pn pi) (parent, cn, ci) ∧ Live st' (parent, cn, ci) := by
  intro st st' h0 fa hfa cn ci pn pi e1 e2 hu
  obtain ⟨_, a, b, r, _, h1, h⟩ := loop_mem (go := fun s l => connectAll s idx parent model l) (fun _ => rfl) (fun _ _ _ => rfl) h0 hfa
  obtain ⟨cn', ci', pn', pi', e1', e2', hc⟩ := connectOne_eq h1
  rw [e1] at e1'; rw [e2] at e2'
  cases e1'; cases e2'
  rcases hc with ⟨hu', _⟩ | ⟨_, _, rfl⟩
  · exact absurd hu' hu
  · have hj := connect_joins (growPort a model pn (pi + 1)) (Pin.inst idx pn pi) parent cn ci
    have hx := (Run.connectAll (D := fun _ => True) trivial h).ext
    exact ⟨hx.joined _ _ hj.1, hx.live _ hj.2⟩

end Spydr.Eblif
