/-
  Definitions and their ports: lookups after each primitive step, `DefEx` (a definition of that name
  exists), `defsView` ((name, declared) of every definition; only `ensureDef` and `beginModel` change it),
  and the header: each `.inputs` / `.outputs` word gives the model a port of that name with the right
  direction, wide enough, whose pin is joined to the net bit of the same name.
-/
import Spydr.Eblif.ElabSteps

namespace Spydr.Eblif

def findIn (ps : List PortD) (pn : String) : Option PortD := ps.find? (fun q => q.name = pn)

theorem findIn_name {ps : List PortD} {pn : String} {p : PortD} (h : findIn ps pn = some p) : p.name = pn := by
  simpa using List.find?_some h

theorem findDef_some_name {st : St} {n : String} {d : DefD} (h : findDef st n = some d) : d.name = n := by
  simpa using List.find?_some h

theorem findDef_updDef (st : St) (n : String) (f : DefD → DefD) (hf : ∀ d, (f d).name = d.name) (m : String) :
    findDef (updDef st n f) m = (findDef st m).map (fun d => if d.name = n then f d else d) :=
  find?_map_keep DefD.name (fun k => decide (k = m)) (fun d => if d.name = n then f d else d)
    (fun d => by split <;> simp [hf]) st.defs

theorem findDef_updDef_self (st : St) (n : String) (f : DefD → DefD) (hf : ∀ d, (f d).name = d.name) :
    findDef (updDef st n f) n = (findDef st n).map f := by
  rw [findDef_updDef st n f hf n]
  cases hfd : findDef st n with
  | none => rfl
  | some d => simp [findDef_some_name hfd]

theorem findDef_updDef_other {t n : String} (hne : t ≠ n) (a : St) (f : DefD → DefD) (hf : ∀ d, (f d).name = d.name) :
    findDef (updDef a n f) t = findDef a t := by
  rw [findDef_updDef a n f hf t]
  cases h : findDef a t with
  | none => rfl
  | some d => simp [findDef_some_name h, hne]

def portsOf (st : St) (dn : String) : List PortD :=
  match findDef st dn with
  | some d => d.ports
  | none => []

theorem portDir_eq (st : St) (dn pn : String) :
    portDir st dn pn = (match findIn (portsOf st dn) pn with | some p => p.dir | none => Dir.undef) := by
  unfold portDir portsOf findIn findPort
  cases findDef st dn <;> rfl

theorem portWidth_eq (st : St) (dn pn : String) :
    portWidth st dn pn = (match findIn (portsOf st dn) pn with | some p => p.width | none => 0) := by
  unfold portWidth portsOf findIn findPort
  cases findDef st dn <;> rfl

theorem hasPort_eq (st : St) (dn pn : String) : hasPort st dn pn = (findIn (portsOf st dn) pn).isSome := by
  unfold hasPort portsOf findIn findPort
  cases findDef st dn <;> simp

theorem findIn_none_of (ps : List PortD) (pn : String) (hn : ∀ p ∈ ps, p.name ≠ pn) : findIn ps pn = none := by
  unfold findIn
  rw [List.find?_eq_none]; intro p hp; simpa using hn p hp

theorem portsOf_updPorts (st : St) (dn : String) (g : List PortD → List PortD) (hd : (findDef st dn).isSome) :
    portsOf (updDef st dn (fun d => { d with ports := g d.ports })) dn = g (portsOf st dn) := by
  unfold portsOf
  have e := findDef_updDef_self st dn (fun d => { d with ports := g d.ports }) (fun _ => rfl)
  rw [e]
  cases h : findDef st dn with
  | none => simp [h] at hd
  | some d => rfl

theorem portsOf_of_defs {a b : St} (h : b.defs = a.defs) (dn : String) : portsOf b dn = portsOf a dn := by
  simp [portsOf, findDef, h]

theorem findDef_of_defs {a b : St} (h : b.defs = a.defs) (dn : String) : findDef b dn = findDef a dn := by
  simp [findDef, h]

theorem findIn_map_same (ps : List PortD) (pn : String) (g : PortD → PortD) (hg : ∀ p, (g p).name = p.name) :
    findIn (ps.map g) pn = (findIn ps pn).map g :=
  find?_map_keep PortD.name (fun k => decide (k = pn)) g hg ps

theorem defs_appendPins (st : St) (n : String) (l) : (appendPins st n l).defs = st.defs := rfl
theorem defs_assignDefault (st : St) (i : Nat) (p m : String) : (assignDefault st i p m).defs = st.defs := rfl
theorem defs_connect (st : St) (p : Pin) (o n : String) (i : Nat) : (connect st p o n i).defs = st.defs := by
  unfold connect ensureWire ensureCable
  simp only []
  split <;> split <;> rfl

theorem portsOf_updDef_other (st : St) (n m : String) (f : DefD → DefD) (hf : ∀ d, (f d).name = d.name) (h : m ≠ n) :
    portsOf (updDef st n f) m = portsOf st m := by
  unfold portsOf
  rw [findDef_updDef st n f hf m]
  cases hfd : findDef st m with
  | none => rfl
  | some d =>
    have : ¬ d.name = n := by rw [findDef_some_name hfd]; exact h
    simp [this]

theorem portsOf_updDef_self (st : St) (n : String) (g : List PortD → List PortD) :
    portsOf (updDef st n (fun d => { d with ports := g d.ports })) n =
      (match findDef st n with | some d => g d.ports | none => []) := by
  unfold portsOf
  have e := findDef_updDef_self st n (fun d => { d with ports := g d.ports }) (fun _ => rfl)
  rw [e]
  cases findDef st n <;> rfl


def widthL (ps : List PortD) (pn : String) : Nat := match findIn ps pn with | some p => p.width | none => 0

def setDirL (ps : List PortD) (pn : String) (d : Dir) : List PortD :=
  ps.map (fun p => if p.name = pn then { p with dir := d } else p)

def growL (ps : List PortD) (pn : String) (w : Nat) : List PortD :=
  if w ≤ widthL ps pn then ps else ps.map (fun p => if p.name = pn then { p with width := w } else p)

def addL (ps : List PortD) (pn : String) (d : Dir) (w : Nat) : List PortD :=
  if (findIn ps pn).isSome then ps else ps ++ [{ name := pn, dir := d, width := w }]

theorem portsOf_updPorts_any (st : St) (n t : String) (g : List PortD → List PortD) (hg : g [] = []) :
    portsOf (updDef st n (fun d => { d with ports := g d.ports })) t = if t = n then g (portsOf st t) else portsOf st t := by
  split
  · rename_i h; subst h
    rw [portsOf_updDef_self]
    unfold portsOf
    cases findDef st t with
    | none => exact hg.symm
    | some d => rfl
  · rename_i h
    exact portsOf_updDef_other st n t _ (fun _ => rfl) h

theorem ports_setDir (st : St) (dn pn : String) (d : Dir) (t : String) :
    portsOf (setDir st dn pn d) t = if t = dn then setDirL (portsOf st t) pn d else portsOf st t :=
  portsOf_updPorts_any st dn t (setDirL · pn d) rfl

theorem ports_growPort (st : St) (dn pn : String) (w : Nat) (t : String) :
    portsOf (growPort st dn pn w) t = if t = dn then growL (portsOf st t) pn w else portsOf st t := by
  unfold growPort
  simp only []
  split
  · rename_i hle
    split
    · rename_i h; subst h
      have e : portWidth st t pn = widthL (portsOf st t) pn := portWidth_eq st t pn
      unfold growL; rw [if_pos (e ▸ hle)]
    · rfl
  · rename_i hlt
    rw [portsOf_of_defs (defs_appendPins _ _ _), portsOf_updPorts_any st dn t _ rfl]
    split
    · rename_i h; subst h
      have e : portWidth st t pn = widthL (portsOf st t) pn := portWidth_eq st t pn
      unfold growL; rw [if_neg (e ▸ hlt)]
    · rfl

/-- `addPort` adds a port only to an existing definition that has none of that name -/
theorem ports_addPort (st : St) (dn pn : String) (d : Dir) (w : Nat) (t : String) :
    portsOf (addPort st dn pn d w) t =
      if t = dn ∧ (findDef st dn).isSome = true then addL (portsOf st t) pn d w else portsOf st t := by
  unfold addPort
  by_cases hh : hasPort st dn pn = true
  · rw [if_pos hh]
    split
    · rename_i h; obtain ⟨rfl, _⟩ := h
      unfold addL; rw [← hasPort_eq, hh]; rfl
    · rfl
  · rw [if_neg hh, portsOf_of_defs (defs_appendPins _ _ _)]
    by_cases ht : t = dn
    · subst ht
      by_cases hd : (findDef st t).isSome = true
      · rw [if_pos ⟨rfl, hd⟩, portsOf_updPorts st t (fun ps => ps ++ [({ name := pn, dir := d, width := w } : PortD)]) hd]
        unfold addL; rw [← hasPort_eq]; simp [hh]
      · rw [if_neg (fun h => hd h.2)]
        have hnone : findDef st t = none := by cases h : findDef st t <;> simp_all
        rw [portsOf_updDef_self st t (fun ps => ps ++ [({ name := pn, dir := d, width := w } : PortD)]), hnone]
        unfold portsOf; rw [hnone]
    · rw [if_neg (fun h => ht h.1),
        portsOf_updDef_other st dn t (fun x => { x with ports := x.ports ++ [({ name := pn, dir := d, width := w } : PortD)] })
          (fun _ => rfl) ht]

theorem findIn_map_if (ps : List PortD) (q pn : String) (g : PortD → PortD) (hg : ∀ p, (g p).name = p.name) :
    findIn (ps.map (fun p => if p.name = pn then g p else p)) q = (findIn ps q).map (fun p => if q = pn then g p else p) := by
  rw [findIn_map_same ps q _ (by intro p; split <;> simp [hg])]
  cases hf : findIn ps q with
  | none => rfl
  | some p => simp [findIn_name hf]

theorem findIn_setDirL (ps : List PortD) (pn : String) (d : Dir) (q : String) :
    findIn (setDirL ps pn d) q = (findIn ps q).map (fun p => if q = pn then { p with dir := d } else p) :=
  findIn_map_if ps q pn (fun p => { p with dir := d }) (fun _ => rfl)

theorem findIn_growL (ps : List PortD) (pn : String) (w : Nat) (q : String) :
    findIn (growL ps pn w) q = (findIn ps q).map (fun p => if q = pn ∧ p.width < w then { p with width := w } else p) := by
  unfold growL
  by_cases hle : w ≤ widthL ps pn
  · rw [if_pos hle]
    cases hf : findIn ps q with
    | none => rfl
    | some p =>
      simp only [Option.map_some]
      rw [if_neg]
      rintro ⟨rfl, hlt⟩
      unfold widthL at hle; rw [hf] at hle; simp only at hle; omega
  · rw [if_neg hle, findIn_map_if ps q pn (fun p => { p with width := w }) (fun _ => rfl)]
    cases hf : findIn ps q with
    | none => rfl
    | some p =>
      simp only [Option.map_some]
      by_cases hq : q = pn
      · subst hq; unfold widthL at hle; rw [hf] at hle; simp only at hle
        rw [if_pos rfl, if_pos ⟨rfl, by omega⟩]
      · rw [if_neg hq, if_neg (fun e => hq e.1)]

theorem findIn_addL (ps : List PortD) (pn : String) (d : Dir) (w : Nat) (q : String) :
    findIn (addL ps pn d w) q =
      if q = pn ∧ findIn ps q = none then some { name := pn, dir := d, width := w } else findIn ps q := by
  unfold addL
  cases hp : findIn ps pn with
  | some p =>
    simp only [Option.isSome_some, if_true]
    rw [if_neg]
    rintro ⟨rfl, hn⟩
    rw [hn] at hp; cases hp
  | none =>
    simp only [Option.isSome_none, Bool.false_eq_true, if_false]
    unfold findIn at hp ⊢
    rw [List.find?_append]
    by_cases hq : q = pn
    · subst hq; rw [hp]; simp
    · rw [if_neg (fun h => hq h.1)]
      cases List.find? (fun p => decide (p.name = q)) ps <;> simp [Ne.symm hq]

theorem addPort_of_has {st : St} {dn pn : String} (h : hasPort st dn pn = true) (d : Dir) (w : Nat) :
    addPort st dn pn d w = st := by
  unfold addPort; rw [if_pos h]

theorem lookup_setDir (st : St) (dn pn : String) (d : Dir) (t q : String) :
    findIn (portsOf (setDir st dn pn d) t) q =
      (findIn (portsOf st t) q).map (fun p => if t = dn ∧ q = pn then { p with dir := d } else p) := by
  rw [ports_setDir]
  split
  · rename_i h; rw [findIn_setDirL]; simp [h]
  · rename_i h; cases findIn (portsOf st t) q <;> simp [h]

theorem lookup_growPort (st : St) (dn pn : String) (w : Nat) (t q : String) :
    findIn (portsOf (growPort st dn pn w) t) q =
      (findIn (portsOf st t) q).map (fun p => if t = dn ∧ q = pn ∧ p.width < w then { p with width := w } else p) := by
  rw [ports_growPort]
  split
  · rename_i h; rw [findIn_growL]; simp [h]
  · rename_i h; cases findIn (portsOf st t) q <;> simp [h]

theorem lookup_addPort (st : St) (dn pn : String) (d : Dir) (w : Nat) (t q : String) :
    findIn (portsOf (addPort st dn pn d w) t) q =
      if t = dn ∧ q = pn ∧ (findDef st dn).isSome = true ∧ findIn (portsOf st t) q = none
      then some { name := pn, dir := d, width := w } else findIn (portsOf st t) q := by
  rw [ports_addPort]
  split
  · rename_i h; rw [findIn_addL]; simp [h]
  · rename_i h
    rw [if_neg]; exact fun h' => h ⟨h'.1, h'.2.2.1⟩

theorem isSome_updDef (st : St) (n : String) (f : DefD → DefD) (hf : ∀ d, (f d).name = d.name)
    (hd : (findDef st n).isSome) : (findDef (updDef st n f) n).isSome := by
  rw [findDef_updDef_self _ _ _ hf]
  cases h : findDef st n with
  | none => simp [h] at hd
  | some d => rfl

theorem isSome_growPort (st : St) (dn pn : String) (w : Nat) (hd : (findDef st dn).isSome) :
    (findDef (growPort st dn pn w) dn).isSome := by
  unfold growPort; simp only []; split
  · exact hd
  · rw [findDef_of_defs (defs_appendPins _ _ _)]; exact isSome_updDef _ _ _ (fun _ => rfl) hd

theorem isSome_addPort (st : St) (dn pn : String) (dir : Dir) (w : Nat) (hd : (findDef st dn).isSome) :
    (findDef (addPort st dn pn dir w) dn).isSome := by
  unfold addPort; split
  · exact hd
  · rw [findDef_of_defs (defs_appendPins _ _ _)]; exact isSome_updDef _ _ _ (fun _ => rfl) hd

theorem growPort_port (st : St) (dn pn : String) (w : Nat) (hd : (findDef st dn).isSome) :
    portDir (growPort st dn pn w) dn pn = portDir st dn pn ∧
    (hasPort st dn pn = true → w ≤ portWidth (growPort st dn pn w) dn pn) ∧
    (findDef (growPort st dn pn w) dn).isSome := by
  refine ⟨?_, ?_, isSome_growPort st dn pn w hd⟩ <;> simp only [portDir_eq, portWidth_eq, hasPort_eq, lookup_growPort]
  · cases findIn (portsOf st dn) pn with
    | none => rfl
    | some p => simp only [Option.map_some]; split <;> rfl
  · cases findIn (portsOf st dn) pn with
    | none => simp
    | some p => simp only [Option.map_some, true_and]; split <;> simp <;> omega

theorem setDir_port (st : St) (dn pn : String) (dir : Dir) (hd : (findDef st dn).isSome) (hh : hasPort st dn pn = true) :
    portDir (setDir st dn pn dir) dn pn = dir ∧ hasPort (setDir st dn pn dir) dn pn = true ∧
    (findDef (setDir st dn pn dir) dn).isSome := by
  rw [hasPort_eq] at hh
  refine ⟨?_, ?_, isSome_updDef _ _ _ (fun _ => rfl) hd⟩ <;> simp only [portDir_eq, hasPort_eq, lookup_setDir] <;>
    cases hf : findIn (portsOf st dn) pn <;> simp [hf] at hh ⊢

theorem addPort_port (st : St) (dn pn : String) (dir : Dir) (w : Nat) (hd : (findDef st dn).isSome)
    (hh : hasPort st dn pn = false) :
    portDir (addPort st dn pn dir w) dn pn = dir ∧ hasPort (addPort st dn pn dir w) dn pn = true ∧
    (findDef (addPort st dn pn dir w) dn).isSome := by
  have hn : findIn (portsOf st dn) pn = none := by
    rw [hasPort_eq] at hh; cases h : findIn (portsOf st dn) pn <;> simp_all
  refine ⟨?_, ?_, isSome_addPort st dn pn dir w hd⟩ <;>
    simp only [portDir_eq, hasPort_eq, lookup_addPort, hn, hd, and_self, if_true, Option.isSome_some]

theorem addPort_has (st : St) (dn pn : String) (dir : Dir) (w : Nat) (hd : (findDef st dn).isSome) :
    hasPort (addPort st dn pn dir w) dn pn = true ∧ (findDef (addPort st dn pn dir w) dn).isSome := by
  refine ⟨?_, isSome_addPort st dn pn dir w hd⟩
  simp only [hasPort_eq, lookup_addPort]
  split
  · rfl
  · rename_i h
    cases hf : findIn (portsOf st dn) pn with
    | none => simp only [true_and] at h; exact absurd ⟨hd, hf⟩ h
    | some p => rfl

theorem portDir_connect (st : St) (p : Pin) (o n : String) (i : Nat) (dn pn : String) :
    portDir (connect st p o n i) dn pn = portDir st dn pn := by
  unfold portDir; rw [findDef_of_defs (defs_connect _ _ _ _ _)]

theorem portWidth_connect (st : St) (p : Pin) (o n : String) (i : Nat) (dn pn : String) :
    portWidth (connect st p o n i) dn pn = portWidth st dn pn := by
  unfold portWidth; rw [findDef_of_defs (defs_connect _ _ _ _ _)]

/-- `.inputs word`: the model has port `pn` with direction IN, more than `pi` pins, and pin `pi`
    of it is on net bit (model, pn, pi), whose cable exists -/
theorem elabInput_port {st st' : St} {cur tok pn : String} {pi : Nat} (hd : (findDef st cur).isSome)
    (hs : splitIdx tok = Except.ok (pn, pi)) (h : elabInput st cur tok = Except.ok st') :
    portDir st' cur pn = Dir.inp ∧ pi < portWidth st' cur pn ∧
    Joined st' (Pin.top cur pn pi) (cur, pn, pi) ∧ Live st' (cur, pn, pi) := by
  obtain rfl := Except.ok.inj ((elabInput_eq hs).symm.trans h)
  have h1 : portDir (if hasPort st cur pn then setDir st cur pn Dir.inp else addPort st cur pn Dir.inp 0) cur pn = Dir.inp ∧
      hasPort (if hasPort st cur pn then setDir st cur pn Dir.inp else addPort st cur pn Dir.inp 0) cur pn = true ∧
      (findDef (if hasPort st cur pn then setDir st cur pn Dir.inp else addPort st cur pn Dir.inp 0) cur).isSome := by
    split
    · rename_i hh; exact setDir_port st cur pn Dir.inp hd hh
    · rename_i hh; exact addPort_port st cur pn Dir.inp 0 hd (by simpa using hh)
  obtain ⟨g1, g2, _⟩ := growPort_port _ cur pn (pi + 1) h1.2.2
  have hj := connect_joins (growPort (if hasPort st cur pn then setDir st cur pn Dir.inp else addPort st cur pn Dir.inp 0)
    cur pn (pi + 1)) (Pin.top cur pn pi) cur pn pi
  refine ⟨by rw [portDir_connect, g1, h1.1], ?_, hj.1, hj.2⟩
  rw [portWidth_connect]
  have := g2 h1.2.1
  omega

/-- `.outputs word`: port `pn` is OUT (INOUT when it was an input before), has more than `pi`
    pins, and -- unless it was already joined as an input -- pin `pi` is on net bit (model, pn, pi) -/
theorem elabOutput_port {st st' : St} {cur tok pn : String} {pi : Nat} (hd : (findDef st cur).isSome)
    (hs : splitIdx tok = Except.ok (pn, pi)) (h : elabOutput st cur tok = Except.ok st') :
    pi < portWidth st' cur pn ∧
    ((portDir st' cur pn = Dir.out ∧ Joined st' (Pin.top cur pn pi) (cur, pn, pi) ∧ Live st' (cur, pn, pi)) ∨
     (portDir st' cur pn = Dir.inout ∧
       (portDir (addPort st cur pn Dir.out 0) cur pn = Dir.inp ∨ portDir (addPort st cur pn Dir.out 0) cur pn = Dir.inout))) := by
  obtain ⟨pn', pi', _, hs', rfl, hc⟩ := elabOutput_cases h
  rw [hs] at hs'; cases hs'
  obtain ⟨hh0, hd0⟩ := addPort_has st cur pn Dir.out 0 hd
  rcases hc with ⟨hio, rfl⟩ | ⟨_, _, rfl⟩
  · obtain ⟨h1, h2, h3⟩ := setDir_port _ cur pn Dir.inout hd0 hh0
    obtain ⟨g1, g2, _⟩ := growPort_port _ cur pn (pi + 1) h3
    exact ⟨by have := g2 h2; omega, Or.inr ⟨by rw [g1, h1], hio⟩⟩
  · obtain ⟨h1, h2, h3⟩ := setDir_port _ cur pn Dir.out hd0 hh0
    obtain ⟨g1, g2, _⟩ := growPort_port _ cur pn (pi + 1) h3
    have hj := connect_joins (growPort (setDir (addPort st cur pn Dir.out 0) cur pn Dir.out) cur pn (pi + 1))
      (Pin.top cur pn pi) cur pn pi
    refine ⟨?_, Or.inl ⟨by rw [portDir_connect, g1, h1], hj.1, hj.2⟩⟩
    rw [portWidth_connect]
    have := g2 h2; omega

theorem connectOne_port {st st' : St} {idx : Nat} {parent model : String} {fa : String × String}
    {cn pn : String} {ci pi : Nat} (h1 : splitIdx fa.2 = Except.ok (cn, ci)) (h2 : splitIdx fa.1 = Except.ok (pn, pi))
    (hu : cn ≠ "unconn") (h : connectOne st idx parent model fa = Except.ok st') :
    (findDef st' model).isSome = true ∧ pi < portWidth st' model pn := by
  obtain ⟨_, _, _, _, e1, e2, ⟨hu', _⟩ | ⟨_, hp, rfl⟩⟩ := connectOne_eq h
  · rw [h1] at e1; cases e1; exact absurd hu' hu
  rw [h1] at e1; rw [h2] at e2; cases e1; cases e2
  have hd : (findDef st model).isSome = true := by
    unfold hasPort at hp
    cases hf : findDef st model with
    | none => simp [hf] at hp
    | some d => rfl
  obtain ⟨_, g2, g3⟩ := growPort_port st model pn (pi + 1) hd
  refine ⟨by rw [findDef_of_defs (defs_connect _ _ _ _ _)]; exact g3, ?_⟩
  rw [portWidth_connect]
  have := g2 hp
  omega

def DefEx (st : St) (t : String) : Prop := (findDef st t).isSome = true

theorem findDef_ensureDef {st : St} {m : String} (h : DefEx st m) (n : String) :
    findDef (ensureDef st n) m = findDef st m := by
  unfold ensureDef
  split
  · rfl
  · obtain ⟨d, hd⟩ := Option.isSome_iff_exists.mp h
    unfold findDef at hd ⊢
    rw [List.find?_append, hd]
    rfl

theorem defEx_ensureDef (st : St) (n : String) : DefEx (ensureDef st n) n := by
  unfold DefEx ensureDef
  cases hn : findDef st n with
  | some d => simp [hn]
  | none => simp [findDef, List.find?_append]

def defsView (st : St) : List (String × Bool) := st.defs.map (fun d => (d.name, d.declared))

def defNames (st : St) : List String := (defsView st).map (·.1)

theorem dv_updDef (st : St) (n : String) (f : DefD → DefD) (hf : ∀ d, (f d).name = d.name ∧ (f d).declared = d.declared) :
    defsView (updDef st n f) = defsView st := by
  simp only [defsView, updDef, List.map_map]
  congr 1
  funext d
  simp only [Function.comp]
  split
  · simp [(hf d).1, (hf d).2]
  · rfl

theorem dv_of_defs {a b : St} (h : b.defs = a.defs) : defsView b = defsView a := by simp [defsView, h]

@[simp] theorem dv_appendPins (st : St) (n : String) (l) : defsView (appendPins st n l) = defsView st := rfl
@[simp] theorem dv_addPort (st : St) (dn pn : String) (d : Dir) (w : Nat) : defsView (addPort st dn pn d w) = defsView st := by
  unfold addPort; split
  · rfl
  · rw [dv_appendPins]; exact dv_updDef _ _ _ (fun _ => ⟨rfl, rfl⟩)
@[simp] theorem dv_setDir (st : St) (dn pn : String) (d : Dir) : defsView (setDir st dn pn d) = defsView st :=
  dv_updDef _ _ _ (fun _ => ⟨rfl, rfl⟩)
@[simp] theorem dv_growPort (st : St) (dn pn : String) (w : Nat) : defsView (growPort st dn pn w) = defsView st := by
  unfold growPort; simp only []; split
  · rfl
  · rw [dv_appendPins]; exact dv_updDef _ _ _ (fun _ => ⟨rfl, rfl⟩)
@[simp] theorem dv_updInst (st : St) (i : Nat) (f : Inst → Inst) : defsView (updInst st i f) = defsView st := rfl
@[simp] theorem dv_assignDefault (st : St) (i : Nat) (p m : String) : defsView (assignDefault st i p m) = defsView st := rfl
@[simp] theorem dv_newInst (st : St) (p m t : String) : defsView (newInst st p m t).1 = defsView st := rfl
@[simp] theorem dv_checkHierarchy (st : St) (c d : String) : defsView (checkHierarchy st c d) = defsView st := by
  unfold checkHierarchy; split <;> rfl
@[simp] theorem dv_connect (st : St) (p : Pin) (o n : String) (i : Nat) : defsView (connect st p o n i) = defsView st :=
  dv_of_defs (defs_connect _ _ _ _ _)
@[simp] theorem dv_ensureWire (st : St) (o n : String) (i : Nat) : defsView (ensureWire st o n i) = defsView st := by
  unfold ensureWire ensureCable; simp only []; split <;> split <;> rfl
@[simp] theorem dv_mergeKeys (st : St) (a b : Key) : defsView (mergeKeys st a b) = defsView st := by
  unfold mergeKeys; simp only []; split <;> rfl
@[simp] theorem dv_clearOwner (st : St) (o : String) : defsView (clearOwner st o) = defsView st := rfl

theorem dv_ensureDef (st : St) (n : String) :
    (n ∈ defNames st ∧ defsView (ensureDef st n) = defsView st) ∨
    (n ∉ defNames st ∧ defsView (ensureDef st n) = defsView st ++ [(n, false)]) := by
  unfold ensureDef findDef
  cases h : st.defs.find? (fun d => d.name = n) with
  | some d =>
    left
    refine ⟨?_, rfl⟩
    have hm := List.mem_of_find?_eq_some h
    have hn : d.name = n := by simpa using List.find?_some h
    simp only [defNames, defsView, List.map_map, List.mem_map, Function.comp]
    exact ⟨d, hm, hn⟩
  | none =>
    right
    refine ⟨?_, by simp [defsView]⟩
    rw [List.find?_eq_none] at h
    simp only [defNames, defsView, List.map_map, List.mem_map, Function.comp, not_exists, not_and]
    intro d hd he
    exact (h d hd) (by simpa using he)

theorem mem_defNames_of_dv {a b : St} (h : defsView b = defsView a) {n : String} (hn : n ∈ defNames a) : n ∈ defNames b := by
  simpa [defNames, h] using hn

theorem defEx_iff (st : St) (t : String) : DefEx st t ↔ t ∈ defNames st := by
  unfold DefEx findDef
  rw [List.find?_isSome]
  simp [defNames, defsView]

theorem defEx_of_dv {a b : St} (h : defsView b = defsView a) {t : String} (hd : DefEx a t) : DefEx b t := by
  rw [defEx_iff] at hd ⊢
  exact mem_defNames_of_dv h hd

end Spydr.Eblif
