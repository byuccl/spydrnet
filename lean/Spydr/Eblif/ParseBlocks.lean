/-
  Parser half of the reader specification for statements: the lines an independent writer renders
  for a `.subckt`/`.gate`, `.names` (with its truth-table rows) or `.latch` with its
  `.cname/.attr/.param` lines, met in any mode in which a model is open, parse back to exactly that
  statement.
-/
import Spydr.Eblif.StmtShape

namespace Spydr.Eblif

theorem splitEqGo_append (l r : List Char) (h : '=' ∉ l) :
    ∀ acc : List Char, splitEqGo acc (l ++ '=' :: r) = some (acc ++ l, r) := by
  induction l with
  | nil => intro acc; simp [splitEqGo]
  | cons c l ih =>
    intro acc
    have hc : c ≠ '=' := fun e => h (by simp [e])
    have hl : '=' ∉ l := fun e => h (by simp [e])
    simp only [List.cons_append, splitEqGo, hc, if_false]
    rw [ih hl]
    simp

theorem splitEq_connWord (c : String × String) (h : '=' ∉ c.1.toList) : splitEq (connWord c) = some c := by
  unfold splitEq connWord
  have : (c.1 ++ "=" ++ c.2).toList = c.1.toList ++ '=' :: c.2.toList := by
    simp [String.toList_append]
  rw [this, splitEqGo_append _ _ h]
  simp [String.ofList_toList]

theorem parseConns_connWords (cs : List (String × String)) (h : ∀ c ∈ cs, '=' ∉ c.1.toList) :
    parseConns (cs.map connWord) = some cs := by
  induction cs with
  | nil => rfl
  | cons c r ih =>
    simp only [List.map_cons, parseConns]
    rw [splitEq_connWord c (h c (by simp)), ih (fun x hx => h x (by simp [hx]))]

theorem modifyLast_append_singleton {α : Type} (f : α → α) (l : List α) (a : α) :
    modifyLast f (l ++ [a]) = l ++ [f a] := by
  induction l with
  | nil => rfl
  | cons x r ih =>
    cases r with
    | nil => simp [modifyLast]
    | cons y r => simp only [List.cons_append] at ih ⊢; simp only [modifyLast]; rw [ih]

/-- the modes in which a model is open -/
def OpenMode (m : Mode) : Prop := m = Mode.header ∨ m = Mode.body ∨ m = Mode.info ∨ m = Mode.covers

/-- a statement keyword line is handled by `stepBody` in every open mode, and `stepBody` does not
    look at the mode for these keywords -/
theorem pstep_names_line (s : PSt) (c : Model) (hc : s.cur = some c) (hm : OpenMode s.mode) (nets : List String) :
    pstep s (".names" :: nets) = { s with cur := some { c with body := c.body ++ [Stmt.names nets [] []] }, mode := Mode.covers } := by
  cases s with
  | mk mode comments done cur err =>
    simp only at hc hm
    subst hc
    rcases hm with rfl | rfl | rfl | rfl <;>
      simp [pstep, stepHeader, stepBody, stepInfo, stepCovers, PSt.pushStmt, isCoverWord, isCoverChar]

theorem pstep_latch_line (s : PSt) (c : Model) (hc : s.cur = some c) (hm : OpenMode s.mode) (toks : List String) :
    pstep s (".latch" :: toks) = { s with cur := some { c with body := c.body ++ [Stmt.latch toks []] }, mode := Mode.info } := by
  cases s with
  | mk mode comments done cur err =>
    simp only at hc hm
    subst hc
    rcases hm with rfl | rfl | rfl | rfl <;>
      simp [pstep, stepHeader, stepBody, stepInfo, stepCovers, PSt.pushStmt, isCoverWord, isCoverChar]

theorem pstep_conn_line (s : PSt) (c : Model) (hc : s.cur = some c) (hm : OpenMode s.mode) (a b : String) :
    pstep s [".conn", a, b] = { s with cur := some { c with body := c.body ++ [Stmt.conn a b] }, mode := Mode.body } := by
  cases s with
  | mk mode comments done cur err =>
    simp only at hc hm
    subst hc
    rcases hm with rfl | rfl | rfl | rfl <;>
      simp [pstep, stepHeader, stepBody, stepInfo, stepCovers, PSt.pushStmt, isCoverWord, isCoverChar]

theorem pstep_end_line (s : PSt) (c : Model) (hc : s.cur = some c) (hm : OpenMode s.mode) :
    pstep s [".end"] = { s with done := s.done ++ [c], cur := none, mode := Mode.outside } := by
  cases s with
  | mk mode comments done cur err =>
    simp only at hc hm
    subst hc
    rcases hm with rfl | rfl | rfl | rfl <;>
      simp [pstep, stepHeader, stepBody, stepInfo, stepCovers, isCoverWord, isCoverChar]

theorem pstep_subckt_line (s : PSt) (c : Model) (hc : s.cur = some c) (hm : OpenMode s.mode)
    (gate : Bool) (m : String) (conns : List (String × String)) (hcs : ∀ x ∈ conns, '=' ∉ x.1.toList) :
    pstep s ([subcktKw gate, m] ++ conns.map connWord) =
      { s with cur := some { c with body := c.body ++ [Stmt.subckt gate m conns []] }, mode := Mode.info } := by
  cases s with
  | mk mode comments done cur err =>
    simp only at hc hm
    subst hc
    rcases hm with rfl | rfl | rfl | rfl <;> cases gate <;>
      simp [pstep, stepHeader, stepBody, stepInfo, stepCovers, PSt.pushStmt, isCoverWord, isCoverChar, subcktKw,
        parseConns_connWords conns hcs]

def CoverRow (l : List String) : Prop := ∃ w r, l = w :: r ∧ isCoverWord w = true

theorem pstep_cover_row (s : PSt) (c : Model) (hc : s.cur = some c) (hm : s.mode = Mode.covers) (row : List String)
    (hr : CoverRow row) (nets covers : List String) (body : List Stmt) (hb : c.body = body ++ [Stmt.names nets covers []]) :
    pstep s row = { s with cur := some { c with body := body ++ [Stmt.names nets (covers ++ [coverText row]) []] } } := by
  obtain ⟨w, r, rfl, hw⟩ := hr
  cases s with
  | mk mode comments done cur err =>
    simp only at hc hm
    subst hc; subst hm
    simp [pstep, stepCovers, hw, PSt.modLast, hb, modifyLast_append_singleton, addCoverStmt]

theorem cover_rows_fold (rows : List (List String)) (hr : ∀ r ∈ rows, CoverRow r) :
    ∀ (s : PSt) (c : Model) (nets covers : List String) (body : List Stmt), s.cur = some c → s.mode = Mode.covers →
      c.body = body ++ [Stmt.names nets covers []] →
      rows.foldl pstep s = { s with cur := some { c with body := body ++ [Stmt.names nets (covers ++ rows.map coverText) []] } } := by
  induction rows with
  | nil =>
    intro s c nets covers body hc _ hb
    cases s with
    | mk mode comments done cur err =>
      simp only at hc
      subst hc
      cases c with
      | mk name hdr cbody => simp only at hb; subst hb; simp
  | cons row r ih =>
    intro s c nets covers body hc hm hb
    simp only [List.foldl_cons, List.map_cons]
    rw [pstep_cover_row s c hc hm row (hr row (by simp)) nets covers body hb]
    have := ih (fun x hx => hr x (by simp [hx]))
      { s with cur := some { c with body := body ++ [Stmt.names nets (covers ++ [coverText row]) []] } }
      { c with body := body ++ [Stmt.names nets (covers ++ [coverText row]) []] }
      nets (covers ++ [coverText row]) body rfl hm rfl
    rw [this]
    simp

/-- statement `x` with `info` appended to its info lines (`.subckt`/`.gate`, `.names`, `.latch`; others
    have none) -/
def withInfo (x : Stmt) (info : List InfoStmt) : Stmt :=
  match x with
  | Stmt.subckt g m c i => Stmt.subckt g m c (i ++ info)
  | Stmt.names n c i => Stmt.names n c (i ++ info)
  | Stmt.latch t i => Stmt.latch t (i ++ info)
  | s => s

theorem pstep_info_line (s : PSt) (c : Model) (hc : s.cur = some c) (hm : s.mode = Mode.info ∨ s.mode = Mode.covers)
    (x : Stmt) (hx : Stmt.isInstance x = true) (body : List Stmt) (hb : c.body = body ++ [x]) (i : InfoStmt) :
    pstep s (infoLine i) = { s with cur := some { c with body := body ++ [withInfo x [i]] }, mode := Mode.info } := by
  cases s with
  | mk mode comments done cur err =>
    simp only at hc hm
    subst hc
    cases x with
    | conn a b => cases hx
    | blackbox => cases hx
    | _ =>
      rcases hm with rfl | rfl <;> cases i <;>
        simp [pstep, stepInfo, stepCovers, infoLine, isCoverWord, isCoverChar, PSt.modLast, hb, modifyLast_append_singleton,
          addInfoStmt, withInfo]

theorem withInfo_withInfo (x : Stmt) (a b : List InfoStmt) : withInfo (withInfo x a) b = withInfo x (a ++ b) := by
  cases x <;> simp [withInfo, List.append_assoc]

theorem isInst_withInfo (x : Stmt) (a : List InfoStmt) : Stmt.isInstance (withInfo x a) = Stmt.isInstance x := by
  cases x <;> rfl

theorem info_lines_fold_gen (info : List InfoStmt) :
    ∀ (s : PSt) (c : Model) (x : Stmt) (body : List Stmt), s.cur = some c → (s.mode = Mode.info ∨ s.mode = Mode.covers) →
      Stmt.isInstance x = true → c.body = body ++ [x] →
      (info.map infoLine).foldl pstep s =
        { s with cur := some { c with body := body ++ [withInfo x info] }, mode := if info = [] then s.mode else Mode.info } := by
  induction info with
  | nil =>
    intro s c x body hc _ _ hb
    cases s with
    | mk mode comments done cur err =>
      simp only at hc
      subst hc
      cases c with
      | mk name hdr cbody =>
        simp only at hb; subst hb
        cases x <;> simp [withInfo]
  | cons i r ih =>
    intro s c x body hc hm hx hb
    simp only [List.map_cons, List.foldl_cons]
    rw [pstep_info_line s c hc hm x hx body hb i]
    have := ih { s with cur := some { c with body := body ++ [withInfo x [i]] }, mode := Mode.info }
      { c with body := body ++ [withInfo x [i]] } (withInfo x [i]) body rfl (Or.inl rfl)
      (by rw [isInst_withInfo]; exact hx) rfl
    rw [this]
    simp [withInfo_withInfo]

theorem subckt_block (s : PSt) (c : Model) (hc : s.cur = some c) (hm : OpenMode s.mode)
    (gate : Bool) (m : String) (conns : List (String × String)) (hcs : ∀ x ∈ conns, '=' ∉ x.1.toList) (info : List InfoStmt) :
    (([subcktKw gate, m] ++ conns.map connWord) :: info.map infoLine).foldl pstep s =
      { s with cur := some { c with body := c.body ++ [Stmt.subckt gate m conns info] }, mode := Mode.info } := by
  rw [List.foldl_cons, pstep_subckt_line s c hc hm gate m conns hcs,
    info_lines_fold_gen info _ _ (Stmt.subckt gate m conns []) c.body rfl (Or.inl rfl) rfl rfl]
  simp [withInfo]

theorem names_block (s : PSt) (c : Model) (hc : s.cur = some c) (hm : OpenMode s.mode)
    (nets : List String) (rows : List (List String)) (hr : ∀ r ∈ rows, CoverRow r) (info : List InfoStmt) :
    ((".names" :: nets) :: rows ++ info.map infoLine).foldl pstep s =
      { s with cur := some { c with body := c.body ++ [Stmt.names nets (rows.map coverText) info] },
               mode := if info = [] then Mode.covers else Mode.info } := by
  rw [List.cons_append, List.foldl_cons, List.foldl_append, pstep_names_line s c hc hm,
    cover_rows_fold rows hr _ _ nets [] c.body rfl rfl rfl,
    info_lines_fold_gen info _ _ (Stmt.names nets ([] ++ rows.map coverText) []) c.body rfl (Or.inr rfl) rfl rfl]
  simp [withInfo]

theorem latch_block (s : PSt) (c : Model) (hc : s.cur = some c) (hm : OpenMode s.mode)
    (toks : List String) (info : List InfoStmt) :
    ((".latch" :: toks) :: info.map infoLine).foldl pstep s =
      { s with cur := some { c with body := c.body ++ [Stmt.latch toks info] }, mode := Mode.info } := by
  rw [List.foldl_cons, pstep_latch_line s c hc hm,
    info_lines_fold_gen info _ _ (Stmt.latch toks []) c.body rfl (Or.inl rfl) rfl rfl]
  simp [withInfo]

end Spydr.Eblif
