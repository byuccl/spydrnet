/-
  The second read cannot fail: success of the header words, the formals, the pins, the info lines, and
  of a whole written instance statement.
-/
import Spydr.Eblif.NetOK
import Spydr.Eblif.PortsMono
import Spydr.Eblif.WriterAst
import Spydr.Eblif.InstData

namespace Spydr.Eblif

theorem elabInput_ok (st : St) (cur tok pn : String) (pi : Nat) (hs : splitIdx tok = Except.ok (pn, pi)) :
    ∃ st', elabInput st cur tok = Except.ok st' :=
  ⟨_, elabInput_eq hs⟩

theorem elabOutput_ok (st : St) (cur tok pn : String) (pi : Nat) (hs : splitIdx tok = Except.ok (pn, pi)) :
    ∃ st', elabOutput st cur tok = Except.ok st' := by
  unfold elabOutput; rw [hs]
  simp only [bind, Except.bind, pure, Except.pure]
  split <;> exact ⟨_, rfl⟩

theorem elabToks_ok (f : St → String → String → Except Err St)
    (hf : ∀ st cur tok pn pi, splitIdx tok = Except.ok (pn, pi) → ∃ st', f st cur tok = Except.ok st')
    (cur : String) (ws : List String) (hws : ∀ w ∈ ws, ∃ pn pi, splitIdx w = Except.ok (pn, pi)) :
    ∀ st, ∃ st', elabToks f st cur ws = Except.ok st' := by
  induction ws with
  | nil => intro st; exact ⟨st, rfl⟩
  | cons w r ih =>
    intro st
    obtain ⟨pn, pi, hs⟩ := hws w (by simp)
    obtain ⟨s1, h1⟩ := hf st cur w pn pi hs
    obtain ⟨s2, h2⟩ := ih (fun x hx => hws x (by simp [hx])) s1
    refine ⟨s2, ?_⟩
    unfold elabToks
    rw [h1]; exact h2

def HasP (st : St) (dn pn : String) : Prop := (findIn (portsOf st dn) pn).isSome = true

theorem HasP.mono {a b : St} (h : PMono a b) {dn pn : String} (hp : HasP a dn pn) : HasP b dn pn := by
  unfold HasP at hp ⊢
  cases hf : findIn (portsOf a dn) pn with
  | none => rw [hf] at hp; cases hp
  | some p =>
    obtain ⟨p', hp', _⟩ := h dn pn p hf
    rw [hp']; rfl

theorem declFormal_ok (st : St) (model : String) (fa : String × String) (pn : String) (pi : Nat)
    (hd : DefEx st model) (hs : splitIdx fa.1 = Except.ok (pn, pi)) :
    ∃ st', declFormal st model fa = Except.ok st' ∧ DefEx st' model ∧ HasP st' model pn := by
  obtain ⟨h1, h2⟩ := addPort_has st model pn Dir.undef 0 hd
  have hp0 : HasP (addPort st model pn Dir.undef 0) model pn := by
    unfold HasP; rw [← hasPort_eq]; exact h1
  exact ⟨_, declFormal_iff.mpr ⟨pn, pi, hs, rfl⟩, (growPort_port _ model pn _ h2).2.2, hp0.mono (pmono_growPort _ _ _ _)⟩

theorem declFormals_ok (model : String) (l : List (String × String))
    (hl : ∀ fa ∈ l, ∃ pn pi, splitIdx fa.1 = Except.ok (pn, pi)) :
    ∀ st, DefEx st model → ∃ st', declFormals st model l = Except.ok st' ∧ DefEx st' model ∧
      ∀ fa ∈ l, ∀ pn pi, splitIdx fa.1 = Except.ok (pn, pi) → HasP st' model pn := by
  induction l with
  | nil => intro st hd; exact ⟨st, rfl, hd, fun fa h => by cases h⟩
  | cons fa r ih =>
    intro st hd
    obtain ⟨pn, pi, hs⟩ := hl fa (by simp)
    obtain ⟨s1, h1, d1, p1⟩ := declFormal_ok st model fa pn pi hd hs
    obtain ⟨s2, h2, d2, p2⟩ := ih (fun x hx => hl x (by simp [hx])) s1 d1
    refine ⟨s2, ?_, d2, ?_⟩
    · unfold declFormals; rw [h1]; exact h2
    · intro fb hfb qn qi hq
      rcases List.mem_cons.mp hfb with rfl | hm
      · rw [hs] at hq
        cases hq
        exact p1.mono (pm_declFormals r h2)
      · exact p2 fb hm qn qi hq

theorem connectAll_ok (idx : Nat) (parent model : String) (l : List (String × String)) :
    ∀ st, (∀ fa ∈ l, ∃ cn ci pn pi, splitIdx fa.2 = Except.ok (cn, ci) ∧ splitIdx fa.1 = Except.ok (pn, pi) ∧ HasP st model pn) →
      ∃ st', connectAll st idx parent model l = Except.ok st' := by
  induction l with
  | nil => intro st _; exact ⟨st, rfl⟩
  | cons fa r ih =>
    intro st hl
    obtain ⟨cn, ci, pn, pi, e1, e2, hp⟩ := hl fa (by simp)
    have h1 : ∃ s1, connectOne st idx parent model fa = Except.ok s1 := by
      unfold connectOne
      rw [e1, e2]
      by_cases hu : cn = "unconn"
      · exact ⟨_, if_pos hu⟩
      · have hh : ¬ (!hasPort st model pn) = true := by rw [hasPort_eq, hp]; exact Bool.false_ne_true
        exact ⟨_, (if_neg hu).trans (if_neg hh)⟩
    obtain ⟨s1, h1⟩ := h1
    obtain ⟨s2, h2⟩ := ih s1 (by
      intro fb hfb
      obtain ⟨cn', ci', pn', pi', f1, f2, hp'⟩ := hl fb (by simp [hfb])
      exact ⟨cn', ci', pn', pi', f1, f2, hp'.mono (pm_connectOne h1)⟩)
    refine ⟨s2, ?_⟩
    unfold connectAll
    rw [h1]; exact h2

theorem applyConvention_ok (l : List Nat) : ∀ n : BNet, ∃ n', applyConvention n l = Except.ok n' := by
  induction l with
  | nil => intro n; exact ⟨n, rfl⟩
  | cons idx r ih =>
    intro n
    unfold applyConvention
    split
    · exact ih n
    · split
      · exact ih n
      · rename_i nm _
        have : ∃ n1, renameNet n idx nm = Except.ok n1 := by
          unfold renameNet
          split
          · exact ⟨_, rfl⟩
          · simp only
            split <;> exact ⟨_, rfl⟩
        obtain ⟨n1, h1⟩ := this
        obtain ⟨n2, h2⟩ := ih n1
        exact ⟨n2, by simp only [h1, bind, Except.bind]; exact h2⟩

def namesOf (st : St) : List String := st.insts.map (·.name)

theorem nm_updInst (st : St) (idx : Nat) (f : Inst → Inst) (hf : ∀ i, (f i).name = i.name) :
    namesOf (updInst st idx f) = namesOf st := map_updIdx_gen (·.name) st.insts idx f hf

theorem nm_updInst_set (st : St) (idx : Nat) (f : Inst → Inst) (x : String) (hf : ∀ i, (f i).name = x) :
    namesOf (updInst st idx f) = (namesOf st).set idx x := by
  apply List.ext_getElem?
  intro j
  rw [List.getElem?_set]
  simp only [namesOf, List.getElem?_map, List.length_map]
  rw [show (updInst st idx f).insts[j]? = _ from getElem?_updIdx st.insts idx j f]
  by_cases hj : j = idx
  · subst hj
    rcases Nat.lt_or_ge j st.insts.length with h | h
    · simp [h, hf]
    · simp [Nat.not_lt.mpr h]
  · cases st.insts[j]? <;> simp [hj, Ne.symm hj]

@[simp] theorem nm_ensureDef (st : St) (n : String) : namesOf (ensureDef st n) = namesOf st := by
  unfold ensureDef; split <;> rfl
@[simp] theorem nm_updDef (st : St) (n : String) (f : DefD → DefD) : namesOf (updDef st n f) = namesOf st := rfl
@[simp] theorem nm_appendPins (st : St) (n : String) (l) : namesOf (appendPins st n l) = namesOf st := by
  simp only [namesOf, appendPins, List.map_map]
  congr 1
  funext i
  simp only [Function.comp]
  split <;> rfl
@[simp] theorem nm_addPort (st : St) (dn pn : String) (d : Dir) (w : Nat) : namesOf (addPort st dn pn d w) = namesOf st := by
  unfold addPort; split <;> simp
@[simp] theorem nm_growPort (st : St) (dn pn : String) (w : Nat) : namesOf (growPort st dn pn w) = namesOf st := by
  unfold growPort; simp only []; split <;> simp
@[simp] theorem nm_checkHierarchy (st : St) (c d : String) : namesOf (checkHierarchy st c d) = namesOf st := by
  unfold checkHierarchy; split <;> rfl
@[simp] theorem nm_connect (st : St) (p : Pin) (o n : String) (i : Nat) : namesOf (connect st p o n i) = namesOf st := by
  unfold connect ensureWire ensureCable; simp only []; split <;> split <;> rfl

theorem nm_declFormals {model : String} (l : List (String × String)) {st st' : St}
    (h : declFormals st model l = Except.ok st') : namesOf st' = namesOf st := by
  refine declFormals_rel (Same.refl namesOf) Same.trans (fun fa _ a b h => ?_) h
  obtain ⟨pn, pi, _, rfl⟩ := declFormal_iff.mp h
  exact (nm_growPort _ _ _ _).trans (nm_addPort _ _ _ _ _)

theorem nm_connectAll {idx : Nat} {parent model : String} (l : List (String × String)) {st st' : St}
    (h : connectAll st idx parent model l = Except.ok st') : namesOf st' = namesOf st := by
  refine connectAll_rel (Same.refl namesOf) Same.trans (fun fa _ a b h => ?_) h
  obtain ⟨_, _, _, _, _, _, ⟨_, rfl⟩ | ⟨_, _, rfl⟩⟩ := connectOne_eq h
  · exact nm_updInst _ _ _ (fun _ => rfl)
  · exact (nm_connect _ _ _ _ _).trans (nm_growPort _ _ _ _)

theorem mem_siblingNames {st : St} {parent x : String} {idx : Nat} (h : x ∈ siblingNames st parent idx) :
    ∃ j, j ≠ idx ∧ (namesOf st)[j]? = some x := by
  unfold siblingNames at h
  obtain ⟨p, hp, rfl⟩ := List.mem_map.mp h
  simp only [List.mem_filter, Bool.and_eq_true, decide_eq_true_eq] at hp
  obtain ⟨hm, _, hne⟩ := hp
  have := List.mem_zipIdx_iff_getElem?.mp hm
  exact ⟨p.2, hne, by simp [namesOf, this]⟩

theorem applyInfo_nocname_ok (idx : Nat) (parent : String) (l : List InfoStmt)
    (hl : ∀ s ∈ l, ∀ x, s ≠ InfoStmt.cname x) :
    ∀ st, ∃ st', applyInfo st idx parent l = Except.ok st' ∧ namesOf st' = namesOf st := by
  induction l with
  | nil => intro st; exact ⟨st, rfl, rfl⟩
  | cons s r ih =>
    intro st
    have hr : ∀ s ∈ r, ∀ x, s ≠ InfoStmt.cname x := fun s hs => hl s (by simp [hs])
    cases s with
    | cname x => exact absurd rfl (hl _ (by simp) x)
    | attr k v =>
      obtain ⟨s2, h2, n2⟩ := ih hr (updInst st idx (fun i => { i with attrs := dictSet i.attrs k v }))
      exact ⟨s2, by unfold applyInfo; exact h2, by rw [n2]; exact nm_updInst _ _ _ (fun _ => rfl)⟩
    | param k v =>
      obtain ⟨s2, h2, n2⟩ := ih hr (updInst st idx (fun i => { i with params := dictSet i.params k v }))
      exact ⟨s2, by unfold applyInfo; exact h2, by rw [n2]; exact nm_updInst _ _ _ (fun _ => rfl)⟩

theorem applyInfo_cname_ok (st : St) (idx : Nat) (parent x : String) (l : List InfoStmt)
    (hl : ∀ s ∈ l, ∀ y, s ≠ InfoStmt.cname y)
    (hx : ∀ j, j ≠ idx → (namesOf st)[j]? ≠ some x) :
    ∃ st', applyInfo st idx parent (InfoStmt.cname x :: l) = Except.ok st' ∧ namesOf st' = (namesOf st).set idx x := by
  have h0 : namesOf (updInst st idx (fun i => { i with cname := some x })) = namesOf st := nm_updInst _ _ _ (fun _ => rfl)
  have hno : x ∉ siblingNames (updInst st idx (fun i => { i with cname := some x })) parent idx := by
    intro hm
    obtain ⟨j, hj, hg⟩ := mem_siblingNames hm
    rw [h0] at hg
    exact hx j hj hg
  obtain ⟨s2, h2, n2⟩ := applyInfo_nocname_ok idx parent l hl
    (updInst (updInst st idx (fun i => { i with cname := some x })) idx (fun i => { i with name := x }))
  refine ⟨s2, ?_, ?_⟩
  · unfold applyInfo
    simp only [renameStrict, hno, if_false, bind, Except.bind]
    exact h2
  · rw [n2, nm_updInst_set _ _ _ x (fun _ => rfl), h0]

theorem nm_newInst (st : St) (p m t : String) : namesOf (newInst st p m t).1 = namesOf st ++ [""] := by
  simp [namesOf, newInst]

theorem nm_assignDefault (s : St) (idx : Nat) (p m : String) :
    ∃ d, namesOf (assignDefault s idx p m) = (namesOf s).set idx d := by
  unfold assignDefault
  exact ⟨_, nm_updInst_set _ _ _ _ (fun _ => rfl)⟩

/-- conditions under which writing and re-reading one instance succeeds -/
structure KidOK (o : Opts) (n : BNet) (t : String) (k : Inst × Nat) : Prop where
  formals : ∀ fa ∈ connsOf n k.2 k.1, ∃ pn pi, splitIdx fa.1 = Except.ok (pn, pi)
  actuals : ∀ fa ∈ connsOf n k.2 k.1, ∃ cn ci, splitIdx fa.2 = Except.ok (cn, ci)
  nodup : ((connsOf n k.2 k.1).map (·.1)).Nodup

theorem infoStmts_nocname (i : Inst) :
    ∀ s ∈ i.attrs.map (fun kv => InfoStmt.attr kv.1 kv.2) ++ i.params.map (fun kv => InfoStmt.param kv.1 kv.2),
      ∀ x, s ≠ InfoStmt.cname x := by
  intro s hs x
  simp only [List.mem_append, List.mem_map] at hs
  rcases hs with ⟨kv, _, rfl⟩ | ⟨kv, _, rfl⟩ <;> simp

theorem len_namesOf (st : St) : (namesOf st).length = st.insts.length := by simp [namesOf]

/-- the info lines the writer emits for instance `i`, applied to the instance just created at
    position `idx`, succeed when no earlier instance carries `i`'s name -/
theorem info_ok (o : Opts) (i : Inst) (t : String) (st s2 : St) (idx : Nat) (dflt : String)
    (hlen : st.insts.length = idx) (hn2 : namesOf s2 = namesOf st ++ [dflt])
    (hx : o.writeCname = true → ∀ j, j ≠ idx → (namesOf st)[j]? ≠ some i.name) :
    ∃ st', applyInfo s2 idx t (infoStmts o i) = Except.ok st' ∧ st'.insts.length = idx + 1 ∧
      (o.writeCname = true → namesOf st' = namesOf st ++ [i.name]) := by
  have hlen' : (namesOf st).length = idx := (len_namesOf st).trans hlen
  -- the names afterwards are those of `st` and one more, which also gives the length
  suffices h : ∃ st' d, applyInfo s2 idx t (infoStmts o i) = Except.ok st' ∧ namesOf st' = namesOf st ++ [d] ∧
      (o.writeCname = true → d = i.name) by
    obtain ⟨st', d, h, hn, hd⟩ := h
    refine ⟨st', h, ?_, fun hw => by rw [hn, hd hw]⟩
    rw [← len_namesOf, hn, List.length_append, hlen']
    rfl
  unfold infoStmts
  cases hwc : o.writeCname with
  | true =>
    have hx2 : ∀ j, j ≠ idx → (namesOf s2)[j]? ≠ some i.name := by
      intro j hj
      rw [hn2]
      rcases Nat.lt_or_ge j idx with hlt | hge
      · rw [List.getElem?_append_left (by omega)]
        exact hx hwc j hj
      · rw [List.getElem?_eq_none_iff.mpr (by simp; omega)]
        exact nofun
    obtain ⟨s3, h3, n3⟩ := applyInfo_cname_ok s2 idx t i.name _ (infoStmts_nocname i) hx2
    refine ⟨s3, i.name, h3, ?_, fun _ => rfl⟩
    rw [n3, hn2, ← hlen']
    simp
  | false =>
    obtain ⟨s3, h3, n3⟩ := applyInfo_nocname_ok idx t _ (infoStmts_nocname i) s2
    exact ⟨s3, dflt, h3, n3.trans hn2, fun h => by cases h⟩

theorem defs_rename {st st' : St} {i : Nat} {p n : String} (h : rename st i p n = Except.ok st') : st'.defs = st.defs := by
  rcases rename_cases h with rfl | rfl <;> rfl

theorem Naming.defs {sI s1 : St} {idx : Nat} {cur m : String} (h : Naming sI idx cur m s1) : s1.defs = sI.defs := by
  rcases h with rfl | ⟨n, h⟩
  · exact defs_assignDefault _ _ _ _
  · exact defs_rename h

theorem Naming.defs_created {sA s1 : St} {idx : Nat} {cur m typ : String} {s : Stmt}
    (h : Naming (withCovers (newInst sA cur m typ).1 idx s) idx cur m s1) : s1.defs = sA.defs :=
  h.defs.trans (withCovers_rel (R := Same (·.defs)) (fun _ => rfl) (fun _ _ _ => rfl) _ _ _)

theorem nm_rename {st st' : St} {idx : Nat} {p n : String} (h : rename st idx p n = Except.ok st') :
    ∃ d, namesOf st' = (namesOf st).set idx d := by
  unfold rename at h
  split at h
  · cases h; exact nm_assignDefault _ _ _ _
  · cases h; exact ⟨n, nm_updInst_set _ _ _ n (fun _ => rfl)⟩

theorem Naming.nm {sI s1 : St} {idx : Nat} {cur m : String} (h : Naming sI idx cur m s1) :
    ∃ d, namesOf s1 = (namesOf sI).set idx d := by
  rcases h with rfl | ⟨n, h⟩
  · exact nm_assignDefault _ _ _ _
  · exact nm_rename h

/-- the statement names an output to take the instance name from -/
def HeadOK : Stmt → Prop
  | Stmt.names nets _ _ => nets ≠ []
  | Stmt.latch toks _ => ∃ x, (latchOrder.zip toks).find? (fun p => p.1 = "output") = some x
  | _ => True

theorem nameStmt_ok {s : Stmt} (hh : HeadOK s) (sI : St) (idx : Nat) (cur : String) :
    ∃ s1, nameStmt sI idx cur s = Except.ok s1 := by
  have hr : ∀ n, ∃ s1, rename sI idx cur n = Except.ok s1 := fun n => by unfold rename; split <;> exact ⟨_, rfl⟩
  cases s with
  | names nets cv i =>
    simp only [nameStmt]
    cases h : nets.getLast? with
    | none => exact absurd (List.getLast?_eq_none_iff.mp h) hh
    | some x => simp only; split; exact ⟨_, rfl⟩; exact hr x
  | latch toks i => obtain ⟨x, hx⟩ := hh; simp only [nameStmt, hx]; exact hr x.2
  | _ => exact ⟨_, rfl⟩

/-- **A written instance block re-reads without error**: when the prepared definition has a port for every
    formal, the statement succeeds and the new instance ends up with the written name. -/
theorem inst_stmt_ok (o : Opts) (i : Inst) (t : String) {s : Stmt} (hs : Stmt.isInstance s = true) (hh : HeadOK s)
    (hinfo : stmtInfo s = infoStmts o i) {st sA : St} {idx : Nat} (hp : Prep st t s sA) (hnA : namesOf sA = namesOf st)
    (hpa : ∀ fa ∈ stmtConns st s, ∃ cn ci pn pi, splitIdx fa.2 = Except.ok (cn, ci) ∧
      splitIdx fa.1 = Except.ok (pn, pi) ∧ HasP sA (stmtModel s) pn)
    (hlen : st.insts.length = idx)
    (hx : o.writeCname = true → ∀ j, j ≠ idx → (namesOf st)[j]? ≠ some i.name) :
    ∃ st', elabStmt st t s = Except.ok st' ∧ st'.insts.length = idx + 1 ∧
      (o.writeCname = true → namesOf st' = namesOf st ++ [i.name]) := by
  have hlA : sA.insts.length = idx := hp.len.trans hlen
  obtain ⟨s1, h1⟩ := nameStmt_ok hh (withCovers (newInst sA t (stmtModel s) (stmtTyp s)).1 sA.insts.length s) sA.insts.length t
  have hn := nameStmt_naming hs h1
  obtain ⟨s2, h2⟩ := connectAll_ok sA.insts.length t (stmtModel s) (stmtConns st s) s1 (fun fa hfa => by
    obtain ⟨cn, ci, pn, pi, e1, e2, hP⟩ := hpa fa hfa
    exact ⟨cn, ci, pn, pi, e1, e2, hP.mono (PMono.of_defs hn.defs_created)⟩)
  obtain ⟨d, hd⟩ := hn.nm
  have hn2 : namesOf s2 = namesOf st ++ [d] := by
    rw [nm_connectAll _ h2, hd,
      withCovers_rel (R := Same namesOf) (fun _ => rfl) (fun _ _ _ => nm_updInst _ _ _ (fun _ => rfl)) _ _ _,
      nm_newInst, hnA, hlA, ← hlen, ← len_namesOf]
    simp
  obtain ⟨s3, h3, hl3, hn3⟩ := info_ok o i t st s2 idx d hlen hn2 hx
  exact ⟨s3, (elabStmt_inst_iff hs).mpr ⟨sA, s1, s2, hp, h1, h2, by rw [hinfo, hlA]; exact h3⟩, hl3, hn3⟩

theorem stmtOf_ok_at (o : Opts) (n : BNet) (t : String) (k : Inst × Nat) (hk : KidOK o n t k) (j : Nat) (st : St)
    (hlen : st.insts.length = j)
    (hx : o.writeCname = true → ∀ j', j' ≠ j → (namesOf st)[j']? ≠ some k.1.name) :
    ∃ st', elabStmt st t (stmtOf o n k) = Except.ok st' ∧ st'.insts.length = j + 1 ∧
      (o.writeCname = true → namesOf st' = namesOf st ++ [k.1.name]) := by
  obtain ⟨i, idx⟩ := k
  obtain ⟨s1, h1, _, p1⟩ := declFormals_ok i.model (connsOf n idx i) hk.formals _
    (defEx_ensureDef (checkHierarchy st t i.model) i.model)
  refine inst_stmt_ok o i t (s := stmtOf o n (i, idx)) rfl trivial rfl (sA := s1) h1
    (by rw [nm_declFormals _ h1]; simp) (fun fa hfa => ?_) hlen hx
  rw [show stmtConns st (stmtOf o n (i, idx)) = infoMapOf (connsOf n idx i) from rfl, infoMapOf_nodup _ hk.nodup] at hfa
  obtain ⟨pn, pi, e2⟩ := hk.formals fa hfa
  obtain ⟨cn, ci, e1⟩ := hk.actuals fa hfa
  exact ⟨cn, ci, pn, pi, e1, e2, p1 fa hfa pn pi e2⟩

end Spydr.Eblif
