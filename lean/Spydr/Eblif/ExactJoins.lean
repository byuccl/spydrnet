/-
  Exactness of the wire table: pins are on a wire only because a statement declared it.
-/
import Spydr.Eblif.InstKinds

namespace Spydr.Eblif

theorem Exact.init : Exact ({} : St) [] := by
  intro p k
  simp

def paFields (st : St) := (st.pins, st.alias)

theorem Exact.of_pa {st st' : St} {J : List (Pin × Key)} (h : paFields st' = paFields st) (e : Exact st J) :
    Exact st' J := by
  simp only [paFields, Prod.mk.injEq] at h
  intro p k
  rw [h.1, h.2]
  exact e p k

theorem pa_of_nf {st st' : St} (h : netFields st' = netFields st) : paFields st' = paFields st := by
  simp only [netFields, Prod.mk.injEq] at h
  simp [paFields, h.1, h.2.1]

theorem pa_ensureCable (st : St) (o n : String) : paFields (ensureCable st o n) = paFields st := by
  unfold ensureCable; split <;> rfl
theorem pa_ensureWire (st : St) (o n : String) (i : Nat) : paFields (ensureWire st o n i) = paFields st := by
  unfold ensureWire; simp only []; split
  · exact pa_ensureCable st o n
  · exact pa_ensureCable st o n

theorem exact_connect {st : St} {J : List (Pin × Key)} (e : Exact st J) (q : Pin) (o n : String) (i : Nat) :
    Exact (connect st q o n i) (J ++ [(q, (o, n, i))]) := by
  have hpa := pa_ensureWire st o n i
  simp only [paFields, Prod.mk.injEq] at hpa
  intro p k
  unfold connect
  simp only [upd, hpa.1, hpa.2, List.mem_append, List.mem_singleton, Prod.mk.injEq]
  constructor
  · intro h
    split at h
    · rename_i hk
      rcases List.mem_append.mp h with h | h
      · obtain ⟨k', h1, h2⟩ := (e p _).mp h
        exact ⟨k', Or.inl h1, by rw [h2, hk]⟩
      · simp only [List.mem_singleton] at h
        exact ⟨(o, n, i), Or.inr ⟨h, rfl⟩, hk.symm⟩
    · obtain ⟨k', h1, h2⟩ := (e p k).mp h
      exact ⟨k', Or.inl h1, h2⟩
  · rintro ⟨k', h1, h2⟩
    rcases h1 with h1 | ⟨hp, hk'⟩
    · have := (e p k).mpr ⟨k', h1, h2⟩
      split
      · rename_i hk; rw [hk] at this; exact List.mem_append.mpr (Or.inl this)
      · exact this
    · subst hp; subst hk'
      simp [h2]

theorem exact_mergeKeys {st : St} {J : List (Pin × Key)} (e : Exact st J) (ka kb : Key) :
    Exact (mergeKeys st ka kb) J := by
  intro p k
  rw [pins_mergeKeys]
  simp only [alias_mergeKeys, aliasStep]
  by_cases hne : st.alias ka = st.alias kb
  · simp only [hne, if_true]
    rw [e p k]
    exact exists_congr fun k' => and_congr_right fun _ => by split <;> simp_all
  simp only [hne, if_false]
  by_cases hb : k = st.alias kb
  · -- nothing stands for the emptied wire any more
    subst hb
    simp only [if_true, List.not_mem_nil, false_iff]
    rintro ⟨k', _, h2⟩
    split at h2
    · exact hne h2
    · rename_i h3; exact h3 h2
  simp only [hb, if_false]
  by_cases ha : k = st.alias ka
  · -- the kept wire carries what either bit declared
    subst ha
    simp only [if_true, List.mem_append, e p]
    constructor
    · rintro (⟨k', h1, h2⟩ | ⟨k', h1, h2⟩)
      · exact ⟨k', h1, by split <;> simp_all⟩
      · exact ⟨k', h1, by simp [h2]⟩
    · rintro ⟨k', h1, h2⟩
      split at h2
      · rename_i h3; exact Or.inr ⟨k', h1, h3⟩
      · exact Or.inl ⟨k', h1, h2⟩
  · simp only [ha, if_false, e p k]
    refine exists_congr fun k' => and_congr_right fun _ => ?_
    split
    · rename_i h3; exact ⟨fun h => absurd (h.symm.trans h3) hb, fun h => absurd h.symm ha⟩
    · exact Iff.rfl

theorem exact_connectOne {st st' : St} {J : List (Pin × Key)} {idx : Nat} {parent model : String}
    {fa : String × String} (e : Exact st J) (h : connectOne st idx parent model fa = Except.ok st') :
    Exact st' (J ++ joinOf idx parent fa) := by
  obtain ⟨cn, ci, pn, pi, e1, e2, hc⟩ := connectOne_eq h
  unfold joinOf
  rw [e1, e2]
  simp only []
  rcases hc with ⟨hu, rfl⟩ | ⟨hu, _, rfl⟩
  · simp only [hu, if_true, List.append_nil]
    exact Exact.of_pa (pa_of_nf (nf_updInst _ _ _)) e
  · simp only [hu, if_false]
    exact exact_connect (Exact.of_pa (pa_of_nf (by simp)) e) _ _ _ _

theorem exact_connectAll {idx : Nat} {parent model : String} (l : List (String × String)) :
    ∀ {st st' : St} {J : List (Pin × Key)}, Exact st J → connectAll st idx parent model l = Except.ok st' →
      Exact st' (J ++ l.flatMap (joinOf idx parent)) := by
  induction l with
  | nil => intro st st' J e h; cases h; simpa using e
  | cons fa r ih =>
    intro st st' J e h
    unfold connectAll at h
    obtain ⟨s1, h1, h⟩ := bind_ok h
    have := ih (exact_connectOne e h1) h
    simpa [List.flatMap_cons, List.append_assoc] using this

theorem exact_elabStmt {st st' : St} {J : List (Pin × Key)} {cur : String} {s : Stmt}
    (hs : s ≠ Stmt.blackbox) (e : Exact st J) (h : elabStmt st cur s = Except.ok st') :
    Exact st' (J ++ stmtJoins st cur s) := by
  cases hi : Stmt.isInstance s with
  | true =>
    obtain ⟨sA, s1, s2, hp, _, hn, h2, h3⟩ := elabStmt_inst_cases hi h
    rw [stmtJoins_eq]
    refine Exact.of_pa (pa_of_nf (nf_applyInfo _ h3)) (exact_connectAll _ (Exact.of_pa (pa_of_nf ?_) e) h2)
    rw [hn.nf, withCovers_rel (Same.refl netFields) (fun _ _ _ => nf_updInst _ _ _), nf_newInst, hp.nf]
  | false =>
    cases s with
    | conn a b =>
      obtain ⟨n1, i1, n2, i2, _, _, rfl⟩ := elabStmt_conn_cases h
      simp only [stmtJoins, List.append_nil]
      exact exact_mergeKeys (Exact.of_pa ((pa_ensureWire _ _ _ _).trans (pa_ensureWire _ _ _ _)) e) _ _
    | blackbox => exact absurd rfl hs
    | _ => cases hi

theorem exact_elabStmts {cur : String} (l : List Stmt) (hl : ∀ s ∈ l, s ≠ Stmt.blackbox) :
    ∀ {st st' : St} {J : List (Pin × Key)}, Exact st J → elabStmts st cur l = Except.ok st' →
      Exact st' (J ++ bodyJoins st cur l) := by
  induction l with
  | nil => intro st st' J e h; cases h; simpa [bodyJoins] using e
  | cons s r ih =>
    intro st st' J e h
    unfold elabStmts at h
    obtain ⟨s1, h1, h⟩ := bind_ok h
    have := ih (fun x hx => hl x (by simp [hx])) (exact_elabStmt (hl s (by simp)) e h1) h
    simp only [bodyJoins, h1]
    simpa [List.append_assoc] using this

end Spydr.Eblif

namespace Spydr.Eblif

def Functional (J : List (Pin × Key)) : Prop := ∀ p k1 k2, (p, k1) ∈ J → (p, k2) ∈ J → k1 = k2

theorem exact_one_wire {st : St} {J : List (Pin × Key)} (e : Exact st J) (f : Functional J)
    {p : Pin} {k1 k2 : Key} (h1 : p ∈ st.pins k1) (h2 : p ∈ st.pins k2) : k1 = k2 := by
  obtain ⟨a, ha, ea⟩ := (e p k1).mp h1
  obtain ⟨b, hb, eb⟩ := (e p k2).mp h2
  rw [← ea, ← eb, f p a b ha hb]

/-- the pairs one statement declares for its instance `n` (state-free kinds only) -/
def stmtPairs (n : Nat) (cur : String) : Stmt → List (Pin × Key)
  | Stmt.subckt _ _ conns _ => (infoMapOf conns).flatMap (joinOf n cur)
  | Stmt.latch toks _ => (latchOrder.zip toks).flatMap (joinOf n cur)
  | _ => []

theorem joinOf_idx {n : Nat} {cur : String} {fa : String × String} {p : Pin} {k : Key}
    (h : (p, k) ∈ joinOf n cur fa) : ∃ pn pi, p = Pin.inst n pn pi := by
  unfold joinOf at h
  split at h
  · split at h
    · cases h
    · simp only [List.mem_singleton, Prod.mk.injEq] at h
      exact ⟨_, _, h.1⟩
  · cases h

theorem flatMap_joinOf_idx {n : Nat} {cur : String} {l : List (String × String)} {p : Pin} {k : Key}
    (h : (p, k) ∈ l.flatMap (joinOf n cur)) : ∃ pn pi, p = Pin.inst n pn pi := by
  obtain ⟨fa, _, h⟩ := List.mem_flatMap.mp h
  exact joinOf_idx h

theorem stmtPairs_idx {n : Nat} {cur : String} {s : Stmt} {p : Pin} {k : Key}
    (h : (p, k) ∈ stmtPairs n cur s) : ∃ pn pi, p = Pin.inst n pn pi := by
  cases s <;> simp only [stmtPairs] at h
  · exact flatMap_joinOf_idx h
  · cases h
  · exact flatMap_joinOf_idx h
  · cases h
  · cases h

theorem declaredJoins_cons (n : Nat) (cur : String) (s : Stmt) (r : List Stmt) :
    declaredJoins n cur (s :: r) = stmtPairs n cur s ++ declaredJoins (n + (stmtKind cur s).length) cur r := by
  cases s <;> simp [declaredJoins, stmtPairs, stmtKind]

theorem stmtPairs_kind {n : Nat} {cur : String} {s : Stmt} {x : Pin × Key} (h : x ∈ stmtPairs n cur s) :
    (stmtKind cur s).length = 1 := by
  cases s <;> first | rfl | cases h

theorem declaredJoins_idx (cur : String) (body : List Stmt) :
    ∀ (n : Nat) {p : Pin} {k : Key}, (p, k) ∈ declaredJoins n cur body → ∃ m pn pi, n ≤ m ∧ p = Pin.inst m pn pi := by
  induction body with
  | nil => intro n p k h; cases h
  | cons s r ih =>
    intro n p k h
    rw [declaredJoins_cons, List.mem_append] at h
    rcases h with h | h
    · obtain ⟨pn, pi, e⟩ := stmtPairs_idx h; exact ⟨n, pn, pi, Nat.le_refl _, e⟩
    · obtain ⟨m', pn, pi, hle, e⟩ := ih _ h; exact ⟨m', pn, pi, by omega, e⟩

/-- if within every statement no pin is named twice, no pin is declared for two bits at all: the pins of
    different statements belong to different instances -/
theorem declaredJoins_functional (cur : String) (body : List Stmt)
    (hb : ∀ s ∈ body, ∀ n, Functional (stmtPairs n cur s)) :
    ∀ n, Functional (declaredJoins n cur body) := by
  induction body with
  | nil => intro n p k1 k2 h; cases h
  | cons s r ih =>
    have ihr := ih (fun x hx => hb x (by simp [hx]))
    intro n p k1 k2 h1 h2
    have hcross : ∀ {ka kb}, (p, ka) ∈ stmtPairs n cur s →
        (p, kb) ∈ declaredJoins (n + (stmtKind cur s).length) cur r → False := by
      intro ka kb ha hb'
      obtain ⟨pn, pi, e⟩ := stmtPairs_idx ha
      obtain ⟨m', pn', pi', hle, e'⟩ := declaredJoins_idx cur r _ hb'
      rw [e, stmtPairs_kind ha] at *
      cases e'; omega
    rw [declaredJoins_cons, List.mem_append] at h1 h2
    rcases h1 with h1 | h1 <;> rcases h2 with h2 | h2
    · exact hb s (by simp) n p k1 k2 h1 h2
    · exact (hcross h1 h2).elim
    · exact (hcross h2 h1).elim
    · exact ihr _ p k1 k2 h1 h2

def noNames : Stmt → Bool
  | Stmt.names _ _ _ => false
  | _ => true

theorem bodyJoins_closed (cur : String) (body : List Stmt) (hn : ∀ s ∈ body, noNames s = true) :
    ∀ {st st' : St}, elabStmts st cur body = Except.ok st' →
      bodyJoins st cur body = declaredJoins st.insts.length cur body := by
  induction body with
  | nil => intro st st' _; rfl
  | cons s r ih =>
    intro st st' h
    obtain ⟨s1, h1, h⟩ := bind_ok (show (elabStmt st cur s >>= _) = _ from h)
    have hlen : s1.insts.length = st.insts.length + (stmtKind cur s).length := by
      have := congrArg List.length (ik_elabStmt h1); simpa [instKinds] using this
    have hs : stmtJoins st cur s = stmtPairs st.insts.length cur s := by
      have := hn s (by simp)
      cases s <;> first | rfl | cases this
    simp only [bodyJoins, h1]
    rw [ih (fun x hx => hn x (by simp [hx])) h, declaredJoins_cons, hs, hlen]

theorem exact_elabInput {st st' : St} {J : List (Pin × Key)} {cur tok pn : String} {pi : Nat}
    (e : Exact st J) (hs : splitIdx tok = Except.ok (pn, pi)) (h : elabInput st cur tok = Except.ok st') :
    Exact st' (J ++ [(Pin.top cur pn pi, (cur, pn, pi))]) := by
  obtain rfl := Except.ok.inj ((elabInput_eq hs).symm.trans h)
  refine exact_connect (Exact.of_pa (pa_of_nf ?_) e) _ _ _ _
  rw [nf_growPort]
  split <;> simp

/-- when the word does not name an existing input port, `.outputs word` joins its pin -/
theorem exact_elabOutput {st st' : St} {J : List (Pin × Key)} {cur tok pn : String} {pi : Nat}
    (e : Exact st J) (hs : splitIdx tok = Except.ok (pn, pi))
    (hd : portDir (addPort st cur pn Dir.out 0) cur pn = Dir.out)
    (h : elabOutput st cur tok = Except.ok st') :
    Exact st' (J ++ [(Pin.top cur pn pi, (cur, pn, pi))]) := by
  obtain rfl := Except.ok.inj ((elabOutput_out hs (by rw [hd]; simp)).symm.trans h)
  exact exact_connect (Exact.of_pa (pa_of_nf (by simp)) e) _ _ _ _

end Spydr.Eblif
