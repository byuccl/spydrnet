/-
  Every statement adds exactly the instances the property names, and nothing ever changes parent /
  model / type of an existing instance.  What `.blackbox` leaves of its model.
-/
import Spydr.Eblif.Edits

namespace Spydr.Eblif

theorem map_updIdx_gen {β : Type} (g : Inst → β) (l : List Inst) (idx : Nat) (f : Inst → Inst)
    (hf : ∀ i, g (f i) = g i) :
    (l.zipIdx.map (fun (p : Inst × Nat) => if p.2 = idx then f p.1 else p.1)).map g = l.map g := by
  rw [List.map_map]
  have : (g ∘ fun (p : Inst × Nat) => if p.2 = idx then f p.1 else p.1) = g ∘ Prod.fst := by
    funext p
    simp only [Function.comp]
    split
    · exact hf _
    · rfl
  rw [this, ← List.map_map, List.zipIdx_map_fst]

theorem ik_updInst (st : St) (idx : Nat) (f : Inst → Inst) (hf : ∀ i, kindOf (f i) = kindOf i) :
    instKinds (updInst st idx f) = instKinds st := map_updIdx_gen kindOf st.insts idx f hf

@[simp] theorem ik_ensureDef (st : St) (n : String) : instKinds (ensureDef st n) = instKinds st := by
  unfold ensureDef; split <;> rfl
@[simp] theorem ik_updDef (st : St) (n : String) (f : DefD → DefD) : instKinds (updDef st n f) = instKinds st := rfl
@[simp] theorem ik_appendPins (st : St) (n : String) (l) : instKinds (appendPins st n l) = instKinds st := by
  simp only [instKinds, appendPins, List.map_map]
  congr 1
  funext i
  simp only [Function.comp]
  split <;> rfl
@[simp] theorem ik_addPort (st : St) (dn pn : String) (d : Dir) (w : Nat) : instKinds (addPort st dn pn d w) = instKinds st := by
  unfold addPort; split <;> simp
@[simp] theorem ik_setDir (st : St) (dn pn : String) (d : Dir) : instKinds (setDir st dn pn d) = instKinds st := rfl
@[simp] theorem ik_growPort (st : St) (dn pn : String) (w : Nat) : instKinds (growPort st dn pn w) = instKinds st := by
  unfold growPort; simp only []; split <;> simp
@[simp] theorem ik_checkHierarchy (st : St) (c d : String) : instKinds (checkHierarchy st c d) = instKinds st := by
  unfold checkHierarchy; split <;> rfl
@[simp] theorem ik_ensureCable (st : St) (o n : String) : instKinds (ensureCable st o n) = instKinds st := by
  unfold ensureCable; split <;> rfl
@[simp] theorem ik_ensureWire (st : St) (o n : String) (i : Nat) : instKinds (ensureWire st o n i) = instKinds st := by
  unfold ensureWire; simp only []; split <;> simp [instKinds] <;> exact ik_ensureCable st o n
@[simp] theorem ik_connect (st : St) (p : Pin) (o n : String) (i : Nat) : instKinds (connect st p o n i) = instKinds st := by
  unfold connect; exact ik_ensureWire st o n i
@[simp] theorem ik_mergeKeys (st : St) (a b : Key) : instKinds (mergeKeys st a b) = instKinds st := by
  unfold mergeKeys; simp only []; split <;> rfl
@[simp] theorem ik_clearOwner (st : St) (o : String) : instKinds (clearOwner st o) = instKinds st := rfl
@[simp] theorem ik_assignDefault (st : St) (i : Nat) (p m : String) : instKinds (assignDefault st i p m) = instKinds st := by
  unfold assignDefault
  exact ik_updInst _ _ _ (fun _ => rfl)
theorem ik_newInst (st : St) (p m t : String) : instKinds (newInst st p m t).1 = instKinds st ++ [(p, m, t)] := by
  simp [instKinds, newInst]

theorem ik_quiet {cur : String} {idx : Nat} {D : String → Prop} {a b : St} (h : PrimQ cur idx D a b) :
    instKinds b = instKinds a := by
  cases h with
  | edit f hf => exact ik_updInst _ _ _ (fun x => (hf.frame x).1)
  | assignDefault m => exact ik_assignDefault _ _ _ _
  | clock l => exact ik_updDef _ _ _
  -- ensureDef, checkHierarchy, addPort, growPort, setDir, connect: one `ik_` lemma each
  | _ => simp [ik_ensureDef, ik_addPort, ik_growPort, ik_setDir, ik_checkHierarchy, ik_connect]

theorem Run.ik {cur : String} {idx : Nat} {D : String → Prop} {a b : St} (h : Run (PrimQ cur idx D) a b) :
    instKinds b = instKinds a :=
  h.lift (Same.refl instKinds) Same.trans ik_quiet

theorem ik_addLatchPorts (l : List String) (st : St) : instKinds (addLatchPorts st l) = instKinds st :=
  addLatchPorts_rel (Same.refl instKinds) Same.trans (ik_addPort · _ · · ·) l st

@[simp] theorem ik_addNamesPorts (st : St) (dn : String) (k : Nat) : instKinds (addNamesPorts st dn k) = instKinds st :=
  addNamesPorts_rel (Same.refl instKinds) Same.trans (ik_addPort · dn · · ·) st k

theorem ik_elabStmt {st st' : St} {cur : String} {s : Stmt} (h : elabStmt st cur s = Except.ok st') :
    instKinds st' = instKinds st ++ stmtKind cur s := by
  cases hi : Stmt.isInstance s with
  | true =>
    obtain ⟨sA, model, typ, hk, r1, _, _, r2⟩ := Run.elabStmt_inst hi h
    rw [hk, r2.ik, withCovers_rel (Same.refl instKinds) (fun _ _ _ => ik_updInst _ _ _ (fun _ => rfl)), ik_newInst, r1.ik]
  | false =>
    cases s with
    | conn a b =>
      obtain ⟨n1, i1, n2, i2, _, _, rfl⟩ := elabStmt_conn_cases h
      simp [stmtKind]
    | blackbox =>
      rw [elabStmt_blackbox_eq h]
      simp [stmtKind]
    | _ => cases hi

theorem ik_beginModel (st : St) (n : String) : instKinds (beginModel st n) = instKinds st :=
  beginModel_rel (R := Same instKinds) Same.trans (ik_ensureDef · n) (ik_updDef · n _) (fun _ _ _ => rfl) st

theorem ik_elabInput {st st' : St} {cur tok : String} (h : elabInput st cur tok = Except.ok st') :
    instKinds st' = instKinds st := (Run.elabInput (idx := 0) h).ik

theorem ik_elabOutput {st st' : St} {cur tok : String} (h : elabOutput st cur tok = Except.ok st') :
    instKinds st' = instKinds st := (Run.elabOutput (idx := 0) h).ik

theorem ik_elabHdrs {cur : String} {l : List Hdr} {st st' : St} (h : elabHdrs st cur l = Except.ok st') :
    instKinds st' = instKinds st := (Run.elabHdrs (idx := 0) h).ik

/-- `.blackbox`: afterwards the model owns no cable, none of its net bits carries a pin, and the
    definition is not in library `work` -/
theorem elabStmt_blackbox {st st' : St} {cur : String} (h : elabStmt st cur Stmt.blackbox = Except.ok st') :
    (∀ c ∈ st'.cables, c.1 ≠ cur) ∧ (∀ k : Key, k.1 = cur → st'.pins k = []) ∧
    (∀ d ∈ st'.defs, d.name = cur → d.inWork = false) := by
  unfold elabStmt at h
  cases h
  refine ⟨?_, ?_, ?_⟩
  · intro c hc
    simp only [updDef, clearOwner, List.mem_filter, decide_eq_true_eq] at hc
    exact hc.2
  · intro k hk
    simp [updDef, clearOwner, hk]
  · intro d hd hn
    simp only [updDef, clearOwner, List.mem_map] at hd
    obtain ⟨d0, _, he⟩ := hd
    split at he
    · subst he; simp [DefD.inWork]
    · rename_i hne; subst he; exact absurd hn hne

end Spydr.Eblif
