/-
  The parser on everything the writer emits: the composed lines of a netlist with a top model in `work`
  and `.subckt`/`.gate`/`.names`/`.latch` children parse to the explicit AST `astOfFull`.  The `.subckt`/`.gate`
  fragment (`astOfB`, `astOf`) is the case in which the two ASTs agree.
-/
import Spydr.Eblif.WriterAst
import Spydr.Eblif.ParseBlocks

namespace Spydr.Eblif

def namesNets (n : BNet) (idx : Nat) (i : Inst) : List String :=
  ((i.pins.filter (fun q => n.portDir i.model q.1 = Dir.inp)) ++
   (i.pins.reverse.filter (fun q => n.portDir i.model q.1 = Dir.out))).map (fun q => netText n (Pin.inst idx q.1 q.2))

def coverRows (i : Inst) : List (List String) :=
  match i.covers with
  | some cs => cs.map (fun c => splitOnBlank c.toList)
  | none => []

def latchToks (n : BNet) (idx : Nat) (i : Inst) : List String :=
  latchOrder.flatMap (fun pt =>
    (i.pins.reverse.filter (fun q => q.1 = pt)).map (fun q => netText n (Pin.inst idx q.1 q.2)))

/-- the statement the writer's lines for one child parse to -/
def stmtOfFull (o : Opts) (n : BNet) (p : Inst × Nat) : Stmt :=
  if p.1.typ = "EBLIF.names" then Stmt.names (namesNets n p.2 p.1) ((coverRows p.1).map coverText) (infoStmts o p.1)
  else if p.1.typ = "EBLIF.latch" then Stmt.latch (latchToks n p.2 p.1) (infoStmts o p.1)
  else Stmt.subckt (p.1.typ = "EBLIF.gate") p.1.model (connsOf n p.2 p.1) (infoStmts o p.1)

def kidsFull (n : BNet) (t : String) : List (Inst × Nat) :=
  let kids := n.insts.zipIdx.filter (fun (p : Inst × Nat) => p.1.parent = t)
  kids.filter (fun (p : Inst × Nat) => p.1.typ = "EBLIF.subckt") ++ kids.filter (fun (p : Inst × Nat) => p.1.typ = "EBLIF.gate") ++
  kids.filter (fun (p : Inst × Nat) => p.1.typ = "EBLIF.names") ++ kids.filter (fun (p : Inst × Nat) => p.1.typ = "EBLIF.latch")

theorem mem_kidsFull {n : BNet} {t : String} {k : Inst × Nat} (h : k ∈ kidsFull n t) :
    k ∈ n.insts.zipIdx ∧ k.1.parent = t ∧
      (k.1.typ = "EBLIF.subckt" ∨ k.1.typ = "EBLIF.gate" ∨ k.1.typ = "EBLIF.names" ∨ k.1.typ = "EBLIF.latch") := by
  unfold kidsFull at h
  simp only [List.mem_append, List.mem_filter, decide_eq_true_eq] at h
  rcases h with ((h | h) | h) | h <;> exact ⟨h.1.1, h.1.2, by simp [h.2]⟩

def connStmts (n : BNet) (d : DefD) : List Stmt :=
  d.ports.flatMap (fun p =>
    (List.range p.width).flatMap (fun b =>
      match n.wireOf (Pin.top d.name p.name b) with
      | some (c, wi, _) =>
          if c.2 = p.name && wi = b then []
          else [Stmt.conn (netText n (Pin.top d.name p.name b)) (if p.width > 1 then p.name ++ "[" ++ natStr b ++ "]" else p.name)]
      | none => []))

def hdrOfFull (d : DefD) : List Hdr :=
  hdrOf d ++ (match d.clock with | some c => [Hdr.clock c] | none => [])

def astOfFull (o : Opts) (n : BNet) (t : String) : BAst :=
  { comments := (astOf o n t).comments,
    models := [{ name := t, hdr := hdrOfFull (n.findDef t),
                 body := (kidsFull n t).map (stmtOfFull o n) ++ connStmts n (n.findDef t) }] ++ bbPart o n t }

structure FragFull (n : BNet) (t : String) : Prop where
  top : n.top = some t
  work : (n.findDef t).inWork = true
  kinds : ∀ i ∈ n.insts, i.parent = t →
    (i.typ = "EBLIF.subckt" ∨ i.typ = "EBLIF.gate" ∨ i.typ = "EBLIF.names" ∨ i.typ = "EBLIF.latch")
  noeq : ∀ d ∈ n.defs, ∀ p ∈ d.ports, '=' ∉ p.name.toList
  covers : ∀ i ∈ n.insts, ∀ r ∈ coverRows i, CoverRow r

theorem openMode_info : OpenMode Mode.info := Or.inr (Or.inr (Or.inl rfl))
theorem openMode_covers : OpenMode Mode.covers := Or.inr (Or.inr (Or.inr rfl))

theorem stmtOfFull_sub (o : Opts) (n : BNet) (k : Inst × Nat) (hn : k.1.typ ≠ "EBLIF.names") (hl : k.1.typ ≠ "EBLIF.latch") :
    stmtOfFull o n k = stmtOf o n k := by
  unfold stmtOfFull stmtOf; simp [hn, hl]

/-- the lines `ls`, met while a model is open, append the statements `xs` to its body and leave it open -/
def Sec (ls : List (List String)) (xs : List Stmt) : Prop :=
  ∀ (s : PSt) (c : Model), s.cur = some c → OpenMode s.mode →
    ∃ m', OpenMode m' ∧ ls.foldl pstep s = { s with cur := some { c with body := c.body ++ xs }, mode := m' }

theorem Sec.nil : Sec [] [] := by
  intro s c hc hm
  refine ⟨s.mode, hm, ?_⟩
  cases s with
  | mk mode comments done cur err => simp only at hc; subst hc; simp

theorem Sec.append {a b : List (List String)} {xs ys : List Stmt} (ha : Sec a xs) (hb : Sec b ys) :
    Sec (a ++ b) (xs ++ ys) := by
  intro s c hc hm
  obtain ⟨m1, om1, h1⟩ := ha s c hc hm
  obtain ⟨m2, om2, h2⟩ := hb { s with cur := some { c with body := c.body ++ xs }, mode := m1 } _ rfl om1
  refine ⟨m2, om2, ?_⟩
  rw [List.foldl_append, h1, h2]
  simp

theorem Sec.flatMap {α : Type} {f : α → List (List String)} {g : α → List Stmt} {ks : List α}
    (h : ∀ k ∈ ks, Sec (f k) (g k)) : Sec (ks.flatMap f) (ks.flatMap g) := by
  induction ks with
  | nil => exact Sec.nil
  | cons k r ih =>
    simp only [List.flatMap_cons]
    exact (h k (by simp)).append (ih fun x hx => h x (by simp [hx]))

theorem Sec.map {α : Type} {f : α → List (List String)} {g : α → Stmt} {ks : List α}
    (h : ∀ k ∈ ks, Sec (f k) [g k]) : Sec (ks.flatMap f) (ks.map g) :=
  List.map_eq_flatMap ▸ Sec.flatMap h

/-- the block the writer emits for one child reads back as the child's statement -/
theorem kid_sec (o : Opts) (n : BNet) (hne : ∀ d ∈ n.defs, ∀ p ∈ d.ports, '=' ∉ p.name.toList)
    (k : Inst × Nat) (hk : k.1.typ = "EBLIF.subckt" ∨ k.1.typ = "EBLIF.gate" ∨ k.1.typ = "EBLIF.names" ∨ k.1.typ = "EBLIF.latch")
    (hcov : k.1.typ = "EBLIF.names" → ∀ r ∈ coverRows k.1, CoverRow r) :
    Sec (instLines o n k) [stmtOfFull o n k] := by
  intro s c hc hm
  have hsub : (k.1.typ = "EBLIF.subckt" ∨ k.1.typ = "EBLIF.gate") → (instLines o n k).foldl pstep s =
      { s with cur := some { c with body := c.body ++ [stmtOfFull o n k] }, mode := Mode.info } := by
    intro ht
    have hcs : ∀ x ∈ connsOf n k.2 k.1, '=' ∉ x.1.toList := by
      intro x hx
      obtain ⟨p, hp, q, _, _, rfl⟩ := mem_connsOf.mp hx
      obtain ⟨d, hd, hpd⟩ := findDef_ports_mem hp
      exact formalText_noeq (hne d hd p hpd) q.2
    rw [instLines_eq o n k ht, stmtOfFull_sub o n k (by rcases ht with h | h <;> (rw [h]; decide))
      (by rcases ht with h | h <;> (rw [h]; decide))]
    exact subckt_block s c hc hm _ _ _ hcs _
  obtain ⟨i, idx⟩ := k
  simp only at hk hcov hsub
  rcases hk with h | h | h | h
  · exact ⟨Mode.info, openMode_info, hsub (Or.inl h)⟩
  · exact ⟨Mode.info, openMode_info, hsub (Or.inr h)⟩
  · have e1 : instLines o n (i, idx) = ((".names" :: namesNets n idx i) :: coverRows i) ++ infoLines o i := by
      unfold instLines namesLines namesNets coverRows
      simp only [h, show ¬ ("EBLIF.names" = "EBLIF.subckt") by decide, show ¬ ("EBLIF.names" = "EBLIF.other") by decide,
        show ¬ ("EBLIF.names" = "EBLIF.gate") by decide, decide_false, Bool.or_self, Bool.false_eq_true,
        if_false, if_true, List.cons_append, List.nil_append]
      rfl
    have e2 : stmtOfFull o n (i, idx) = Stmt.names (namesNets n idx i) ((coverRows i).map coverText) (infoStmts o i) := by
      unfold stmtOfFull; simp [h]
    rw [e1, e2, infoLines_eq]
    exact ⟨if infoStmts o i = [] then Mode.covers else Mode.info, by split; exact openMode_covers; exact openMode_info,
      names_block s c hc hm _ _ (hcov h) _⟩
  · have e1 : instLines o n (i, idx) = [".latch" :: latchToks n idx i] ++ infoLines o i := by
      unfold instLines latchLine latchToks; simp [h]
    have e2 : stmtOfFull o n (i, idx) = Stmt.latch (latchToks n idx i) (infoStmts o i) := by
      unfold stmtOfFull; simp [h]
    rw [e1, e2, infoLines_eq]
    exact ⟨Mode.info, openMode_info, latch_block s c hc hm _ _⟩

/-- (net text, port-bit text) of the `.conn` lines the writer emits for the ports of `d` -/
def connPairs (n : BNet) (d : DefD) : List (String × String) :=
  d.ports.flatMap (fun p =>
    (List.range p.width).flatMap (fun b =>
      match n.wireOf (Pin.top d.name p.name b) with
      | some (c, wi, _) =>
          if c.2 = p.name && wi = b then []
          else [(netText n (Pin.top d.name p.name b), if p.width > 1 then p.name ++ "[" ++ natStr b ++ "]" else p.name)]
      | none => []))

theorem connStmts_eq (n : BNet) (d : DefD) : connStmts n d = (connPairs n d).map (fun ab => Stmt.conn ab.1 ab.2) := by
  unfold connStmts connPairs
  simp only [List.map_flatMap]
  congr 1; funext p
  congr 1; funext b
  cases hwo : n.wireOf (Pin.top d.name p.name b) with
  | none => rfl
  | some r =>
    obtain ⟨c, wi, len⟩ := r
    by_cases hc : (decide (c.2 = p.name) && decide (wi = b)) = true <;> simp [hc]

theorem connLines_eq (n : BNet) (d : DefD) : connLines n d = (connPairs n d).map (fun ab => [".conn", ab.1, ab.2]) := by
  unfold connLines connPairs
  simp only [List.map_flatMap]
  congr 1; funext p
  congr 1; funext b
  cases hwo : n.wireOf (Pin.top d.name p.name b) with
  | none => rfl
  | some r =>
    obtain ⟨c, wi, len⟩ := r
    by_cases hc : (decide (c.2 = p.name) && decide (wi = b)) = true <;> simp [hc]

theorem conn_sec (n : BNet) (d : DefD) : Sec (connLines n d) (connStmts n d) := by
  rw [connLines_eq, connStmts_eq, List.map_eq_flatMap, List.map_eq_flatMap]
  refine Sec.flatMap fun ab _ s c hc hm => ⟨_, Or.inr (Or.inl rfl), ?_⟩
  rw [List.foldl_cons, pstep_conn_line s c hc hm]; rfl

/-- what the parser needs of a netlist to read back the lines composed from it; the cover-row clause
    only for the children whose rows are written -/
structure FragW (n : BNet) (t : String) : Prop where
  top : n.top = some t
  work : (n.findDef t).inWork = true
  kinds : ∀ i ∈ n.insts, i.parent = t →
    (i.typ = "EBLIF.subckt" ∨ i.typ = "EBLIF.gate" ∨ i.typ = "EBLIF.names" ∨ i.typ = "EBLIF.latch")
  noeq : ∀ d ∈ n.defs, ∀ p ∈ d.ports, '=' ∉ p.name.toList
  covers : ∀ i ∈ n.insts, i.parent = t → i.typ = "EBLIF.names" → ∀ r ∈ coverRows i, CoverRow r

theorem FragFull.toW {n : BNet} {t : String} (hf : FragFull n t) : FragW n t :=
  ⟨hf.top, hf.work, hf.kinds, hf.noeq, fun i hi _ _ => hf.covers i hi⟩

theorem parse_composeLines_w (o : Opts) (n : BNet) (t : String) (hf : FragW n t) :
    parseLines (composeLines o n) = Except.ok (astOfFull o n t) := by
  -- the composed lines in sections (`hlines`; the `EBLIF.other` children are none: `hother`): comments, the five lines up
  -- to `.outputs` (`h0`), `.clock` (`hclk`), child blocks then `.conn` lines (`Sec`), `.end`, the black-box models
  -- (`bb_lines_fold`); the parser state is followed through them in that order
  have hk : ∀ k ∈ kidsFull n t, (k.1.typ = "EBLIF.subckt" ∨ k.1.typ = "EBLIF.gate" ∨ k.1.typ = "EBLIF.names" ∨ k.1.typ = "EBLIF.latch") ∧
      (k.1.typ = "EBLIF.names" → ∀ r ∈ coverRows k.1, CoverRow r) := by
    intro k hk
    obtain ⟨hz, hp, hty⟩ := mem_kidsFull hk
    exact ⟨hty, hf.covers k.1 (mem_zipIdx_fst hz) hp⟩
  have hother : (n.insts.zipIdx.filter (fun (p : Inst × Nat) => p.1.parent = t)).filter (fun (p : Inst × Nat) => p.1.typ = "EBLIF.other") = [] := by
    rw [List.filter_eq_nil_iff]
    intro p hp hty
    simp only [List.mem_filter, decide_eq_true_eq] at hp hty
    rcases hf.kinds p.1 (mem_zipIdx_fst hp.1) hp.2 with h | h | h | h <;> (rw [hty] at h; exact absurd h (by decide))
  have hbl : blackboxLines n t = (bbDefs n t).flatMap (fun d =>
          [[".model", d.name],
           [".inputs"] ++ (d.ports.filter (fun p => p.dir = Dir.inp)).map (·.name),
           [".outputs"] ++ (d.ports.filter (fun p => p.dir = Dir.out)).map (·.name),
           [".blackbox"], [".end"], []]) := rfl
  have hlines : composeLines o n =
      n.comments.map (fun c => ["#"] ++ splitOnBlank c.toList) ++
      ([["#", "Generated", "by", "'BYU", "spydrnet", "tool'"], [], [".model", t],
        [".inputs"] ++ ((n.findDef t).ports.filter (fun p => p.dir = Dir.inp || p.dir = Dir.inout)).flatMap portBits,
        [".outputs"] ++ ((n.findDef t).ports.filter (fun p => p.dir = Dir.out || p.dir = Dir.inout)).flatMap portBits] ++
       ((match (n.findDef t).clock with | some c => [[".clock"] ++ c] | none => []) ++
        (((kidsFull n t).flatMap (instLines o n) ++ connLines n (n.findDef t)) ++ ([[".end"], []] ++
        (if o.writeBlackbox then blackboxLines n t else []))))) := by
    unfold composeLines modelLines
    simp only [hf.top, hf.work, if_true]
    rw [hother]
    simp [kidsFull, List.append_assoc]
    rfl
  unfold parseLines
  rw [hlines, List.foldl_append, comments_fold _ _ rfl, List.foldl_append]
  simp only [List.foldl_cons, List.foldl_nil]
  have h0 : ∀ s : PSt, s.mode = Mode.outside → s.err = none →
      pstep (pstep (pstep (pstep (pstep s ["#", "Generated", "by", "'BYU", "spydrnet", "tool'"]) []) [".model", t])
        ([".inputs"] ++ ((n.findDef t).ports.filter (fun p => p.dir = Dir.inp || p.dir = Dir.inout)).flatMap portBits))
        ([".outputs"] ++ ((n.findDef t).ports.filter (fun p => p.dir = Dir.out || p.dir = Dir.inout)).flatMap portBits) =
      { s with comments := s.comments ++ ["Generated by 'BYU spydrnet tool' "], mode := Mode.header,
               cur := some { name := t, hdr := hdrOf (n.findDef t), body := [] } } := by
    intro s hm he
    cases s with
    | mk mode comments done cur err =>
      simp only at hm he
      subst hm; subst he
      simp [pstep, stepOutside, stepHeader, commentText, PSt.pushHdr, hdrOf]
  rw [h0 _ rfl rfl, List.foldl_append]
  have hclk : ∀ s : PSt, s.mode = Mode.header → ∀ c0, s.cur = some c0 →
      (match (n.findDef t).clock with | some c => [[".clock"] ++ c] | none => []).foldl pstep s =
        { s with cur := some { c0 with hdr := c0.hdr ++ (match (n.findDef t).clock with | some c => [Hdr.clock c] | none => []) } } := by
    intro s hm c0 hc
    cases s with
    | mk mode comments done cur err =>
      simp only at hm hc
      subst hm; subst hc
      cases (n.findDef t).clock <;> simp [pstep, stepHeader, PSt.pushHdr]
  rw [hclk _ rfl _ rfl, List.foldl_append]
  obtain ⟨m2, om2, h2⟩ := ((Sec.map fun k hkm => kid_sec o n hf.noeq k (hk k hkm).1 (hk k hkm).2).append
      (conn_sec n (n.findDef t)))
    { mode := Mode.header, comments := n.comments.map (fun c => commentText (splitOnBlank c.toList)) ++ ["Generated by 'BYU spydrnet tool' "],
      done := [], cur := some { name := t, hdr := hdrOf (n.findDef t) ++ (match (n.findDef t).clock with | some c => [Hdr.clock c] | none => []), body := [] },
      err := none } _ rfl (Or.inl rfl)
  simp only [List.nil_append] at h2 ⊢
  rw [h2, List.foldl_append]
  simp only [List.foldl_cons, List.foldl_nil]
  rw [pstep_end_line _ _ rfl om2]
  have hblank : ∀ s : PSt, s.mode = Mode.outside → pstep s [] = s := by
    intro s hm
    cases s with
    | mk mode comments done cur err => simp only at hm; subst hm; rfl
  rw [hblank _ rfl]
  by_cases hwb : o.writeBlackbox = true
  · simp only [hwb, if_true]
    rw [hbl, bb_lines_fold _ _ rfl rfl]
    simp [PSt.finish, astOfFull, astOf, bbPart, hwb, hdrOfFull]
  · simp [hwb, PSt.finish, astOfFull, astOf, bbPart, hdrOfFull]

theorem FragB.toW {n : BNet} {t : String} (hf : FragB n t) : FragW n t :=
  ⟨hf.top, hf.work, fun i hi hp => (hf.kinds i hi hp).elim Or.inl (fun h => Or.inr (Or.inl h)), hf.noeq,
   fun i hi hp hn => by rcases hf.kinds i hi hp with h | h <;> (rw [h] at hn; exact absurd hn (by decide))⟩

theorem kidsFull_fragB {n : BNet} {t : String} (hf : FragB n t) : kidsFull n t = kidsOrd n t := by
  have hkids : ∀ p ∈ n.insts.zipIdx.filter (fun (p : Inst × Nat) => p.1.parent = t),
      p.1.typ = "EBLIF.subckt" ∨ p.1.typ = "EBLIF.gate" := by
    intro p hp
    simp only [List.mem_filter, decide_eq_true_eq] at hp
    exact hf.kinds p.1 (mem_zipIdx_fst hp.1) hp.2
  have hnil : ∀ ty : String, ty ≠ "EBLIF.subckt" → ty ≠ "EBLIF.gate" →
      (n.insts.zipIdx.filter (fun (p : Inst × Nat) => p.1.parent = t)).filter (fun (p : Inst × Nat) => p.1.typ = ty) = [] := by
    intro ty h1 h2
    rw [List.filter_eq_nil_iff]
    intro p hp hty
    simp only [decide_eq_true_eq] at hty
    rcases hkids p hp with h | h <;> (rw [h] at hty; first | exact h1 hty.symm | exact h2 hty.symm)
  unfold kidsFull kidsOrd
  simp only []
  rw [hnil "EBLIF.names" (by decide) (by decide), hnil "EBLIF.latch" (by decide) (by decide)]
  simp

theorem astOfFull_fragB (o : Opts) (n : BNet) (t : String) (hf : FragB n t) : astOfFull o n t = astOfB o n t := by
  have hk := kidsFull_fragB hf
  have hs : (kidsOrd n t).map (stmtOfFull o n) = (kidsOrd n t).map (stmtOf o n) := by
    apply List.map_congr_left
    intro k hk'
    have : k.1.typ = "EBLIF.subckt" ∨ k.1.typ = "EBLIF.gate" := by
      unfold kidsOrd at hk'
      simp only [List.mem_append, List.mem_filter, decide_eq_true_eq] at hk'
      rcases hk' with h | h
      · exact Or.inl h.2
      · exact Or.inr h.2
    unfold stmtOfFull stmtOf
    rcases this with h | h <;> simp [h]
  have hc : connStmts n (n.findDef t) = [] := by
    have := hf.noconn
    rw [connLines_eq] at this
    rw [connStmts_eq, List.map_eq_nil_iff.mp this]
    rfl
  unfold astOfFull astOfB
  rw [hk, hs, hc]
  simp [astOf, hdrOfFull, hf.noclock]

theorem parse_composeLines_bb (o : Opts) (n : BNet) (t : String) (hf : FragB n t) :
    parseLines (composeLines o n) = Except.ok (astOfB o n t) := by
  rw [parse_composeLines_w o n t hf.toW, astOfFull_fragB o n t hf]

theorem parse_composeLines (o : Opts) (n : BNet) (t : String) (hf : FragP o n t) :
    parseLines (composeLines o n) = Except.ok (astOf o n t) := by
  rw [parse_composeLines_bb o n t hf.toB]
  simp [astOfB, hf.bbPart]

end Spydr.Eblif
