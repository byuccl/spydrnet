/-
  Comment lines in the line parser: a `#` line only extends the comment list.
-/
import Spydr.Eblif.LexPrint

namespace Spydr.Eblif

@[simp] theorem fail_comments (s : PSt) (e : Err) : (s.fail e).comments = s.comments := by
  cases s with | mk mode comments done cur err => cases err <;> rfl
@[simp] theorem pushStmt_comments (s : PSt) (x : Stmt) (m : Mode) : (s.pushStmt x m).comments = s.comments := by
  cases s with | mk mode comments done cur err => cases cur <;> rfl
@[simp] theorem pushHdr_comments (s : PSt) (x : Hdr) : (s.pushHdr x).comments = s.comments := by
  cases s with | mk mode comments done cur err => cases cur <;> rfl
@[simp] theorem modLast_comments (s : PSt) (f : Stmt → Stmt) : (s.modLast f).comments = s.comments := by
  cases s with | mk mode comments done cur err => cases cur <;> rfl

/-- the steps never read the comment list, they only append to it -/
def PrefixInv (f : PSt → PSt) : Prop :=
  ∀ (s : PSt) (p : List String), f (s.setC (p ++ s.comments)) = (f s).setC (p ++ (f s).comments)

theorem setC_setMode (s : PSt) (c : List String) (m : Mode) :
    ({ (s.setC c) with mode := m } : PSt) = ({ s with mode := m } : PSt).setC c := rfl

/-! `PrefixInv` is closed under composition and under `if` on a condition that does not look at the
    state, and holds of every primitive the step functions are built from; so it holds of each step
    function by following its definition, a branch on the arguments being a case split there. -/

theorem PrefixInv.ite {c : Prop} [Decidable c] {f g : PSt → PSt} (hf : PrefixInv f) (hg : PrefixInv g) :
    PrefixInv (fun s => if c then f s else g s) := by
  intro s p
  by_cases h : c
  · simpa only [if_pos h] using hf s p
  · simpa only [if_neg h] using hg s p

theorem PrefixInv.comp {f g : PSt → PSt} (hf : PrefixInv f) (hg : PrefixInv g) : PrefixInv (fun s => g (f s)) := by
  intro s p
  show g (f _) = _
  rw [hf s p, hg (f s) p]

theorem PrefixInv.id : PrefixInv (fun s => s) := fun _ _ => rfl

theorem PrefixInv.mode (m : Mode) : PrefixInv (fun s => { s with mode := m }) := fun _ _ => rfl

theorem PrefixInv.comment (x : String) : PrefixInv (fun s => { s with comments := s.comments ++ [x] }) := by
  intro s p
  simp [PSt.setC]

theorem PrefixInv.fail (e : Err) : PrefixInv (·.fail e) := by
  intro s p
  cases s with | mk mode comments done cur err => cases err <;> rfl

theorem PrefixInv.pushStmt (x : Stmt) (m : Mode) : PrefixInv (·.pushStmt x m) := by
  intro s p
  cases s with | mk mode comments done cur err => cases cur <;> rfl

theorem PrefixInv.pushHdr (x : Hdr) : PrefixInv (·.pushHdr x) := by
  intro s p
  cases s with | mk mode comments done cur err => cases cur <;> rfl

theorem PrefixInv.modLast (f : Stmt → Stmt) : PrefixInv (·.modLast f) := by
  intro s p
  cases s with | mk mode comments done cur err => cases cur <;> rfl

theorem stepBody_prefix (line : List String) : PrefixInv (fun s => stepBody s line) := by
  unfold stepBody
  rcases line with _ | ⟨kw, args⟩
  · exact .mode _
  refine .ite ((PrefixInv.comment _).comp (.mode _)) (.ite ?_ (.ite (.pushStmt _ _) (.ite (.pushStmt _ _)
    (.ite ?_ (.ite (.pushStmt _ _) (.ite ?_ (.mode _)))))))
  · rcases args with _ | ⟨m, cs⟩
    · exact .fail _
    · dsimp only
      cases parseConns cs
      · exact .fail _
      · exact .pushStmt _ _
  · rcases args with _ | ⟨a, _ | ⟨b, r⟩⟩
    · exact .fail _
    · exact .fail _
    · exact .pushStmt _ _
  · -- `.end` looks at `s.cur`, which `setC` leaves alone
    intro s p
    cases s with | mk mode comments done cur err => cases cur <;> rfl

theorem stepInfo_prefix (line : List String) : PrefixInv (fun s => stepInfo s line) := by
  unfold stepInfo
  rcases line with _ | ⟨kw, args⟩
  · exact .id
  refine .ite (.comment _) (.ite ?_ (.ite ?_ (.ite ?_ (stepBody_prefix _))))
  · rcases args with _ | ⟨n, r⟩
    · exact .fail _
    · exact .modLast _
  all_goals
    rcases args with _ | ⟨a, _ | ⟨b, r⟩⟩
    · exact .fail _
    · exact .fail _
    · exact .modLast _

theorem stepCovers_prefix (line : List String) : PrefixInv (fun s => stepCovers s line) := by
  unfold stepCovers
  rcases line with _ | ⟨kw, args⟩
  · exact .mode _
  · exact .ite (.modLast _) ((PrefixInv.mode _).comp (stepInfo_prefix _))

theorem stepHeader_prefix (line : List String) : PrefixInv (fun s => stepHeader s line) := by
  unfold stepHeader
  rcases line with _ | ⟨kw, args⟩
  · exact .id
  · exact .ite (.comment _) (.ite (.pushHdr _) (.ite (.pushHdr _) (.ite (.pushHdr _)
      ((PrefixInv.mode _).comp (stepBody_prefix _)))))

theorem stepOutside_prefix (line : List String) : PrefixInv (fun s => stepOutside s line) := by
  unfold stepOutside
  rcases line with _ | ⟨kw, args⟩
  · exact .id
  refine .ite (.comment _) (.ite ?_ .id)
  rcases args with _ | ⟨n, r⟩
  · exact .fail _
  · exact fun _ _ => rfl

theorem pstep_prefix (line : List String) : PrefixInv (fun s => pstep s line) := by
  intro s p
  cases s with
  | mk mode comments done cur err =>
    cases mode
    · exact stepOutside_prefix line _ p
    · exact stepHeader_prefix line _ p
    · exact stepBody_prefix line _ p
    · exact stepCovers_prefix line _ p
    · exact stepInfo_prefix line _ p

theorem foldl_prefix (ls : List (List String)) :
    ∀ (s : PSt) (p : List String),
      ls.foldl pstep (s.setC (p ++ s.comments)) =
        (ls.foldl pstep s).setC (p ++ (ls.foldl pstep s).comments) := by
  induction ls with
  | nil => intro s p; rfl
  | cons l r ih =>
    intro s p
    simp only [List.foldl_cons]
    have e : pstep (s.setC (p ++ s.comments)) l = (pstep s l).setC (p ++ (pstep s l).comments) :=
      pstep_prefix l s p
    rw [e]
    exact ih (pstep s l) p

/-- a `#` line met in any mode but `covers` (i.e. not between the rows of a truth table)
    changes nothing but the comment list -/
theorem pstep_comment (s : PSt) (ws : List String) (h : s.mode ≠ Mode.covers) :
    pstep s ("#" :: ws) = s.setC (s.comments ++ [commentText ws]) := by
  cases s with
  | mk mode comments done cur err =>
    cases mode
    · simp [pstep, stepOutside, PSt.setC]
    · simp [pstep, stepHeader, PSt.setC]
    · simp [pstep, stepBody, PSt.setC]
    · exact absurd rfl h
    · simp [pstep, stepInfo, PSt.setC]

theorem finish_setC (s : PSt) (c : List String) :
    (s.setC c).finish = (s.finish).map (fun a => { a with comments := c }) := by
  cases s with
  | mk mode comments done cur err => cases err <;> rfl

end Spydr.Eblif
