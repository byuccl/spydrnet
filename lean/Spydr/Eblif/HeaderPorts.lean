/-
  The port list of the model being read, computed exactly from the header words.
-/
import Spydr.Eblif.OnNet

namespace Spydr.Eblif

theorem portsOf_setDir (st : St) (t pn : String) (d : Dir) :
    portsOf (setDir st t pn d) t = setDirL (portsOf st t) pn d := by
  rw [ports_setDir, if_pos rfl]

theorem portsOf_growPort (st : St) (t pn : String) (w : Nat) :
    portsOf (growPort st t pn w) t = growL (portsOf st t) pn w := by
  rw [ports_growPort, if_pos rfl]

theorem portsOf_addPort0 (st : St) (t pn : String) (d : Dir) (hd : DefEx st t) :
    portsOf (addPort st t pn d 0) t = addL (portsOf st t) pn d 0 := by
  rw [ports_addPort, if_pos ⟨rfl, hd⟩]

theorem portsOf_connect (st : St) (p : Pin) (o n t : String) (i : Nat) : portsOf (connect st p o n i) t = portsOf st t :=
  portsOf_of_defs (defs_connect _ _ _ _ _) t

theorem findIn_append_new (ps : List PortD) (pn : String) (d : Dir) (w : Nat) (hn : ∀ p ∈ ps, p.name ≠ pn) :
    findIn (ps ++ [{ name := pn, dir := d, width := w }]) pn = some { name := pn, dir := d, width := w } := by
  have := findIn_none_of ps pn hn
  unfold findIn at this ⊢
  rw [List.find?_append, this]
  simp

theorem map_other (ps : List PortD) (pn : String) (g : PortD → PortD) (hn : ∀ p ∈ ps, p.name ≠ pn) :
    ps.map (fun p => if p.name = pn then g p else p) = ps :=
  map_id_of_mem fun p hp => if_neg (hn p hp)

section
variable {ps : List PortD} {pn : String} (hn : ∀ p ∈ ps, p.name ≠ pn) (d : Dir) (b : Nat)
include hn

theorem addL_new : addL ps pn d 0 = ps ++ [{ name := pn, dir := d, width := 0 }] := by
  unfold addL; rw [findIn_none_of ps pn hn]; rfl

theorem addL_last (d' : Dir) :
    addL (ps ++ [{ name := pn, dir := d, width := b }]) pn d' 0 = ps ++ [{ name := pn, dir := d, width := b }] := by
  unfold addL; rw [findIn_append_new ps pn d b hn]; rfl

theorem setDirL_last :
    setDirL (ps ++ [{ name := pn, dir := d, width := b }]) pn d = ps ++ [{ name := pn, dir := d, width := b }] := by
  unfold setDirL
  rw [List.map_append, map_other ps pn _ hn]
  simp

/-- a word for bit `b` of the last port, of width `b`, widens it by one -/
theorem growL_last :
    growL (ps ++ [{ name := pn, dir := d, width := b }]) pn (b + 1) = ps ++ [{ name := pn, dir := d, width := b + 1 }] := by
  have hw : widthL (ps ++ [{ name := pn, dir := d, width := b }]) pn = b := by
    unfold widthL; rw [findIn_append_new ps pn d b hn]
  unfold growL
  rw [hw, if_neg (Nat.not_succ_le_self b), List.map_append, map_other ps pn _ hn]
  simp

end

/-- A header word `pn[b]` adds the port `pn` if it is new (`addL`), sets its direction and gives it `b + 1`
    pins.  `f` does this as for direction `d`: when the port list, completed by `addL`, ends in `pn` with
    direction `d` and width `b`, the word widens that last port by one.  So the words of a port, in order,
    build it at the end of the list. -/
def BitStep (f : St → String → String → Except Err St) (d : Dir) : Prop :=
  ∀ {t pn tok : String} {b : Nat} {ps : List PortD} {st st' : St}, DefEx st t → (∀ p ∈ ps, p.name ≠ pn) →
    addL (portsOf st t) pn d 0 = ps ++ [{ name := pn, dir := d, width := b }] →
    splitIdx tok = Except.ok (pn, b) → f st t tok = Except.ok st' →
    portsOf st' t = ps ++ [{ name := pn, dir := d, width := b + 1 }] ∧ DefEx st' t

theorem elabInput_bit : BitStep elabInput Dir.inp := by
  intro t pn tok b ps st st' hd hn hp hs h
  refine ⟨?_, (elabInput_frame hd hs h).1⟩
  obtain rfl := Except.ok.inj ((elabInput_eq hs).symm.trans h)
  rw [portsOf_connect]
  cases hh : hasPort st t pn with
  | false =>
    rw [if_neg Bool.false_ne_true, portsOf_growPort,
      portsOf_addPort0 _ _ _ _ hd, hp]
    exact growL_last hn Dir.inp b
  | true =>
    have hp' : portsOf st t = ps ++ [{ name := pn, dir := Dir.inp, width := b }] := by
      rw [← hp]; unfold addL; rw [← hasPort_eq, hh]; rfl
    rw [if_pos rfl, portsOf_growPort, portsOf_setDir,
      hp', setDirL_last hn]
    exact growL_last hn Dir.inp b

theorem elabOutput_bit : BitStep elabOutput Dir.out := by
  intro t pn tok b ps st st' hd hn hp hs h
  have hdir : portDir (addPort st t pn Dir.out 0) t pn = Dir.out := by
    rw [portDir_eq, portsOf_addPort0 _ _ _ _ hd, hp, findIn_append_new ps pn Dir.out b hn]
  refine ⟨?_, (elabOutput_frame hd hs hdir h).1⟩
  obtain rfl := Except.ok.inj ((elabOutput_out hs (by rw [hdir]; simp)).symm.trans h)
  rw [portsOf_connect, portsOf_growPort,
    portsOf_setDir, portsOf_addPort0 _ _ _ _ hd, hp, setDirL_last hn]
  exact growL_last hn Dir.out b

theorem portBits_spec (p : PortD) (hp : plainName p.name) (hne : p.name.toList ≠ []) (hw : 1 ≤ p.width) :
    (portBits p).length = p.width ∧ ∀ j (hj : j < (portBits p).length), splitIdx ((portBits p)[j]) = Except.ok (p.name, j) := by
  unfold portBits
  split
  · refine ⟨by simp, ?_⟩
    intro j hj
    simp only [List.getElem_map, List.getElem_range]
    exact splitIdx_idx _ _
  · have : p.width = 1 := by omega
    refine ⟨by simp [this], ?_⟩
    intro j hj
    have : j = 0 := by simpa using hj
    subst this
    simpa using splitIdx_plain p.name hp hne

theorem elabToks_append (f : St → String → String → Except Err St) (cur : String) (a b : List String) :
    ∀ st, elabToks f st cur (a ++ b) = (elabToks f st cur a >>= fun s => elabToks f s cur b) :=
  loop_append (go := fun s l => elabToks f s cur l) (fun _ => rfl) (fun _ _ _ => rfl) a b

section
variable {f : St → String → String → Except Err St} {d : Dir} (bit : BitStep f d)
include bit

/-- the words for bits `b, b+1, …` of one port; at least one word (`w :: r`), so that the port is in the
    list afterwards also when it was new (`b = 0`, `addL` in the hypothesis) -/
theorem bits_words (t name : String) (ps : List PortD) (hn : ∀ p ∈ ps, p.name ≠ name) (r : List String) :
    ∀ (w : String) (b : Nat) (st st' : St), DefEx st t →
      addL (portsOf st t) name d 0 = ps ++ [{ name := name, dir := d, width := b }] →
      (∀ j (hj : j < (w :: r).length), splitIdx (w :: r)[j] = Except.ok (name, b + j)) →
      elabToks f st t (w :: r) = Except.ok st' →
      portsOf st' t = ps ++ [{ name := name, dir := d, width := b + (w :: r).length }] ∧ DefEx st' t := by
  induction r with
  | nil =>
    intro w b st st' hd hp hs h
    obtain ⟨s1, h1, h2⟩ := bind_ok (show (f st t w >>= _) = _ from h)
    cases h2
    exact bit hd hn hp (hs 0 (Nat.zero_lt_succ _)) h1
  | cons w' r ih =>
    intro w b st st' hd hp hs h
    obtain ⟨s1, h1, h2⟩ := bind_ok (show (f st t w >>= _) = _ from h)
    obtain ⟨hp1, hd1⟩ := bit hd hn hp (hs 0 (Nat.zero_lt_succ _)) h1
    have := ih w' (b + 1) s1 st' hd1 (by rw [hp1]; exact addL_last hn d (b + 1) d)
      (fun j hj => by rw [Nat.add_right_comm]; exact hs (j + 1) (Nat.succ_lt_succ hj)) h2
    rwa [Nat.add_right_comm] at this

theorem port_words (t : String) (p : PortD) (hpl : plainName p.name) (hne : p.name.toList ≠ []) (hw : 1 ≤ p.width)
    (ps : List PortD) (hn : ∀ q ∈ ps, q.name ≠ p.name) (st st' : St) (hd : DefEx st t) (hp : portsOf st t = ps)
    (h : elabToks f st t (portBits p) = Except.ok st') :
    portsOf st' t = ps ++ [{ name := p.name, dir := d, width := p.width }] ∧ DefEx st' t := by
  obtain ⟨hlen, hsp⟩ := portBits_spec p hpl hne hw
  cases hws : portBits p with
  | nil => rw [hws] at hlen; exact absurd hlen.symm (Nat.ne_of_gt hw)
  | cons w r =>
    rw [hws] at h hlen hsp
    have := bits_words bit t p.name ps hn r w 0 st st' hd (by rw [hp]; exact addL_new hn d)
      (fun j hj => by rw [Nat.zero_add]; exact hsp j hj) h
    rwa [Nat.zero_add, hlen] at this

theorem ports_words (t : String) (P : List PortD)
    (hP : ∀ p ∈ P, plainName p.name ∧ p.name.toList ≠ [] ∧ 1 ≤ p.width ∧ p.dir = d) :
    ∀ (ps : List PortD) (st st' : St), (∀ q ∈ ps, ∀ p ∈ P, q.name ≠ p.name) → ((P.map (·.name)).Nodup) →
      DefEx st t → portsOf st t = ps → elabToks f st t (P.flatMap portBits) = Except.ok st' →
      portsOf st' t = ps ++ P ∧ DefEx st' t := by
  induction P with
  | nil => intro ps st st' _ _ hd hp h; cases h; exact ⟨by simpa using hp, hd⟩
  | cons p r ih =>
    intro ps st st' hdis hnd hd hp h
    rw [List.flatMap_cons, elabToks_append] at h
    obtain ⟨s1, h1, h2⟩ := bind_ok h
    obtain ⟨hpl, hne, hw, hdir⟩ := hP p List.mem_cons_self
    obtain ⟨hp1, hd1⟩ := port_words bit t p hpl hne hw ps (fun q hq => hdis q hq p List.mem_cons_self) st s1 hd hp h1
    have hrec : ({ name := p.name, dir := d, width := p.width } : PortD) = p := by rw [← hdir]
    rw [hrec] at hp1
    obtain ⟨hnp, hnr⟩ := List.nodup_cons.mp hnd
    rw [List.append_cons ps p r]
    refine ih (fun x hx => hP x (List.mem_cons_of_mem _ hx)) (ps ++ [p]) s1 st' ?_ hnr hd1 hp1 h2
    intro q hq x hx
    rcases List.mem_append.mp hq with h' | h'
    · exact hdis q h' x (List.mem_cons_of_mem _ hx)
    · rw [List.mem_singleton.mp h']
      exact fun e => hnp (List.mem_map.mpr ⟨x, hx, e.symm⟩)

end

def Fr (t : String) (a b : St) : Prop := portsOf b t = portsOf a t ∧ DefEx b t

theorem Fr.trans {t : String} {a b c : St} (h1 : Fr t a b) (h2 : Fr t b c) : Fr t a c :=
  ⟨h2.1.trans h1.1, h2.2⟩

theorem fr_of_findDef {t : String} {a b : St} (hd : DefEx a t) (h : findDef b t = findDef a t) : Fr t a b :=
  ⟨by unfold portsOf; rw [h], by unfold DefEx; rw [h]; exact hd⟩

theorem fr_of_defs {t : String} {a b : St} (hd : DefEx a t) (h : b.defs = a.defs) : Fr t a b :=
  fr_of_findDef hd (findDef_of_defs h t)

theorem Run.fr {cur t : String} {idx : Nat} {D : String → Prop} {a b : St} (h : Run (PrimQ cur idx D) a b) (ht : ¬ D t)
    (hd : DefEx a t) : Fr t a b :=
  fr_of_findDef hd (h.findDef ht)

theorem fr_applyInfo {t parent : String} {idx : Nat} (l : List InfoStmt) {st st' : St}
    (hd : DefEx st t) (h : applyInfo st idx parent l = Except.ok st') : Fr t st st' :=
  (Run.applyInfo (D := fun _ => False) h).fr id hd

end Spydr.Eblif
