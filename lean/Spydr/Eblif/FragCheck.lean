/-
  Executable evaluation of the hypotheses of the round-trip theorems on a given netlist: which of
  the differential-tested cases are ALSO inside `eblif_roundtrip_full` / `eblif_roundtrip_subckt_total`,
  and which hypothesis excludes the others.  Evidence only: no verdict depends on it.
-/
import Spydr.Eblif.LeafPorts

namespace Spydr.Eblif

def coverRowB (r : List String) : Bool :=
  match r with
  | w :: _ => isCoverWord w
  | [] => false

theorem coverRowB_iff (r : List String) : coverRowB r = true ↔ CoverRow r := by
  unfold coverRowB CoverRow
  cases r with
  | nil => simp
  | cons w t => simp

instance (r : List String) : Decidable (CoverRow r) := decidable_of_iff _ (coverRowB_iff r)

def firstFail : List (String × (Unit → Bool)) → String
  | [] => "in"
  | (nm, f) :: r => if f () then firstFail r else "out:" ++ nm

def kidsChecks (n : BNet) (t : String) : List (String × (Unit → Bool)) :=
  let ks := n.insts.zipIdx
  [("NetOKF.kids.names-shape", fun _ => ks.all (fun k => decide (k.1.typ = "EBLIF.names" → KidShape n k))),
   ("NetOKF.kids.latch-shape", fun _ => ks.all (fun k => decide (k.1.typ = "EBLIF.latch" → KidShape n k))),
   ("NetOKF.kids.subckt-formals-nodup", fun _ => ks.all (fun k =>
      decide (k.1.typ ≠ "EBLIF.names" → k.1.typ ≠ "EBLIF.latch" → ((connsOf n k.2 k.1).map (·.1)).Nodup))),
   ("NetOKF.kids.subckt-shape", fun _ => ks.all (fun k => decide (KidShape n k))),
   ("NetOKF.kids.attr-keys", fun _ => ks.all (fun k => decide ((k.1.attrs.map (·.1)).Nodup))),
   ("NetOKF.kids.param-keys", fun _ => ks.all (fun k => decide ((k.1.params.map (·.1)).Nodup))),
   ("NetOKF.kids.instantiates-top", fun _ => ks.all (fun k => decide (t ≠ k.1.model))),
   ("NetOKF.kids.names-def-shared", fun _ => ks.all (fun k =>
      decide (k.1.typ ≠ "EBLIF.names" → ∀ j ∈ n.insts, j.typ = "EBLIF.names" → k.1.model ≠ j.model)))]

def portsChecks (n : BNet) (t : String) : List (String × (Unit → Bool)) :=
  let ps := (n.findDef t).ports
  [("NetOKF.ports.direction", fun _ => ps.all (fun p => decide (p.dir = Dir.inp ∨ p.dir = Dir.out ∨ p.dir = Dir.inout))),
   ("NetOKF.ports.plain-name", fun _ => ps.all (fun p => decide (plainName p.name))),
   ("NetOKF.ports.width", fun _ => ps.all (fun p => decide (1 ≤ p.width))),
   ("NetOKF.ports.pin-on-no-wire", fun _ => decide (PortsOKF n t)),
   ("NetOKF.ports.names-nodup", fun _ => decide ((ps.map (·.name)).Nodup))]

def cablesChecks (n : BNet) (t : String) : List (String × (Unit → Bool)) :=
  [("NetOKF.cables.owner", fun _ => n.cables.all (fun cw => decide (cw.1.1 = t))),
   ("NetOKF.cables.plain-name", fun _ => n.cables.all (fun cw => decide (plainName cw.1.2 ∧ cw.1.2 ≠ "unconn"))),
   ("NetOKF.cables.pin-on-two-wires", fun _ => n.cables.all (fun cw => cw.2.zipIdx.all (fun pw => pw.1.all (fun x =>
      decide (n.wireOf x = some (cw.1, pw.2, cw.2.length)))))),
   ("NetOKF.cables.pin-not-written", fun _ => decide (CablesOKF n t))]

/-- `eblif_roundtrip_full` -/
def fragFull (o : Opts) (n : BNet) : String :=
  match n.top with
  | none => "out:no-top"
  | some t =>
    firstFail ([("WellNamed", fun _ => decide (WellNamed n)),
      ("FragFull.work", fun _ => (n.findDef t).inWork),
      ("FragFull.kinds", fun _ => decide (∀ i ∈ n.insts, i.parent = t →
        (i.typ = "EBLIF.subckt" ∨ i.typ = "EBLIF.gate" ∨ i.typ = "EBLIF.names" ∨ i.typ = "EBLIF.latch"))),
      ("FragFull.noeq", fun _ => decide (∀ d ∈ n.defs, ∀ p ∈ d.ports, '=' ∉ p.name.toList)),
      ("FragFull.covers", fun _ => decide (∀ i ∈ n.insts, ∀ r ∈ coverRows i, CoverRow r)),
      ("NetOKF.order", fun _ => decide (kidsFull n t = n.insts.zipIdx))]
      ++ portsChecks n t ++ cablesChecks n t ++
      [("NetOKF.conn", fun _ => decide (ConnOK n t))] ++ kidsChecks n t ++
      [("NetOKF.other", fun _ => decide (NetOKF n t)),
       ("NamesOK", fun _ => decide (NamesOK o n)),
       ("BBPlain", fun _ => decide (BBPlain n t))])

/-- `eblif_roundtrip_any_order` -/
def fragAny (o : Opts) (n : BNet) : String :=
  match n.top with
  | none => "out:no-top"
  | some t =>
    firstFail ([("WellNamed", fun _ => decide (WellNamed n)),
      ("FragFull.work", fun _ => (n.findDef t).inWork),
      ("FragFull.kinds", fun _ => decide (∀ i ∈ n.insts, i.parent = t →
        (i.typ = "EBLIF.subckt" ∨ i.typ = "EBLIF.gate" ∨ i.typ = "EBLIF.names" ∨ i.typ = "EBLIF.latch"))),
      ("FragFull.noeq", fun _ => decide (∀ d ∈ n.defs, ∀ p ∈ d.ports, '=' ∉ p.name.toList)),
      ("FragFull.covers", fun _ => decide (∀ i ∈ n.insts, ∀ r ∈ coverRows i, CoverRow r)),
      ("NetOKA.all-instances-written", fun _ => decide ((kidsFull n t).Perm n.insts.zipIdx))]
      ++ portsChecks n t ++ cablesChecks n t ++
      [("NetOKF.conn", fun _ => decide (ConnOK n t))] ++ kidsChecks n t ++
      [("NetOKA.other", fun _ => decide (Any.NetOKA n t)),
       ("NamesOK", fun _ => decide (NamesOK o n)),
       ("BBPlain", fun _ => decide (BBPlain n t))])

/-- `eblif_roundtrip_leaf_ports`: the hypotheses of `eblif_roundtrip_any_order` and three more -/
def fragLeaf (o : Opts) (n : BNet) : String :=
  let r := fragAny o n
  if r ≠ "in" then r else
  match n.top with
  | none => "out:no-top"
  | some t =>
    firstFail [("PinMirror", fun _ => decide n.PinMirror), ("LatchSep", fun _ => decide (Any.LatchSep n t)),
               ("BBWide", fun _ => decide (Any.BBWide n t))]

/-- `eblif_roundtrip_subckt_total` -/
def fragSubckt (o : Opts) (n : BNet) : String :=
  match n.top with
  | none => "out:no-top"
  | some t =>
    firstFail [("WellNamed", fun _ => decide (WellNamed n)),
      ("FragP.work", fun _ => (n.findDef t).inWork),
      ("FragP.clock", fun _ => decide ((n.findDef t).clock = none)),
      ("FragP.kinds", fun _ => decide (∀ i ∈ n.insts, i.parent = t → (i.typ = "EBLIF.subckt" ∨ i.typ = "EBLIF.gate"))),
      ("FragP.conn-lines", fun _ => decide (connLines n (n.findDef t) = [])),
      ("FragP.blackbox-block", fun _ => decide ((if o.writeBlackbox then blackboxLines n t else []) = [])),
      ("FragP.noeq", fun _ => decide (∀ d ∈ n.defs, ∀ p ∈ d.ports, '=' ∉ p.name.toList)),
      ("NetOK.order", fun _ => decide (kidsOrd n t = n.insts.zipIdx)),
      ("NetOK.ports", fun _ => decide (PortsOK n t)),
      ("NetOK.ports-nodup", fun _ => decide (((n.findDef t).ports.map (·.name)).Nodup)),
      ("NetOK.cables", fun _ => decide (CablesOK n t)),
      ("NetOK.insts", fun _ => decide (InstsOK n)),
      ("NamesOK", fun _ => decide (NamesOK o n))]

theorem firstFail_cons_in (nm : String) (f : Unit → Bool) (r : List (String × (Unit → Bool))) :
    firstFail ((nm, f) :: r) = "in" ↔ f () = true ∧ firstFail r = "in" := by
  show (if f () then firstFail r else "out:" ++ nm) = "in" ↔ _
  by_cases hf : f () = true
  · simp [hf]
  · simp only [hf, Bool.false_eq_true, if_false, false_and, iff_false]
    intro h
    have := congrArg String.toList h
    simp only [String.toList_append] at this
    have h1 : ("out:" : String).toList = ['o', 'u', 't', ':'] := by decide
    have h2 : ("in" : String).toList = ['i', 'n'] := by decide
    rw [h1, h2] at this
    simp at this

theorem firstFail_append_in (a b : List (String × (Unit → Bool))) :
    firstFail (a ++ b) = "in" ↔ firstFail a = "in" ∧ firstFail b = "in" := by
  induction a with
  | nil => simp [firstFail]
  | cons x r ih => obtain ⟨nm, f⟩ := x; simp only [List.cons_append, firstFail_cons_in, ih, and_assoc]

/-- `fragFull n = "in"` really is the conjunction of the theorem's hypotheses -/
theorem fragFull_in (o : Opts) (n : BNet) (h : fragFull o n = "in") :
    ∃ t, n.top = some t ∧ WellNamed n ∧ FragFull n t ∧ NetOKF n t ∧ NamesOK o n ∧ BBPlain n t := by
  unfold fragFull at h
  cases ht : n.top with
  | none => rw [ht] at h; simp only at h; exact absurd h (by decide)
  | some t =>
    rw [ht] at h
    simp only [firstFail_append_in, firstFail_cons_in, decide_eq_true_eq] at h
    obtain ⟨⟨⟨⟨⟨⟨a1, a2, a3, a4, a5, _⟩, _⟩, _⟩, _⟩, _⟩, a6, a7, a8, _⟩ := h
    exact ⟨t, rfl, a1, ⟨ht, a2, a3, a4, a5⟩, a6, a7, a8⟩

theorem fragAny_in (o : Opts) (n : BNet) (h : fragAny o n = "in") :
    ∃ t, n.top = some t ∧ WellNamed n ∧ FragFull n t ∧ Any.NetOKA n t ∧ NamesOK o n ∧ BBPlain n t := by
  unfold fragAny at h
  cases ht : n.top with
  | none => rw [ht] at h; simp only at h; exact absurd h (by decide)
  | some t =>
    rw [ht] at h
    simp only [firstFail_append_in, firstFail_cons_in, decide_eq_true_eq] at h
    obtain ⟨⟨⟨⟨⟨⟨a1, a2, a3, a4, a5, _⟩, _⟩, _⟩, _⟩, _⟩, a6, a7, a8, _⟩ := h
    exact ⟨t, rfl, a1, ⟨ht, a2, a3, a4, a5⟩, a6, a7, a8⟩

end Spydr.Eblif
