/-
  The joins a written child block declares, stated without the elaborator state (`kidJoinsAt`: the
  child creates instance number `j`, which need not be its index in the netlist it was written from),
  and evaluated against that netlist (`mem_kidJoinsAt`).
-/
import Spydr.Eblif.NetOK
import Spydr.Eblif.ReadChildStmt
import Spydr.Eblif.WriterParse

namespace Spydr.Eblif

def latchPins (i : Inst) : List (String × Nat) :=
  latchOrder.flatMap (fun pt => i.pins.reverse.filter (fun q => q.1 = pt))

def namesPins (n : BNet) (i : Inst) : List (String × Nat) :=
  i.pins.filter (fun q => n.portDir i.model q.1 = Dir.inp) ++ i.pins.reverse.filter (fun q => n.portDir i.model q.1 = Dir.out)

theorem latchToks_eq (n : BNet) (idx : Nat) (i : Inst) :
    latchToks n idx i = (latchPins i).map (fun q => netText n (Pin.inst idx q.1 q.2)) := by
  unfold latchToks latchPins
  rw [List.map_flatMap]

theorem namesNets_eq (n : BNet) (idx : Nat) (i : Inst) :
    namesNets n idx i = (namesPins n i).map (fun q => netText n (Pin.inst idx q.1 q.2)) := rfl

/-- a `.latch` child in reader shape: pins are the first m of input, output, type, control, init-val -/
def LatchShape (i : Inst) : Prop :=
  i.model = "generic-latch" ∧ 2 ≤ i.pins.length ∧ i.pins.length ≤ 5 ∧
  latchPins i = (latchOrder.take i.pins.length).map (fun pt => (pt, 0)) ∧ ∀ q ∈ i.pins, q ∈ latchPins i

instance (i : Inst) : Decidable (LatchShape i) := by unfold LatchShape; infer_instance

/-- a `.names` child in reader shape: model `logic-gate_k`, pins in_0 .. in_{k-1}, out -/
def NamesShape (n : BNet) (i : Inst) : Prop :=
  1 ≤ i.pins.length ∧ i.model = "logic-gate_" ++ natStr (i.pins.length - 1) ∧
  namesPins n i = (stdNamesPorts (i.pins.length - 1)).map (fun p => (p.name, 0)) ∧ ∀ q ∈ i.pins, q ∈ namesPins n i

instance (n : BNet) (i : Inst) : Decidable (NamesShape n i) := by unfold NamesShape; infer_instance

/-- the `formal = actual` pairs of the statement a child block parses to -/
def kidPairs (n : BNet) (k : Inst × Nat) : List (String × String) :=
  if k.1.typ = "EBLIF.names" then
    (stdNamesPorts (k.1.pins.length - 1)).map (fun p => (p.name, netText n (Pin.inst k.2 p.name 0)))
  else if k.1.typ = "EBLIF.latch" then
    (latchOrder.take k.1.pins.length).map (fun pt => (pt, netText n (Pin.inst k.2 pt 0)))
  else connsOf n k.2 k.1

def kidJoinsF (n : BNet) (t : String) (k : Inst × Nat) : List (Pin × Key) := (kidPairs n k).flatMap (joinOf k.2 t)

theorem zip_take_map {α β : Type} (f : α → β) : ∀ (l : List α) (m : Nat),
    l.zip ((l.take m).map f) = (l.take m).map (fun x => (x, f x))
  | [], _ => by simp
  | _ :: _, 0 => by simp
  | x :: r, m + 1 => by
      simp only [List.take_succ_cons, List.map_cons, List.zip_cons_cons]
      rw [zip_take_map f r m]

theorem std_length (k : Nat) : (stdNamesPorts k).length = k + 1 := by simp [stdNamesPorts]

def KidShape (n : BNet) (k : Inst × Nat) : Prop :=
  if k.1.typ = "EBLIF.names" then NamesShape n k.1
  else if k.1.typ = "EBLIF.latch" then LatchShape k.1
  else ((connsOf n k.2 k.1).map (·.1)).Nodup ∧
       (∀ p ∈ (n.findDef k.1.model).ports, plainName p.name ∧ ∀ q ∈ k.1.pins, q.1 = p.name → p.width ≤ 1 → q.2 = 0) ∧
       (∀ q ∈ k.1.pins, ∃ p ∈ (n.findDef k.1.model).ports, p.name = q.1)

instance (n : BNet) (k : Inst × Nat) : Decidable (KidShape n k) := by unfold KidShape; infer_instance

/-- the shape as far as write-then-read needs it: of a `.subckt` / `.gate` child only the pins that
    sit on a wire need a port of the definition (a dangling pin is not written) -/
def KidShapeW (n : BNet) (k : Inst × Nat) : Prop :=
  if k.1.typ = "EBLIF.names" then NamesShape n k.1
  else if k.1.typ = "EBLIF.latch" then LatchShape k.1
  else ((connsOf n k.2 k.1).map (·.1)).Nodup ∧
       (∀ p ∈ (n.findDef k.1.model).ports, plainName p.name ∧ ∀ q ∈ k.1.pins, q.1 = p.name → p.width ≤ 1 → q.2 = 0) ∧
       (∀ q ∈ k.1.pins, (n.wireOf (Pin.inst k.2 q.1 q.2)).isSome = true → ∃ p ∈ (n.findDef k.1.model).ports, p.name = q.1)

instance (n : BNet) (k : Inst × Nat) : Decidable (KidShapeW n k) := by unfold KidShapeW; infer_instance

theorem KidShape.toW {n : BNet} {k : Inst × Nat} (h : KidShape n k) : KidShapeW n k := by
  unfold KidShape at h
  unfold KidShapeW
  split
  · rwa [if_pos ‹_›] at h
  · rw [if_neg ‹_›] at h
    split
    · rwa [if_pos ‹_›] at h
    · rw [if_neg ‹_›] at h
      exact ⟨h.1, h.2.1, fun q hq _ => h.2.2 q hq⟩

theorem KidShapeW.names {n : BNet} {k : Inst × Nat} (h : KidShapeW n k) (hn : k.1.typ = "EBLIF.names") :
    NamesShape n k.1 := by
  unfold KidShapeW at h; rwa [if_pos hn] at h

theorem KidShapeW.latch {n : BNet} {k : Inst × Nat} (h : KidShapeW n k) (hl : k.1.typ = "EBLIF.latch") :
    LatchShape k.1 := by
  unfold KidShapeW at h; rwa [if_neg (by rw [hl]; decide), if_pos hl] at h

theorem kid_cases (o : Opts) (n : BNet) (k : Inst × Nat) (hs : KidShapeW n k) :
    (k.1.typ = "EBLIF.names" ∧ NamesShape n k.1 ∧
      stmtOfFull o n k = Stmt.names (namesNets n k.2 k.1) ((coverRows k.1).map coverText) (infoStmts o k.1)) ∨
    (k.1.typ ≠ "EBLIF.names" ∧ k.1.typ = "EBLIF.latch" ∧ LatchShape k.1 ∧
      stmtOfFull o n k = Stmt.latch (latchToks n k.2 k.1) (infoStmts o k.1)) ∨
    (k.1.typ ≠ "EBLIF.names" ∧ k.1.typ ≠ "EBLIF.latch" ∧
      (((connsOf n k.2 k.1).map (·.1)).Nodup ∧
       (∀ p ∈ (n.findDef k.1.model).ports, plainName p.name ∧ ∀ q ∈ k.1.pins, q.1 = p.name → p.width ≤ 1 → q.2 = 0) ∧
       (∀ q ∈ k.1.pins, (n.wireOf (Pin.inst k.2 q.1 q.2)).isSome = true →
          ∃ p ∈ (n.findDef k.1.model).ports, p.name = q.1)) ∧
      stmtOfFull o n k = Stmt.subckt (k.1.typ = "EBLIF.gate") k.1.model (connsOf n k.2 k.1) (infoStmts o k.1)) := by
  unfold KidShapeW at hs
  unfold stmtOfFull
  by_cases hn : k.1.typ = "EBLIF.names"
  · rw [if_pos hn] at hs ⊢
    exact Or.inl ⟨hn, hs, rfl⟩
  · rw [if_neg hn] at hs ⊢
    by_cases hl : k.1.typ = "EBLIF.latch"
    · rw [if_pos hl] at hs ⊢
      exact Or.inr (Or.inl ⟨hn, hl, hs, rfl⟩)
    · rw [if_neg hl] at hs ⊢
      exact Or.inr (Or.inr ⟨hn, hl, hs, rfl⟩)

theorem namesNets_std (n : BNet) (k : Inst × Nat) (hs : NamesShape n k.1) :
    namesNets n k.2 k.1 = (stdNamesPorts (k.1.pins.length - 1)).map (fun p => netText n (Pin.inst k.2 p.name 0)) ∧
    (namesNets n k.2 k.1).length - 1 = k.1.pins.length - 1 := by
  have e : namesNets n k.2 k.1 = (stdNamesPorts (k.1.pins.length - 1)).map (fun p => netText n (Pin.inst k.2 p.name 0)) := by
    rw [namesNets_eq, hs.2.2.1, List.map_map]; rfl
  exact ⟨e, by rw [e]; simp [std_length]⟩

/-- joins of the statement of child `k` when it creates instance number `j` -/
def kidJoinsAt (n : BNet) (t : String) (j : Nat) (k : Inst × Nat) : List (Pin × Key) := (kidPairs n k).flatMap (joinOf j t)


theorem stmtJoins_kid (o : Opts) (n : BNet) (t : String) (k : Inst × Nat) (j : Nat) (st : St) (hlen : st.insts.length = j)
    (hs : KidShapeW n k) (hstd : k.1.typ = "EBLIF.names" → Std st (k.1.pins.length - 1)) :
    stmtJoins st t (stmtOfFull o n k) = kidJoinsAt n t j k := by
  unfold kidJoinsAt kidPairs
  rcases kid_cases o n k hs with ⟨hn, hsh, e⟩ | ⟨hn, hl, hsh, e⟩ | ⟨hn, hl, hsh, e⟩
  · obtain ⟨hnets, hK⟩ := namesNets_std n k hsh
    rw [e, if_pos hn, stmtJoins, names_info_std st _ (by rw [hK]; exact hstd hn), hK, hlen, hnets, ← List.map_prod_left_eq_zip, List.map_map]
    rfl
  · rw [e, if_neg hn, if_pos hl, stmtJoins, latchToks_eq, hsh.2.2.2.1, List.map_map, zip_take_map, hlen]
    rfl
  · rw [e, if_neg hn, if_neg hl, stmtJoins, infoMapOf_nodup _ hsh.1, hlen]

theorem joinOf_plain (n : BNet) (t : String) (idx : Nat) (pn : String) (y : Pin)
    (hpl : plainName pn) (hpne : pn.toList ≠ [])
    (hc : ∀ c ∈ n.cables, plainName c.1.2 ∧ c.1.2 ≠ "unconn" ∧ c.1.2.toList ≠ []) :
    joinOf idx t (pn, netText n y) =
      (match n.wireOf y with
       | none => []
       | some (c, wi, _) => [(Pin.inst idx pn 0, (t, c.2, wi))]) := by
  have := joinOf_eval n t idx { name := pn, dir := Dir.inp, width := 1 } 0 y hpl hpne (fun _ => rfl) hc
  have hf : formalText { name := pn, dir := Dir.inp, width := 1 } 0 = pn := by simp [formalText]
  rw [hf] at this
  rw [this]
  cases n.wireOf y with
  | none => rfl
  | some r => obtain ⟨c, wi, len⟩ := r; rfl

theorem mem_simple_joins (n : BNet) (t : String) (idx j : Nat) (L : List String) (pins : List (String × Nat))
    (hL : ∀ pt ∈ L, plainName pt ∧ pt.toList ≠ [])
    (hpins : ∀ q, q ∈ pins ↔ ∃ pt ∈ L, q = (pt, 0))
    (hc : ∀ c ∈ n.cables, plainName c.1.2 ∧ c.1.2 ≠ "unconn" ∧ c.1.2.toList ≠ []) (x : Pin) (key : Key) :
    (x, key) ∈ (L.map (fun pt => (pt, netText n (Pin.inst idx pt 0)))).flatMap (joinOf j t) ↔
    ∃ q ∈ pins, ∃ c wi len, n.wireOf (Pin.inst idx q.1 q.2) = some (c, wi, len) ∧ x = Pin.inst j q.1 q.2 ∧ key = (t, c.2, wi) := by
  simp only [List.mem_flatMap, List.mem_map]
  constructor
  · rintro ⟨fa, ⟨pt, hpt, rfl⟩, hj⟩
    rw [joinOf_plain n t j pt _ (hL pt hpt).1 (hL pt hpt).2 hc] at hj
    cases hwo : n.wireOf (Pin.inst idx pt 0) with
    | none => simp [hwo] at hj
    | some r =>
      obtain ⟨c, wi, len⟩ := r
      simp only [hwo, List.mem_singleton, Prod.mk.injEq] at hj
      exact ⟨(pt, 0), (hpins _).mpr ⟨pt, hpt, rfl⟩, c, wi, len, hwo, hj.1, hj.2⟩
  · rintro ⟨q, hq, c, wi, len, hwo, rfl, rfl⟩
    obtain ⟨pt, hpt, rfl⟩ := (hpins q).mp hq
    refine ⟨_, ⟨pt, hpt, rfl⟩, ?_⟩
    rw [joinOf_plain n t j pt _ (hL pt hpt).1 (hL pt hpt).2 hc]
    simp only at hwo
    simp [hwo]

theorem latchOrder_plain : ∀ pt ∈ latchOrder, plainName pt ∧ pt.toList ≠ [] := by decide

theorem std_plain (k : Nat) : ∀ pt ∈ (stdNamesPorts k).map (·.name), plainName pt ∧ pt.toList ≠ [] := by
  intro pt hpt
  obtain ⟨p, hp, rfl⟩ := List.mem_map.mp hpt
  unfold stdNamesPorts at hp
  rcases List.mem_append.mp hp with h | h
  · obtain ⟨j, _, rfl⟩ := List.mem_map.mp h
    exact plain_inName j
  · simp only [List.mem_singleton] at h
    subst h
    decide

theorem namesPins_sub (n : BNet) (i : Inst) : ∀ q ∈ namesPins n i, q ∈ i.pins := by
  intro q hq
  unfold namesPins at hq
  rcases List.mem_append.mp hq with h | h
  · exact (List.mem_filter.mp h).1
  · exact List.mem_reverse.mp (List.mem_filter.mp h).1

theorem latchPins_sub (i : Inst) : ∀ q ∈ latchPins i, q ∈ i.pins := by
  intro q hq
  unfold latchPins at hq
  obtain ⟨pt, _, h⟩ := List.mem_flatMap.mp hq
  exact List.mem_reverse.mp (List.mem_filter.mp h).1

theorem pins_iff_of_shape {pins P : List (String × Nat)} {L : List String} (hP : P = L.map (fun pt => (pt, 0)))
    (hall : ∀ q ∈ pins, q ∈ P) (hsub : ∀ q ∈ P, q ∈ pins) (q : String × Nat) :
    q ∈ pins ↔ ∃ pt ∈ L, q = (pt, 0) := by
  constructor
  · intro hq
    have := hall q hq
    rw [hP] at this
    obtain ⟨pt, hpt, rfl⟩ := List.mem_map.mp this
    exact ⟨pt, hpt, rfl⟩
  · rintro ⟨pt, hpt, rfl⟩
    exact hsub _ (by rw [hP]; exact List.mem_map.mpr ⟨pt, hpt, rfl⟩)

theorem mem_kidJoinsAt (n : BNet) (t : String) (k : Inst × Nat) (j : Nat) (hw : WellNamed n) (hki : k ∈ n.insts.zipIdx)
    (hs : KidShapeW n k)
    (hc : ∀ c ∈ n.cables, plainName c.1.2 ∧ c.1.2 ≠ "unconn" ∧ c.1.2.toList ≠ []) (x : Pin) (key : Key) :
    (x, key) ∈ kidJoinsAt n t j k ↔
    ∃ q ∈ k.1.pins, ∃ c wi len, n.wireOf (Pin.inst k.2 q.1 q.2) = some (c, wi, len) ∧
      x = Pin.inst j q.1 q.2 ∧ key = (t, c.2, wi) := by
  unfold kidJoinsAt kidPairs
  rcases kid_cases {} n k hs with ⟨hn, ⟨_, _, h3, h4⟩, _⟩ | ⟨hn, hl, ⟨_, _, _, h4, h5⟩, _⟩ | ⟨hn, hl, ⟨_, hpp, hex⟩, _⟩
  · rw [if_pos hn]
    have := mem_simple_joins n t k.2 j ((stdNamesPorts (k.1.pins.length - 1)).map (·.name)) k.1.pins (std_plain _)
      (pins_iff_of_shape (by rw [h3, List.map_map]; rfl) h4 (namesPins_sub n k.1)) hc x key
    rw [List.map_map] at this
    exact this
  · rw [if_neg hn, if_pos hl]
    exact mem_simple_joins n t k.2 j (latchOrder.take k.1.pins.length) k.1.pins
      (fun pt hpt => latchOrder_plain pt (List.mem_of_mem_take hpt)) (pins_iff_of_shape h4 h5 (latchPins_sub k.1)) hc x key
  · rw [if_neg hn, if_neg hl]
    obtain ⟨i, idx⟩ := k
    simp only at hpp hex hki ⊢
    have hi : i ∈ n.insts := mem_zipIdx_fst hki
    obtain ⟨_, hmod, _⟩ := hw.2.2.1 i hi
    obtain ⟨_, hpn, _⟩ := findDef_ok hw hmod
    have hev : ∀ p ∈ (n.findDef i.model).ports, ∀ q ∈ i.pins, q.1 = p.name →
        joinOf j t (formalText p q.2, netText n (Pin.inst idx q.1 q.2)) =
          (match n.wireOf (Pin.inst idx q.1 q.2) with
           | none => []
           | some (c, wi, _) => [(Pin.inst j p.name q.2, (t, c.2, wi))]) := by
      intro p hpm q hq hqn
      obtain ⟨hpl, hb⟩ := hpp p hpm
      exact joinOf_eval n t j p q.2 _ hpl (okWord_nonempty (hpn p hpm)) (hb q hq hqn) hc
    constructor
    · intro hj
      obtain ⟨fa, hfa, hj⟩ := List.mem_flatMap.mp hj
      obtain ⟨p, hpm, q, hq, hqp, rfl⟩ := mem_connsOf.mp hfa
      rw [hev p hpm q hq hqp] at hj
      cases hwo : n.wireOf (Pin.inst idx q.1 q.2) with
      | none => simp [hwo] at hj
      | some r =>
        obtain ⟨c, wi, len⟩ := r
        simp only [hwo, List.mem_singleton, Prod.mk.injEq] at hj
        exact ⟨q, hq, c, wi, len, hwo, by rw [hqp]; exact hj.1, hj.2⟩
    · rintro ⟨q, hq, c, wi, len, hwo, rfl, rfl⟩
      obtain ⟨p, hpm, hpq⟩ := hex q hq (by rw [hwo]; rfl)
      refine List.mem_flatMap.mpr ⟨_, mem_connsOf.mpr ⟨p, hpm, q, hq, hpq.symm, rfl⟩, ?_⟩
      rw [hev p hpm q hq hpq.symm, hwo]
      simp [hpq]

end Spydr.Eblif
