/-
  What the written words `formalText`, `netText` read back as; the joins the written instance statements
  declare, evaluated against the netlist they were written from; the shape conditions `NetOK` on that netlist.
-/
import Spydr.Eblif.OnNet
import Spydr.Eblif.WriterAst
import Spydr.Eblif.StmtJoins

namespace Spydr.Eblif

theorem netText_none {n : BNet} {y : Pin} (h : n.wireOf y = none) : netText n y = "unconn" := by
  unfold netText
  rw [h]

theorem splitIdx_formalText (p : PortD) (b : Nat) (hpl : plainName p.name) (hpne : p.name.toList ≠ [])
    (hb : p.width ≤ 1 → b = 0) : splitIdx (formalText p b) = Except.ok (p.name, b) := by
  unfold formalText
  split
  · exact splitIdx_idx _ _
  · have := hb (by omega)
    rw [this]; exact splitIdx_plain _ hpl hpne

theorem splitIdx_netText {n : BNet} {y : Pin} {c : CKey} {wi len : Nat} (h : n.wireOf y = some (c, wi, len))
    (hc : ∀ c ∈ n.cables, plainName c.1.2 ∧ c.1.2.toList ≠ []) : splitIdx (netText n y) = Except.ok (c.2, wi) := by
  obtain ⟨ws, w, hm, hlen, hw, _⟩ := wireOf_spec h
  obtain ⟨h1, h3⟩ := hc (c, ws) hm
  have hwl : wi < ws.length := (List.getElem?_eq_some_iff.mp hw).1
  unfold netText
  simp only [h]
  split
  · exact splitIdx_idx _ _
  · have hwi : wi = 0 := by omega
    rw [hwi]; exact splitIdx_plain _ h1 h3

theorem splitIdx_netText_ok (n : BNet) (y : Pin)
    (hc : ∀ c ∈ n.cables, plainName c.1.2 ∧ c.1.2.toList ≠ []) : ∃ cn ci, splitIdx (netText n y) = Except.ok (cn, ci) := by
  cases hwo : n.wireOf y with
  | none => exact ⟨"unconn", 0, by rw [netText_none hwo]; rfl⟩
  | some r => exact ⟨_, _, splitIdx_netText hwo hc⟩

/-- what one written `formal=actual` pair declares, in terms of the netlist it was written from -/
theorem joinOf_eval (n : BNet) (t : String) (idx : Nat) (p : PortD) (b : Nat) (y : Pin)
    (hpl : plainName p.name) (hpne : p.name.toList ≠ []) (hb : p.width ≤ 1 → b = 0)
    (hc : ∀ c ∈ n.cables, plainName c.1.2 ∧ c.1.2 ≠ "unconn" ∧ c.1.2.toList ≠ []) :
    joinOf idx t (formalText p b, netText n y) =
      (match n.wireOf y with
       | none => []
       | some (c, wi, _) => [(Pin.inst idx p.name b, (t, c.2, wi))]) := by
  have hf := splitIdx_formalText p b hpl hpne hb
  cases hwo : n.wireOf y with
  | none =>
    have : splitIdx "unconn" = Except.ok ("unconn", 0) := by rfl
    unfold joinOf
    simp [hf, netText_none hwo, this]
  | some r =>
    obtain ⟨c, wi, len⟩ := r
    obtain ⟨ws, w, hm, _⟩ := wireOf_spec hwo
    have hnt := splitIdx_netText hwo (fun c hc' => ⟨(hc c hc').1, (hc c hc').2.2⟩)
    unfold joinOf
    simp only [hf, hnt]
    have : ¬ c.2 = "unconn" := (hc (c, ws) hm).2.1
    simp [this]

/-- a pin found in a wire of `n` is one the writer writes: a pin of a top-level port, or a pin of
    an instance listed in that instance's pin list, on a port of its definition -/
def Covered (n : BNet) (t : String) : Pin → Prop
  | Pin.top o pn b => o = t ∧ ∃ p ∈ (n.findDef t).ports, p.name = pn ∧ b < p.width
  | Pin.inst idx pn b =>
      ∃ i ∈ (n.insts[idx]?).toList, (pn, b) ∈ i.pins ∧ ∃ p ∈ (n.findDef i.model).ports, p.name = pn

instance (n : BNet) (t : String) (x : Pin) : Decidable (Covered n t x) := by
  cases x with
  | top o pn b => unfold Covered; infer_instance
  | inst idx pn b => unfold Covered; infer_instance

/-- top-level ports: IN or OUT, plain names, at least one pin, every pin on the bit named after it -/
def PortsOK (n : BNet) (t : String) : Prop :=
  ∀ p ∈ (n.findDef t).ports, (p.dir = Dir.inp ∨ p.dir = Dir.out) ∧ plainName p.name ∧ 1 ≤ p.width ∧
    ∀ b, b < p.width → (n.wireOf (Pin.top t p.name b)).map (fun r => (r.1, r.2.1)) = some ((t, p.name), b)

instance (n : BNet) (t : String) : Decidable (PortsOK n t) := by unfold PortsOK; infer_instance

/-- cables: owned by the top model, plain names, every pin occurrence is the one `wireOf` finds
    (no pin on two wires) and is a pin the writer writes -/
def CablesOK (n : BNet) (t : String) : Prop :=
  ∀ cw ∈ n.cables, cw.1.1 = t ∧ plainName cw.1.2 ∧ cw.1.2 ≠ "unconn" ∧
    ∀ pw ∈ cw.2.zipIdx, ∀ x ∈ pw.1, n.wireOf x = some (cw.1, pw.2, cw.2.length) ∧ Covered n t x

instance (n : BNet) (t : String) : Decidable (CablesOK n t) := by unfold CablesOK; infer_instance

/-- instances: pairwise different formals, attr / param keys; plain port names; bit 0 on 1-wide ports -/
def InstsOK (n : BNet) : Prop :=
  ∀ k ∈ n.insts.zipIdx, ((connsOf n k.2 k.1).map (·.1)).Nodup ∧
    (k.1.attrs.map (·.1)).Nodup ∧ (k.1.params.map (·.1)).Nodup ∧
    ∀ p ∈ (n.findDef k.1.model).ports, plainName p.name ∧
      ∀ q ∈ k.1.pins, q.1 = p.name → p.width ≤ 1 → q.2 = 0

instance (n : BNet) : Decidable (InstsOK n) := by unfold InstsOK; infer_instance

/-- shape conditions on the netlist (all decidable; `exNet` in Props/C18RoundTrip.lean satisfies
    them) -/
def NetOK (n : BNet) (t : String) : Prop :=
  kidsOrd n t = n.insts.zipIdx ∧ PortsOK n t ∧ ((n.findDef t).ports.map (·.name)).Nodup ∧
  CablesOK n t ∧ InstsOK n

instance (n : BNet) (t : String) : Decidable (NetOK n t) := by unfold NetOK; infer_instance

theorem okWord_nonempty {s : String} (h : okWord s = true) : s.toList ≠ [] := by
  have := (gcs_of_ok h).2
  intro he; rw [he] at this; simp at this

theorem wordJoins_ports (t : String) (ps : List PortD)
    (h : ∀ p ∈ ps, plainName p.name ∧ p.name.toList ≠ [] ∧ 1 ≤ p.width) :
    wordJoins t (ps.flatMap portBits) = ps.flatMap (portJoins t) := by
  induction ps with
  | nil => rfl
  | cons p r ih =>
    obtain ⟨h1, h2, h3⟩ := h p (by simp)
    simp only [List.flatMap_cons, wordJoins_append, wordJoins_portBits t p h1 h2 h3,
      ih (fun x hx => h x (by simp [hx]))]

theorem infoFold_append (a b : List InfoStmt) (x) : infoFold (a ++ b) x = infoFold b (infoFold a x) := by
  induction a generalizing x with
  | nil => rfl
  | cons s r ih =>
    obtain ⟨c, at', p⟩ := x
    cases s <;> simp [infoFold, ih]

theorem infoFold_attrs (l : List (String × String)) :
    ∀ c a p, infoFold (l.map (fun kv => InfoStmt.attr kv.1 kv.2)) (c, a, p) =
      (c, l.foldl (fun acc kv => dictSet acc kv.1 kv.2) a, p) := by
  induction l with
  | nil => intro c a p; rfl
  | cons kv r ih => intro c a p; simp [infoFold, ih]

theorem infoFold_params (l : List (String × String)) :
    ∀ c a p, infoFold (l.map (fun kv => InfoStmt.param kv.1 kv.2)) (c, a, p) =
      (c, a, l.foldl (fun acc kv => dictSet acc kv.1 kv.2) p) := by
  induction l with
  | nil => intro c a p; rfl
  | cons kv r ih => intro c a p; simp [infoFold, ih]

theorem infoFold_infoStmts (o : Opts) (i : Inst) (ha : (i.attrs.map (·.1)).Nodup) (hp : (i.params.map (·.1)).Nodup) :
    infoFold (infoStmts o i) (none, [], []) = (if o.writeCname then some i.name else none, i.attrs, i.params) := by
  unfold infoStmts
  rw [infoFold_append, infoFold_append]
  have h1 : infoFold (if o.writeCname = true then [InfoStmt.cname i.name] else []) (none, [], []) =
      (if o.writeCname then some i.name else none, [], []) := by
    split <;> rfl
  rw [h1, infoFold_attrs, infoFold_params,
    foldl_dictSet_nodup i.attrs [] ha (fun p hp => by cases hp),
    foldl_dictSet_nodup i.params [] hp (fun p hp => by cases hp)]
  simp

def insPorts (d : DefD) : List PortD := d.ports.filter (fun p => p.dir = Dir.inp || p.dir = Dir.inout)
def outsPorts (d : DefD) : List PortD := d.ports.filter (fun p => p.dir = Dir.out || p.dir = Dir.inout)
theorem eq_of_nodup_name {ps : List PortD} (hn : (ps.map (·.name)).Nodup) {p q : PortD} (hp : p ∈ ps) (hq : q ∈ ps)
    (he : p.name = q.name) : p = q := inj_of_nodup_map hn hp hq he

end Spydr.Eblif
