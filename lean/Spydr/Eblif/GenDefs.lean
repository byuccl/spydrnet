/-
  The generated definitions: `logic-gate_k` has exactly the ports in_0 .. in_{k-1} (IN) and out
  (OUT), one pin each; `generic-latch` has a prefix of input, output, type, control, init-val.
-/
import Spydr.Eblif.DefsPorts
import Spydr.Eblif.SplitIdx

namespace Spydr.Eblif

theorem natStr_inj {a b : Nat} (h : natStr a = natStr b) : a = b := by
  have := congrArg (fun s => digitsToNat s.toList) h
  simpa [digitsToNat_natStr] using this

def inName (i : Nat) : String := "in_" ++ natStr i

theorem inName_inj {a b : Nat} (h : inName a = inName b) : a = b := by
  unfold inName at h
  exact natStr_inj ((String.append_right_inj "in_").mp h)

theorem inName_ne_out (i : Nat) : inName i ≠ "out" := by
  unfold inName
  intro h
  have := congrArg String.toList h
  simp only [String.toList_append] at this
  have h1 : ("in_" : String).toList = ['i', 'n', '_'] := by decide
  have h2 : ("out" : String).toList = ['o', 'u', 't'] := by decide
  rw [h1, h2] at this
  simp at this

def stdNamesPorts (k : Nat) : List PortD :=
  (List.range k).map (fun i => { name := inName i, dir := Dir.inp, width := 1 }) ++ [{ name := "out", dir := Dir.out, width := 1 }]

theorem portsOf_addPort_new (st : St) (dn pn : String) (d : Dir) (w : Nat) (hd : DefEx st dn)
    (hn : ∀ p ∈ portsOf st dn, p.name ≠ pn) :
    portsOf (addPort st dn pn d w) dn = portsOf st dn ++ [{ name := pn, dir := d, width := w }] ∧ DefEx (addPort st dn pn d w) dn := by
  refine ⟨?_, isSome_addPort st dn pn d w hd⟩
  rw [ports_addPort, if_pos ⟨rfl, hd⟩]
  unfold addL; rw [findIn_none_of _ pn hn]; rfl

theorem portsOf_addPort_old (st : St) (dn pn : String) (d : Dir) (w : Nat)
    (hn : ∃ p ∈ portsOf st dn, p.name = pn) : addPort st dn pn d w = st := by
  refine addPort_of_has ?_ d w
  rw [hasPort_eq]
  obtain ⟨p, hp, hpn⟩ := hn
  unfold findIn
  cases h : (portsOf st dn).find? (fun q => q.name = pn) with
  | some q => rfl
  | none =>
    rw [List.find?_eq_none] at h
    exact absurd (by simpa using hpn) (h p hp)

theorem fold_in_fresh (dn : String) (k : Nat) :
    ∀ (st : St), DefEx st dn → portsOf st dn = [] →
      portsOf ((List.range k).foldl (fun st i => addPort st dn ("in_" ++ natStr i) Dir.inp 1) st) dn =
        (List.range k).map (fun i => ({ name := inName i, dir := Dir.inp, width := 1 } : PortD)) ∧
      DefEx ((List.range k).foldl (fun st i => addPort st dn ("in_" ++ natStr i) Dir.inp 1) st) dn := by
  induction k with
  | zero => intro st hd hp; exact ⟨by simpa using hp, hd⟩
  | succ k ih =>
    intro st hd hp
    rw [List.range_succ, List.foldl_append]
    obtain ⟨hp1, hd1⟩ := ih st hd hp
    simp only [List.foldl_cons, List.foldl_nil, List.map_append, List.map_cons, List.map_nil]
    have hn : ∀ p ∈ portsOf ((List.range k).foldl (fun st i => addPort st dn ("in_" ++ natStr i) Dir.inp 1) st) dn,
        p.name ≠ "in_" ++ natStr k := by
      intro p hpm he
      rw [hp1] at hpm
      obtain ⟨i, hi, rfl⟩ := List.mem_map.mp hpm
      have := inName_inj (a := i) (b := k) he
      simp only [List.mem_range] at hi
      omega
    obtain ⟨h2, d2⟩ := portsOf_addPort_new _ dn ("in_" ++ natStr k) Dir.inp 1 hd1 hn
    exact ⟨by rw [h2, hp1]; rfl, d2⟩

/-- `hp`: the state of `logic-gate_k` right after `ensureDef` created it -/
theorem names_def_fresh (st : St) (dn : String) (k : Nat) (hd : DefEx st dn) (hp : portsOf st dn = []) :
    portsOf (addNamesPorts st dn k) dn = stdNamesPorts k := by
  unfold addNamesPorts
  simp only []
  obtain ⟨h1, d1⟩ := fold_in_fresh dn k st hd hp
  have hn : ∀ p ∈ portsOf ((List.range k).foldl (fun st i => addPort st dn ("in_" ++ natStr i) Dir.inp 1) st) dn, p.name ≠ "out" := by
    intro p hpm
    rw [h1] at hpm
    obtain ⟨i, _, rfl⟩ := List.mem_map.mp hpm
    exact inName_ne_out i
  rw [(portsOf_addPort_new _ dn "out" Dir.out 1 d1 hn).1, h1]
  rfl

theorem names_def_again (st : St) (dn : String) (k : Nat) (hp : portsOf st dn = stdNamesPorts k) :
    addNamesPorts st dn k = st := by
  unfold addNamesPorts
  simp only []
  have hfold : ∀ (l : List Nat), (∀ i ∈ l, i < k) →
      l.foldl (fun st i => addPort st dn ("in_" ++ natStr i) Dir.inp 1) st = st := by
    intro l
    induction l with
    | nil => intro _; rfl
    | cons a r ih =>
      intro hl
      simp only [List.foldl_cons]
      have e := portsOf_addPort_old st dn ("in_" ++ natStr a) Dir.inp 1 ⟨{ name := inName a, dir := Dir.inp, width := 1 }, by
        rw [hp]; unfold stdNamesPorts
        exact List.mem_append.mpr (Or.inl (List.mem_map.mpr ⟨a, List.mem_range.mpr (hl a (by simp)), rfl⟩)), rfl⟩
      rw [e]
      exact ih (fun i hi => hl i (by simp [hi]))
  rw [hfold (List.range k) (fun i hi => List.mem_range.mp hi)]
  exact portsOf_addPort_old st dn "out" Dir.out 1 ⟨{ name := "out", dir := Dir.out, width := 1 }, by
    rw [hp]; unfold stdNamesPorts; simp, rfl⟩

def stdLatchPorts : List PortD :=
  [{ name := "input", dir := Dir.inp, width := 1 }, { name := "output", dir := Dir.out, width := 1 },
   { name := "type", dir := Dir.inp, width := 1 }, { name := "control", dir := Dir.inp, width := 1 },
   { name := "init-val", dir := Dir.inp, width := 1 }]

theorem addLatchPorts_append (a b : List String) : ∀ st : St, addLatchPorts st (a ++ b) = addLatchPorts (addLatchPorts st a) b := by
  induction a with
  | nil => intro st; rfl
  | cons x r ih => intro st; simp only [List.cons_append, addLatchPorts]; exact ih _

theorem latch_present : ∀ j, j < 5 → ∀ b, b ≤ 5 →
    ((stdLatchPorts.take b).any (fun p => p.name = latchOrder[j]!)) = decide (j < b) := by decide

theorem latch_std_at : ∀ j, j < 5 →
    stdLatchPorts[j]! = { name := latchOrder[j]!, dir := (if latchOrder[j]! = "output" then Dir.out else Dir.inp), width := 1 } := by
  decide

theorem latch_def_shape (m : Nat) (hm : m ≤ 5) :
    ∀ (st : St) (a : Nat), a ≤ 5 → DefEx st "generic-latch" → portsOf st "generic-latch" = stdLatchPorts.take a →
      portsOf (addLatchPorts st (latchOrder.take m)) "generic-latch" = stdLatchPorts.take (max a m) ∧
      DefEx (addLatchPorts st (latchOrder.take m)) "generic-latch" := by
  induction m with
  | zero =>
    intro st a _ hd hp
    have : addLatchPorts st (latchOrder.take 0) = st := rfl
    rw [this]
    exact ⟨by simpa using hp, hd⟩
  | succ m ih =>
    intro st a ha hd hp
    have hm' : m < 5 := by omega
    obtain ⟨h1, d1⟩ := ih (by omega) st a ha hd hp
    have htake : latchOrder.take (m + 1) = latchOrder.take m ++ [latchOrder[m]!] := by
      have hl : latchOrder.length = 5 := by decide
      rw [List.take_add_one]
      simp [List.getElem?_eq_getElem (by omega : m < latchOrder.length), List.getElem!_eq_getElem?_getD]
    rw [htake, addLatchPorts_append]
    simp only [addLatchPorts]
    have hpres := latch_present m hm' (max a m) (by omega)
    by_cases hlt : m < max a m
    ·
      have hex : ∃ p ∈ portsOf (addLatchPorts st (latchOrder.take m)) "generic-latch", p.name = latchOrder[m]! := by
        rw [h1]
        rw [show decide (m < max a m) = true by simpa using hlt] at hpres
        simp only [List.any_eq_true, decide_eq_true_eq] at hpres
        exact hpres
      rw [portsOf_addPort_old _ _ _ _ _ hex]
      have : max a (m + 1) = max a m := by omega
      rw [this]; exact ⟨h1, d1⟩
    · have hge : max a m = m := by omega
      have hn : ∀ p ∈ portsOf (addLatchPorts st (latchOrder.take m)) "generic-latch", p.name ≠ latchOrder[m]! := by
        intro p hpm he
        rw [h1] at hpm
        rw [show decide (m < max a m) = false by simpa using hlt] at hpres
        rw [List.any_eq_false] at hpres
        exact (hpres p hpm) (by simpa using he)
      obtain ⟨h2, d2⟩ := portsOf_addPort_new _ "generic-latch" (latchOrder[m]!) (if latchOrder[m]! = "output" then Dir.out else Dir.inp) 1 d1 hn
      refine ⟨?_, d2⟩
      rw [h2, h1, hge]
      have : max a (m + 1) = m + 1 := by omega
      rw [this, List.take_add_one]
      have hl : stdLatchPorts.length = 5 := by decide
      rw [List.getElem?_eq_getElem (by omega : m < stdLatchPorts.length)]
      have := latch_std_at m hm'
      rw [List.getElem!_eq_getElem?_getD, List.getElem?_eq_getElem (by omega : m < stdLatchPorts.length)] at this
      simp only [Option.getD_some] at this
      rw [this]; rfl

end Spydr.Eblif
