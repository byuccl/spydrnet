/-
  Upper bound for the ports of the instantiated (non-top) definitions: a port never gets wider than
  the formals written for it ask for (`UBd`), through every step of an instance statement; and the
  generated `generic-latch` keeps its standard shape (`StdL`).
-/
import Spydr.Eblif.ReadChildStmt

namespace Spydr.Eblif

def PortsAll (st : St) (m : String) (Q : PortD → Prop) : Prop := ∀ p ∈ portsOf st m, Q p

abbrev UBd (st : St) (m : String) (W : String → Nat) : Prop := PortsAll st m (fun p => p.width ≤ W p.name)

abbrev DirF (st : St) (m : String) (f : String → Dir) : Prop := PortsAll st m (fun p => p.dir = f p.name)

section
variable {st : St} {m : String} {Q : PortD → Prop}

theorem portsAll_of_ports {a b : St} (h : portsOf b m = portsOf a m) (u : PortsAll a m Q) : PortsAll b m Q := by
  intro p hp; rw [h] at hp; exact u p hp

theorem portsAll_addPort (hd : DefEx st m) (u : PortsAll st m Q) (pn : String) (d : Dir) (w : Nat)
    (hq : Q { name := pn, dir := d, width := w }) : PortsAll (addPort st m pn d w) m Q := by
  by_cases hn : ∃ p ∈ portsOf st m, p.name = pn
  · rw [portsOf_addPort_old st m pn d w hn]; exact u
  · have hn' : ∀ p ∈ portsOf st m, p.name ≠ pn := fun p hp e => hn ⟨p, hp, e⟩
    intro p hp
    rw [(portsOf_addPort_new st m pn d w hd hn').1] at hp
    rcases List.mem_append.mp hp with h | h
    · exact u p h
    · simp only [List.mem_singleton] at h; subst h; exact hq

theorem portsAll_growPort (u : PortsAll st m Q) (pn : String) (w : Nat)
    (hq : ∀ q, Q q → q.name = pn → Q { q with width := w }) : PortsAll (growPort st m pn w) m Q := by
  intro p hp
  rw [portsOf_growPort st m pn w] at hp
  unfold growL at hp
  split at hp
  · exact u p hp
  · obtain ⟨q, hq', rfl⟩ := List.mem_map.mp hp
    by_cases hqn : q.name = pn
    · rw [if_pos hqn]; exact hq q (u q hq') hqn
    · rw [if_neg hqn]; exact u q hq'

theorem portsAll_setDir {Q' : PortD → Prop} (u : PortsAll st m Q) (pn : String) (d : Dir)
    (hq : ∀ q, Q q → Q' (if q.name = pn then { q with dir := d } else q)) : PortsAll (setDir st m pn d) m Q' := by
  intro p hp
  rw [portsOf_setDir st m pn d] at hp
  obtain ⟨q, hq', rfl⟩ := List.mem_map.mp hp
  exact hq q (u q hq')

theorem portsAll_ensureDef (u : PortsAll st m Q) : PortsAll (ensureDef st m) m Q := by
  cases hf : findDef st m with
  | none =>
    intro p hp
    rw [portsOf_ensureDef_fresh st m hf] at hp
    cases hp
  | some d =>
    have hd : DefEx st m := by unfold DefEx; rw [hf]; rfl
    exact portsAll_of_ports (portsOf_ensureDef_old st m hd) u

end

theorem defEx_addPort {st : St} {m : String} (hd : DefEx st m) (dn pn : String) (d : Dir) (w : Nat) :
    DefEx (addPort st dn pn d w) m := defEx_of_dv (by simp) hd

theorem defEx_growPort {st : St} {m : String} (hd : DefEx st m) (dn pn : String) (w : Nat) :
    DefEx (growPort st dn pn w) m := defEx_of_dv (by simp) hd

theorem portsAll_declFormals {m : String} {Q : PortD → Prop} {l : List (String × String)} {st st' : St}
    (hreq : ∀ fa ∈ l, ∀ pn pi, splitIdx fa.1 = Except.ok (pn, pi) →
      Q { name := pn, dir := Dir.undef, width := 0 } ∧ ∀ q, Q q → q.name = pn → Q { q with width := pi + 1 })
    (hd : DefEx st m) (u : PortsAll st m Q) (h : declFormals st m l = Except.ok st') : PortsAll st' m Q ∧ DefEx st' m := by
  refine declFormals_rel (R := fun a b => PortsAll a m Q ∧ DefEx a m → PortsAll b m Q ∧ DefEx b m) (fun _ => id)
    (fun h1 h2 x => h2 (h1 x)) (fun fa hfa a b h1 ⟨u, hd⟩ => ?_) h ⟨u, hd⟩
  obtain ⟨pn, pi, hs, rfl⟩ := declFormal_iff.mp h1
  obtain ⟨q0, qg⟩ := hreq fa hfa pn pi hs
  have d1 := defEx_addPort hd m pn Dir.undef 0
  exact ⟨portsAll_growPort (portsAll_addPort hd u pn Dir.undef 0 q0) pn _ qg, defEx_growPort d1 m pn _⟩

theorem portsAll_connectAll {m parent : String} {idx : Nat} {Q : PortD → Prop} {l : List (String × String)} {st st' : St}
    (hreq : ∀ fa ∈ l, ∀ pn pi, splitIdx fa.1 = Except.ok (pn, pi) → ∀ q, Q q → q.name = pn → Q { q with width := pi + 1 })
    (hd : DefEx st m) (u : PortsAll st m Q) (h : connectAll st idx parent m l = Except.ok st') :
    PortsAll st' m Q ∧ DefEx st' m := by
  refine connectAll_rel (R := fun a b => PortsAll a m Q ∧ DefEx a m → PortsAll b m Q ∧ DefEx b m) (fun _ => id)
    (fun h1 h2 x => h2 (h1 x)) (fun fa hfa a b h1 ⟨u, hd⟩ => ?_) h ⟨u, hd⟩
  obtain ⟨cn, ci, pn, pi, _, hs, ⟨_, rfl⟩ | ⟨_, _, rfl⟩⟩ := connectOne_eq h1
  · exact ⟨portsAll_of_ports rfl u, hd⟩
  · exact ⟨portsAll_of_ports (portsOf_connect _ _ _ _ _ _) (portsAll_growPort u pn _ (hreq fa hfa pn pi hs)), defEx_of_dv (by simp) hd⟩

theorem portsAll_elabStmt_inst {st st' : St} {cur : String} {s : Stmt} {Q : PortD → Prop} (hs : Stmt.isInstance s = true)
    (hprep : ∀ sA, Prep st cur s sA → PortsAll sA (stmtModel s) Q)
    (hconn : ∀ fa ∈ stmtConns st s, ∀ pn pi, splitIdx fa.1 = Except.ok (pn, pi) →
      ∀ q, Q q → q.name = pn → Q { q with width := pi + 1 })
    (h : elabStmt st cur s = Except.ok st') : PortsAll st' (stmtModel s) Q := by
  obtain ⟨sA, s1, s2, hp, _, hn, h2, h3⟩ := elabStmt_inst_cases hs h
  have f1 := fr_of_defs hp.defEx hn.defs_created
  obtain ⟨u2, d2⟩ := portsAll_connectAll hconn f1.2 (portsAll_of_ports f1.1 (hprep sA hp)) h2
  exact portsAll_of_ports (fr_applyInfo _ d2 h3).1 u2

theorem portsAll_subckt {st st' : St} {cur m : String} {Q : PortD → Prop} {gate : Bool} {conns : List (String × String)}
    {info : List InfoStmt}
    (h1r : ∀ fa ∈ conns, ∀ pn pi, splitIdx fa.1 = Except.ok (pn, pi) →
      Q { name := pn, dir := Dir.undef, width := 0 } ∧ ∀ q, Q q → q.name = pn → Q { q with width := pi + 1 })
    (h2r : ∀ fa ∈ infoMapOf conns, ∀ pn pi, splitIdx fa.1 = Except.ok (pn, pi) → ∀ q, Q q → q.name = pn → Q { q with width := pi + 1 })
    (u : PortsAll st m Q) (h : elabStmt st cur (Stmt.subckt gate m conns info) = Except.ok st') : PortsAll st' m Q :=
  portsAll_elabStmt_inst (s := Stmt.subckt gate m conns info) rfl
    (fun sA hp => (portsAll_declFormals h1r (defEx_ensureDef _ _)
      (portsAll_ensureDef (portsAll_of_ports (portsOf_of_defs (by unfold checkHierarchy; split <;> rfl) m) u)) hp).1) h2r h

/-- holds for the repaired `parse_subcircuit_port` (a formal gets its port bit also when the actual is `unconn`) -/
theorem declFormals_port {m : String} (l : List (String × String)) :
    ∀ {st st' : St}, DefEx st m → declFormals st m l = Except.ok st' →
      ∀ fa ∈ l, ∀ pn pi, splitIdx fa.1 = Except.ok (pn, pi) → ∃ p, findIn (portsOf st' m) pn = some p ∧ pi < p.width := by
  intro st st' hd h fa hfa pn pi hs
  obtain ⟨l0, a, b, r, h0, h1, h2⟩ := loop_mem (go := fun s l => declFormals s m l) (fun _ => rfl) (fun _ _ _ => rfl) h hfa
  obtain ⟨pn', pi', hs', rfl⟩ := declFormal_iff.mp h1
  rw [hs] at hs'; cases hs'
  obtain ⟨hh, hd'⟩ := addPort_has a m pn Dir.undef 0 (defEx_of_dv (dv_declFormals l0 h0) hd)
  obtain ⟨p, hp, hlt⟩ := findIn_of_width ((growPort_port (addPort a m pn Dir.undef 0) m pn (pi + 1) hd').2.1 hh)
  obtain ⟨p', hp', hle⟩ := pm_declFormals r h2 m pn p hp
  exact ⟨p', hp', by omega⟩

theorem ubd_addLatchPorts {W : String → Nat} (l : List String) (hl : ∀ o ∈ l, 1 ≤ W o) :
    ∀ {st : St}, DefEx st "generic-latch" → UBd st "generic-latch" W →
      UBd (addLatchPorts st l) "generic-latch" W ∧ DefEx (addLatchPorts st l) "generic-latch" := by
  induction l with
  | nil => intro st hd u; exact ⟨u, hd⟩
  | cons o r ih =>
    intro st hd u
    unfold addLatchPorts
    exact ih (fun x hx => hl x (by simp [hx])) (defEx_addPort hd _ _ _ _) (portsAll_addPort hd u o _ 1 (hl o (by simp)))

theorem portsOf_other_stmt {st st' : St} {cur m : String} {s : Stmt} (hs : Stmt.isInstance s = true) (hne : m ≠ stmtModel s)
    (h : elabStmt st cur s = Except.ok st') : portsOf st' m = portsOf st m := by
  unfold portsOf; rw [findDef_elabStmt_inst hs hne h]

theorem ubd_subckt {st st' : St} {cur m : String} {W : String → Nat} {gate : Bool} {conns : List (String × String)}
    {info : List InfoStmt}
    (h1r : ∀ fa ∈ conns, ∀ pn pi, splitIdx fa.1 = Except.ok (pn, pi) → pi < W pn)
    (h2r : ∀ fa ∈ infoMapOf conns, ∀ pn pi, splitIdx fa.1 = Except.ok (pn, pi) → pi < W pn)
    (u : UBd st m W) (h : elabStmt st cur (Stmt.subckt gate m conns info) = Except.ok st') : UBd st' m W :=
  portsAll_subckt (fun fa hfa pn pi hs => ⟨Nat.zero_le _, fun q _ hn => by have := h1r fa hfa pn pi hs; rw [← hn] at this; exact this⟩)
    (fun fa hfa pn pi hs q _ hn => by have := h2r fa hfa pn pi hs; rw [← hn] at this; exact this) u h

theorem ubd_latch {st st' : St} {cur : String} {W : String → Nat} {toks : List String} {info : List InfoStmt}
    (hr : ∀ o ∈ (latchOrder.zip toks).map (·.1), 1 ≤ W o)
    (u : UBd st "generic-latch" W) (h : elabStmt st cur (Stmt.latch toks info) = Except.ok st') :
    UBd st' "generic-latch" W :=
  portsAll_elabStmt_inst (s := Stmt.latch toks info) rfl
    (fun sA hp => hp ▸ (ubd_addLatchPorts _ hr (defEx_ensureDef st "generic-latch") (portsAll_ensureDef u)).1)
    (fun fa hfa pn pi hsp q _ hn => by
      obtain ⟨a, b⟩ := fa
      rw [latchOrder_split a (List.of_mem_zip hfa).1] at hsp
      simp only [Except.ok.injEq, Prod.mk.injEq] at hsp
      rw [hn, ← hsp.1, ← hsp.2]
      exact hr a (List.mem_map.mpr ⟨(a, b), hfa, rfl⟩)) h

theorem ubd_names {st st' : St} {cur : String} {W : String → Nat} {nets covers : List String} {info : List InfoStmt}
    (hk : Std st (nets.length - 1)) (hr : ∀ p ∈ stdNamesPorts (nets.length - 1), 1 ≤ W p.name)
    (h : elabStmt st cur (Stmt.names nets covers info) = Except.ok st') :
    UBd st' ("logic-gate_" ++ natStr (nets.length - 1)) W := by
  obtain ⟨_, hp⟩ := std_names_self hk h
  intro p hpm
  rw [hp] at hpm
  have hw : p.width = 1 := by
    unfold stdNamesPorts at hpm
    rcases List.mem_append.mp hpm with h' | h'
    · obtain ⟨j, _, rfl⟩ := List.mem_map.mp h'; rfl
    · simp only [List.mem_singleton] at h'; subst h'; rfl
  rw [hw]; exact hr p hpm

/-- `generic-latch` does not exist yet, or has the first `a` standard ports -/
def StdL (st : St) : Prop :=
  findDef st "generic-latch" = none ∨
  (DefEx st "generic-latch" ∧ ∃ a, a ≤ 5 ∧ portsOf st "generic-latch" = stdLatchPorts.take a)

theorem latch_width_one : ∀ b ∈ List.range 6, ∀ b' ∈ List.range 6, b ≤ b' → ∀ o ∈ latchOrder.take b,
    ∃ p, findIn (stdLatchPorts.take b') o = some p ∧ p.width = 1 := by decide

theorem stdL_other {st st' : St} {cur : String} {s : Stmt} (hs : Stmt.isInstance s = true)
    (hne : "generic-latch" ≠ stmtModel s) (hk : StdL st) (h : elabStmt st cur s = Except.ok st') : StdL st' := by
  unfold StdL DefEx portsOf at *
  rwa [findDef_elabStmt_inst hs hne h]

theorem stdL_latch {st st' : St} {cur : String} {toks : List String} {info : List InfoStmt} (m : Nat) (hm : m ≤ 5)
    (hz : (latchOrder.zip toks).map (·.1) = latchOrder.take m)
    (hk : StdL st) (h : elabStmt st cur (Stmt.latch toks info) = Except.ok st') :
    DefEx st' "generic-latch" ∧ ∃ a, a ≤ 5 ∧ m ≤ a ∧ portsOf st' "generic-latch" = stdLatchPorts.take a := by
  have h0 : ∃ a, a ≤ 5 ∧ DefEx (ensureDef st "generic-latch") "generic-latch" ∧
      portsOf (ensureDef st "generic-latch") "generic-latch" = stdLatchPorts.take a := by
    rcases hk with hk | ⟨hd, a, ha, hp⟩
    · exact ⟨0, by omega, defEx_ensureDef _ _, by rw [portsOf_ensureDef_fresh st _ hk]; rfl⟩
    · exact ⟨a, ha, defEx_ensureDef _ _, by rw [portsOf_ensureDef_old st _ hd]; exact hp⟩
  obtain ⟨a, ha, hd0, hp0⟩ := h0
  obtain ⟨hp1, hd1⟩ := latch_def_shape m hm (ensureDef st "generic-latch") a ha hd0 hp0
  obtain ⟨sA, rfl, hf⟩ := ports_fixed_elabStmt_inst (s := Stmt.latch toks info) rfl h
  rw [hz] at hf
  have hmax : max a m ∈ List.range 6 := by simp; omega
  have hmr : m ∈ List.range 6 := by simp; omega
  have f := hf (by
    intro fa hfa pn pi hsp
    obtain ⟨x, y⟩ := fa
    have hx : x ∈ latchOrder.take m := by
      rw [← hz]; exact List.mem_map.mpr ⟨(x, y), hfa, rfl⟩
    rw [latchOrder_split x (List.mem_of_mem_take hx)] at hsp
    simp only [Except.ok.injEq, Prod.mk.injEq] at hsp
    obtain ⟨p, hp, hw⟩ := latch_width_one m hmr (max a m) hmax (by omega) x hx
    rw [← hsp.1, ← hsp.2, show stmtModel (Stmt.latch toks info) = "generic-latch" from rfl, portWidth_eq, hp1, hp]
    simp only; omega)
  exact ⟨f.2, max a m, by omega, by omega, f.1.trans hp1⟩

end Spydr.Eblif
