/-
  A pin on a net bit of the materialised netlist (`OnNet`); the net-derived renaming pass changes
  instance names only.
-/
import Spydr.Eblif.HeaderWords
import Spydr.Eblif.SplitIdx
import Spydr.Eblif.ModelCompose

namespace Spydr.Eblif

/-- pin `x` is on wire `k.2.2` of a cable with key `(k.1, k.2.1)` of the netlist -/
def OnNet (n : BNet) (x : Pin) (k : Key) : Prop :=
  ∃ ws w, ((k.1, k.2.1), ws) ∈ n.cables ∧ ws[k.2.2]? = some w ∧ x ∈ w

theorem onNet_toNet (st : St) (pl : PinsLive st) (x : Pin) (k : Key) : OnNet st.toNet x k ↔ x ∈ st.pins k := by
  constructor
  · rintro ⟨ws, w, hm, hw, hx⟩
    simp only [St.toNet, List.mem_map] at hm
    obtain ⟨c, _, he⟩ := hm
    simp only [Prod.mk.injEq] at he
    obtain ⟨hc, hws⟩ := he
    subst hc
    rw [← hws] at hw
    simp only [wiresOf, List.getElem?_map] at hw
    cases hr : (List.range (st.width (k.1, k.2.1)))[k.2.2]? with
    | none => simp [hr] at hw
    | some i =>
      have hi : i = k.2.2 := by
        have := List.getElem?_eq_some_iff.mp hr
        obtain ⟨_, e⟩ := this
        simpa using e.symm
      simp only [hr, Option.map_some, Option.some.injEq] at hw
      subst hi
      rw [← hw] at hx
      exact hx
  · intro hx
    have hl := pl k (by intro he; rw [he] at hx; cases hx)
    refine ⟨wiresOf st (k.1, k.2.1), st.pins k, ?_, ?_, hx⟩
    · simp only [St.toNet, List.mem_map]
      exact ⟨(k.1, k.2.1), hl.1, rfl⟩
    · simp only [wiresOf]
      rw [List.getElem?_map, List.getElem?_range hl.2]
      rfl

def eraseName (i : Inst) : Inst := { i with name := "" }

theorem renameNet_pres {n n' : BNet} {idx : Nat} {nm : String} (h : renameNet n idx nm = Except.ok n') :
    n'.cables = n.cables ∧ n'.defs = n.defs ∧ n'.top = n.top ∧ n'.insts.map eraseName = n.insts.map eraseName := by
  unfold renameNet at h
  split at h
  · cases h; exact ⟨rfl, rfl, rfl, rfl⟩
  · simp only at h
    split at h
    · cases h; exact ⟨rfl, rfl, rfl, rfl⟩
    · cases h
      exact ⟨rfl, rfl, rfl, map_updIdx_gen eraseName n.insts idx (fun i => { i with name := nm }) (fun _ => rfl)⟩

theorem applyConvention_pres (l : List Nat) :
    ∀ {n n' : BNet}, applyConvention n l = Except.ok n' →
      n'.cables = n.cables ∧ n'.defs = n.defs ∧ n'.top = n.top ∧ n'.insts.map eraseName = n.insts.map eraseName := by
  induction l with
  | nil => intro n n' h; cases h; exact ⟨rfl, rfl, rfl, rfl⟩
  | cons idx r ih =>
    intro n n' h
    unfold applyConvention at h
    split at h
    · exact ih h
    · split at h
      · exact ih h
      · obtain ⟨n1, h1, h2⟩ := bind_ok h
        obtain ⟨a1, a2, a3, a4⟩ := renameNet_pres h1
        obtain ⟨b1, b2, b3, b4⟩ := ih h2
        exact ⟨b1.trans a1, b2.trans a2, b3.trans a3, b4.trans a4⟩

/-- what `elabB` returns, read off the state the models elaborate to: the renaming pass keeps definitions,
    cables and everything of an instance but its name -/
theorem elab_decompose (a : BAst) (n : BNet) (h : elabB a = Except.ok n) :
    ∃ st, elabModels {} a.models = Except.ok st ∧
      n.defs = st.defs ∧ n.insts.map eraseName = st.insts.map eraseName ∧ n.cables = st.toNet.cables ∧ n.top = st.top := by
  unfold elabB at h
  obtain ⟨s1, h1, h⟩ := bind_ok h
  simp only [] at h
  unfold elabSt at h1
  obtain ⟨s0, h0, h1⟩ := bind_ok h1
  cases h1
  obtain ⟨c1, c2, c3, c4⟩ := applyConvention_pres _ h
  exact ⟨s0, h0, c2, c4, c1, c3⟩

theorem read_decompose (text : List Char) (n : BNet) (h : readB text = Except.ok n) :
    ∃ a st, parseB (lexB text) = Except.ok a ∧ elabModels {} a.models = Except.ok st ∧
      n.defs = st.defs ∧ n.insts.map eraseName = st.insts.map eraseName ∧ n.cables = st.toNet.cables ∧ n.top = st.top := by
  unfold readB at h
  obtain ⟨a, ha, h⟩ := bind_ok h
  obtain ⟨st, r⟩ := elab_decompose a n h
  exact ⟨a, st, ha, r⟩

def plainName (s : String) : Prop := ∀ c, s.toList.getLast? = some c → c ≠ ']'

instance (s : String) : Decidable (plainName s) := by
  unfold plainName
  cases h : s.toList.getLast? with
  | none => exact isTrue (fun c hc => by cases hc)
  | some d =>
    exact if hd : d ≠ ']' then isTrue (fun c hc => by cases hc; exact hd)
          else isFalse (fun f => hd (f d rfl))

def portJoins (t : String) (p : PortD) : List (Pin × Key) :=
  (List.range p.width).map (fun b => (Pin.top t p.name b, (t, p.name, b)))

theorem wordJoins_append (t : String) (a b : List String) : wordJoins t (a ++ b) = wordJoins t a ++ wordJoins t b := by
  simp [wordJoins]

theorem wordJoins_portBits (t : String) (p : PortD) (hp : plainName p.name) (hne : p.name.toList ≠ [])
    (hw : 1 ≤ p.width) : wordJoins t (portBits p) = portJoins t p := by
  unfold portBits portJoins
  split
  · simp only [wordJoins, List.flatMap_map, splitIdx_idx]
    induction (List.range p.width) with
    | nil => rfl
    | cons a r ih => simp [List.flatMap_cons, ih]
  · have : p.width = 1 := by omega
    simp [wordJoins, splitIdx_plain p.name hp hne, this]

theorem splitIdx_portBits (p : PortD) (hp : plainName p.name) (hne : p.name.toList ≠ []) :
    ∀ w ∈ portBits p, ∃ pi, splitIdx w = Except.ok (p.name, pi) := by
  intro w hw
  unfold portBits at hw
  split at hw
  · obtain ⟨i, _, rfl⟩ := List.mem_map.mp hw
    exact ⟨i, splitIdx_idx _ _⟩
  · simp only [List.mem_singleton] at hw
    subst hw
    exact ⟨0, splitIdx_plain _ hp hne⟩

end Spydr.Eblif
