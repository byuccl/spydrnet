/-
  The EBLIF elaborator step by step: its list loops keep a relation (`loop_rel`) and split around each
  element (`loop_append`, `loop_mem`); the equation of each step function; what the primitive steps do to
  the net fields, `Ext` (what is joined stays joined as long as no `.blackbox`
  strips the model) and the intermediate states of `.conn`, `.blackbox` and the header words.
-/
import Spydr.Eblif.StmtShape
import Spydr.Common.Except
import Spydr.Common.List

namespace Spydr.Eblif

/-- "projection `π` of the state is unchanged", as a relation for the `_rel` lemmas below -/
def Same {β : Type} (π : St → β) (a b : St) : Prop := π b = π a

theorem Same.refl {β : Type} (π : St → β) (s : St) : Same π s s := rfl

theorem Same.trans {β : Type} {π : St → β} {a b c : St} (h1 : Same π a b) (h2 : Same π b c) : Same π a c :=
  Eq.trans h2 h1

/-- "invariant `P` is kept", as a relation for the `_rel` lemmas below -/
def Keeps (P : St → Prop) (a b : St) : Prop := P a → P b

theorem Keeps.refl (P : St → Prop) (s : St) : Keeps P s s := id

theorem Keeps.trans {P : St → Prop} {a b c : St} (h1 : Keeps P a b) (h2 : Keeps P b c) : Keeps P a c :=
  fun p => h2 (h1 p)

/-- one `.cname/.attr/.param` line -/
def applyInfoOne (st : St) (idx : Nat) (parent : String) : InfoStmt → Except Err St
  | InfoStmt.cname n => renameStrict (updInst st idx (fun i => { i with cname := some n })) idx parent n
  | InfoStmt.attr k v => pure (updInst st idx (fun i => { i with attrs := dictSet i.attrs k v }))
  | InfoStmt.param k v => pure (updInst st idx (fun i => { i with params := dictSet i.params k v }))

section
variable {ε α σ : Type} {go : σ → List α → Except ε σ} {f : σ → α → Except ε σ}
  (nil : ∀ s, go s [] = pure s) (cons : ∀ s x r, go s (x :: r) = f s x >>= fun s => go s r)
include nil cons

/-- a loop over `a ++ b` is the loop over `a`, then the loop over `b` -/
theorem loop_append (a b : List α) : ∀ s, go s (a ++ b) = go s a >>= fun s => go s b := by
  induction a with
  | nil => intro s; rw [nil]; rfl
  | cons x r ih =>
    intro s
    rw [List.cons_append, cons, cons]
    cases f s x with
    | error e => rfl
    | ok s1 => exact ih s1

/-- so a successful loop splits around each element of its list: a run of the same loop up to it, its step, and
    a run of the same loop over the rest -/
theorem loop_mem {l : List α} {s s' : σ} (h : go s l = .ok s') {x : α} (hx : x ∈ l) :
    ∃ p a b r, go s p = .ok a ∧ f a x = .ok b ∧ go b r = .ok s' := by
  obtain ⟨p, r, rfl⟩ := List.append_of_mem hx
  rw [loop_append nil cons] at h
  obtain ⟨a, ha, h⟩ := bind_ok h
  rw [cons] at h
  obtain ⟨b, hb, h⟩ := bind_ok h
  exact ⟨p, a, b, r, ha, hb, h⟩

end

section
variable {R : St → St → Prop} (refl : ∀ s, R s s) (trans : ∀ {a b c}, R a b → R b c → R a c) {st st' : St}
include refl trans

theorem connectAll_rel {idx : Nat} {parent model : String} {l : List (String × String)}
    (step : ∀ fa ∈ l, ∀ {a b}, connectOne a idx parent model fa = Except.ok b → R a b)
    (h : connectAll st idx parent model l = Except.ok st') : R st st' :=
  loop_rel (go := fun s l => connectAll s idx parent model l) (fun _ => rfl) (fun _ _ _ => rfl) refl trans l step h

theorem declFormals_rel {model : String} {l : List (String × String)}
    (step : ∀ fa ∈ l, ∀ {a b}, declFormal a model fa = Except.ok b → R a b)
    (h : declFormals st model l = Except.ok st') : R st st' :=
  loop_rel (go := fun s l => declFormals s model l) (fun _ => rfl) (fun _ _ _ => rfl) refl trans l step h

theorem applyInfo_rel {idx : Nat} {parent : String} {l : List InfoStmt}
    (step : ∀ x ∈ l, ∀ {a b}, applyInfoOne a idx parent x = Except.ok b → R a b)
    (h : applyInfo st idx parent l = Except.ok st') : R st st' :=
  loop_rel (go := fun s l => applyInfo s idx parent l) (fun _ => rfl) (fun _ x _ => by cases x <;> rfl)
    refl trans l step h

theorem elabStmts_rel {cur : String} {l : List Stmt}
    (step : ∀ s ∈ l, ∀ {a b}, elabStmt a cur s = Except.ok b → R a b)
    (h : elabStmts st cur l = Except.ok st') : R st st' :=
  loop_rel (go := fun s l => elabStmts s cur l) (fun _ => rfl) (fun _ _ _ => rfl) refl trans l step h

theorem elabToks_rel {f : St → String → String → Except Err St} {cur : String} {l : List String}
    (step : ∀ t ∈ l, ∀ {a b}, f a cur t = Except.ok b → R a b)
    (h : elabToks f st cur l = Except.ok st') : R st st' :=
  loop_rel (go := fun s l => elabToks f s cur l) (fun _ => rfl) (fun _ _ _ => rfl) refl trans l step h

theorem elabHdrs_rel {cur : String} {l : List Hdr}
    (step : ∀ x ∈ l, ∀ {a b}, elabHdr a cur x = Except.ok b → R a b)
    (h : elabHdrs st cur l = Except.ok st') : R st st' :=
  loop_rel (go := fun s l => elabHdrs s cur l) (fun _ => rfl) (fun _ _ _ => rfl) refl trans l step h

theorem elabHdrs_words_rel {cur : String} {l : List Hdr}
    (inp : ∀ {a b t}, elabInput a cur t = Except.ok b → R a b)
    (out : ∀ {a b t}, elabOutput a cur t = Except.ok b → R a b)
    (clk : ∀ a l, R a (updDef a cur (fun d =>
      { d with clock := some ((match d.clock with | some c => c | none => []) ++ l) })))
    (h : elabHdrs st cur l = Except.ok st') : R st st' := by
  refine elabHdrs_rel refl trans (fun x _ a b h => ?_) h
  cases x with
  | inputs l => exact elabToks_rel refl trans (fun _ _ _ _ h => inp h) h
  | outputs l => exact elabToks_rel refl trans (fun _ _ _ _ h => out h) h
  | clock l => cases h; exact clk _ _

/-- `.latch` and `.names` prepare their definition by `addPort` only -/
theorem addLatchPorts_rel (step : ∀ a pn d w, R a (addPort a "generic-latch" pn d w)) (l : List String) :
    ∀ st : St, R st (addLatchPorts st l) := by
  induction l with
  | nil => exact refl
  | cons o r ih => exact fun st => trans (step st _ _ _) (ih _)

theorem addNamesPorts_rel {dn : String} (step : ∀ a pn d w, R a (addPort a dn pn d w)) (st : St) (k : Nat) :
    R st (addNamesPorts st dn k) := by
  have : ∀ (l : List Nat) (st : St), R st (l.foldl (fun st i => addPort st dn ("in_" ++ natStr i) Dir.inp 1) st) := by
    intro l
    induction l with
    | nil => exact refl
    | cons o r ih => exact fun st => trans (step st _ _ _) (ih _)
  exact trans (this _ st) (step _ _ _ _)

theorem elabModels_rel {l : List Model}
    (step : ∀ m ∈ l, ∀ {a b}, elabModel a m = Except.ok b → R a b)
    (h : elabModels st l = Except.ok st') : R st st' :=
  loop_rel (go := elabModels) (fun _ => rfl) (fun _ _ _ => rfl) refl trans l step h

end

structure Ext (st st' : St) : Prop where
  joined : ∀ p k, Joined st p k → Joined st' p k
  same : ∀ k1 k2, st.alias k1 = st.alias k2 → st'.alias k1 = st'.alias k2
  live : ∀ k, Live st k → Live st' k

theorem Ext.refl (st : St) : Ext st st := ⟨fun _ _ h => h, fun _ _ h => h, fun _ h => h⟩

theorem Ext.trans {a b c : St} (h1 : Ext a b) (h2 : Ext b c) : Ext a c :=
  ⟨fun p k h => h2.joined p k (h1.joined p k h), fun k1 k2 h => h2.same k1 k2 (h1.same k1 k2 h),
   fun k h => h2.live k (h1.live k h)⟩

def netFields (st : St) := (st.pins, st.alias, st.cables, st.width)

theorem Ext.of_fields {st st' : St} (h : netFields st' = netFields st) : Ext st st' := by
  simp only [netFields, Prod.mk.injEq] at h
  obtain ⟨hp, ha, hc, hw⟩ := h
  exact ⟨fun p k hj => by simpa [Joined, hp, ha] using hj, fun k1 k2 hk => by simpa [ha] using hk,
         fun k hl => by simpa [Live, hc, hw] using hl⟩

@[simp] theorem nf_ensureDef (st : St) (n : String) : netFields (ensureDef st n) = netFields st := by
  unfold ensureDef; split <;> rfl
@[simp] theorem nf_updDef (st : St) (n : String) (f : DefD → DefD) : netFields (updDef st n f) = netFields st := rfl
@[simp] theorem nf_appendPins (st : St) (n : String) (l) : netFields (appendPins st n l) = netFields st := rfl
@[simp] theorem nf_addPort (st : St) (dn pn : String) (d : Dir) (w : Nat) : netFields (addPort st dn pn d w) = netFields st := by
  unfold addPort; split <;> simp
@[simp] theorem nf_setDir (st : St) (dn pn : String) (d : Dir) : netFields (setDir st dn pn d) = netFields st := rfl
@[simp] theorem nf_growPort (st : St) (dn pn : String) (w : Nat) : netFields (growPort st dn pn w) = netFields st := by
  unfold growPort; simp only []; split <;> simp
@[simp] theorem nf_updInst (st : St) (i : Nat) (f : Inst → Inst) : netFields (updInst st i f) = netFields st := rfl
@[simp] theorem nf_assignDefault (st : St) (i : Nat) (p m : String) : netFields (assignDefault st i p m) = netFields st := rfl
@[simp] theorem nf_newInst (st : St) (p m t : String) : netFields (newInst st p m t).1 = netFields st := rfl
@[simp] theorem nf_checkHierarchy (st : St) (c d : String) : netFields (checkHierarchy st c d) = netFields st := by
  unfold checkHierarchy; split <;> rfl

theorem renameStrict_eq {st st' : St} {i : Nat} {p n : String} (h : renameStrict st i p n = Except.ok st') :
    st' = updInst st i (fun x => { x with name := n }) := by
  unfold renameStrict at h
  split at h
  · cases h
  · exact (Except.ok.inj h).symm

/-- a net-derived name is applied, or -- when taken -- the provisional name is given instead -/
theorem rename_cases {st st' : St} {i : Nat} {p n : String} (h : rename st i p n = Except.ok st') :
    st' = assignDefault st i p (match st.insts[i]? with | some x => x.model | none => "") ∨
    st' = updInst st i (fun x => { x with name := n }) := by
  unfold rename at h
  split at h
  · exact Or.inl (Except.ok.inj h).symm
  · exact Or.inr (Except.ok.inj h).symm

/-- `beginModel` is `ensureDef`, the `declared` flag, and a change of `top`, `nlName` and `counters` -/
theorem beginModel_eq (st : St) (n : String) : ∃ t nl, beginModel st n =
    { updDef (ensureDef st n) n (fun d => { d with declared := true }) with top := t, nlName := nl, counters := [] } := by
  unfold beginModel
  simp only []
  split <;> exact ⟨_, _, rfl⟩

theorem beginModel_rel {R : St → St → Prop} (trans : ∀ {a b c}, R a b → R b c → R a c) {n : String}
    (ens : ∀ a, R a (ensureDef a n)) (decl : ∀ a, R a (updDef a n (fun d => { d with declared := true })))
    (rest : ∀ a t nl, R a { a with top := t, nlName := nl, counters := [] }) (st : St) : R st (beginModel st n) := by
  obtain ⟨t, nl, e⟩ := beginModel_eq st n
  rw [e]
  exact trans (ens _) (trans (decl _) (rest _ _ _))

theorem nf_beginModel (st : St) (t : String) : netFields (beginModel st t) = netFields st :=
  beginModel_rel (R := Same netFields) Same.trans (nf_ensureDef · t) (nf_updDef · t _) (fun _ _ _ => rfl) st

theorem ext_ensureCable (st : St) (o n : String) : Ext st (ensureCable st o n) := by
  unfold ensureCable
  split
  · exact Ext.refl st
  · refine ⟨fun _ _ h => h, fun _ _ h => h, fun k hl => ?_⟩
    exact ⟨by simp [hl.1], hl.2⟩

theorem ensureCable_mem (st : St) (o n : String) : (o, n) ∈ (ensureCable st o n).cables := by
  unfold ensureCable
  split
  · assumption
  · simp

theorem ext_ensureWire (st : St) (o n : String) (i : Nat) : Ext st (ensureWire st o n i) := by
  unfold ensureWire
  simp only []
  split
  · exact ext_ensureCable st o n
  · refine Ext.trans (ext_ensureCable st o n) ⟨fun _ _ h => h, fun _ _ h => h, fun k hl => ?_⟩
    refine ⟨hl.1, ?_⟩
    simp only [upd]
    split
    · rename_i hlt hk
      have h2 := hl.2
      rw [hk] at h2
      omega
    · exact hl.2

theorem ensureWire_live (st : St) (o n : String) (i : Nat) : Live (ensureWire st o n i) (o, n, i) := by
  unfold ensureWire
  simp only []
  split
  · rename_i h; exact ⟨ensureCable_mem st o n, by simp only []; omega⟩
  · exact ⟨ensureCable_mem st o n, by simp [upd]⟩

theorem ext_connect (st : St) (p : Pin) (o n : String) (i : Nat) : Ext st (connect st p o n i) := by
  unfold connect
  refine Ext.trans (ext_ensureWire st o n i) ⟨fun q k h => ?_, fun _ _ h => h, fun _ h => h⟩
  simp only [Joined, upd] at *
  split
  · rename_i hk; rw [hk] at h; simp [h]
  · exact h

/-- `connect_pin_to_wire`: afterwards the pin is on the wire of the named bit, whose cable exists -/
theorem connect_joins (st : St) (p : Pin) (o n : String) (i : Nat) :
    Joined (connect st p o n i) p (o, n, i) ∧ Live (connect st p o n i) (o, n, i) := by
  unfold connect
  exact ⟨by simp [Joined, upd], ensureWire_live st o n i⟩

/-- what one `.conn ka kb` does to the alias table -/
def aliasStep (A : Key → Key) (ka kb : Key) : Key → Key := fun k => if A k = A kb then A ka else A k

theorem alias_mergeKeys (st : St) (ka kb : Key) : (mergeKeys st ka kb).alias = aliasStep st.alias ka kb := by
  unfold mergeKeys aliasStep
  simp only []
  split
  · rename_i h
    funext k
    by_cases hk : st.alias k = st.alias kb
    · simp only [hk, if_true]; exact h.symm
    · simp [hk]
  · rfl

/-- ... and to the wires: `kb`'s wire is emptied onto `ka`'s -/
theorem pins_mergeKeys (st : St) (ka kb k : Key) :
    (mergeKeys st ka kb).pins k =
      if st.alias ka = st.alias kb then st.pins k
      else if k = st.alias kb then []
      else if k = st.alias ka then st.pins (st.alias ka) ++ st.pins (st.alias kb) else st.pins k := by
  unfold mergeKeys
  simp only []
  split
  · rfl
  · simp only [upd]

theorem ext_mergeKeys (st : St) (ka kb : Key) : Ext st (mergeKeys st ka kb) := by
  refine ⟨fun q k h => ?_, fun k1 k2 h => by simp only [alias_mergeKeys, aliasStep, h], fun k h => ?_⟩
  · unfold Joined at *
    rw [alias_mergeKeys, pins_mergeKeys]
    simp only [aliasStep]
    by_cases he : st.alias ka = st.alias kb
    · simp only [he, if_true]; split
      · rename_i h1; rw [← h1]; exact h
      · exact h
    · simp only [he, if_false]
      by_cases h1 : st.alias k = st.alias kb
      · simp only [h1, if_true, he, if_false, List.mem_append]; exact Or.inr (h1 ▸ h)
      · simp only [h1, if_false]
        by_cases h2 : st.alias k = st.alias ka
        · simp only [h2, if_true, List.mem_append]; exact Or.inl (h2 ▸ h)
        · simp only [h2, if_false]; exact h
  · unfold mergeKeys; simp only []; split <;> exact h

theorem mergeKeys_alias (st : St) (ka kb : Key) :
    (mergeKeys st ka kb).alias ka = (mergeKeys st ka kb).alias kb := by
  simp only [alias_mergeKeys, aliasStep, if_true]
  split
  · rfl
  · rfl

/-- one `formal -> actual` entry: an `unconn` actual is only noted on the instance; any other is connected,
    the port widened first -/
theorem connectOne_eq {st st' : St} {idx : Nat} {parent model : String} {fa : String × String}
    (h : connectOne st idx parent model fa = Except.ok st') :
    ∃ cn ci pn pi, splitIdx fa.2 = Except.ok (cn, ci) ∧ splitIdx fa.1 = Except.ok (pn, pi) ∧
      ((cn = "unconn" ∧
          st' = updInst st idx (fun i => { i with unconn := i.unconn ++ [pn ++ "[" ++ natStr pi ++ "]"] })) ∨
       (cn ≠ "unconn" ∧ hasPort st model pn = true ∧
          st' = connect (growPort st model pn (pi + 1)) (Pin.inst idx pn pi) parent cn ci)) := by
  obtain ⟨⟨cn, ci⟩, h1, h⟩ := bind_ok (show (splitIdx fa.2 >>= _) = _ from h)
  obtain ⟨⟨pn, pi⟩, h2, h⟩ := bind_ok h
  refine ⟨cn, ci, pn, pi, h1, h2, ?_⟩
  by_cases hu : cn = "unconn"
  · exact Or.inl ⟨hu, (Except.ok.inj ((if_pos hu).symm.trans h)).symm⟩
  · have h := (if_neg hu).symm.trans h
    by_cases hp : (!hasPort st model pn) = true
    · cases (if_pos hp).symm.trans h
    · exact Or.inr ⟨hu, by simpa using hp, (Except.ok.inj ((if_neg hp).symm.trans h)).symm⟩

theorem growPort_of_le {st : St} {dn pn : String} {w : Nat} (h : w ≤ portWidth st dn pn) : growPort st dn pn w = st := by
  unfold growPort; simp only []; rw [if_pos h]

/-- declaring one formal: the port is created on demand and widened up to the formal's index; the test on the
    width that `declFormal` makes is the one `growPort` makes itself -/
theorem declFormal_iff {st st' : St} {model : String} {fa : String × String} :
    declFormal st model fa = Except.ok st' ↔
    ∃ pn pi, splitIdx fa.1 = Except.ok (pn, pi) ∧ st' = growPort (addPort st model pn Dir.undef 0) model pn (pi + 1) := by
  have e : ∀ pn pi, (if pi + 1 ≤ portWidth (addPort st model pn Dir.undef 0) model pn then addPort st model pn Dir.undef 0
      else growPort (addPort st model pn Dir.undef 0) model pn (pi + 1)) =
      growPort (addPort st model pn Dir.undef 0) model pn (pi + 1) := by
    intro pn pi
    split
    · rename_i hw; exact (growPort_of_le hw).symm
    · rfl
  constructor
  · intro h
    obtain ⟨⟨pn, pi⟩, hs, h⟩ := bind_ok (show (splitIdx fa.1 >>= _) = _ from h)
    exact ⟨pn, pi, hs, ((e pn pi).symm.trans (Except.ok.inj h)).symm⟩
  · rintro ⟨pn, pi, hs, rfl⟩
    unfold declFormal
    rw [hs]
    exact congrArg Except.ok (e pn pi)

theorem nf_rename {st st' : St} {i : Nat} {p n : String} (h : rename st i p n = Except.ok st') :
    netFields st' = netFields st := by
  rcases rename_cases h with rfl | rfl <;> simp

theorem nf_declFormals {model : String} (l : List (String × String)) {st st' : St}
    (h : declFormals st model l = Except.ok st') : netFields st' = netFields st := by
  refine declFormals_rel (Same.refl netFields) Same.trans (fun fa _ a b h => ?_) h
  obtain ⟨pn, pi, _, rfl⟩ := declFormal_iff.mp h
  simp [Same]

theorem nf_applyInfo {idx : Nat} {parent : String} (l : List InfoStmt) {st st' : St}
    (h : applyInfo st idx parent l = Except.ok st') : netFields st' = netFields st := by
  refine applyInfo_rel (Same.refl netFields) Same.trans (fun x _ a b h => ?_) h
  cases x with
  | cname n =>
    have h : renameStrict (updInst a idx fun i => { i with cname := some n }) idx parent n = Except.ok b := h
    rw [renameStrict_eq h]; rfl
  | attr k v => cases h; rfl
  | param k v => cases h; rfl

theorem nf_addLatchPorts (l : List String) (st : St) : netFields (addLatchPorts st l) = netFields st :=
  addLatchPorts_rel (Same.refl netFields) Same.trans (nf_addPort · _ · · ·) l st

@[simp] theorem nf_addNamesPorts (st : St) (dn : String) (k : Nat) : netFields (addNamesPorts st dn k) = netFields st :=
  addNamesPorts_rel (Same.refl netFields) Same.trans (nf_addPort · dn · · ·) st k

@[simp] theorem len_ensureDef (st : St) (n : String) : (ensureDef st n).insts.length = st.insts.length := by
  unfold ensureDef; split <;> rfl
@[simp] theorem len_updDef (st : St) (n : String) (f : DefD → DefD) : (updDef st n f).insts.length = st.insts.length := rfl
@[simp] theorem len_appendPins (st : St) (n : String) (l) : (appendPins st n l).insts.length = st.insts.length := by
  simp [appendPins]
@[simp] theorem len_addPort (st : St) (dn pn : String) (d : Dir) (w : Nat) : (addPort st dn pn d w).insts.length = st.insts.length := by
  unfold addPort; split <;> simp
@[simp] theorem len_growPort (st : St) (dn pn : String) (w : Nat) : (growPort st dn pn w).insts.length = st.insts.length := by
  unfold growPort; simp only []; split <;> simp
@[simp] theorem len_checkHierarchy (st : St) (c d : String) : (checkHierarchy st c d).insts.length = st.insts.length := by
  unfold checkHierarchy; split <;> rfl

theorem len_declFormals {model : String} (l : List (String × String)) {st st' : St}
    (h : declFormals st model l = Except.ok st') : st'.insts.length = st.insts.length := by
  refine declFormals_rel (Same.refl fun s => s.insts.length) Same.trans (fun fa _ a b h => ?_) h
  obtain ⟨pn, pi, _, rfl⟩ := declFormal_iff.mp h
  simp [Same]

theorem len_addLatchPorts (l : List String) (st : St) : (addLatchPorts st l).insts.length = st.insts.length :=
  addLatchPorts_rel (Same.refl fun s => s.insts.length) Same.trans (len_addPort · _ · · ·) l st

@[simp] theorem len_addNamesPorts (st : St) (dn : String) (k : Nat) :
    (addNamesPorts st dn k).insts.length = st.insts.length :=
  addNamesPorts_rel (Same.refl fun s => s.insts.length) Same.trans (len_addPort · dn · · ·) st k

theorem elabStmt_conn_cases {st st' : St} {cur a b : String} (h : elabStmt st cur (Stmt.conn a b) = Except.ok st') :
    ∃ n1 i1 n2 i2, splitIdx a = Except.ok (n1, i1) ∧ splitIdx b = Except.ok (n2, i2) ∧
      st' = mergeKeys (ensureWire (ensureWire st cur n1 i1) cur n2 i2) (cur, n1, i1) (cur, n2, i2) := by
  unfold elabStmt at h
  obtain ⟨⟨n1, i1⟩, e1, h⟩ := bind_ok h
  obtain ⟨⟨n2, i2⟩, e2, h⟩ := bind_ok h
  exact ⟨n1, i1, n2, i2, e1, e2, (Except.ok.inj h).symm⟩

theorem elabStmt_blackbox_eq {st st' : St} {cur : String} (h : elabStmt st cur Stmt.blackbox = Except.ok st') :
    st' = updDef (clearOwner st cur) cur (fun d => { d with blackbox := true }) :=
  (Except.ok.inj h).symm

/-- a header that begins as the writer's does, with one `.inputs` and one `.outputs` line -/
theorem elabHdrs_io_iff {st st' : St} {cur : String} {iw ow : List String} {rest : List Hdr} :
    elabHdrs st cur (Hdr.inputs iw :: Hdr.outputs ow :: rest) = Except.ok st' ↔
      ∃ s1 s2, elabToks elabInput st cur iw = Except.ok s1 ∧ elabToks elabOutput s1 cur ow = Except.ok s2 ∧
        elabHdrs s2 cur rest = Except.ok st' := by
  constructor
  · intro h
    obtain ⟨s1, h1, h⟩ := bind_ok (show (elabToks elabInput st cur iw >>= _) = _ from h)
    obtain ⟨s2, h2, h⟩ := bind_ok (show (elabToks elabOutput s1 cur ow >>= _) = _ from h)
    exact ⟨s1, s2, h1, h2, h⟩
  · rintro ⟨s1, s2, h1, h2, h⟩
    simp only [elabHdrs, elabHdr, h1, h2, bind, Except.bind]
    exact h

theorem elabInput_cases {st st' : St} {cur tok : String} (h : elabInput st cur tok = Except.ok st') :
    ∃ pn pi, splitIdx tok = Except.ok (pn, pi) ∧
      st' = connect (growPort (if hasPort st cur pn then setDir st cur pn Dir.inp else addPort st cur pn Dir.inp 0)
        cur pn (pi + 1)) (Pin.top cur pn pi) cur pn pi := by
  unfold elabInput at h
  obtain ⟨⟨pn, pi⟩, e, h⟩ := bind_ok h
  exact ⟨pn, pi, e, (Except.ok.inj h).symm⟩

theorem elabInput_eq {st : St} {cur tok pn : String} {pi : Nat} (hs : splitIdx tok = Except.ok (pn, pi)) :
    elabInput st cur tok = Except.ok (connect (growPort (if hasPort st cur pn then setDir st cur pn Dir.inp
      else addPort st cur pn Dir.inp 0) cur pn (pi + 1)) (Pin.top cur pn pi) cur pn pi) := by
  unfold elabInput; rw [hs]; rfl

/-- `.outputs word`, the word not naming an input port: the port is created on demand, made OUT, widened, its pin joined -/
theorem elabOutput_out {st : St} {cur tok pn : String} {pi : Nat} (hs : splitIdx tok = Except.ok (pn, pi))
    (hd : ¬ (portDir (addPort st cur pn Dir.out 0) cur pn = Dir.inp ∨ portDir (addPort st cur pn Dir.out 0) cur pn = Dir.inout)) :
    elabOutput st cur tok = Except.ok (connect (growPort (setDir (addPort st cur pn Dir.out 0) cur pn Dir.out) cur pn (pi + 1))
      (Pin.top cur pn pi) cur pn pi) := by
  unfold elabOutput
  rw [hs]
  exact if_neg (by simpa using hd)

/-- `.outputs word`: a word that names an input port makes it INOUT and joins nothing -/
theorem elabOutput_cases {st st' : St} {cur tok : String} (h : elabOutput st cur tok = Except.ok st') :
    ∃ pn pi sA, splitIdx tok = Except.ok (pn, pi) ∧ sA = addPort st cur pn Dir.out 0 ∧
      (((portDir sA cur pn = Dir.inp ∨ portDir sA cur pn = Dir.inout) ∧
          st' = growPort (setDir sA cur pn Dir.inout) cur pn (pi + 1)) ∨
       (portDir sA cur pn ≠ Dir.inp ∧ portDir sA cur pn ≠ Dir.inout ∧
          st' = connect (growPort (setDir sA cur pn Dir.out) cur pn (pi + 1)) (Pin.top cur pn pi) cur pn pi)) := by
  unfold elabOutput at h
  obtain ⟨⟨pn, pi⟩, e, h⟩ := bind_ok h
  refine ⟨pn, pi, _, e, rfl, ?_⟩
  simp only [] at h
  split at h
  · rename_i hd
    exact Or.inl ⟨by simpa using hd, (Except.ok.inj h).symm⟩
  · rename_i hd
    have hd' : ¬(portDir (addPort st cur pn Dir.out 0) cur pn = Dir.inp ∨
        portDir (addPort st cur pn Dir.out 0) cur pn = Dir.inout) := by simpa using hd
    exact Or.inr ⟨fun h => hd' (Or.inl h), fun h => hd' (Or.inr h), (Except.ok.inj h).symm⟩

end Spydr.Eblif
