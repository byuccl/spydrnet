/-
  Elaborating the black-box models written after the top model changes nothing the round-trip view
  looks at: instance kinds, instance data, the pins of every net bit, the ports of the top model; and
  they cannot fail (`bb_models_ok`).  `NamesOK`, `BBPlain`: the hypotheses of write-then-read that do
  not depend on the fragment.
-/
import Spydr.Eblif.ExactModels
import Spydr.Eblif.HeaderPorts
import Spydr.Eblif.ReadOk

namespace Spydr.Eblif

theorem joins_owner_in (cur tok : String) : ∀ x ∈ inJoin cur tok, x.2.1 = cur := by
  intro x hx
  unfold inJoin at hx
  split at hx
  · simp only [List.mem_singleton] at hx; subst hx; rfl
  · cases hx

theorem joins_owner_out (st : St) (cur tok : String) : ∀ x ∈ outJoin st cur tok, x.2.1 = cur := by
  intro x hx
  unfold outJoin at hx
  split at hx
  · split at hx
    · cases hx
    · simp only [List.mem_singleton] at hx; subst hx; rfl
  · cases hx

theorem toksAcc_shape (isOut : Bool) (cur : String) (l : List String) :
    ∀ (st : St) (J : List (Pin × Key)), ∃ X, toksAcc isOut cur st J l = J ++ X ∧ ∀ x ∈ X, x.2.1 = cur := by
  induction l with
  | nil => intro st J; exact ⟨[], by simp [toksAcc], fun x h => by cases h⟩
  | cons w r ih =>
    intro st J
    have hown : ∀ x ∈ (if isOut then outJoin st cur w else inJoin cur w), x.2.1 = cur := by
      intro x hx
      split at hx
      · exact joins_owner_out st cur w x hx
      · exact joins_owner_in cur w x hx
    simp only [toksAcc]
    split
    · rename_i st1 _
      obtain ⟨X, hX, hXo⟩ := ih st1 (J ++ (if isOut then outJoin st cur w else inJoin cur w))
      refine ⟨(if isOut then outJoin st cur w else inJoin cur w) ++ X, by rw [hX]; simp, ?_⟩
      intro x hx
      rcases List.mem_append.mp hx with h | h
      · exact hown x h
      · exact hXo x h
    · exact ⟨_, rfl, hown⟩

theorem hdrsAcc_shape (cur : String) (l : List Hdr) :
    ∀ (st : St) (J : List (Pin × Key)), ∃ X, hdrsAcc cur st J l = J ++ X ∧ ∀ x ∈ X, x.2.1 = cur := by
  induction l with
  | nil => intro st J; exact ⟨[], by simp [hdrsAcc], fun x h => by cases h⟩
  | cons h r ih =>
    intro st J
    have h1 : ∃ X, hdrAcc cur st J h = J ++ X ∧ ∀ x ∈ X, x.2.1 = cur := by
      cases h with
      | inputs l => exact toksAcc_shape false cur l st J
      | outputs l => exact toksAcc_shape true cur l st J
      | clock l => exact ⟨[], by simp [hdrAcc], fun x hx => by cases hx⟩
    obtain ⟨X1, e1, o1⟩ := h1
    simp only [hdrsAcc]
    split
    · rename_i st1 _
      obtain ⟨X2, e2, o2⟩ := ih st1 (hdrAcc cur st J h)
      refine ⟨X1 ++ X2, by rw [e2, e1]; simp, ?_⟩
      intro x hx
      rcases List.mem_append.mp hx with h' | h'
      · exact o1 x h'
      · exact o2 x h'
    · exact ⟨X1, e1, o1⟩

theorem filter_other_owner (J X : List (Pin × Key)) (t cur : String) (hJ : ∀ e ∈ J, e.2.1 = t) (hne : cur ≠ t)
    (hX : ∀ x ∈ X, x.2.1 = cur) : (J ++ X).filter (fun x => x.2.1 ≠ cur) = J := by
  rw [List.filter_append]
  have h1 : J.filter (fun x => x.2.1 ≠ cur) = J := by
    rw [List.filter_eq_self]
    intro e he
    simp only [ne_eq, decide_not, Bool.not_eq_true']
    simpa using (fun h => hne ((hJ e he) ▸ h).symm)
  have h2 : X.filter (fun x => x.2.1 ≠ cur) = [] := by
    rw [List.filter_eq_nil_iff]
    intro x hx
    simp [hX x hx]
  rw [h1, h2]; simp

/-- invariants of the state after the top model that the black-box models keep -/
structure TopInv (t : String) (J : List (Pin × Key)) (st : St) : Prop where
  rinv : RInv st
  ex : Exact st J
  dex : DefEx st t

theorem alias_of_nf {a b : St} (h : netFields b = netFields a) : b.alias = a.alias := by
  simp only [netFields, Prod.mk.injEq] at h
  exact h.2.1

theorem alias_netInv0 (A : Key → Key) : NetInv0 (fun s => s.alias = A) :=
  ⟨fun h p => (alias_of_nf h).trans p, fun p _ _ _ _ => (alias_connect _ _ _ _ _).trans p⟩

/-- a written black-box model: its `.inputs` words, its `.outputs` words, then `.blackbox` -/
theorem elabModel_bb_cases {s s' : St} {d : DefD} (h : elabModel s (bbModel d) = Except.ok s') :
    ∃ sa sh, elabToks elabInput (beginModel s d.name) d.name ((d.ports.filter (fun p => p.dir = Dir.inp)).map (·.name)) = Except.ok sa ∧
      elabToks elabOutput sa d.name ((d.ports.filter (fun p => p.dir = Dir.out)).map (·.name)) = Except.ok sh ∧
      elabHdrs (beginModel s d.name) d.name (bbModel d).hdr = Except.ok sh ∧
      s' = updDef (clearOwner sh d.name) d.name (fun x => { x with blackbox := true }) := by
  obtain ⟨sh, hh, hb⟩ := bind_ok (show (elabHdrs (beginModel s d.name) d.name (bbModel d).hdr >>= fun x =>
    elabStmts x d.name [Stmt.blackbox]) = _ from h)
  obtain ⟨s2, h2, hb⟩ := bind_ok (show (elabStmt sh d.name Stmt.blackbox >>= fun x => elabStmts x d.name []) = _ from hb)
  obtain ⟨sa, _, hin, hout, hnil⟩ := elabHdrs_io_iff.mp hh
  cases hnil
  exact ⟨sa, sh, hin, hout, hh, (elabStmt_blackbox_eq h2).symm ▸ (Except.ok.inj hb).symm⟩

/-- the same when `.conn` lines have given the top model's bits an alias table `A` (the identity
    on every other bit); `TopInv` is the case `A = id` (`topInv_iff`) -/
def TopInvF (t : String) (J : List (Pin × Key)) (A : Key → Key) (st : St) : Prop :=
  LInv st ∧ Exact st J ∧ DefEx st t ∧ (∀ k, k.1 = t → st.alias k = A k) ∧ ∀ k, k.1 ≠ t → st.alias k = k

theorem findDef_other_bbmodel {s s' : St} {d : DefD} {m : String} (hne : m ≠ d.name)
    (h : elabModel s (bbModel d) = Except.ok s') : findDef s' m = findDef s m := by
  obtain ⟨_, sh, _, _, hh, rfl⟩ := elabModel_bb_cases h
  rw [← findDef_beginModel hne s, ← (Run.elabHdrs (idx := 0) hh).findDef hne]
  exact findDef_updDef_other hne (clearOwner sh d.name) _ (fun _ => rfl)

/-- **Frame of a black-box model.**  A model `d ≠ t` whose body is `.blackbox` creates no instance, touches no
    instance data and leaves the ports of `t` alone: its header edits `d`'s own definition only. -/
theorem bbModel_frame {t : String} {d : DefD} (hne : t ≠ d.name) {s s' : St} (hd : DefEx s t)
    (h : elabModel s (bbModel d) = Except.ok s') :
    Fr t s s' ∧ instKinds s' = instKinds s ∧ ∀ j, dataAt s' j = dataAt s j := by
  refine ⟨fr_of_findDef hd (findDef_other_bbmodel hne h), ?_⟩
  obtain ⟨_, sh, _, _, hh, rfl⟩ := elabModel_bb_cases h
  exact ⟨by rw [ik_updDef, ik_clearOwner, ik_elabHdrs hh, ik_beginModel],
    fun j => (data_elabHdrs _ hh j).trans (data_beginModel _ _ _)⟩

theorem bb_model_stepF (t : String) (J : List (Pin × Key)) (A : Key → Key) (hJ : ∀ e ∈ J, e.2.1 = t) (d : DefD)
    (hne : d.name ≠ t) {s s' : St} (inv : TopInvF t J A s) (h : elabModel s (bbModel d) = Except.ok s') :
    TopInvF t J A s' ∧ instKinds s' = instKinds s ∧ (∀ j, dataAt s' j = dataAt s j) ∧ portsOf s' t = portsOf s t := by
  have hne' : t ≠ d.name := fun e => hne e.symm
  obtain ⟨fall, hik, hdata⟩ := bbModel_frame hne' inv.2.2.1 h
  obtain ⟨_, sh, _, _, hh, rfl⟩ := elabModel_bb_cases h
  simp only [bbModel] at hh
  have rh : LInv sh := linv_netInv.elabHdrs _ (LInv.of_fields (nf_beginModel _ _) inv.1) hh
  have hal : sh.alias = s.alias := (alias_netInv0 s.alias).elabHdrs _ (alias_of_nf (nf_beginModel _ _)) hh
  refine ⟨⟨LInv.of_fields (nf_updDef _ _ _) ⟨wf_clearOwner rh.wf d.name, pinsLive_clearOwner rh.pl d.name⟩, ?_, fall.2,
    fun k hk => ?_, fun k hk => ?_⟩, hik, hdata, fall.1⟩
  · -- the header's joins belong to `d`, which `.blackbox` strips again
    have eh := exact_elabHdrs_all _ (Exact.of_pa (pa_of_nf (nf_beginModel _ _)) inv.2.1) hh
    obtain ⟨X, hX, hXo⟩ := hdrsAcc_shape d.name
      [Hdr.inputs ((d.ports.filter (fun p => p.dir = Dir.inp)).map (·.name)),
       Hdr.outputs ((d.ports.filter (fun p => p.dir = Dir.out)).map (·.name))] (beginModel s d.name) J
    rw [hX] at eh
    have ec := exact_clearOwner rh.wf eh d.name
    rw [filter_other_owner J X t d.name hJ hne hXo] at ec
    exact Exact.of_pa (pa_of_nf (nf_updDef _ _ _)) ec
  · have hkd : ¬ k.1 = d.name := by rw [hk]; exact hne'
    show (clearOwner sh d.name).alias k = A k
    simp only [clearOwner, hkd, if_false]
    rw [hal]; exact inv.2.2.2.1 k hk
  · show (clearOwner sh d.name).alias k = k
    simp only [clearOwner]
    split
    · rfl
    · rw [hal]; exact inv.2.2.2.2 k hk

theorem bb_models_foldF (t : String) (J : List (Pin × Key)) (A : Key → Key) (hJ : ∀ e ∈ J, e.2.1 = t) (ds : List DefD)
    (hne : ∀ d ∈ ds, d.name ≠ t) :
    ∀ {s s' : St}, TopInvF t J A s → elabModels s (ds.map bbModel) = Except.ok s' →
      TopInvF t J A s' ∧ instKinds s' = instKinds s ∧ (∀ j, dataAt s' j = dataAt s j) ∧ portsOf s' t = portsOf s t := by
  induction ds with
  | nil => intro s s' inv h; cases h; exact ⟨inv, rfl, fun _ => rfl, rfl⟩
  | cons d r ih =>
    intro s s' inv h
    simp only [List.map_cons] at h
    unfold elabModels at h
    obtain ⟨s1, h1, h2⟩ := bind_ok h
    obtain ⟨i1, k1, d1, p1⟩ := bb_model_stepF t J A hJ d (hne d (by simp)) inv h1
    obtain ⟨i2, k2, d2, p2⟩ := ih (fun x hx => hne x (by simp [hx])) i1 h2
    exact ⟨i2, k2.trans k1, fun j => (d2 j).trans (d1 j), p2.trans p1⟩

theorem topInv_iff (t : String) (J : List (Pin × Key)) (s : St) : TopInv t J s ↔ TopInvF t J id s :=
  ⟨fun i => ⟨⟨i.rinv.wf, i.rinv.pl⟩, i.ex, i.dex, fun k _ => by rw [i.rinv.aid], fun k _ => by rw [i.rinv.aid]; rfl⟩,
   fun i => ⟨⟨i.1.wf, i.1.pl, funext fun k => by
      by_cases h : k.1 = t
      · exact i.2.2.2.1 k h
      · exact i.2.2.2.2 k h⟩, i.2.1, i.2.2.1⟩⟩

theorem onNet_of_cables {a b : BNet} (h : a.cables = b.cables) (x : Pin) (k : Key) : OnNet a x k ↔ OnNet b x k := by
  unfold OnNet; rw [h]

theorem elabModels_append (a b : List Model) :
    ∀ st, elabModels st (a ++ b) = (elabModels st a >>= fun s => elabModels s b) :=
  loop_append (go := elabModels) (fun _ => rfl) (fun _ _ _ => rfl) a b

theorem portsOf_beginModel_empty (t : String) : portsOf (beginModel {} t) t = [] := by
  simp [portsOf, beginModel, ensureDef, findDef, updDef]

/-- written instance names are pairwise different when `.cname` lines are written -/
def NamesOK (o : Opts) (n : BNet) : Prop := o.writeCname = true → (n.insts.map (·.name)).Nodup

instance (o : Opts) (n : BNet) : Decidable (NamesOK o n) := by unfold NamesOK; infer_instance

theorem bb_models_ok (ds : List DefD) (hds : ∀ d ∈ ds, ∀ p ∈ d.ports, plainName p.name ∧ p.name.toList ≠ []) :
    ∀ s : St, ∃ s', elabModels s (ds.map bbModel) = Except.ok s' := by
  induction ds with
  | nil => intro s; exact ⟨s, rfl⟩
  | cons d r ih =>
    intro s
    have hw : ∀ (P : List PortD), (∀ p ∈ P, p ∈ d.ports) → ∀ w ∈ P.map (·.name), ∃ pn pi, splitIdx w = Except.ok (pn, pi) := by
      intro P hP w hwm
      obtain ⟨p, hp, rfl⟩ := List.mem_map.mp hwm
      obtain ⟨h1, h2⟩ := hds d (by simp) p (hP p hp)
      exact ⟨p.name, 0, splitIdx_plain _ h1 h2⟩
    obtain ⟨s1, h1⟩ := elabToks_ok elabInput elabInput_ok d.name _
      (hw (d.ports.filter (fun p => p.dir = Dir.inp)) (fun p hp => (List.mem_filter.mp hp).1)) (beginModel s d.name)
    obtain ⟨s2, h2⟩ := elabToks_ok elabOutput elabOutput_ok d.name _
      (hw (d.ports.filter (fun p => p.dir = Dir.out)) (fun p hp => (List.mem_filter.mp hp).1)) s1
    obtain ⟨s3, h3⟩ := ih (fun x hx => hds x (by simp [hx]))
      (updDef (clearOwner s2 d.name) d.name (fun x => { x with blackbox := true }))
    refine ⟨s3, ?_⟩
    simp only [List.map_cons, elabModels]
    have hm : elabModel s (bbModel d) = Except.ok (updDef (clearOwner s2 d.name) d.name (fun x => { x with blackbox := true })) := by
      unfold elabModel
      simp only [bbModel, elabHdrs, elabHdr, h1, h2, bind, Except.bind, pure, Except.pure, elabStmts, elabStmt]
    rw [hm]; exact h3

/-- black-box definitions written after the top model have plain port names -/
def BBPlain (n : BNet) (t : String) : Prop := ∀ d ∈ bbDefs n t, d.name ≠ t ∧ ∀ p ∈ d.ports, plainName p.name

instance (n : BNet) (t : String) : Decidable (BBPlain n t) := by unfold BBPlain; infer_instance

theorem FragP.bbDefs {o : Opts} {n : BNet} {t : String} (hf : FragP o n t) (hwb : o.writeBlackbox = true) :
    bbDefs n t = [] := by
  have h := hf.bbPart
  unfold Spydr.Eblif.bbPart at h
  rw [if_pos hwb] at h
  exact List.map_eq_nil_iff.mp h

end Spydr.Eblif
