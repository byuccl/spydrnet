/-
  Syntactic functions of a statement: whether it creates an instance, of which definition, of which
  `EBLIF.type`, with which info lines.
-/
import Spydr.Eblif.Spec

namespace Spydr.Eblif

def Stmt.isInstance : Stmt → Bool
  | Stmt.conn _ _ => false
  | Stmt.blackbox => false
  | _ => true

/-- the definition an instance statement instantiates -/
def stmtModel : Stmt → String
  | Stmt.subckt _ m _ _ => m
  | Stmt.names nets _ _ => "logic-gate_" ++ natStr (nets.length - 1)
  | Stmt.latch _ _ => "generic-latch"
  | _ => ""

def stmtTyp : Stmt → String
  | Stmt.subckt gate _ _ _ => if gate then "EBLIF.gate" else "EBLIF.subckt"
  | Stmt.names _ _ _ => "EBLIF.names"
  | Stmt.latch _ _ => "EBLIF.latch"
  | _ => ""

def stmtInfo : Stmt → List InfoStmt
  | Stmt.subckt _ _ _ info => info
  | Stmt.names _ _ info => info
  | Stmt.latch _ info => info
  | _ => []

end Spydr.Eblif
