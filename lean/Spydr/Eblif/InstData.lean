/-
  Instance data (`.cname/.attr/.param`): what every step of the elaborator does to it,
  and that later statements leave the data of earlier instances alone.
-/
import Spydr.Eblif.InstKinds

namespace Spydr.Eblif

theorem getElem?_updIdx (l : List Inst) (idx j : Nat) (f : Inst → Inst) :
    (l.zipIdx.map (fun (p : Inst × Nat) => if p.2 = idx then f p.1 else p.1))[j]? =
      (l[j]?).map (fun i => if j = idx then f i else i) := by
  rw [List.getElem?_map, List.getElem?_zipIdx]
  cases l[j]? <;> simp

theorem info_updInst (st : St) (idx j : Nat) (f : Inst → Inst) (hf : ∀ i, infoOf (f i) = infoOf i) :
    ((updInst st idx f).insts[j]?).map infoOf = (st.insts[j]?).map infoOf := by
  simp only [updInst, getElem?_updIdx]
  cases st.insts[j]? with
  | none => rfl
  | some i => simp only [Option.map_some]; split <;> simp [hf]

theorem info_updInst_at (st : St) (idx : Nat) (f : Inst → Inst) :
    (updInst st idx f).insts[idx]? = (st.insts[idx]?).map f := by
  simp only [updInst, getElem?_updIdx]
  cases st.insts[idx]? <;> simp

theorem info_appendPins (st : St) (n : String) (l : List (String × Nat)) (j : Nat) :
    ((appendPins st n l).insts[j]?).map infoOf = (st.insts[j]?).map infoOf := by
  simp only [appendPins, List.getElem?_map]
  cases st.insts[j]? with
  | none => rfl
  | some i => simp only [Option.map_some]; split <;> rfl

def dataAt (st : St) (j : Nat) := (st.insts[j]?).map infoOf

theorem data_of_insts {a b : St} (h : b.insts = a.insts) (j : Nat) : dataAt b j = dataAt a j := by
  simp [dataAt, h]

theorem data_addPort (st : St) (dn pn : String) (d : Dir) (w j : Nat) : dataAt (addPort st dn pn d w) j = dataAt st j := by
  unfold addPort; split
  · rfl
  · exact info_appendPins _ _ _ _

theorem data_growPort (st : St) (dn pn : String) (w j : Nat) : dataAt (growPort st dn pn w) j = dataAt st j := by
  unfold growPort; simp only []; split
  · rfl
  · exact info_appendPins _ _ _ _

theorem data_ensureCable (st : St) (o n : String) (j : Nat) : dataAt (ensureCable st o n) j = dataAt st j := by
  unfold ensureCable; split <;> rfl
theorem data_ensureWire (st : St) (o n : String) (i j : Nat) : dataAt (ensureWire st o n i) j = dataAt st j := by
  unfold ensureWire; simp only []; split
  · exact data_ensureCable st o n j
  · exact data_ensureCable st o n j
theorem data_connect (st : St) (p : Pin) (o n : String) (i j : Nat) : dataAt (connect st p o n i) j = dataAt st j := by
  unfold connect; exact data_ensureWire st o n i j

theorem data_assignDefault (st : St) (i : Nat) (p m : String) (j : Nat) :
    dataAt (assignDefault st i p m) j = dataAt st j := by
  unfold assignDefault
  exact info_updInst _ _ _ _ (fun _ => rfl)

theorem data_ensureDef (st : St) (n : String) (j : Nat) : dataAt (ensureDef st n) j = dataAt st j := by
  unfold ensureDef; split <;> rfl
theorem data_checkHierarchy (st : St) (c d : String) (j : Nat) : dataAt (checkHierarchy st c d) j = dataAt st j := by
  unfold checkHierarchy; split <;> rfl

theorem data_updInst_ne (st : St) (idx j : Nat) (f : Inst → Inst) (h : j ≠ idx) :
    dataAt (updInst st idx f) j = dataAt st j := by
  simp only [dataAt, updInst, getElem?_updIdx]
  cases st.insts[j]? <;> simp [h]

theorem data_quiet {cur : String} {idx : Nat} {D : String → Prop} {a b : St} (h : PrimQ cur idx D a b) {j : Nat}
    (hj : j ≠ idx) : dataAt b j = dataAt a j := by
  cases h with
  | edit f hf => exact data_updInst_ne _ _ _ _ hj
  | assignDefault m => exact data_assignDefault _ _ _ _ _
  | clock l _ => rfl
  | ensureDef n _ => exact data_ensureDef _ _ _
  | checkHierarchy d => exact data_checkHierarchy _ _ _ _
  | addPort dn pn d w _ => exact data_addPort _ _ _ _ _ _
  | growPort dn pn w _ _ => exact data_growPort _ _ _ _ _
  | setDir dn pn d _ => rfl
  | connect p n i => exact data_connect _ _ _ _ _ _

theorem Run.data {cur : String} {idx : Nat} {D : String → Prop} {a b : St} (h : Run (PrimQ cur idx D) a b) {j : Nat}
    (hj : j ≠ idx) : dataAt b j = dataAt a j :=
  h.lift (Same.refl (dataAt · j)) Same.trans (fun q => data_quiet q hj)

/-- connecting the pins and naming the instance leave also its own data alone -/
theorem data_connectAll {idx : Nat} {parent model : String} (l : List (String × String)) {st st' : St}
    (h : connectAll st idx parent model l = Except.ok st') (j : Nat) : dataAt st' j = dataAt st j := by
  refine connectAll_rel (Same.refl (dataAt · j)) Same.trans (fun fa _ a b h => ?_) h
  obtain ⟨cn, ci, pn, pi, _, _, ⟨_, rfl⟩ | ⟨_, _, rfl⟩⟩ := connectOne_eq h
  · exact info_updInst _ _ _ _ (fun _ => rfl)
  · exact (data_connect _ _ _ _ _ _).trans (data_growPort _ _ _ _ _)

theorem data_rename_ne {st st' : St} {i : Nat} {p n : String} (h : rename st i p n = Except.ok st') (j : Nat) :
    dataAt st' j = dataAt st j := by
  rcases rename_cases h with rfl | rfl
  · exact data_assignDefault _ _ _ _ _
  · exact info_updInst _ _ _ _ (fun _ => rfl)

theorem data_applyInfo {idx : Nat} {parent : String} (l : List InfoStmt) :
    ∀ {st st' : St}, applyInfo st idx parent l = Except.ok st' →
      dataAt st' idx = (dataAt st idx).map (infoFold l) := by
  induction l with
  | nil => intro st st' h; cases h; cases dataAt st idx <;> rfl
  | cons x r ih =>
    intro st st' h
    cases x with
    | cname n =>
      unfold applyInfo at h
      obtain ⟨s1, h1, h⟩ := bind_ok h
      have e : dataAt s1 idx = dataAt _ idx := renameStrict_eq h1 ▸
        info_updInst (updInst st idx fun i => { i with cname := some n }) idx idx (fun x => { x with name := n }) (fun _ => rfl)
      rw [ih h, e]
      simp only [dataAt, info_updInst_at]
      cases st.insts[idx]? <;> simp [infoOf, infoFold]
    | attr k v =>
      unfold applyInfo at h
      rw [ih h]
      simp only [dataAt, info_updInst_at]
      cases st.insts[idx]? <;> simp [infoOf, infoFold]
    | param k v =>
      unfold applyInfo at h
      rw [ih h]
      simp only [dataAt, info_updInst_at]
      cases st.insts[idx]? <;> simp [infoOf, infoFold]

theorem data_newInst (st : St) (p m t : String) :
    dataAt (newInst st p m t).1 st.insts.length = some (none, [], []) := by
  simp [dataAt, newInst, infoOf]

theorem Naming.data {sI s1 : St} {idx : Nat} {cur m : String} (h : Naming sI idx cur m s1) (j : Nat) :
    dataAt s1 j = dataAt sI j := by
  rcases h with rfl | ⟨n, h⟩
  · exact data_assignDefault _ _ _ _ _
  · exact data_rename_ne h j

theorem elabStmt_inst_data {st st' : St} {cur : String} {s : Stmt} (hs : Stmt.isInstance s = true)
    (h : elabStmt st cur s = Except.ok st') :
    dataAt st' st.insts.length = some (infoFold (stmtInfo s) (none, [], [])) := by
  obtain ⟨sA, s1, s2, _, hl, hn, h2, h3⟩ := elabStmt_inst_cases hs h
  have hc : dataAt (withCovers (newInst sA cur (stmtModel s) (stmtTyp s)).1 st.insts.length s) st.insts.length =
      dataAt (newInst sA cur (stmtModel s) (stmtTyp s)).1 st.insts.length :=
    withCovers_rel (Same.refl (dataAt · st.insts.length)) (fun _ _ _ => info_updInst _ _ _ _ (fun _ => rfl)) _ _ _
  rw [data_applyInfo _ h3, data_connectAll _ h2, hn.data, hc, ← hl, data_newInst]
  rfl

theorem data_newInst_lt (st : St) (p m t : String) {j : Nat} (hj : j < st.insts.length) :
    dataAt (newInst st p m t).1 j = dataAt st j := by
  simp [dataAt, newInst, List.getElem?_append_left hj]

theorem data_elabStmt_old {st st' : St} {cur : String} {s : Stmt} {j : Nat} (hj : j < st.insts.length)
    (h : elabStmt st cur s = Except.ok st') : dataAt st' j = dataAt st j := by
  cases hi : Stmt.isInstance s with
  | true =>
    obtain ⟨sA, m, t, _, r1, _, hl, r2⟩ := Run.elabStmt_inst hi h
    have hc : dataAt (withCovers (newInst sA cur m t).1 st.insts.length s) j = dataAt (newInst sA cur m t).1 j :=
      withCovers_rel (Same.refl (dataAt · j)) (fun _ _ _ => info_updInst _ _ _ _ (fun _ => rfl)) _ _ _
    rw [r2.data (by omega), hc, data_newInst_lt sA _ _ _ (by omega), r1.data (by omega)]
  | false =>
    cases s with
    | conn a b =>
      obtain ⟨n1, i1, n2, i2, _, _, rfl⟩ := elabStmt_conn_cases h
      have : ∀ s ka kb, dataAt (mergeKeys s ka kb) j = dataAt s j := by
        intro s ka kb; unfold mergeKeys; simp only []; split <;> rfl
      rw [this, data_ensureWire, data_ensureWire]
    | blackbox =>
      rw [elabStmt_blackbox_eq h]
      rfl
    | _ => cases hi

theorem data_elabStmts_old {cur : String} (l : List Stmt) :
    ∀ {st st' : St} {j : Nat}, j < st.insts.length → elabStmts st cur l = Except.ok st' →
      dataAt st' j = dataAt st j := by
  induction l with
  | nil => intro st st' j _ h; cases h; rfl
  | cons s r ih =>
    intro st st' j hj h
    obtain ⟨s1, h1, h⟩ := bind_ok (show (elabStmt st cur s >>= _) = _ from h)
    have hlen : st.insts.length ≤ s1.insts.length := by
      have := congrArg List.length (ik_elabStmt h1)
      simp only [instKinds, List.length_map, List.length_append] at this
      omega
    rw [ih (by omega) h, data_elabStmt_old hj h1]

theorem data_elabHdrs {cur : String} (l : List Hdr) :
    ∀ {st st' : St}, elabHdrs st cur l = Except.ok st' → ∀ j, dataAt st' j = dataAt st j :=
  fun h j => (Run.elabHdrs (idx := j + 1) h).data (Nat.ne_of_lt (Nat.lt_succ_self j))

theorem data_beginModel (st : St) (n : String) (j : Nat) : dataAt (beginModel st n) j = dataAt st j :=
  beginModel_rel (R := Same (dataAt · j)) Same.trans (data_ensureDef · n j) (fun _ => rfl) (fun _ _ _ => rfl) st

end Spydr.Eblif
