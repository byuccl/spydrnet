/-
  Ports of the definitions the children instantiate, through the black-box models of the second read.
  One predicate per port carries both facts that are compared: a condition on its width and its
  direction (`PortOK`); the `.inputs` / `.outputs` words of a black-box model change the direction
  function and keep the width condition.  Directions: UNDEFINED after the children were read, IN / OUT
  as the black-box block (if one is written) says afterwards (`roundtrip_leaf_dirs`); widths: within
  the widths of `n`'s definition, which with the lower bound of LeafPorts.lean gives the same
  (port, bit) sets (`roundtrip_leaf_ports`).
-/
import Spydr.Eblif.LeafPorts

namespace Spydr.Eblif

def PortOK (Wd : String → Nat → Prop) (f : String → Dir) (p : PortD) : Prop := Wd p.name p.width ∧ p.dir = f p.name

def updDir (f : String → Dir) (pn : String) (d : Dir) : String → Dir := fun x => if x = pn then d else f x

section
variable {st : St} {m : String} {Wd : String → Nat → Prop} {f : String → Dir}

theorem ok_addPort (hd : DefEx st m) (u : PortsAll st m (PortOK Wd f)) (pn : String) (d : Dir) (w : Nat) (hf : f pn = d)
    (hw : Wd pn w) : PortsAll (addPort st m pn d w) m (PortOK Wd f) := portsAll_addPort hd u pn d w ⟨hw, hf.symm⟩

theorem ok_growPort (u : PortsAll st m (PortOK Wd f)) (pn : String) (w : Nat) (hw : Wd pn w) :
    PortsAll (growPort st m pn w) m (PortOK Wd f) :=
  portsAll_growPort u pn w (fun q hq hn => ⟨by rw [← hn] at hw; exact hw, hq.2⟩)

theorem ok_setDir (u : PortsAll st m (PortOK Wd f)) (pn : String) (d : Dir) :
    PortsAll (setDir st m pn d) m (PortOK Wd (updDir f pn d)) :=
  portsAll_setDir u pn d (fun q hq => by
    by_cases h : q.name = pn
    · rw [if_pos h]; exact ⟨hq.1, by simp [updDir, h]⟩
    · rw [if_neg h]; exact ⟨hq.1, by simp [updDir, h, hq.2]⟩)

theorem ok_updDir_absent (u : PortsAll st m (PortOK Wd f)) {pn : String} (hno : ∀ p ∈ portsOf st m, p.name ≠ pn) (d : Dir) :
    PortsAll st m (PortOK Wd (updDir f pn d)) := fun p hp =>
  ⟨(u p hp).1, by simp only [updDir, hno p hp, if_false]; exact (u p hp).2⟩

end

theorem dirf_subckt {st st' : St} {cur m : String} {gate : Bool} {conns : List (String × String)} {info : List InfoStmt}
    (u : DirF st m (fun _ => Dir.undef)) (h : elabStmt st cur (Stmt.subckt gate m conns info) = Except.ok st') :
    DirF st' m (fun _ => Dir.undef) :=
  portsAll_subckt (fun _ _ _ _ _ => ⟨rfl, fun _ hq _ => hq⟩) (fun _ _ _ _ _ _ hq _ => hq) u h

theorem dirf_elabStmts {cur m : String} {l : List Stmt}
    (hl : ∀ s ∈ l, Stmt.isInstance s = true ∧ (stmtModel s = m → ∃ g c i, s = Stmt.subckt g m c i))
    {st st' : St} (u : DirF st m (fun _ => Dir.undef)) (h : elabStmts st cur l = Except.ok st') :
    DirF st' m (fun _ => Dir.undef) := by
  refine elabStmts_rel (Keeps.refl fun s => DirF s m (fun _ => Dir.undef)) Keeps.trans (fun s hs a b h1 u => ?_) h u
  obtain ⟨hi, hm⟩ := hl s hs
  by_cases hmm : stmtModel s = m
  · obtain ⟨g, c, i, rfl⟩ := hm hmm
    exact dirf_subckt u h1
  · exact portsAll_of_ports (portsOf_other_stmt hi (fun e => hmm e.symm) h1) u

theorem no_port_of_hasPort {st : St} {m pn : String} (h : hasPort st m pn = false) : ∀ p ∈ portsOf st m, p.name ≠ pn := by
  intro p hp e
  rw [hasPort_eq] at h
  have := findIn_isSome_of_mem hp
  rw [e, h] at this
  cases this

section
variable {m : String} {Wd : String → Nat → Prop}

theorem ok_elabInput {st st' : St} {tok pn : String} {pi : Nat} {f : String → Dir} (hd : DefEx st m)
    (u : PortsAll st m (PortOK Wd f)) (hs : splitIdx tok = Except.ok (pn, pi)) (h0 : Wd pn 0) (h1 : Wd pn (pi + 1))
    (h : elabInput st m tok = Except.ok st') : PortsAll st' m (PortOK Wd (updDir f pn Dir.inp)) ∧ DefEx st' m := by
  obtain rfl := Except.ok.inj ((elabInput_eq hs).symm.trans h)
  have h2 : PortsAll (if hasPort st m pn = true then setDir st m pn Dir.inp else addPort st m pn Dir.inp 0) m
        (PortOK Wd (updDir f pn Dir.inp)) ∧
      DefEx (if hasPort st m pn = true then setDir st m pn Dir.inp else addPort st m pn Dir.inp 0) m := by
    split
    · exact ⟨ok_setDir u pn Dir.inp, defEx_setDir hd m pn Dir.inp⟩
    · rename_i hh
      have hno := no_port_of_hasPort (by simpa using hh : hasPort st m pn = false)
      exact ⟨ok_addPort hd (ok_updDir_absent u hno Dir.inp) pn Dir.inp 0 (by simp [updDir]) h0, defEx_addPort hd m pn Dir.inp 0⟩
  exact ⟨portsAll_of_ports (portsOf_connect _ _ _ _ _ _) (ok_growPort h2.1 pn _ h1), defEx_of_dv (by simp) h2.2⟩

theorem ok_elabOutput {st st' : St} {tok pn : String} {pi : Nat} {f : String → Dir} (hd : DefEx st m)
    (u : PortsAll st m (PortOK Wd f)) (hs : splitIdx tok = Except.ok (pn, pi)) (h0 : Wd pn 0) (h1 : Wd pn (pi + 1))
    (hfree : f pn ≠ Dir.inp ∧ f pn ≠ Dir.inout) (h : elabOutput st m tok = Except.ok st') :
    PortsAll st' m (PortOK Wd (updDir f pn Dir.out)) ∧ DefEx st' m := by
  -- after `addPort`: directions given by some `g` with `g pn` neither IN nor INOUT and `updDir g pn out = updDir f pn out`
  have h2 : ∃ g : String → Dir, PortsAll (addPort st m pn Dir.out 0) m (PortOK Wd g) ∧ g pn ≠ Dir.inp ∧ g pn ≠ Dir.inout ∧
      updDir g pn Dir.out = updDir f pn Dir.out := by
    by_cases hh : hasPort st m pn = true
    · rw [addPort_of_has hh]
      exact ⟨f, u, hfree.1, hfree.2, rfl⟩
    · have hno := no_port_of_hasPort (by simpa using hh : hasPort st m pn = false)
      refine ⟨updDir f pn Dir.out, ok_addPort hd (ok_updDir_absent u hno Dir.out) pn Dir.out 0 (by simp [updDir]) h0,
        by simp [updDir], by simp [updDir], ?_⟩
      funext x
      simp only [updDir]
      split <;> rfl
  obtain ⟨g, ug, hg1, hg2, hge⟩ := h2
  have d1 := defEx_addPort hd m pn Dir.out 0
  have hpd : portDir (addPort st m pn Dir.out 0) m pn ≠ Dir.inp ∧ portDir (addPort st m pn Dir.out 0) m pn ≠ Dir.inout := by
    rw [portDir_eq]
    cases hfi : findIn (portsOf (addPort st m pn Dir.out 0) m) pn with
    | none => simp
    | some p =>
      have hpm : p ∈ portsOf (addPort st m pn Dir.out 0) m := List.mem_of_find?_eq_some hfi
      have hpx : p.name = pn := by unfold findIn at hfi; simpa using List.find?_some hfi
      have : p.dir = g p.name := (ug p hpm).2
      rw [hpx] at this
      simp only [this]
      exact ⟨hg1, hg2⟩
  obtain rfl := Except.ok.inj ((elabOutput_out hs (fun hio => hio.elim hpd.1 hpd.2)).symm.trans h)
  have d2 := defEx_setDir d1 m pn Dir.out
  have u2 : PortsAll (setDir (addPort st m pn Dir.out 0) m pn Dir.out) m (PortOK Wd (updDir f pn Dir.out)) := by
    have := ok_setDir ug pn Dir.out
    rw [← hge]; exact this
  exact ⟨portsAll_of_ports (portsOf_connect _ _ _ _ _ _) (ok_growPort u2 pn _ h1), defEx_of_dv (by simp) d2⟩

theorem ok_toks_in (l : List String) (hl : ∀ w ∈ l, splitIdx w = Except.ok (w, 0)) (hW : ∀ w ∈ l, Wd w 0 ∧ Wd w 1) :
    ∀ (f : String → Dir) (st st' : St), DefEx st m → PortsAll st m (PortOK Wd f) → elabToks elabInput st m l = Except.ok st' →
      PortsAll st' m (PortOK Wd (fun x => if x ∈ l then Dir.inp else f x)) ∧ DefEx st' m := by
  induction l with
  | nil => intro f st st' hd u h; cases h; exact ⟨by simpa using u, hd⟩
  | cons w r ih =>
    intro f st st' hd u h
    unfold elabToks at h
    obtain ⟨s1, h1, h2⟩ := bind_ok h
    obtain ⟨u1, d1⟩ := ok_elabInput hd u (hl w (by simp)) (hW w (by simp)).1 (hW w (by simp)).2 h1
    obtain ⟨u2, d2⟩ := ih (fun x hx => hl x (by simp [hx])) (fun x hx => hW x (by simp [hx])) _ s1 st' d1 u1 h2
    refine ⟨?_, d2⟩
    have : (fun x => if x ∈ r then Dir.inp else updDir f w Dir.inp x) = (fun x => if x ∈ w :: r then Dir.inp else f x) := by
      funext x
      simp only [updDir, List.mem_cons]
      by_cases h1 : x ∈ r <;> by_cases h2 : x = w <;> simp [h1, h2]
    rw [← this]; exact u2

theorem ok_toks_out (l : List String) (hl : ∀ w ∈ l, splitIdx w = Except.ok (w, 0)) (hW : ∀ w ∈ l, Wd w 0 ∧ Wd w 1) :
    ∀ (f : String → Dir) (st st' : St), (∀ w ∈ l, f w ≠ Dir.inp ∧ f w ≠ Dir.inout) → DefEx st m →
      PortsAll st m (PortOK Wd f) → elabToks elabOutput st m l = Except.ok st' →
      PortsAll st' m (PortOK Wd (fun x => if x ∈ l then Dir.out else f x)) ∧ DefEx st' m := by
  induction l with
  | nil => intro f st st' _ hd u h; cases h; exact ⟨by simpa using u, hd⟩
  | cons w r ih =>
    intro f st st' hfree hd u h
    unfold elabToks at h
    obtain ⟨s1, h1, h2⟩ := bind_ok h
    obtain ⟨u1, d1⟩ := ok_elabOutput hd u (hl w (by simp)) (hW w (by simp)).1 (hW w (by simp)).2 (hfree w (by simp)) h1
    obtain ⟨u2, d2⟩ := ih (fun x hx => hl x (by simp [hx])) (fun x hx => hW x (by simp [hx])) _ s1 st' (by
      intro x hx
      simp only [updDir]
      split
      · exact ⟨by simp, by simp⟩
      · exact hfree x (by simp [hx])) d1 u1 h2
    refine ⟨?_, d2⟩
    have : (fun x => if x ∈ r then Dir.out else updDir f w Dir.out x) = (fun x => if x ∈ w :: r then Dir.out else f x) := by
      funext x
      simp only [updDir, List.mem_cons]
      by_cases h1 : x ∈ r <;> by_cases h2 : x = w <;> simp [h1, h2]
    rw [← this]; exact u2

end

/-- directions the black-box block of `d` gives the ports -/
def bbDir (d : DefD) : String → Dir := fun x =>
  if x ∈ (d.ports.filter (fun p => p.dir = Dir.out)).map (·.name) then Dir.out
  else if x ∈ (d.ports.filter (fun p => p.dir = Dir.inp)).map (·.name) then Dir.inp else Dir.undef

theorem ok_bbmodel_self {Wd : String → Nat → Prop} {s s' : St} (d : DefD)
    (hw : ∀ p ∈ d.ports, plainName p.name ∧ p.name.toList ≠ []) (hnd : (d.ports.map (·.name)).Nodup)
    (hW : ∀ p ∈ d.ports, Wd p.name 0 ∧ Wd p.name 1)
    (u : PortsAll s d.name (PortOK Wd (fun _ => Dir.undef))) (h : elabModel s (bbModel d) = Except.ok s') :
    PortsAll s' d.name (PortOK Wd (bbDir d)) := by
  obtain ⟨sa, sh, hin, hout, hh, rfl⟩ := elabModel_bb_cases h
  obtain ⟨u0, d0⟩ := portsAll_beginModel u
  have hwords : ∀ (P : List PortD), (∀ p ∈ P, p ∈ d.ports) → ∀ w ∈ P.map (·.name),
      splitIdx w = Except.ok (w, 0) ∧ Wd w 0 ∧ Wd w 1 := by
    intro P hP w hwm
    obtain ⟨p, hp, rfl⟩ := List.mem_map.mp hwm
    obtain ⟨h1, h2⟩ := hw p (hP p hp)
    exact ⟨splitIdx_plain _ h1 h2, hW p (hP p hp)⟩
  have hI := hwords (d.ports.filter (fun p => p.dir = Dir.inp)) (fun p hp => (List.mem_filter.mp hp).1)
  have hO := hwords (d.ports.filter (fun p => p.dir = Dir.out)) (fun p hp => (List.mem_filter.mp hp).1)
  obtain ⟨u1, d1⟩ := ok_toks_in _ (fun w hw' => (hI w hw').1) (fun w hw' => (hI w hw').2) (fun _ => Dir.undef) _ _ d0 u0 hin
  obtain ⟨u2, d2⟩ := ok_toks_out _ (fun w hw' => (hO w hw').1) (fun w hw' => (hO w hw').2) _ _ _ (by
      intro w hwm
      have hnot : w ∉ (d.ports.filter (fun p => p.dir = Dir.inp)).map (·.name) := by
        intro hin'
        obtain ⟨p, hp, rfl⟩ := List.mem_map.mp hwm
        obtain ⟨q, hq, hqn⟩ := List.mem_map.mp hin'
        simp only [List.mem_filter, decide_eq_true_eq] at hp hq
        have := eq_of_nodup_name hnd hq.1 hp.1 hqn
        subst this
        rw [hp.2] at hq
        cases hq.2
      simp only [hnot, if_false]
      exact ⟨by simp, by simp⟩) d1 u1 hout
  refine portsAll_of_ports (portsOf_updDef_keep (clearOwner sh d.name) d.name (fun x => { x with blackbox := true }) (fun _ => rfl) (fun _ => rfl) d.name) ?_
  refine portsAll_of_ports (portsOf_of_defs (b := clearOwner sh d.name) rfl d.name) ?_
  exact u2

/-- direction function of `m` after the black-box models `ds` -/
def dirAfter (ds : List DefD) (m : String) : String → Dir :=
  match ds.find? (fun d => d.name = m) with
  | some d => bbDir d
  | none => fun _ => Dir.undef

theorem ok_bbmodels {Wd : String → Nat → Prop} (m : String) (ds : List DefD) (hnd : (ds.map (·.name)).Nodup)
    (hds : ∀ d ∈ ds, d.name = m → (∀ p ∈ d.ports, plainName p.name ∧ p.name.toList ≠ [] ∧ Wd p.name 0 ∧ Wd p.name 1) ∧
      (d.ports.map (·.name)).Nodup) :
    ∀ {s s' : St}, PortsAll s m (PortOK Wd (fun _ => Dir.undef)) → elabModels s (ds.map bbModel) = Except.ok s' →
      PortsAll s' m (PortOK Wd (dirAfter ds m)) := by
  induction ds with
  | nil => intro s s' u h; cases h; exact u
  | cons d r ih =>
    intro s s' u h
    simp only [List.map_cons] at h
    unfold elabModels at h
    obtain ⟨s1, h1, h2⟩ := bind_ok h
    simp only [List.map_cons, List.nodup_cons, List.mem_map, not_exists, not_and] at hnd
    by_cases hm : d.name = m
    · subst hm
      obtain ⟨hp, hpn⟩ := hds d (by simp) rfl
      have u1 := ok_bbmodel_self d (fun p hpm => ⟨(hp p hpm).1, (hp p hpm).2.1⟩) hpn (fun p hpm => (hp p hpm).2.2) u h1
      have hkeep := Any.portsOf_bbmodels_other d.name r (fun x hx e => hnd.1 x hx e.symm) h2
      have : dirAfter (d :: r) d.name = bbDir d := by simp [dirAfter]
      rw [this]
      exact portsAll_of_ports hkeep u1
    · have u1 : PortsAll s1 m (PortOK Wd (fun _ => Dir.undef)) :=
        portsAll_of_ports (portsOf_other_bbmodel d m (fun e => hm e.symm) h1) u
      have := ih hnd.2 (fun x hx => hds x (by simp [hx])) u1 h2
      have e : dirAfter (d :: r) m = dirAfter r m := by simp [dirAfter, hm]
      rw [e]; exact this

namespace Any

/-- direction the re-read netlist gives port `x` of the definition `m` a `.subckt` / `.gate` child
    instantiates: what the black-box block of `m` says (IN / OUT ports of `n`'s definition) when one is
    written, UNDEFINED otherwise -/
def leafDir (o : Opts) (n : BNet) (t m : String) : String → Dir :=
  if o.writeBlackbox then dirAfter (bbDefs n t) m else fun _ => Dir.undef


/-- `Wd`: a width condition that held after the children and admits one pin for the ports the black-box
    block lists -/
theorem leaf_spec (o : Opts) (n : BNet) (t : String) (hw : WellNamed n) (hbp : BBPlain n t)
    (hperm : (kidsFull n t).Perm n.insts.zipIdx) (hk : KidsOKF n t) (hdn : (n.defs.map (·.name)).Nodup)
    (hpnd : ∀ d ∈ n.defs, (d.ports.map (·.name)).Nodup) (hdg : LatchSep n t) {sh sk sc sf : St}
    (habs : ∀ x, x ≠ t → findDef sh x = none)
    (hbk : elabStmts sh t ((kidsFull n t).map (stmtOfFull o n)) = Except.ok sk) (dc : sc.defs = sk.defs)
    (hsf : elabModels sc (bbPart o n t) = Except.ok sf)
    (k : Inst × Nat) (hkk : k ∈ kidsFull n t) (hty : k.1.typ = "EBLIF.subckt" ∨ k.1.typ = "EBLIF.gate")
    {Wd : String → Nat → Prop} (hW : ∀ d ∈ bbDefs n t, d.name = k.1.model → ∀ p ∈ d.ports, Wd p.name 0 ∧ Wd p.name 1)
    (uw : PortsAll sk k.1.model (fun p => Wd p.name p.width)) :
    PortsAll sf k.1.model (PortOK Wd (leafDir o n t k.1.model)) := by
  have hkz : k ∈ n.insts.zipIdx := hperm.mem_iff.mp hkk
  have hmt : k.1.model ≠ t := fun e => (hk k hkz).2.2.2.1 e.symm
  have hkn : k.1.typ ≠ "EBLIF.names" := by rcases hty with h' | h' <;> (rw [h']; decide)
  have hkl : k.1.typ ≠ "EBLIF.latch" := by rcases hty with h' | h' <;> (rw [h']; decide)
  have u0 : DirF sh k.1.model (fun _ => Dir.undef) := by
    intro q hq
    have : portsOf sh k.1.model = [] := by unfold portsOf; rw [habs _ hmt]
    rw [this] at hq; cases hq
  have u1 : DirF sk k.1.model (fun _ => Dir.undef) := by
    refine dirf_elabStmts ?_ u0 hbk
    intro s hs
    obtain ⟨k', hk', rfl⟩ := List.mem_map.mp hs
    have hk'z : k' ∈ n.insts.zipIdx := hperm.mem_iff.mp hk'
    refine ⟨isInst_full o n k', ?_⟩
    intro hmm
    rw [stmtModel_full o n k' (hk k' hk'z).1.toW] at hmm
    rcases kid_cases o n k' (hk k' hk'z).1.toW with ⟨hn', _, _⟩ | ⟨_, _, hsh, _⟩ | ⟨_, _, _, e⟩
    · exact absurd hmm.symm ((hk k hkz).2.2.2.2 hkn k'.1 (mem_zipIdx_fst hk'z) hn')
    · exact absurd (hmm.symm.trans hsh.1) (hdg.2 k hkz hkl)
    · exact ⟨_, _, _, by rw [e, hmm]⟩
  -- the `.conn` lines leave the definitions alone
  have u2 : PortsAll sc k.1.model (PortOK Wd (fun _ => Dir.undef)) :=
    portsAll_of_ports (portsOf_of_defs dc _) (fun p hp => ⟨uw p hp, u1 p hp⟩)
  unfold leafDir
  rcases bbPart_cases hsf with ⟨hwb, hsf⟩ | ⟨hwb, rfl⟩
  · rw [if_pos hwb]
    refine ok_bbmodels k.1.model (bbDefs n t) ?_ ?_ u2 hsf
    · exact hdn.sublist ((List.filter_sublist (l := n.defs)).map _)
    · intro d hd hdm
      exact ⟨fun q hq => ⟨(hbp d hd).2 q hq, okWord_nonempty ((hw.2.1 d (bbDefs_sub hd)).2.1 q hq), hW d hd hdm q hq⟩,
        hpnd d (bbDefs_sub hd)⟩
  · rw [if_neg hwb]
    exact u2

theorem roundtrip_leaf_dirs (o : Opts) (n : BNet) (t : String) (hw : WellNamed n) (hf : FragFull n t)
    (hn : NetOKA n t) (hbp : BBPlain n t) (hpm : n.PinMirror) (hdg : LatchSep n t)
    (n' : BNet) (h : readB (composeText o n) = Except.ok n') :
    ∀ k ∈ kidsFull n t, (k.1.typ = "EBLIF.subckt" ∨ k.1.typ = "EBLIF.gate") →
      ∀ p ∈ (n'.findDef k.1.model).ports, p.dir = leafDir o n t k.1.model p.name := by
  obtain ⟨sh, sk, sc, sf, habs, hbk, _, _, _, _, _, dc, hsf, hfind⟩ := second_read_chain o n t hw hf hn hdg n' h
  intro k hkk hty p hp
  rw [hfind] at hp
  exact (leaf_spec o n t hw hbp hn.1 hn.2.2.2.2.2 hpm.1 hpm.2.1 hdg habs hbk dc hsf k hkk hty (Wd := fun _ _ => True)
    (fun _ _ _ _ _ => ⟨trivial, trivial⟩) (fun _ _ => trivial) p hp).2

theorem roundtrip_leaf_ports (o : Opts) (n : BNet) (t : String) (hw : WellNamed n) (hf : FragFull n t)
    (hn : NetOKA n t) (hbp : BBPlain n t) (hpm : n.PinMirror) (hdg : LatchSep n t)
    (hbw : BBWide n t) (n' : BNet) (h : readB (composeText o n) = Except.ok n') :
    (∀ k ∈ kidsFull n t, ∀ pn b,
      (pn, b) ∈ allPins (n'.findDef k.1.model) ↔ (pn, b) ∈ allPins (n.findDef k.1.model)) ∧
    (∀ k ∈ kidsFull n t, k.1.typ = "EBLIF.names" →
      (n'.findDef k.1.model).ports = stdNamesPorts (k.1.pins.length - 1)) ∧
    (∀ k ∈ kidsFull n t, k.1.typ = "EBLIF.latch" →
      ∃ a, a ≤ 5 ∧ (n'.findDef "generic-latch").ports = stdLatchPorts.take a) := by
  -- the states of the second read (`second_read_chain`); the generated definitions keep their standard port lists
  -- (no black-box block is written for them); for any other child the widths `W` of `n`'s definition bound the re-read
  -- ports from above through header, children, `.conn`, black boxes, and the child's own pins bound them from below
  have ht : okWord t = true := hw.2.2.2.2 t hf.top
  have hn' := hn
  obtain ⟨hperm, hp, hnd, hcb, hcn, hk⟩ := hn'
  obtain ⟨hdn, hpnd, hmir⟩ := hpm
  obtain ⟨sh, sk, sc, sf, habs, hbk, lbk, ubk, stdk, stdl, hbc, dc, hsf, hfind⟩ :=
    second_read_chain o n t hw hf hn hdg n' h
  have hkeep : ∀ m, (∀ d ∈ bbDefs n t, m ≠ d.name) → portsOf sf m = portsOf sk m := by
    intro m hm
    have h1 : portsOf sc m = portsOf sk m := portsOf_of_defs dc m
    rw [← h1]
    rcases bbPart_cases hsf with ⟨_, hsf⟩ | ⟨_, rfl⟩
    · exact portsOf_bbmodels_other m (bbDefs n t) hm hsf
    · rfl
  have hne : ∀ k ∈ kidsFull n t, 1 ≤ k.1.pins.length → portsOf sk k.1.model ≠ [] := by
    intro k hkk hlen e
    cases hpins : k.1.pins with
    | nil => rw [hpins] at hlen; simp at hlen
    | cons q r =>
      obtain ⟨p, hp', _⟩ := lbk k hkk q (by rw [hpins]; simp)
      rw [e] at hp'; simp [findIn] at hp'
  have hnobb : ∀ k ∈ n.insts.zipIdx, (k.1.typ = "EBLIF.names" ∨ k.1.typ = "EBLIF.latch") → ∀ d ∈ bbDefs n t, k.1.model ≠ d.name := by
    intro k hkz hty d hd e
    obtain ⟨i, hi, hty', hmm⟩ := bbDefs_user hd
    obtain ⟨idx, hidx⟩ := List.getElem?_of_mem hi
    have hiz : (i, idx) ∈ n.insts.zipIdx := List.mem_zipIdx_iff_getElem?.mpr hidx
    rcases hty with hkn | hkl
    · have hnn : i.typ ≠ "EBLIF.names" := by rcases hty' with h' | h' | h' <;> (rw [h']; decide)
      exact (hk (i, idx) hiz).2.2.2.2 hnn k.1 (mem_zipIdx_fst hkz) hkn (hmm.trans e.symm)
    · have hnl : i.typ ≠ "EBLIF.latch" := by rcases hty' with h' | h' | h' <;> (rw [h']; decide)
      exact hdg.2 (i, idx) hiz hnl (hmm.trans (e.symm.trans ((hk k hkz).1.toW.latch hkl).1))
  refine ⟨?_, ?_, ?_⟩
  rotate_left
  ·
    intro k hkk hkn
    have hkz : k ∈ n.insts.zipIdx := hperm.mem_iff.mp hkk
    have hki : k.1 ∈ n.insts := mem_zipIdx_fst hkz
    have hmod := names_model n t hk.toW k.1 hki hkn
    have hsh := (hk k hkz).1.toW.names hkn
    rw [hfind, hkeep k.1.model (hnobb k hkz (Or.inl hkn))]
    rcases stdk k.1 hki hkn with habs' | ⟨_, hpp⟩
    · rw [← hmod] at habs'
      exact absurd (by unfold portsOf; rw [habs']) (hne k hkk hsh.1)
    · rw [hmod]; exact hpp
  ·
    intro k hkk hkl
    have hkz : k ∈ n.insts.zipIdx := hperm.mem_iff.mp hkk
    have hsh := (hk k hkz).1.toW.latch hkl
    have hm := hnobb k hkz (Or.inr hkl)
    rw [hsh.1] at hm
    rw [hfind, hkeep "generic-latch" hm]
    rcases stdl with habs' | ⟨_, a, ha, hpp⟩
    · have := hne k hkk (by have := hsh.2.1; omega)
      rw [hsh.1] at this
      exact absurd (by unfold portsOf; rw [habs']) this
    · exact ⟨a, ha, hpp⟩
  intro k hkk pn b
  have hkz : k ∈ n.insts.zipIdx := hperm.mem_iff.mp hkk
  have hki : k.1 ∈ n.insts := mem_zipIdx_fst hkz
  have hmt : k.1.model ≠ t := fun e => (hk k hkz).2.2.2.1 e.symm
  have hdef : ∀ k' ∈ n.insts.zipIdx, k'.1.model = k.1.model →
      (n.findDef k.1.model).name = k.1.model ∧ n.findDef k.1.model ∈ n.defs ∧ k'.1.pins.Perm (allPins (n.findDef k.1.model)) := by
    intro k' hk' hmm
    obtain ⟨d, hd, hdn', hpp⟩ := hmir k'.1 (mem_zipIdx_fst hk')
    have := bnet_findDef_of_mem hdn hd
    rw [hdn', hmm] at this
    rw [this]
    exact ⟨hdn'.trans hmm, hd, hpp⟩
  obtain ⟨_, hdmem, hkperm⟩ := hdef k hkz rfl
  have hportsnd := hpnd _ hdmem
  let W : String → Nat := fun x => widthL (n.findDef k.1.model).ports x
  have hW : ∀ x y, (x, y) ∈ allPins (n.findDef k.1.model) ↔ y < W x := fun x y => mem_allPins_widthL _ hportsnd x y
  -- two-sided bound: `W` from above through the four phases (`ub0` .. `ub3`), every pin of the child from below (`lb`)
  have ub0 : UBd sh k.1.model W := by
    intro p hpm
    have : portsOf sh k.1.model = [] := by unfold portsOf; rw [habs _ hmt]
    rw [this] at hpm; cases hpm
  have ub1 : UBd sk k.1.model W := ubk k.1.model W (by
      intro k' hk' hmm q hq
      have hk'z : k' ∈ n.insts.zipIdx := hperm.mem_iff.mp hk'
      obtain ⟨_, _, hpp⟩ := hdef k' hk'z hmm
      exact (hW _ _).mp (hpp.mem_iff.mp hq)) ub0
  -- a written black-box block of the definition lists ports that have a pin in `n`
  have hWbb : ∀ d ∈ bbDefs n t, d.name = k.1.model → ∀ p ∈ d.ports, 0 ≤ W p.name ∧ 1 ≤ W p.name := by
    intro d hd hdm p hpm
    have hdd : n.findDef k.1.model = d := by
      have := bnet_findDef_of_mem hdn (bbDefs_sub hd)
      rw [hdm] at this; exact this
    have h1 := hbw d hd p hpm
    have : (p.name, 0) ∈ allPins (n.findDef k.1.model) := by
      rw [hdd]; exact (mem_allPins d p.name 0).mpr ⟨p, hpm, rfl, by omega⟩
    exact ⟨Nat.zero_le _, (hW _ _).mp this⟩
  have ub3 : UBd sf k.1.model W := by
    rcases (mem_kidsFull hkk).2.2 with hty | hty | hty | hty
    · exact fun p hp => (leaf_spec o n t hw hbp hperm hk hdn hpnd hdg habs hbk dc hsf k hkk (Or.inl hty)
        (Wd := fun x w => w ≤ W x) hWbb ub1 p hp).1
    · exact fun p hp => (leaf_spec o n t hw hbp hperm hk hdn hpnd hdg habs hbk dc hsf k hkk (Or.inr hty)
        (Wd := fun x w => w ≤ W x) hWbb ub1 p hp).1
    · exact portsAll_of_ports (hkeep _ (hnobb k hkz (Or.inl hty))) ub1
    · exact portsAll_of_ports (hkeep _ (hnobb k hkz (Or.inr hty))) ub1
  have lb : ∀ q ∈ k.1.pins, ∃ p, findIn (portsOf sf k.1.model) q.1 = some p ∧ q.2 < p.width := by
    intro q hq
    obtain ⟨p, hp', hlt⟩ := lbk k hkk q hq
    obtain ⟨p1, hp1, l1⟩ := pm_elabStmts _ hbc _ _ p hp'
    obtain ⟨p2, hp2, l2⟩ := ports_monotone _ _ _ hsf _ _ p1 hp1
    exact ⟨p2, hp2, by omega⟩
  rw [mem_allPins, hfind]
  constructor
  · rintro ⟨p, hpm, hpx, hlt⟩
    have : p.width ≤ W p.name := ub3 p hpm
    rw [hpx] at this
    exact (hW pn b).mpr (by omega)
  · intro hmem
    have hq : (pn, b) ∈ k.1.pins := hkperm.mem_iff.mpr hmem
    obtain ⟨p, hp', hlt⟩ := lb (pn, b) hq
    have hpm : p ∈ portsOf sf k.1.model := List.mem_of_find?_eq_some hp'
    have hpx : p.name = pn := by unfold findIn at hp'; simpa using List.find?_some hp'
    exact ⟨p, hpm, hpx, hlt⟩

end Any

end Spydr.Eblif
