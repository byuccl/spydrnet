/-
  The truth tables (`Inst.covers`) through the elaborator: for ANY syntax tree the reader accepts,
  the instances carry, in creation order, exactly the cover rows of their `.names` statements
  (`none` for `.subckt` / `.gate` / `.latch` instances).
-/
import Spydr.Eblif.OnNet

namespace Spydr.Eblif

def cview (st : St) : List (Option (List String)) := st.insts.map (·.covers)

/-- what a statement contributes to the list of truth tables -/
def stmtCov : Stmt → List (Option (List String))
  | Stmt.subckt _ _ _ _ => [none]
  | Stmt.names _ covers _ => [some covers]
  | Stmt.latch _ _ => [none]
  | Stmt.conn _ _ => []
  | Stmt.blackbox => []

theorem cv_of_insts {a b : St} (h : b.insts = a.insts) : cview b = cview a := by simp [cview, h]

theorem cv_updInst (st : St) (idx : Nat) (f : Inst → Inst) (hf : ∀ i, (f i).covers = i.covers) :
    cview (updInst st idx f) = cview st := map_updIdx_gen (·.covers) st.insts idx f hf

@[simp] theorem cv_ensureDef (st : St) (n : String) : cview (ensureDef st n) = cview st := by
  unfold ensureDef; split <;> rfl
@[simp] theorem cv_updDef (st : St) (n : String) (f : DefD → DefD) : cview (updDef st n f) = cview st := rfl
@[simp] theorem cv_appendPins (st : St) (n : String) (l) : cview (appendPins st n l) = cview st := by
  simp only [cview, appendPins, List.map_map]
  congr 1
  funext i
  simp only [Function.comp]
  split <;> rfl
@[simp] theorem cv_addPort (st : St) (dn pn : String) (d : Dir) (w : Nat) : cview (addPort st dn pn d w) = cview st := by
  unfold addPort; split <;> simp
@[simp] theorem cv_setDir (st : St) (dn pn : String) (d : Dir) : cview (setDir st dn pn d) = cview st := rfl
@[simp] theorem cv_growPort (st : St) (dn pn : String) (w : Nat) : cview (growPort st dn pn w) = cview st := by
  unfold growPort; simp only []; split <;> simp
@[simp] theorem cv_checkHierarchy (st : St) (c d : String) : cview (checkHierarchy st c d) = cview st := by
  unfold checkHierarchy; split <;> rfl
@[simp] theorem cv_ensureWire (st : St) (o n : String) (i : Nat) : cview (ensureWire st o n i) = cview st := by
  unfold ensureWire ensureCable; simp only []; split <;> split <;> rfl
@[simp] theorem cv_connect (st : St) (p : Pin) (o n : String) (i : Nat) : cview (connect st p o n i) = cview st := by
  unfold connect; exact cv_ensureWire st o n i
@[simp] theorem cv_mergeKeys (st : St) (a b : Key) : cview (mergeKeys st a b) = cview st := by
  unfold mergeKeys; simp only []; split <;> rfl
@[simp] theorem cv_clearOwner (st : St) (o : String) : cview (clearOwner st o) = cview st := rfl
@[simp] theorem cv_assignDefault (st : St) (i : Nat) (p m : String) : cview (assignDefault st i p m) = cview st := by
  unfold assignDefault
  exact cv_updInst _ _ _ (fun _ => rfl)
theorem cv_newInst (st : St) (p m t : String) : cview (newInst st p m t).1 = cview st ++ [none] := by
  simp [cview, newInst]

theorem cv_quiet {cur : String} {idx : Nat} {D : String → Prop} {a b : St} (h : PrimQ cur idx D a b) : cview b = cview a := by
  cases h with
  | edit f hf => exact cv_updInst _ _ _ (fun x => (hf.frame x).2.2)
  -- every other quiet edit has its `@[simp]` lemma `cv_<function>` (none touches `insts` beyond pins and names)
  | _ => simp

theorem Run.cv {cur : String} {idx : Nat} {D : String → Prop} {a b : St} (h : Run (PrimQ cur idx D) a b) : cview b = cview a :=
  h.lift (Same.refl cview) Same.trans cv_quiet

theorem upd_last (l : List Inst) (x : Inst) (f : Inst → Inst) :
    (l ++ [x]).zipIdx.map (fun (p : Inst × Nat) => if p.2 = l.length then f p.1 else p.1) = l ++ [f x] := by
  rw [List.zipIdx_append, List.map_append]
  congr 1
  · have : ∀ p ∈ l.zipIdx, (fun (p : Inst × Nat) => if p.2 = l.length then f p.1 else p.1) p = Prod.fst p := by
      intro p hp
      have := List.mem_zipIdx_iff_getElem?.mp hp
      have hlt : p.2 < l.length := (List.getElem?_eq_some_iff.mp this).1
      have : ¬ p.2 = l.length := by omega
      simp [this]
    rw [List.map_congr_left this, List.zipIdx_map_fst]
  · simp

theorem cv_set_last (sA : St) (p m t : String) (c : List String) :
    cview (updInst (newInst sA p m t).1 sA.insts.length (fun i => { i with covers := some c })) = cview sA ++ [some c] := by
  simp only [cview, updInst, newInst]
  rw [upd_last _ _ (fun i => { i with covers := some c })]
  simp

theorem cv_elabStmt {st st' : St} {cur : String} {s : Stmt} (h : elabStmt st cur s = Except.ok st') :
    cview st' = cview st ++ stmtCov s := by
  cases hi : Stmt.isInstance s with
  | true =>
    obtain ⟨sA, model, typ, _, r1, _, hl, r2⟩ := Run.elabStmt_inst hi h
    rw [r2.cv, ← hl]
    cases s with
    | names nets covers info => dsimp only [withCovers]; rw [cv_set_last, r1.cv]; rfl
    | subckt gate m conns info => dsimp only [withCovers]; rw [cv_newInst, r1.cv]; rfl
    | latch toks info => dsimp only [withCovers]; rw [cv_newInst, r1.cv]; rfl
    | _ => cases hi
  | false =>
    cases s with
    | conn a b =>
      obtain ⟨n1, i1, n2, i2, _, _, rfl⟩ := elabStmt_conn_cases h
      simp [stmtCov]
    | blackbox =>
      rw [elabStmt_blackbox_eq h]
      simp [stmtCov]
    | _ => cases hi

theorem cv_elabStmts {cur : String} (l : List Stmt) :
    ∀ {st st' : St}, elabStmts st cur l = Except.ok st' → cview st' = cview st ++ l.flatMap stmtCov := by
  induction l with
  | nil => intro st st' h; cases h; simp
  | cons s r ih =>
    intro st st' h
    obtain ⟨s1, h1, h2⟩ := bind_ok (show (elabStmt st cur s >>= fun x => elabStmts x cur r) = _ from h)
    rw [ih h2, cv_elabStmt h1]; simp

theorem cv_beginModel (st : St) (n : String) : cview (beginModel st n) = cview st := by
  have e : cview (updDef (ensureDef st n) n (fun d => { d with declared := true })) = cview st := by simp
  unfold beginModel
  simp only []
  split
  · exact e
  · exact e

theorem cv_elabModels (ms : List Model) :
    ∀ {st st' : St}, elabModels st ms = Except.ok st' →
      cview st' = cview st ++ ms.flatMap (fun m => m.body.flatMap stmtCov) := by
  induction ms with
  | nil => intro st st' h; cases h; simp
  | cons m r ih =>
    intro st st' h
    obtain ⟨s1, h1, h2⟩ := bind_ok (show (elabModel st m >>= fun x => elabModels x r) = _ from h)
    unfold elabModel at h1
    obtain ⟨s0, h0, h1⟩ := bind_ok h1
    rw [ih h2, cv_elabStmts _ h1, (Run.elabHdrs (idx := 0) h0).cv, cv_beginModel]
    simp

/-- **truth tables are read faithfully, all inputs**: whatever syntax tree the elaborator accepts,
    the instances of the result carry, in order, the cover rows of the statements that created them -/
theorem covers_elab (a : BAst) (n : BNet) (h : elabB a = Except.ok n) :
    n.insts.map (·.covers) = a.models.flatMap (fun m => m.body.flatMap stmtCov) := by
  obtain ⟨s0, h0, _, hins, _, _⟩ := elab_decompose a n h
  have e1 : n.insts.map (·.covers) = (n.insts.map eraseName).map (·.covers) := by rw [List.map_map]; rfl
  have e2 : s0.insts.map (·.covers) = (s0.insts.map eraseName).map (·.covers) := by rw [List.map_map]; rfl
  have := cv_elabModels a.models h0
  simp only [cview] at this
  rw [e1, hins]
  show (s0.insts.map eraseName).map (·.covers) = _
  rw [← e2, this]
  simp

theorem covers_read (text : List Char) (n : BNet) (h : readB text = Except.ok n) :
    ∃ a, parseB (lexB text) = Except.ok a ∧
      n.insts.map (·.covers) = a.models.flatMap (fun m => m.body.flatMap stmtCov) := by
  unfold readB at h
  obtain ⟨a, ha, h⟩ := bind_ok h
  exact ⟨a, ha, covers_elab a n h⟩

end Spydr.Eblif
