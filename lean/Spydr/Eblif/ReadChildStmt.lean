/-
  What one instance statement (`.subckt` / `.gate` / `.names` / `.latch`) does to the state, beyond the
  joins and the data: the alias table is untouched, the ports of every other definition stay (`Fr`);
  a written `.latch` / `.names` block re-reads without error; the generated `logic-gate_k` is absent or
  standard (`Std`) and every instance statement keeps it so.
-/
import Spydr.Eblif.Props.C18GenDefs
import Spydr.Eblif.ReadBlackBox
import Spydr.Eblif.SelfContained
import Spydr.Eblif.Props.C18

namespace Spydr.Eblif

theorem alias_elabStmt_inst {st st' : St} {cur : String} {s : Stmt} (hs : Stmt.isInstance s = true)
    (h : elabStmt st cur s = Except.ok st') : st'.alias = st.alias :=
  (alias_netInv0 st.alias).elabStmt_inst hs rfl h

theorem pmono_after_prep {st st' : St} {cur : String} {s : Stmt} (hs : Stmt.isInstance s = true)
    (h : elabStmt st cur s = Except.ok st') : ∃ sA, Prep st cur s sA ∧ PMono sA st' := by
  obtain ⟨sA, s1, s2, hp, _, hn, h2, h3⟩ := elabStmt_inst_cases hs h
  exact ⟨sA, hp, (PMono.of_defs hn.defs_created).trans ((pm_connectAll _ h2).trans (pm_applyInfo _ h3))⟩

theorem fr_elabStmt_inst {t cur : String} {st st' : St} {s : Stmt} (hs : Stmt.isInstance s = true) (hd : DefEx st t)
    (hne : t ≠ stmtModel s) (h : elabStmt st cur s = Except.ok st') : Fr t st st' :=
  fr_of_findDef hd (findDef_elabStmt_inst hs hne h)

theorem hasP_addLatchPorts (l : List String) :
    ∀ (st : St), DefEx st "generic-latch" → ∀ o ∈ l, HasP (addLatchPorts st l) "generic-latch" o := by
  induction l with
  | nil => intro st _ o ho; cases ho
  | cons a r ih =>
    intro st hd o ho
    unfold addLatchPorts
    obtain ⟨h1, h2⟩ := addPort_has st "generic-latch" a (if a = "output" then Dir.out else Dir.inp) 1 hd
    rcases List.mem_cons.mp ho with rfl | hm
    · have : HasP (addPort st "generic-latch" o (if o = "output" then Dir.out else Dir.inp) 1) "generic-latch" o := by
        unfold HasP; rw [← hasPort_eq]; exact h1
      exact this.mono (pm_addLatchPorts r _)
    · exact ih _ h2 o hm

theorem latch_stmt_ok (o : Opts) (i : Inst) (t : String) (toks : List String) (st : St) (idx : Nat)
    (hout : ∃ x, (latchOrder.zip toks).find? (fun p => p.1 = "output") = some x)
    (htok : ∀ tk ∈ toks, ∃ cn ci, splitIdx tk = Except.ok (cn, ci))
    (hlen : st.insts.length = idx)
    (hx : o.writeCname = true → ∀ j, j ≠ idx → (namesOf st)[j]? ≠ some i.name) :
    ∃ st', elabStmt st t (Stmt.latch toks (infoStmts o i)) = Except.ok st' ∧ st'.insts.length = idx + 1 ∧
      (o.writeCname = true → namesOf st' = namesOf st ++ [i.name]) := by
  refine inst_stmt_ok o i t (s := Stmt.latch toks (infoStmts o i)) rfl hout rfl rfl
    (by rw [addLatchPorts_rel (R := Same namesOf) (Same.refl _) Same.trans (fun _ _ _ _ => nm_addPort _ _ _ _ _)]; simp)
    (fun fa hfa => ?_) hlen hx
  obtain ⟨a, b⟩ := fa
  obtain ⟨cn, ci, e1⟩ := htok b (List.of_mem_zip hfa).2
  exact ⟨cn, ci, a, 0, e1, latchOrder_split a (List.of_mem_zip hfa).1,
    hasP_addLatchPorts _ _ (defEx_ensureDef _ _) a (List.mem_map.mpr ⟨(a, b), hfa, rfl⟩)⟩

/-- `logic-gate_k` does not exist yet, or has exactly the standard ports -/
def Std (st : St) (k : Nat) : Prop :=
  findDef st ("logic-gate_" ++ natStr k) = none ∨
  (DefEx st ("logic-gate_" ++ natStr k) ∧ portsOf st ("logic-gate_" ++ natStr k) = stdNamesPorts k)

theorem std_after (st : St) (k : Nat) (h : Std st k) :
    portsOf (addNamesPorts (ensureDef st ("logic-gate_" ++ natStr k)) ("logic-gate_" ++ natStr k) k) ("logic-gate_" ++ natStr k)
      = stdNamesPorts k ∧
    DefEx (addNamesPorts (ensureDef st ("logic-gate_" ++ natStr k)) ("logic-gate_" ++ natStr k) k) ("logic-gate_" ++ natStr k) := by
  refine ⟨?_, defEx_of_dv (dv_addNamesPorts _ _ _) (defEx_ensureDef _ _)⟩
  rcases h with h | ⟨hd, hp⟩
  · exact names_def_fresh _ _ k (defEx_ensureDef _ _) (portsOf_ensureDef_fresh st _ h)
  · have e : portsOf (ensureDef st ("logic-gate_" ++ natStr k)) ("logic-gate_" ++ natStr k) = stdNamesPorts k := by
      rw [portsOf_ensureDef_old st _ hd]; exact hp
    rw [names_def_again _ _ k e]; exact e

theorem plain_inName (j : Nat) : plainName (inName j) ∧ (inName j).toList ≠ [] := by
  have hl : (inName j).toList = ['i', 'n', '_'] ++ (natStr j).toList := by
    unfold inName
    rw [String.toList_append]
    rfl
  refine ⟨?_, by rw [hl]; simp⟩
  intro c hc he
  subst he
  have hm : ']' ∈ (inName j).toList := List.mem_of_getLast? hc
  rw [hl] at hm
  rcases List.mem_append.mp hm with h1 | h1
  · revert h1; decide
  · have hd : ']' ∈ Nat.toDigits 10 j := by simpa [natStr] using h1
    have := toDigits_bounds (hd)
    simp at this

theorem std_split (k : Nat) : ∀ p ∈ stdNamesPorts k, splitIdx p.name = Except.ok (p.name, 0) := by
  intro p hp
  unfold stdNamesPorts at hp
  rcases List.mem_append.mp hp with h | h
  · obtain ⟨j, _, rfl⟩ := List.mem_map.mp h
    exact splitIdx_plain _ (plain_inName j).1 (plain_inName j).2
  · simp only [List.mem_singleton] at h
    subst h
    rfl

theorem findIn_isSome_of_mem {ps : List PortD} {p : PortD} (h : p ∈ ps) : (findIn ps p.name).isSome = true := by
  unfold findIn
  rw [List.find?_isSome]
  exact ⟨p, h, by simp⟩

theorem nm_addNamesPorts (st : St) (dn : String) (k : Nat) : namesOf (addNamesPorts st dn k) = namesOf st := by
  unfold addNamesPorts
  simp only [nm_addPort]
  generalize List.range k = l
  induction l generalizing st with
  | nil => rfl
  | cons a r ih => rw [List.foldl_cons, ih]; simp

theorem names_stmt_ok (o : Opts) (i : Inst) (t : String) (nets covers : List String) (st : St) (idx : Nat)
    (hne : nets ≠ [])
    (hnet : ∀ nt ∈ nets, ∃ cn ci, splitIdx nt = Except.ok (cn, ci))
    (hstd : Std st (nets.length - 1))
    (hlen : st.insts.length = idx)
    (hx : o.writeCname = true → ∀ j, j ≠ idx → (namesOf st)[j]? ≠ some i.name) :
    ∃ st', elabStmt st t (Stmt.names nets covers (infoStmts o i)) = Except.ok st' ∧ st'.insts.length = idx + 1 ∧
      (o.writeCname = true → namesOf st' = namesOf st ++ [i.name]) := by
  obtain ⟨hp0, _⟩ := std_after st (nets.length - 1) hstd
  refine inst_stmt_ok o i t (s := Stmt.names nets covers (infoStmts o i)) rfl hne rfl rfl
    (by rw [nm_addNamesPorts]; simp) (fun fa hfa => ?_) hlen hx
  rw [show stmtConns st (Stmt.names nets covers (infoStmts o i)) = namesInfo st nets from rfl, names_info_std st nets hstd] at hfa
  obtain ⟨⟨p, nt⟩, hpn, rfl⟩ := List.mem_map.mp hfa
  have hp : p ∈ stdNamesPorts (nets.length - 1) := (List.of_mem_zip hpn).1
  obtain ⟨cn, ci, e1⟩ := hnet nt (List.of_mem_zip hpn).2
  refine ⟨cn, ci, p.name, 0, e1, std_split _ p hp, ?_⟩
  show (findIn (portsOf (addNamesPorts _ _ _) ("logic-gate_" ++ natStr (nets.length - 1))) p.name).isSome = true
  rw [hp0]; exact findIn_isSome_of_mem hp

theorem std_other {st st' : St} {cur : String} {s : Stmt} (hs : Stmt.isInstance s = true) {k : Nat}
    (hne : "logic-gate_" ++ natStr k ≠ stmtModel s) (hk : Std st k) (h : elabStmt st cur s = Except.ok st') :
    Std st' k := by
  unfold Std DefEx portsOf at *
  rwa [findDef_elabStmt_inst hs hne h]

theorem portWidth_of_defs {a b : St} (h : b.defs = a.defs) (dn pn : String) : portWidth b dn pn = portWidth a dn pn := by
  unfold portWidth; rw [findDef_of_defs h]

theorem connectAll_defs_fixed {idx : Nat} {parent model : String} (l : List (String × String)) :
    ∀ {st st' : St}, (∀ fa ∈ l, ∀ pn pi, splitIdx fa.1 = Except.ok (pn, pi) → pi + 1 ≤ portWidth st model pn) →
      connectAll st idx parent model l = Except.ok st' → st'.defs = st.defs := by
  induction l with
  | nil => intro st st' _ h; cases h; rfl
  | cons fa r ih =>
    intro st st' hw h
    unfold connectAll at h
    obtain ⟨s1, h1, h2⟩ := bind_ok h
    have e1 : s1.defs = st.defs := by
      obtain ⟨cn, ci, pn, pi, _, hsp, ⟨_, rfl⟩ | ⟨_, _, rfl⟩⟩ := connectOne_eq h1
      · rfl
      · rw [growPort_of_le (hw fa (by simp) pn pi hsp)]; exact defs_connect _ _ _ _ _
    rw [ih (fun fb hfb pn pi hsp => by rw [portWidth_of_defs e1]; exact hw fb (by simp [hfb]) pn pi hsp) h2, e1]

theorem portWidth_std {s : St} {dn : String} {k : Nat} (hp : portsOf s dn = stdNamesPorts k) {p : PortD}
    (hm : p ∈ stdNamesPorts k) : portWidth s dn p.name = 1 := by
  rw [portWidth_eq, hp]
  have hs := findIn_isSome_of_mem hm
  cases hf : findIn (stdNamesPorts k) p.name with
  | none => rw [hf] at hs; cases hs
  | some q =>
    have hq : q ∈ stdNamesPorts k := List.mem_of_find?_eq_some hf
    unfold stdNamesPorts at hq
    rcases List.mem_append.mp hq with h | h
    · obtain ⟨j, _, rfl⟩ := List.mem_map.mp h; rfl
    · simp only [List.mem_singleton] at h; subst h; rfl

theorem ports_fixed_elabStmt_inst {st st' : St} {cur : String} {s : Stmt} (hs : Stmt.isInstance s = true)
    (h : elabStmt st cur s = Except.ok st') :
    ∃ sA, Prep st cur s sA ∧
      ((∀ fa ∈ stmtConns st s, ∀ pn pi, splitIdx fa.1 = Except.ok (pn, pi) → pi + 1 ≤ portWidth sA (stmtModel s) pn) →
      Fr (stmtModel s) sA st') := by
  obtain ⟨sA, s1, s2, hp, _, hn, h2, h3⟩ := elabStmt_inst_cases hs h
  refine ⟨sA, hp, fun hw => ?_⟩
  have f1 := fr_of_defs hp.defEx hn.defs_created
  have f2 : Fr (stmtModel s) s1 s2 := fr_of_defs f1.2 (connectAll_defs_fixed _ (fun fa hfa pn pi hsp => by
    rw [portWidth_of_defs hn.defs_created]; exact hw fa hfa pn pi hsp) h2)
  exact f1.trans (f2.trans (fr_applyInfo _ f2.2 h3))

theorem std_names_self {st st' : St} {cur : String} {nets covers : List String} {info : List InfoStmt}
    (hk : Std st (nets.length - 1)) (h : elabStmt st cur (Stmt.names nets covers info) = Except.ok st') :
    DefEx st' ("logic-gate_" ++ natStr (nets.length - 1)) ∧
    portsOf st' ("logic-gate_" ++ natStr (nets.length - 1)) = stdNamesPorts (nets.length - 1) := by
  obtain ⟨hp0, _⟩ := std_after st (nets.length - 1) hk
  obtain ⟨sA, rfl, hf⟩ := ports_fixed_elabStmt_inst (s := Stmt.names nets covers info) rfl h
  have f := hf (by
    -- connecting one-bit ports widens nothing
    intro fa hfa pn pi hsp
    rw [show stmtConns st (Stmt.names nets covers info) = namesInfo st nets from rfl, names_info_std st nets hk] at hfa
    obtain ⟨pq, hpq, rfl⟩ := List.mem_map.mp hfa
    have hm : pq.1 ∈ stdNamesPorts (nets.length - 1) := by
      obtain ⟨p, nt⟩ := pq; exact (List.of_mem_zip hpq).1
    rw [std_split _ pq.1 hm] at hsp
    cases hsp
    rw [show stmtModel (Stmt.names nets covers info) = "logic-gate_" ++ natStr (nets.length - 1) from rfl, portWidth_std hp0 hm]
    omega)
  exact ⟨f.2, f.1.trans hp0⟩

end Spydr.Eblif
