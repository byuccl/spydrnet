/-
  Exactness across `.blackbox` and across models: the global join list is threaded through every
  statement of every model; `.blackbox` removes the joins declared for the bits of its model.
-/
import Spydr.Eblif.ExactJoins
import Spydr.Eblif.NetInv

namespace Spydr.Eblif

theorem wf_elabModels (ms : List Model) :
    ∀ {st st' : St}, WF st → elabModels st ms = Except.ok st' → WF st' :=
  fun w h => wf_netInv.elabModels ms w h

theorem exact_clearOwner {st : St} {J : List (Pin × Key)} (w : WF st) (e : Exact st J) (c : String) :
    Exact (clearOwner st c) (J.filter (fun x => x.2.1 ≠ c)) := by
  intro p k
  by_cases hk : k.1 = c
  · simp only [clearOwner, hk, if_true]
    constructor
    · intro h; cases h
    · rintro ⟨k', hm, ha⟩
      simp only [List.mem_filter, decide_eq_true_eq] at hm
      simp only [hm.2, if_false] at ha
      have := w.own k'
      rw [ha, hk] at this
      exact absurd this.symm hm.2
  · have hp : (clearOwner st c).pins k = st.pins k := by simp [clearOwner, hk]
    rw [hp, e p k]
    constructor
    · rintro ⟨k', hm, ha⟩
      have hko : k'.1 ≠ c := by
        have := w.own k'
        rw [ha] at this
        rw [← this]; exact hk
      refine ⟨k', ?_, ?_⟩
      · simp only [List.mem_filter, decide_eq_true_eq]; exact ⟨hm, hko⟩
      · simp [clearOwner, hko, ha]
    · rintro ⟨k', hm, ha⟩
      simp only [List.mem_filter, decide_eq_true_eq] at hm
      refine ⟨k', hm.1, ?_⟩
      simpa [clearOwner, hm.2] using ha

def stmtAcc (st : St) (cur : String) (J : List (Pin × Key)) : Stmt → List (Pin × Key)
  | Stmt.blackbox => J.filter (fun x => x.2.1 ≠ cur)
  | s => J ++ stmtJoins st cur s

theorem exact_elabStmt_all {st st' : St} {J : List (Pin × Key)} {cur : String} {s : Stmt}
    (w : WF st) (e : Exact st J) (h : elabStmt st cur s = Except.ok st') : Exact st' (stmtAcc st cur J s) := by
  cases s with
  | blackbox =>
    unfold elabStmt at h
    cases h
    exact Exact.of_pa (pa_of_nf (nf_updDef _ _ _)) (exact_clearOwner w e cur)
  | subckt g m c i => exact exact_elabStmt (by intro hh; cases hh) e h
  | names a b c => exact exact_elabStmt (by intro hh; cases hh) e h
  | latch a b => exact exact_elabStmt (by intro hh; cases hh) e h
  | conn a b => exact exact_elabStmt (by intro hh; cases hh) e h

/-- the join list after a statement list (state threaded as in `bodyJoins`) -/
def bodyAcc (cur : String) : St → List (Pin × Key) → List Stmt → List (Pin × Key)
  | _, J, [] => J
  | st, J, s :: r =>
      match elabStmt st cur s with
      | Except.ok st1 => bodyAcc cur st1 (stmtAcc st cur J s) r
      | Except.error _ => stmtAcc st cur J s

theorem exact_elabStmts_all {cur : String} (l : List Stmt) :
    ∀ {st st' : St} {J : List (Pin × Key)}, WF st → Exact st J → elabStmts st cur l = Except.ok st' →
      Exact st' (bodyAcc cur st J l) := by
  induction l with
  | nil => intro st st' J _ e h; cases h; exact e
  | cons s r ih =>
    intro st st' J w e h
    unfold elabStmts at h
    obtain ⟨s1, h1, h2⟩ := bind_ok h
    simp only [bodyAcc, h1]
    exact ih (wf_netInv.elabStmt w h1) (exact_elabStmt_all w e h1) h2

/-- what `.outputs word` joins: nothing when the word names an existing input port -/
def outJoin (st : St) (cur tok : String) : List (Pin × Key) :=
  match splitIdx tok with
  | Except.ok (pn, pi) =>
      if portDir (addPort st cur pn Dir.out 0) cur pn = Dir.inp ∨ portDir (addPort st cur pn Dir.out 0) cur pn = Dir.inout
      then [] else [(Pin.top cur pn pi, (cur, pn, pi))]
  | Except.error _ => []

def inJoin (cur tok : String) : List (Pin × Key) :=
  match splitIdx tok with
  | Except.ok (pn, pi) => [(Pin.top cur pn pi, (cur, pn, pi))]
  | Except.error _ => []

theorem exact_elabInput_all {st st' : St} {J : List (Pin × Key)} {cur tok : String}
    (e : Exact st J) (h : elabInput st cur tok = Except.ok st') : Exact st' (J ++ inJoin cur tok) := by
  obtain ⟨pn, pi, hs, _⟩ := elabInput_cases h
  simp only [inJoin, hs]
  exact exact_elabInput e hs h

theorem exact_elabOutput_all {st st' : St} {J : List (Pin × Key)} {cur tok : String}
    (e : Exact st J) (h : elabOutput st cur tok = Except.ok st') : Exact st' (J ++ outJoin st cur tok) := by
  obtain ⟨pn, pi, _, hs, rfl, hc⟩ := elabOutput_cases h
  simp only [outJoin, hs]
  rcases hc with ⟨hio, rfl⟩ | ⟨h1, h2, rfl⟩
  · simp only [hio, if_true, List.append_nil]
    exact Exact.of_pa (pa_of_nf (by simp)) e
  · rw [if_neg (fun hio => hio.elim h1 h2)]
    exact exact_connect (Exact.of_pa (pa_of_nf (by simp)) e) _ _ _ _

def toksAcc (isOut : Bool) (cur : String) : St → List (Pin × Key) → List String → List (Pin × Key)
  | _, J, [] => J
  | st, J, w :: r =>
      let J' := J ++ (if isOut then outJoin st cur w else inJoin cur w)
      match (if isOut then elabOutput st cur w else elabInput st cur w) with
      | Except.ok st1 => toksAcc isOut cur st1 J' r
      | Except.error _ => J'

theorem exact_inputs_all {cur : String} (l : List String) :
    ∀ {st st' : St} {J : List (Pin × Key)}, Exact st J → elabToks elabInput st cur l = Except.ok st' →
      Exact st' (toksAcc false cur st J l) := by
  induction l with
  | nil => intro st st' J e h; cases h; exact e
  | cons w r ih =>
    intro st st' J e h
    unfold elabToks at h
    obtain ⟨s1, h1, h2⟩ := bind_ok h
    simp only [toksAcc, Bool.false_eq_true, if_false, h1]
    exact ih (exact_elabInput_all e h1) h2

theorem exact_outputs_all {cur : String} (l : List String) :
    ∀ {st st' : St} {J : List (Pin × Key)}, Exact st J → elabToks elabOutput st cur l = Except.ok st' →
      Exact st' (toksAcc true cur st J l) := by
  induction l with
  | nil => intro st st' J e h; cases h; exact e
  | cons w r ih =>
    intro st st' J e h
    unfold elabToks at h
    obtain ⟨s1, h1, h2⟩ := bind_ok h
    simp only [toksAcc, if_true, h1]
    exact ih (exact_elabOutput_all e h1) h2

def hdrAcc (cur : String) (st : St) (J : List (Pin × Key)) : Hdr → List (Pin × Key)
  | Hdr.inputs l => toksAcc false cur st J l
  | Hdr.outputs l => toksAcc true cur st J l
  | Hdr.clock _ => J

def hdrsAcc (cur : String) : St → List (Pin × Key) → List Hdr → List (Pin × Key)
  | _, J, [] => J
  | st, J, x :: r =>
      match elabHdr st cur x with
      | Except.ok st1 => hdrsAcc cur st1 (hdrAcc cur st J x) r
      | Except.error _ => hdrAcc cur st J x

theorem exact_elabHdrs_all {cur : String} (l : List Hdr) :
    ∀ {st st' : St} {J : List (Pin × Key)}, Exact st J → elabHdrs st cur l = Except.ok st' →
      Exact st' (hdrsAcc cur st J l) := by
  induction l with
  | nil => intro st st' J e h; cases h; exact e
  | cons x r ih =>
    intro st st' J e h
    unfold elabHdrs at h
    obtain ⟨s1, h1, h2⟩ := bind_ok h
    simp only [hdrsAcc, h1]
    refine ih ?_ h2
    cases x with
    | inputs l => exact exact_inputs_all l e h1
    | outputs l => exact exact_outputs_all l e h1
    | clock l => unfold elabHdr at h1; cases h1; exact Exact.of_pa (pa_of_nf (nf_updDef _ _ _)) e

def modelAcc (st : St) (J : List (Pin × Key)) (m : Model) : List (Pin × Key) :=
  match elabHdrs (beginModel st m.name) m.name m.hdr with
  | Except.ok sh => bodyAcc m.name sh (hdrsAcc m.name (beginModel st m.name) J m.hdr) m.body
  | Except.error _ => hdrsAcc m.name (beginModel st m.name) J m.hdr

def modelsAcc : St → List (Pin × Key) → List Model → List (Pin × Key)
  | _, J, [] => J
  | st, J, m :: r =>
      match elabModel st m with
      | Except.ok st1 => modelsAcc st1 (modelAcc st J m) r
      | Except.error _ => modelAcc st J m

theorem exact_elabModel_all {st st' : St} {J : List (Pin × Key)} {m : Model} (w : WF st) (e : Exact st J)
    (h : elabModel st m = Except.ok st') : Exact st' (modelAcc st J m) := by
  unfold elabModel at h
  obtain ⟨sh, h1, h2⟩ := bind_ok h
  simp only [modelAcc, h1]
  have wb : WF (beginModel st m.name) := WF.of_fields (nf_beginModel _ _) w
  exact exact_elabStmts_all _ (wf_netInv.elabHdrs _ wb h1)
    (exact_elabHdrs_all _ (Exact.of_pa (pa_of_nf (nf_beginModel _ _)) e) h1) h2

theorem exact_elabModels_all (ms : List Model) :
    ∀ {st st' : St} {J : List (Pin × Key)}, WF st → Exact st J → elabModels st ms = Except.ok st' →
      Exact st' (modelsAcc st J ms) := by
  induction ms with
  | nil => intro st st' J _ e h; cases h; exact e
  | cons m r ih =>
    intro st st' J w e h
    unfold elabModels at h
    obtain ⟨s1, h1, h2⟩ := bind_ok h
    simp only [modelsAcc, h1]
    exact ih (wf_netInv.elabModel w h1) (exact_elabModel_all w e h1) h2

end Spydr.Eblif
