/-
  Ports never disappear and never get narrower: for every definition name and port name, a port
  found in a state is found in every later state, at least as wide.
-/
import Spydr.Eblif.StmtJoins

namespace Spydr.Eblif

def PMono (a b : St) : Prop :=
  ∀ dn pn p, findIn (portsOf a dn) pn = some p → ∃ p', findIn (portsOf b dn) pn = some p' ∧ p.width ≤ p'.width

theorem PMono.refl (a : St) : PMono a a := fun _ _ p h => ⟨p, h, Nat.le_refl _⟩

theorem PMono.trans {a b c : St} (h1 : PMono a b) (h2 : PMono b c) : PMono a c := by
  intro dn pn p h
  obtain ⟨p1, g1, l1⟩ := h1 dn pn p h
  obtain ⟨p2, g2, l2⟩ := h2 dn pn p1 g1
  exact ⟨p2, g2, Nat.le_trans l1 l2⟩

theorem PMono.of_defs {a b : St} (h : b.defs = a.defs) : PMono a b := by
  intro dn pn p hp
  rw [portsOf_of_defs h]
  exact ⟨p, hp, Nat.le_refl _⟩

theorem pmono_updDef_keep (st : St) (n : String) (f : DefD → DefD) (hf : ∀ d, (f d).name = d.name ∧ (f d).ports = d.ports) :
    PMono st (updDef st n f) := by
  intro dn pn p hp
  refine ⟨p, ?_, Nat.le_refl _⟩
  unfold portsOf at hp ⊢
  rw [findDef_updDef st n f (fun d => (hf d).1) dn]
  cases hfd : findDef st dn with
  | none => rw [hfd] at hp; simp [findIn] at hp
  | some d =>
    rw [hfd] at hp
    simp only [Option.map_some]
    split
    · rw [(hf d).2]; exact hp
    · exact hp

theorem pmono_ensureDef (st : St) (n : String) : PMono st (ensureDef st n) := by
  unfold ensureDef
  cases h : findDef st n with
  | some d => exact PMono.refl st
  | none =>
    intro dn pn p hp
    refine ⟨p, ?_, Nat.le_refl _⟩
    unfold portsOf findDef at hp ⊢
    simp only [List.find?_append]
    cases hf : st.defs.find? (fun d => d.name = dn) with
    | none => rw [hf] at hp; simp [findIn] at hp
    | some d => rw [hf] at hp; simpa using hp

theorem pmono_addPort (st : St) (dn pn : String) (d : Dir) (w : Nat) : PMono st (addPort st dn pn d w) := by
  intro t q p hp
  rw [lookup_addPort, if_neg (fun h => by rw [h.2.2.2] at hp; cases hp)]
  exact ⟨p, hp, Nat.le_refl _⟩

theorem pmono_setDir (st : St) (dn pn : String) (d : Dir) : PMono st (setDir st dn pn d) := by
  intro t q p hp
  rw [lookup_setDir, hp]
  exact ⟨_, rfl, by simp only []; split <;> exact Nat.le_refl _⟩

theorem pmono_growPort (st : St) (dn pn : String) (w : Nat) : PMono st (growPort st dn pn w) := by
  intro t q p hp
  rw [lookup_growPort, hp]
  refine ⟨_, rfl, ?_⟩
  simp only []; split
  · rename_i h; exact Nat.le_of_lt h.2.2
  · exact Nat.le_refl _

theorem pm_ensureWire (st : St) (o n : String) (i : Nat) : PMono st (ensureWire st o n i) := by
  apply PMono.of_defs
  unfold ensureWire ensureCable; simp only []; split <;> split <;> rfl

theorem pm_prim {cur : String} {a b : St} (h : Prim cur a b) : PMono a b := by
  cases h with
  | quiet q =>
    cases q with
    | ensureDef n _ => exact pmono_ensureDef _ _
    | checkHierarchy d => unfold checkHierarchy; split <;> exact PMono.of_defs rfl
    | addPort dn pn d w => exact pmono_addPort _ _ _ _ _
    | growPort dn pn w => exact pmono_growPort _ _ _ _
    | setDir dn pn d => exact pmono_setDir _ _ _ _
    | assignDefault m => exact PMono.of_defs (defs_assignDefault _ _ _ _)
    | connect p n i => exact PMono.of_defs (defs_connect _ _ _ _ _)
    | clock l => exact pmono_updDef_keep _ _ _ (fun _ => ⟨rfl, rfl⟩)
    | edit f hf => exact PMono.of_defs rfl
  | newInst m t hd => exact PMono.of_defs rfl
  | covers i c => exact PMono.of_defs rfl
  | conn n1 i1 n2 i2 =>
    refine (pm_ensureWire a cur n1 i1).trans ((pm_ensureWire _ cur n2 i2).trans (PMono.of_defs ?_))
    unfold mergeKeys; simp only []; split <;> rfl
  | blackbox => exact PMono.trans (PMono.of_defs (b := clearOwner a cur) rfl) (pmono_updDef_keep _ _ _ (fun _ => ⟨rfl, rfl⟩))

theorem Run.pm {cur : String} {idx : Nat} {D : String → Prop} {a b : St} (h : Run (PrimQ cur idx D) a b) : PMono a b :=
  h.lift PMono.refl PMono.trans (fun q => pm_prim (.quiet q))

theorem pm_connectOne {st st' : St} {idx : Nat} {parent model : String} {fa : String × String}
    (h : connectOne st idx parent model fa = Except.ok st') : PMono st st' :=
  (Run.connectOne (D := fun _ => True) trivial h).pm

theorem pm_connectAll {idx : Nat} {parent model : String} (l : List (String × String)) {st st' : St}
    (h : connectAll st idx parent model l = Except.ok st') : PMono st st' :=
  (Run.connectAll (D := fun _ => True) trivial h).pm

theorem pm_declFormals {model : String} (l : List (String × String)) {st st' : St}
    (h : declFormals st model l = Except.ok st') : PMono st st' :=
  (Run.declFormals (cur := "") (idx := 0) (D := fun _ => True) trivial h).pm

theorem pm_applyInfo {idx : Nat} {parent : String} (l : List InfoStmt) {st st' : St}
    (h : applyInfo st idx parent l = Except.ok st') : PMono st st' :=
  (Run.applyInfo (D := fun _ => True) h).pm

theorem pm_addLatchPorts (l : List String) (st : St) : PMono st (addLatchPorts st l) :=
  (Run.addLatchPorts (cur := "") (idx := 0) (D := fun _ => True) trivial l st).pm

theorem pm_elabStmt {st st' : St} {cur : String} {s : Stmt} (h : elabStmt st cur s = Except.ok st') : PMono st st' :=
  (Run.elabStmt h).lift PMono.refl PMono.trans pm_prim

theorem pm_elabStmts {cur : String} (l : List Stmt) {st st' : St} (h : elabStmts st cur l = Except.ok st') :
    PMono st st' :=
  (Run.elabStmts h).lift PMono.refl PMono.trans pm_prim

theorem pm_beginModel (st : St) (n : String) : PMono st (beginModel st n) :=
  beginModel_rel (R := PMono) PMono.trans (pmono_ensureDef · n) (pmono_updDef_keep · n _ (fun _ => ⟨rfl, rfl⟩))
    (fun _ _ _ => PMono.of_defs rfl) st

theorem ports_monotone (ms : List Model) (st st' : St) (h : elabModels st ms = Except.ok st') : PMono st st' :=
  elabModels_rel PMono.refl PMono.trans
    (fun _ _ _ _ h => (pm_beginModel _ _).trans ((Run.elabModel h).lift PMono.refl PMono.trans pm_prim)) h

theorem findIn_of_width {st : St} {dn pn : String} {pi : Nat} (h : pi < portWidth st dn pn) :
    ∃ p, findIn (portsOf st dn) pn = some p ∧ pi < p.width := by
  rw [portWidth_eq] at h
  cases hf : findIn (portsOf st dn) pn with
  | none => simp [hf] at h
  | some p => simp only [hf] at h; exact ⟨p, rfl, h⟩

theorem connectAll_port {idx : Nat} {parent model : String} (l : List (String × String)) :
    ∀ {st st' : St}, connectAll st idx parent model l = Except.ok st' →
      ∀ fa ∈ l, ∀ cn ci pn pi, splitIdx fa.2 = Except.ok (cn, ci) → splitIdx fa.1 = Except.ok (pn, pi) →
        cn ≠ "unconn" → ∃ p, findIn (portsOf st' model) pn = some p ∧ pi < p.width := by
  intro st st' h0 fa hfa cn ci pn pi e1 e2 hu
  obtain ⟨_, a, b, r, _, h1, h⟩ := loop_mem (go := fun s l => connectAll s idx parent model l) (fun _ => rfl) (fun _ _ _ => rfl) h0 hfa
  obtain ⟨_, hw⟩ := connectOne_port e1 e2 hu h1
  obtain ⟨p, hp, hpi⟩ := findIn_of_width hw
  obtain ⟨p', hp', hle⟩ := pm_connectAll r h model pn p hp
  exact ⟨p', hp', by omega⟩

end Spydr.Eblif
