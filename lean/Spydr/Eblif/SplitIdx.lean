/-
  `splitIdx` undoes the writer's `name[index]`.
-/
import Spydr.Eblif.Spec
import Spydr.Common.Char

namespace Spydr.Eblif

theorem digit_bounds {c : Char} (hd : c.isDigit = true) : 48 ≤ c.toNat ∧ c.toNat ≤ 57 :=
  (isDigit_iff c).mp hd

theorem toDigits_bounds {c : Char} {n : Nat} (h : c ∈ Nat.toDigits 10 n) : 48 ≤ c.toNat ∧ c.toNat ≤ 57 :=
  digit_bounds (Nat.isDigit_of_mem_toDigits (by decide) (by decide) h)

theorem isDigit_of_toDigits {c : Char} {n : Nat} (h : c ∈ Nat.toDigits 10 n) : isDigit c = true := by
  have hd := toDigits_bounds (h)
  unfold isDigit
  have h0 : ('0' : Char).toNat = 48 := by decide
  have h9 : ('9' : Char).toNat = 57 := by decide
  simp only [Bool.and_eq_true, decide_eq_true_eq]
  constructor
  · rw [Char.le_def, UInt32.le_iff_toNat_le]; exact hd.1
  · rw [Char.le_def, UInt32.le_iff_toNat_le]; exact hd.2

theorem digitsToNat_natStr (n : Nat) : digitsToNat (natStr n).toList = n := by
  have : (natStr n).toList = Nat.toDigits 10 n := by simp [natStr]
  rw [this]
  exact Nat.ofDigitChars_ten_toDigits

theorem takeWhile_all {α : Type} (p : α → Bool) (l : List α) (h : ∀ x ∈ l, p x = true) : l.takeWhile p = l := by
  simpa using List.takeWhile_append_of_pos (l₂ := []) h

theorem takeWhile_append_stop {α : Type} (p : α → Bool) (l : List α) (a : α) (r : List α)
    (h : ∀ x ∈ l, p x = true) (ha : p a = false) : (l ++ a :: r).takeWhile p = l := by
  rw [List.takeWhile_append_of_pos h, List.takeWhile_cons_of_neg (by simp [ha]), List.append_nil]

/-- `rfindOpen` finds the last `[` -/
theorem rfindOpen_append (l r : List Char) (h : '[' ∉ r) : rfindOpen (l ++ '[' :: r) = some l.length := by
  unfold rfindOpen
  have hrev : (l ++ '[' :: r).reverse = r.reverse ++ '[' :: l.reverse := by simp
  rw [hrev, takeWhile_append_stop _ _ _ _ (by
    intro x hx
    have : x ≠ '[' := fun e => h (e ▸ List.mem_reverse.mp hx)
    simpa using this) (by simp)]
  simp only [List.length_reverse, List.length_append, List.length_cons]
  rw [if_neg (by omega)]
  exact congrArg some (by omega)

theorem splitIdx_idx (a : String) (i : Nat) : splitIdx (a ++ "[" ++ natStr i ++ "]") = Except.ok (a, i) := by
  have hl : (a ++ "[" ++ natStr i ++ "]").toList = a.toList ++ '[' :: ((natStr i).toList ++ [']']) := by
    simp [String.toList_append]
  have hdig : ∀ c ∈ (natStr i).toList, isDigit c = true := by
    intro c hc
    exact isDigit_of_toDigits (by simpa [natStr] using hc)
  have hnb : ∀ c ∈ (natStr i).toList, c ≠ '[' ∧ c ≠ ']' ∧ c ≠ ':' := by
    intro c hc
    have hd := toDigits_bounds ((by simpa [natStr] using hc : c ∈ Nat.toDigits 10 i))
    refine ⟨?_, ?_, ?_⟩ <;> (intro he; subst he; simp at hd)
  have hne : (natStr i).toList ≠ [] := by
    have : (natStr i).toList = Nat.toDigits 10 i := by simp [natStr]
    rw [this]; exact Nat.toDigits_ne_nil
  unfold splitIdx
  simp only [hl]
  have hlast : (a.toList ++ '[' :: ((natStr i).toList ++ [']'])).getLast? = some ']' := by
    have : a.toList ++ '[' :: ((natStr i).toList ++ [']']) = (a.toList ++ '[' :: (natStr i).toList) ++ [']'] := by simp
    rw [this, List.getLast?_concat]
  rw [hlast]
  simp only [ne_eq, not_true_eq_false, if_false]
  have hrf := rfindOpen_append a.toList ((natStr i).toList ++ [']']) (by
    intro h
    rcases List.mem_append.mp h with h | h
    · exact (hnb _ h).1 rfl
    · simp at h)
  rw [hrf]
  simp only
  have hdrop : (a.toList ++ '[' :: ((natStr i).toList ++ [']'])).drop (a.toList.length + 1) = (natStr i).toList ++ [']'] := by
    rw [List.drop_append]
    simp
  have htake : (a.toList ++ '[' :: ((natStr i).toList ++ [']'])).take a.toList.length = a.toList := by
    rw [List.take_append]
    simp
  rw [hdrop, htake]
  rw [takeWhile_append_stop _ _ _ _ (by intro x hx; simpa using (hnb x hx).2.1) (by simp)]
  rw [takeWhile_all _ _ (by intro x hx; simpa using (hnb x hx).2.2)]
  have hc : ((natStr i).toList ≠ [] && (natStr i).toList.all isDigit) = true := by
    simp only [Bool.and_eq_true, List.all_eq_true]
    exact ⟨by simpa using hne, hdig⟩
  rw [if_pos hc, digitsToNat_natStr, String.ofList_toList]

theorem splitIdx_plain (a : String) (h : ∀ c, a.toList.getLast? = some c → c ≠ ']') (hne : a.toList ≠ []) :
    splitIdx a = Except.ok (a, 0) := by
  unfold splitIdx
  cases hl : a.toList.getLast? with
  | none =>
    rw [List.getLast?_eq_none_iff] at hl
    exact absurd hl hne
  | some c =>
    simp only [hl]
    rw [if_pos (h c hl)]

end Spydr.Eblif
