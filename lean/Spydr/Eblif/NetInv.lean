/-
  The alias table of the EBLIF elaborator always points at live wires (`WF`), so what is `Joined`
  on the elaborator state is a pin in a wire of the materialised netlist (`St.toNet`).
-/
import Spydr.Eblif.Edits

namespace Spydr.Eblif

structure WF (st : St) : Prop where
  tgt : ∀ k, Live st k → Live st (st.alias k)
  idn : ∀ k, ¬ Live st k → st.alias k = k
  own : ∀ k, (st.alias k).1 = k.1

theorem WF.init : WF ({} : St) :=
  ⟨fun k h => by simp [Live] at h, fun _ _ => rfl, fun _ => rfl⟩

theorem live_of_fields {st st' : St} (h : netFields st' = netFields st) (k : Key) : Live st' k ↔ Live st k := by
  simp only [netFields, Prod.mk.injEq] at h
  obtain ⟨_, _, hc, hw⟩ := h
  simp [Live, hc, hw]

theorem WF.of_fields {st st' : St} (h : netFields st' = netFields st) (w : WF st) : WF st' := by
  have hl := live_of_fields h
  simp only [netFields, Prod.mk.injEq] at h
  obtain ⟨_, ha, _, _⟩ := h
  refine ⟨fun k hk => ?_, fun k hk => ?_, fun k => ?_⟩
  · rw [ha]; exact (hl _).mpr (w.tgt k ((hl k).mp hk))
  · rw [ha]; exact w.idn k (fun h' => hk ((hl k).mpr h'))
  · rw [ha]; exact w.own k

theorem WF.of_mono {st st' : St} (ha : st'.alias = st.alias) (hm : ∀ k, Live st k → Live st' k) (w : WF st) :
    WF st' := by
  refine ⟨fun k hk => ?_, fun k hk => ?_, fun k => ?_⟩
  · rw [ha]
    by_cases h0 : Live st k
    · exact hm _ (w.tgt k h0)
    · rw [w.idn k h0]; exact hk
  · rw [ha]; exact w.idn k (fun h' => hk (hm k h'))
  · rw [ha]; exact w.own k

theorem alias_ensureCable (st : St) (o n : String) : (ensureCable st o n).alias = st.alias := by
  unfold ensureCable; split <;> rfl
theorem alias_ensureWire (st : St) (o n : String) (i : Nat) : (ensureWire st o n i).alias = st.alias := by
  unfold ensureWire; simp only []; split <;> simp [alias_ensureCable]
theorem alias_connect (st : St) (p : Pin) (o n : String) (i : Nat) : (connect st p o n i).alias = st.alias := by
  unfold connect; exact alias_ensureWire st o n i

theorem wf_ensureWire {st : St} (w : WF st) (o n : String) (i : Nat) : WF (ensureWire st o n i) :=
  WF.of_mono (alias_ensureWire st o n i) (ext_ensureWire st o n i).live w

theorem wf_connect {st : St} (w : WF st) (p : Pin) (o n : String) (i : Nat) : WF (connect st p o n i) :=
  WF.of_mono (alias_connect st p o n i) (ext_connect st p o n i).live w

theorem live_mergeKeys (st : St) (ka kb k : Key) : Live (mergeKeys st ka kb) k ↔ Live st k := by
  unfold mergeKeys; simp only []; split <;> rfl

theorem wf_mergeKeys {st : St} (w : WF st) (ka kb : Key) (la : Live st ka) (lb : Live st kb) (ho : ka.1 = kb.1) :
    WF (mergeKeys st ka kb) := by
  have hl := live_mergeKeys st ka kb
  refine ⟨fun k hk => ?_, fun k hk => ?_, fun k => ?_⟩ <;> simp only [alias_mergeKeys, aliasStep]
  · rw [hl] at hk ⊢
    split
    · exact w.tgt ka la
    · exact w.tgt k hk
  · rw [hl] at hk
    rw [w.idn k hk, if_neg (fun (hkb : k = st.alias kb) => hk (hkb ▸ w.tgt kb lb))]
  · split
    · rename_i hkb
      rw [w.own ka, ho, ← w.own kb, ← hkb, w.own k]
    · exact w.own k

theorem live_clearOwner (st : St) (o : String) (k : Key) : Live (clearOwner st o) k ↔ (Live st k ∧ k.1 ≠ o) := by
  simp only [Live, clearOwner, List.mem_filter, decide_eq_true_eq]
  constructor
  · rintro ⟨⟨h1, h2⟩, h3⟩
    simp only [h2, if_false] at h3
    exact ⟨⟨h1, h3⟩, h2⟩
  · rintro ⟨⟨h1, h3⟩, h2⟩
    exact ⟨⟨h1, h2⟩, by simp only [h2, if_false]; exact h3⟩

theorem wf_clearOwner {st : St} (w : WF st) (o : String) : WF (clearOwner st o) := by
  have hl := live_clearOwner st o
  refine ⟨fun k hk => ?_, fun k hk => ?_, fun k => ?_⟩
  · obtain ⟨h1, h2⟩ := (hl k).mp hk
    have : (clearOwner st o).alias k = st.alias k := by simp [clearOwner, h2]
    rw [this]
    exact (hl _).mpr ⟨w.tgt k h1, by rw [w.own k]; exact h2⟩
  · by_cases h2 : k.1 = o
    · simp [clearOwner, h2]
    · have : (clearOwner st o).alias k = st.alias k := by simp [clearOwner, h2]
      rw [this]
      exact w.idn k (fun h1 => hk ((hl k).mpr ⟨h1, h2⟩))
  · by_cases h2 : k.1 = o
    · simp [clearOwner, h2]
    · have : (clearOwner st o).alias k = st.alias k := by simp [clearOwner, h2]
      rw [this]; exact w.own k

/-- An invariant that looks at the net fields only and survives `connect` survives everything the
    elaborator does apart from `.conn` and `.blackbox`: nothing else touches the nets. -/
structure NetInv0 (P : St → Prop) : Prop where
  of_fields : ∀ {a b : St}, netFields b = netFields a → P a → P b
  connect : ∀ {a : St}, P a → ∀ p o n i, P (connect a p o n i)

/-- ... and one that also survives the merge of `.conn` and the clearing of `.blackbox` survives every
    statement, header and model. -/
structure NetInv (P : St → Prop) : Prop extends NetInv0 P where
  conn : ∀ {a : St}, P a → ∀ cur n1 i1 n2 i2,
    P (mergeKeys (ensureWire (ensureWire a cur n1 i1) cur n2 i2) (cur, n1, i1) (cur, n2, i2))
  clear : ∀ {a : St}, P a → ∀ o, P (clearOwner a o)

namespace NetInv0
variable {P : St → Prop} (I : NetInv0 P) {st st' : St}
include I

omit st st' in
theorem quiet {cur : String} {idx : Nat} {D : String → Prop} {a b : St} (h : PrimQ cur idx D a b) (p : P a) : P b := by
  rcases h.nf with e | ⟨x, n, i, rfl⟩
  · exact I.of_fields e p
  · exact I.connect p _ _ _ _

omit st st' in
theorem run {cur : String} {idx : Nat} {D : String → Prop} {a b : St} (h : Run (PrimQ cur idx D) a b) : P a → P b :=
  h.keeps (fun q => I.quiet q)

theorem elabStmt_inst {cur : String} {s : Stmt} (hs : Stmt.isInstance s = true) (p : P st)
    (h : elabStmt st cur s = Except.ok st') : P st' := by
  obtain ⟨sA, m, t, _, r1, _, _, r2⟩ := Run.elabStmt_inst hs h
  exact I.run r2 (withCovers_rel (Keeps.refl P) (fun _ _ _ => I.of_fields (nf_updInst _ _ _)) _ _ _
    (I.of_fields (nf_newInst _ _ _ _) (I.run r1 p)))

theorem elabInput {cur tok : String} (p : P st) (h : elabInput st cur tok = Except.ok st') : P st' :=
  I.run (Run.elabInput (idx := 0) h) p

theorem elabOutput {cur tok : String} (p : P st) (h : elabOutput st cur tok = Except.ok st') : P st' :=
  I.run (Run.elabOutput (idx := 0) h) p

theorem elabHdrs {cur : String} (l : List Hdr) (p : P st) (h : elabHdrs st cur l = Except.ok st') : P st' :=
  I.run (Run.elabHdrs (idx := 0) h) p

end NetInv0

namespace NetInv
variable {P : St → Prop} (I : NetInv P) {st st' : St}
include I

omit st st' in
theorem prim {cur : String} {a b : St} (h : Prim cur a b) (p : P a) : P b := by
  cases h with
  | quiet q => exact I.toNetInv0.quiet q p
  | newInst m t hd => exact I.of_fields (nf_newInst _ _ _ _) p
  | covers i c => exact I.of_fields (nf_updInst _ _ _) p
  | conn n1 i1 n2 i2 => exact I.conn p _ _ _ _ _
  | blackbox => exact I.of_fields (nf_updDef _ _ _) (I.clear p cur)

theorem elabStmt {cur : String} {s : Stmt} (p : P st) (h : elabStmt st cur s = Except.ok st') : P st' :=
  (Run.elabStmt h).keeps (fun q => I.prim q) p

theorem elabStmts {cur : String} (l : List Stmt) (p : P st) (h : elabStmts st cur l = Except.ok st') : P st' :=
  (Run.elabStmts h).keeps (fun q => I.prim q) p

theorem elabModel {m : Model} (p : P st) (h : elabModel st m = Except.ok st') : P st' :=
  (Run.elabModel h).keeps (fun q => I.prim q) (I.of_fields (nf_beginModel _ _) p)

theorem elabModels (ms : List Model) (p : P st) (h : elabModels st ms = Except.ok st') : P st' :=
  elabModels_inv (Q := fun _ => P) (fun p _ => I.of_fields (nf_beginModel _ _) p) (fun q => I.prim q) id h p

end NetInv

theorem wf_netInv : NetInv WF where
  of_fields := WF.of_fields
  connect w := wf_connect w
  conn w cur n1 i1 n2 i2 :=
    wf_mergeKeys (wf_ensureWire (wf_ensureWire w cur n1 i1) cur n2 i2) _ _
      ((ext_ensureWire _ _ _ _).live _ (ensureWire_live _ _ _ _)) (ensureWire_live _ _ _ _) rfl
  clear w := wf_clearOwner w

theorem wf_elabStmts {cur : String} (l : List Stmt) {st st' : St} (w : WF st)
    (h : elabStmts st cur l = Except.ok st') : WF st' := wf_netInv.elabStmts l w h

theorem joined_toNet {st : St} (w : WF st) {p : Pin} {k : Key} (hj : Joined st p k) (hl : Live st k) :
    ∃ ws wire, (((st.alias k).1, (st.alias k).2.1), ws) ∈ st.toNet.cables ∧
      ws[(st.alias k).2.2]? = some wire ∧ p ∈ wire := by
  have ht := w.tgt k hl
  refine ⟨wiresOf st ((st.alias k).1, (st.alias k).2.1), st.pins (st.alias k), ?_, ?_, hj⟩
  · simp only [St.toNet, List.mem_map]
    exact ⟨_, ht.1, rfl⟩
  · simp only [wiresOf]
    rw [List.getElem?_map, List.getElem?_range ht.2]
    rfl

end Spydr.Eblif
