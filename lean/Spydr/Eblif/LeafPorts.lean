/-
  Ports of the instantiated definitions across write-then-read, through the children: lower bound (every
  connected pin has its port bit afterwards) and upper bound (`UBd`) through one child block (`kid_ports`) and
  all of them (`body_ports`); the black-box models and the result are in LeafSpec.lean.  With the original
  `parse_subcircuit_port` upper bus bits that are `unconn` on every instance were lost; the model follows the
  repaired code.
-/
import Spydr.Eblif.PortBounds
import Spydr.Eblif.Props.C18Mirror
import Spydr.Eblif.RoundTrip

namespace Spydr.Eblif

namespace Any

theorem kid_ports (o : Opts) (n : BNet) (t : String) (hw : WellNamed n) (k : Inst × Nat) (hki : k ∈ n.insts.zipIdx)
    (hs : KidShape n k) (st st' : St) (hstd : k.1.typ = "EBLIF.names" → Std st (k.1.pins.length - 1))
    (hsl : StdL st) (hsep : k.1.typ ≠ "EBLIF.latch" → k.1.model ≠ "generic-latch")
    (h : elabStmt st t (stmtOfFull o n k) = Except.ok st') :
    (∀ q ∈ k.1.pins, ∃ p, findIn (portsOf st' k.1.model) q.1 = some p ∧ q.2 < p.width) ∧
    (∀ m W, (m = k.1.model → ∀ q ∈ k.1.pins, q.2 < W q.1) → UBd st m W → UBd st' m W) ∧
    PMono st st' ∧ StdL st' := by
  -- only the instantiated definition matters; then by kind of child (`kid_cases`): `.names`, `.latch`, `.subckt`/`.gate`,
  -- each with the lower bound from its connected formals and the upper bound through its preparation
  have hi := isInst_full o n k
  have hmod := stmtModel_full o n k hs.toW
  -- it is enough to look at the definition the child instantiates
  suffices hmain : (∀ q ∈ k.1.pins, ∃ p, findIn (portsOf st' k.1.model) q.1 = some p ∧ q.2 < p.width) ∧
      (∀ W, (∀ q ∈ k.1.pins, q.2 < W q.1) → UBd st k.1.model W → UBd st' k.1.model W) ∧ StdL st' by
    obtain ⟨lb, ub, sl⟩ := hmain
    refine ⟨lb, fun m W hreq u => ?_, pm_elabStmt h, sl⟩
    by_cases hm : m = k.1.model
    · subst hm; exact ub W (hreq rfl) u
    · exact portsAll_of_ports (portsOf_other_stmt hi (by rw [hmod]; exact hm) h) u
  rcases kid_cases o n k hs.toW with ⟨hn, hsh, e⟩ | ⟨hn, hl, ⟨hmm, _, h5', h4, h5⟩, e⟩ | ⟨hn, hl, ⟨hnd, hpp, _⟩, e⟩
  ·
    obtain ⟨_, hmm, h3, h4⟩ := hsh
    have hK := (namesNets_std n k ⟨by assumption, hmm, h3, h4⟩).2
    rw [e] at h
    have hstd' : Std st ((namesNets n k.2 k.1).length - 1) := by rw [hK]; exact hstd hn
    obtain ⟨_, hp⟩ := std_names_self hstd' h
    rw [hK] at hp
    refine ⟨?_, ?_, stdL_other hi (by rw [hmod]; exact fun e => hsep (by rw [hn]; decide) e.symm) hsl (e ▸ h)⟩
    · intro q hq
      have := h4 q hq
      rw [h3] at this
      obtain ⟨p, hpm, rfl⟩ := List.mem_map.mp this
      rw [hmm, hp]
      refine ⟨p, findIn_of_mem_nodup (stdNames_nodup _) hpm, ?_⟩
      unfold stdNamesPorts at hpm
      rcases List.mem_append.mp hpm with h' | h'
      · obtain ⟨j, _, rfl⟩ := List.mem_map.mp h'; exact Nat.zero_lt_one
      · simp only [List.mem_singleton] at h'; subst h'; exact Nat.zero_lt_one
    · intro W hr _
      have := ubd_names (W := W) hstd' (by
        intro p hpm
        rw [hK] at hpm
        exact hr _ (namesPins_sub n k.1 _ (by rw [h3]; exact List.mem_map.mpr ⟨p, hpm, rfl⟩))) h
      rw [hK, ← hmm] at this
      exact this
  ·
    rw [e] at h
    have hzip : latchOrder.zip (latchToks n k.2 k.1) =
        (latchOrder.take k.1.pins.length).map (fun x => (x, netText n (Pin.inst k.2 x 0))) := by
      rw [latchToks_eq, h4, List.map_map, zip_take_map]; rfl
    have hz : (latchOrder.zip (latchToks n k.2 k.1)).map (·.1) = latchOrder.take k.1.pins.length := by
      rw [hzip, List.map_map]
      exact (List.map_congr_left (fun x _ => rfl)).trans (List.map_id _)
    obtain ⟨hd', a, ha, hma, hp'⟩ := stdL_latch k.1.pins.length h5' hz hsl h
    refine ⟨?_, ?_, Or.inr ⟨hd', a, ha, hp'⟩⟩
    · intro q hq
      have := h5 q hq
      rw [h4] at this
      obtain ⟨pt, hpt, rfl⟩ := List.mem_map.mp this
      obtain ⟨p, hp, hw⟩ := latch_width_one k.1.pins.length (by simp; omega) a (by simp; omega) hma pt hpt
      rw [hmm, hp']
      exact ⟨p, hp, by simp only; omega⟩
    · intro W hr u
      rw [hmm] at u ⊢
      refine ubd_latch (by
        intro o' ho'
        rw [hz] at ho'
        exact hr _ (latchPins_sub k.1 _ (by rw [h4]; exact List.mem_map.mpr ⟨o', ho', rfl⟩))) u h
  ·
    rw [e] at h
    have hi' : k.1 ∈ n.insts := mem_zipIdx_fst hki
    obtain ⟨_, hmod', _⟩ := hw.2.2.1 k.1 hi'
    obtain ⟨_, hpn, _⟩ := findDef_ok hw hmod'
    have hform : ∀ p ∈ (n.findDef k.1.model).ports, ∀ q ∈ k.1.pins, q.1 = p.name →
        splitIdx (formalText p q.2) = Except.ok (q.1, q.2) := by
      intro p hpm q hq hqp
      rw [hqp]
      exact splitIdx_formalText p q.2 (hpp p hpm).1 (okWord_nonempty (hpn p hpm)) ((hpp p hpm).2 q hq hqp)
    refine ⟨?_, ?_, stdL_other hi (by rw [hmod]; exact fun e => hsep hl e.symm) hsl (e ▸ h)⟩
    · intro q hq
      obtain ⟨p0, hp0, hpq⟩ : ∃ p ∈ (n.findDef k.1.model).ports, p.name = q.1 := by
        unfold KidShape at hs
        rw [if_neg hn, if_neg hl] at hs
        exact hs.2.2 q hq
      have hfa : (formalText p0 q.2, netText n (Pin.inst k.2 q.1 q.2)) ∈ connsOf n k.2 k.1 :=
        mem_connsOf.mpr ⟨p0, hp0, q, hq, hpq.symm, rfl⟩
      obtain ⟨sa, ha, hpm⟩ := pmono_after_prep (isInst_full o n k) (e ▸ h)
      rw [e] at ha
      obtain ⟨p, hp, hlt⟩ := declFormals_port _ (defEx_ensureDef _ _) ha _ hfa q.1 q.2 (hform p0 hp0 q hq hpq.symm)
      obtain ⟨p2, hp2, l2⟩ := hpm k.1.model q.1 p hp
      exact ⟨p2, hp2, by omega⟩
    · intro W hr u
      have hreq' : ∀ fa ∈ connsOf n k.2 k.1, ∀ pn pi, splitIdx fa.1 = Except.ok (pn, pi) → pi < W pn := by
        intro fa hfa pn pi hsp
        obtain ⟨p, hpm, q, hq, hqp, rfl⟩ := mem_connsOf.mp hfa
        simp only at hsp
        rw [hform p hpm q hq hqp] at hsp
        simp only [Except.ok.injEq, Prod.mk.injEq] at hsp
        rw [← hsp.1, ← hsp.2]
        exact hr q hq
      exact ubd_subckt hreq' (by rw [infoMapOf_nodup _ hnd]; exact hreq') u h

theorem body_ports (o : Opts) (n : BNet) (t : String) (hw : WellNamed n) (hk : KidsOKF n t)
    (hlsep : ∀ k ∈ n.insts.zipIdx, k.1.typ ≠ "EBLIF.latch" → k.1.model ≠ "generic-latch") :
    ∀ (l : List (Inst × Nat)), (∀ k ∈ l, k ∈ n.insts.zipIdx) →
    ∀ {st st' : St}, elabStmts st t (l.map (stmtOfFull o n)) = Except.ok st' → StdKids n st → StdL st →
      (∀ k ∈ l, ∀ q ∈ k.1.pins, ∃ p, findIn (portsOf st' k.1.model) q.1 = some p ∧ q.2 < p.width) ∧
      (∀ m W, (∀ k ∈ l, k.1.model = m → ∀ q ∈ k.1.pins, q.2 < W q.1) → UBd st m W → UBd st' m W) ∧
      StdKids n st' ∧ StdL st' := by
  intro l
  induction l with
  | nil =>
    intro _ st st' h hsk hsl
    cases h
    exact ⟨fun k hk' => (nomatch hk'), fun _ _ _ u => u, hsk, hsl⟩
  | cons a r ih =>
    intro hmem st st' h hstd hsl
    have hkm : a ∈ n.insts.zipIdx := hmem a (by simp)
    obtain ⟨s1, h1, h2⟩ := bind_ok (show (elabStmt st t (stmtOfFull o n a) >>= fun x =>
      elabStmts x t (r.map (stmtOfFull o n))) = _ from h)
    obtain ⟨lb1, ub1, pm1, sl1⟩ := kid_ports o n t hw a hkm (hk a hkm).1 st s1
      (fun hn => hstd a.1 (mem_zipIdx_fst hkm) hn) hsl (hlsep a hkm) h1
    obtain ⟨lb2, ub2, sk2, sl2⟩ := ih (fun k hkm' => hmem k (by simp [hkm'])) h2 (stdKids_kid o n t hk.toW a hkm hstd h1) sl1
    refine ⟨?_, ?_, sk2, sl2⟩
    · intro k hk' q hq
      rcases List.mem_cons.mp hk' with rfl | hk''
      · obtain ⟨p, hp, hlt⟩ := lb1 q hq
        obtain ⟨p', hp', hle⟩ := pm_elabStmts _ h2 _ _ p hp
        exact ⟨p', hp', by omega⟩
      · exact lb2 k hk'' q hq
    · intro m W hreq u
      exact ub2 m W (fun k hk' => hreq k (by simp [hk'])) (ub1 m W (fun hm => hreq a (by simp) hm.symm) u)

end Any

theorem defEx_updDef {st : St} {m : String} (hd : DefEx st m) (n : String) (f : DefD → DefD) (h1 : ∀ x, (f x).name = x.name) :
    DefEx (updDef st n f) m := by
  unfold DefEx at *
  rw [findDef_updDef st n f h1 m]
  cases h : findDef st m with
  | none => rw [h] at hd; cases hd
  | some d => rfl

theorem defEx_setDir {st : St} {m : String} (hd : DefEx st m) (dn pn : String) (d : Dir) : DefEx (setDir st dn pn d) m :=
  defEx_of_dv (by simp) hd

theorem portsAll_beginModel {st : St} {m : String} {Q : PortD → Prop} (u : PortsAll st m Q) :
    PortsAll (beginModel st m) m Q ∧ DefEx (beginModel st m) m := by
  obtain ⟨_, _, e⟩ := beginModel_eq st m
  rw [e]
  exact ⟨portsAll_of_ports
    (portsOf_updDef_keep (ensureDef st m) m (fun d => { d with declared := true }) (fun _ => rfl) (fun _ => rfl) m)
    (portsAll_ensureDef u),
    defEx_updDef (defEx_ensureDef st m) m (fun d => { d with declared := true }) (fun _ => rfl)⟩

theorem portsOf_other_bbmodel {s s' : St} (d : DefD) (m : String) (hne : m ≠ d.name)
    (h : elabModel s (bbModel d) = Except.ok s') : portsOf s' m = portsOf s m := by
  unfold portsOf; rw [findDef_other_bbmodel hne h]

namespace Any

/-- `generic-latch` is only used by `.latch` children (and is not the top model) -/
def LatchSep (n : BNet) (t : String) : Prop :=
  t ≠ "generic-latch" ∧ ∀ k ∈ n.insts.zipIdx, k.1.typ ≠ "EBLIF.latch" → k.1.model ≠ "generic-latch"

instance (n : BNet) (t : String) : Decidable (LatchSep n t) := by unfold LatchSep; infer_instance

/-- the ports of the definitions that get a black-box block have at least one pin -/
def BBWide (n : BNet) (t : String) : Prop := ∀ d ∈ bbDefs n t, ∀ p ∈ d.ports, 1 ≤ p.width

instance (n : BNet) (t : String) : Decidable (BBWide n t) := by unfold BBWide; infer_instance

theorem bnet_findDef_of_mem {n : BNet} (hnd : (n.defs.map (·.name)).Nodup) {d : DefD} (hd : d ∈ n.defs) :
    n.findDef d.name = d := by
  unfold BNet.findDef
  rw [find?_key_eq (fun x : DefD => x.name) hnd hd]

theorem bbDefs_user {n : BNet} {t : String} {d : DefD} (hd : d ∈ bbDefs n t) :
    ∃ i ∈ n.insts, (i.typ = "EBLIF.subckt" ∨ i.typ = "EBLIF.gate" ∨ i.typ = "EBLIF.other") ∧ i.model = d.name := by
  unfold bbDefs at hd
  simp only [List.mem_filter, Bool.and_eq_true, decide_eq_true_eq, List.mem_map] at hd
  obtain ⟨_, ⟨_, ⟨i, hi, hm⟩⟩, _⟩ := hd
  simp only [Bool.or_eq_true, decide_eq_true_eq] at hi
  refine ⟨i, hi.1, ?_, hm⟩
  rcases hi.2.1.2 with (h | h) | h
  · exact Or.inl h
  · exact Or.inr (Or.inl h)
  · exact Or.inr (Or.inr h)

theorem portsOf_bbmodels_other (m : String) (ds : List DefD) (hne : ∀ d ∈ ds, m ≠ d.name) :
    ∀ {s s' : St}, elabModels s (ds.map bbModel) = Except.ok s' → portsOf s' m = portsOf s m := by
  induction ds with
  | nil => intro s s' h; cases h; rfl
  | cons d r ih =>
    intro s s' h
    simp only [List.map_cons] at h
    unfold elabModels at h
    obtain ⟨s1, h1, h2⟩ := bind_ok h
    rw [ih (fun x hx => hne x (by simp [hx])) h2, portsOf_other_bbmodel d m (hne d (by simp)) h1]

theorem mem_allPins_widthL (d : DefD) (hnd : (d.ports.map (·.name)).Nodup) (x : String) (y : Nat) :
    (x, y) ∈ allPins d ↔ y < widthL d.ports x := by
  rw [mem_allPins]
  unfold widthL
  constructor
  · rintro ⟨p, hpm, rfl, hlt⟩
    rw [findIn_of_mem_nodup hnd hpm]; exact hlt
  · intro hlt
    cases hfi : findIn d.ports x with
    | none => rw [hfi] at hlt; simp at hlt
    | some p =>
      rw [hfi] at hlt
      exact ⟨p, List.mem_of_find?_eq_some hfi, by unfold findIn at hfi; simpa using List.find?_some hfi, hlt⟩

/-- `sh`, `sk`, `sc`, `sf`: the states after the header, the children, the `.conn` lines, the black-box models -/
theorem second_read_chain (o : Opts) (n : BNet) (t : String) (hw : WellNamed n) (hf : FragFull n t)
    (hn : NetOKA n t) (hdg : LatchSep n t) (n' : BNet) (h : readB (composeText o n) = Except.ok n') :
    ∃ sh sk sc sf : St,
      (∀ x, x ≠ t → findDef sh x = none) ∧
      elabStmts sh t ((kidsFull n t).map (stmtOfFull o n)) = Except.ok sk ∧
      (∀ k ∈ kidsFull n t, ∀ q ∈ k.1.pins, ∃ p, findIn (portsOf sk k.1.model) q.1 = some p ∧ q.2 < p.width) ∧
      (∀ m W, (∀ k ∈ kidsFull n t, k.1.model = m → ∀ q ∈ k.1.pins, q.2 < W q.1) → UBd sh m W → UBd sk m W) ∧
      StdKids n sk ∧ StdL sk ∧
      elabStmts sk t ((connPairs n (n.findDef t)).map (fun ab => Stmt.conn ab.1 ab.2)) = Except.ok sc ∧
      sc.defs = sk.defs ∧ elabModels sc (bbPart o n t) = Except.ok sf ∧
      ∀ m, (n'.findDef m).ports = portsOf sf m := by
  have ht : okWord t = true := hw.2.2.2.2 t hf.top
  have hnw := netOKW_of_netOKA n t hn
  obtain ⟨sf, hms, hconv⟩ := (read_states o n t hw hf.toW n').mp h
  obtain ⟨sh, sk, sc, hh, hbk, hbc, hsf⟩ := (written_models o n t sf).mp hms
  obtain ⟨sh', hh', _, _, _, _, _, _, _, habs, hstd0⟩ := header_state n t hw ht hnw
  obtain rfl : sh' = sh := Except.ok.inj (hh'.symm.trans hh)
  obtain ⟨lbk, ubk, stdk, stdl⟩ := body_ports o n t hw hn.2.2.2.2.2 hdg.2 (kidsFull n t)
    (fun k hk' => hn.1.mem_iff.mp hk') hbk hstd0 (Or.inl (habs _ (fun e => hdg.1 e.symm)))
  obtain ⟨sc', hbc', _, dc, _⟩ := conns_state n t hw ht hnw sk
  obtain rfl : sc' = sc := Except.ok.inj (hbc'.symm.trans hbc)
  exact ⟨sh', sk, sc', sf, habs, hbk, lbk, ubk, stdk, stdl, hbc, dc, hsf, (read_result hconv).2.2.2⟩

end Any

end Spydr.Eblif
