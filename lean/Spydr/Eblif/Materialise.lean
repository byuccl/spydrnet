/-
  Pins sit on live wires only, for every input: so the materialised netlist (`St.toNet`) shows
  exactly the pins of the wire table, and exactness holds at the level of the `BNet`.
-/
import Spydr.Eblif.ExactJoins
import Spydr.Eblif.NetInv

namespace Spydr.Eblif

def PinsLive (st : St) : Prop := ∀ k, st.pins k ≠ [] → Live st k

theorem PinsLive.init : PinsLive ({} : St) := fun k h => absurd rfl h

theorem PinsLive.of_fields {st st' : St} (h : netFields st' = netFields st) (w : PinsLive st) : PinsLive st' := by
  have hl := live_of_fields h
  simp only [netFields, Prod.mk.injEq] at h
  intro k hk
  rw [h.1] at hk
  exact (hl k).mpr (w k hk)

theorem pinsLive_connect {st : St} (w : WF st) (pl : PinsLive st) (p : Pin) (o n : String) (i : Nat) :
    PinsLive (connect st p o n i) := by
  have hx := ext_connect st p o n i
  have hlive := (connect_joins st p o n i).2
  have hwf := wf_connect w p o n i
  intro k hk
  by_cases he : k = (connect st p o n i).alias (o, n, i)
  · rw [he]; exact hwf.tgt _ hlive
  · have : (connect st p o n i).pins k = st.pins k := by
      unfold connect at he ⊢
      simp only [upd]
      have hpa := pa_ensureWire st o n i
      simp only [paFields, Prod.mk.injEq] at hpa
      rw [if_neg he, hpa.1]
    rw [this] at hk
    exact hx.live k (pl k hk)

theorem pinsLive_mergeKeys {st : St} (w : WF st) (pl : PinsLive st) (ka kb : Key) (la : Live st ka) :
    PinsLive (mergeKeys st ka kb) := by
  intro k hk
  rw [live_mergeKeys]
  rw [pins_mergeKeys] at hk
  split at hk
  · exact pl k hk
  · split at hk
    · exact absurd rfl hk
    · split at hk
      · rename_i h2; rw [h2]; exact w.tgt ka la
      · exact pl k hk

theorem pinsLive_clearOwner {st : St} (pl : PinsLive st) (o : String) : PinsLive (clearOwner st o) := by
  intro k hk
  by_cases h : k.1 = o
  · simp [clearOwner, h] at hk
  · have hp : (clearOwner st o).pins k = st.pins k := by simp [clearOwner, h]
    rw [hp] at hk
    exact (live_clearOwner st o k).mpr ⟨pl k hk, h⟩

structure LInv (st : St) : Prop where
  wf : WF st
  pl : PinsLive st

theorem LInv.init : LInv ({} : St) := ⟨WF.init, PinsLive.init⟩

theorem LInv.of_fields {st st' : St} (h : netFields st' = netFields st) (r : LInv st) : LInv st' :=
  ⟨WF.of_fields h r.wf, PinsLive.of_fields h r.pl⟩

theorem linv_connect {st : St} (r : LInv st) (p : Pin) (o n : String) (i : Nat) : LInv (connect st p o n i) :=
  ⟨wf_connect r.wf p o n i, pinsLive_connect r.wf r.pl p o n i⟩

theorem pinsLive_ensureWire {st : St} (pl : PinsLive st) (o n : String) (i : Nat) : PinsLive (ensureWire st o n i) := by
  intro k hk
  have hpa := pa_ensureWire st o n i
  simp only [paFields, Prod.mk.injEq] at hpa
  rw [hpa.1] at hk
  exact (ext_ensureWire st o n i).live k (pl k hk)

theorem linv_netInv : NetInv LInv where
  of_fields := LInv.of_fields
  connect r := linv_connect r
  conn {a} r cur n1 i1 n2 i2 := by
    have w2 := wf_ensureWire (wf_ensureWire r.wf cur n1 i1) cur n2 i2
    have la : Live (ensureWire (ensureWire a cur n1 i1) cur n2 i2) (cur, n1, i1) :=
      (ext_ensureWire _ _ _ _).live _ (ensureWire_live _ _ _ _)
    exact ⟨wf_mergeKeys w2 _ _ la (ensureWire_live _ _ _ _) rfl,
      pinsLive_mergeKeys w2 (pinsLive_ensureWire (pinsLive_ensureWire r.pl cur n1 i1) cur n2 i2) _ _ la⟩
  clear r o := ⟨wf_clearOwner r.wf o, pinsLive_clearOwner r.pl o⟩

end Spydr.Eblif
