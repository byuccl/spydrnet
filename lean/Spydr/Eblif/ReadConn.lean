/-
  `.conn` lines: the alias table after a list of `.conn` statements in closed form (`aliasOf`), and
  the `.conn` statements the writer emits as key pairs (`connKeys`).
-/
import Spydr.Eblif.Props.C18GenDefs
import Spydr.Eblif.ReadOk
import Spydr.Eblif.WriterParse

namespace Spydr.Eblif

/-- the two net bits a `.conn a b` line names -/
def connKey (t : String) (ab : String × String) : Option (Key × Key) :=
  match splitIdx ab.1, splitIdx ab.2 with
  | Except.ok (n1, i1), Except.ok (n2, i2) => some ((t, n1, i1), (t, n2, i2))
  | _, _ => none

theorem conn_stmt_keeps {st st' : St} {cur a b : String} (h : elabStmt st cur (Stmt.conn a b) = Except.ok st') :
    st'.defs = st.defs ∧ st'.insts = st.insts := by
  obtain ⟨n1, i1, n2, i2, _, _, he⟩ := elabStmt_conn_cases h
  rw [he]
  have h1 : ∀ s a b, (mergeKeys s a b).defs = s.defs ∧ (mergeKeys s a b).insts = s.insts := by
    intro s a b; unfold mergeKeys; simp only []; split <;> exact ⟨rfl, rfl⟩
  have h2 : ∀ s o m i, (ensureWire s o m i).defs = s.defs ∧ (ensureWire s o m i).insts = s.insts := by
    intro s o m i; unfold ensureWire ensureCable; simp only []; split <;> split <;> exact ⟨rfl, rfl⟩
  exact ⟨by rw [(h1 _ _ _).1, (h2 _ _ _ _).1, (h2 _ _ _ _).1], by rw [(h1 _ _ _).2, (h2 _ _ _ _).2, (h2 _ _ _ _).2]⟩

theorem conn_stmt (t : String) (ab : String × String) (ka kb : Key) (hk : connKey t ab = some (ka, kb)) (st : St) :
    ∃ st', elabStmt st t (Stmt.conn ab.1 ab.2) = Except.ok st' ∧ st'.alias = aliasStep st.alias ka kb ∧
      st'.defs = st.defs ∧ st'.insts = st.insts := by
  unfold connKey at hk
  cases h1 : splitIdx ab.1 with
  | error e => simp [h1] at hk
  | ok r1 =>
    cases h2 : splitIdx ab.2 with
    | error e => simp [h1, h2] at hk
    | ok r2 =>
      obtain ⟨n1, i1⟩ := r1
      obtain ⟨n2, i2⟩ := r2
      simp only [h1, h2, Option.some.injEq, Prod.mk.injEq] at hk
      obtain ⟨rfl, rfl⟩ := hk
      have hs : elabStmt st t (Stmt.conn ab.1 ab.2) =
          Except.ok (mergeKeys (ensureWire (ensureWire st t n1 i1) t n2 i2) (t, n1, i1) (t, n2, i2)) := by
        unfold elabStmt
        simp only [h1, h2, bind, Except.bind, pure, Except.pure]
      exact ⟨_, hs, by rw [alias_mergeKeys, alias_ensureWire, alias_ensureWire], conn_stmt_keeps hs⟩

theorem conn_stmts (t : String) (l : List (String × String)) :
    ∀ (ks : List (Key × Key)), l.map (connKey t) = ks.map some → ∀ st : St,
      ∃ st', elabStmts st t (l.map (fun ab => Stmt.conn ab.1 ab.2)) = Except.ok st' ∧
        st'.alias = ks.foldl (fun A p => aliasStep A p.1 p.2) st.alias ∧ st'.defs = st.defs ∧ st'.insts = st.insts := by
  induction l with
  | nil =>
    intro ks hk st
    cases ks with
    | nil => exact ⟨st, rfl, rfl, rfl, rfl⟩
    | cons a r => simp at hk
  | cons ab r ih =>
    intro ks hk st
    cases ks with
    | nil => simp at hk
    | cons kk kr =>
      simp only [List.map_cons, List.cons.injEq] at hk
      obtain ⟨hk1, hk2⟩ := hk
      obtain ⟨ka, kb⟩ := kk
      obtain ⟨s1, h1, a1, d1, i1⟩ := conn_stmt t ab ka kb hk1 st
      obtain ⟨s2, h2, a2, d2, i2⟩ := ih kr hk2 s1
      refine ⟨s2, ?_, ?_, d2.trans d1, i2.trans i1⟩
      · simp only [List.map_cons]
        unfold elabStmts
        rw [h1]; exact h2
      · rw [a2, a1]; rfl

def aliasOf (L : List (Key × Key)) (k : Key) : Key :=
  match L.find? (fun p => p.2 = k) with
  | some p => p.1
  | none => k

theorem aliasOf_not_mem {L : List (Key × Key)} {k : Key} (h : k ∉ L.map (·.2)) : aliasOf L k = k := by
  unfold aliasOf
  have : L.find? (fun p => p.2 = k) = none := by
    rw [List.find?_eq_none]
    intro p hp hpk
    exact h (List.mem_map.mpr ⟨p, hp, by simpa using hpk⟩)
  rw [this]

theorem aliasOf_mem {L : List (Key × Key)} {k : Key} (h : k ∈ L.map (·.2)) : ∃ p ∈ L, p.2 = k ∧ aliasOf L k = p.1 := by
  unfold aliasOf
  cases hf : L.find? (fun p => p.2 = k) with
  | none =>
    rw [List.find?_eq_none] at hf
    obtain ⟨p, hp, hpk⟩ := List.mem_map.mp h
    exact absurd (by simpa using hpk) (hf p hp)
  | some p => exact ⟨p, List.mem_of_find?_eq_some hf, by simpa using List.find?_some hf, rfl⟩

theorem alias_fold (L : List (Key × Key)) :
    ∀ (P : List (Key × Key)), ((P ++ L).map (·.2)).Nodup → (∀ p ∈ P ++ L, p.1 ∉ (P ++ L).map (·.2)) →
      L.foldl (fun A p => aliasStep A p.1 p.2) (aliasOf P) = aliasOf (P ++ L) := by
  -- the targets are pairwise different and no source is a target; induction on `L` with the folded prefix `P`:
  -- one step on `aliasOf P` is `aliasOf (P ++ [(ka, kb)])`
  induction L with
  | nil => intro P _ _; simp
  | cons x r ih =>
    intro P hnd hdis
    obtain ⟨ka, kb⟩ := x
    have hstep : aliasStep (aliasOf P) ka kb = aliasOf (P ++ [(ka, kb)]) := by
      have hkbP : kb ∉ P.map (·.2) := by
        intro hm
        simp only [List.map_append, List.map_cons] at hnd
        rw [List.nodup_append] at hnd
        exact hnd.2.2 kb hm kb (by simp) rfl
      have hkaP : ka ∉ P.map (·.2) := by
        intro hm
        exact hdis (ka, kb) (by simp) (by simp only [List.map_append, List.mem_append]; exact Or.inl hm)
      funext k
      unfold aliasStep
      rw [aliasOf_not_mem hkbP, aliasOf_not_mem hkaP]
      by_cases hk : k = kb
      · subst hk
        rw [aliasOf_not_mem hkbP]
        simp only [if_true]
        unfold aliasOf
        rw [List.find?_append]
        have : P.find? (fun p => p.2 = k) = none := by
          rw [List.find?_eq_none]
          intro p hp hpk
          exact hkbP (List.mem_map.mpr ⟨p, hp, by simpa using hpk⟩)
        rw [this]
        simp
      · have hne : aliasOf P k ≠ kb := by
          by_cases hm : k ∈ P.map (·.2)
          · obtain ⟨p, hp, _, he⟩ := aliasOf_mem hm
            rw [he]
            intro h1
            exact hdis p (by simp [hp]) (by
              simp only [List.map_append, List.map_cons, List.mem_append, List.mem_cons]
              exact Or.inr (Or.inl h1))
          · rw [aliasOf_not_mem hm]; exact hk
        simp only [hne, if_false]
        unfold aliasOf
        rw [List.find?_append]
        cases hf : P.find? (fun p => p.2 = k) with
        | some p => rfl
        | none =>
          have : ¬ kb = k := fun e => hk e.symm
          simp [this]
    simp only [List.foldl_cons]
    rw [hstep]
    have := ih (P ++ [(ka, kb)]) (by simpa [List.append_assoc] using hnd) (by simpa [List.append_assoc] using hdis)
    simpa [List.append_assoc] using this

theorem aliasOf_nil : aliasOf [] = id := by funext k; rfl

theorem flatMap_congr_mem {α β : Type} {l : List α} {f g : α → List β} (h : ∀ a ∈ l, f a = g a) :
    l.flatMap f = l.flatMap g := by
  rw [List.flatMap_def, List.flatMap_def, List.map_congr_left h]

theorem sublist_flatMap {α β : Type} (l : List α) {f g : α → List β} (h : ∀ a, (f a).Sublist (g a)) :
    (l.flatMap f).Sublist (l.flatMap g) := by
  induction l with
  | nil => exact List.Sublist.refl _
  | cons x r ih =>
    simp only [List.flatMap_cons]
    exact List.Sublist.append (h x) ih

/-- (target bit, port bit) of every `.conn` line: the port bit is merged into the bit its pin is on -/
def connKeys (n : BNet) (t : String) (d : DefD) : List (Key × Key) :=
  d.ports.flatMap (fun p =>
    (List.range p.width).flatMap (fun b =>
      match n.wireOf (Pin.top d.name p.name b) with
      | some (c, wi, _) => if c.2 = p.name && wi = b then [] else [((t, c.2, wi), (t, p.name, b))]
      | none => []))

theorem connPairs_keys (n : BNet) (t : String) (d : DefD)
    (hP : ∀ p ∈ d.ports, plainName p.name ∧ p.name.toList ≠ [])
    (hc : ∀ c ∈ n.cables, plainName c.1.2 ∧ c.1.2.toList ≠ []) :
    (connPairs n d).map (connKey t) = (connKeys n t d).map some := by
  unfold connPairs connKeys
  simp only [List.map_flatMap]
  apply flatMap_congr_mem
  intro p hp
  apply flatMap_congr_mem
  intro b hb
  have hbw : b < p.width := List.mem_range.mp hb
  cases hwo : n.wireOf (Pin.top d.name p.name b) with
  | none => rfl
  | some r =>
    obtain ⟨c, wi, len⟩ := r
    by_cases hsame : (decide (c.2 = p.name) && decide (wi = b)) = true
    · simp [hsame]
    · simp only [hsame, Bool.false_eq_true, if_false, List.map_cons, List.map_nil, List.cons.injEq, and_true]
      have h1 := splitIdx_netText hwo hc
      have h2 : splitIdx (if p.width > 1 then p.name ++ "[" ++ natStr b ++ "]" else p.name) = Except.ok (p.name, b) :=
        splitIdx_formalText p b (hP p hp).1 (hP p hp).2 (by intro h; omega)
      unfold connKey
      simp only [h1, h2]

theorem mem_connKeys (n : BNet) (t : String) (d : DefD) (ka kb : Key) :
    (ka, kb) ∈ connKeys n t d ↔
    ∃ p ∈ d.ports, ∃ b, b < p.width ∧ ∃ c wi len, n.wireOf (Pin.top d.name p.name b) = some (c, wi, len) ∧
      ¬ (c.2 = p.name ∧ wi = b) ∧ ka = (t, c.2, wi) ∧ kb = (t, p.name, b) := by
  unfold connKeys
  simp only [List.mem_flatMap, List.mem_range]
  constructor
  · rintro ⟨p, hp, b, hb, hm⟩
    cases hwo : n.wireOf (Pin.top d.name p.name b) with
    | none => simp [hwo] at hm
    | some r =>
      obtain ⟨c, wi, len⟩ := r
      simp only [hwo] at hm
      by_cases hsame : (decide (c.2 = p.name) && decide (wi = b)) = true
      · simp [hsame] at hm
      · simp only [hsame, Bool.false_eq_true, if_false, List.mem_singleton, Prod.mk.injEq] at hm
        refine ⟨p, hp, b, hb, c, wi, len, hwo, ?_, hm.1, hm.2⟩
        simpa using hsame
  · rintro ⟨p, hp, b, hb, c, wi, len, hwo, hne, rfl, rfl⟩
    refine ⟨p, hp, b, hb, ?_⟩
    have hsame : ¬ (decide (c.2 = p.name) && decide (wi = b)) = true := by simpa using hne
    simp [hwo, hsame]

def allBits (t : String) (d : DefD) : List Key :=
  d.ports.flatMap (fun p => (List.range p.width).flatMap (fun b => [((t, p.name, b) : Key)]))

theorem allBits_nodup (t : String) (d : DefD) (hnd : (d.ports.map (·.name)).Nodup) : (allBits t d).Nodup := by
  unfold allBits
  generalize d.ports = l at hnd
  induction l with
  | nil => simp
  | cons q r ih =>
    simp only [List.map_cons, List.nodup_cons, List.mem_map, not_exists, not_and] at hnd
    simp only [List.flatMap_cons]
    rw [List.nodup_append]
    refine ⟨?_, ih hnd.2, ?_⟩
    · rw [← List.map_eq_flatMap]
      refine nodup_map_of_inj _ _ List.nodup_range ?_
      intro a _ b _ h
      simpa using h
    · intro a ha b hb e
      subst e
      simp only [List.mem_flatMap, List.mem_range, List.mem_singleton] at ha hb
      obtain ⟨_, _, rfl⟩ := ha
      obtain ⟨q', hq', _, _, h1⟩ := hb
      simp only [Prod.mk.injEq, true_and] at h1
      exact hnd.1 q' hq' h1.1.symm

theorem connKeys_nodup (n : BNet) (t : String) (d : DefD) (hnd : (d.ports.map (·.name)).Nodup) :
    ((connKeys n t d).map (·.2)).Nodup := by
  refine List.Nodup.sublist ?_ (allBits_nodup t d hnd)
  unfold connKeys allBits
  simp only [List.map_flatMap]
  apply sublist_flatMap
  intro p
  apply sublist_flatMap
  intro b
  cases hwo : n.wireOf (Pin.top d.name p.name b) with
  | none => simp
  | some r =>
    obtain ⟨c, wi, len⟩ := r
    by_cases hsame : (decide (c.2 = p.name) && decide (wi = b)) = true <;> simp [hsame]

end Spydr.Eblif
