/-
  The lexer undoes the printer; `PSt.setC` is the parser state with another comment list.
-/
import Spydr.Eblif.Spec

namespace Spydr.Eblif

/-- Replaces the first `"…".toList` of the goal by the list of its characters.  A literal is `String.ofList` of that
    list for the elaborator and for the kernel (a built-in step, nothing is evaluated), so the equation is
    `String.toList_ofList`; `with_reducible` keeps the elaborator from unfolding `String.ofList` before it takes that
    step.  Used in front of `decide` in the examples of Props/C18.lean. -/
macro "literal_chars" : tactic =>
  `(tactic| (generalize h : String.toList _ = l
             rw [(by with_reducible exact h.symm.trans String.toList_ofList : l = _)]
             clear h l))

theorem lexGo_word (w : List Char) (hw : ∀ c ∈ w, isWs c = false ∧ c ≠ '\n' ∧ c ≠ '\r') :
    ∀ (cur : List Char) (d : Bool) (rest : List Char),
      lexGo cur d (w ++ ' ' :: rest) = flushW (cur ++ w) ++ lexGo [] true rest := by
  induction w with
  | nil =>
    intro cur d rest
    simp [lexGo, isWs]
  | cons c w ih =>
    intro cur d rest
    have hc := hw c (by simp)
    have hw' : ∀ x ∈ w, isWs x = false ∧ x ≠ '\n' ∧ x ≠ '\r' := fun x hx => hw x (by simp [hx])
    simp only [List.cons_append, lexGo, hc.2.1, hc.2.2, if_false, hc.1]
    rw [ih hw' (cur ++ [c]) true rest]
    simp

theorem terminated_tail {t : Tok} {r : List Tok} (h : Terminated (t :: r)) (hr : r ≠ []) : Terminated r := by
  intro x hx
  apply h
  cases r with
  | nil => exact absurd rfl hr
  | cons a r => simpa [List.getLast?_cons_cons] using hx

theorem lexGo_printB (ts : List Tok) :
    (∀ t ∈ ts, GoodTok t) → Terminated ts → ∀ d : Bool, (ts = [] → d = false) →
      lexGo [] d (printB ts) = ts := by
  induction ts with
  | nil =>
    intro _ _ d hd
    simp [printB, lexGo, flushW, hd rfl]
  | cons t r ih =>
    intro hg ht d _
    have hgr : ∀ x ∈ r, GoodTok x := fun x hx => hg x (by simp [hx])
    cases t with
    | nl =>
      have htr : Terminated r := by
        by_cases hr : r = []
        · subst hr; intro x hx; simp at hx
        · exact terminated_tail ht hr
      simp only [printB, lexGo, if_true, flushW, List.nil_append]
      rw [ih hgr htr false (fun _ => rfl)]
    | word s =>
      have hs : GoodWord s := hg (Tok.word s) (by simp)
      have hr : r ≠ [] := by
        intro hr
        subst hr
        have := ht (Tok.word s) (by simp)
        cases this
      have htr : Terminated r := terminated_tail ht hr
      simp only [printB]
      rw [lexGo_word s.toList hs.2 [] d (printB r)]
      rw [ih hgr htr true (fun h => absurd h hr)]
      simp [flushW, hs.1, String.ofList_toList]

theorem joinCont_cons_ne (t : Tok) (x : List Tok) (h : t ≠ bsl) : joinCont (t :: x) = t :: joinCont x := by
  cases x with
  | nil => simp [joinCont]
  | cons u r => simp [joinCont, h]

theorem joinCont_id (ts : List Tok) (h : ∀ t ∈ ts, t ≠ bsl) : joinCont ts = ts := by
  induction ts with
  | nil => simp [joinCont]
  | cons t r ih =>
    rw [joinCont_cons_ne t r (h t (by simp)), ih (fun x hx => h x (by simp [hx]))]

theorem joinCont_skip (a b : List Tok) (ha : ∀ t ∈ a, t ≠ bsl) (u : Tok) :
    joinCont (a ++ bsl :: u :: b) = joinCont (a ++ b) := by
  induction a with
  | nil => simp [joinCont]
  | cons t r ih =>
    have ht := ha t (by simp)
    simp only [List.cons_append]
    rw [joinCont_cons_ne _ _ ht, joinCont_cons_ne _ _ ht, ih (fun x hx => ha x (by simp [hx]))]

theorem goodWord_bsl : GoodWord "\\" := by
  constructor
  · decide
  · intro c hc
    have : c = '\\' := by simpa using hc
    subst this
    decide

theorem lex_print (ts : List Tok) (hg : ∀ t ∈ ts, GoodTok t) (hb : ∀ t ∈ ts, t ≠ bsl)
    (ht : Terminated ts) : lexB (printB ts) = ts := by
  unfold lexB
  rw [lexGo_printB ts hg ht false (fun _ => rfl), joinCont_id ts hb]

theorem read_print (ts : List Tok) (hg : ∀ t ∈ ts, GoodTok t) (hb : ∀ t ∈ ts, t ≠ bsl)
    (ht : Terminated ts) : readB (printB ts) = (parseB ts >>= elabB) := by
  unfold readB
  rw [lex_print ts hg hb ht]

theorem terminated_append_nl (a b : List Tok) (hb : Terminated b) : Terminated (a ++ Tok.nl :: b) := by
  intro t ht
  rw [List.getLast?_append] at ht
  cases b with
  | nil => simp at ht; exact ht.symm
  | cons x r =>
    have : (Tok.nl :: x :: r).getLast? = (x :: r).getLast? := by simp [List.getLast?_cons_cons]
    rw [this] at ht
    cases hx : (x :: r).getLast? with
    | none => simp at hx
    | some y => rw [hx] at ht; simp at ht; subst ht; exact hb y hx

def PSt.setC (s : PSt) (c : List String) : PSt := { s with comments := c }

@[simp] theorem setC_mode (s : PSt) (c) : (s.setC c).mode = s.mode := rfl
@[simp] theorem setC_comments (s : PSt) (c) : (s.setC c).comments = c := rfl
@[simp] theorem setC_cur (s : PSt) (c) : (s.setC c).cur = s.cur := rfl
@[simp] theorem setC_done (s : PSt) (c) : (s.setC c).done = s.done := rfl
@[simp] theorem setC_err (s : PSt) (c) : (s.setC c).err = s.err := rfl

theorem PSt.ext' {a b : PSt} (h1 : a.mode = b.mode) (h2 : a.comments = b.comments) (h3 : a.done = b.done)
    (h4 : a.cur = b.cur) (h5 : a.err = b.err) : a = b := by
  cases a; cases b; simp_all

end Spydr.Eblif
