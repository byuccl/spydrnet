/-
  The model header: processing the `.inputs` / `.outputs` words of a port list whose input and output
  names are apart joins every word's pin to the bit of the same name.  `RInv`: on `.conn`-free input
  the alias table is the identity and pins sit on live wires.
-/
import Spydr.Eblif.Materialise

namespace Spydr.Eblif

structure RInv (st : St) : Prop where
  wf : WF st
  pl : PinsLive st
  aid : st.alias = id

theorem RInv.init : RInv ({} : St) := ⟨WF.init, PinsLive.init, rfl⟩

theorem RInv.of_fields {st st' : St} (h : netFields st' = netFields st) (r : RInv st) : RInv st' := by
  refine ⟨WF.of_fields h r.wf, PinsLive.of_fields h r.pl, ?_⟩
  simp only [netFields, Prod.mk.injEq] at h
  rw [h.2.1]; exact r.aid

theorem rinv_connect {st : St} (r : RInv st) (p : Pin) (o n : String) (i : Nat) : RInv (connect st p o n i) :=
  ⟨wf_connect r.wf p o n i, pinsLive_connect r.wf r.pl p o n i, by rw [alias_connect]; exact r.aid⟩

theorem rinv_netInv : NetInv0 RInv := ⟨RInv.of_fields, fun r => rinv_connect r⟩

theorem rinv_elabInput {st st' : St} {cur tok : String} (r : RInv st) (h : elabInput st cur tok = Except.ok st') :
    RInv st' := rinv_netInv.elabInput r h

theorem rinv_elabOutput {st st' : St} {cur tok : String} (r : RInv st) (h : elabOutput st cur tok = Except.ok st') :
    RInv st' := rinv_netInv.elabOutput r h

theorem findIn_map_other (ps : List PortD) (pn : String) (g : PortD → PortD) (hg : ∀ p, (g p).name = p.name)
    (ho : ∀ p, p.name = pn → g p = p) : findIn (ps.map g) pn = findIn ps pn := by
  rw [findIn_map_same ps pn g hg]
  cases hf : findIn ps pn with
  | none => rfl
  | some p => simp [ho p (findIn_name hf)]

theorem findIn_append_other (ps : List PortD) (q : PortD) (pn : String) (h : q.name ≠ pn) :
    findIn (ps ++ [q]) pn = findIn ps pn := by
  unfold findIn
  rw [List.find?_append]
  cases List.find? (fun q => decide (q.name = pn)) ps with
  | some p => rfl
  | none => simp [h]

theorem frame_setDir (st : St) (t pn' pn : String) (d : Dir) (hne : pn' ≠ pn) :
    findIn (portsOf (setDir st t pn' d) t) pn = findIn (portsOf st t) pn := by
  rw [lookup_setDir]; cases findIn (portsOf st t) pn <;> simp [Ne.symm hne]

theorem frame_growPort (st : St) (t pn' pn : String) (w : Nat) (hne : pn' ≠ pn) :
    findIn (portsOf (growPort st t pn' w) t) pn = findIn (portsOf st t) pn := by
  rw [lookup_growPort]; cases findIn (portsOf st t) pn <;> simp [Ne.symm hne]

theorem frame_addPort (st : St) (t pn' pn : String) (d : Dir) (w : Nat) (hne : pn' ≠ pn) :
    findIn (portsOf (addPort st t pn' d w) t) pn = findIn (portsOf st t) pn := by
  rw [lookup_addPort, if_neg (fun h => hne h.2.1.symm)]

theorem portDir_of_findIn {a b : St} {t pn : String} (h : findIn (portsOf b t) pn = findIn (portsOf a t) pn) :
    portDir b t pn = portDir a t pn ∧ hasPort b t pn = hasPort a t pn := by
  rw [portDir_eq, portDir_eq, hasPort_eq, hasPort_eq, h]
  exact ⟨rfl, rfl⟩

theorem elabInput_frame {st st' : St} {t tok pn' : String} {pi : Nat} (hd : DefEx st t)
    (hs : splitIdx tok = Except.ok (pn', pi)) (h : elabInput st t tok = Except.ok st') :
    DefEx st' t ∧ ∀ pn, pn' ≠ pn → portDir st' t pn = portDir st t pn ∧ hasPort st' t pn = hasPort st t pn := by
  refine ⟨(Run.elabInput (idx := 0) h).defEx hd, fun pn hne => portDir_of_findIn ?_⟩
  obtain rfl := Except.ok.inj ((elabInput_eq hs).symm.trans h)
  rw [portsOf_of_defs (defs_connect _ _ _ _ _), frame_growPort _ _ _ _ _ hne]
  split
  · exact frame_setDir _ _ _ _ _ hne
  · exact frame_addPort _ _ _ _ _ _ hne

theorem elabOutput_frame {st st' : St} {t tok pn' : String} {pi : Nat} (hd : DefEx st t)
    (hs : splitIdx tok = Except.ok (pn', pi))
    (hdir : portDir (addPort st t pn' Dir.out 0) t pn' = Dir.out)
    (h : elabOutput st t tok = Except.ok st') :
    DefEx st' t ∧ portDir st' t pn' = Dir.out ∧
    ∀ pn, pn' ≠ pn → portDir st' t pn = portDir st t pn ∧ hasPort st' t pn = hasPort st t pn := by
  have hd' := (Run.elabOutput (idx := 0) h).defEx hd
  obtain rfl := Except.ok.inj ((elabOutput_out hs (by rw [hdir]; simp)).symm.trans h)
  obtain ⟨hh0, hd0⟩ := addPort_has st t pn' Dir.out 0 hd
  obtain ⟨h1, _, h3⟩ := setDir_port _ t pn' Dir.out hd0 hh0
  refine ⟨hd', by rw [portDir_connect, (growPort_port _ t pn' (pi + 1) h3).1, h1], fun pn hne => portDir_of_findIn ?_⟩
  rw [portsOf_of_defs (defs_connect _ _ _ _ _), frame_growPort _ _ _ _ _ hne, frame_setDir _ _ _ _ _ hne,
    frame_addPort _ _ _ _ _ _ hne]

/-- the joins a list of header words declares -/
def wordJoins (t : String) (ws : List String) : List (Pin × Key) :=
  ws.flatMap (fun w => match splitIdx w with
    | Except.ok (pn, pi) => [(Pin.top t pn pi, (t, pn, pi))]
    | Except.error _ => [])

/-- every port named in `OUTS` that exists is an OUT port -/
def OutInv (st : St) (t : String) (OUTS : List String) : Prop :=
  ∀ pn ∈ OUTS, hasPort st t pn = true → portDir st t pn = Dir.out

structure HInv (st : St) (t : String) (OUTS : List String) (J : List (Pin × Key)) : Prop where
  dex : DefEx st t
  oinv : OutInv st t OUTS
  rinv : RInv st
  ex : Exact st J

theorem hinv_inputs (t : String) (OUTS : List String) (ws : List String)
    (hws : ∀ w ∈ ws, ∃ pn pi, splitIdx w = Except.ok (pn, pi) ∧ pn ∉ OUTS) :
    ∀ {st st' : St} {J : List (Pin × Key)}, HInv st t OUTS J → elabToks elabInput st t ws = Except.ok st' →
      HInv st' t OUTS (J ++ wordJoins t ws) := by
  induction ws with
  | nil => intro st st' J hi h; cases h; simpa [wordJoins] using hi
  | cons w r ih =>
    intro st st' J hi h
    unfold elabToks at h
    obtain ⟨s1, h1, h2⟩ := bind_ok h
    clear h
    obtain ⟨pn, pi, hs, hno⟩ := hws w (by simp)
    obtain ⟨d1, fr⟩ := elabInput_frame hi.dex hs h1
    have hi1 : HInv s1 t OUTS (J ++ [(Pin.top t pn pi, (t, pn, pi))]) := by
      refine ⟨d1, ?_, rinv_elabInput hi.rinv h1, exact_elabInput hi.ex hs h1⟩
      intro q hq hh
      have hne : pn ≠ q := fun e => hno (e ▸ hq)
      obtain ⟨f1, f2⟩ := fr q hne
      rw [f1]; rw [f2] at hh; exact hi.oinv q hq hh
    have := ih (fun x hx => hws x (by simp [hx])) hi1 h2
    simpa [wordJoins, hs, List.append_assoc] using this

theorem hinv_outputs (t : String) (OUTS : List String) (ws : List String)
    (hws : ∀ w ∈ ws, ∃ pn pi, splitIdx w = Except.ok (pn, pi) ∧ pn ∈ OUTS) :
    ∀ {st st' : St} {J : List (Pin × Key)}, HInv st t OUTS J → elabToks elabOutput st t ws = Except.ok st' →
      HInv st' t OUTS (J ++ wordJoins t ws) := by
  induction ws with
  | nil => intro st st' J hi h; cases h; simpa [wordJoins] using hi
  | cons w r ih =>
    intro st st' J hi h
    unfold elabToks at h
    obtain ⟨s1, h1, h2⟩ := bind_ok h
    clear h
    obtain ⟨pn, pi, hs, hin⟩ := hws w (by simp)
    have hdir : portDir (addPort st t pn Dir.out 0) t pn = Dir.out := by
      by_cases hh : hasPort st t pn = true
      · rw [addPort_of_has hh]; exact hi.oinv pn hin hh
      · exact (addPort_port st t pn Dir.out 0 hi.dex (by simpa using hh)).1
    obtain ⟨d1, ho, fr⟩ := elabOutput_frame hi.dex hs hdir h1
    have hi1 : HInv s1 t OUTS (J ++ [(Pin.top t pn pi, (t, pn, pi))]) := by
      refine ⟨d1, ?_, rinv_elabOutput hi.rinv h1, exact_elabOutput hi.ex hs hdir h1⟩
      intro q hq hh
      by_cases hne : pn = q
      · subst hne; exact ho
      · obtain ⟨f1, f2⟩ := fr q hne
        rw [f1]; rw [f2] at hh; exact hi.oinv q hq hh
    have := ih (fun x hx => hws x (by simp [hx])) hi1 h2
    simpa [wordJoins, hs, List.append_assoc] using this

theorem beginModel_defEx (t : String) : DefEx (beginModel {} t) t := by
  simp [DefEx, beginModel, ensureDef, findDef, updDef]

end Spydr.Eblif
