/-
  Self-containedness of the elaboration result: definition names are unique, every instance's
  model is a definition of the netlist, every cable owner and every instance parent is a declared
  model; hence a definition that was never declared by a `.model` (an undeclared black box, a
  generated `logic-gate_k` / `generic-latch`) is a leaf outside `work`.
-/
import Spydr.Eblif.InstKinds
import Spydr.Eblif.ModelCompose

namespace Spydr.Eblif

def declNames (st : St) : List String := ((defsView st).filter (·.2)).map (·.1)

structure SC (st : St) : Prop where
  nodup : (defNames st).Nodup
  insts : ∀ k ∈ instKinds st, k.2.1 ∈ defNames st ∧ k.1 ∈ declNames st
  cables : ∀ c ∈ st.cables, c.1 ∈ declNames st

theorem SC.init : SC ({} : St) := by
  refine ⟨by simp [defNames, defsView], ?_, ?_⟩
  · intro k h; simp [instKinds] at h
  · intro c h; simp at h

theorem SC.of_same {st st' : St} (hd : defsView st' = defsView st) (hi : instKinds st' = instKinds st)
    (hc : st'.cables = st.cables) (s : SC st) : SC st' := by
  refine ⟨?_, ?_, ?_⟩
  · simp only [defNames, hd]; exact s.nodup
  · intro k hk; rw [hi] at hk; simpa [defNames, declNames, hd] using s.insts k hk
  · intro c hcm; rw [hc] at hcm; simpa [declNames, hd] using s.cables c hcm

theorem declNames_sub (st : St) : ∀ n ∈ declNames st, n ∈ defNames st := by
  intro n hn
  simp only [declNames, defNames, List.mem_map, List.mem_filter] at hn ⊢
  obtain ⟨x, ⟨hx, _⟩, rfl⟩ := hn
  exact ⟨x, hx, rfl⟩

theorem sc_ensureDef {st : St} (s : SC st) (n : String) :
    SC (ensureDef st n) ∧ n ∈ defNames (ensureDef st n) ∧ (∀ m ∈ declNames st, m ∈ declNames (ensureDef st n)) := by
  have hik : instKinds (ensureDef st n) = instKinds st := ik_ensureDef st n
  have hcb : (ensureDef st n).cables = st.cables := by unfold ensureDef; split <;> rfl
  rcases dv_ensureDef st n with ⟨hin, hd⟩ | ⟨hnin, hd⟩
  · exact ⟨SC.of_same hd hik hcb s, by simpa [defNames, hd] using hin, fun m hm => by simpa [declNames, hd] using hm⟩
  · have hdn : defNames (ensureDef st n) = defNames st ++ [n] := by simp [defNames, hd]
    have hdc : declNames (ensureDef st n) = declNames st := by simp [declNames, hd, List.filter_append]
    refine ⟨⟨?_, ?_, ?_⟩, by simp [hdn], fun m hm => by rw [hdc]; exact hm⟩
    · rw [hdn, List.nodup_append]
      exact ⟨s.nodup, by simp, fun a ha b hb => by simp at hb; subst hb; exact fun e => hnin (e ▸ ha)⟩
    · intro k hk
      rw [hik] at hk
      obtain ⟨h1, h2⟩ := s.insts k hk
      exact ⟨by rw [hdn]; simp [h1], by rw [hdc]; exact h2⟩
    · intro c hc
      rw [hcb] at hc
      rw [hdc]; exact s.cables c hc

theorem dv_declFormals {model : String} (l : List (String × String)) {st st' : St}
    (h : declFormals st model l = Except.ok st') : defsView st' = defsView st := by
  refine declFormals_rel (Same.refl defsView) Same.trans (fun fa _ a b h => ?_) h
  obtain ⟨pn, pi, _, rfl⟩ := declFormal_iff.mp h
  simp [Same]

theorem dv_addNamesPorts (st : St) (dn : String) (k : Nat) : defsView (addNamesPorts st dn k) = defsView st :=
  addNamesPorts_rel (Same.refl defsView) Same.trans (dv_addPort · dn · · ·) st k

theorem cables_of_nf {a b : St} (h : netFields b = netFields a) : b.cables = a.cables := by
  simp only [netFields, Prod.mk.injEq] at h; exact h.2.2.1

theorem cables_ensureWire (st : St) (o n : String) (i : Nat) :
    ∀ c ∈ (ensureWire st o n i).cables, c ∈ st.cables ∨ c = (o, n) := by
  intro c hc
  unfold ensureWire ensureCable at hc
  simp only [] at hc
  split at hc <;> split at hc <;> simp_all

theorem cables_connect (st : St) (p : Pin) (o n : String) (i : Nat) :
    ∀ c ∈ (connect st p o n i).cables, c ∈ st.cables ∨ c = (o, n) :=
  cables_ensureWire st o n i

/-- within a model `cur` that is declared: the netlist stays self-contained -/
structure SCc (st : St) (cur : String) : Prop where
  sc : SC st
  cur : cur ∈ declNames st

theorem SCc.of_same {st st' : St} {cur : String} (hd : defsView st' = defsView st) (hi : instKinds st' = instKinds st)
    (hc : st'.cables = st.cables) (s : SCc st cur) : SCc st' cur :=
  ⟨SC.of_same hd hi hc s.sc, by simpa [declNames, hd] using s.cur⟩

theorem SCc.of_cables {st st' : St} {cur : String} (hd : defsView st' = defsView st) (hi : instKinds st' = instKinds st)
    (hc : ∀ c ∈ st'.cables, c ∈ st.cables ∨ c.1 = cur) (s : SCc st cur) : SCc st' cur := by
  refine ⟨⟨?_, ?_, ?_⟩, by simpa [declNames, hd] using s.cur⟩
  · simp only [defNames, hd]; exact s.sc.nodup
  · intro k hk
    rw [hi] at hk
    simpa [defNames, declNames, hd] using s.sc.insts k hk
  · intro c hcm
    rcases hc c hcm with h | h
    · simpa [declNames, hd] using s.sc.cables c h
    · rw [h]; simpa [declNames, hd] using s.cur

theorem scc_connect {st : St} {cur : String} (s : SCc st cur) (p : Pin) (n : String) (i : Nat) :
    SCc (connect st p cur n i) cur :=
  SCc.of_cables (dv_connect st p cur n i) (ik_connect _ _ _ _ _)
    (fun c hc => (cables_connect st p cur n i c hc).imp id (fun h => by rw [h])) s

theorem scc_newInst {st : St} {cur : String} (s : SCc st cur) (model typ : String) (hm : model ∈ defNames st) :
    SCc (newInst st cur model typ).1 cur := by
  have hd := dv_newInst st cur model typ
  refine ⟨⟨?_, ?_, ?_⟩, by simpa [declNames, hd] using s.cur⟩
  · simp only [defNames, hd]; exact s.sc.nodup
  · intro k hk
    rw [ik_newInst, List.mem_append] at hk
    rcases hk with hk | hk
    · simpa [defNames, declNames, hd] using s.sc.insts k hk
    · simp only [List.mem_singleton] at hk
      subst hk
      exact ⟨by simpa [defNames, hd] using hm, by simpa [declNames, hd] using s.cur⟩
  · intro c hc
    have : (newInst st cur model typ).1.cables = st.cables := rfl
    rw [this] at hc
    simpa [declNames, hd] using s.sc.cables c hc

theorem scc_ensureDef {st : St} {cur : String} (s : SCc st cur) (n : String) :
    SCc (ensureDef st n) cur ∧ n ∈ defNames (ensureDef st n) := by
  obtain ⟨h1, h2, h3⟩ := sc_ensureDef s.sc n
  exact ⟨⟨h1, h3 cur s.cur⟩, h2⟩

theorem scc_prim {cur : String} {a b : St} (h : Prim cur a b) (s : SCc a cur) : SCc b cur := by
  cases h with
  | quiet q =>
    cases q with
    | ensureDef n _ => exact (scc_ensureDef s n).1
    | edit f hf => exact SCc.of_same (dv_updInst _ _ _) (ik_updInst _ _ _ (fun x => (hf.frame x).1)) rfl s
    | assignDefault m => exact SCc.of_same (dv_assignDefault _ _ _ _) (ik_assignDefault _ _ _ _) rfl s
    | connect p n i => exact scc_connect s p n i
    | clock l => exact SCc.of_same (dv_updDef _ _ _ (fun _ => ⟨rfl, rfl⟩)) (ik_updDef _ _ _) rfl s
    -- checkHierarchy, addPort, growPort, setDir keep `defsView`, `instKinds` and the net fields (`dv_`, `ik_`, `nf_` simp lemmas)
    | _ => exact SCc.of_same (by simp) (by simp) (cables_of_nf (by simp)) s
  | newInst m t hd => exact scc_newInst s m t ((defEx_iff _ _).mp hd)
  | covers i c => exact SCc.of_same (dv_updInst _ _ _) (ik_updInst _ _ _ (fun _ => rfl)) rfl s
  | conn n1 i1 n2 i2 =>
    refine SCc.of_cables (by simp) (by rw [ik_mergeKeys, ik_ensureWire, ik_ensureWire]) (fun c hc => ?_) s
    have hmk : ∀ (s : St) (ka kb : Key), (mergeKeys s ka kb).cables = s.cables := by
      intro s ka kb; unfold mergeKeys; simp only []; split <;> rfl
    rw [hmk] at hc
    rcases cables_ensureWire _ _ _ _ c hc with h | h
    · exact (cables_ensureWire _ _ _ _ c h).imp id (fun h => by rw [h])
    · exact Or.inr (by rw [h])
  | blackbox =>
    refine SCc.of_cables ((dv_updDef _ _ _ ?_).trans (dv_clearOwner _ _)) (by rw [ik_updDef, ik_clearOwner])
      (fun c hc => ?_) s
    · exact fun _ => ⟨rfl, rfl⟩
    · simp only [updDef, clearOwner, List.mem_filter] at hc
      exact Or.inl hc.1

theorem scc_elabStmts {cur : String} (l : List Stmt) {st st' : St} (s : SCc st cur)
    (h : elabStmts st cur l = Except.ok st') : SCc st' cur :=
  (Run.elabStmts h).keeps (fun q => scc_prim q) s

theorem dv_declare (st : St) (n : String) :
    defsView (updDef st n (fun d => { d with declared := true })) =
      (defsView st).map (fun x => if x.1 = n then (x.1, true) else x) := by
  simp only [defsView, updDef, List.map_map]
  congr 1
  funext d
  simp only [Function.comp]
  split <;> rfl

theorem scc_beginModel {st : St} (s : SC st) (n : String) : SCc (beginModel st n) n := by
  obtain ⟨s1, hn1, hmono⟩ := sc_ensureDef s n
  have hdv : defsView (beginModel st n) = (defsView (ensureDef st n)).map (fun x => if x.1 = n then (x.1, true) else x) := by
    obtain ⟨_, _, e⟩ := beginModel_eq st n
    rw [e]
    exact dv_declare _ _
  have hik : instKinds (beginModel st n) = instKinds st := ik_beginModel st n
  have hcb : (beginModel st n).cables = st.cables := cables_of_nf (nf_beginModel st n)
  have hnames : defNames (beginModel st n) = defNames (ensureDef st n) := by
    simp only [defNames, hdv, List.map_map]
    congr 1
    funext x
    simp only [Function.comp]
    split <;> rfl
  have hdecl : ∀ m, m ∈ declNames (ensureDef st n) ∨ m = n ∧ n ∈ defNames (ensureDef st n) → m ∈ declNames (beginModel st n) := by
    intro m hm
    simp only [declNames, hdv, List.mem_map, List.mem_filter]
    rcases hm with hm | ⟨rfl, hm⟩
    · simp only [declNames, List.mem_map, List.mem_filter] at hm
      obtain ⟨x, ⟨hx, hxd⟩, rfl⟩ := hm
      refine ⟨if x.1 = n then (x.1, true) else x, ⟨⟨x, hx, rfl⟩, ?_⟩, ?_⟩
      · split <;> simp [hxd]
      · split <;> rfl
    · simp only [defNames, List.mem_map] at hm
      obtain ⟨x, hx, rfl⟩ := hm
      exact ⟨(x.1, true), ⟨⟨x, hx, by simp⟩, rfl⟩, rfl⟩
  refine ⟨⟨?_, ?_, ?_⟩, hdecl n (Or.inr ⟨rfl, hn1⟩)⟩
  · rw [hnames]; exact s1.nodup
  · intro k hk
    rw [hik] at hk
    obtain ⟨h1, h2⟩ := s.insts k hk
    refine ⟨?_, hdecl _ (Or.inl (hmono _ h2))⟩
    rw [hnames]
    rcases dv_ensureDef st n with ⟨_, hd⟩ | ⟨_, hd⟩
    · simpa [defNames, hd] using h1
    · simp only [defNames, hd, List.map_append, List.mem_append]; exact Or.inl h1
  · intro c hc
    rw [hcb] at hc
    exact hdecl _ (Or.inl (hmono _ (s.cables c hc)))

theorem scc_elabHdrs {cur : String} (l : List Hdr) {st st' : St} (s : SCc st cur)
    (h : elabHdrs st cur l = Except.ok st') : SCc st' cur :=
  (Run.elabHdrs (idx := 0) h).keeps (fun q => scc_prim (.quiet q)) s

theorem sc_elabModels (ms : List Model) {st st' : St} (s : SC st) (h : elabModels st ms = Except.ok st') : SC st' :=
  elabModels_inv (Q := fun cur a => SCc a cur) (fun p n => scc_beginModel p n) (fun q => scc_prim q) SCc.sc h s

theorem declared_of_declNames {st : St} {n : String} (h : n ∈ declNames st) : ∃ d ∈ st.defs, d.name = n ∧ d.declared = true := by
  simp only [declNames, defsView, List.mem_map, List.mem_filter] at h
  obtain ⟨x, ⟨⟨d, hd, rfl⟩, hx⟩, rfl⟩ := h
  exact ⟨d, hd, rfl, hx⟩

theorem sc_resolves {st : St} (s : SC st) :
    (∀ i ∈ st.insts, (∃ d ∈ st.defs, d.name = i.model) ∧ ∃ d ∈ st.defs, d.name = i.parent ∧ d.declared = true) ∧
    (∀ c ∈ st.cables, ∃ d ∈ st.defs, d.name = c.1 ∧ d.declared = true) := by
  refine ⟨fun i hi => ?_, fun c hc => declared_of_declNames (s.cables c hc)⟩
  have hk : (i.parent, i.model, i.typ) ∈ instKinds st := List.mem_map.mpr ⟨i, hi, rfl⟩
  obtain ⟨h1, h2⟩ := s.insts _ hk
  refine ⟨?_, declared_of_declNames h2⟩
  simp only [defNames, defsView, List.map_map, List.mem_map, Function.comp] at h1
  exact h1

theorem sc_undeclared_leaf {st : St} (s : SC st) {d : DefD} (hd : d ∈ st.defs) (hu : d.declared = false) :
    isLeaf st.toNet d.name = true ∧ d.inWork = false := by
  have hnd : (st.defs.map (·.name)).Nodup := by
    have := s.nodup
    simp only [defNames, defsView, List.map_map] at this
    exact this
  have hno : ∀ n, n ∈ declNames st → n ≠ d.name := by
    intro n hn he
    obtain ⟨d', hd', hn', hdecl⟩ := declared_of_declNames hn
    have := inj_of_nodup_map hnd hd' hd (hn'.trans he)
    subst this
    rw [hu] at hdecl; cases hdecl
  refine ⟨?_, by simp [DefD.inWork, hu]⟩
  simp only [isLeaf, St.toNet, Bool.and_eq_true, Bool.not_eq_true', List.any_eq_false, List.any_map,
    decide_eq_true_eq, Function.comp]
  constructor
  · intro i hi he
    have hk : (i.parent, i.model, i.typ) ∈ instKinds st := List.mem_map.mpr ⟨i, hi, rfl⟩
    exact hno _ (s.insts _ hk).2 he
  · intro c hc he
    exact hno _ (s.cables c hc) he

end Spydr.Eblif
