/-
  Write-then-read for everything the writer emits, any instance order.  The second read is the written
  top model -- header, child blocks, `.conn` lines -- and the black-box models after it (`read_states`).
  That it cannot fail (`read_any_ok`: written names pairwise different, plain black-box ports) and what
  its result is (`roundtrip_any_views`: whatever the read returns) are separate theorems; the shape
  conditions `FragW`, `NetOKW` are those common to the `.subckt`/`.gate` fragment and the whole output.
-/
import Spydr.Eblif.Covers
import Spydr.Eblif.ReadChildren

namespace Spydr.Eblif

open Any

theorem hdr_ok (t : String) (d : DefD) (hP : ∀ p ∈ d.ports, plainName p.name ∧ p.name.toList ≠ []) (st : St) :
    ∃ sh, elabHdrs st t (hdrOfFull d) = Except.ok sh := by
  have hws : ∀ (P : List PortD), (∀ p ∈ P, p ∈ d.ports) → ∀ w ∈ P.flatMap portBits, ∃ pn pi, splitIdx w = Except.ok (pn, pi) := by
    intro P hPs w hw
    obtain ⟨p, hp, hwp⟩ := List.mem_flatMap.mp hw
    obtain ⟨h1, h2⟩ := hP p (hPs p hp)
    obtain ⟨pi, hs⟩ := splitIdx_portBits p h1 h2 w hwp
    exact ⟨p.name, pi, hs⟩
  obtain ⟨s1, h1⟩ := elabToks_ok elabInput elabInput_ok t _
    (hws (insPorts d) (fun p hp => (List.mem_filter.mp hp).1)) st
  obtain ⟨s2, h2⟩ := elabToks_ok elabOutput elabOutput_ok t _
    (hws (outsPorts d) (fun p hp => (List.mem_filter.mp hp).1)) s1
  rw [hdrOfFull_eq]
  have hrest : ∃ sh, elabHdrs s2 t (match d.clock with | some c => [Hdr.clock c] | none => []) = Except.ok sh := by
    cases d.clock with
    | none => exact ⟨s2, rfl⟩
    | some c => exact ⟨_, rfl⟩
  obtain ⟨sh, h3⟩ := hrest
  exact ⟨sh, elabHdrs_io_iff.mpr ⟨s1, s2, h1, h2, h3⟩⟩

theorem bodyJoins_conns (cur : String) (l : List (String × String)) :
    ∀ st : St, bodyJoins st cur (l.map (fun ab => Stmt.conn ab.1 ab.2)) = [] := by
  induction l with
  | nil => intro st; rfl
  | cons ab r ih =>
    intro st
    simp only [List.map_cons, bodyJoins, stmtJoins, List.nil_append]
    cases elabStmt st cur (Stmt.conn ab.1 ab.2) with
    | error e => rfl
    | ok s1 => exact ih s1

theorem top_shape (n : BNet) (t : String) (hw : WellNamed n) (ht : okWord t = true) (hn : NetOKW n t) :
    (∀ c ∈ n.cables, plainName c.1.2 ∧ c.1.2 ≠ "unconn" ∧ c.1.2.toList ≠ []) ∧
    (∀ p ∈ (n.findDef t).ports, (p.dir = Dir.inp ∨ p.dir = Dir.out ∨ p.dir = Dir.inout) ∧ plainName p.name ∧
      p.name.toList ≠ [] ∧ 1 ≤ p.width) ∧
    (∀ i ∈ n.insts, i.parent = t ∧
      (i.typ = "EBLIF.subckt" ∨ i.typ = "EBLIF.gate" ∨ i.typ = "EBLIF.names" ∨ i.typ = "EBLIF.latch")) ∧
    ∀ o : Opts, NamesOK o n → o.writeCname = true → ((([] : List (Inst × Nat)) ++ kidsFull n t).map (·.1.name)).Nodup := by
  obtain ⟨hperm, hp, _, hcb, _, _⟩ := hn
  obtain ⟨_, hpn, _⟩ := findDef_ok hw ht
  refine ⟨?_, ?_, ?_, ?_⟩
  · exact cables_plain n t hw hcb
  · intro p hpm
    obtain ⟨h1, h2, h3, _⟩ := hp p hpm
    exact ⟨h1, h2, okWord_nonempty (hpn p hpm), h3⟩
  · intro i hi
    obtain ⟨idx, hidx⟩ := List.getElem?_of_mem hi
    have hm : (i, idx) ∈ kidsFull n t := hperm.mem_iff.mpr (List.mem_zipIdx_iff_getElem?.mpr hidx)
    exact (mem_kidsFull hm).2
  · intro o hnm hwc
    have h1 : ((kidsFull n t).map (·.1.name)).Perm (n.insts.zipIdx.map (·.1.name)) := hperm.map _
    have h2 : n.insts.zipIdx.map (fun k : Inst × Nat => k.1.name) = n.insts.map (·.name) := by
      have : (fun k : Inst × Nat => k.1.name) = (fun i : Inst => i.name) ∘ Prod.fst := rfl
      rw [this, ← List.map_map, List.zipIdx_map_fst]
    rw [h2] at h1
    simpa using h1.nodup_iff.mpr (hnm hwc)

theorem header_state (n : BNet) (t : String) (hw : WellNamed n) (ht : okWord t = true) (hn : NetOKW n t) :
    ∃ sh, elabHdrs (beginModel {} t) t (hdrOfFull (n.findDef t)) = Except.ok sh ∧
      portsOf sh t = insPorts (n.findDef t) ++ pureOuts (n.findDef t) ∧ DefEx sh t ∧ RInv sh ∧ Exact sh (hdrJ n t) ∧
      sh.insts.length = 0 ∧ namesOf sh = [] ∧ instKinds sh = [] ∧ (∀ x, x ≠ t → findDef sh x = none) ∧ StdKids n sh := by
  obtain ⟨_, hP, _, _⟩ := top_shape n t hw ht hn
  obtain ⟨_, _, hnd, _, _, hk⟩ := hn
  obtain ⟨sh, hh⟩ := hdr_ok t (n.findDef t) (fun p hpm => ⟨(hP p hpm).2.1, (hP p hpm).2.2.1⟩) (beginModel {} t)
  obtain ⟨ph, dh, rh, eh⟩ := hdr_full t (n.findDef t) hP hnd sh hh
  have kh : instKinds sh = [] := (ik_elabHdrs hh).trans (ik_beginModel _ _)
  have hlen0 : sh.insts.length = 0 := by
    have := congrArg List.length kh; simpa [instKinds] using this
  have habs : ∀ x, x ≠ t → findDef sh x = none := by
    intro x hx
    rw [(Run.elabHdrs (idx := 0) hh).findDef hx, findDef_beginModel hx]; rfl
  refine ⟨sh, hh, ph, dh, rh, eh, hlen0, ?_, kh, habs, ?_⟩
  · simp only [namesOf]
    rw [List.eq_nil_of_length_eq_zero hlen0]; rfl
  · intro j hj hjn
    left
    obtain ⟨idx, hidx⟩ := List.getElem?_of_mem hj
    rw [← names_model n t hk j hj hjn]
    exact habs _ (fun e => (hk (j, idx) (List.mem_zipIdx_iff_getElem?.mpr hidx)).2.2.2.1 (Or.inl hjn) e.symm)

theorem conns_state (n : BNet) (t : String) (hw : WellNamed n) (ht : okWord t = true) (hn : NetOKW n t)
    (sk : St) :
    ∃ sc, elabStmts sk t ((connPairs n (n.findDef t)).map (fun ab => Stmt.conn ab.1 ab.2)) = Except.ok sc ∧
      sc.alias = (connKeys n t (n.findDef t)).foldl (fun A p => aliasStep A p.1 p.2) sk.alias ∧ sc.defs = sk.defs ∧
      sc.insts = sk.insts := by
  obtain ⟨hc, hP, _, _⟩ := top_shape n t hw ht hn
  exact conn_stmts t (connPairs n (n.findDef t)) (connKeys n t (n.findDef t))
    (connPairs_keys n t (n.findDef t) (fun p hpm => ⟨(hP p hpm).2.1, (hP p hpm).2.2.1⟩)
      (fun c hcm => ⟨(hc c hcm).1, (hc c hcm).2.2⟩)) sk

theorem bbPart_ok (o : Opts) (n : BNet) (t : String) (hw : WellNamed n) (hbp : o.writeBlackbox = true → BBPlain n t)
    (sc : St) : ∃ sf, elabModels sc (bbPart o n t) = Except.ok sf := by
  unfold bbPart
  split
  · rename_i hwb
    exact bb_models_ok (bbDefs n t) (by
      intro d hd p hp
      exact ⟨(hbp hwb d hd).2 p hp, okWord_nonempty ((hw.2.1 d (bbDefs_sub hd)).2.1 p hp)⟩) sc
  · exact ⟨sc, rfl⟩

theorem written_models (o : Opts) (n : BNet) (t : String) (sf : St) :
    elabModels {} (astOfFull o n t).models = Except.ok sf ↔
    ∃ sh sk sc, elabHdrs (beginModel {} t) t (hdrOfFull (n.findDef t)) = Except.ok sh ∧
      elabStmts sh t ((kidsFull n t).map (stmtOfFull o n)) = Except.ok sk ∧
      elabStmts sk t ((connPairs n (n.findDef t)).map (fun ab => Stmt.conn ab.1 ab.2)) = Except.ok sc ∧
      elabModels sc (bbPart o n t) = Except.ok sf := by
  simp only [astOfFull]
  rw [elabModels_append]
  constructor
  · intro h
    obtain ⟨s0, h0, hsf⟩ := bind_ok h
    obtain ⟨sx, hm, hx⟩ := bind_ok (show (elabModel {} _ >>= fun s => elabModels s []) = _ from h0)
    obtain rfl : sx = s0 := Except.ok.inj hx
    obtain ⟨sh, hh, hb⟩ := bind_ok (show (elabHdrs (beginModel {} t) t (hdrOfFull (n.findDef t)) >>= _) = _ from hm)
    simp only [] at hb
    rw [elabStmts_append, connStmts_eq] at hb
    obtain ⟨sk, hbk, hbc⟩ := bind_ok hb
    exact ⟨sh, sk, sx, hh, hbk, hbc, hsf⟩
  · rintro ⟨sh, sk, sc, hh, hbk, hbc, hsf⟩
    simp only [elabModels, elabModel, hh, bind, Except.bind, pure, Except.pure]
    rw [elabStmts_append, connStmts_eq]
    simp only [hbk, bind, Except.bind]
    rw [hbc]
    exact hsf

theorem read_states (o : Opts) (n : BNet) (t : String) (hw : WellNamed n) (hf : FragW n t) (n' : BNet) :
    readB (composeText o n) = Except.ok n' ↔
    ∃ sf, elabModels {} (astOfFull o n t).models = Except.ok sf ∧
      applyConvention ({ sf with comments := (astOfFull o n t).comments } : St).toNet (List.range sf.insts.length) =
        Except.ok n' := by
  rw [read_composeText o n hw, parse_composeLines_w o n t hf]
  show elabB (astOfFull o n t) = Except.ok n' ↔ _
  unfold elabB elabSt
  constructor
  · intro h
    obtain ⟨st, hst, hconv⟩ := bind_ok h
    obtain ⟨sf, hsf, hst⟩ := bind_ok hst
    cases hst
    exact ⟨sf, hsf, hconv⟩
  · rintro ⟨sf, hsf, hconv⟩
    simp only [hsf, bind, Except.bind, pure, Except.pure]
    exact hconv

theorem read_result {sf : St} {cs : List String} {n' : BNet}
    (hconv : applyConvention ({ sf with comments := cs } : St).toNet (List.range sf.insts.length) = Except.ok n') :
    n'.cables = sf.toNet.cables ∧ n'.defs = sf.defs ∧ n'.insts.map eraseName = sf.insts.map eraseName ∧
    ∀ m, (n'.findDef m).ports = portsOf sf m := by
  obtain ⟨c1, c2, _, c4⟩ := applyConvention_pres _ hconv
  refine ⟨c1, c2, c4, fun m => ?_⟩
  unfold BNet.findDef portsOf findDef
  rw [c2]
  show (match (sf.defs.find? fun (d : DefD) => d.name = m) with | some d => d | none => ({ name := m } : DefD)).ports = _
  cases sf.defs.find? (fun (d : DefD) => d.name = m) <;> rfl

theorem top_ok (o : Opts) (n : BNet) (t : String) (hw : WellNamed n) (ht : okWord t = true)
    (hn : NetOKW n t) (hnm : NamesOK o n) :
    ∃ sh sk sc, elabHdrs (beginModel {} t) t (hdrOfFull (n.findDef t)) = Except.ok sh ∧
      elabStmts sh t ((kidsFull n t).map (stmtOfFull o n)) = Except.ok sk ∧
      elabStmts sk t ((connPairs n (n.findDef t)).map (fun ab => Stmt.conn ab.1 ab.2)) = Except.ok sc := by
  obtain ⟨hc, _, _, hnames⟩ := top_shape n t hw ht hn
  obtain ⟨sh, hh, _, _, _, _, hlen0, hnames0, _, _, hstd0⟩ := header_state n t hw ht hn
  obtain ⟨sk, hbk⟩ := kids_ok o n t hw (fun c hcm => ⟨(hc c hcm).1, (hc c hcm).2.2⟩) hn.2.2.2.2.2
    (kidsFull n t) [] (fun k hk' => hn.1.mem_iff.mp hk') (hnames o hnm) sh hlen0 (fun _ => by simp [hnames0]) hstd0
  obtain ⟨sc, hbc, _⟩ := conns_state n t hw ht hn sk
  exact ⟨sh, sk, sc, hh, hbk, hbc⟩

theorem top_facts (o : Opts) (n : BNet) (t : String) (hw : WellNamed n) (ht : okWord t = true)
    (hn : NetOKW n t) {sh sk sc : St}
    (hh : elabHdrs (beginModel {} t) t (hdrOfFull (n.findDef t)) = Except.ok sh)
    (hbk : elabStmts sh t ((kidsFull n t).map (stmtOfFull o n)) = Except.ok sk)
    (hbc : elabStmts sk t ((connPairs n (n.findDef t)).map (fun ab => Stmt.conn ab.1 ab.2)) = Except.ok sc) :
    instKinds sc = (kidsFull n t).map (fun k => kindOf k.1) ∧
    Exact sc (JFA n t) ∧ sc.alias = aliasOf (connKeys n t (n.findDef t)) ∧ LInv sc ∧
    (∀ kj ∈ (kidsFull n t).zipIdx, dataAt sc kj.2 = some (infoFold (infoStmts o kj.1.1) (none, [], []))) ∧
    DefEx sc t ∧
    ((∀ i ∈ n.insts, t ≠ i.model) → portsOf sc t = insPorts (n.findDef t) ++ pureOuts (n.findDef t)) := by
  obtain ⟨_, _, hkids, _⟩ := top_shape n t hw ht hn
  obtain ⟨sh', hh', ph, dh, rh, eh, hlen0, _, kh, _, hstd0⟩ := header_state n t hw ht hn
  obtain rfl : sh' = sh := Except.ok.inj (hh'.symm.trans hh)
  have hn' := hn
  obtain ⟨hperm, _, hnd, hcb, hcn, hk⟩ := hn'
  obtain ⟨kk, ek, dk, _, ak, lk, fk, _⟩ := kids_facts o n t hk hkids (kidsFull n t) 0
    (fun k hk' => hperm.mem_iff.mp hk') hlen0 hstd0 hbk
  obtain ⟨sc', hbc', ac, dc, ic⟩ := conns_state n t hw ht hn sk
  obtain rfl : sc' = sc := Except.ok.inj (hbc'.symm.trans hbc)
  have hJ : JFA n t = (hdrJ n t ++ ((kidsFull n t).zipIdx 0).flatMap (fun kj => kidJoinsAt n t kj.2 kj.1)) ++
      bodyJoins sk t ((connPairs n (n.findDef t)).map (fun ab => Stmt.conn ab.1 ab.2)) := by
    rw [bodyJoins_conns]; simp [JFA]
  -- a net bit that carries a pin is not the source of a `.conn` line
  have hdisj : ∀ pp ∈ connKeys n t (n.findDef t), pp.1 ∉ (connKeys n t (n.findDef t)).map (·.2) := by
    intro pp hpp
    obtain ⟨ka, kb⟩ := pp
    obtain ⟨p, hpm, b, hb, c, wi, len, hwo, _, rfl, _⟩ := (mem_connKeys n t _ ka kb).mp hpp
    exact carrier_not_src n t hcn _ _ (onNet_of_wireOf n t hcb hwo)
  -- the model being read stays a declared definition
  have hdex : DefEx sc' t := by
    obtain ⟨d, hd, hdn, _⟩ := declared_of_declNames
      (scc_elabStmts _ (scc_elabStmts _ (scc_elabHdrs _ (scc_beginModel SC.init t) hh) hbk) hbc).cur
    unfold DefEx findDef
    rw [List.find?_isSome]
    exact ⟨d, hd, by simpa using hdn⟩
  refine ⟨?_, ?_, ?_, linv_netInv.elabStmts _ (lk (⟨rh.wf, rh.pl⟩)) hbc, ?_, hdex, ?_⟩
  · have : instKinds sc' = instKinds sk := by simp [instKinds, ic]
    rw [this, kk, kh]; simp
  · rw [hJ]
    exact exact_elabStmts _ (by
      intro s hs
      obtain ⟨ab, _, rfl⟩ := List.mem_map.mp hs
      simp) (ek _ eh) hbc
  · rw [ac, ak, rh.aid, ← aliasOf_nil]
    have := alias_fold (connKeys n t (n.findDef t)) [] (by simpa using connKeys_nodup n t _ hnd) (by simpa using hdisj)
    simpa using this
  · intro kj hkj
    rw [data_of_insts ic]
    exact dk kj hkj
  · intro hself
    have fk' := fk (fun k hk' => hself k.1 (mem_zipIdx_fst (hperm.mem_iff.mp hk'))) dh
    rw [(fr_of_defs fk'.2 dc).1, fk'.1, ph]

/-- **The second read of the writer's text cannot fail**: written names pairwise different
    (`NamesOK`), plain port names in the black-box block when it is written. -/
theorem read_any_ok (o : Opts) (n : BNet) (t : String) (hw : WellNamed n) (hf : FragW n t) (hn : NetOKW n t)
    (hnm : NamesOK o n) (hbp : o.writeBlackbox = true → BBPlain n t) :
    ∃ n', readB (composeText o n) = Except.ok n' := by
  have ht : okWord t = true := hw.2.2.2.2 t hf.top
  obtain ⟨sh, sk, sc, hh, hbk, hbc⟩ := top_ok o n t hw ht hn hnm
  obtain ⟨sf, hsf⟩ := bbPart_ok o n t hw hbp sc
  obtain ⟨n', hconv⟩ := applyConvention_ok (List.range sf.insts.length)
    ({ sf with comments := (astOfFull o n t).comments } : St).toNet
  exact ⟨n', (read_states o n t hw hf n').mpr ⟨sf, (written_models o n t sf).mpr ⟨sh, sk, sc, hh, hbk, hbc, hsf⟩, hconv⟩⟩

/-- **Write-then-read, everything the writer emits, any instance order.**  Whatever the reader
    returns for the composed text has `n`'s instances in WRITER order (`kidsFull n t`) with their kinds
    and data, exactly `n`'s pins on every net bit up to the renaming of instance indices to writer
    positions, and -- when no child instantiates the top model -- `n`'s top ports.  The written
    black-box models must not be the top model. -/
theorem roundtrip_any_views (o : Opts) (n : BNet) (t : String) (hw : WellNamed n) (hf : FragW n t) (hn : NetOKW n t)
    (hbb : o.writeBlackbox = true → ∀ d ∈ bbDefs n t, d.name ≠ t)
    (n' : BNet) (h : readB (composeText o n) = Except.ok n') :
    n'.insts.map kindOf = (kidsFull n t).map (fun k => kindOf k.1) ∧
    (∀ j : Nat, (n'.insts[j]?).map infoOf =
      ((kidsFull n t)[j]?).map (fun k => (if o.writeCname then some k.1.name else none, k.1.attrs, k.1.params))) ∧
    (∀ y k, OnNet n' y k ↔ ∃ x, Renames (kidsFull n t) x y ∧ OnNet n x k) ∧
    ((∀ i ∈ n.insts, t ≠ i.model) → (n'.findDef t).ports = insPorts (n.findDef t) ++ pureOuts (n.findDef t)) := by
  -- the read = elaborated models, then renaming (`read_states`); the top model = header, children, `.conn` lines
  -- (`written_models`, `top_facts`); the black-box models keep `TopInvF` (`bb_models_foldF`); then the four views are
  -- read off the final state (`read_result`), the nets through `joins_iff_onNet`
  have ht : okWord t = true := hw.2.2.2.2 t hf.top
  obtain ⟨sf, hms, hconv⟩ := (read_states o n t hw hf n').mp h
  obtain ⟨sh, sk, s0, hh, hbk, hbc, hsf⟩ := (written_models o n t sf).mp hms
  obtain ⟨fk, fe, fa, fl, fd, fdex, fp⟩ := top_facts o n t hw ht hn hh hbk hbc
  have hJown := jfa_owner n t hw ht hn
  have inv0 : TopInvF t (JFA n t) (aliasOf (connKeys n t (n.findDef t))) s0 :=
    ⟨fl, fe, fdex, fun k _ => by rw [fa], fun k hk => by
      rw [fa]
      refine aliasOf_not_mem (fun hm => hk ?_)
      obtain ⟨kk, hkk, rfl⟩ := List.mem_map.mp hm
      obtain ⟨_, _, _, _, _, _, _, _, _, _, e⟩ := (mem_connKeys n t _ kk.1 kk.2).mp hkk
      rw [e]⟩
  obtain ⟨invf, kf, df, pf⟩ : TopInvF t (JFA n t) (aliasOf (connKeys n t (n.findDef t))) sf ∧
      instKinds sf = instKinds s0 ∧ (∀ j, dataAt sf j = dataAt s0 j) ∧ portsOf sf t = portsOf s0 t := by
    rcases bbPart_cases hsf with ⟨hwb, h⟩ | ⟨_, rfl⟩
    · exact bb_models_foldF t _ _ hJown (bbDefs n t) (hbb hwb) inv0 h
    · exact ⟨inv0, rfl, fun _ => rfl, rfl⟩
  obtain ⟨c1, _, hins, hfind⟩ := read_result hconv
  have hkind : ∀ l : List Inst, l.map kindOf = (l.map eraseName).map kindOf := by
    intro l; rw [List.map_map]; rfl
  have hinfo : ∀ (l : List Inst) (j : Nat), (l[j]?).map infoOf = ((l.map eraseName)[j]?).map infoOf := by
    intro l j
    rw [List.getElem?_map]
    cases l[j]? <;> rfl
  have hkattr : ∀ k ∈ kidsFull n t, (k.1.attrs.map (·.1)).Nodup ∧ (k.1.params.map (·.1)).Nodup := by
    intro k hk'
    obtain ⟨_, ha, hp, _⟩ := hn.2.2.2.2.2 k (hn.1.mem_iff.mp hk')
    exact ⟨ha, hp⟩
  refine ⟨?_, ?_, ?_, ?_⟩
  · rw [hkind n'.insts, hins, ← hkind]
    have : sf.insts.map kindOf = instKinds sf := rfl
    rw [this, kf, fk]
  · intro j
    rw [hinfo n'.insts, hins, ← hinfo]
    have hd := df j
    simp only [dataAt] at hd
    rw [hd]
    by_cases hj : j < (kidsFull n t).length
    · have hmem : ((kidsFull n t)[j], j) ∈ (kidsFull n t).zipIdx := List.mem_zipIdx_iff_getElem?.mpr (by simp)
      have := fd _ hmem
      simp only [dataAt] at this
      rw [this]
      obtain ⟨ha, hp⟩ := hkattr _ (List.getElem_mem hj)
      rw [infoFold_infoStmts o (kidsFull n t)[j].1 ha hp, List.getElem?_eq_getElem hj]
      rfl
    · have hlen : s0.insts.length = (kidsFull n t).length := by
        have := congrArg List.length fk
        simpa [instKinds] using this
      have h1 : s0.insts[j]? = none := by rw [List.getElem?_eq_none_iff]; omega
      have h2 : (kidsFull n t)[j]? = none := by rw [List.getElem?_eq_none_iff]; omega
      simp [h1, h2]
  · intro y k
    have hpins : y ∈ sf.pins k ↔ ∃ k', (y, k') ∈ JFA n t ∧ aliasOf (connKeys n t (n.findDef t)) k' = k := by
      rw [invf.2.1 y k]
      constructor
      · rintro ⟨k', hm', ha⟩
        exact ⟨k', hm', by rw [← invf.2.2.2.1 k' (hJown _ hm')]; exact ha⟩
      · rintro ⟨k', hm', ha⟩
        exact ⟨k', hm', by rw [invf.2.2.2.1 k' (hJown _ hm')]; exact ha⟩
    exact (onNet_of_cables c1 y k).trans
      ((onNet_toNet sf invf.1.pl y k).trans (hpins.trans (joins_iff_onNet n t hw ht hn y k)))
  · intro hself
    rw [hfind, pf, fp hself]

theorem roundtrip_any (o : Opts) (n : BNet) (t : String) (hw : WellNamed n) (hf : FragFull n t)
    (hn : NetOKA n t) (hnm : NamesOK o n) (hbp : BBPlain n t) :
    ∃ n', readB (composeText o n) = Except.ok n' ∧
      n'.insts.map kindOf = (kidsFull n t).map (fun k => kindOf k.1) ∧
      (∀ j : Nat, (n'.insts[j]?).map infoOf =
        ((kidsFull n t)[j]?).map (fun k => (if o.writeCname then some k.1.name else none, k.1.attrs, k.1.params))) ∧
      (∀ y k, OnNet n' y k ↔ ∃ x, Renames (kidsFull n t) x y ∧ OnNet n x k) ∧
      (n'.findDef t).ports = insPorts (n.findDef t) ++ pureOuts (n.findDef t) := by
  obtain ⟨n', h⟩ := read_any_ok o n t hw hf.toW (netOKW_of_netOKA n t hn) hnm (fun _ => hbp)
  obtain ⟨a, b, c, d⟩ := roundtrip_any_views o n t hw hf.toW (netOKW_of_netOKA n t hn) (fun _ d hd => (hbp d hd).1) n' h
  refine ⟨n', h, a, b, c, d (fun i hi => ?_)⟩
  obtain ⟨idx, hidx⟩ := List.getElem?_of_mem hi
  exact (hn.2.2.2.2.2 (i, idx) (List.mem_zipIdx_iff_getElem?.mpr hidx)).2.2.2.1

/-- **The second read cannot fail** on the `.subckt`/`.gate` fragment, provided the written `.cname`s are
    pairwise different (`NamesOK`; it cannot be dropped, see `read_fails_on_equal_names`) and,
    when the black-box block is written, its port names are plain. -/
theorem read_ok (o : Opts) (n : BNet) (t : String) (hw : WellNamed n) (hf : FragB n t) (hn : NetOK n t)
    (hnm : NamesOK o n) (hbp : o.writeBlackbox = true → BBPlain n t) :
    ∃ n', readB (composeText o n) = Except.ok n' :=
  read_any_ok o n t hw hf.toW (netOKW_of_netOK n t hf hn) hnm hbp

/-- **Write-then-read.**  For a well-named netlist of the fragment (`FragB`) in reader shape (`NetOK`),
    whatever `readB` returns for the text `composeB` writes -- with the black-box block, whose models must
    not be the top model, or without -- has the same instances in the same order with the same
    (parent, model, type), the same `.attr`/`.param` data and `EBLIF.cname` = name iff `write_eblif_cname`,
    exactly the same pins on every net bit, and, when no child instantiates the top model, the top ports
    of `n`, inputs before outputs. -/
theorem roundtrip (o : Opts) (n : BNet) (t : String) (hw : WellNamed n) (hf : FragB n t) (hn : NetOK n t)
    (hbb : o.writeBlackbox = true → ∀ d ∈ bbDefs n t, d.name ≠ t)
    (n' : BNet) (h : readB (composeText o n) = Except.ok n') :
    n'.insts.map kindOf = n.insts.map kindOf ∧
    (∀ j : Nat, (n'.insts[j]?).map infoOf =
      (n.insts[j]?).map (fun (i : Inst) => (if o.writeCname then some i.name else none, i.attrs, i.params))) ∧
    (∀ x k, OnNet n' x k ↔ OnNet n x k) ∧
    ((∀ i ∈ n.insts, t ≠ i.model) →
      (n'.findDef t).ports = insPorts (n.findDef t) ++ outsPorts (n.findDef t)) := by
  have hnw := netOKW_of_netOK n t hf hn
  obtain ⟨hk, hd, ho, hp⟩ := roundtrip_any_views o n t hw hf.toW hnw hbb n' h
  rw [(kidsFull_fragB hf).trans hn.1] at hk hd ho
  refine ⟨?_, fun j => ?_, fun x k => (ho x k).trans (renames_zipIdx n t hnw.2.2.2.1 x k), fun hself => ?_⟩
  · rw [hk]
    exact (List.map_map (f := Prod.fst) (g := kindOf)).symm.trans (by rw [List.zipIdx_map_fst])
  · rw [hd j, List.getElem?_zipIdx, Option.map_map]; rfl
  · rw [hp hself]
    congr 1
    unfold pureOuts outsPorts
    apply List.filter_congr
    intro p hpm
    rcases (hn.2.1 p hpm).1 with h' | h' <;> simp [h']

/-- the cover rows instance `k` has after the round trip: its rows, each split at blanks and joined
    again by the reader (`coverText`), for a `.names` child; none for the other kinds -/
def covOfKid (k : Inst × Nat) : Option (List String) :=
  if k.1.typ = "EBLIF.names" then some ((coverRows k.1).map coverText) else none

theorem stmtCov_full (o : Opts) (n : BNet) (k : Inst × Nat) : stmtCov (stmtOfFull o n k) = [covOfKid k] := by
  unfold stmtOfFull covOfKid
  by_cases hn : k.1.typ = "EBLIF.names"
  · simp [hn, stmtCov]
  · by_cases hl : k.1.typ = "EBLIF.latch" <;> simp [hn, hl, stmtCov]

theorem stmtCov_conns (n : BNet) (d : DefD) : (connStmts n d).flatMap stmtCov = [] := by
  rw [connStmts_eq]
  simp [List.flatMap_map, stmtCov]

/-- **the truth tables survive write-then-read** (needs only `WellNamed` and `FragW`) -/
theorem roundtrip_covers (o : Opts) (n : BNet) (t : String) (hw : WellNamed n) (hf : FragW n t)
    (n' : BNet) (h : readB (composeText o n) = Except.ok n') :
    n'.insts.map (·.covers) = (kidsFull n t).map covOfKid := by
  rw [read_composeText o n hw, parse_composeLines_w o n t hf] at h
  change elabB (astOfFull o n t) = Except.ok n' at h
  rw [covers_elab _ _ h]
  simp only [astOfFull, List.flatMap_append, List.flatMap_cons, List.flatMap_nil, List.append_nil]
  have hbb : (bbPart o n t).flatMap (fun m => m.body.flatMap stmtCov) = [] := by
    unfold bbPart
    split
    · simp [List.flatMap_map, bbModel, stmtCov]
    · rfl
  rw [hbb, stmtCov_conns, List.flatMap_map]
  simp only [stmtCov_full, List.append_nil]
  rw [← List.map_eq_flatMap]

/-- covers in the reader's normal form: `.names` instances carry rows that `coverText ∘ splitOnBlank`
    leaves alone (words joined by one blank, as the reader stores them), other instances carry none -/
def CoversNF (n : BNet) : Prop :=
  ∀ i ∈ n.insts, if i.typ = "EBLIF.names" then
      ∃ cs, i.covers = some cs ∧ ∀ c ∈ cs, coverText (splitOnBlank c.toList) = c
    else i.covers = none

instance (n : BNet) : Decidable (CoversNF n) := by
  unfold CoversNF
  have : ∀ i : Inst, Decidable (∃ cs, i.covers = some cs ∧ ∀ c ∈ cs, coverText (splitOnBlank c.toList) = c) := by
    intro i
    cases h : i.covers with
    | none => exact isFalse (by rintro ⟨cs, h1, _⟩; cases h1)
    | some cs =>
      by_cases hc : ∀ c ∈ cs, coverText (splitOnBlank c.toList) = c
      · exact isTrue ⟨cs, rfl, hc⟩
      · exact isFalse (by rintro ⟨cs', h1, h2⟩; cases h1; exact hc h2)
  infer_instance

theorem covOfKid_nf (n : BNet) (hc : CoversNF n) (k : Inst × Nat) (hk : k.1 ∈ n.insts) : covOfKid k = k.1.covers := by
  have := hc k.1 hk
  unfold covOfKid
  by_cases hn : k.1.typ = "EBLIF.names"
  · simp only [hn, if_true] at this ⊢
    obtain ⟨cs, h1, h2⟩ := this
    rw [h1]
    unfold coverRows
    rw [h1]
    simp only [List.map_map, Option.some.injEq]
    have : ∀ c ∈ cs, (coverText ∘ fun c => splitOnBlank c.toList) c = id c := fun c hcm => h2 c hcm
    rw [List.map_congr_left this]; simp
  · simp only [hn, if_false] at this ⊢
    exact this.symm

end Spydr.Eblif
