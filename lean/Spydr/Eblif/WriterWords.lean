/-
  Every token `composeB` emits is a word the lexer reads back, provided the names of the netlist are
  (`WellNamed`, decidable); hence reading the composed text is parsing the composed lines.
-/
import Spydr.Eblif.SplitIdx
import Spydr.Eblif.LexPrint
import Spydr.Eblif.ModelCompose

namespace Spydr.Eblif

/-- a character that may occur inside a word -/
def goodChar (c : Char) : Bool := !isWs c && c != '\n' && c != '\r'

/-- a word the composer may emit: non-empty, no blank / line end inside, not the lone backslash -/
def okWord (s : String) : Bool := !s.toList.isEmpty && s.toList.all goodChar && s != "\\"

theorem okWord_good {s : String} (h : okWord s = true) : GoodTok (Tok.word s) ∧ Tok.word s ≠ bsl := by
  simp only [okWord, Bool.and_eq_true, Bool.not_eq_true', List.all_eq_true, bne_iff_ne, ne_eq] at h
  obtain ⟨⟨h1, h2⟩, h3⟩ := h
  refine ⟨⟨?_, ?_⟩, ?_⟩
  · intro he; simp [he] at h1
  · intro c hc
    have := h2 c hc
    simp only [goodChar, Bool.and_eq_true, Bool.not_eq_true', bne_iff_ne, ne_eq] at this
    exact ⟨this.1.1, this.1.2, this.2⟩
  · intro he
    apply h3
    simpa [bsl] using he

/-- closure of "every element satisfies `P`" under the list operations the writer uses; `gcs`, `okWords` and
    `LinesOK` below are of this form -/
theorem all_nil {α : Type} {P : α → Prop} : ∀ x ∈ ([] : List α), P x := nofun

theorem all_cons {α : Type} {P : α → Prop} {a : α} {l : List α} (ha : P a) (hl : ∀ x ∈ l, P x) : ∀ x ∈ a :: l, P x :=
  List.forall_mem_cons.mpr ⟨ha, hl⟩

theorem all_append {α : Type} {P : α → Prop} {a b : List α} (ha : ∀ x ∈ a, P x) (hb : ∀ x ∈ b, P x) : ∀ x ∈ a ++ b, P x :=
  List.forall_mem_append.mpr ⟨ha, hb⟩

theorem all_map {α β : Type} {P : β → Prop} {f : α → β} {l : List α} (h : ∀ x ∈ l, P (f x)) : ∀ y ∈ l.map f, P y :=
  List.forall_mem_map.mpr h

theorem all_flatMap {α β : Type} {P : β → Prop} {f : α → List β} {l : List α} (h : ∀ x ∈ l, ∀ y ∈ f x, P y) :
    ∀ y ∈ l.flatMap f, P y :=
  List.forall_mem_flatMap.mpr h

def gcs (l : List Char) : Prop := ∀ c ∈ l, goodChar c = true

theorem okWord_of_chars {s : String} (h1 : gcs s.toList) (h2 : 2 ≤ s.toList.length) : okWord s = true := by
  simp only [okWord, Bool.and_eq_true, Bool.not_eq_true', List.all_eq_true, bne_iff_ne, ne_eq]
  refine ⟨⟨?_, h1⟩, ?_⟩
  · cases h : s.toList with
    | nil => simp [h] at h2
    | cons a r => rfl
  · intro he
    rw [he] at h2
    simp at h2

theorem gcs_of_ok {s : String} (h : okWord s = true) : gcs s.toList ∧ 1 ≤ s.toList.length := by
  simp only [okWord, Bool.and_eq_true, Bool.not_eq_true', List.all_eq_true, bne_iff_ne, ne_eq] at h
  refine ⟨h.1.2, ?_⟩
  cases hs : s.toList with
  | nil => simp [hs] at h
  | cons a r => simp

theorem goodChar_of_digit {c : Char} (h1 : 48 ≤ c.toNat) (h2 : c.toNat ≤ 57) : goodChar c = true := by
  have hne : ∀ d : Char, (d.toNat < 48 ∨ 57 < d.toNat) → (decide (c = d)) = false := by
    intro d hd
    simp only [decide_eq_false_iff_not]
    intro he; subst he; omega
  have hws : isWs c = false := by
    unfold isWs
    rw [hne ' ' (by decide), hne '\t' (by decide), hne '\x0b' (by decide), hne '\x0c' (by decide), hne '\x1c' (by decide),
      hne '\x1d' (by decide), hne '\x1e' (by decide), hne '\x1f' (by decide), hne '\u0085' (by decide), hne ' ' (by decide),
      hne ' ' (by decide), hne ' ' (by decide), hne ' ' (by decide), hne ' ' (by decide), hne ' ' (by decide),
      hne '　' (by decide)]
    have : decide (0x2000 ≤ c.toNat) = false := by simp; omega
    simp [this]
  have h3 : (c != '\n') = true := by
    simp only [bne_iff_ne, ne_eq]; intro he; subst he; simp at h1
  have h4 : (c != '\r') = true := by
    simp only [bne_iff_ne, ne_eq]; intro he; subst he; simp at h1
  simp [goodChar, hws, h3, h4]

theorem gcs_natStr (n : Nat) : gcs (natStr n).toList := by
  intro c hc
  have hc' : c ∈ Nat.toDigits 10 n := by simpa [natStr] using hc
  have hd := toDigits_bounds (hc')
  exact goodChar_of_digit hd.1 hd.2

theorem okWord_idx {a : String} (h : okWord a = true) (i : Nat) : okWord (a ++ "[" ++ natStr i ++ "]") = true := by
  obtain ⟨g, l⟩ := gcs_of_ok h
  apply okWord_of_chars
  · simp only [String.toList_append]
    exact all_append (all_append (all_append g (by intro c hc; simp at hc; subst hc; decide)) (gcs_natStr i))
      (by intro c hc; simp at hc; subst hc; decide)
  · simp only [String.toList_append, List.length_append]
    have : ("[" : String).toList.length = 1 := by decide
    omega

theorem okWord_eq {a b : String} (ha : okWord a = true) (hb : okWord b = true) : okWord (a ++ "=" ++ b) = true := by
  obtain ⟨ga, la⟩ := gcs_of_ok ha
  obtain ⟨gb, lb⟩ := gcs_of_ok hb
  apply okWord_of_chars
  · simp only [String.toList_append]
    exact all_append (all_append ga (by intro c hc; simp at hc; subst hc; decide)) gb
  · simp only [String.toList_append, List.length_append]
    omega

def okWords (l : List String) : Prop := ∀ w ∈ l, okWord w = true

/-- all names of the netlist are words (no blank inside, not the lone backslash) -/
def WellNamed (n : BNet) : Prop :=
  (∀ c ∈ n.comments, okWords (splitOnBlank c.toList)) ∧
  (∀ d ∈ n.defs, okWord d.name = true ∧ (∀ p ∈ d.ports, okWord p.name = true) ∧
      (∀ c, d.clock = some c → okWords c)) ∧
  (∀ i ∈ n.insts, okWord i.name = true ∧ okWord i.model = true ∧
      (∀ kv ∈ i.attrs, okWord kv.1 = true ∧ okWord kv.2 = true) ∧
      (∀ kv ∈ i.params, okWord kv.1 = true ∧ okWord kv.2 = true) ∧
      (∀ cs, i.covers = some cs → ∀ c ∈ cs, okWords (splitOnBlank c.toList))) ∧
  (∀ c ∈ n.cables, okWord c.1.2 = true) ∧
  (∀ t, n.top = some t → okWord t = true)

instance (l : List String) : Decidable (okWords l) := by unfold okWords; infer_instance

instance (o : Option (List String)) : Decidable (∀ c, o = some c → okWords c) :=
  match o with
  | none => isTrue (fun _ h => by cases h)
  | some c => if h : okWords c then isTrue (fun _ e => by cases e; exact h) else isFalse (fun f => h (f c rfl))

instance (o : Option (List String)) : Decidable (∀ cs, o = some cs → ∀ c ∈ cs, okWords (splitOnBlank c.toList)) :=
  match o with
  | none => isTrue (fun _ h => by cases h)
  | some cs => if h : ∀ c ∈ cs, okWords (splitOnBlank c.toList) then isTrue (fun _ e => by cases e; exact h)
               else isFalse (fun f => h (f cs rfl))

instance (o : Option String) : Decidable (∀ t, o = some t → okWord t = true) :=
  match o with
  | none => isTrue (fun _ h => by cases h)
  | some t => if h : okWord t = true then isTrue (fun _ e => by cases e; exact h) else isFalse (fun f => h (f t rfl))

instance (n : BNet) : Decidable (WellNamed n) := by unfold WellNamed; infer_instance

def LinesOK (ls : List (List String)) : Prop := ∀ l ∈ ls, okWords l

/-- `BNet.findDef` answers a definition of the netlist with that name, or the empty one -/
theorem BNet.findDef_cases (n : BNet) (dn : String) :
    (n.findDef dn ∈ n.defs ∧ (n.findDef dn).name = dn) ∨ n.findDef dn = { name := dn } := by
  unfold BNet.findDef
  cases h : n.defs.find? (fun d => d.name = dn) with
  | none => exact .inr rfl
  | some d => exact .inl ⟨List.mem_of_find?_eq_some h, by simpa using List.find?_some h⟩

theorem findDef_name (n : BNet) (t : String) : (n.findDef t).name = t := by
  rcases n.findDef_cases t with h | h
  · exact h.2
  · rw [h]

theorem findDef_ok {n : BNet} (hw : WellNamed n) {dn : String} (hdn : okWord dn = true) :
    okWord (n.findDef dn).name = true ∧ (∀ p ∈ (n.findDef dn).ports, okWord p.name = true) ∧
    (∀ c, (n.findDef dn).clock = some c → okWords c) := by
  rcases n.findDef_cases dn with hd | hd
  · exact hw.2.1 _ hd.1
  · rw [hd]; exact ⟨hdn, nofun, nofun⟩

theorem findInWires_spec (p : Pin) (ws : List (List Pin)) :
    ∀ (s i : Nat), findInWires p ws s = some i → ∃ j w, i = s + j ∧ ws[j]? = some w ∧ p ∈ w := by
  induction ws with
  | nil => intro s i h; cases h
  | cons w r ih =>
    intro s i h
    unfold findInWires at h
    split at h
    · rename_i hm
      cases h
      exact ⟨0, w, rfl, rfl, hm⟩
    · obtain ⟨j, w', e, hw, hp⟩ := ih (s + 1) i h
      exact ⟨j + 1, w', by omega, by simpa using hw, hp⟩

theorem wireOf_spec {n : BNet} {x : Pin} {c : CKey} {wi len : Nat} (h : n.wireOf x = some (c, wi, len)) :
    ∃ ws w, (c, ws) ∈ n.cables ∧ len = ws.length ∧ ws[wi]? = some w ∧ x ∈ w := by
  unfold BNet.wireOf at h
  obtain ⟨cw, hcw, he⟩ := List.exists_of_findSome?_eq_some h
  cases hf : findInWires x cw.2 0 with
  | none => simp [hf] at he
  | some i =>
    simp only [hf, Option.some.injEq, Prod.mk.injEq] at he
    obtain ⟨e1, e2, e3⟩ := he
    obtain ⟨j, w, ej, hw, hx⟩ := findInWires_spec x cw.2 0 i hf
    refine ⟨cw.2, w, by rw [← e1]; exact hcw, e3.symm, ?_, hx⟩
    rw [← e2, ej, Nat.zero_add]; exact hw

theorem netText_ok {n : BNet} (hw : WellNamed n) (p : Pin) : okWord (netText n p) = true := by
  unfold netText
  cases h : n.wireOf p with
  | none => decide +kernel
  | some x =>
    obtain ⟨c, wi, len⟩ := x
    obtain ⟨ws, _, hm, _⟩ := wireOf_spec h
    have hc := hw.2.2.2.1 (c, ws) hm
    simp only
    split
    · exact okWord_idx hc wi
    · exact hc

theorem portBits_ok {p : PortD} (h : okWord p.name = true) : okWords (portBits p) := by
  unfold portBits
  split
  · exact all_map fun i _ => okWord_idx h i
  · exact all_cons h all_nil

theorem flatMap_portBits_ok {ps : List PortD} (h : ∀ p ∈ ps, okWord p.name = true) :
    okWords (ps.flatMap portBits) :=
  all_flatMap fun p hp => portBits_ok (h p hp)

theorem infoLines_ok {n : BNet} (hw : WellNamed n) (o : Opts) {i : Inst} (hi : i ∈ n.insts) :
    LinesOK (infoLines o i) := by
  obtain ⟨h1, _, h3, h4, _⟩ := hw.2.2.1 i hi
  refine all_append (all_append ?_ (all_map fun kv hkv => ?_)) (all_map fun kv hkv => ?_)
  · split
    · exact all_cons (all_cons (by decide +kernel) (all_cons h1 all_nil)) all_nil
    · exact all_nil
  · exact all_cons (by decide +kernel) (all_cons (h3 kv hkv).1 (all_cons (h3 kv hkv).2 all_nil))
  · exact all_cons (by decide +kernel) (all_cons (h4 kv hkv).1 (all_cons (h4 kv hkv).2 all_nil))

theorem subcktLine_ok {n : BNet} (hw : WellNamed n) {i : Inst} (hi : i ∈ n.insts) (idx : Nat) (gate : Bool) :
    okWords (subcktLine n idx i gate) := by
  obtain ⟨_, h2, _⟩ := hw.2.2.1 i hi
  obtain ⟨_, hp, _⟩ := findDef_ok hw h2
  refine all_append (all_cons (by cases gate <;> decide +kernel) (all_cons h2 all_nil))
    (all_flatMap fun p hpm => all_map fun q _ => okWord_eq ?_ (netText_ok hw _))
  split
  · exact okWord_idx (hp p hpm) q.2
  · exact hp p hpm

theorem namesLines_ok {n : BNet} (hw : WellNamed n) {i : Inst} (hi : i ∈ n.insts) (idx : Nat) :
    LinesOK (namesLines n idx i) := by
  obtain ⟨_, _, _, _, h5⟩ := hw.2.2.1 i hi
  refine all_append (all_cons (all_append (all_cons (by decide +kernel) all_nil)
    (all_map fun q _ => netText_ok hw _)) all_nil) ?_
  cases hc : i.covers with
  | none => exact all_nil
  | some cs => exact all_map (h5 cs hc)

theorem latchLine_ok {n : BNet} (hw : WellNamed n) (i : Inst) (idx : Nat) : okWords (latchLine n idx i) :=
  all_append (all_cons (by decide +kernel) all_nil)
    (all_flatMap fun _ _ => all_map fun _ _ => netText_ok hw _)

theorem instLines_ok {n : BNet} (hw : WellNamed n) (o : Opts) {p : Inst × Nat} (hi : p.1 ∈ n.insts) :
    LinesOK (instLines o n p) := by
  obtain ⟨i, idx⟩ := p
  unfold instLines
  simp only
  split
  · exact all_append (all_cons (subcktLine_ok hw hi idx false) all_nil) (infoLines_ok hw o hi)
  · split
    · exact all_append (all_cons (subcktLine_ok hw hi idx true) all_nil) (infoLines_ok hw o hi)
    · split
      · exact all_append (namesLines_ok hw hi idx) (infoLines_ok hw o hi)
      · split
        · exact all_append (all_cons (latchLine_ok hw i idx) all_nil) (infoLines_ok hw o hi)
        · exact all_nil

theorem connLines_ok {n : BNet} (hw : WellNamed n) {d : DefD} (hp : ∀ p ∈ d.ports, okWord p.name = true) :
    LinesOK (connLines n d) := by
  refine all_flatMap fun p hpm => all_flatMap fun b _ => ?_
  split
  · split
    · exact all_nil
    · refine all_cons (all_cons (by decide +kernel) (all_cons (netText_ok hw _)
        (all_cons ?_ all_nil))) all_nil
      split
      · exact okWord_idx (hp p hpm) b
      · exact hp p hpm
  · exact all_nil

theorem mem_zipIdx_fst {α : Type} {l : List α} {p : α × Nat} (h : p ∈ l.zipIdx) : p.1 ∈ l :=
  List.fst_mem_of_mem_zipIdx h

theorem modelLines_ok {n : BNet} (hw : WellNamed n) (o : Opts) {dn : String} (hdn : okWord dn = true) :
    LinesOK (modelLines o n dn) := by
  obtain ⟨_, hp, hc⟩ := findDef_ok hw hdn
  have hports : ∀ f : PortD → Bool, okWords (((n.findDef dn).ports.filter f).flatMap portBits) :=
    fun f => flatMap_portBits_ok fun p hpm => hp p (List.mem_filter.mp hpm).1
  refine all_append (all_append (all_append (all_append ?_ ?_) (all_flatMap fun p hpm => ?_))
    (connLines_ok hw hp)) (all_cons (all_cons (by decide +kernel) all_nil) (all_cons all_nil all_nil))
  · exact all_cons (all_cons (by decide +kernel) (all_cons hdn all_nil))
      (all_cons (all_append (all_cons (by decide +kernel) all_nil) (hports _))
        (all_cons (all_append (all_cons (by decide +kernel) all_nil) (hports _)) all_nil))
  · cases hcl : (n.findDef dn).clock with
    | none => exact all_nil
    | some c =>
      exact all_cons (all_append (all_cons (by decide +kernel) all_nil) (hc c hcl)) all_nil
  · have hin : p.1 ∈ n.insts := by
      simp only [List.mem_append, List.mem_filter] at hpm
      rcases hpm with (((h | h) | h) | h) | h <;> exact mem_zipIdx_fst h.1.1
    exact instLines_ok hw o hin

theorem blackboxLines_ok {n : BNet} (hw : WellNamed n) (t : String) : LinesOK (blackboxLines n t) := by
  refine all_flatMap fun d hd => ?_
  obtain ⟨h1, h2, _⟩ := hw.2.1 d (List.mem_filter.mp hd).1
  have hnames : ∀ f : PortD → Bool, okWords ((d.ports.filter f).map (·.name)) :=
    fun f => all_map fun p hpm => h2 p (List.mem_filter.mp hpm).1
  exact all_cons (all_cons (by decide +kernel) (all_cons h1 all_nil))
    (all_cons (all_append (all_cons (by decide +kernel) all_nil) (hnames _))
      (all_cons (all_append (all_cons (by decide +kernel) all_nil) (hnames _))
        (all_cons (all_cons (by decide +kernel) all_nil)
          (all_cons (all_cons (by decide +kernel) all_nil) (all_cons all_nil all_nil)))))

theorem composeLines_ok {n : BNet} (hw : WellNamed n) (o : Opts) : LinesOK (composeLines o n) := by
  refine all_append (all_append (all_map fun c hc => ?_) (all_cons ?_ (all_cons all_nil all_nil))) ?_
  · exact all_append (all_cons (by decide +kernel) all_nil) (hw.1 c hc)
  · intro w hwm
    simp only [List.mem_cons, List.mem_nil_iff, or_false] at hwm
    rcases hwm with rfl | rfl | rfl | rfl | rfl | rfl <;> decide +kernel
  · cases ht : n.top with
    | none => exact all_nil
    | some t =>
      simp only
      split
      · apply all_append (modelLines_ok hw o (hw.2.2.2.2 t ht))
        split
        · exact blackboxLines_ok hw t
        · exact all_nil
      · exact all_nil

/-- the hypothesis of `eblif_roundtrip_partial` -/
theorem composeB_good (o : Opts) (n : BNet) (hw : WellNamed n) :
    ∀ t ∈ composeB o n, GoodTok t ∧ t ≠ bsl := by
  intro t ht
  unfold composeB linesToToks at ht
  obtain ⟨l, hl, ht⟩ := List.mem_flatMap.mp ht
  rcases List.mem_append.mp ht with h | h
  · obtain ⟨w, hwm, rfl⟩ := List.mem_map.mp h
    exact okWord_good (composeLines_ok hw o l hl w hwm)
  · simp only [List.mem_singleton] at h
    subst h
    exact ⟨trivial, by decide⟩

theorem terminated_linesToToks (ls : List (List String)) : Terminated (linesToToks ls) := by
  induction ls with
  | nil => intro t ht; simp [linesToToks] at ht
  | cons l r ih =>
    have : linesToToks (l :: r) = l.map Tok.word ++ Tok.nl :: linesToToks r := by
      simp [linesToToks]
    rw [this]
    exact terminated_append_nl _ _ ih

theorem read_composed (o : Opts) (n : BNet) (hg : ∀ t ∈ composeB o n, GoodTok t ∧ t ≠ bsl) :
    readB (composeText o n) = (parseB (composeB o n) >>= elabB) := by
  unfold composeText
  exact read_print _ (fun t ht => (hg t ht).1) (fun t ht => (hg t ht).2) (terminated_linesToToks _)

theorem toLinesGo_linesToToks (ls : List (List String)) :
    ∀ cur : List String, toLinesGo cur (linesToToks ls) =
      (match ls with | [] => (if cur = [] then [] else [cur]) | l :: r => (cur ++ l) :: r) := by
  induction ls with
  | nil => intro cur; simp [linesToToks, toLinesGo]
  | cons l r ih =>
    intro cur
    have hw : ∀ (ws : List String) (c : List String) (rest : List Tok),
        toLinesGo c (ws.map Tok.word ++ rest) = toLinesGo (c ++ ws) rest := by
      intro ws
      induction ws with
      | nil => intro c rest; simp
      | cons w ws ihw => intro c rest; simp [toLinesGo, ihw]
    have : linesToToks (l :: r) = l.map Tok.word ++ (Tok.nl :: linesToToks r) := by simp [linesToToks]
    rw [this, hw]
    simp only [toLinesGo]
    rw [ih []]
    cases r <;> simp

theorem toLines_linesToToks (ls : List (List String)) : toLines (linesToToks ls) = ls := by
  unfold toLines
  rw [toLinesGo_linesToToks]
  cases ls <;> simp

theorem read_composeText (o : Opts) (n : BNet) (hw : WellNamed n) :
    readB (composeText o n) = (parseLines (composeLines o n) >>= elabB) := by
  rw [read_composed o n (composeB_good o n hw)]
  unfold parseB composeB
  rw [toLines_linesToToks]

end Spydr.Eblif
