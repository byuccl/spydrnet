/-
  EBLIF engine: the specification vocabulary of property C18.  The first group is written against
  the data types of the model; the join lists of the second group use the model's own functions
  (`splitIdx`, `dictSet`, `latchOrder`, `findDef` / `ensureDef` / `addNamesPorts`, and `bodyJoins` runs
  `elabStmt` to thread the state): they are a bookkeeping of the declared joins computed alongside the
  elaborator, not an independent specification.
    GoodTok / Terminated      what a writer may print so that the tokenizer reads it back
    Joined / Live             "pin p is on the wire net bit k stands for", "bit k's cable exists"
    infoMapOf                 the formal -> actual dict of one instance statement (`dictSet`)
    instKinds / kindOf / stmtKind   (parent, model, EBLIF.type) per instance, per statement (`natStr`)
    subcktLines ...           how an independent writer renders an instance statement
    joinOf                    the (pin, net bit) pair one formal -> actual entry declares
    namesDef / namesInfo      the generated definition of a `.names` and its formal -> actual dict
    stmtJoins / bodyJoins / declaredJoins   the pairs a statement / a statement list declares
    Exact                     pins are exactly where a join list puts them
    infoOf / infoFold         `.cname/.attr/.param` data of an instance, of a list of info lines
  The predicate P evaluated on the implementation's output is the independent Python oracle
  harness/engines/eblif_lib.py (denote / P_parse / P_roundtrip).
  No Mathlib.
-/
import Spydr.Eblif.ModelElab

namespace Spydr.Eblif

/-- a word the printer can emit and the lexer reads back: non-empty, no blank, no newline -/
def GoodWord (s : String) : Prop :=
  s.toList ≠ [] ∧ ∀ c ∈ s.toList, isWs c = false ∧ c ≠ '\n' ∧ c ≠ '\r'

def GoodTok : Tok → Prop
  | Tok.word s => GoodWord s
  | Tok.nl => True

/-- the token list is empty or ends with a line end -/
def Terminated (ts : List Tok) : Prop := ∀ t, ts.getLast? = some t → t = Tok.nl

/-- pin `p` sits on the wire that net bit `k` currently stands for -/
def Joined (st : St) (p : Pin) (k : Key) : Prop := p ∈ st.pins (st.alias k)

/-- the cable of bit `k` exists and is wide enough -/
def Live (st : St) (k : Key) : Prop := (k.1, k.2.1) ∈ st.cables ∧ k.2.2 < st.width (k.1, k.2.1)

/-- `current_instance_info` of a `.subckt`: a dict keyed by the formal text (a repeated formal
    keeps its first position and takes the last actual) -/
def infoMapOf (conns : List (String × String)) : List (String × String) :=
  conns.foldl (fun l fa => dictSet l fa.1 fa.2) []

/-- (parent, model, EBLIF.type) of every instance, in creation order -/
def instKinds (st : St) : List (String × String × String) :=
  st.insts.map (fun i => (i.parent, i.model, i.typ))

def kindOf (i : Inst) : String × String × String := (i.parent, i.model, i.typ)

/-- what a statement contributes to the instance list -/
def stmtKind (cur : String) : Stmt → List (String × String × String)
  | Stmt.subckt gate model _ _ => [(cur, model, if gate then "EBLIF.gate" else "EBLIF.subckt")]
  | Stmt.names nets _ _ => [(cur, "logic-gate_" ++ natStr (nets.length - 1), "EBLIF.names")]
  | Stmt.latch _ _ => [(cur, "generic-latch", "EBLIF.latch")]
  | Stmt.conn _ _ => []
  | Stmt.blackbox => []

def connWord (c : String × String) : String := c.1 ++ "=" ++ c.2

def infoLine : InfoStmt → List String
  | InfoStmt.cname n => [".cname", n]
  | InfoStmt.attr k v => [".attr", k, v]
  | InfoStmt.param k v => [".param", k, v]

def subcktKw (gate : Bool) : String := if gate then ".gate" else ".subckt"

/-- the lines of one instance statement, as an independent writer renders them -/
def subcktLines (gate : Bool) (m : String) (conns : List (String × String)) (info : List InfoStmt) :
    List (List String) :=
  ([subcktKw gate, m] ++ conns.map connWord) :: info.map infoLine

/-! ### exact connectivity -/

/-- the join a single `formal -> actual` entry declares for instance `idx` of model `parent` -/
def joinOf (idx : Nat) (parent : String) (fa : String × String) : List (Pin × Key) :=
  match splitIdx fa.2, splitIdx fa.1 with
  | Except.ok (cn, ci), Except.ok (pn, pi) =>
      if cn = "unconn" then [] else [(Pin.inst idx pn pi, (parent, cn, ci))]
  | _, _ => []

/-- the definition `.names` with `k` inputs instantiates, as it is right after its ports were
    created on demand (ports `in_0 .. in_{k-1}`, `out` when it is generated here) -/
def namesDef (st : St) (k : Nat) : DefD :=
  let dn := "logic-gate_" ++ natStr k
  match findDef (addNamesPorts (ensureDef st dn) dn k) dn with
  | some d => d
  | none => { name := dn }

/-- formal -> actual dict of a `.names`: the definition's ports zipped with the listed nets -/
def namesInfo (st : St) (nets : List String) : List (String × String) :=
  ((namesDef st (nets.length - 1)).ports.zip nets).foldl (fun l pn => dictSet l pn.1.name pn.2) []

/-- the (pin, net bit) pairs a statement declares; the new instance's index is the number of
    instances before the statement -/
def stmtJoins (st : St) (cur : String) : Stmt → List (Pin × Key)
  | Stmt.subckt _ _ conns _ => (infoMapOf conns).flatMap (joinOf st.insts.length cur)
  | Stmt.names nets _ _ => (namesInfo st nets).flatMap (joinOf st.insts.length cur)
  | Stmt.latch toks _ => (latchOrder.zip toks).flatMap (joinOf st.insts.length cur)
  | Stmt.conn _ _ => []
  | Stmt.blackbox => []

/-- all pairs a statement list declares (the state is threaded only for the instance count and
    for the port names of the `.names` definitions) -/
def bodyJoins (st : St) (cur : String) : List Stmt → List (Pin × Key)
  | [] => []
  | s :: r => stmtJoins st cur s ++
      (match elabStmt st cur s with
       | Except.ok st1 => bodyJoins st1 cur r
       | Except.error _ => [])

/-- state-free form for bodies without `.names`: `n` = number of instances so far -/
def declaredJoins (n : Nat) (cur : String) : List Stmt → List (Pin × Key)
  | [] => []
  | Stmt.subckt _ _ conns _ :: r => (infoMapOf conns).flatMap (joinOf n cur) ++ declaredJoins (n + 1) cur r
  | Stmt.latch toks _ :: r => (latchOrder.zip toks).flatMap (joinOf n cur) ++ declaredJoins (n + 1) cur r
  | Stmt.names _ _ _ :: r => declaredJoins (n + 1) cur r
  | _ :: r => declaredJoins n cur r

/-- pins are exactly where the declared joins put them -/
def Exact (st : St) (J : List (Pin × Key)) : Prop :=
  ∀ p k, p ∈ st.pins k ↔ ∃ k', (p, k') ∈ J ∧ st.alias k' = k

/-! ### instance data -/

/-- `.cname/.attr/.param` data of an instance: (cname, attrs, params) -/
def infoOf (i : Inst) : Option String × List (String × String) × List (String × String) :=
  (i.cname, i.attrs, i.params)

/-- what the info lines of a statement make of the data (dict semantics: a repeated key keeps its
    place and takes the last value; the last `.cname` counts) -/
def infoFold : List InfoStmt → Option String × List (String × String) × List (String × String) →
    Option String × List (String × String) × List (String × String)
  | [], x => x
  | InfoStmt.cname n :: r, (_, a, p) => infoFold r (some n, a, p)
  | InfoStmt.attr k v :: r, (c, a, p) => infoFold r (c, dictSet a k v, p)
  | InfoStmt.param k v :: r, (c, a, p) => infoFold r (c, a, dictSet p k v)

end Spydr.Eblif
