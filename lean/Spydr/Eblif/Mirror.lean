/-
  Pin mirror: every instance carries exactly one pin per port bit of its definition.  The invariant
  `Mirror` looks at the state only through `mview`; three steps change that view (`addPort`,
  `growPort`, `newInst`), all others keep it (`mv_*`).
-/
import Spydr.Eblif.InstKinds

namespace Spydr.Eblif

def nwOf (d : DefD) : List (String × Nat) := d.ports.map (fun p => (p.name, p.width))

def pinsOfNW (l : List (String × Nat)) : List (String × Nat) := l.flatMap (fun p => bitsFrom p.1 0 p.2)

theorem allPins_nw (d : DefD) : allPins d = pinsOfNW (nwOf d) := by
  unfold allPins pinsOfNW nwOf
  rw [List.flatMap_map]

/-- what the mirror property looks at -/
def mview (st : St) : List (String × List (String × Nat)) × List (String × List (String × Nat)) :=
  (st.defs.map (fun d => (d.name, nwOf d)), st.insts.map (fun i => (i.model, i.pins)))

structure Mirror (st : St) : Prop where
  dn : (st.defs.map (·.name)).Nodup
  pn : ∀ d ∈ st.defs, ((nwOf d).map (·.1)).Nodup
  mir : ∀ i ∈ st.insts, ∃ d ∈ st.defs, d.name = i.model ∧ i.pins.Perm (pinsOfNW (nwOf d))

theorem Mirror.init : Mirror ({} : St) := by
  refine ⟨by simp, ?_, ?_⟩
  · intro d h; simp at h
  · intro i h; simp at h

theorem Mirror.of_view {st st' : St} (h : mview st' = mview st) (m : Mirror st) : Mirror st' := by
  simp only [mview, Prod.mk.injEq] at h
  obtain ⟨hd, hi⟩ := h
  have hmem : ∀ d' ∈ st'.defs, ∃ d ∈ st.defs, d.name = d'.name ∧ nwOf d = nwOf d' := by
    intro d' hd'
    have : (d'.name, nwOf d') ∈ st'.defs.map (fun d => (d.name, nwOf d)) := List.mem_map.mpr ⟨d', hd', rfl⟩
    rw [hd] at this
    obtain ⟨d, hdm, he⟩ := List.mem_map.mp this
    simp only [Prod.mk.injEq] at he
    exact ⟨d, hdm, he.1, he.2⟩
  have hmem' : ∀ d ∈ st.defs, ∃ d' ∈ st'.defs, d'.name = d.name ∧ nwOf d' = nwOf d := by
    intro d hdm
    have : (d.name, nwOf d) ∈ st.defs.map (fun d => (d.name, nwOf d)) := List.mem_map.mpr ⟨d, hdm, rfl⟩
    rw [← hd] at this
    obtain ⟨d', hdm', he⟩ := List.mem_map.mp this
    simp only [Prod.mk.injEq] at he
    exact ⟨d', hdm', he.1, he.2⟩
  refine ⟨?_, ?_, ?_⟩
  · have e : st'.defs.map (·.name) = st.defs.map (·.name) := by
      have := congrArg (List.map Prod.fst) hd
      simp only [List.map_map] at this
      exact this
    rw [e]; exact m.dn
  · intro d' hd'
    obtain ⟨d, hdm, _, hnw⟩ := hmem d' hd'
    rw [← hnw]; exact m.pn d hdm
  · intro i' hi'
    have : (i'.model, i'.pins) ∈ st'.insts.map (fun i => (i.model, i.pins)) := List.mem_map.mpr ⟨i', hi', rfl⟩
    rw [hi] at this
    obtain ⟨i, him, he⟩ := List.mem_map.mp this
    simp only [Prod.mk.injEq] at he
    obtain ⟨d, hdm, hn, hp⟩ := m.mir i him
    obtain ⟨d', hdm', hn', hnw'⟩ := hmem' d hdm
    exact ⟨d', hdm', by rw [hn', hn, he.1], by rw [hnw', ← he.2]; exact hp⟩

theorem bitsFrom_split (pn : String) (old w : Nat) (h : old ≤ w) :
    bitsFrom pn 0 w = bitsFrom pn 0 old ++ bitsFrom pn old w := by
  unfold bitsFrom
  have hw : w - 0 = (old - 0) + (w - old) := by omega
  rw [hw, List.range_add, List.map_append, List.map_map]
  congr 1
  apply List.map_congr_left
  intro k _
  simp only [Function.comp]
  congr 1
  omega

theorem pins_widen (l : List (String × Nat)) (pn : String) (old w : Nat) (hnd : (l.map (·.1)).Nodup)
    (hin : (pn, old) ∈ l) (hle : old ≤ w) :
    (pinsOfNW (l.map (fun p => if p.1 = pn then (p.1, w) else p))).Perm (pinsOfNW l ++ bitsFrom pn old w) := by
  induction l with
  | nil => cases hin
  | cons a r ih =>
    simp only [List.map_cons, List.nodup_cons, List.mem_map, not_exists, not_and] at hnd
    have hcons : ∀ (x : String × Nat) (xs : List (String × Nat)), pinsOfNW (x :: xs) = bitsFrom x.1 0 x.2 ++ pinsOfNW xs := by
      intro x xs; simp [pinsOfNW]
    rcases List.mem_cons.mp hin with he | hm
    ·
      have hrest : r.map (fun p => if p.1 = pn then (p.1, w) else p) = r := by
        rw [List.map_congr_left (g := id)]
        · simp
        · intro p hp
          have : p.1 ≠ pn := by
            intro h
            exact hnd.1 p hp (by rw [h, ← he])
          simp [this]
      subst he
      simp only [List.map_cons, if_true, hrest, hcons]
      rw [bitsFrom_split pn old w hle, List.append_assoc]
      have : (bitsFrom pn old w ++ pinsOfNW r).Perm (pinsOfNW r ++ bitsFrom pn old w) := List.perm_append_comm
      rw [List.append_assoc]
      exact List.Perm.append_left _ this
    · have hne : a.1 ≠ pn := by
        intro h
        exact hnd.1 (pn, old) hm (by rw [h])
      simp only [List.map_cons, hne, if_false, hcons, List.append_assoc]
      exact List.Perm.append_left _ (ih hnd.2 hm)

theorem pins_append (l : List (String × Nat)) (pn : String) (w : Nat) :
    pinsOfNW (l ++ [(pn, w)]) = pinsOfNW l ++ bitsFrom pn 0 w := by
  simp [pinsOfNW]

theorem findDef_mem {st : St} {n : String} {d : DefD} (h : findDef st n = some d) : d ∈ st.defs ∧ d.name = n := by
  unfold findDef at h
  exact ⟨List.mem_of_find?_eq_some h, by simpa using List.find?_some h⟩

theorem findDef_of_mem {st : St} (hnd : (st.defs.map (·.name)).Nodup) {d : DefD} (hd : d ∈ st.defs) :
    findDef st d.name = some d :=
  find?_key_eq (fun x : DefD => x.name) hnd hd

theorem hasPort_iff_mem {st : St} (hnd : (st.defs.map (·.name)).Nodup) {d : DefD} (hd : d ∈ st.defs) (pn : String) :
    hasPort st d.name pn = true ↔ pn ∈ (nwOf d).map (·.1) := by
  unfold hasPort
  rw [findDef_of_mem hnd hd]
  simp only [findPort, nwOf, List.map_map]
  constructor
  · intro h
    cases hf : d.ports.find? (fun q => q.name = pn) with
    | none => rw [hf] at h; cases h
    | some p =>
      have hm := List.mem_of_find?_eq_some hf
      have hn : p.name = pn := by simpa using List.find?_some hf
      exact List.mem_map.mpr ⟨p, hm, hn⟩
  · intro h
    obtain ⟨p, hp, hn⟩ := List.mem_map.mp h
    cases hf : d.ports.find? (fun q => q.name = pn) with
    | some q => rfl
    | none =>
      rw [List.find?_eq_none] at hf
      exact absurd (by simpa using hn) (hf p hp)

theorem mirror_ensureDef {st : St} (m : Mirror st) (n : String) : Mirror (ensureDef st n) := by
  unfold ensureDef
  cases h : findDef st n with
  | some d => exact m
  | none =>
    simp only
    have hno : ∀ d ∈ st.defs, d.name ≠ n := by
      unfold findDef at h
      rw [List.find?_eq_none] at h
      intro d hd; simpa using h d hd
    refine ⟨?_, ?_, ?_⟩
    · simp only [List.map_append, List.map_cons, List.map_nil]
      rw [List.nodup_append]
      refine ⟨m.dn, by simp, ?_⟩
      intro a ha b hb
      simp only [List.mem_singleton] at hb
      subst hb
      obtain ⟨d, hd, rfl⟩ := List.mem_map.mp ha
      exact hno d hd
    · intro d hd
      rcases List.mem_append.mp hd with h1 | h1
      · exact m.pn d h1
      · simp only [List.mem_singleton] at h1; subst h1; simp [nwOf]
    · intro i hi
      obtain ⟨d, hd, hn, hp⟩ := m.mir i hi
      exact ⟨d, List.mem_append.mpr (Or.inl hd), hn, hp⟩

theorem mirror_updPorts {st : St} (m : Mirror st) (dn : String) (g : List PortD → List PortD) (l : List (String × Nat))
    (hg : ∀ d ∈ st.defs, d.name = dn → ((nwOf { d with ports := g d.ports }).map (·.1)).Nodup ∧
      (pinsOfNW (nwOf d) ++ l).Perm (pinsOfNW (nwOf { d with ports := g d.ports }))) :
    Mirror (appendPins (updDef st dn (fun d => { d with ports := g d.ports })) dn l) := by
  simp only [appendPins, updDef]
  refine ⟨?_, ?_, ?_⟩
  · rw [List.map_map]
    have : ((fun x : DefD => x.name) ∘ fun d => if d.name = dn then { d with ports := g d.ports } else d) = (·.name) := by
      funext d; simp only [Function.comp]; split <;> rfl
    rw [this]; exact m.dn
  · intro d' hd'
    obtain ⟨d, hd, rfl⟩ := List.mem_map.mp hd'
    split
    · rename_i hn; exact (hg d hd hn).1
    · exact m.pn d hd
  · intro i' hi'
    obtain ⟨i, hi, rfl⟩ := List.mem_map.mp hi'
    obtain ⟨d, hd, hn, hp⟩ := m.mir i hi
    refine ⟨if d.name = dn then { d with ports := g d.ports } else d, List.mem_map.mpr ⟨d, hd, rfl⟩, ?_, ?_⟩
    · split <;> (split <;> exact hn)
    · by_cases hm : i.model = dn
      · have hdn : d.name = dn := hn.trans hm
        rw [if_pos hm, if_pos hdn]
        exact (List.Perm.append_right _ hp).trans (hg d hd hdn).2
      · have hdn : ¬ d.name = dn := fun e => hm (hn.symm.trans e)
        rw [if_neg hm, if_neg hdn]
        exact hp

theorem mirror_addPort {st : St} (m : Mirror st) (dn pn : String) (dir : Dir) (w : Nat) : Mirror (addPort st dn pn dir w) := by
  unfold addPort
  split
  · exact m
  · rename_i hh
    have hf : hasPort st dn pn = false := by simpa using hh
    refine mirror_updPorts m dn (fun ps => ps ++ [{ name := pn, dir := dir, width := w }]) (bitsFrom pn 0 w) (fun d hd hn => ?_)
    have hnw : nwOf ({ d with ports := d.ports ++ [{ name := pn, dir := dir, width := w }] } : DefD) = nwOf d ++ [(pn, w)] := by
      simp [nwOf]
    rw [hnw, pins_append]
    refine ⟨?_, List.Perm.refl _⟩
    have hnot : pn ∉ (nwOf d).map (·.1) := by
      intro hmem
      have := (hasPort_iff_mem m.dn hd pn).mpr hmem
      rw [hn, hf] at this; cases this
    rw [List.map_append, List.nodup_append]
    refine ⟨m.pn d hd, by simp, ?_⟩
    intro a ha b hb
    simp only [List.map_cons, List.map_nil, List.mem_singleton] at hb
    subst hb
    intro e; subst e; exact hnot ha

theorem mirror_growPort {st : St} (m : Mirror st) (dn pn : String) (w : Nat) (hh : DefEx st dn → hasPort st dn pn = true) :
    Mirror (growPort st dn pn w) := by
  unfold growPort
  simp only []
  split
  · exact m
  · rename_i hlt
    refine mirror_updPorts m dn (fun ps => ps.map (fun p => if p.name = pn then { p with width := w } else p))
      (bitsFrom pn (portWidth st dn pn) w) (fun d hd hn => ?_)
    have hnw : nwOf ({ d with ports := d.ports.map (fun p => if p.name = pn then { p with width := w } else p) } : DefD) =
        (nwOf d).map (fun p => if p.1 = pn then (p.1, w) else p) := by
      simp only [nwOf, List.map_map]
      apply List.map_congr_left
      intro p _
      simp only [Function.comp]
      split <;> rfl
    have hold : (pn, portWidth st dn pn) ∈ nwOf d := by
      have hfd := findDef_of_mem m.dn hd
      rw [hn] at hfd
      have hh := hh (by unfold DefEx; rw [hfd]; rfl)
      unfold portWidth hasPort at *
      rw [hfd] at hh ⊢
      simp only at hh ⊢
      cases hf : findPort d pn with
      | none => rw [hf] at hh; cases hh
      | some p =>
        simp only
        unfold findPort at hf
        have hm := List.mem_of_find?_eq_some hf
        have hn' : p.name = pn := by simpa using List.find?_some hf
        exact List.mem_map.mpr ⟨p, hm, by rw [hn']⟩
    rw [hnw]
    refine ⟨?_, (pins_widen (nwOf d) pn (portWidth st dn pn) w (m.pn d hd) hold (by omega)).symm⟩
    rw [List.map_map]
    have : ((fun x : String × Nat => x.1) ∘ fun p => if p.1 = pn then (p.1, w) else p) = (·.1) := by
      funext p; simp only [Function.comp]; split <;> rfl
    rw [this]; exact m.pn d hd

theorem mirror_newInst {st : St} (m : Mirror st) (parent model typ : String) (hd : (findDef st model).isSome = true) :
    Mirror (newInst st parent model typ).1 := by
  cases hf : findDef st model with
  | none => rw [hf] at hd; cases hd
  | some d =>
    obtain ⟨hdm, hdn⟩ := findDef_mem hf
    refine ⟨m.dn, m.pn, ?_⟩
    intro i hi
    simp only [newInst, List.mem_append, List.mem_singleton] at hi
    rcases hi with hi | hi
    · exact m.mir i hi
    · subst hi
      refine ⟨d, hdm, hdn, ?_⟩
      simp only [hf]
      rw [allPins_nw]

theorem mv_of {a b : St} (hd : b.defs = a.defs) (hi : b.insts = a.insts) : mview b = mview a := by
  simp [mview, hd, hi]

theorem mv_updDef (st : St) (n : String) (f : DefD → DefD) (hf : ∀ d, (f d).name = d.name ∧ nwOf (f d) = nwOf d) :
    mview (updDef st n f) = mview st := by
  simp only [mview, updDef, List.map_map]
  congr 1
  apply List.map_congr_left
  intro d _
  simp only [Function.comp]
  split
  · rw [(hf d).1, (hf d).2]
  · rfl

theorem mv_updInst (st : St) (idx : Nat) (f : Inst → Inst) (hf : ∀ x, (f x).model = x.model ∧ (f x).pins = x.pins) :
    mview (updInst st idx f) = mview st := by
  simp only [mview, updInst]
  congr 1
  exact map_updIdx_gen (fun i => (i.model, i.pins)) st.insts idx f (fun i => by rw [(hf i).1, (hf i).2])

theorem mv_assignDefault (st : St) (i : Nat) (p m : String) : mview (assignDefault st i p m) = mview st := by
  unfold assignDefault
  simp only []
  exact mv_updInst _ _ _ (fun _ => ⟨rfl, rfl⟩)

theorem mv_ensureWire (st : St) (o n : String) (i : Nat) : mview (ensureWire st o n i) = mview st := by
  unfold ensureWire ensureCable; simp only []; split <;> split <;> rfl

theorem mv_connect (st : St) (p : Pin) (o n : String) (i : Nat) : mview (connect st p o n i) = mview st := by
  unfold connect
  simp only []
  exact (mv_of rfl rfl).trans (mv_ensureWire st o n i)

theorem mv_mergeKeys (st : St) (a b : Key) : mview (mergeKeys st a b) = mview st := by
  unfold mergeKeys; simp only []; split <;> rfl

theorem mv_checkHierarchy (st : St) (c d : String) : mview (checkHierarchy st c d) = mview st := by
  unfold checkHierarchy; split <;> rfl

theorem mv_setDir (st : St) (dn pn : String) (d : Dir) : mview (setDir st dn pn d) = mview st := by
  unfold setDir
  apply mv_updDef
  intro x
  refine ⟨rfl, ?_⟩
  simp only [nwOf, List.map_map]
  apply List.map_congr_left
  intro p _
  simp only [Function.comp]
  split <;> rfl

theorem mirror_beginModel {st : St} (m : Mirror st) (n : String) : Mirror (beginModel st n) := by
  obtain ⟨_, _, e⟩ := beginModel_eq st n
  rw [e]
  exact Mirror.of_view (mv_updDef (ensureDef st n) n _ (fun _ => ⟨rfl, rfl⟩)) (mirror_ensureDef m n)

/-- every primitive edit keeps the mirror: a new instance is created from the definition as it is then, a port
    is widened only where it exists, and nothing else is seen by `mview` -/
theorem mirror_prim {cur : String} {a b : St} (h : Prim cur a b) (m : Mirror a) : Mirror b := by
  cases h with
  | quiet q =>
    cases q with
    | ensureDef n _ => exact mirror_ensureDef m n
    | addPort dn pn d w => exact mirror_addPort m _ _ _ _
    | growPort dn pn w _ hp => exact mirror_growPort m _ _ _ hp
    | edit f hf => exact Mirror.of_view (mv_updInst _ _ _ (fun x => ⟨congrArg (·.2.1) (hf.frame x).1, (hf.frame x).2.1⟩)) m
    | checkHierarchy d => exact Mirror.of_view (mv_checkHierarchy _ _ _) m
    | setDir dn pn d => exact Mirror.of_view (mv_setDir _ _ _ _) m
    | assignDefault mo => exact Mirror.of_view (mv_assignDefault _ _ _ _) m
    | connect p n i => exact Mirror.of_view (mv_connect _ _ _ _ _) m
    | clock l => exact Mirror.of_view (mv_updDef _ _ _ (fun _ => ⟨rfl, rfl⟩)) m
  | newInst mo t hd => exact mirror_newInst m cur mo t hd
  | covers i c => exact Mirror.of_view (mv_updInst _ _ _ (fun _ => ⟨rfl, rfl⟩)) m
  | conn n1 i1 n2 i2 => exact Mirror.of_view (by rw [mv_mergeKeys, mv_ensureWire, mv_ensureWire]) m
  | blackbox =>
    exact Mirror.of_view ((mv_updDef (clearOwner a cur) cur (fun d => { d with blackbox := true }) (fun _ => ⟨rfl, rfl⟩)).trans
      (mv_of (a := a) rfl rfl)) m

theorem mirror_elabModels {ms : List Model} {st st' : St} (h : elabModels st ms = Except.ok st') : Mirror st → Mirror st' :=
  elabModels_inv (Q := fun _ a => Mirror a) (fun p n => mirror_beginModel p n) (fun q => mirror_prim q) id h

end Spydr.Eblif
