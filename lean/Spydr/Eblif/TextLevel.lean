/-
  Text-level forms of the "all inputs" theorems: `readB text = ok n` instead of
  `elabModels {} ms = ok st`.  (`readB` = lex, parse, elaborate, materialise, rename instances by
  convention; the renaming pass keeps definitions, cables and everything of an instance but its name.)
-/
import Spydr.Eblif.Props.C18RoundTrip

namespace Spydr.Eblif

theorem mem_of_erase {l l' : List Inst} (h : l.map eraseName = l'.map eraseName) {i : Inst} (hi : i ∈ l) :
    ∃ j ∈ l', j.model = i.model ∧ j.parent = i.parent ∧ j.typ = i.typ ∧ j.pins = i.pins := by
  have : eraseName i ∈ l.map eraseName := List.mem_map.mpr ⟨i, hi, rfl⟩
  rw [h] at this
  obtain ⟨j, hj, he⟩ := List.mem_map.mp this
  refine ⟨j, hj, ?_, ?_, ?_, ?_⟩
  · have := congrArg Inst.model he; simpa [eraseName] using this
  · have := congrArg Inst.parent he; simpa [eraseName] using this
  · have := congrArg Inst.typ he; simpa [eraseName] using this
  · have := congrArg Inst.pins he; simpa [eraseName] using this

/-- **whatever the reader accepts is self-contained** (text level, all inputs): definition names are
    pairwise different, every instance's model is a definition of the netlist, every instance parent
    and every cable owner is a declared model -/
theorem self_contained_text (text : List Char) (n : BNet) (h : readB text = Except.ok n) :
    (n.defs.map (·.name)).Nodup ∧
    (∀ i ∈ n.insts, (∃ d ∈ n.defs, d.name = i.model) ∧ ∃ d ∈ n.defs, d.name = i.parent ∧ d.declared = true) ∧
    (∀ c ∈ n.cables, ∃ d ∈ n.defs, d.name = c.1.1 ∧ d.declared = true) := by
  obtain ⟨a, st, _, hst, hd, hi, hc, _⟩ := read_decompose text n h
  obtain ⟨s1, s2, s3⟩ := self_contained a.models st hst
  rw [hd]
  refine ⟨s1, ?_, ?_⟩
  · intro i him
    obtain ⟨j, hj, hm, hp, _, _⟩ := mem_of_erase hi him
    rw [← hm, ← hp]
    exact s2 j hj
  · intro c hcm
    rw [hc] at hcm
    simp only [St.toNet, List.mem_map] at hcm
    obtain ⟨ck, hck, rfl⟩ := hcm
    exact s3 ck hck

theorem any_erase {l l' : List Inst} (h : l.map eraseName = l'.map eraseName) (p : Inst → Bool)
    (hp : ∀ i, p (eraseName i) = p i) : l.any p = l'.any p := by
  have e : ∀ x : List Inst, x.any p = (x.map eraseName).any p := by
    intro x
    rw [List.any_map]
    congr 1
    funext i
    exact (hp i).symm
  rw [e l, e l', h]

theorem undeclared_leaf_text (text : List Char) (n : BNet) (h : readB text = Except.ok n)
    (d : DefD) (hd : d ∈ n.defs) (hu : d.declared = false) : isLeaf n d.name = true ∧ d.inWork = false := by
  obtain ⟨a, st, _, hst, hdefs, hi, hc, _⟩ := read_decompose text n h
  rw [hdefs] at hd
  obtain ⟨l1, l2⟩ := undeclared_leaf a.models st hst d hd hu
  refine ⟨?_, l2⟩
  unfold isLeaf at l1 ⊢
  rw [hc, any_erase hi (fun i => decide (i.parent = d.name)) (fun _ => rfl)]
  exact l1

/-- exact connectivity, text level.  The join list `modelsAcc` is threaded through the elaborator (computed
    alongside `elabModel`): it is not an independent specification. -/
theorem onNet_exact_text (text : List Char) (n : BNet) (h : readB text = Except.ok n) :
    ∃ a st, parseB (lexB text) = Except.ok a ∧ elabModels {} a.models = Except.ok st ∧
      ∀ p k, OnNet n p k ↔ ∃ k', (p, k') ∈ modelsAcc {} [] a.models ∧ st.alias k' = k := by
  obtain ⟨a, st, ha, hst, _, _, hc, _⟩ := read_decompose text n h
  refine ⟨a, st, ha, hst, ?_⟩
  intro p k
  rw [onNet_of_cables hc p k]
  exact onNet_exact_all a.models st hst p k

/-- a pin of the netlist read from a text sits on a wire of a cable whose owner is a declared model -/
theorem onNet_owner_declared (text : List Char) (n : BNet) (h : readB text = Except.ok n) (p : Pin) (k : Key)
    (ho : OnNet n p k) : ∃ d ∈ n.defs, d.name = k.1 ∧ d.declared = true := by
  obtain ⟨ws, w, hm, _, _⟩ := ho
  exact (self_contained_text text n h).2.2 _ hm

end Spydr.Eblif
