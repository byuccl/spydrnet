/-
  Tracing lemmas (C12): the executable one-hop functions (`innerWire`, `outerWire`, `pinsOfWire`)
  are exactly the adjacency `Adj` of the specification; hence the work-list closure `traceAll`
  computes the equivalence class `Conn` (via LemmasReach).
-/
import Spydr.Hier.LemmasEnum
import Spydr.Hier.LemmasReach

namespace Spydr.Hier

theorem Defn.wireOf_some {D : Defn} {r : PinRef} {C : Cable} {w : Wire} (h : D.wireOf r = some (C, w)) :
    C ∈ D.cables ∧ w ∈ C.wires ∧ r ∈ w.pins := by
  obtain ⟨C', hC', h2⟩ := List.exists_of_findSome?_eq_some h
  obtain ⟨w', hw', he⟩ := Option.map_eq_some_iff.mp h2
  cases he
  exact ⟨hC', List.mem_of_find?_eq_some hw', by simpa using List.find?_some hw'⟩

theorem Defn.wireOf_eq {D : Defn} (hnd : (D.cables.flatMap (fun C => C.wires.flatMap (·.pins))).Nodup)
    {r : PinRef} {C : Cable} {w : Wire} (hC : C ∈ D.cables) (hw : w ∈ C.wires) (hr : r ∈ w.pins) :
    D.wireOf r = some (C, w) := by
  cases h : D.wireOf r with
  | none =>
    have h1 := Option.map_eq_none_iff.mp (List.findSome?_eq_none_iff.mp h C hC)
    simpa [hr] using List.find?_eq_none.mp h1 w hw
  | some cw =>
    obtain ⟨C', w'⟩ := cw
    obtain ⟨h1, h2, h3⟩ := Defn.wireOf_some h
    obtain rfl : C' = C := flatMap_owner_unique hnd h1 hC (List.mem_flatMap.mpr ⟨w', h2, h3⟩)
      (List.mem_flatMap.mpr ⟨w, hw, hr⟩)
    rw [flatMap_owner_unique ((List.nodup_flatMap.mp hnd).1 C' hC) h2 hw h3 hr]

theorem Adj.kinds {d : Design} {a b : HRef} (h : Adj d a b) : IsHPin d a ∧ IsHWire d b := by
  cases h with
  | inside hp hr hD hP hq hC hw _ =>
    exact ⟨⟨_, _, Occ.pin (Occ.port hp hr hD hP) hq⟩, ⟨_, _, Occ.wire (Occ.cable hp hr hD hC) hw⟩⟩
  | outside hp hr hD hc hr2 hD2 hP hq hC hw _ =>
    exact ⟨⟨_, _, Occ.pin (Occ.port (Occ.child hp hr hD hc) hr2 hD2 hP) hq⟩,
      ⟨_, _, Occ.wire (Occ.cable hp hr hD hC) hw⟩⟩

theorem innerWire_of_adj_inside {d : Design} (hwf : WF d) (hnn : WFNet d) {p : HRef} {i : Inst} {r : Nat} {D : Defn}
    {P : Port} {q : Nat} {C : Cable} {w : Wire}
    (hp : Occ d p (.inst i)) (hr : i.ref = some r) (hD : d.defs[r]? = some D)
    (hC : C ∈ D.cables) (hw : w ∈ C.wires) (hq : PinRef.inner q ∈ w.pins) :
    innerWire d (q :: P.id :: p) = some (w.id :: C.id :: p) := by
  simp only [innerWire, resolve_complete hwf hp, defOf_eq_some.mpr ⟨r, hr, hD⟩,
    Defn.wireOf_eq (hnn.1 D (List.mem_of_getElem? hD)) hC hw hq]

theorem outerWire_of_adj_outside {d : Design} (hwf : WF d) (hnn : WFNet d) {p : HRef} {i : Inst} {r : Nat} {D : Defn}
    {P : Port} {q c : Nat} {C : Cable} {w : Wire}
    (hp : Occ d p (.inst i)) (hr : i.ref = some r) (hD : d.defs[r]? = some D)
    (hC : C ∈ D.cables) (hw : w ∈ C.wires) (hq : PinRef.outer c q ∈ w.pins) :
    outerWire d (q :: P.id :: c :: p) = some (w.id :: C.id :: p) := by
  simp only [outerWire, resolve_complete hwf hp, defOf_eq_some.mpr ⟨r, hr, hD⟩,
    Defn.wireOf_eq (hnn.1 D (List.mem_of_getElem? hD)) hC hw hq]

theorem innerWire_iff {d : Design} (hwf : WF d) (hnn : WFNet d) {n : HRef} {P : Port} {q : Nat}
    (hn : Occ d n (.pin P q)) (m : HRef) :
    innerWire d n = some m ↔ Adj d n m ∧ m.tail.tail = n.tail.tail := by
  constructor
  · intro h
    obtain ⟨p, i, r, D, rfl, hp, hr, hD, hP, hq⟩ := hn.pin_inv
    simp only [innerWire, resolve_complete hwf hp, defOf_eq_some.mpr ⟨r, hr, hD⟩] at h
    cases hw : D.wireOf (.inner q) with
    | none => simp [hw] at h
    | some Cw =>
      obtain ⟨h1, h2, h3⟩ := Defn.wireOf_some hw
      simp only [hw, Option.some.injEq] at h
      subst h
      exact ⟨Adj.inside hp hr hD hP hq h1 h2 h3, rfl⟩
  · rintro ⟨h, ht⟩
    cases h with
    | inside hp hr hD hP hq hC hw hin => exact innerWire_of_adj_inside hwf hnn hp hr hD hC hw hin
    | outside => exact absurd (congrArg List.length ht) (by simp)

theorem outerWire_iff {d : Design} (hwf : WF d) (hnn : WFNet d) {n : HRef} {P : Port} {q : Nat}
    (hn : Occ d n (.pin P q)) (m : HRef) :
    outerWire d n = some m ↔ Adj d n m ∧ m.tail.tail = n.tail.tail.tail ∧ n.tail.tail ≠ [] := by
  constructor
  · intro h
    obtain ⟨p, i, r, D, rfl, hp, hr, hD, hP, hq⟩ := hn.pin_inv
    match p, hp with
    | [_], _ => simp [outerWire, resolve] at h
    | c :: b :: p'', hp =>
      obtain ⟨i0, r0, D0, rfl, hp0, hr0, hD0, hc0⟩ := hp.inst_cons_inv
      simp only [outerWire, resolve_complete hwf hp0, defOf_eq_some.mpr ⟨r0, hr0, hD0⟩] at h
      cases hw : D0.wireOf (.outer i.id q) with
      | none => simp [hw] at h
      | some Cw =>
        obtain ⟨h1, h2, h3⟩ := Defn.wireOf_some hw
        simp only [hw, Option.some.injEq] at h
        subst h
        exact ⟨Adj.outside hp0 hr0 hD0 hc0 hr hD hP hq h1 h2 h3, rfl, by simp⟩
  · rintro ⟨h, ht, hne⟩
    cases h with
    | @inside p _ _ _ _ _ _ _ hp =>
      obtain ⟨a, t, rfl⟩ := hp.exists_cons
      exact absurd (congrArg List.length ht) (by simp)
    | outside hp hr hD hc hr2 hD2 hP hq hC hw hin => exact outerWire_of_adj_outside hwf hnn hp hr hD hC hw hin

theorem adj_iff_pin {d : Design} (hwf : WF d) (hnn : WFNet d) {n : HRef} {P : Port} {q : Nat}
    (hn : Occ d n (.pin P q)) (m : HRef) :
    Adj d n m ↔ innerWire d n = some m ∨ outerWire d n = some m := by
  refine ⟨fun h => ?_, fun h => h.elim (fun h => ((innerWire_iff hwf hnn hn m).mp h).1)
    fun h => ((outerWire_iff hwf hnn hn m).mp h).1⟩
  cases h with
  | inside hp hr hD hP hq hC hw hin => exact .inl (innerWire_of_adj_inside hwf hnn hp hr hD hC hw hin)
  | outside hp hr hD hc hr2 hD2 hP hq hC hw hin => exact .inr (outerWire_of_adj_outside hwf hnn hp hr hD hC hw hin)

theorem hpinOfRef_some {d : Design} {D : Defn} {p : HRef} {pr : PinRef} {b : Bool} {n : HRef} :
    hpinOfRef d D p pr = some (b, n) ↔
      (∃ q P, pr = .inner q ∧ D.portOfPin q = some P ∧ b = false ∧ n = q :: P.id :: p) ∨
      (∃ c q ci D2 P, pr = .outer c q ∧ D.child? c = some ci ∧ d.defOf ci = some D2 ∧
        D2.portOfPin q = some P ∧ b = true ∧ n = q :: P.id :: c :: p) := by
  constructor
  · intro h
    cases pr with
    | inner q =>
      simp only [hpinOfRef] at h
      split at h
      · cases h; exact .inl ⟨_, _, rfl, ‹_›, rfl, rfl⟩
      · cases h
    | outer c q =>
      simp only [hpinOfRef] at h
      repeat' split at h
      all_goals cases h
      exact .inr ⟨_, _, _, _, _, rfl, ‹_›, ‹_›, ‹_›, rfl, rfl⟩
  · rintro (⟨q, P, rfl, hP, rfl, rfl⟩ | ⟨c, q, ci, D2, P, rfl, h1, h2, h3, rfl, rfl⟩)
    · simp only [hpinOfRef, hP]
    · simp only [hpinOfRef, h1, h2, h3]

theorem mem_pinsOfWire {d : Design} (hwf : WF d) {p : HRef} {i : Inst} {r : Nat} {D : Defn} {C : Cable} {w : Wire}
    (hp : Occ d p (.inst i)) (hr : i.ref = some r) (hD : d.defs[r]? = some D)
    (hC : C ∈ D.cables) (hw : w ∈ C.wires) (n : HRef) :
    n ∈ pinsOfWire d (w.id :: C.id :: p) ↔ ∃ pr ∈ w.pins, ∃ b, hpinOfRef d D p pr = some (b, n) := by
  have ho : Occ d (w.id :: C.id :: p) (.wire C w) := Occ.wire (Occ.cable hp hr hD hC) hw
  simp only [pinsOfWire, pinsOfWireT, resolve_complete hwf ho, List.tail_cons, resolve_complete hwf hp,
    defOf_eq_some.mpr ⟨r, hr, hD⟩, List.mem_map, List.mem_filterMap]
  constructor
  · rintro ⟨⟨b, n'⟩, ⟨pr, hpr, he⟩, rfl⟩
    exact ⟨pr, hpr, b, he⟩
  · rintro ⟨pr, hpr, b, he⟩
    exact ⟨(b, n), ⟨pr, hpr, he⟩, rfl⟩

theorem adj_iff_wire {d : Design} (hwf : WF d) {m : HRef} {C : Cable} {w : Wire}
    (hm : Occ d m (.wire C w)) (n : HRef) :
    Adj d n m ↔ n ∈ pinsOfWire d m := by
  constructor
  · intro h
    cases h with
    | inside hp hr hD hP hq hC hw hin =>
      have hl := hwf.localWF hD
      exact (mem_pinsOfWire hwf hp hr hD hC hw _).mpr
        ⟨_, hin, false, by simp only [hpinOfRef, hl.portOfPin_eq hP hq]⟩
    | outside hp hr hD hc hr2 hD2 hP hq hC hw hin =>
      have hl := hwf.localWF hD
      have hl2 := hwf.localWF hD2
      exact (mem_pinsOfWire hwf hp hr hD hC hw _).mpr ⟨_, hin, true, by
        simp only [hpinOfRef, hl.child_lookup hc, defOf_eq_some.mpr ⟨_, hr2, hD2⟩, hl2.portOfPin_eq hP hq]⟩
  · intro h
    obtain ⟨p, i, r, D, rfl, hp, hr, hD, hC, hw⟩ := hm.wire_inv
    obtain ⟨pr, hpr, b, he⟩ := (mem_pinsOfWire hwf hp hr hD hC hw n).mp h
    rcases hpinOfRef_some.mp he with ⟨q, P, rfl, hP, -, rfl⟩ | ⟨c, q, ci, D2, P, rfl, hci, hD2, hP, -, rfl⟩
    · obtain ⟨h1, h2⟩ := Defn.portOfPin_some hP
      exact Adj.inside hp hr hD h1 h2 hC hw hpr
    · obtain ⟨hc1, rfl⟩ := Defn.child?_some hci
      obtain ⟨r2, hr2, hD2'⟩ := defOf_eq_some.mp hD2
      obtain ⟨h1, h2⟩ := Defn.portOfPin_some hP
      exact Adj.outside hp hr hD hc1 hr2 hD2' h1 h2 hC hw hpr

theorem mem_traceSucc {d : Design} (hwf : WF d) (hnn : WFNet d) (n y : HRef) :
    y ∈ traceSucc d n ↔ Link d n y := by
  -- `Adj` goes from a pin to a wire, so what `n` resolves to decides which side of `Link` can hold
  have hpin : ∀ {m}, Adj d n m → ∃ P q, resolve d n = some (.pin P q) := fun h =>
    let ⟨P, q, ho⟩ := h.kinds.1
    ⟨P, q, resolve_complete hwf ho⟩
  have hwire : ∀ {m}, Adj d m n → ∃ C w, resolve d n = some (.wire C w) := fun h =>
    let ⟨C, w, ho⟩ := h.kinds.2
    ⟨C, w, resolve_complete hwf ho⟩
  unfold traceSucc Link
  match hres : resolve d n with
  | some (.pin P q) =>
    simp only [List.mem_append, Option.mem_toList, ← adj_iff_pin hwf hnn (resolve_sound d n _ hres)]
    exact ⟨Or.inl, fun h => h.elim id fun h => by obtain ⟨C, w, h'⟩ := hwire h; simp [hres] at h'⟩
  | some (.wire C w) =>
    simp only [← adj_iff_wire hwf (resolve_sound d n _ hres)]
    exact ⟨Or.inr, fun h => h.elim (fun h => by obtain ⟨P, q, h'⟩ := hpin h; simp [hres] at h') id⟩
  | none | some (.inst _) | some (.port _) | some (.cable _) =>
    simp only [List.not_mem_nil, false_iff]
    rintro (h | h)
    · obtain ⟨P, q, h'⟩ := hpin h; simp [hres] at h'
    · obtain ⟨C, w, h'⟩ := hwire h; simp [hres] at h'

theorem conn_iff_reflTransGen {d : Design} (a b : HRef) :
    Conn d a b ↔ Relation.ReflTransGen (Link d) a b := by
  constructor
  · intro h
    induction h with
    | refl a => exact .refl
    | adj h => exact .single (Or.inl h)
    | symm _ ih => exact rtg_symm (fun _ _ => Or.symm) ih
    | trans _ _ ih1 ih2 => exact ih1.trans ih2
  · intro h
    induction h with
    | refl => exact Conn.refl a
    | tail _ hl ih => exact ih.trans (hl.elim Conn.adj fun hl => (Conn.adj hl).symm)

theorem step_traceSucc_iff {d : Design} (hwf : WF d) (hnn : WFNet d) (a b : HRef) :
    Relation.ReflTransGen (Reach.Step (traceSucc d)) a b ↔ Conn d a b := by
  rw [conn_iff_reflTransGen]
  exact ⟨Relation.ReflTransGen.mono (fun x y h => (mem_traceSucc hwf hnn x y).mp h) _ _, Relation.ReflTransGen.mono (fun x y h => (mem_traceSucc hwf hnn x y).mpr h) _ _⟩

theorem isWireRef_iff {d : Design} (hwf : WF d) (n : HRef) : isWireRef d n = true ↔ IsHWire d n := by
  unfold isWireRef IsHWire
  refine ⟨fun h => ?_, fun ⟨C, w, ho⟩ => by rw [resolve_complete hwf ho]⟩
  split at h
  · exact ⟨_, _, resolve_sound d n _ ‹_›⟩
  · cases h

theorem isPinRef_iff {d : Design} (hwf : WF d) (n : HRef) : isPinRef d n = true ↔ IsHPin d n := by
  unfold isPinRef IsHPin
  refine ⟨fun h => ?_, fun ⟨P, q, ho⟩ => by rw [resolve_complete hwf ho]⟩
  split at h
  · exact ⟨_, _, resolve_sound d n _ ‹_›⟩
  · cases h

theorem mem_traceAll {d : Design} (hwf : WF d) (hnn : WFNet d) (init : List HRef)
    (hfin : (traceAll d init).2 = true) (w : HRef) :
    w ∈ (traceAll d init).1 ↔ IsHWire d w ∧ ∃ x ∈ init, Conn d x w := by
  unfold traceAll at hfin ⊢
  simp only at hfin ⊢
  simp only [List.mem_filter, Reach.reach_spec _ _ _ hfin, isWireRef_iff hwf, Reach.R, step_traceSucc_iff hwf hnn]
  exact and_comm

theorem traceAll_nodup (d : Design) (init : List HRef) : (traceAll d init).1.Nodup := by
  unfold traceAll
  exact List.Nodup.sublist List.filter_sublist (Reach.go_nodup _ _ _ _ List.nodup_nil)

theorem traceAll_sound {d : Design} (hwf : WF d) (hnn : WFNet d) (init : List HRef) (w : HRef)
    (h : w ∈ (traceAll d init).1) : IsHWire d w ∧ ∃ x ∈ init, Conn d x w := by
  unfold traceAll at h
  simp only at h
  rw [List.mem_filter, isWireRef_iff hwf] at h
  obtain ⟨x, hx, hr⟩ := Reach.go_sound (traceSucc d) _ init [] init
    (fun y hy => ⟨y, hy, Relation.ReflTransGen.refl⟩) (by simp) w h.1
  exact ⟨h.2, x, hx, (step_traceSucc_iff hwf hnn x w).mp hr⟩

end Spydr.Hier
