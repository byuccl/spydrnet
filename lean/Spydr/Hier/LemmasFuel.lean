/-
  Fuel sufficiency: the element-root searches (for every design) and the tracing closure (under `WF`,
  `WFNet`, `Sorted`) finish within the fuel the model gives them, so the `finished` flags reported by the
  driver are provably `true`; the upward search itself is `upSearch_finished` in LemmasUp.
-/
import Spydr.Hier.LemmasUp
import Spydr.Hier.LemmasTrace

namespace Spydr.Hier

/-- every branch of `hrefsOfItem` answers `([], true)` or carries the flag of an `allHrefs` -/
theorem hrefsOfItem_finished (d : Design) (root : Root) : (hrefsOfItem d root).2 = true := by
  cases root <;> simp only [hrefsOfItem] <;> repeat' split
  all_goals simp [allHrefs_finished]

theorem length_le_flatMap {α β : Type} (f : α → List β) : ∀ (l : List α) (a : α), a ∈ l → (f a).length ≤ (l.flatMap f).length
  | [], _, h => by cases h
  | b :: l, a, h => by
    rw [List.flatMap_cons, List.length_append]
    rcases List.mem_cons.mp h with rfl | h
    · omega
    · have := length_le_flatMap f l a h
      omega

theorem traceSucc_length_le {d : Design} (hwf : WF d) (x : HRef) : (traceSucc d x).length ≤ totalPinRefs d + 2 := by
  unfold traceSucc
  cases hres : resolve d x with
  | none => simp
  | some e =>
    cases e with
    | pin P q =>
      simp only [List.length_append]
      have h1 : (innerWire d x).toList.length ≤ 1 := by cases innerWire d x <;> simp
      have h2 : (outerWire d x).toList.length ≤ 1 := by cases outerWire d x <;> simp
      omega
    | wire C w =>
      simp only
      have ho := resolve_sound d x _ hres
      obtain ⟨p, i, r, D, rfl, hp, hr, hD, hC, hw⟩ := ho.wire_inv
      have h1 : (pinsOfWire d (w.id :: C.id :: p)).length ≤ w.pins.length := by
        simp only [pinsOfWire, pinsOfWireT, hres, List.tail_cons, resolve_complete hwf hp,
          defOf_eq_some.mpr ⟨r, hr, hD⟩, List.length_map]
        exact List.length_filterMap_le _ _
      have h2 := length_le_flatMap (fun (w : Wire) => w.pins) C.wires w hw
      have h3 := length_le_flatMap (fun (C : Cable) => C.wires.flatMap (·.pins)) D.cables C hC
      have h4 := length_le_flatMap (fun (D : Defn) => D.cables.flatMap (fun C => C.wires.flatMap (·.pins))) d.defs D
        (List.mem_of_getElem? hD)
      unfold totalPinRefs
      omega
    | inst i => simp
    | port P => simp
    | cable C => simp

theorem traceAll_finished {d : Design} (hwf : WF d) (hnn : WFNet d) (hs : Sorted d) (init : List HRef)
    (hinit : ∀ x ∈ init, IsHPin d x ∨ IsHWire d x) : (traceAll d init).2 = true := by
  unfold traceAll
  simp only
  cases init with
  | nil =>
    generalize traceFuel d + ([] : List HRef).length = f
    cases f <;> simp [Reach.go]
  | cons x0 rest =>
    obtain ⟨t, ht, _⟩ : ∃ t, d.topInst = some t ∧ [t.id] <:+ x0 :=
      (hinit x0 List.mem_cons_self).elim (fun ⟨_, _, ho⟩ => ho.has_top) fun ⟨_, _, ho⟩ => ho.has_top
    -- the universe: all hierarchical pins and wires, enumerated from the top instance
    let P := (under d true [t.id] t).flatMap (pinsAt d)
    let W := (under d true [t.id] t).flatMap (wiresAt d)
    have hP : ∀ x, x ∈ P ↔ IsHPin d x := fun x =>
      (mem_under_top hwf hs ht true (pins_itemsAt d) (fun _ => rfl) x).trans (by simp)
    have hW : ∀ x, x ∈ W ↔ IsHWire d x := fun x =>
      (mem_under_top hwf hs ht true (wires_itemsAt d) (fun _ => rfl) x).trans (by simp)
    have hU : ∀ x, x ∈ P ++ W ↔ IsHPin d x ∨ IsHWire d x := fun x => by rw [List.mem_append, hP, hW]
    refine Reach.go_finished (traceSucc d) (P ++ W) (totalPinRefs d + 3) (fun x _ y hy => ?_)
      (fun x _ => Nat.lt_succ_of_le (traceSucc_length_le hwf x)) (fun x hx => (hU x).mpr (hinit x hx)) ?_
    · rw [hU]
      rcases (mem_traceSucc hwf hnn x y).mp hy with h | h
      · exact Or.inr h.kinds.2
      · exact Or.inl h.kinds.1
    · have hf : traceFuel d = (P ++ W).length * (totalPinRefs d + 3) := by
        simp only [traceFuel, topInst_top ht, List.length_append]
        rfl
      omega

end Spydr.Hier
