/-
  The executable `resolve` and the inductive `Occ` agree under `WF` (`resolve_iff`); on the way, what `WF` gives for the
  look-ups inside one definition.
-/
import Mathlib.Data.List.Basic
import Mathlib.Data.List.Nodup
import Spydr.Hier.Spec
import Spydr.Common.List

namespace Spydr.Hier

theorem find?_key_some {α : Type} (f : α → Nat) (l : List α) (x : Nat) (a : α)
    (h : l.find? (fun c => f c == x) = some a) : a ∈ l ∧ f a = x :=
  ⟨List.mem_of_find?_eq_some h, by simpa using List.find?_some h⟩

theorem find?_key_none {α : Type} (f : α → Nat) (l : List α) (x : Nat)
    (h : l.find? (fun c => f c == x) = none) : ∀ a ∈ l, f a ≠ x := fun a ha he => by
  simpa [he] using List.find?_eq_none.mp h a ha


theorem flatMap_index_unique {α β : Type} {f : α → List β} {l : List α} (hnd : (l.flatMap f).Nodup) {k k' : Nat}
    {a a' : α} (hk : l[k]? = some a) (hk' : l[k']? = some a') {x : β} (hx : x ∈ f a) (hx' : x ∈ f a') : k = k' := by
  have hp := List.pairwise_iff_getElem.mp (List.nodup_flatMap.mp hnd).2
  obtain ⟨hl, rfl⟩ := List.getElem?_eq_some_iff.mp hk
  obtain ⟨hl', rfl⟩ := List.getElem?_eq_some_iff.mp hk'
  rcases Nat.lt_trichotomy k k' with h | h | h
  · exact absurd hx' (hp k k' hl hl' h hx)
  · exact h
  · exact absurd hx (hp k' k hl' hl h hx')

theorem flatMap_owner_unique {α β : Type} {f : α → List β} {l : List α} (hnd : (l.flatMap f).Nodup) {a b : α}
    (ha : a ∈ l) (hb : b ∈ l) {x : β} (hxa : x ∈ f a) (hxb : x ∈ f b) : a = b := by
  obtain ⟨k, hk⟩ := List.mem_iff_getElem?.mp ha
  obtain ⟨k', hk'⟩ := List.mem_iff_getElem?.mp hb
  cases flatMap_index_unique hnd hk hk' hxa hxb
  exact Option.some.inj (hk.symm.trans hk')

theorem WF.localWF {d : Design} (h : WF d) {r : Nat} {D : Defn} (hD : d.defs[r]? = some D) : D.LocalWF :=
  h.1 D (List.mem_of_getElem? hD)

theorem Defn.LocalWF.ids {D : Defn} (h : D.LocalWF) :
    (D.children.map (·.id)).Nodup ∧ (D.ports.map (·.id)).Nodup ∧ (D.cables.map (·.id)).Nodup ∧
    (∀ c ∈ D.children, ∀ P ∈ D.ports, c.id ≠ P.id) ∧ (∀ c ∈ D.children, ∀ C ∈ D.cables, c.id ≠ C.id) ∧
    (∀ P ∈ D.ports, ∀ C ∈ D.cables, P.id ≠ C.id) := by
  obtain ⟨h1, h2, h3⟩ := List.nodup_append.mp h.1
  obtain ⟨h4, h5, h6⟩ := List.nodup_append.mp h2
  exact ⟨h1, h4, h5,
    fun c hc P hP => h3 _ (List.mem_map_of_mem hc) _ (List.mem_append_left _ (List.mem_map_of_mem hP)),
    fun c hc C hC => h3 _ (List.mem_map_of_mem hc) _ (List.mem_append_right _ (List.mem_map_of_mem hC)),
    fun P hP C hC => h6 _ (List.mem_map_of_mem hP) _ (List.mem_map_of_mem hC)⟩

theorem Defn.LocalWF.child_lookup {D : Defn} (h : D.LocalWF) {c : Inst} (hc : c ∈ D.children) :
    D.child? c.id = some c :=
  find?_key (fun c : Inst => c.id) h.ids.1 hc

theorem Defn.LocalWF.child_none_of_port {D : Defn} (h : D.LocalWF) {P : Port} (hP : P ∈ D.ports) :
    D.child? P.id = none :=
  List.find?_eq_none.mpr fun c hc => by simpa using h.ids.2.2.2.1 c hc P hP

theorem Defn.LocalWF.child_none_of_cable {D : Defn} (h : D.LocalWF) {C : Cable} (hC : C ∈ D.cables) :
    D.child? C.id = none :=
  List.find?_eq_none.mpr fun c hc => by simpa using h.ids.2.2.2.2.1 c hc C hC

theorem Defn.LocalWF.port_lookup {D : Defn} (h : D.LocalWF) {P : Port} (hP : P ∈ D.ports) :
    D.port? P.id = some P :=
  find?_key (fun c : Port => c.id) h.ids.2.1 hP

theorem Defn.LocalWF.port_none_of_cable {D : Defn} (h : D.LocalWF) {C : Cable} (hC : C ∈ D.cables) :
    D.port? C.id = none :=
  List.find?_eq_none.mpr fun P hP => by simpa using h.ids.2.2.2.2.2 P hP C hC

theorem Defn.LocalWF.cable_lookup {D : Defn} (h : D.LocalWF) {C : Cable} (hC : C ∈ D.cables) :
    D.cable? C.id = some C :=
  find?_key (fun c : Cable => c.id) h.ids.2.2.1 hC

theorem Defn.LocalWF.wire_lookup {D : Defn} (h : D.LocalWF) {C : Cable} (hC : C ∈ D.cables) {w : Wire}
    (hw : w ∈ C.wires) : C.wire? w.id = some w :=
  find?_key (fun c : Wire => c.id) ((List.nodup_flatMap.mp h.2.2).1 C hC) hw

theorem Defn.portOfPin_some {D : Defn} {q : Nat} {P : Port} (h : D.portOfPin q = some P) :
    P ∈ D.ports ∧ q ∈ P.pins := by
  unfold Defn.portOfPin at h
  exact ⟨List.mem_of_find?_eq_some h, by simpa using List.find?_some h⟩

theorem Defn.LocalWF.portOfPin_eq {D : Defn} (hl : D.LocalWF) {q : Nat} {P : Port} (hP : P ∈ D.ports) (hq : q ∈ P.pins) :
    D.portOfPin q = some P :=
  find?_unique hP (decide_eq_true hq) fun _ hP' hq' => flatMap_owner_unique hl.2.1 hP' hP (of_decide_eq_true hq') hq

theorem Defn.child?_some {D : Defn} {x : Nat} {c : Inst} (h : D.child? x = some c) : c ∈ D.children ∧ c.id = x :=
  find?_key_some (fun (c : Inst) => c.id) D.children x c h
theorem Defn.port?_some {D : Defn} {x : Nat} {c : Port} (h : D.port? x = some c) : c ∈ D.ports ∧ c.id = x :=
  find?_key_some (fun (c : Port) => c.id) D.ports x c h
theorem Defn.cable?_some {D : Defn} {x : Nat} {c : Cable} (h : D.cable? x = some c) : c ∈ D.cables ∧ c.id = x :=
  find?_key_some (fun (c : Cable) => c.id) D.cables x c h
theorem Cable.wire?_some {C : Cable} {x : Nat} {c : Wire} (h : C.wire? x = some c) : c ∈ C.wires ∧ c.id = x :=
  find?_key_some (fun (c : Wire) => c.id) C.wires x c h

theorem defOf_eq_some {d : Design} {i : Inst} {D : Defn} :
    d.defOf i = some D ↔ ∃ r, i.ref = some r ∧ d.defs[r]? = some D := by
  unfold Design.defOf
  cases i.ref <;> simp

theorem topInst_eq_some {d : Design} {t : Inst} :
    d.topInst = some t ↔ d.top = some t ∧ ∃ r D, t.ref = some r ∧ d.defs[r]? = some D ∧ D.inNl = true := by
  constructor
  · intro h
    simp only [Design.topInst] at h
    repeat' split at h
    all_goals cases h
    next _ D hin ht hD =>
      obtain ⟨r, hr, hD⟩ := defOf_eq_some.mp hD
      exact ⟨ht, r, D, hr, hD, hin⟩
  · rintro ⟨ht, r, D, hr, hD, hin⟩
    simp [Design.topInst, Design.defOf, ht, hr, hD, hin]

/-- Along the matches of `resolve`: the branches that answer `none` contradict `h`, each of the others is a
    constructor of `Occ`. -/
theorem resolve_sound (d : Design) : ∀ (h : HRef) (e : Elem), resolve d h = some e → Occ d h e
  | [], e, h => by simp [resolve] at h
  | [x], e, h => by
    simp only [resolve] at h
    repeat' split at h
    all_goals cases h
    next _ t ht hx =>
      obtain ⟨h1, r, D, h2, h3, h4⟩ := topInst_eq_some.mp ht
      exact hx ▸ Occ.top h1 h2 h3 h4
  | x :: y :: p, e, h => by
    have ih := resolve_sound d (y :: p)
    simp only [resolve] at h
    repeat' split at h
    all_goals cases h
    · next _ i hi _ D hD _ c hc =>
      obtain ⟨r, hr, hD⟩ := defOf_eq_some.mp hD
      obtain ⟨hm, rfl⟩ := Defn.child?_some hc
      exact .child (ih _ hi) hr hD hm
    · next _ i hi _ D hD _ _ _ P hP =>
      obtain ⟨r, hr, hD⟩ := defOf_eq_some.mp hD
      obtain ⟨hm, rfl⟩ := Defn.port?_some hP
      exact .port (ih _ hi) hr hD hm
    · next _ i hi _ D hD _ _ _ _ _ C hC =>
      obtain ⟨r, hr, hD⟩ := defOf_eq_some.mp hD
      obtain ⟨hm, rfl⟩ := Defn.cable?_some hC
      exact .cable (ih _ hi) hr hD hm
    · next _ P hP hx => exact .pin (ih _ hP) hx
    · next _ C hC _ w hw =>
      obtain ⟨hm, rfl⟩ := Cable.wire?_some hw
      exact .wire (ih _ hC) hm

theorem Occ.exists_cons {d : Design} {h : HRef} {e : Elem} (ho : Occ d h e) : ∃ x p, h = x :: p := by
  cases ho <;> exact ⟨_, _, rfl⟩

theorem resolve_complete {d : Design} (hwf : WF d) {h : HRef} {e : Elem} (ho : Occ d h e) :
    resolve d h = some e := by
  induction ho with
  | top h1 h2 h3 h4 => simp [resolve, topInst_eq_some.mpr ⟨h1, _, _, h2, h3, h4⟩]
  | @child p i c r D hp hr hD hc ih =>
    obtain ⟨y, p', rfl⟩ := hp.exists_cons
    have hl := hwf.localWF hD
    simp only [resolve, ih, defOf_eq_some.mpr ⟨r, hr, hD⟩, hl.child_lookup hc]
  | @port p i r D P hp hr hD hP ih =>
    obtain ⟨y, p', rfl⟩ := hp.exists_cons
    have hl := hwf.localWF hD
    simp only [resolve, ih, defOf_eq_some.mpr ⟨r, hr, hD⟩, hl.child_none_of_port hP, hl.port_lookup hP]
  | @pin h P q hp hq ih =>
    obtain ⟨y, p', rfl⟩ := hp.exists_cons
    simp only [resolve, ih, hq, if_true]
  | @cable p i r D C hp hr hD hC ih =>
    obtain ⟨y, p', rfl⟩ := hp.exists_cons
    have hl := hwf.localWF hD
    simp only [resolve, ih, defOf_eq_some.mpr ⟨r, hr, hD⟩, hl.child_none_of_cable hC, hl.port_none_of_cable hC,
      hl.cable_lookup hC]
  | @wire h C w hp hw ih =>
    obtain ⟨y, p', rfl⟩ := hp.exists_cons
    cases hp with
    | cable _ _ hD hC => simp only [resolve, ih, (hwf.localWF hD).wire_lookup hC hw]

theorem resolve_iff {d : Design} (hwf : WF d) (h : HRef) (e : Elem) : resolve d h = some e ↔ Occ d h e :=
  ⟨resolve_sound d h e, resolve_complete hwf⟩

theorem Occ.unique {d : Design} (hwf : WF d) {h : HRef} {e e' : Elem} (h1 : Occ d h e) (h2 : Occ d h e') : e = e' := by
  have a := resolve_complete hwf h1
  have b := resolve_complete hwf h2
  rw [a] at b
  exact Option.some.inj b

theorem isValid_iff' {d : Design} (hwf : WF d) (h : HRef) : isValid d h = true ↔ ValidPath d h := by
  unfold isValid ValidPath
  rw [Option.isSome_iff_exists]
  exact exists_congr (fun e => resolve_iff hwf h e)

end Spydr.Hier
