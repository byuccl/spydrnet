/-
  Canonicity (`__eq__`, flyweight interning) and names (`HRef.name`).
-/
import Spydr.Hier.LemmasEnum

namespace Spydr.Hier

theorem hrefEq_iff : ∀ (a b : HRef), hrefEq a b = true ↔ a = b
  | [], [] => by simp [hrefEq]
  | [], _ :: _ => by simp [hrefEq]
  | _ :: _, [] => by simp [hrefEq]
  | x :: p, y :: q => by
    simp only [hrefEq, Bool.and_eq_true, beq_iff_eq, List.cons.injEq, hrefEq_iff p q]

def Fly.Inv (t : Fly) : Prop :=
  (∀ e ∈ t.table, e.2 < t.next) ∧ t.table.Pairwise (fun e1 e2 => e1.1 ≠ e2.1 ∧ e1.2 ≠ e2.2)

theorem Fly.inv_empty : Fly.empty.Inv := by
  simp [Fly.Inv, Fly.empty]

theorem Fly.intern_inv (t : Fly) (h : HRef) (hi : t.Inv) : (t.intern h).1.Inv := by
  unfold Fly.intern
  split
  · exact hi
  · rename_i hnone
    refine ⟨?_, ?_⟩
    · intro e he
      rcases List.mem_cons.mp he with rfl | he
      · exact Nat.lt_succ_self _
      · exact Nat.lt_succ_of_lt (hi.1 e he)
    · refine List.pairwise_cons.mpr ⟨?_, hi.2⟩
      intro e he
      refine ⟨?_, ?_⟩
      · intro heq
        have := List.find?_eq_none.mp hnone e he
        simp only [Bool.not_eq_true] at this
        have h2 := (hrefEq_iff e.1 h).mpr heq.symm
        rw [h2] at this
        cases this
      · exact Nat.ne_of_gt (hi.1 e he)

theorem Fly.intern_mem (t : Fly) (h : HRef) : (h, (t.intern h).2) ∈ (t.intern h).1.table := by
  unfold Fly.intern
  split
  · rename_i e he
    have h2 := List.find?_some he
    rw [← (hrefEq_iff _ _).mp h2]
    exact List.mem_of_find?_eq_some he
  · exact List.mem_cons_self

theorem pairwise_unique {l : List (HRef × Nat)}
    (hp : l.Pairwise (fun e1 e2 => e1.1 ≠ e2.1 ∧ e1.2 ≠ e2.2)) {a b : HRef × Nat}
    (ha : a ∈ l) (hb : b ∈ l) (he : a.1 = b.1 ∨ a.2 = b.2) : a = b := by
  induction l with
  | nil => cases ha
  | cons c l ih =>
    rw [List.pairwise_cons] at hp
    rcases List.mem_cons.mp ha with rfl | ha' <;> rcases List.mem_cons.mp hb with rfl | hb'
    · rfl
    · exact absurd he (not_or.mpr (hp.1 b hb'))
    · exact absurd (he.imp Eq.symm Eq.symm) (not_or.mpr (hp.1 a ha'))
    · exact ih hp.2 ha' hb'

theorem Fly.lookup_of_mem (t : Fly) (hi : t.Inv) (h : HRef) (n : Nat) (hm : (h, n) ∈ t.table) :
    t.intern h = (t, n) := by
  unfold Fly.intern
  rw [find?_unique hm ((hrefEq_iff h h).mpr rfl) fun e he hq =>
    pairwise_unique hi.2 he hm (.inl ((hrefEq_iff _ _).mp hq))]

theorem Fly.intern_same (t : Fly) (hi : t.Inv) (h : HRef) :
    ((t.intern h).1.intern h) = ((t.intern h).1, (t.intern h).2) :=
  Fly.lookup_of_mem _ (t.intern_inv h hi) h _ (t.intern_mem h)

theorem Fly.intern_mono (t : Fly) (h : HRef) (e : HRef × Nat) (he : e ∈ t.table) : e ∈ (t.intern h).1.table := by
  unfold Fly.intern
  split
  · exact he
  · exact List.mem_cons_of_mem _ he

theorem Fly.intern_distinct (t : Fly) (hi : t.Inv) (a b : HRef) (hne : a ≠ b) :
    (t.intern a).2 ≠ ((t.intern a).1.intern b).2 := by
  intro he
  have hi1 := t.intern_inv a hi
  have hi2 := (t.intern a).1.intern_inv b hi1
  have m1 : (a, (t.intern a).2) ∈ ((t.intern a).1.intern b).1.table :=
    Fly.intern_mono _ b _ (t.intern_mem a)
  have m2 := (t.intern a).1.intern_mem b
  have := pairwise_unique hi2.2 m1 m2 (.inr he)
  exact hne (congrArg Prod.fst this)

theorem pathNames_inst {d : Design} (hwf : WF d) {p : HRef} {ns : List String} (hn : InstNames d p ns) :
    ∃ t, d.topInst = some t ∧ pathNames d p = ns.reverse ++ [t.name] := by
  induction hn with
  | @top t ho =>
    refine ⟨t, ho.top_inv, ?_⟩
    simp [pathNames, resolve_complete hwf ho, Elem.name]
  | @child p c ns _ ho ih =>
    obtain ⟨t, h1, h2⟩ := ih
    refine ⟨t, h1, ?_⟩
    simp [pathNames, resolve_complete hwf ho, Elem.name, h2]

theorem dropLast_cons_reverse_snoc (a x : String) (l : List String) :
    (a :: (l.reverse ++ [x])).dropLast.reverse = l ++ [a] := by
  rw [← List.cons_append, List.dropLast_concat, List.reverse_cons, List.reverse_reverse]

theorem hrefName_spec {d : Design} (hwf : WF d) {p : HRef} {ns : List String} (hn : InstNames d p ns) :
    hrefName d p = slashJoin ns ∧
    (∀ P, Occ d (P.id :: p) (.port P) → hrefName d (P.id :: p) = slashJoin (ns ++ [P.name])) ∧
    (∀ P q, Occ d (q :: P.id :: p) (.pin P q) →
      hrefName d (q :: P.id :: p) = slashJoin (ns ++ [P.name]) ++ busIndex P.isArray P.lower (P.pins.idxOf q)) ∧
    (∀ C, Occ d (C.id :: p) (.cable C) → hrefName d (C.id :: p) = slashJoin (ns ++ [C.name])) ∧
    (∀ C w, Occ d (w.id :: C.id :: p) (.wire C w) →
      hrefName d (w.id :: C.id :: p) = slashJoin (ns ++ [C.name]) ++ busIndex C.isArray C.lower (C.wires.idxOf w)) := by
  obtain ⟨t, _, hpn⟩ := pathNames_inst hwf hn
  have hinst : ∃ c, Occ d p (.inst c) := by
    cases hn with
    | top ho => exact ⟨_, ho⟩
    | child _ ho => exact ⟨_, ho⟩
  obtain ⟨c, hc⟩ := hinst
  refine ⟨?_, ?_, ?_, ?_, ?_⟩
  · simp only [hrefName, resolve_complete hwf hc, hpn, List.dropLast_concat, List.reverse_reverse]
  · intro P ho
    simp only [hrefName, resolve_complete hwf ho, pathNames, Elem.name, hpn, dropLast_cons_reverse_snoc]
  · intro P q ho
    obtain ⟨_, _, _, _, he, hp, hr, hD, hP, _⟩ := ho.pin_inv
    cases he
    have hport := Occ.port hp hr hD hP
    simp only [hrefName, resolve_complete hwf ho, List.tail_cons, pathNames, resolve_complete hwf hport, Elem.name, hpn, dropLast_cons_reverse_snoc]
  · intro C ho
    simp only [hrefName, resolve_complete hwf ho, pathNames, Elem.name, hpn, dropLast_cons_reverse_snoc]
  · intro C w ho
    obtain ⟨_, _, _, _, he, hp, hr, hD, hC, _⟩ := ho.wire_inv
    cases he
    have hcab := Occ.cable hp hr hD hC
    simp only [hrefName, resolve_complete hwf ho, List.tail_cons, pathNames, resolve_complete hwf hcab, Elem.name, hpn, dropLast_cons_reverse_snoc]

end Spydr.Hier
