/-
  C11 — hierarchical references enumerate each occurrence exactly once and are canonical.

  `Occ d h e` (Spec.lean) is the inductive definition of "h is an occurrence of element e in the
  elaborated design", written without reference to the algorithms.  All statements are for ALL
  designs `d` under the decidable hypotheses `WF d` (identities unique) and `Acyclic d`
  (= `Sorted d`: the definitions are presented in a topological order; exists iff the hierarchy is
  acyclic); the driver checks both on every input.
-/
import Spydr.Hier.LemmasFuel
import Spydr.Hier.LemmasUnique
import Spydr.Hier.LemmasCanon
import Spydr.Hier.Example

namespace Spydr.Hier

/-- `is_valid` is "is an occurrence", for any design (in particular after edits). -/
theorem isValid_iff {d : Design} (hwf : WF d) (h : HRef) : isValid d h = true ↔ ValidPath d h :=
  isValid_iff' hwf h

/-- C11 (instances): `get_hinstances(href p)` = the hierarchical instances directly below `p`
    (`recursive=False`) / at any depth below `p` (`True`), each once. -/
theorem hinstances_spec {d : Design} (hwf : WF d) (hs : Acyclic d) (p : HRef) (rec : Bool) (hp : IsHInst d p) :
    (∀ x, x ∈ (getHInstances d (.href p) rec).1 ↔ IsHInst d x ∧ Within p rec x.tail) ∧
    (getHInstances d (.href p) rec).1.Nodup ∧ (getHInstances d (.href p) rec).2 = true := by
  obtain ⟨i, ho⟩ := hp
  refine ⟨fun x => ?_, nodup_dedup _, rfl⟩
  simp only [getHInstances, mem_dedup, hinstsOfHRef, resolve_complete hwf ho]
  exact mem_insts_below hwf hs ho rec x

/-- The answer of an item query on the hierarchical instance `p`: the query's value there is handed over as an
    equation (`hl`, closed by unfolding the query), the rest is `mem_under_flatMap`. -/
theorem items_spec {d : Design} (hwf : WF d) (hs : Acyclic d) {g : Defn → HRef → List HRef} {Q : HRef → Prop}
    {cont : HRef → HRef} (ha : ItemsAt d g Q cont) {at_ : HRef × Inst → List HRef}
    (hat : ∀ pi, at_ pi = match d.defOf pi.2 with | some D => g D pi.1 | none => []) {p : HRef} {i : Inst}
    (ho : Occ d p (.inst i)) (rec : Bool) {l : List HRef × Bool}
    (hl : l = (dedup ((under d rec p i).flatMap at_), true)) :
    (∀ x, x ∈ l.1 ↔ Q x ∧ Within p rec (cont x)) ∧ l.1.Nodup ∧ l.2 = true := by
  subst hl
  exact ⟨fun x => (mem_dedup x _).trans (mem_under_flatMap hwf hs ho rec ha hat x), nodup_dedup _, rfl⟩

theorem items_netlist_spec {d : Design} (hwf : WF d) (hs : Acyclic d) {g : Defn → HRef → List HRef} {Q : HRef → Prop}
    {cont : HRef → HRef} (ha : ItemsAt d g Q cont) {at_ : HRef × Inst → List HRef}
    (hat : ∀ pi, at_ pi = match d.defOf pi.2 with | some D => g D pi.1 | none => []) {t : Inst}
    (ht : d.topInst = some t) (rec : Bool) {l : List HRef × Bool}
    (hl : l = (dedup ((under d rec [t.id] t).flatMap at_), true)) :
    (∀ x, x ∈ l.1 ↔ Q x ∧ (rec = true ∨ cont x = [t.id])) ∧ l.1.Nodup ∧ l.2 = true := by
  subst hl
  exact ⟨fun x => (mem_dedup x _).trans (mem_under_top hwf hs ht rec ha hat x), nodup_dedup _, rfl⟩

theorem hports_spec {d : Design} (hwf : WF d) (hs : Acyclic d) (p : HRef) (rec : Bool) (hp : IsHInst d p) :
    (∀ x, x ∈ (getHPorts d (.href p) rec).1 ↔ IsHPort d x ∧ Within p rec x.tail) ∧
    (getHPorts d (.href p) rec).1.Nodup ∧ (getHPorts d (.href p) rec).2 = true :=
  let ⟨_, ho⟩ := hp
  items_spec hwf hs (ports_itemsAt d) (at_ := portsAt d) (fun _ => rfl) ho rec
    (by simp only [getHPorts_href, hportsOfHRef, resolve_complete hwf ho])

theorem hpins_spec {d : Design} (hwf : WF d) (hs : Acyclic d) (p : HRef) (rec : Bool) (hp : IsHInst d p) :
    (∀ x, x ∈ (getHPins d (.href p) rec).1 ↔ IsHPin d x ∧ Within p rec x.tail.tail) ∧
    (getHPins d (.href p) rec).1.Nodup ∧ (getHPins d (.href p) rec).2 = true :=
  let ⟨_, ho⟩ := hp
  items_spec hwf hs (pins_itemsAt d) (at_ := pinsAt d) (fun _ => rfl) ho rec
    (by simp only [getHPins_href, hpinsOfHRef, resolve_complete hwf ho])

theorem hcables_spec {d : Design} (hwf : WF d) (hs : Acyclic d) (p : HRef) (rec : Bool) (hp : IsHInst d p) :
    (∀ x, x ∈ (getHCables d (.href p) rec .inside).1 ↔ IsHCable d x ∧ Within p rec x.tail) ∧
    (getHCables d (.href p) rec .inside).1.Nodup ∧ (getHCables d (.href p) rec .inside).2 = true :=
  let ⟨_, ho⟩ := hp
  items_spec hwf hs (cables_itemsAt d) (at_ := cablesAt d) (fun _ => rfl) ho rec
    (by simp only [getHCables_href, hcablesOfHRef, resolve_complete hwf ho])

theorem hwires_spec {d : Design} (hwf : WF d) (hs : Acyclic d) (p : HRef) (rec : Bool) (hp : IsHInst d p) :
    (∀ x, x ∈ (getHWires d (.href p) rec .inside).1 ↔ IsHWire d x ∧ Within p rec x.tail.tail) ∧
    (getHWires d (.href p) rec .inside).1.Nodup ∧ (getHWires d (.href p) rec .inside).2 = true :=
  let ⟨_, ho⟩ := hp
  items_spec hwf hs (wires_itemsAt d) (at_ := wiresAt d) (fun _ => rfl) ho rec
    (by simp only [getHWires_href, hwiresOfHRef, resolve_complete hwf ho])

/-- C11, complete enumeration from the netlist: with `recursive=True` every occurrence of a port
    in the elaborated design is returned, exactly once; with `False` those of the top instance. -/
theorem hports_netlist_spec {d : Design} (hwf : WF d) (hs : Acyclic d) {t : Inst} (ht : d.topInst = some t) (rec : Bool) :
    (∀ x, x ∈ (getHPorts d .netlist rec).1 ↔ IsHPort d x ∧ (rec = true ∨ x.tail = [t.id])) ∧
    (getHPorts d .netlist rec).1.Nodup ∧ (getHPorts d .netlist rec).2 = true :=
  items_netlist_spec hwf hs (ports_itemsAt d) (at_ := portsAt d) (fun _ => rfl) ht rec
    (by simp [getHPorts, hrefsOfItem, topInst_top ht, hportsOfHRef, resolve_complete hwf (topInst_occ ht)])

theorem hpins_netlist_spec {d : Design} (hwf : WF d) (hs : Acyclic d) {t : Inst} (ht : d.topInst = some t) (rec : Bool) :
    (∀ x, x ∈ (getHPins d .netlist rec).1 ↔ IsHPin d x ∧ (rec = true ∨ x.tail.tail = [t.id])) ∧
    (getHPins d .netlist rec).1.Nodup ∧ (getHPins d .netlist rec).2 = true :=
  items_netlist_spec hwf hs (pins_itemsAt d) (at_ := pinsAt d) (fun _ => rfl) ht rec
    (by simp [getHPins, hrefsOfItem, topInst_top ht, hpinsOfHRef, resolve_complete hwf (topInst_occ ht)])

theorem hcables_netlist_spec {d : Design} (hwf : WF d) (hs : Acyclic d) {t : Inst} (ht : d.topInst = some t) (rec : Bool) :
    (∀ x, x ∈ (getHCables d .netlist rec .inside).1 ↔ IsHCable d x ∧ (rec = true ∨ x.tail = [t.id])) ∧
    (getHCables d .netlist rec .inside).1.Nodup ∧ (getHCables d .netlist rec .inside).2 = true :=
  items_netlist_spec hwf hs (cables_itemsAt d) (at_ := cablesAt d) (fun _ => rfl) ht rec
    (by simp [getHCables, hrefsOfItem, topInst_top ht, hcablesOfHRef, resolve_complete hwf (topInst_occ ht)])

theorem hwires_netlist_spec {d : Design} (hwf : WF d) (hs : Acyclic d) {t : Inst} (ht : d.topInst = some t) (rec : Bool) :
    (∀ x, x ∈ (getHWires d .netlist rec .inside).1 ↔ IsHWire d x ∧ (rec = true ∨ x.tail.tail = [t.id])) ∧
    (getHWires d .netlist rec .inside).1.Nodup ∧ (getHWires d .netlist rec .inside).2 = true :=
  items_netlist_spec hwf hs (wires_itemsAt d) (at_ := wiresAt d) (fun _ => rfl) ht rec
    (by simp [getHWires, hrefsOfItem, topInst_top ht, hwiresOfHRef, resolve_complete hwf (topInst_occ ht)])

/-- instances: everything strictly below the top (`True`) / its children (`False`) -/
theorem hinstances_netlist_spec {d : Design} (hwf : WF d) (hs : Acyclic d) {t : Inst} (ht : d.topInst = some t) (rec : Bool) :
    (∀ x, x ∈ (getHInstances d .netlist rec).1 ↔ IsHInst d x ∧ x ≠ [t.id] ∧ (rec = true ∨ x.tail = [t.id])) ∧
    (getHInstances d .netlist rec).1.Nodup ∧ (getHInstances d .netlist rec).2 = true := by
  simp only [getHInstances, topInst_top ht, mem_dedup, mem_insts_below hwf hs (topInst_occ ht) rec]
  refine ⟨fun x => and_congr_right fun ⟨c, hc⟩ => ?_, nodup_dedup _, trivial⟩
  match x, hc with
  | [a], hc =>
    -- a one-element path is the top instance itself, which is not below itself
    cases Option.some.inj ((hc.top_inv).symm.trans ht)
    cases hc.head_id
    simp [Within]
  | a :: b :: p', hc =>
    obtain ⟨i', _, _, _, hp', _⟩ := hc.inst_cons_inv
    simpa using within_top ht hp' rec



/-- `HRef.get_all_hrefs_of_item`: asking for the occurrences of an element returns exactly the valid paths
    that end in it (upward bound set + pruned downward search = the inductive definition).  No side condition on
    libraries: the (repaired) code finds the netlist through the instances *and their ancestors*, and
    whenever an occurrence exists the top instance is among them — so the statement also holds after a
    definition was removed from its library. -/
theorem hrefs_of_item_spec {d : Design} (hwf : WF d) (hs : Acyclic d) {t : Inst}
    (ht : d.topInst = some t) (x : Nat) :
    (∀ h, h ∈ (hrefsOfItem d (.instance x)).1 ↔ ∃ c, Occ d h (.inst c) ∧ c.id = x) ∧
    (∀ h, h ∈ (hrefsOfItem d (.port x)).1 ↔ ∃ P, Occ d h (.port P) ∧ P.id = x) ∧
    (∀ h, h ∈ (hrefsOfItem d (.innerPin x)).1 ↔ ∃ P, Occ d h (.pin P x)) ∧
    (∀ h, h ∈ (hrefsOfItem d (.cable x)).1 ↔ ∃ C, Occ d h (.cable C) ∧ C.id = x) ∧
    (∀ h, h ∈ (hrefsOfItem d (.wire x)).1 ↔ ∃ C w, Occ d h (.wire C w) ∧ w.id = x) :=
  ⟨hrefs_of_instance_spec hwf hs x ht, hrefs_of_port_spec hwf hs x ht, hrefs_of_pin_spec hwf hs x ht,
   hrefs_of_cable_spec hwf hs x ht, hrefs_of_wire_spec hwf hs x ht⟩

/-- the instances of a definition: `get_hinstances(definition)` (also for a definition that was removed
    from its library but is still instantiated) -/
theorem hinstances_of_definition_spec {d : Design} (hwf : WF d) (hs : Acyclic d) (k : Nat)
    {t : Inst} (ht : d.topInst = some t) (rec : Bool) :
    (∀ h, h ∈ (getHInstances d (.definition k) rec).1 ↔ ∃ c, Occ d h (.inst c) ∧ c.ref = some k) ∧
    (getHInstances d (.definition k) rec).1.Nodup := by
  simp only [getHInstances, mem_dedup]
  exact ⟨mem_allHrefs_refsOf hwf hs k ht, nodup_dedup _⟩

theorem hrefs_of_library_spec {d : Design} (hwf : WF d) (hs : Sorted d) (ds : List Nat) {t : Inst}
    (ht : d.topInst = some t) (h : HRef) :
    h ∈ (hrefsOfItem d (.library ds)).1 ↔ ∃ k ∈ ds, ∃ c, Occ d h (.inst c) ∧ c.ref = some k := by
  simp only [hrefsOfItem, List.mem_flatMap, List.mem_map, exists_exists_and_eq_and,
    mem_allHrefs_refsOf hwf hs _ ht]

theorem hinstances_of_library_spec {d : Design} (hwf : WF d) (hs : Sorted d) (ds : List Nat) {t : Inst}
    (ht : d.topInst = some t) (rec : Bool) :
    (∀ h, h ∈ (getHInstances d (.library ds) rec).1 ↔ ∃ c, Occ d h (.inst c) ∧ ∃ k ∈ ds, c.ref = some k) ∧
    (getHInstances d (.library ds) rec).1.Nodup ∧ (getHInstances d (.library ds) rec).2 = true := by
  simp only [getHInstances, mem_dedup, mem_allHrefs hwf hs _ ht, List.mem_flatMap]
  refine ⟨fun h => exists_congr fun c => and_congr_right fun ho => ?_, nodup_dedup _, allHrefs_finished d _⟩
  exact exists_congr fun k => and_congr_right fun _ => hwf.mem_refsOf_occ ho k

/-- occurrences of an outer pin `(c, q)`: the pin `q` (under its port) inside every occurrence of `c` -/
theorem hrefs_of_outerPin_spec {d : Design} (hwf : WF d) (hs : Sorted d) (c q : Nat) {t : Inst}
    (ht : d.topInst = some t) (h : HRef) :
    h ∈ (hrefsOfItem d (.outerPin c q)).1 ↔
      ∃ (k : Nat) (D : Defn) (P : Port) (p : HRef) (ci : Inst), d.defs[k]? = some D ∧ P ∈ D.ports ∧ q ∈ P.pins ∧
        Occ d p (.inst ci) ∧ ci.id = c ∧ h = q :: P.id :: p := by
  have : h ∈ (hrefsOfItem d (.outerPin c q)).1 ↔ ∃ k P, (d.defWith (fun D => (D.portOfPin q).isSome) = some k ∧
      (d.defs[k]?).bind (·.portOfPin q) = some P) ∧ ∃ p ∈ (allHrefs d [c]).1, q :: P.id :: p = h := by
    simp only [hrefsOfItem]
    cases d.defWith _ with
    | none => simp
    | some k =>
      simp only
      split <;> simp [*]
  simp only [this, pin_owner hwf, mem_allHrefs hwf hs [c] ht, List.mem_singleton]
  constructor
  · rintro ⟨k, P, ⟨D, hD, hP, hq⟩, p, ⟨ci, hci, hid⟩, rfl⟩
    exact ⟨k, D, P, p, ci, hD, hP, hq, hci, hid, rfl⟩
  · rintro ⟨k, D, P, p, ci, hD, hP, hq, hci, hid, rfl⟩
    exact ⟨k, P, ⟨D, hD, hP, hq⟩, p, ⟨ci, hci, hid⟩, rfl⟩

theorem hinstances_of_outerPin_spec {d : Design} (hwf : WF d) (hs : Sorted d) (c q : Nat) {t : Inst}
    (ht : d.topInst = some t) (rec : Bool) :
    (∀ h, h ∈ (getHInstances d (.outerPin c q) rec).1 ↔ ∃ ci, Occ d h (.inst ci) ∧ ci.id = c) ∧
    (getHInstances d (.outerPin c q) rec).1.Nodup := by
  simp [getHInstances, mem_dedup, mem_allHrefs hwf hs _ ht, nodup_dedup]

/-- a reference that is not an occurrence answers nothing, whatever the query -/
theorem queries_on_invalid {d : Design} (hwf : WF d) (h : HRef) (rec : Bool) (sel : Sel) (hnv : ¬ ValidPath d h) :
    getHInstances d (.href h) rec = ([], true) ∧ getHPorts d (.href h) rec = ([], true) ∧
    getHPins d (.href h) rec = ([], true) ∧ getHCables d (.href h) rec sel = ([], true) ∧
    getHWires d (.href h) rec sel = ([], true) := by
  have hres : resolve d h = none := by
    cases hr : resolve d h with
    | none => rfl
    | some e => exact absurd ⟨e, resolve_sound d h e hr⟩ hnv
  have hw : hwiresOfHRef d rec sel h = ([], true) := by simp [hwiresOfHRef, hres]
  have hc : hcablesOfHRef d rec sel h = ([], true) := by simp [hcablesOfHRef, hres, hw]
  simp [getHInstances, getHPorts_href, getHPins_href, getHCables_href, getHWires_href, hinstsOfHRef, hportsOfHRef,
    hpinsOfHRef, hres, hc, hw, dedup]


/-- the queries on an element are the union of the queries on its occurrences -/
theorem hports_of_root (d : Design) (root : Root) (rec : Bool) (x : HRef) :
    x ∈ (getHPorts d root rec).1 ↔ ∃ h ∈ (hrefsOfItem d root).1, x ∈ hportsOfHRef d rec h := by
  simp [getHPorts, mem_dedup, List.mem_flatMap]

theorem hpins_of_root (d : Design) (root : Root) (rec : Bool) (x : HRef) :
    x ∈ (getHPins d root rec).1 ↔ ∃ h ∈ (hrefsOfItem d root).1, x ∈ hpinsOfHRef d rec h := by
  simp [getHPins, mem_dedup, List.mem_flatMap]

theorem hcables_of_root (d : Design) (root : Root) (rec : Bool) (sel : Sel) (x : HRef) :
    x ∈ (getHCables d root rec sel).1 ↔ ∃ h ∈ (hrefsOfItem d root).1, x ∈ (hcablesOfHRef d rec sel h).1 := by
  simp [getHCables, mem_dedup, List.mem_flatMap]

theorem hwires_of_root (d : Design) (root : Root) (rec : Bool) (sel : Sel) (x : HRef) :
    x ∈ (getHWires d root rec sel).1 ↔ ∃ h ∈ (hrefsOfItem d root).1, x ∈ (hwiresOfHRef d rec sel h).1 := by
  simp [getHWires, mem_dedup, List.mem_flatMap]

/-- every answer is duplicate-free, whatever the root -/
theorem queries_nodup (d : Design) (root : Root) (rec : Bool) (sel : Sel) :
    (getHInstances d root rec).1.Nodup ∧ (getHPorts d root rec).1.Nodup ∧ (getHPins d root rec).1.Nodup ∧
    (getHCables d root rec sel).1.Nodup ∧ (getHWires d root rec sel).1.Nodup := by
  refine ⟨?_, nodup_dedup _, nodup_dedup _, nodup_dedup _, nodup_dedup _⟩
  unfold getHInstances
  split <;> (try split) <;> first | exact nodup_dedup _ | exact List.nodup_nil

theorem queries_on_hport {d : Design} (hwf : WF d) (x : HRef) (rec : Bool) {P : Port} (hx : Occ d x (.port P)) :
    (getHPorts d (.href x) rec).1 = [x] ∧
    (∀ y, y ∈ (getHPins d (.href x) rec).1 ↔ ∃ q ∈ P.pins, y = q :: x) ∧
    (getHInstances d (.href x) rec).1 = [x.tail] := by
  refine ⟨?_, fun y => ?_, ?_⟩
  · simp [getHPorts_href, hportsOfHRef, resolve_complete hwf hx, dedup]
  · simp [getHPins_href, mem_dedup, hpinsOfHRef, resolve_complete hwf hx, eq_comm]
  · simp [getHInstances, hinstsOfHRef, resolve_complete hwf hx, dedup]

theorem queries_on_hpin {d : Design} (hwf : WF d) (x : HRef) (rec : Bool) {P : Port} {q : Nat} (hx : Occ d x (.pin P q)) :
    (getHPins d (.href x) rec).1 = [x] ∧ (getHPorts d (.href x) rec).1 = [x.tail] ∧
    (getHInstances d (.href x) rec).1 = [x.tail.tail] := by
  refine ⟨?_, ?_, ?_⟩
  · simp [getHPins_href, hpinsOfHRef, resolve_complete hwf hx, dedup]
  · simp [getHPorts_href, hportsOfHRef, resolve_complete hwf hx, dedup]
  · simp [getHInstances, hinstsOfHRef, resolve_complete hwf hx, dedup]

theorem queries_on_hwire {d : Design} (hwf : WF d) (x : HRef) (rec : Bool) {C : Cable} {w : Wire} (hx : Occ d x (.wire C w)) :
    (getHWires d (.href x) rec .inside).1 = [x] ∧ (getHCables d (.href x) rec .inside).1 = [x.tail] ∧
    (getHInstances d (.href x) rec).1 = [x.tail.tail] := by
  refine ⟨?_, ?_, ?_⟩
  · simp [getHWires_href, hwiresOfHRef, resolve_complete hwf hx, dedup]
  · simp [getHCables_href, hcablesOfHRef, hwiresOfHRef, resolve_complete hwf hx, dedup]
  · simp [getHInstances, hinstsOfHRef, resolve_complete hwf hx, dedup]

theorem queries_on_hcable {d : Design} (hwf : WF d) (x : HRef) (rec : Bool) {C : Cable} (hx : Occ d x (.cable C)) :
    (∀ y, y ∈ (getHWires d (.href x) rec .inside).1 ↔ ∃ w ∈ C.wires, y = w.id :: x) ∧
    (getHCables d (.href x) rec .inside).1 = [x] ∧
    (getHInstances d (.href x) rec).1 = [x.tail] := by
  refine ⟨fun y => ?_, ?_, ?_⟩
  · simp [getHWires_href, mem_dedup, hwiresOfHRef, resolve_complete hwf hx, eq_comm]
  · simp [getHCables_href, hcablesOfHRef, resolve_complete hwf hx, dedup]
  · simp [getHInstances, hinstsOfHRef, resolve_complete hwf hx, dedup]

/-- The upward searches of C11 always finish: the `finished` flags (second components) of these four queries are
    `true` (potential-function argument over the finite set of instance identities).  The flags of `getHInstances`,
    `getHCables` and `getHWires` on element roots are not part of the statement. -/
theorem search_finished {d : Design} (hwf : WF d) (root : Root) (rec : Bool) (h : HRef) :
    (hrefsOfItem d root).2 = true ∧ (getHPorts d root rec).2 = true ∧ (getHPins d root rec).2 = true ∧
    (isUnique d h).2 = true :=
  ⟨hrefsOfItem_finished d root, hrefsOfItem_finished d root, hrefsOfItem_finished d root, isUnique_finished d h⟩

/-- `HRef.name` = slash-joined instance names below the top (+ bundle name, + `[lower+index]`). -/
theorem hrefName_slash_joined {d : Design} (hwf : WF d) {p : HRef} {ns : List String} (hn : InstNames d p ns) :
    hrefName d p = slashJoin ns ∧
    (∀ P, Occ d (P.id :: p) (.port P) → hrefName d (P.id :: p) = slashJoin (ns ++ [P.name])) ∧
    (∀ P q, Occ d (q :: P.id :: p) (.pin P q) →
      hrefName d (q :: P.id :: p) = slashJoin (ns ++ [P.name]) ++ busIndex P.isArray P.lower (P.pins.idxOf q)) ∧
    (∀ C, Occ d (C.id :: p) (.cable C) → hrefName d (C.id :: p) = slashJoin (ns ++ [C.name])) ∧
    (∀ C w, Occ d (w.id :: C.id :: p) (.wire C w) →
      hrefName d (w.id :: C.id :: p) = slashJoin (ns ++ [C.name]) ++ busIndex C.isArray C.lower (C.wires.idxOf w)) :=
  hrefName_spec hwf hn

/-- every valid instance path has such a name list (so `hrefName_slash_joined` is not vacuous) -/
theorem instNames_exists {d : Design} {p : HRef} {e : Elem} (ho : Occ d p e) :
    ∀ c, e = .inst c → ∃ ns, InstNames d p ns := by
  induction ho with
  | top h1 h2 h3 h4 => intro c _; exact ⟨[], InstNames.top (Occ.top h1 h2 h3 h4)⟩
  | child hp hr hD hc ih =>
    intro c _
    obtain ⟨ns, hn⟩ := ih _ rfl
    exact ⟨_, InstNames.child hn (Occ.child hp hr hD hc)⟩
  | port _ _ _ _ _ => intro c hc; cases hc
  | pin _ _ _ => intro c hc; cases hc
  | cable _ _ _ _ _ => intro c hc; cases hc
  | wire _ _ _ => intro c hc; cases hc

/-! ### canonicity (the flyweight theorems `intern_*` carry the content; `eq_iff_same_path` and `hash_congr`
    only record that the model's `__eq__`/`__hash__` are functions of the path) -/

theorem eq_iff_same_path (a b : HRef) : hrefEq a b = true ↔ a = b := hrefEq_iff a b

theorem hash_congr (ih : Nat → Int) (wrap : Int → Int) (nh : Int) (a b : HRef) (h : hrefEq a b = true) :
    hrefHash ih wrap nh a = hrefHash ih wrap nh b := by
  rw [(hrefEq_iff a b).mp h]

/-- the flyweight table: the same path obtained twice is the same object, nothing new is allocated -/
theorem intern_same (t : Fly) (hi : t.Inv) (h : HRef) :
    ((t.intern h).1.intern h) = ((t.intern h).1, (t.intern h).2) := Fly.intern_same t hi h

/-- … and different paths are different objects -/
theorem intern_distinct (t : Fly) (hi : t.Inv) (a b : HRef) (hne : a ≠ b) :
    (t.intern a).2 ≠ ((t.intern a).1.intern b).2 := Fly.intern_distinct t hi a b hne

/-- interning preserves the invariant of the table (the empty table has it: `Fly.inv_empty`) -/
theorem intern_inv (t : Fly) (hi : t.Inv) (h : HRef) : (t.intern h).1.Inv := Fly.intern_inv t h hi

/-- `is_unique` (repaired code) is true exactly when the reference is valid and is the only
    occurrence of its element; `finished` = the upward search emptied its work list within its fuel.
    Together with `isValid_iff` this is "a reference reports invalid / unique or not in agreement with
    the current netlist", for any design — in particular after edits. -/
theorem isUnique_iff {d : Design} (hwf : WF d) (hs : Acyclic d) (h : HRef) :
    ((isUnique d h).1 = true ↔ ∃ e, Occ d h e ∧ ∀ h', Occ d h' e → h' = h) ∧ (isUnique d h).2 = true :=
  ⟨isUnique_iff' hwf hs h, isUnique_finished d h⟩

theorem isUnique_invalid {d : Design} (hwf : WF d) (h : HRef) (hnv : ¬ ValidPath d h) : isUnique d h = (false, true) := by
  unfold isUnique
  rw [if_neg]
  intro hv
  exact hnv ((isValid_iff hwf h).mp hv)

/-! ### non-vacuity -/

example : WF exD := by decide +kernel
example : Acyclic exD := by decide +kernel
example : exD.topInst = some ⟨12, "top", some 2⟩ := by decide +kernel
example : isValid exD [7, 6, 9, 12] = true := by decide +kernel
example : isValid exD [7, 6, 12] = false := by decide +kernel
example : (getHInstances exD .netlist true).1 = [[8, 12], [5, 8, 12], [9, 12], [5, 9, 12]] := by decide +kernel
example : (getHWires exD .netlist true .inside).1.length = 4 := by decide +kernel
/-- the shared definition `mid`: its wire 7 has exactly the two occurrences -/
example : (hrefsOfItem exD (.wire 7)).1 = [[7, 6, 8, 12], [7, 6, 9, 12]] ∧ (hrefsOfItem exD (.wire 7)).2 = true := by decide +kernel
example : hrefName exD [7, 6, 9, 12] = "b/n" := by decide +kernel
example : hrefName exD [16, 10, 12] = "t[4]" := by decide +kernel
example : hrefName exD [15, 13, 12] = "B[3]" := by decide +kernel
/-- `a` occurs once; `l` (inside the shared `mid`) twice; the top-level wire once -/
example : (isUnique exD [8, 12]).1 = true ∧ (isUnique exD [5, 8, 12]).1 = false ∧
    (isUnique exD [11, 10, 12]).1 = true ∧ (isUnique exD [7, 6, 8, 12]).1 = false ∧
    (isUnique exD [7, 6, 12]) = (false, true) := by decide +kernel

end Spydr.Hier
