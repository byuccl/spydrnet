/-
  C12 — cross-hierarchy tracing returns exactly the electrically connected net.

  Statements are for ALL designs `d`; the hypotheses are decidable and checked by the driver on every
  generated input: `WF d` (identities unique), `WFNet d` (inside one definition each pin reference
  is on at most one wire), and — for the completeness half of selection ALL — `finished = true`
  (second component of the query: the work-list closure emptied within its fuel).
  `Conn d` is the equivalence closure of the attachment relation `Adj d` (Spec.lean), defined
  without reference to the algorithm.

  `trace_all_total` (below) proves that under `Acyclic d` the fuel the model gives the closure always
  suffices (potential-function argument over the finite universe of valid hierarchical pins and
  wires: `Reach.go_finished` in LemmasReach, `traceAll_finished` in LemmasFuel); `trace_all_spec_total` is the
  resulting form without the `finished` hypothesis.  The driver reports the flag for every query and
  the harness checks it.
-/
import Spydr.Hier.LemmasFuel
import Spydr.Hier.Example

namespace Spydr.Hier

/-- the start nodes the closure is run from, for a reference to a wire / pin / cable / port -/
def traceInit (d : Design) (x : HRef) : List HRef :=
  match resolve d x with
  | some (.wire _ _) => [x]
  | some (.pin _ _) => [x]
  | some (.cable C) => C.wires.map (fun w => w.id :: x)
  | some (.port P) => P.pins.map (fun q => q :: x)
  | _ => []

theorem hwiresOfHRef_all {d : Design} (hwf : WF d) (rec : Bool) {x : HRef}
    (hx : IsHWire d x ∨ IsHPin d x ∨ IsHCable d x ∨ IsHPort d x) :
    hwiresOfHRef d rec .all x = traceAll d (traceInit d x) := by
  unfold hwiresOfHRef traceInit
  rcases hx with ⟨C, w, ho⟩ | ⟨P, q, ho⟩ | ⟨C, ho⟩ | ⟨P, ho⟩ <;> simp [resolve_complete hwf ho]

theorem traceInit_self {d : Design} (hwf : WF d) {x : HRef} (hx : IsHWire d x ∨ IsHPin d x) :
    traceInit d x = [x] := by
  unfold traceInit
  rcases hx with ⟨C, w, ho⟩ | ⟨P, q, ho⟩ <;> rw [resolve_complete hwf ho]

/-- C12, selection ALL — from a valid hierarchical wire or pin `x`, `get_hwires(x, ALL)` is
    exactly the set of hierarchical wires electrically connected to `x`, without duplicates. -/
theorem trace_all_spec {d : Design} (hwf : WF d) (hnn : WFNet d) (x : HRef) (rec : Bool)
    (hx : IsHWire d x ∨ IsHPin d x)
    (hfin : (getHWires d (.href x) rec .all).2 = true) :
    (∀ w, w ∈ (getHWires d (.href x) rec .all).1 ↔ IsHWire d w ∧ Conn d x w) ∧
    (getHWires d (.href x) rec .all).1.Nodup := by
  have hx4 : IsHWire d x ∨ IsHPin d x ∨ IsHCable d x ∨ IsHPort d x := hx.imp_right Or.inl
  rw [getHWires_href, hwiresOfHRef_all hwf rec hx4, traceInit_self hwf hx] at hfin ⊢
  refine ⟨fun w => ?_, nodup_dedup _⟩
  rw [mem_dedup, mem_traceAll hwf hnn [x] hfin]
  simp

/-- soundness half without any fuel hypothesis: whatever `get_hwires(x, ALL)` returns is a valid
    hierarchical wire connected to a start node -/
theorem trace_all_sound {d : Design} (hwf : WF d) (hnn : WFNet d) (x : HRef) (rec : Bool)
    (hx : IsHWire d x ∨ IsHPin d x) (w : HRef) (hw : w ∈ (getHWires d (.href x) rec .all).1) :
    IsHWire d w ∧ Conn d x w := by
  have hx4 : IsHWire d x ∨ IsHPin d x ∨ IsHCable d x ∨ IsHPort d x := hx.imp_right Or.inl
  rw [getHWires_href, hwiresOfHRef_all hwf rec hx4, traceInit_self hwf hx, mem_dedup] at hw
  simpa using traceAll_sound hwf hnn [x] w hw

/-- every member of a net gives the same answer -/
theorem trace_same_answer {d : Design} (hwf : WF d) (hnn : WFNet d) (x y : HRef) (rec : Bool)
    (hx : IsHWire d x ∨ IsHPin d x) (hy : IsHWire d y ∨ IsHPin d y) (hc : Conn d x y)
    (hfx : (getHWires d (.href x) rec .all).2 = true) (hfy : (getHWires d (.href y) rec .all).2 = true) (w : HRef) :
    w ∈ (getHWires d (.href x) rec .all).1 ↔ w ∈ (getHWires d (.href y) rec .all).1 := by
  rw [(trace_all_spec hwf hnn x rec hx hfx).1, (trace_all_spec hwf hnn y rec hy hfy).1]
  exact and_congr_right fun _ => ⟨(hc.symm.trans ·), (hc.trans ·)⟩

/-- a hierarchical wire is in its own answer -/
theorem trace_all_self {d : Design} (hwf : WF d) (hnn : WFNet d) (x : HRef) (rec : Bool) (hx : IsHWire d x)
    (hfin : (getHWires d (.href x) rec .all).2 = true) : x ∈ (getHWires d (.href x) rec .all).1 :=
  ((trace_all_spec hwf hnn x rec (Or.inl hx) hfin).1 x).mpr ⟨hx, Conn.refl x⟩

/-- from a hierarchical cable / port: the union over its wires / pins -/
theorem trace_all_of_bundle {d : Design} (hwf : WF d) (hnn : WFNet d) (x : HRef) (rec : Bool)
    (hx : IsHCable d x ∨ IsHPort d x)
    (hfin : (getHWires d (.href x) rec .all).2 = true) (w : HRef) :
    w ∈ (getHWires d (.href x) rec .all).1 ↔ IsHWire d w ∧ ∃ y ∈ traceInit d x, Conn d y w := by
  rw [getHWires_href, hwiresOfHRef_all hwf rec (Or.inr (Or.inr hx))] at hfin ⊢
  rw [mem_dedup, mem_traceAll hwf hnn _ hfin]

theorem mem_traceInit_cable {d : Design} (hwf : WF d) {x : HRef} {C : Cable} (hx : Occ d x (.cable C)) (y : HRef) :
    y ∈ traceInit d x ↔ ∃ w ∈ C.wires, y = w.id :: x := by
  unfold traceInit
  simp [resolve_complete hwf hx, eq_comm]

theorem mem_traceInit_port {d : Design} (hwf : WF d) {x : HRef} {P : Port} (hx : Occ d x (.port P)) (y : HRef) :
    y ∈ traceInit d x ↔ ∃ q ∈ P.pins, y = q :: x := by
  unfold traceInit
  simp [resolve_complete hwf hx, eq_comm]

/-- C12, INSIDE / OUTSIDE of a hierarchical pin: exactly the wire attached on that side
    (at most one), i.e. the `Adj`-neighbour living in the pin's own instance, resp. in the parent. -/
theorem inside_outside_spec {d : Design} (hwf : WF d) (hnn : WFNet d) (x : HRef) (rec : Bool) (hx : IsHPin d x) :
    (∀ w, w ∈ (getHWires d (.href x) rec .inside).1 ↔ Adj d x w ∧ w.tail.tail = x.tail.tail) ∧
    (∀ w, w ∈ (getHWires d (.href x) rec .outside).1 ↔
        Adj d x w ∧ w.tail.tail = x.tail.tail.tail ∧ x.tail.tail ≠ []) ∧
    (getHWires d (.href x) rec .inside).1.length ≤ 1 ∧ (getHWires d (.href x) rec .outside).1.length ≤ 1 ∧
    (getHWires d (.href x) rec .inside).2 = true ∧ (getHWires d (.href x) rec .outside).2 = true := by
  obtain ⟨P, q, ho⟩ := hx
  have hi : hwiresOfHRef d rec .inside x = ((innerWire d x).toList, true) := by
    simp [hwiresOfHRef, resolve_complete hwf ho, wiresOfPinSel]
  have ho' : hwiresOfHRef d rec .outside x = ((outerWire d x).toList, true) := by
    simp [hwiresOfHRef, resolve_complete hwf ho, wiresOfPinSel]
  rw [getHWires_href, getHWires_href, hi, ho']
  refine ⟨fun w => ?_, fun w => ?_, ?_, ?_, rfl, rfl⟩
  · rw [mem_dedup, Option.mem_toList]
    exact innerWire_iff hwf hnn ho w
  · rw [mem_dedup, Option.mem_toList]
    exact outerWire_iff hwf hnn ho w
  · cases innerWire d x <;> simp [dedup]
  · cases outerWire d x <;> simp [dedup]

/-- C12, pins of a hierarchical wire: exactly the port pins and sub-instance pins attached. -/
theorem hpins_of_hwire_spec {d : Design} (hwf : WF d) (x : HRef) (rec : Bool) (hx : IsHWire d x) :
    (∀ n, n ∈ (getHPins d (.href x) rec).1 ↔ Adj d n x) ∧ (getHPins d (.href x) rec).1.Nodup ∧
    (getHPins d (.href x) rec).2 = true := by
  obtain ⟨C, w, ho⟩ := hx
  rw [getHPins_href]
  refine ⟨fun n => ?_, nodup_dedup _, rfl⟩
  simp only [mem_dedup, hpinsOfHRef, resolve_complete hwf ho]
  exact (adj_iff_wire hwf ho n).symm

/-- the attached pins are valid hierarchical pins (port pins of the wire's instance, or pins of a
    sub-instance one level down) -/
theorem hpins_of_hwire_valid {d : Design} (hwf : WF d) (x : HRef) (rec : Bool) (hx : IsHWire d x) (n : HRef)
    (hn : n ∈ (getHPins d (.href x) rec).1) :
    IsHPin d n ∧ (n.tail.tail = x.tail.tail ∨ n.tail.tail.tail = x.tail.tail) := by
  have h := ((hpins_of_hwire_spec hwf x rec hx).1 n).mp hn
  refine ⟨h.kinds.1, ?_⟩
  cases h with
  | inside => exact Or.inl rfl
  | outside => exact Or.inr rfl


theorem traceInit_valid {d : Design} (x : HRef) : ∀ y ∈ traceInit d x, IsHPin d y ∨ IsHWire d y := by
  intro y hy
  unfold traceInit at hy
  match hres : resolve d x, hy with
  | some (.port P), hy =>
    obtain ⟨q, hq, rfl⟩ := List.mem_map.mp hy
    exact Or.inl ⟨P, q, Occ.pin (resolve_sound d x _ hres) hq⟩
  | some (.pin P q), hy => exact Or.inl ⟨P, q, List.mem_singleton.mp hy ▸ resolve_sound d x _ hres⟩
  | some (.cable C), hy =>
    obtain ⟨w, hw, rfl⟩ := List.mem_map.mp hy
    exact Or.inr ⟨C, w, Occ.wire (resolve_sound d x _ hres) hw⟩
  | some (.wire C w), hy => exact Or.inr ⟨C, w, List.mem_singleton.mp hy ▸ resolve_sound d x _ hres⟩

/-- fuel sufficiency: for an acyclic design, `get_hwires(x, ALL)` of the model always terminates
    with `finished = true`, from any valid hierarchical wire, pin, cable or port. -/
theorem trace_all_total {d : Design} (hwf : WF d) (hnn : WFNet d) (hs : Acyclic d) (x : HRef) (rec : Bool)
    (hx : IsHWire d x ∨ IsHPin d x ∨ IsHCable d x ∨ IsHPort d x) :
    (getHWires d (.href x) rec .all).2 = true := by
  rw [getHWires_href, hwiresOfHRef_all hwf rec hx]
  exact traceAll_finished hwf hnn hs _ (traceInit_valid x)

/-- C12, selection ALL, with `finished = true` as a conclusion instead of a hypothesis. -/
theorem trace_all_spec_total {d : Design} (hwf : WF d) (hnn : WFNet d) (hs : Acyclic d) (x : HRef) (rec : Bool)
    (hx : IsHWire d x ∨ IsHPin d x) :
    (∀ w, w ∈ (getHWires d (.href x) rec .all).1 ↔ IsHWire d w ∧ Conn d x w) ∧
    (getHWires d (.href x) rec .all).1.Nodup ∧ (getHWires d (.href x) rec .all).2 = true := by
  have hfin := trace_all_total hwf hnn hs x rec (hx.imp_right Or.inl)
  exact ⟨(trace_all_spec hwf hnn x rec hx hfin).1, (trace_all_spec hwf hnn x rec hx hfin).2, hfin⟩

/-- members of one net give the same answer — unconditional form -/
theorem trace_same_answer_total {d : Design} (hwf : WF d) (hnn : WFNet d) (hs : Acyclic d) (x y : HRef) (rec : Bool)
    (hx : IsHWire d x ∨ IsHPin d x) (hy : IsHWire d y ∨ IsHPin d y) (hc : Conn d x y) (w : HRef) :
    w ∈ (getHWires d (.href x) rec .all).1 ↔ w ∈ (getHWires d (.href y) rec .all).1 :=
  trace_same_answer hwf hnn x y rec hx hy hc (trace_all_total hwf hnn hs x rec (hx.imp_right Or.inl))
    (trace_all_total hwf hnn hs y rec (hy.imp_right Or.inl)) w

/-- `get_hcables(x, sel)` is the image of `get_hwires(x, sel)` under "cable of", for every selection
    (for a cable start with INSIDE the answer is the cable itself: `queries_on_hcable` in C11) -/
theorem hcables_image {d : Design} (hwf : WF d) (x : HRef) (rec : Bool) (sel : Sel)
    (hx : IsHWire d x ∨ IsHPin d x ∨ IsHPort d x ∨ (IsHCable d x ∧ sel ≠ .inside)) (c : HRef) :
    c ∈ (getHCables d (.href x) rec sel).1 ↔ ∃ w ∈ (getHWires d (.href x) rec sel).1, c = w.tail := by
  have : hcablesOfHRef d rec sel x = ((hwiresOfHRef d rec sel x).1.map List.tail, (hwiresOfHRef d rec sel x).2) := by
    unfold hcablesOfHRef
    rcases hx with ⟨C, w', ho⟩ | ⟨P, q, ho⟩ | ⟨P, ho⟩ | ⟨⟨C, ho⟩, hne⟩ <;> simp [resolve_complete hwf ho, *]
  simp only [getHCables_href, getHWires_href, this, mem_dedup, List.mem_map, eq_comm]

/-- `get_hcables(x, ALL)` is the image of `get_hwires(x, ALL)` under "cable of" -/
theorem hcables_all_image {d : Design} (hwf : WF d) (x : HRef) (rec : Bool)
    (hx : IsHWire d x ∨ IsHPin d x ∨ IsHCable d x ∨ IsHPort d x) (c : HRef) :
    c ∈ (getHCables d (.href x) rec .all).1 ↔ ∃ w ∈ (getHWires d (.href x) rec .all).1, c = w.tail :=
  hcables_image hwf x rec .all
    (hx.imp_right fun h => h.imp_right fun h => h.symm.imp_right fun h => ⟨h, by simp⟩) c

/-- BOTH on a hierarchical pin: the wires attached to it (inside and outside) -/
theorem both_of_pin_spec {d : Design} (hwf : WF d) (hnn : WFNet d) (x : HRef) (rec : Bool) (hx : IsHPin d x) (w : HRef) :
    w ∈ (getHWires d (.href x) rec .both).1 ↔ Adj d x w := by
  obtain ⟨P, q, ho⟩ := hx
  have hb : hwiresOfHRef d rec .both x = ((innerWire d x).toList ++ (outerWire d x).toList, true) := by
    unfold hwiresOfHRef
    rw [resolve_complete hwf ho]
    simp [wiresOfPinSel]
  rw [getHWires_href, hb, mem_dedup, List.mem_append, Option.mem_toList, Option.mem_toList, adj_iff_pin hwf hnn ho]

/-- the tag of `pinsOfWireT`: which side of the pin the wire is on -/
theorem pinsOfWireT_side {d : Design} (hwf : WF d) (hnn : WFNet d) {m : HRef} {C : Cable} {w : Wire}
    (hm : Occ d m (.wire C w)) (b : Bool) (n : HRef) (hmem : (b, n) ∈ pinsOfWireT d m) :
    (if b then outerWire d n else innerWire d n) = some m := by
  obtain ⟨p, i, r, D, rfl, hp, hr, hD, hC, hw⟩ := hm.wire_inv
  simp only [pinsOfWireT, resolve_complete hwf hm, List.tail_cons, resolve_complete hwf hp,
    defOf_eq_some.mpr ⟨r, hr, hD⟩, List.mem_filterMap] at hmem
  obtain ⟨pr, hpr, he⟩ := hmem
  rcases hpinOfRef_some.mp he with ⟨q, P, rfl, -, rfl, rfl⟩ | ⟨c, q, ci, D2, P, rfl, -, -, -, rfl, rfl⟩
  · exact innerWire_of_adj_inside (P := P) hwf hnn hp hr hD hC hw hpr
  · exact outerWire_of_adj_outside (P := P) hwf hnn hp hr hD hC hw hpr

theorem inner_ne_outer {d : Design} (hwf : WF d) (hnn : WFNet d) {n a b : HRef} {P : Port} {q : Nat}
    (hn : Occ d n (.pin P q)) (ha : innerWire d n = some a) (hb : outerWire d n = some b) : a ≠ b := by
  rintro rfl
  obtain ⟨_, h1⟩ := (innerWire_iff hwf hnn hn a).mp ha
  obtain ⟨_, h2, h3⟩ := (outerWire_iff hwf hnn hn a).mp hb
  obtain ⟨x, t, hl⟩ := List.exists_cons_of_ne_nil h3
  rw [h1, hl] at h2
  exact absurd (congrArg List.length h2) (by simp)

/-- OUTSIDE on a hierarchical wire: the wires on the far side of its pins — across a port pin the
    wire in the parent, across a sub-instance pin the wire inside the sub-instance. -/
theorem outside_of_wire_spec {d : Design} (hwf : WF d) (hnn : WFNet d) (x : HRef) (rec : Bool) (hx : IsHWire d x) (w' : HRef) :
    w' ∈ (getHWires d (.href x) rec .outside).1 ↔ ∃ n, Adj d n x ∧ Adj d n w' ∧ w' ≠ x := by
  obtain ⟨C, w, ho⟩ := hx
  have hb : hwiresOfHRef d rec .outside x = (acrossWire d x, true) := by
    unfold hwiresOfHRef
    rw [resolve_complete hwf ho]
  -- a pin of `x` has `x` on one side (the tag says which); the wire across is the one on its other side
  have key : ∀ b n, (b, n) ∈ pinsOfWireT d x →
      (w' ∈ (if b then (innerWire d n).toList else (outerWire d n).toList) ↔ Adj d n w' ∧ w' ≠ x) := by
    intro b n hmem
    have hadj : Adj d n x := (adj_iff_wire hwf ho n).mpr (List.mem_map.mpr ⟨_, hmem, rfl⟩)
    obtain ⟨P, q, hnp⟩ := hadj.kinds.1
    have hs := pinsOfWireT_side hwf hnn ho b n hmem
    rw [adj_iff_pin hwf hnn hnp]
    cases b <;> simp only [Bool.false_eq_true, if_false, if_true, Option.mem_toList] at hs ⊢
    · refine ⟨fun h => ⟨Or.inr h, (inner_ne_outer hwf hnn hnp hs h).symm⟩, fun ⟨h, hne⟩ => h.resolve_left fun h => ?_⟩
      exact hne (Option.some.inj (h.symm.trans hs))
    · refine ⟨fun h => ⟨Or.inl h, inner_ne_outer hwf hnn hnp h hs⟩, fun ⟨h, hne⟩ => h.resolve_right fun h => ?_⟩
      exact hne (Option.some.inj (h.symm.trans hs))
  rw [getHWires_href, hb, mem_dedup]
  unfold acrossWire
  rw [List.mem_flatMap]
  constructor
  · rintro ⟨⟨b, n⟩, hmem, hw'⟩
    exact ⟨n, (adj_iff_wire hwf ho n).mpr (List.mem_map.mpr ⟨_, hmem, rfl⟩), (key b n hmem).mp hw'⟩
  · rintro ⟨n, h1, h2⟩
    obtain ⟨⟨b, n'⟩, hmem, rfl⟩ := List.mem_map.mp ((adj_iff_wire hwf ho n).mp h1)
    exact ⟨(b, n'), hmem, (key b n' hmem).mpr h2⟩

/-- BOTH on a hierarchical wire: itself and every wire attached to one of its pins -/
theorem both_of_wire_spec {d : Design} (hwf : WF d) (hnn : WFNet d) (x : HRef) (rec : Bool) (hx : IsHWire d x) (w' : HRef) :
    w' ∈ (getHWires d (.href x) rec .both).1 ↔ w' = x ∨ ∃ n, Adj d n x ∧ Adj d n w' := by
  obtain ⟨C, w, ho⟩ := hx
  have hb : hwiresOfHRef d rec .both x = (x :: (pinsOfWire d x).flatMap (wiresOfPinSel d .both), true) := by
    unfold hwiresOfHRef
    rw [resolve_complete hwf ho]
  rw [getHWires_href, hb, mem_dedup, List.mem_cons, List.mem_flatMap]
  refine or_congr_right (exists_congr fun n => ?_)
  rw [← adj_iff_wire hwf ho n]
  refine and_congr_right fun h1 => ?_
  obtain ⟨P, q, hnp⟩ := h1.kinds.1
  simp only [wiresOfPinSel, List.mem_append, Option.mem_toList, adj_iff_pin hwf hnn hnp]

/-- narrow selections on a hierarchical port: the union over its pins -/
theorem narrow_of_port_spec {d : Design} (hwf : WF d) (x : HRef) (rec : Bool) (sel : Sel) (hsel : sel ≠ .all)
    {P : Port} (hx : Occ d x (.port P)) (w : HRef) :
    w ∈ (getHWires d (.href x) rec sel).1 ↔ ∃ q ∈ P.pins, w ∈ (getHWires d (.href (q :: x)) rec sel).1 := by
  have hb : (hwiresOfHRef d rec sel x).1 = (P.pins.map (fun q => q :: x)).flatMap (wiresOfPinSel d sel) := by
    simp [hwiresOfHRef, resolve_complete hwf hx, hsel]
  have hp : ∀ q ∈ P.pins, (hwiresOfHRef d rec sel (q :: x)).1 = wiresOfPinSel d sel (q :: x) := fun q hq => by
    simp [hwiresOfHRef, resolve_complete hwf (Occ.pin hx hq), hsel]
  simp only [getHWires_href, mem_dedup, hb, List.mem_flatMap, List.mem_map, exists_exists_and_eq_and]
  exact exists_congr fun q => and_congr_right fun hq => by rw [hp q hq]

/-- OUTSIDE / BOTH / INSIDE on a hierarchical cable: the union over its wires -/
theorem narrow_of_cable_spec {d : Design} (hwf : WF d) (x : HRef) (rec : Bool) (sel : Sel) (hsel : sel ≠ .all)
    {C : Cable} (hx : Occ d x (.cable C)) (w' : HRef) :
    w' ∈ (getHWires d (.href x) rec sel).1 ↔ ∃ w ∈ C.wires, w' ∈ (getHWires d (.href (w.id :: x)) rec sel).1 := by
  have hw : ∀ w ∈ C.wires, resolve d (w.id :: x) = some (.wire C w) := fun w hw => resolve_complete hwf (Occ.wire hx hw)
  simp only [getHWires_href, mem_dedup]
  unfold hwiresOfHRef
  rw [resolve_complete hwf hx]
  cases sel with
  | all => exact absurd rfl hsel
  | _ =>
    simp only [List.mem_map, List.mem_flatMap, exists_exists_and_eq_and]
    refine exists_congr fun w => and_congr_right fun hwm => ?_
    simp [hw w hwm, eq_comm]


/-! ### non-vacuity: the hypotheses hold on a concrete three-level design with a shared definition,
    and the statements have content there (the start wire touches only instance pins — the shape on
    which the pinned commit's `get_hwires(…, ALL)` stops early) -/

example : WF exD := by decide +kernel
example : WFNet exD := by decide +kernel
example : Sorted exD := by decide +kernel
example : IsHWire exD [11, 10, 12] := (isWireRef_iff (by decide +kernel) _).mp (by decide +kernel)
example : (getHWires exD (.href [11, 10, 12]) false .all).2 = true := by decide +kernel
example : (getHWires exD (.href [11, 10, 12]) false .all).1 = [[7, 6, 9, 12], [7, 6, 8, 12], [11, 10, 12]] := by decide +kernel
/-- the two occurrences of `mid`'s wire are connected through the top wire -/
example : Conn exD [7, 6, 8, 12] [7, 6, 9, 12] := by
  have hx : IsHWire exD [11, 10, 12] := (isWireRef_iff (by decide +kernel) _).mp (by decide +kernel)
  have h := (trace_all_spec (by decide +kernel : WF exD) (by decide +kernel) [11, 10, 12] false (Or.inl hx) (by decide +kernel)).1
  exact Conn.trans (Conn.symm ((h [7, 6, 8, 12]).mp (by decide +kernel)).2) ((h [7, 6, 9, 12]).mp (by decide +kernel)).2
example : IsHPin exD [4, 3, 8, 12] := (isPinRef_iff (by decide +kernel) _).mp (by decide +kernel)
example : (getHWires exD (.href [4, 3, 8, 12]) false .inside).1 = [[7, 6, 8, 12]] := by decide +kernel
example : (getHWires exD (.href [4, 3, 8, 12]) false .outside).1 = [[11, 10, 12]] := by decide +kernel
example : (getHPins exD (.href [11, 10, 12]) false).1 = [[4, 3, 8, 12], [4, 3, 9, 12]] := by decide +kernel
/-- an unconnected side: the top-level port pin 15 has no wire on either side -/
example : (getHWires exD (.href [15, 13, 12]) false .all).1 = [] := by decide +kernel

end Spydr.Hier
