/-
  The back-pointers of the Python objects (`definition.references`, `instance.parent`) are recomputed from the value
  (`refsOf`, `parentOf`, `upSucc`); the instance identities are a finite universe, so the upward searches finish within
  `upFuel`.  `get_all_hrefs_of_instances` (`allHrefs`: upward bound set by `Reach.go`, pruned downward search) returns exactly
  the valid instance paths ending in the given instances; `defWith` finds the definition that owns an element.
-/
import Spydr.Hier.LemmasEnum
import Spydr.Hier.LemmasReach

namespace Spydr.Hier

def InstRec (d : Design) (i : Inst) : Prop :=
  d.top = some i ∨ ∃ (k : Nat) (D : Defn), d.defs[k]? = some D ∧ i ∈ D.children

/-- `y` is (the identity of) an instance of the definition that contains the instance `x` -/
def Parent (d : Design) (x y : Nat) : Prop :=
  ∃ (c : Inst) (k : Nat) (D : Defn) (i : Inst),
    d.defs[k]? = some D ∧ c ∈ D.children ∧ c.id = x ∧ InstRec d i ∧ i.id = y ∧ i.ref = some k

theorem mem_childTable {d : Design} (c : Inst) (k : Nat) :
    (c, k) ∈ d.childTable ↔ ∃ D, d.defs[k]? = some D ∧ c ∈ D.children := by
  simp [Design.childTable, List.mk_mem_zipIdx_iff_getElem?]

def instIds (d : Design) : List Nat := topIds d ++ d.childTable.map (fun cp => cp.1.id)

theorem WF.instIds_nodup {d : Design} (hwf : WF d) : (instIds d).Nodup := by
  have : d.childTable.map (fun cp => cp.1.id) = (allChildren d).map (·.id) := by
    simp only [Design.childTable, allChildren, List.map_flatMap, List.map_map, Function.comp_def]
    conv_rhs => rw [← List.zipIdx_map_fst 0 d.defs, List.flatMap_map]
  unfold instIds
  rw [this]
  exact hwf.2.1

theorem WF.top_not_child {d : Design} (hwf : WF d) {t c : Inst} {k : Nat} (ht : d.top = some t)
    (hc : (c, k) ∈ d.childTable) : t.id ≠ c.id :=
  (List.nodup_append.mp hwf.instIds_nodup).2.2 _ (by simp [topIds, ht]) _ (List.mem_map.mpr ⟨(c, k), hc, rfl⟩)

theorem WF.childTable_find {d : Design} (hwf : WF d) {c : Inst} {k : Nat} (h : (c, k) ∈ d.childTable) :
    d.childTable.find? (fun cp => cp.1.id == c.id) = some (c, k) :=
  find?_key (fun cp : Inst × Nat => cp.1.id) (List.nodup_append.mp hwf.instIds_nodup).2.1 h

theorem WF.childTable_unique {d : Design} (hwf : WF d) {c c' : Inst} {k k' : Nat}
    (h1 : (c, k) ∈ d.childTable) (h2 : (c', k') ∈ d.childTable) (he : c.id = c'.id) : c = c' ∧ k = k' := by
  cases Option.some.inj ((hwf.childTable_find h1).symm.trans (he ▸ hwf.childTable_find h2))
  exact ⟨rfl, rfl⟩

theorem WF.parentOf_eq {d : Design} (hwf : WF d) {c : Inst} {k : Nat} (h : (c, k) ∈ d.childTable) :
    d.parentOf c.id = some k := by
  simp [Design.parentOf, hwf.childTable_find h]

theorem parentOf_some {d : Design} {x k : Nat} (h : d.parentOf x = some k) :
    ∃ c, (c, k) ∈ d.childTable ∧ c.id = x := by
  obtain ⟨cp, hf, rfl⟩ := Option.map_eq_some_iff.mp h
  exact ⟨cp.1, List.mem_of_find?_eq_some hf, by simpa using List.find?_some hf⟩

theorem instRec_iff {d : Design} (i : Inst) : InstRec d i ↔ d.top = some i ∨ ∃ k, (i, k) ∈ d.childTable := by
  simp only [InstRec, mem_childTable]

theorem mem_refsOf {d : Design} (y k : Nat) :
    y ∈ d.refsOf k ↔ ∃ i, InstRec d i ∧ i.id = y ∧ i.ref = some k := by
  simp only [Design.refsOf, List.mem_append, List.mem_map, List.mem_filter, beq_iff_eq, instRec_iff,
    or_and_right, exists_or]
  refine or_congr ?_ ⟨fun ⟨cp, ⟨hm, hr⟩, he⟩ => ⟨cp.1, ⟨cp.2, hm⟩, he, hr⟩,
    fun ⟨i, ⟨k', hm⟩, he, hr⟩ => ⟨(i, k'), ⟨hm, hr⟩, he⟩⟩
  cases d.top with
  | none => simp
  | some t => by_cases h : t.ref = some k <;> simp [h, eq_comm]

theorem mem_upSucc {d : Design} (hwf : WF d) (x y : Nat) : y ∈ upSucc d x ↔ Parent d x y := by
  unfold upSucc Parent
  constructor
  · intro h
    split at h
    next k hk =>
      obtain ⟨c, hc, hx⟩ := parentOf_some hk
      obtain ⟨D, hD, hcD⟩ := (mem_childTable c k).mp hc
      obtain ⟨i, hi, hy, hr⟩ := (mem_refsOf y k).mp h
      exact ⟨c, k, D, i, hD, hcD, hx, hi, hy, hr⟩
    next => cases h
  · rintro ⟨c, k, D, i, hD, hcD, rfl, hi, hy, hr⟩
    rw [hwf.parentOf_eq ((mem_childTable c k).mpr ⟨D, hD, hcD⟩)]
    exact (mem_refsOf y k).mpr ⟨i, hi, hy, hr⟩

theorem upSucc_mem_instIds {d : Design} (x y : Nat) (hy : y ∈ upSucc d x) : y ∈ instIds d := by
  unfold upSucc at hy
  split at hy
  next =>
    obtain ⟨i, hi, rfl, _⟩ := (mem_refsOf y _).mp hy
    rcases (instRec_iff i).mp hi with h | ⟨k, hk⟩
    · exact List.mem_append_left _ (by simp [topIds, h])
    · exact List.mem_append_right _ (List.mem_map.mpr ⟨(i, k), hk, rfl⟩)
  next => cases hy

theorem upSucc_length_le (d : Design) (x : Nat) : (upSucc d x).length ≤ d.childTable.length + 1 := by
  have h1 := fun k => List.length_filter_le (fun cp : Inst × Nat => cp.1.ref == some k) d.childTable
  unfold upSucc Design.refsOf
  split
  next k _ =>
    rw [List.length_append, List.length_map]
    split <;> [split; skip] <;> simp <;> have := h1 k <;> omega
  next => simp

theorem instIds_length_le (d : Design) : (instIds d).length ≤ d.childTable.length + 1 := by
  unfold instIds topIds
  rw [List.length_append, List.length_map]
  split <;> simp
  omega

/-- the upward searches always finish within `upFuel`: at most `childTable.length + 1` instance identities,
    each with at most as many parents -/
theorem upSearch_finished (d : Design) (l : List Nat) :
    (Reach.go (upSucc d) (upFuel d (l.flatMap (upSucc d))) (l.flatMap (upSucc d)) []).2 = true := by
  refine Reach.go_finished (upSucc d) (instIds d) (d.childTable.length + 2) (fun x _ => upSucc_mem_instIds x)
    (fun x _ => Nat.lt_succ_of_le (upSucc_length_le d x)) (fun x hx => ?_) ?_
  · obtain ⟨b, _, hb⟩ := List.mem_flatMap.mp hx
    exact upSucc_mem_instIds b x hb
  · exact Nat.add_le_add_left (Nat.mul_le_mul_right _ (Nat.le_succ_of_le (instIds_length_le d))) _

theorem allHrefs_finished (d : Design) (insts : List Nat) : (allHrefs d insts).2 = true := by
  unfold allHrefs
  split
  · simp only
    split <;> exact upSearch_finished d insts
  · rfl

theorem Occ.instRec {d : Design} {h : HRef} {c : Inst} (ho : Occ d h (.inst c)) : InstRec d c := by
  cases ho with
  | top h1 _ _ _ => exact Or.inl h1
  | child _ _ hD hc => exact Or.inr ⟨_, _, hD, hc⟩

theorem ancestor_transGen {d : Design} (hwf : WF d) {h : HRef} {c : Inst} (ho : Occ d h (.inst c))
    {q : HRef} {b : Inst} (hq : Occ d q (.inst b)) (hs : q <:+ h) (hne : q ≠ h) :
    Relation.TransGen (Parent d) c.id b.id :=
  hq.below_induction hwf (motive := fun _ c => Relation.TransGen (Parent d) c.id b.id)
    (fun hr hD hc => .single ⟨_, _, _, b, hD, hc, rfl, hq.instRec, rfl, hr⟩)
    (fun hj _ _ hr hD hc ih => .head ⟨_, _, _, _, hD, hc, rfl, hj.instRec, rfl, hr⟩ ih) ho hs hne.symm

theorem searchDown_sound (d : Design) (insts bound : List Nat) : ∀ (f : Nat) (p : HRef) (i : Inst),
    Occ d p (.inst i) → ∀ h, h ∈ searchDown d insts bound f p i → ∃ c, Occ d h (.inst c) ∧ c.id ∈ insts
  | 0, _, _, _, _, hm => by simp [searchDown] at hm
  | f+1, p, i, hp, h, hm => by
    simp only [searchDown, List.mem_append] at hm
    rcases hm with hm | hm
    · split at hm
      next hin => exact ⟨i, List.mem_singleton.mp hm ▸ hp, hin⟩
      next => cases hm
    · split at hm
      next D hD =>
        obtain ⟨r, hr, hD⟩ := defOf_eq_some.mp hD
        obtain ⟨c1, hc1, hm⟩ := List.mem_flatMap.mp hm
        have ho1 : Occ d (c1.id :: p) (.inst c1) := .child hp hr hD hc1
        split at hm
        · exact searchDown_sound d insts bound f (c1.id :: p) c1 ho1 h hm
        · split at hm
          next hin => exact ⟨c1, List.mem_singleton.mp hm ▸ ho1, hin⟩
          next => cases hm
      next => cases hm

/-- The search is pruned at a child outside `bound`; that loses nothing when `bound` holds every ancestor of
    the instances looked for. -/
theorem searchDown_complete {d : Design} (hwf : WF d) (hs : Sorted d) (insts bound : List Nat)
    (hb : ∀ x ∈ insts, ∀ y, Relation.TransGen (Parent d) x y → y ∈ bound) :
    ∀ (f : Nat) (p : HRef) (i : Inst), Occ d p (.inst i) →
      1 ≤ f → (∀ r D, i.ref = some r → d.defs[r]? = some D → r + 1 < f) →
      ∀ h c, Occ d h (.inst c) → c.id ∈ insts → p <:+ h → h ∈ searchDown d insts bound f p i
  | 0, _, _, _, h1, _, _, _, _, _, _ => absurd h1 (by omega)
  | f+1, p, i, hp, _, hf, h, c, ho, hin, hsuf => by
    simp only [searchDown, List.mem_append]
    by_cases he : h = p
    · subst he
      cases Occ.unique hwf hp ho
      exact .inl (by simp [hin])
    · obtain ⟨r, D, c1, a1, a2, a3, a4⟩ := exists_first_child hwf hp ho hsuf he
      have hfr := hf r D a1 a2
      simp only [defOf_eq_some.mpr ⟨r, a1, a2⟩, List.mem_flatMap]
      refine .inr ⟨c1, a3, ?_⟩
      have ho1 : Occ d (c1.id :: p) (.inst c1) := .child hp a1 a2 a3
      by_cases hbd : c1.id ∈ bound
      · rw [if_pos hbd]
        refine searchDown_complete hwf hs insts bound hb f (c1.id :: p) c1 ho1 (by omega) (fun r' D' hr' _ => ?_)
          h c ho hin a4
        have := hs.lt a2 a3 hr'
        omega
      · rw [if_neg hbd]
        by_cases he2 : h = c1.id :: p
        · subst he2
          cases Occ.unique hwf ho ho1
          simp [hin]
        · exact absurd (hb c.id hin c1.id (ancestor_transGen hwf ho ho1 a4 (Ne.symm he2))) hbd

theorem allHrefs_sound {d : Design} (insts : List Nat) {t : Inst} (ht : d.topInst = some t) (h : HRef)
    (hm : h ∈ (allHrefs d insts).1) : ∃ c, Occ d h (.inst c) ∧ c.id ∈ insts := by
  unfold allHrefs at hm
  simp only [topInst_top ht] at hm
  split at hm
  · exact searchDown_sound d insts _ _ [t.id] t (topInst_occ ht) h hm
  · cases hm

theorem mem_upSearch {d : Design} (hwf : WF d) (l : List Nat) (v : Nat) :
    v ∈ (Reach.go (upSucc d) (upFuel d (l.flatMap (upSucc d))) (l.flatMap (upSucc d)) []).1 ↔
      ∃ b ∈ l, Relation.TransGen (Parent d) b v := by
  have hstep : ∀ a b, Relation.ReflTransGen (Reach.Step (upSucc d)) a b ↔ Relation.ReflTransGen (Parent d) a b :=
    fun a b => ⟨Relation.ReflTransGen.mono (fun x y h => (mem_upSucc hwf x y).mp h) a b, Relation.ReflTransGen.mono (fun x y h => (mem_upSucc hwf x y).mpr h) a b⟩
  simp only [Reach.reach_spec _ _ _ (upSearch_finished d l), List.mem_flatMap, Reach.R, hstep, mem_upSucc hwf,
    Relation.TransGen.head'_iff]
  exact ⟨fun ⟨i0, ⟨b, hb, hbi⟩, hr⟩ => ⟨b, hb, i0, hbi, hr⟩, fun ⟨b, hb, i0, hbi, hr⟩ => ⟨i0, ⟨b, hb, hbi⟩, hr⟩⟩

/-- `get_all_hrefs_of_instances`.  No hypothesis on where the netlist is found: whenever an occurrence exists, the
    top instance is among the instances and their ancestors, and it leads to the netlist. -/
theorem mem_allHrefs {d : Design} (hwf : WF d) (hs : Sorted d) (insts : List Nat)
    {t : Inst} (ht : d.topInst = some t) (h : HRef) :
    h ∈ (allHrefs d insts).1 ↔ ∃ c, Occ d h (.inst c) ∧ c.id ∈ insts := by
  refine ⟨allHrefs_sound insts ht h, fun ⟨c, ho, hin⟩ => ?_⟩
  obtain ⟨h1, r, D, h2, h3, h4⟩ := topInst_eq_some.mp ht
  have hot := topInst_occ ht
  have hbound := fun x hx y hxy => (mem_upSearch hwf insts y).mpr ⟨x, hx, hxy⟩
  obtain ⟨t', e1, e3⟩ := ho.has_top
  cases ht.symm.trans e1
  unfold allHrefs
  simp only [h1]
  have hok : netlistOk d insts
      (Reach.go (upSucc d) (upFuel d (insts.flatMap (upSucc d))) (insts.flatMap (upSucc d)) []).1 = true := by
    refine List.any_eq_true.mpr ⟨t.id, List.mem_append.mpr ?_, by simp [leadsToNetlist, Design.instById, h1, h2, h3, h4]⟩
    by_cases hpb : [t.id] = h
    · subst hpb
      cases Occ.unique hwf hot ho
      exact .inl hin
    · exact .inr (hbound c.id hin t.id (ancestor_transGen hwf ho hot e3 hpb))
  rw [if_pos hok]
  refine searchDown_complete hwf hs insts _ hbound _ [t.id] t hot (by omega) (fun r' D' hr' hD' => ?_) h c ho hin e3
  have := (List.getElem?_eq_some_iff.mp hD').1
  omega

theorem WF.instRec_unique {d : Design} (hwf : WF d) {i i' : Inst} (h1 : InstRec d i) (h2 : InstRec d i')
    (he : i.id = i'.id) : i = i' := by
  rcases (instRec_iff i).mp h1 with a | ⟨k, a⟩ <;> rcases (instRec_iff i').mp h2 with b | ⟨k', b⟩
  · exact Option.some.inj (a.symm.trans b)
  · exact absurd he (hwf.top_not_child a b)
  · exact absurd he.symm (hwf.top_not_child b a)
  · exact (hwf.childTable_unique a b he).1

theorem WF.mem_refsOf_occ {d : Design} (hwf : WF d) {p : HRef} {c : Inst} (ho : Occ d p (.inst c)) (k : Nat) :
    c.id ∈ d.refsOf k ↔ c.ref = some k := by
  rw [mem_refsOf]
  refine ⟨fun ⟨i, hi, he, hr⟩ => ?_, fun hr => ⟨c, ho.instRec, rfl, hr⟩⟩
  cases hwf.instRec_unique hi ho.instRec he
  exact hr

theorem WF.instById_eq {d : Design} (hwf : WF d) {i : Inst} (hi : InstRec d i) : d.instById i.id = some i := by
  unfold Design.instById
  rcases (instRec_iff i).mp hi with a | ⟨k, a⟩
  · simp [a]
  · split
    next t ht => simp [hwf.top_not_child ht a, hwf.childTable_find a]
    next => simp [hwf.childTable_find a]

theorem mem_allHrefs_refsOf {d : Design} (hwf : WF d) (hs : Sorted d) (k : Nat) {t : Inst} (ht : d.topInst = some t)
    (p : HRef) : p ∈ (allHrefs d (d.refsOf k)).1 ↔ ∃ c, Occ d p (.inst c) ∧ c.ref = some k := by
  rw [mem_allHrefs hwf hs _ ht]
  exact exists_congr fun c => and_congr_right fun ho => hwf.mem_refsOf_occ ho k

theorem defWith_some {d : Design} {f : Defn → Bool} {k : Nat} (h : d.defWith f = some k) :
    ∃ D, d.defs[k]? = some D ∧ f D = true := by
  obtain ⟨Dk, hf, rfl⟩ := Option.map_eq_some_iff.mp h
  exact ⟨Dk.1, List.mem_zipIdx_iff_getElem?.mp (List.mem_of_find?_eq_some hf), by simpa using List.find?_some hf⟩

theorem defWith_exists {d : Design} {f : Defn → Bool} {k : Nat} {D : Defn} (hD : d.defs[k]? = some D)
    (hf : f D = true) : ∃ k', d.defWith f = some k' := by
  unfold Design.defWith
  cases h : d.defs.zipIdx.find? (fun Dk => f Dk.1) with
  | none => simpa [hf] using List.find?_eq_none.mp h (D, k) (List.mk_mem_zipIdx_iff_getElem?.mpr hD)
  | some Dk => exact ⟨Dk.2, rfl⟩

theorem defWith_eq_some_iff {d : Design} {β : Type} {f : Defn → Bool} {g : Defn → List β} {x : β}
    (hf : ∀ D, f D = true ↔ x ∈ g D) (hnd : (d.defs.flatMap g).Nodup) {k : Nat} :
    d.defWith f = some k ↔ ∃ D, d.defs[k]? = some D ∧ x ∈ g D := by
  constructor
  · intro h
    obtain ⟨D, hD, hfD⟩ := defWith_some h
    exact ⟨D, hD, (hf D).mp hfD⟩
  · rintro ⟨D, hD, hx⟩
    obtain ⟨k', hk'⟩ := defWith_exists hD ((hf D).mpr hx)
    obtain ⟨D', hD', hfD'⟩ := defWith_some hk'
    rw [hk', flatMap_index_unique hnd hD' hD ((hf D').mp hfD') hx]

theorem Defn.port?_isSome {D : Defn} {x : Nat} : (D.port? x).isSome = true ↔ x ∈ D.ports.map (·.id) := by
  simp [Defn.port?]

theorem Defn.cable?_isSome {D : Defn} {x : Nat} : (D.cable? x).isSome = true ↔ x ∈ D.cables.map (·.id) := by
  simp [Defn.cable?]

theorem Defn.portOfPin_isSome {D : Defn} {q : Nat} : (D.portOfPin q).isSome = true ↔ q ∈ D.ports.flatMap (·.pins) := by
  simp [Defn.portOfPin, List.find?_isSome]

theorem Defn.cableOfWire_isSome {D : Defn} {x : Nat} :
    (D.cableOfWire x).isSome = true ↔ x ∈ D.cables.flatMap (fun C => C.wires.map (·.id)) := by
  simp [Defn.cableOfWire, Cable.wire?, List.find?_isSome]

theorem Defn.cableOfWire_some {D : Defn} {x : Nat} {C : Cable} (h : D.cableOfWire x = some C) :
    C ∈ D.cables ∧ ∃ w ∈ C.wires, w.id = x := by
  unfold Defn.cableOfWire at h
  obtain ⟨w, hw⟩ := Option.isSome_iff_exists.mp (by simpa using List.find?_some h)
  exact ⟨List.mem_of_find?_eq_some h, w, Cable.wire?_some hw⟩

theorem Defn.LocalWF.cableOfWire_eq {D : Defn} (hl : D.LocalWF) {C : Cable} {w : Wire} (hC : C ∈ D.cables)
    (hw : w ∈ C.wires) : D.cableOfWire w.id = some C :=
  find?_unique hC (by rw [hl.wire_lookup hC hw]; rfl) fun C' hC' hq' => by
    obtain ⟨w', hw'⟩ := Option.isSome_iff_exists.mp hq'
    obtain ⟨h2, h3⟩ := Cable.wire?_some hw'
    exact flatMap_owner_unique hl.2.2 hC' hC (List.mem_map.mpr ⟨w', h2, h3⟩) (List.mem_map_of_mem hw)

/-- the definition (index `k`) and the port that the two pin roots find for the pin `q` -/
theorem pin_owner {d : Design} (hwf : WF d) (q k : Nat) (P : Port) :
    d.defWith (fun D => (D.portOfPin q).isSome) = some k ∧ (d.defs[k]?).bind (·.portOfPin q) = some P ↔
      ∃ D, d.defs[k]? = some D ∧ P ∈ D.ports ∧ q ∈ P.pins := by
  rw [defWith_eq_some_iff (x := q) (fun _ => Defn.portOfPin_isSome) hwf.2.2.2.1]
  constructor
  · rintro ⟨⟨D, hD, _⟩, hb⟩
    rw [hD] at hb
    exact ⟨D, hD, Defn.portOfPin_some hb⟩
  · rintro ⟨D, hD, hP, hq⟩
    exact ⟨⟨D, hD, List.mem_flatMap.mpr ⟨P, hP, hq⟩⟩, by simp [hD, (hwf.localWF hD).portOfPin_eq hP hq]⟩

/-- the definition (index `k`) and the cable that the wire root finds for the wire identity `x` -/
theorem wire_owner {d : Design} (hwf : WF d) (x k : Nat) (C : Cable) :
    d.defWith (fun D => (D.cableOfWire x).isSome) = some k ∧ (d.defs[k]?).bind (·.cableOfWire x) = some C ↔
      ∃ D, d.defs[k]? = some D ∧ C ∈ D.cables ∧ ∃ w ∈ C.wires, w.id = x := by
  rw [defWith_eq_some_iff (x := x) (fun _ => Defn.cableOfWire_isSome) hwf.2.2.2.2.2]
  constructor
  · rintro ⟨⟨D, hD, _⟩, hb⟩
    rw [hD] at hb
    exact ⟨D, hD, Defn.cableOfWire_some hb⟩
  · rintro ⟨D, hD, hC, w, hw, rfl⟩
    exact ⟨⟨D, hD, List.mem_flatMap.mpr ⟨C, hC, List.mem_map_of_mem (f := (·.id)) hw⟩⟩,
      by simp [hD, (hwf.localWF hD).cableOfWire_eq hC hw]⟩

/-- every definition of the dump belongs to the netlist (no definition was removed from its library) -/
def AllInNl (d : Design) : Prop := ∀ D ∈ d.defs, D.inNl = true

instance (d : Design) : Decidable (AllInNl d) := by unfold AllInNl; infer_instance

/-! `get_all_hrefs_of_item`: for a port, cable, inner pin or wire `defWith` finds the owning definition `k` (identities being unique
  across definitions), and the answer prefixes the element to the occurrences of the instances of `k`:
  that is the inversion of `Occ`, read backwards. -/

theorem hrefs_of_instance_spec {d : Design} (hwf : WF d) (hs : Sorted d) (x : Nat)
    {t : Inst} (ht : d.topInst = some t) (h : HRef) :
    h ∈ (hrefsOfItem d (.instance x)).1 ↔ ∃ c, Occ d h (.inst c) ∧ c.id = x := by
  simp [hrefsOfItem, mem_allHrefs hwf hs [x] ht]

theorem hrefs_of_definition_spec {d : Design} (hwf : WF d) (hs : Sorted d) (k : Nat)
    {t : Inst} (ht : d.topInst = some t)
    (hfin : (hrefsOfItem d (.definition k)).2 = true) (h : HRef) :
    h ∈ (hrefsOfItem d (.definition k)).1 ↔ ∃ c, Occ d h (.inst c) ∧ c.ref = some k :=
  mem_allHrefs_refsOf hwf hs k ht h

theorem hrefs_of_port_spec {d : Design} (hwf : WF d) (hs : Sorted d) (x : Nat)
    {t : Inst} (ht : d.topInst = some t) (h : HRef) :
    h ∈ (hrefsOfItem d (.port x)).1 ↔ ∃ P, Occ d h (.port P) ∧ P.id = x := by
  have : h ∈ (hrefsOfItem d (.port x)).1 ↔ ∃ k, d.defWith (fun D => (D.port? x).isSome) = some k ∧
      ∃ p ∈ (allHrefs d (d.refsOf k)).1, x :: p = h := by
    simp only [hrefsOfItem]
    cases d.defWith _ <;> simp
  simp only [this, mem_allHrefs_refsOf hwf hs _ ht, defWith_eq_some_iff (x := x) (fun _ => Defn.port?_isSome)
    hwf.2.2.1]
  constructor
  · rintro ⟨k, ⟨D, hD, hx⟩, p, ⟨c, hc, hr⟩, rfl⟩
    obtain ⟨P, hP, rfl⟩ := List.mem_map.mp hx
    exact ⟨P, .port hc hr hD hP, rfl⟩
  · rintro ⟨P, ho, rfl⟩
    obtain ⟨p, i, r, D, rfl, hp, hr, hD, hP⟩ := ho.port_inv
    exact ⟨r, ⟨D, hD, List.mem_map_of_mem hP⟩, p, ⟨i, hp, hr⟩, rfl⟩

theorem hrefs_of_cable_spec {d : Design} (hwf : WF d) (hs : Sorted d) (x : Nat)
    {t : Inst} (ht : d.topInst = some t) (h : HRef) :
    h ∈ (hrefsOfItem d (.cable x)).1 ↔ ∃ C, Occ d h (.cable C) ∧ C.id = x := by
  have : h ∈ (hrefsOfItem d (.cable x)).1 ↔ ∃ k, d.defWith (fun D => (D.cable? x).isSome) = some k ∧
      ∃ p ∈ (allHrefs d (d.refsOf k)).1, x :: p = h := by
    simp only [hrefsOfItem]
    cases d.defWith _ <;> simp
  simp only [this, mem_allHrefs_refsOf hwf hs _ ht, defWith_eq_some_iff (x := x) (fun _ => Defn.cable?_isSome)
    hwf.2.2.2.2.1]
  constructor
  · rintro ⟨k, ⟨D, hD, hx⟩, p, ⟨c, hc, hr⟩, rfl⟩
    obtain ⟨C, hC, rfl⟩ := List.mem_map.mp hx
    exact ⟨C, .cable hc hr hD hC, rfl⟩
  · rintro ⟨C, ho, rfl⟩
    obtain ⟨p, i, r, D, rfl, hp, hr, hD, hC⟩ := ho.cable_inv
    exact ⟨r, ⟨D, hD, List.mem_map_of_mem hC⟩, p, ⟨i, hp, hr⟩, rfl⟩

theorem hrefs_of_pin_spec {d : Design} (hwf : WF d) (hs : Sorted d) (q : Nat)
    {t : Inst} (ht : d.topInst = some t) (h : HRef) :
    h ∈ (hrefsOfItem d (.innerPin q)).1 ↔ ∃ P, Occ d h (.pin P q) := by
  have : h ∈ (hrefsOfItem d (.innerPin q)).1 ↔ ∃ k P, (d.defWith (fun D => (D.portOfPin q).isSome) = some k ∧
      (d.defs[k]?).bind (·.portOfPin q) = some P) ∧ ∃ p ∈ (allHrefs d (d.refsOf k)).1, q :: P.id :: p = h := by
    simp only [hrefsOfItem]
    cases d.defWith _ with
    | none => simp
    | some k =>
      simp only
      split <;> simp [*]
  simp only [this, pin_owner hwf, mem_allHrefs_refsOf hwf hs _ ht]
  constructor
  · rintro ⟨k, P, ⟨D, hD, hP, hq⟩, p, ⟨c, hc, hr⟩, rfl⟩
    exact ⟨P, .pin (.port hc hr hD hP) hq⟩
  · rintro ⟨P, ho⟩
    obtain ⟨p, i, r, D, rfl, hp, hr, hD, hP, hq⟩ := ho.pin_inv
    exact ⟨r, P, ⟨D, hD, hP, hq⟩, p, ⟨i, hp, hr⟩, rfl⟩

theorem hrefs_of_wire_spec {d : Design} (hwf : WF d) (hs : Sorted d) (x : Nat)
    {t : Inst} (ht : d.topInst = some t) (h : HRef) :
    h ∈ (hrefsOfItem d (.wire x)).1 ↔ ∃ C w, Occ d h (.wire C w) ∧ w.id = x := by
  have : h ∈ (hrefsOfItem d (.wire x)).1 ↔ ∃ k C, (d.defWith (fun D => (D.cableOfWire x).isSome) = some k ∧
      (d.defs[k]?).bind (·.cableOfWire x) = some C) ∧ ∃ p ∈ (allHrefs d (d.refsOf k)).1, x :: C.id :: p = h := by
    simp only [hrefsOfItem]
    cases d.defWith _ with
    | none => simp
    | some k =>
      simp only
      split <;> simp [*]
  simp only [this, wire_owner hwf, mem_allHrefs_refsOf hwf hs _ ht]
  constructor
  · rintro ⟨k, C, ⟨D, hD, hC, w, hw, rfl⟩, p, ⟨c, hc, hr⟩, rfl⟩
    exact ⟨C, w, .wire (.cable hc hr hD hC) hw, rfl⟩
  · rintro ⟨C, w, ho, rfl⟩
    obtain ⟨p, i, r, D, rfl, hp, hr, hD, hC, hw⟩ := ho.wire_inv
    exact ⟨r, C, ⟨D, hD, hC, w, hw, rfl⟩, p, ⟨i, hp, hr⟩, rfl⟩

end Spydr.Hier
