/-
  The work-list search `Reach.go` (ModelReach.lean), for any successor function: what it visits is reachable for every
  fuel and is all that is reachable when it `finished` (`reach_spec`); a universe and a degree bound say how much fuel
  makes it finish (`go_finished`).
-/
import Mathlib.Logic.Relation
import Spydr.Hier.ModelReach

namespace Spydr.Hier

theorem rtg_symm {α : Type} {R : α → α → Prop} (hs : ∀ a b, R a b → R b a) {a b : α}
    (h : Relation.ReflTransGen R a b) : Relation.ReflTransGen R b a := by
  induction h with
  | refl => exact .refl
  | tail _ hl ih => exact .head (hs _ _ hl) ih

end Spydr.Hier

namespace Spydr.Hier.Reach
variable {α : Type} [DecidableEq α]

def Step (succ : α → List α) (a b : α) : Prop := b ∈ succ a
abbrev R (succ : α → List α) := Relation.ReflTransGen (Step succ)

theorem go_sound (succ : α → List α) (f : Nat) (stack vis : List α) (init : List α)
    (hs : ∀ x ∈ stack, ∃ i ∈ init, R succ i x)
    (hv : ∀ x ∈ vis, ∃ i ∈ init, R succ i x) :
    ∀ x ∈ (go succ f stack vis).1, ∃ i ∈ init, R succ i x := by
  induction f, stack, vis using go.induct succ with
  | case1 => simpa [go] using hv
  | case2 => simpa [go] using hv
  | case3 f y st vis hy ih =>
    rw [go, if_pos hy]
    exact ih (fun x hx => hs x (List.mem_cons_of_mem _ hx)) hv
  | case4 f y st vis hy ih =>
    rw [go, if_neg hy]
    refine ih (fun x hx => ?_) (fun x hx => ?_)
    · rcases List.mem_append.mp hx with hx | hx
      · obtain ⟨i, hi, hr⟩ := hs y List.mem_cons_self
        exact ⟨i, hi, hr.tail hx⟩
      · exact hs x (List.mem_cons_of_mem _ hx)
    · rcases List.mem_cons.mp hx with rfl | hx
      · exact hs _ List.mem_cons_self
      · exact hv x hx

/-- the invariant of the search -/
def Closed (succ : α → List α) (stack vis : List α) : Prop :=
  ∀ x ∈ vis, ∀ y ∈ succ x, y ∈ vis ∨ y ∈ stack

theorem go_mono (succ : α → List α) (f : Nat) (stack vis : List α) :
    ∀ x ∈ vis, x ∈ (go succ f stack vis).1 := by
  induction f, stack, vis using go.induct succ with
  | case1 => simp [go]
  | case2 => simp [go]
  | case3 f x st vis hx ih => simpa [go, hx] using ih
  | case4 f x st vis hx ih => exact fun y hy => by simpa [go, hx] using ih y (List.mem_cons_of_mem _ hy)

theorem go_closed (succ : α → List α) (f : Nat) (stack vis : List α)
    (hc : Closed succ stack vis) (hfin : (go succ f stack vis).2 = true) :
    (∀ x ∈ stack, x ∈ (go succ f stack vis).1) ∧
    (∀ x ∈ (go succ f stack vis).1, ∀ y ∈ succ x, y ∈ (go succ f stack vis).1) := by
  have hnil : ∀ vis, Closed succ [] vis → ∀ x ∈ vis, ∀ y ∈ succ x, y ∈ vis := fun vis hc x hx y hy =>
    (hc x hx y hy).resolve_right List.not_mem_nil
  induction f, stack, vis using go.induct succ with
  | case1 stack vis =>
    obtain rfl : stack = [] := by simpa [go] using hfin
    exact ⟨by simp, hnil vis hc⟩
  | case2 n vis => exact ⟨by simp, hnil vis hc⟩
  | case3 f z st vis hz ih =>
    rw [go, if_pos hz] at hfin ⊢
    have hc' : Closed succ st vis := fun x hx y hy =>
      (hc x hx y hy).elim .inl fun h => (List.mem_cons.mp h).elim (fun h => .inl (h ▸ hz)) .inr
    obtain ⟨h1, h2⟩ := ih hc' hfin
    exact ⟨fun x hx => (List.mem_cons.mp hx).elim (fun h => h ▸ go_mono succ f st vis _ hz) (h1 x), h2⟩
  | case4 f z st vis hz ih =>
    rw [go, if_neg hz] at hfin ⊢
    have hc' : Closed succ (succ z ++ st) (z :: vis) := by
      intro x hx y hy
      rcases List.mem_cons.mp hx with rfl | hx
      · exact .inr (List.mem_append_left _ hy)
      · rcases hc x hx y hy with h | h
        · exact .inl (List.mem_cons_of_mem _ h)
        · exact (List.mem_cons.mp h).elim (fun h => .inl (h ▸ List.mem_cons_self)) fun h =>
            .inr (List.mem_append_right _ h)
    obtain ⟨h1, h2⟩ := ih hc' hfin
    exact ⟨fun x hx => (List.mem_cons.mp hx).elim (fun h => h ▸ go_mono succ f _ _ _ List.mem_cons_self)
      fun hx => h1 x (List.mem_append_right _ hx), h2⟩

theorem go_complete (succ : α → List α) (f : Nat) (init : List α)
    (hfin : (go succ f init []).2 = true) :
    ∀ i ∈ init, ∀ x, R succ i x → x ∈ (go succ f init []).1 := by
  have hc : Closed succ init [] := by intro x hx; simp at hx
  obtain ⟨h1, h2⟩ := go_closed succ f init [] hc hfin
  intro i hi x hr
  induction hr with
  | refl => exact h1 i hi
  | tail _ hstep ih => exact h2 _ ih _ hstep

theorem go_nodup (succ : α → List α) (f : Nat) (stack vis : List α) (h : vis.Nodup) :
    (go succ f stack vis).1.Nodup := by
  induction f, stack, vis using go.induct succ with
  | case1 => simpa [go] using h
  | case2 => simpa [go] using h
  | case3 f y st vis hy ih => simpa [go, hy] using ih h
  | case4 f y st vis hy ih => simpa [go, hy] using ih (List.nodup_cons.mpr ⟨hy, h⟩)

theorem reach_spec (succ : α → List α) (f : Nat) (init : List α)
    (hfin : (go succ f init []).2 = true) (x : α) :
    x ∈ (go succ f init []).1 ↔ ∃ i ∈ init, R succ i x := by
  constructor
  · intro hx
    exact go_sound succ f init [] init (fun y hy => ⟨y, hy, Relation.ReflTransGen.refl⟩) (by simp) x hx
  · rintro ⟨i, hi, hr⟩
    exact go_complete succ f init hfin i hi x hr

theorem unvisited_lt (U vis : List α) {x : α} (hx : x ∈ U) (hv : x ∉ vis) :
    (U.filter (· ∉ x :: vis)).length < (U.filter (· ∉ vis)).length := by
  have : U.filter (· ∉ x :: vis) = (U.filter (· ∉ vis)).filter (· ≠ x) := by
    rw [List.filter_filter]
    exact List.filter_congr fun y _ => by simp
  rw [this]
  exact List.length_filter_lt_length_iff_exists.mpr ⟨x, List.mem_filter.mpr ⟨hx, by simpa using hv⟩, by simp⟩

/-- fuel sufficiency: over a successor-closed universe `U` whose nodes have fewer than `B` successors the
    work list empties within `stack.length + (unvisited nodes of U) * B` steps: popping a visited node
    shortens the stack, popping an unvisited one replaces it by fewer than `B` nodes and visits it. -/
theorem go_finished_aux (succ : α → List α) (U : List α) (B : Nat)
    (hcl : ∀ x ∈ U, ∀ y ∈ succ x, y ∈ U) (hB : ∀ x ∈ U, (succ x).length < B) (f : Nat) (stack vis : List α)
    (hs : ∀ x ∈ stack, x ∈ U) (hf : stack.length + (U.filter (· ∉ vis)).length * B ≤ f) :
    (go succ f stack vis).2 = true := by
  induction f, stack, vis using go.induct succ with
  | case1 stack vis =>
    obtain rfl : stack = [] := List.length_eq_zero_iff.mp (by omega)
    rfl
  | case2 => rfl
  | case3 f x st vis hx ih =>
    rw [go, if_pos hx]
    exact ih (fun y hy => hs y (List.mem_cons_of_mem _ hy)) (by simp only [List.length_cons] at hf; omega)
  | case4 f x st vis hx ih =>
    rw [go, if_neg hx]
    have hxU := hs x List.mem_cons_self
    refine ih (fun y hy => (List.mem_append.mp hy).elim (hcl x hxU y) fun h => hs y (List.mem_cons_of_mem _ h)) ?_
    have h1 := Nat.mul_le_mul_right B (unvisited_lt U vis hxU hx)
    have h2 := hB x hxU
    simp only [List.length_cons, List.length_append, Nat.succ_mul] at hf h1 ⊢
    omega

theorem go_finished (succ : α → List α) (U : List α) (B : Nat)
    (hcl : ∀ x ∈ U, ∀ y ∈ succ x, y ∈ U) (hB : ∀ x ∈ U, (succ x).length < B) {f : Nat} {init : List α}
    (hs : ∀ x ∈ init, x ∈ U) (hf : init.length + U.length * B ≤ f) : (go succ f init []).2 = true :=
  go_finished_aux succ U B hcl hB f init [] hs
    (Nat.le_trans (Nat.add_le_add_left (Nat.mul_le_mul_right B (List.length_filter_le _ U)) _) hf)

end Spydr.Hier.Reach
