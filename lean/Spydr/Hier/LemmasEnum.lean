/-
  The downward enumerations of the model list exactly the occurrences (`Occ`) in scope: `descs` / `kids` / `under` the
  hierarchical instances below a hierarchical instance (`Sorted` is what makes the fuel `defs.length` enough), `portsAt` …
  `wiresAt` the items directly inside one (`ItemsAt`).  Before that, what every later file uses of `Occ`: its inversions
  by kind, induction over instance paths (`Occ.inst_induction`) and over what lies below one (`Occ.below_induction`).
-/
import Spydr.Hier.LemmasBasic

namespace Spydr.Hier

theorem Sorted.lt {d : Design} (hs : Sorted d) {k r : Nat} {D : Defn} {c : Inst}
    (hD : d.defs[k]? = some D) (hc : c ∈ D.children) (hr : c.ref = some r) : r < k := by
  have h1 := List.all_eq_true.mp hs (D, k) (List.mk_mem_zipIdx_iff_getElem?.mpr hD)
  simpa [hr] using List.all_eq_true.mp h1 c hc

theorem suffix_cons_of_ne {α : Type} {p l : List α} {a : α} (h : p <:+ a :: l) (hne : a :: l ≠ p) : p <:+ l :=
  (List.suffix_cons_iff.mp h).resolve_left fun h => hne h.symm

theorem ne_of_cons_suffix {α : Type} {p h : List α} {a : α} (hs : (a :: p) <:+ h) : h ≠ p := by
  rintro rfl
  exact Nat.not_succ_le_self _ hs.length_le

theorem Occ.port_inv {d : Design} {x : HRef} {P : Port} (h : Occ d x (.port P)) :
    ∃ p i r D, x = P.id :: p ∧ Occ d p (.inst i) ∧ i.ref = some r ∧ d.defs[r]? = some D ∧ P ∈ D.ports := by
  cases h with
  | port hp hr hD hP => exact ⟨_, _, _, _, rfl, hp, hr, hD, hP⟩

theorem Occ.cable_inv {d : Design} {x : HRef} {C : Cable} (h : Occ d x (.cable C)) :
    ∃ p i r D, x = C.id :: p ∧ Occ d p (.inst i) ∧ i.ref = some r ∧ d.defs[r]? = some D ∧ C ∈ D.cables := by
  cases h with
  | cable hp hr hD hC => exact ⟨_, _, _, _, rfl, hp, hr, hD, hC⟩

theorem Occ.pin_inv {d : Design} {x : HRef} {P : Port} {q : Nat} (h : Occ d x (.pin P q)) :
    ∃ p i r D, x = q :: P.id :: p ∧ Occ d p (.inst i) ∧ i.ref = some r ∧ d.defs[r]? = some D ∧
      P ∈ D.ports ∧ q ∈ P.pins := by
  cases h with
  | pin hP hq =>
    obtain ⟨p, i, r, D, rfl, hp, hr, hD, hP⟩ := hP.port_inv
    exact ⟨_, _, _, _, rfl, hp, hr, hD, hP, hq⟩

theorem Occ.wire_inv {d : Design} {x : HRef} {C : Cable} {w : Wire} (h : Occ d x (.wire C w)) :
    ∃ p i r D, x = w.id :: C.id :: p ∧ Occ d p (.inst i) ∧ i.ref = some r ∧ d.defs[r]? = some D ∧
      C ∈ D.cables ∧ w ∈ C.wires := by
  cases h with
  | wire hC hw =>
    obtain ⟨p, i, r, D, rfl, hp, hr, hD, hC⟩ := hC.cable_inv
    exact ⟨_, _, _, _, rfl, hp, hr, hD, hC, hw⟩

theorem Occ.inst_cons_inv {d : Design} {a b : Nat} {p : HRef} {c : Inst} (h : Occ d (a :: b :: p) (.inst c)) :
    ∃ i r D, a = c.id ∧ Occ d (b :: p) (.inst i) ∧ i.ref = some r ∧ d.defs[r]? = some D ∧ c ∈ D.children := by
  cases h with
  | child hp hr hD hc => exact ⟨_, _, _, rfl, hp, hr, hD, hc⟩

theorem Occ.head_id {d : Design} {x : Nat} {p : HRef} {c : Inst} (ho : Occ d (x :: p) (.inst c)) : x = c.id := by
  cases ho with
  | top => rfl
  | child => rfl

@[elab_as_elim]
theorem Occ.inst_induction {d : Design} {motive : HRef → Inst → Prop}
    (top : ∀ {t : Inst}, Occ d [t.id] (.inst t) → motive [t.id] t)
    (child : ∀ {p : HRef} {i c : Inst} {r : Nat} {D : Defn}, Occ d p (.inst i) → i.ref = some r →
      d.defs[r]? = some D → c ∈ D.children → motive p i → motive (c.id :: p) c)
    {h : HRef} {c : Inst} (ho : Occ d h (.inst c)) : motive h c := by
  generalize he : Elem.inst c = e at ho
  induction ho generalizing c with
  | top h1 h2 h3 h4 => cases he; exact top (.top h1 h2 h3 h4)
  | child hp hr hD hc ih => cases he; exact child hp hr hD hc (ih rfl)
  | port | pin | cable | wire => cases he

/-- Induction over the hierarchical instances strictly below `p`: the children of `p`, and the children of
    what is below `p`. -/
@[elab_as_elim]
theorem Occ.below_induction {d : Design} (hwf : WF d) {p : HRef} {i : Inst} (hp : Occ d p (.inst i))
    {motive : HRef → Inst → Prop}
    (base : ∀ {c : Inst} {r : Nat} {D : Defn}, i.ref = some r → d.defs[r]? = some D → c ∈ D.children →
      motive (c.id :: p) c)
    (step : ∀ {h : HRef} {j c : Inst} {r : Nat} {D : Defn}, Occ d h (.inst j) → p <:+ h → h ≠ p → j.ref = some r →
      d.defs[r]? = some D → c ∈ D.children → motive h j → motive (c.id :: h) c)
    {h : HRef} {c : Inst} (ho : Occ d h (.inst c)) (hs : p <:+ h) (hne : h ≠ p) : motive h c := by
  revert hs hne
  refine Occ.inst_induction (fun _ hs hne => ?_) (fun {q} _ _ _ _ hq hr hD hc ih hs hne => ?_) ho
  · obtain ⟨x, p', rfl⟩ := hp.exists_cons
    exact absurd ((List.suffix_cons_iff.mp hs).resolve_right (by simp)).symm hne
  · have hs' := suffix_cons_of_ne hs hne
    by_cases he : q = p
    · subst he
      cases Occ.unique hwf hp hq
      exact base hr hD hc
    · exact step hq hs' he hr hD hc (ih hs' he)

theorem descs_sound (d : Design) : ∀ (f : Nat) (p : HRef) (i : Inst), Occ d p (.inst i) →
    ∀ h c, (h, c) ∈ descs d f p i → Occ d h (.inst c) ∧ p <:+ h ∧ h ≠ p
  | 0, _, _, _, _, _, hm => by simp [descs] at hm
  | f+1, p, i, hp, h, c, hm => by
    simp only [descs] at hm
    split at hm
    next D hD =>
      obtain ⟨r, hr, hD⟩ := defOf_eq_some.mp hD
      obtain ⟨c1, hc1, hm⟩ := List.mem_flatMap.mp hm
      have ho1 : Occ d (c1.id :: p) (.inst c1) := .child hp hr hD hc1
      rcases List.mem_cons.mp hm with he | hm
      · cases he
        exact ⟨ho1, List.suffix_cons _ _, by simp⟩
      · obtain ⟨h1, h2, _⟩ := descs_sound d f (c1.id :: p) c1 ho1 h c hm
        exact ⟨h1, (List.suffix_cons _ _).trans h2, ne_of_cons_suffix h2⟩
    next => cases hm

theorem exists_first_child {d : Design} (hwf : WF d) {p : HRef} {i : Inst} (hp : Occ d p (.inst i))
    {h : HRef} {c : Inst} (ho : Occ d h (.inst c)) (hs : p <:+ h) (hne : h ≠ p) :
    ∃ r D c1, i.ref = some r ∧ d.defs[r]? = some D ∧ c1 ∈ D.children ∧ (c1.id :: p) <:+ h :=
  hp.below_induction hwf (fun hr hD hc => ⟨_, _, _, hr, hD, hc, List.suffix_refl _⟩)
    (fun _ _ _ _ _ _ ⟨r, D, c1, a1, a2, a3, a4⟩ => ⟨r, D, c1, a1, a2, a3, a4.trans (List.suffix_cons _ _)⟩) ho hs hne

theorem descs_complete {d : Design} (hwf : WF d) (hs : Sorted d) : ∀ (f : Nat) (p : HRef) (i : Inst),
    Occ d p (.inst i) → (∀ r D, i.ref = some r → d.defs[r]? = some D → r < f) →
    ∀ h c, Occ d h (.inst c) → p <:+ h → h ≠ p → (h, c) ∈ descs d f p i
  | 0, p, i, hp, hf, h, c, ho, hsuf, hne => by
    obtain ⟨r, D, c1, a1, a2, _, _⟩ := exists_first_child hwf hp ho hsuf hne
    exact absurd (hf r D a1 a2) (Nat.not_lt_zero _)
  | f+1, p, i, hp, hf, h, c, ho, hsuf, hne => by
    obtain ⟨r, D, c1, a1, a2, a3, a4⟩ := exists_first_child hwf hp ho hsuf hne
    simp only [descs, defOf_eq_some.mpr ⟨r, a1, a2⟩, List.mem_flatMap]
    refine ⟨c1, a3, ?_⟩
    have ho1 : Occ d (c1.id :: p) (.inst c1) := .child hp a1 a2 a3
    by_cases he : h = c1.id :: p
    · subst he
      cases Occ.unique hwf ho ho1
      exact List.mem_cons_self
    · refine List.mem_cons_of_mem _ (descs_complete hwf hs f (c1.id :: p) c1 ho1 (fun r' D' hr' _ => ?_) h c ho a4 he)
      have := hs.lt a2 a3 hr'
      have := hf r D a1 a2
      omega

theorem mem_descs {d : Design} (hwf : WF d) (hs : Sorted d) {p : HRef} {i : Inst} (hp : Occ d p (.inst i))
    (h : HRef) (c : Inst) :
    (h, c) ∈ descs d d.defs.length p i ↔ Occ d h (.inst c) ∧ p <:+ h ∧ h ≠ p :=
  ⟨descs_sound d _ p i hp h c, fun ⟨ho, hsuf, hne⟩ =>
    descs_complete hwf hs _ p i hp (fun _ _ _ hD => (List.getElem?_eq_some_iff.mp hD).1) h c ho hsuf hne⟩

theorem mem_under {d : Design} (hwf : WF d) (hs : Sorted d) {p : HRef} {i : Inst} (hp : Occ d p (.inst i))
    (rec : Bool) (h : HRef) (c : Inst) :
    (h, c) ∈ under d rec p i ↔ Occ d h (.inst c) ∧ Within p rec h := by
  have hself : (h, c) = (p, i) ↔ Occ d h (.inst c) ∧ h = p := by
    refine ⟨fun he => by cases he; exact ⟨hp, rfl⟩, fun ⟨ho, he⟩ => ?_⟩
    subst he
    cases Occ.unique hwf hp ho
    rfl
  unfold under Within
  cases rec with
  | false => simp [hself]
  | true =>
    simp only [List.mem_cons, hself, if_true, mem_descs hwf hs hp, true_and]
    refine ⟨fun h => h.elim (fun h => ⟨h.1, .inl h.2⟩) fun h => ⟨h.1, .inr h.2.1⟩, fun ⟨ho, hw⟩ => ?_⟩
    by_cases he : h = p
    · exact .inl ⟨ho, he⟩
    · exact .inr ⟨ho, hw.resolve_left he, he⟩

theorem mem_kids {d : Design} (hwf : WF d) {p : HRef} {i : Inst} (hp : Occ d p (.inst i)) (h : HRef) (c : Inst) :
    (h, c) ∈ kids d p i ↔ Occ d h (.inst c) ∧ h.tail = p := by
  unfold kids
  constructor
  · intro hm
    split at hm
    next D hD =>
      obtain ⟨r, hr, hD⟩ := defOf_eq_some.mp hD
      obtain ⟨c1, hc1, he⟩ := List.mem_map.mp hm
      cases he
      exact ⟨.child hp hr hD hc1, rfl⟩
    next => cases hm
  · rintro ⟨ho, ht⟩
    obtain ⟨b, p', rfl⟩ := hp.exists_cons
    match h, ht, ho with
    | a :: _, rfl, ho =>
      obtain ⟨i', r, D, ha, hp', hr, hD, hc⟩ := ho.inst_cons_inv
      cases Occ.unique hwf hp hp'
      rw [defOf_eq_some.mpr ⟨r, hr, hD⟩, List.mem_map]
      exact ⟨c, hc, by rw [ha]⟩

theorem mem_dedup {α : Type} [DecidableEq α] (x : α) : ∀ l : List α, x ∈ dedup l ↔ x ∈ l
  | [] => by simp [dedup]
  | y :: l => by
    by_cases hy : y ∈ l <;> simp only [dedup, hy, if_true, if_false, List.mem_cons, mem_dedup x l]
    exact ⟨Or.inr, fun h => h.elim (· ▸ hy) id⟩

theorem nodup_dedup {α : Type} [DecidableEq α] : ∀ l : List α, (dedup l).Nodup
  | [] => by simp [dedup]
  | y :: l => by
    simp only [dedup]
    split
    · exact nodup_dedup l
    · rename_i hy
      exact List.nodup_cons.mpr ⟨fun h => hy ((mem_dedup y l).mp h), nodup_dedup l⟩

theorem getHPorts_href (d : Design) (x : HRef) (rec : Bool) :
    getHPorts d (.href x) rec = (dedup (hportsOfHRef d rec x), true) := by
  simp [getHPorts, hrefsOfItem]

theorem getHPins_href (d : Design) (x : HRef) (rec : Bool) :
    getHPins d (.href x) rec = (dedup (hpinsOfHRef d rec x), true) := by
  simp [getHPins, hrefsOfItem]

theorem getHCables_href (d : Design) (x : HRef) (rec : Bool) (sel : Sel) :
    getHCables d (.href x) rec sel = (dedup (hcablesOfHRef d rec sel x).1, (hcablesOfHRef d rec sel x).2) := by
  simp [getHCables, hrefsOfItem]

theorem getHWires_href (d : Design) (x : HRef) (rec : Bool) (sel : Sel) :
    getHWires d (.href x) rec sel = (dedup (hwiresOfHRef d rec sel x).1, (hwiresOfHRef d rec sel x).2) := by
  simp [getHWires, hrefsOfItem]

/-- `g D h` lists the items of kind `Q` that definition `D` places directly inside an occurrence `h` of one of its
    instances; `cont x` is the instance part of the item `x`. -/
structure ItemsAt (d : Design) (g : Defn → HRef → List HRef) (Q : HRef → Prop) (cont : HRef → HRef) : Prop where
  sound : ∀ {h : HRef} {c : Inst} {r : Nat} {D : Defn} {x : HRef}, Occ d h (.inst c) → c.ref = some r →
    d.defs[r]? = some D → x ∈ g D h → Q x ∧ cont x = h
  covers : ∀ {x : HRef}, Q x →
    ∃ c r D, Occ d (cont x) (.inst c) ∧ c.ref = some r ∧ d.defs[r]? = some D ∧ x ∈ g D (cont x)

theorem ports_itemsAt (d : Design) :
    ItemsAt d (fun D p => D.ports.map (fun P => P.id :: p)) (IsHPort d) List.tail where
  sound hp hr hD hm := by
    obtain ⟨P, hP, rfl⟩ := List.mem_map.mp hm
    exact ⟨⟨P, .port hp hr hD hP⟩, rfl⟩
  covers := fun ⟨P, ho⟩ => by
    obtain ⟨p, i, r, D, rfl, hp, hr, hD, hP⟩ := ho.port_inv
    exact ⟨i, r, D, hp, hr, hD, List.mem_map_of_mem hP⟩

theorem cables_itemsAt (d : Design) :
    ItemsAt d (fun D p => D.cables.map (fun C => C.id :: p)) (IsHCable d) List.tail where
  sound hp hr hD hm := by
    obtain ⟨C, hC, rfl⟩ := List.mem_map.mp hm
    exact ⟨⟨C, .cable hp hr hD hC⟩, rfl⟩
  covers := fun ⟨C, ho⟩ => by
    obtain ⟨p, i, r, D, rfl, hp, hr, hD, hC⟩ := ho.cable_inv
    exact ⟨i, r, D, hp, hr, hD, List.mem_map_of_mem hC⟩

theorem pins_itemsAt (d : Design) :
    ItemsAt d (fun D p => D.ports.flatMap (fun P => P.pins.map (fun q => q :: P.id :: p))) (IsHPin d)
      (fun x => x.tail.tail) where
  sound hp hr hD hm := by
    obtain ⟨P, hP, hm⟩ := List.mem_flatMap.mp hm
    obtain ⟨q, hq, rfl⟩ := List.mem_map.mp hm
    exact ⟨⟨P, q, .pin (.port hp hr hD hP) hq⟩, rfl⟩
  covers := fun ⟨P, q, ho⟩ => by
    obtain ⟨p, i, r, D, rfl, hp, hr, hD, hP, hq⟩ := ho.pin_inv
    exact ⟨i, r, D, hp, hr, hD, List.mem_flatMap.mpr ⟨P, hP, List.mem_map_of_mem hq⟩⟩

theorem wires_itemsAt (d : Design) :
    ItemsAt d (fun D p => D.cables.flatMap (fun C => C.wires.map (fun w => w.id :: C.id :: p))) (IsHWire d)
      (fun x => x.tail.tail) where
  sound hp hr hD hm := by
    obtain ⟨C, hC, hm⟩ := List.mem_flatMap.mp hm
    obtain ⟨w, hw, rfl⟩ := List.mem_map.mp hm
    exact ⟨⟨C, w, .wire (.cable hp hr hD hC) hw⟩, rfl⟩
  covers := fun ⟨C, w, ho⟩ => by
    obtain ⟨p, i, r, D, rfl, hp, hr, hD, hC, hw⟩ := ho.wire_inv
    exact ⟨i, r, D, hp, hr, hD, List.mem_flatMap.mpr ⟨C, hC, List.mem_map_of_mem hw⟩⟩

/-- `portsAt` … `wiresAt` look the definition of the instance up and list its items (`hat`, by `rfl`); collected
    over `under` that gives the items in scope. -/
theorem mem_under_flatMap {d : Design} (hwf : WF d) (hs : Sorted d) {p : HRef} {i : Inst}
    (hp : Occ d p (.inst i)) (rec : Bool) {g : Defn → HRef → List HRef} {Q : HRef → Prop} {cont : HRef → HRef}
    (ha : ItemsAt d g Q cont) {at_ : HRef × Inst → List HRef}
    (hat : ∀ pi, at_ pi = match d.defOf pi.2 with | some D => g D pi.1 | none => []) (x : HRef) :
    x ∈ (under d rec p i).flatMap at_ ↔ Q x ∧ Within p rec (cont x) := by
  rw [List.mem_flatMap]
  constructor
  · rintro ⟨⟨h, c⟩, hm, hx⟩
    obtain ⟨ho, hw⟩ := (mem_under hwf hs hp rec h c).mp hm
    rw [hat] at hx
    split at hx
    next D hD =>
      obtain ⟨r, hr, hD⟩ := defOf_eq_some.mp hD
      obtain ⟨hq, hc⟩ := ha.sound ho hr hD hx
      exact ⟨hq, hc ▸ hw⟩
    next => cases hx
  · rintro ⟨hq, hw⟩
    obtain ⟨c, r, D, hc, hr, hD, hx⟩ := ha.covers hq
    refine ⟨(cont x, c), (mem_under hwf hs hp rec _ c).mpr ⟨hc, hw⟩, ?_⟩
    rw [hat]
    simpa only [defOf_eq_some.mpr ⟨r, hr, hD⟩] using hx

theorem mem_insts_below {d : Design} (hwf : WF d) (hs : Sorted d) {p : HRef} {i : Inst}
    (hp : Occ d p (.inst i)) (rec : Bool) (x : HRef) :
    x ∈ ((if rec then descs d d.defs.length p i else kids d p i)).map (·.1) ↔
      IsHInst d x ∧ Within p rec x.tail := by
  simp only [List.mem_map, Prod.exists, exists_and_right, exists_eq_right, IsHInst, Within]
  cases rec with
  | false => simp [mem_kids hwf hp]
  | true =>
    simp only [if_true, mem_descs hwf hs hp, exists_and_right, true_and]
    refine and_congr_right fun ⟨c, ho⟩ => ?_
    obtain ⟨a, t, rfl⟩ := ho.exists_cons
    -- a proper descendant `a :: t` of `p` is a child of `p` or lies below one
    refine ⟨fun ⟨hsuf, hne⟩ => ?_, fun h => ?_⟩
    · have := suffix_cons_of_ne hsuf hne
      by_cases he : t = p
      · exact .inl he
      · exact .inr this
    · have hsuf : p <:+ t := h.elim (fun h => h ▸ List.suffix_refl _) id
      exact ⟨hsuf.trans (List.suffix_cons _ _), fun he => absurd (he ▸ hsuf : (a :: t) <:+ t).length_le (by simp)⟩

theorem topInst_top {d : Design} {t : Inst} (h : d.topInst = some t) : d.top = some t :=
  (topInst_eq_some.mp h).1

theorem topInst_occ {d : Design} {t : Inst} (ht : d.topInst = some t) : Occ d [t.id] (.inst t) := by
  obtain ⟨h1, r, D, h2, h3, h4⟩ := topInst_eq_some.mp ht
  exact .top h1 h2 h3 h4

theorem Occ.top_inv {d : Design} {x : Nat} {t : Inst} (ho : Occ d [x] (.inst t)) : d.topInst = some t := by
  cases ho with
  | top h1 h2 h3 h4 => exact topInst_eq_some.mpr ⟨h1, _, _, h2, h3, h4⟩
  | child hp => cases hp

theorem Occ.has_top {d : Design} {h : HRef} {e : Elem} (ho : Occ d h e) :
    ∃ t, d.topInst = some t ∧ [t.id] <:+ h := by
  induction ho with
  | top h1 h2 h3 h4 => exact ⟨_, topInst_eq_some.mpr ⟨h1, _, _, h2, h3, h4⟩, List.suffix_refl _⟩
  | child _ _ _ _ ih | port _ _ _ _ ih | pin _ _ ih | cable _ _ _ _ ih | wire _ _ ih =>
    exact ih.imp fun t h => ⟨h.1, h.2.trans (List.suffix_cons _ _)⟩

theorem within_top {d : Design} {t : Inst} (ht : d.topInst = some t) {ip : HRef} {c : Inst}
    (hc : Occ d ip (.inst c)) (rec : Bool) : Within [t.id] rec ip ↔ (rec = true ∨ ip = [t.id]) := by
  obtain ⟨t', h1, h3⟩ := hc.has_top
  cases ht.symm.trans h1
  simp only [Within, h3, and_true, or_comm]

theorem mem_under_top {d : Design} (hwf : WF d) (hs : Sorted d) {t : Inst} (ht : d.topInst = some t) (rec : Bool)
    {g : Defn → HRef → List HRef} {Q : HRef → Prop} {cont : HRef → HRef} (ha : ItemsAt d g Q cont)
    {at_ : HRef × Inst → List HRef}
    (hat : ∀ pi, at_ pi = match d.defOf pi.2 with | some D => g D pi.1 | none => []) (x : HRef) :
    x ∈ (under d rec [t.id] t).flatMap at_ ↔ Q x ∧ (rec = true ∨ cont x = [t.id]) := by
  rw [mem_under_flatMap hwf hs (topInst_occ ht) rec ha hat]
  exact and_congr_right fun hq => let ⟨_, _, _, hc, _⟩ := ha.covers hq; within_top ht hc rec

end Spydr.Hier
