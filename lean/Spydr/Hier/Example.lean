/-
  A concrete three-level design used by the non-vacuity examples:
    leaf(port I[pin 2])            mid(port I[pin 4]; child l:leaf; wire 7 = {I, l.I})
    top(array port B (lower index 2, pins 14, 15); children a:mid, b:mid;
        array cable t (lower index 3): wire 11 = {a.I, b.I}  -- touches only instance pins
                                       wire 16 = {B[pin 14]})
  `mid` is shared (reached through `a` and through `b`).
-/
import Spydr.Hier.Spec

namespace Spydr.Hier

def exD : Design :=
  { defs :=
      [ { ports := [⟨1, "I", false, 0, [2]⟩], cables := [], children := [], inNl := true },
        { ports := [⟨3, "I", false, 0, [4]⟩],
          cables := [⟨6, "n", false, 0, [⟨7, [.inner 4, .outer 5 2]⟩]⟩],
          children := [⟨5, "l", some 0⟩], inNl := true },
        { ports := [⟨13, "B", true, 2, [14, 15]⟩],
          cables := [⟨10, "t", true, 3, [⟨11, [.outer 8 4, .outer 9 4]⟩, ⟨16, [.inner 14]⟩]⟩],
          children := [⟨8, "a", some 1⟩, ⟨9, "b", some 1⟩], inNl := true } ],
    top := some ⟨12, "top", some 2⟩ }

end Spydr.Hier
