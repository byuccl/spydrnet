/-
  Engine `hier` — specification side (C11, C12).  Written without reference to the algorithms of
  Model.lean: only the data types are shared.  No Mathlib.

  * `Occ d h e`    : `h` is an occurrence of element `e` in the elaborated design (inductive);
                     `ValidPath`, `IsHInst` … `IsHWire`: its projections by kind of element;
                     `Within`: lying in a hierarchical instance; `InstNames`: the names along a path.
  * `Adj d p w`    : hierarchical pin `p` is attached to hierarchical wire `w` (from the inside /
                     from the outside of the instance boundary).
  * `Conn d`       : equivalence closure of `Adj` — "electrically connected".
  * `WF d`, `WFNet d`, `Sorted d` : decidable hypotheses of the theorems (identities are unique; inside
                     one definition a pin reference is on at most one wire and well-scoped; definitions
                     are presented in a topological order, which exists iff the hierarchy is acyclic).
-/
import Spydr.Hier.Model

namespace Spydr.Hier

/-! ## Occurrences in the elaborated design -/

inductive Occ (d : Design) : HRef → Elem → Prop
  /-- the top instance: `top.reference.library.netlist.top_instance is top` -/
  | top {t : Inst} {r : Nat} {D : Defn} :
      d.top = some t → t.ref = some r → d.defs[r]? = some D → D.inNl = true →
      Occ d [t.id] (.inst t)
  /-- a child of the definition of a hierarchical instance -/
  | child {p : HRef} {i c : Inst} {r : Nat} {D : Defn} :
      Occ d p (.inst i) → i.ref = some r → d.defs[r]? = some D → c ∈ D.children →
      Occ d (c.id :: p) (.inst c)
  | port {p : HRef} {i : Inst} {r : Nat} {D : Defn} {P : Port} :
      Occ d p (.inst i) → i.ref = some r → d.defs[r]? = some D → P ∈ D.ports →
      Occ d (P.id :: p) (.port P)
  | pin {h : HRef} {P : Port} {q : Nat} :
      Occ d h (.port P) → q ∈ P.pins → Occ d (q :: h) (.pin P q)
  | cable {p : HRef} {i : Inst} {r : Nat} {D : Defn} {C : Cable} :
      Occ d p (.inst i) → i.ref = some r → d.defs[r]? = some D → C ∈ D.cables →
      Occ d (C.id :: p) (.cable C)
  | wire {h : HRef} {C : Cable} {w : Wire} :
      Occ d h (.cable C) → w ∈ C.wires → Occ d (w.id :: h) (.wire C w)

def ValidPath (d : Design) (h : HRef) : Prop := ∃ e, Occ d h e

def IsHInst (d : Design) (h : HRef) : Prop := ∃ i, Occ d h (.inst i)
def IsHPort (d : Design) (h : HRef) : Prop := ∃ P, Occ d h (.port P)
def IsHPin (d : Design) (h : HRef) : Prop := ∃ P q, Occ d h (.pin P q)
def IsHCable (d : Design) (h : HRef) : Prop := ∃ C, Occ d h (.cable C)
def IsHWire (d : Design) (h : HRef) : Prop := ∃ C w, Occ d h (.wire C w)

/-- `h` lies in the hierarchical instance `p` (`rec = false`: directly; `true`: at any depth):
    `ip` is the instance part of `h`. -/
def Within (p : HRef) (rec : Bool) (ip : HRef) : Prop := ip = p ∨ (rec = true ∧ p <:+ ip)

/-! ## Names -/

/-- names of the instances strictly below the top along an instance path, top-most first -/
inductive InstNames (d : Design) : HRef → List String → Prop
  | top {t : Inst} : Occ d [t.id] (.inst t) → InstNames d [t.id] []
  | child {p : HRef} {c : Inst} {ns : List String} :
      InstNames d p ns → Occ d (c.id :: p) (.inst c) → InstNames d (c.id :: p) (ns ++ [c.name])

/-! ## Connectivity -/

/-- `Adj d p w`: hierarchical pin `p` is on hierarchical wire `w`. -/
inductive Adj (d : Design) : HRef → HRef → Prop
  /-- the wire inside the instance, attached to the port's inner pin -/
  | inside {p : HRef} {i : Inst} {r : Nat} {D : Defn} {P : Port} {q : Nat} {C : Cable} {w : Wire} :
      Occ d p (.inst i) → i.ref = some r → d.defs[r]? = some D →
      P ∈ D.ports → q ∈ P.pins → C ∈ D.cables → w ∈ C.wires → PinRef.inner q ∈ w.pins →
      Adj d (q :: P.id :: p) (w.id :: C.id :: p)
  /-- the wire outside the sub-instance `c`, attached to `c`'s outer pin for `q` -/
  | outside {p : HRef} {i c : Inst} {r r2 : Nat} {D D2 : Defn} {P : Port} {q : Nat} {C : Cable} {w : Wire} :
      Occ d p (.inst i) → i.ref = some r → d.defs[r]? = some D →
      c ∈ D.children → c.ref = some r2 → d.defs[r2]? = some D2 →
      P ∈ D2.ports → q ∈ P.pins → C ∈ D.cables → w ∈ C.wires → PinRef.outer c.id q ∈ w.pins →
      Adj d (q :: P.id :: c.id :: p) (w.id :: C.id :: p)

def Link (d : Design) (a b : HRef) : Prop := Adj d a b ∨ Adj d b a

/-- electrically connected: the equivalence closure of `Adj` -/
inductive Conn (d : Design) : HRef → HRef → Prop
  | refl (a : HRef) : Conn d a a
  | adj {a b : HRef} : Adj d a b → Conn d a b
  | symm {a b : HRef} : Conn d a b → Conn d b a
  | trans {a b c : HRef} : Conn d a b → Conn d b c → Conn d a c

/-! ## Decidable hypotheses -/

def Defn.LocalWF (D : Defn) : Prop :=
  (D.children.map (·.id) ++ (D.ports.map (·.id) ++ D.cables.map (·.id))).Nodup ∧
  (D.ports.flatMap (·.pins)).Nodup ∧
  (D.cables.flatMap (fun C => C.wires.map (·.id))).Nodup

instance (D : Defn) : Decidable D.LocalWF := by unfold Defn.LocalWF; infer_instance

/-- a pin reference on a wire of `D` names a pin of a port of `D`, or a child of `D` and a pin of a
    port of that child's definition -/
def pinRefOk (d : Design) (D : Defn) : PinRef → Bool
  | .inner q => D.ports.any (fun P => decide (q ∈ P.pins))
  | .outer c q =>
    D.children.any (fun ci => ci.id == c &&
      (match ci.ref with
       | some r2 =>
         (match d.defs[r2]? with
          | some D2 => D2.ports.any (fun P => decide (q ∈ P.pins))
          | none => false)
       | none => false))

def topIds (d : Design) : List Nat :=
  match d.top with
  | some t => [t.id]
  | none => []

def allChildren (d : Design) : List Inst := d.defs.flatMap (·.children)

/-- Well-formedness of the dumped value, identity part: identities are unique per kind (one Python
    object = one identity, each element listed once by its owner). -/
def WF (d : Design) : Prop :=
  (∀ D ∈ d.defs, D.LocalWF) ∧
  (topIds d ++ (allChildren d).map (·.id)).Nodup ∧
  (d.defs.flatMap (fun D => D.ports.map (·.id))).Nodup ∧
  (d.defs.flatMap (fun D => D.ports.flatMap (·.pins))).Nodup ∧
  (d.defs.flatMap (fun D => D.cables.map (·.id))).Nodup ∧
  (d.defs.flatMap (fun D => D.cables.flatMap (fun C => C.wires.map (·.id)))).Nodup

instance (d : Design) : Decidable (WF d) := by unfold WF; infer_instance

def wfCheck (d : Design) : Bool := decide (WF d)

/-- Well-formedness, connection part (C01/C02 for wires): inside one definition each pin reference is
    on at most one wire, once, and every pin reference on a wire is well-scoped. -/
def WFNet (d : Design) : Prop :=
  (∀ D ∈ d.defs, (D.cables.flatMap (fun C => C.wires.flatMap (·.pins))).Nodup) ∧
  (∀ D ∈ d.defs, ∀ C ∈ D.cables, ∀ w ∈ C.wires, ∀ r ∈ w.pins, pinRefOk d D r = true)

instance (d : Design) : Decidable (WFNet d) := by unfold WFNet; infer_instance

def wfNetCheck (d : Design) : Bool := decide (WFNet d)

/-- children reference definitions of strictly smaller index (a topological presentation) -/
def sortedCheck (d : Design) : Bool :=
  d.defs.zipIdx.all (fun Dk => Dk.1.children.all (fun c =>
    match c.ref with
    | some r => decide (r < Dk.2)
    | none => true))

/-- `Acyclic`: the definitions are listed in a topological order of "instantiates".  Every acyclic
    netlist has such a presentation (the harness dumps in that order); a cyclic one has none. -/
def Sorted (d : Design) : Prop := sortedCheck d = true

instance (d : Design) : Decidable (Sorted d) := by unfold Sorted; infer_instance

abbrev Acyclic (d : Design) : Prop := Sorted d

end Spydr.Hier
