/-
  `HRef.is_unique`: the upward search over the alternative instances of the owning definitions
  succeeds exactly when the referenced element has a second occurrence.
-/
import Spydr.Hier.LemmasUp

namespace Spydr.Hier

/-- the instances whose reachability `is_unique` examines: for every level of the path, the other
    instances of the definition owning the item of that level -/
def alts (d : Design) (h : HRef) : List Nat := ownerOthers d h ++ otherRefs d (instPath d h)

def HasOcc (d : Design) (x : Nat) : Prop := ∃ p c, Occ d p (.inst c) ∧ c.id = x

theorem mem_filter_ne (l : List Nat) (y b : Nat) : b ∈ l.filter (fun b => b != y) ↔ b ∈ l ∧ b ≠ y := by
  simp [List.mem_filter]

theorem Occ.hasOcc {d : Design} {p : HRef} {c : Inst} (ho : Occ d p (.inst c)) : HasOcc d c.id := ⟨p, c, ho, rfl⟩

theorem WF.child_def_unique {d : Design} (hwf : WF d) {c : Inst} {r r' : Nat} {D D' : Defn}
    (hD : d.defs[r]? = some D) (hc : c ∈ D.children) (hD' : d.defs[r']? = some D') (hc' : c ∈ D'.children) : r = r' :=
  (hwf.childTable_unique ((mem_childTable c r).mpr ⟨D, hD, hc⟩) ((mem_childTable c r').mpr ⟨D', hD', hc'⟩) rfl).2

/-- `b` is another instance of the definition of one of the hierarchical instances on the path `h` -/
def AltAt (d : Design) (b : Nat) (h : HRef) : Prop :=
  ∃ q iy r, q <:+ h ∧ Occ d q (.inst iy) ∧ iy.ref = some r ∧ b ∈ d.refsOf r ∧ b ≠ iy.id

theorem AltAt.cons {d : Design} {b : Nat} {h : HRef} (x : Nat) : AltAt d b h → AltAt d b (x :: h) :=
  fun ⟨q, iy, r, a1, a2⟩ => ⟨q, iy, r, a1.trans (List.suffix_cons _ _), a2⟩

/-- What `is_unique` needs of `alts d h` for an occurrence `h` of `e`: an alternative has an occurrence exactly
    when `e` has a second one, and every alternative comes from a level of the path. -/
def AltsOK (d : Design) (h : HRef) (e : Elem) : Prop :=
  ((∃ b ∈ alts d h, HasOcc d b) ↔ ∃ h', Occ d h' e ∧ h' ≠ h) ∧ ∀ b ∈ alts d h, AltAt d b h

/-- One level: `e` (a child, port or cable, identity `x`) belongs to the definition `r` of the hierarchical
    instance `y :: p'`.  Another occurrence of `e` lies in another occurrence of that instance (`ih`) or in an
    occurrence of another instance of `r`. -/
theorem AltsOK.level {d : Design} (hwf : WF d) {e : Elem} {x y : Nat} {p' : HRef} {i : Inst} {r : Nat}
    (hp : Occ d (y :: p') (.inst i)) (hr : i.ref = some r)
    (halts : ∀ b, b ∈ alts d (x :: y :: p') ↔ (b ∈ d.refsOf r ∧ b ≠ y) ∨ b ∈ alts d (y :: p'))
    (hmk : ∀ {p2 : HRef} {i2 : Inst}, Occ d p2 (.inst i2) → i2.ref = some r → Occ d (x :: p2) e)
    (hinv : ∀ {h' : HRef}, Occ d h' e → ∃ p2 i2, h' = x :: p2 ∧ Occ d p2 (.inst i2) ∧ i2.ref = some r)
    (ih : AltsOK d (y :: p') (.inst i)) : AltsOK d (x :: y :: p') e := by
  refine ⟨⟨?_, ?_⟩, fun b hb => ?_⟩
  · rintro ⟨b, hb, hocc⟩
    rcases (halts b).mp hb with ⟨hbr, hby⟩ | hb'
    · obtain ⟨pb, cb, hocb, rfl⟩ := hocc
      refine ⟨x :: pb, hmk hocb ((hwf.mem_refsOf_occ hocb r).mp hbr), fun he => ?_⟩
      simp only [List.cons.injEq, true_and] at he
      subst he
      exact hby hocb.head_id.symm
    · obtain ⟨p2, ho2, hne2⟩ := ih.1.mp ⟨b, hb', hocc⟩
      exact ⟨x :: p2, hmk ho2 hr, by simpa using hne2⟩
  · rintro ⟨h', ho', hne⟩
    obtain ⟨p2, i2, rfl, hp2, hr2⟩ := hinv ho'
    have hne2 : p2 ≠ y :: p' := fun he => hne (by rw [he])
    by_cases hid : i2.id = i.id
    · cases hwf.instRec_unique hp2.instRec hp.instRec hid
      obtain ⟨b, hb, hocc⟩ := ih.1.mpr ⟨p2, hp2, hne2⟩
      exact ⟨b, (halts b).mpr (Or.inr hb), hocc⟩
    · exact ⟨i2.id, (halts _).mpr (Or.inl ⟨(mem_refsOf _ _).mpr ⟨i2, hp2.instRec, rfl, hr2⟩,
        hp.head_id ▸ hid⟩), hp2.hasOcc⟩
  · rcases (halts b).mp hb with ⟨h1, h2⟩ | hb'
    · exact ⟨_, i, r, List.suffix_cons _ _, hp, hr, h1, hp.head_id ▸ h2⟩
    · exact (ih.2 b hb').cons x

/-- a pin or wire `e` (identity `x`) of the bundle `b`: same alternatives as for the bundle -/
theorem AltsOK.member {d : Design} {b e : Elem} {x : Nat} {h : HRef} (halts : alts d (x :: h) = alts d h)
    (hmk : ∀ {h2 : HRef}, Occ d h2 b → Occ d (x :: h2) e)
    (hinv : ∀ {h' : HRef}, Occ d h' e → ∃ h2, h' = x :: h2 ∧ Occ d h2 b)
    (ih : AltsOK d h b) : AltsOK d (x :: h) e := by
  rw [AltsOK, halts]
  refine ⟨⟨fun hb => ?_, fun ⟨h', ho', hne⟩ => ?_⟩, fun b hb => (ih.2 b hb).cons x⟩
  · obtain ⟨h2, ho2, hne2⟩ := ih.1.mp hb
    exact ⟨x :: h2, hmk ho2, by simpa using hne2⟩
  · obtain ⟨h2, rfl, ho2⟩ := hinv ho'
    exact ih.1.mpr ⟨h2, ho2, fun he => hne (by rw [he])⟩

theorem alts_spec {d : Design} (hwf : WF d) {h : HRef} {e : Elem} (ho : Occ d h e) : AltsOK d h e := by
  induction ho with
  | @top t r D h1 h2 h3 h4 =>
    have hnil : alts d [t.id] = [] := by
      simp [alts, ownerOthers, instPath, resolve_complete hwf (Occ.top h1 h2 h3 h4), otherRefs]
    rw [AltsOK, hnil]
    refine ⟨⟨fun ⟨b, hb, _⟩ => absurd hb List.not_mem_nil, fun ⟨h', ho', hne⟩ => ?_⟩, fun b hb => absurd hb List.not_mem_nil⟩
    cases ho' with
    | top => exact absurd rfl hne
    | child _ _ hD hc => exact absurd rfl (hwf.top_not_child h1 ((mem_childTable t _).mpr ⟨_, hD, hc⟩))
  | @child p i c r D hp hr hD hc ih =>
    obtain ⟨y, p', rfl⟩ := hp.exists_cons
    have hpar : d.parentOf c.id = some r := hwf.parentOf_eq ((mem_childTable c r).mpr ⟨D, hD, hc⟩)
    refine ih.level hwf hp hr (fun b => ?_) (Occ.child · · hD hc) (fun ho' => ?_)
    · simp only [alts, ownerOthers, instPath, resolve_complete hwf (hp.child hr hD hc), resolve_complete hwf hp,
        otherRefs, hpar, List.nil_append, List.mem_append, mem_filter_ne]
    · cases ho' with
      | top h1 _ _ _ => exact absurd rfl (hwf.top_not_child h1 ((mem_childTable c r).mpr ⟨D, hD, hc⟩))
      | child hp2 hr2 hD2 hc2 => exact ⟨_, _, rfl, hp2, hwf.child_def_unique hD2 hc2 hD hc ▸ hr2⟩
  | @port p i r D P hp hr hD hP ih =>
    obtain ⟨y, p', rfl⟩ := hp.exists_cons
    refine ih.level hwf hp hr (fun b => ?_) (Occ.port · · hD hP) (fun ho' => ?_)
    · simp only [alts, ownerOthers, instPath, resolve_complete hwf (hp.port hr hD hP), resolve_complete hwf hp,
        List.tail_cons, hr, List.nil_append, List.mem_append, mem_filter_ne, hp.head_id.symm]
    · obtain ⟨p2, i2, r2, D2, rfl, hp2, hr2, hD2, hP2⟩ := ho'.port_inv
      exact ⟨p2, i2, rfl, hp2, flatMap_index_unique hwf.2.2.1 hD2 hD (List.mem_map_of_mem hP2)
        (List.mem_map_of_mem (f := fun (P : Port) => P.id) hP) ▸ hr2⟩
  | @cable p i r D C hp hr hD hC ih =>
    obtain ⟨y, p', rfl⟩ := hp.exists_cons
    refine ih.level hwf hp hr (fun b => ?_) (Occ.cable · · hD hC) (fun ho' => ?_)
    · simp only [alts, ownerOthers, instPath, resolve_complete hwf (hp.cable hr hD hC), resolve_complete hwf hp,
        List.tail_cons, hr, List.nil_append, List.mem_append, mem_filter_ne, hp.head_id.symm]
    · obtain ⟨p2, i2, r2, D2, rfl, hp2, hr2, hD2, hC2⟩ := ho'.cable_inv
      exact ⟨p2, i2, rfl, hp2, flatMap_index_unique hwf.2.2.2.2.1 hD2 hD (List.mem_map_of_mem hC2)
        (List.mem_map_of_mem (f := fun (C : Cable) => C.id) hC) ▸ hr2⟩
  | @pin h P q hp hq ih =>
    refine ih.member ?_ (Occ.pin · hq) (fun ho' => by cases ho' with | pin hy' _ => exact ⟨_, rfl, hy'⟩)
    obtain ⟨p, i, r, D, rfl, _⟩ := hp.port_inv
    simp only [alts, ownerOthers, instPath, resolve_complete hwf (hp.pin hq), resolve_complete hwf hp, List.tail_cons]
  | @wire h C w hp hw ih =>
    refine ih.member ?_ (Occ.wire · hw) (fun ho' => by cases ho' with | wire hy' _ => exact ⟨_, rfl, hy'⟩)
    obtain ⟨p, i, r, D, rfl, _⟩ := hp.cable_inv
    simp only [alts, ownerOthers, instPath, resolve_complete hwf (hp.wire hw), resolve_complete hwf hp, List.tail_cons]

theorem mem_instPath_hasOcc {d : Design} {h : HRef} {c : Inst} (ho : Occ d h (.inst c)) : ∀ v ∈ h, HasOcc d v :=
  Occ.inst_induction (fun hot _ hv => List.mem_singleton.mp hv ▸ hot.hasOcc)
    (fun hp hr hD hc ih v hv => (List.mem_cons.mp hv).elim (· ▸ (Occ.child hp hr hD hc).hasOcc) (ih v)) ho

theorem desc_ref_lt {d : Design} (hwf : WF d) (hs : Sorted d) {p : HRef} {i : Inst} (hp : Occ d p (.inst i))
    {ri : Nat} (hri : i.ref = some ri) {h : HRef} {c : Inst} (ho : Occ d h (.inst c)) (hsuf : p <:+ h) (hne : p ≠ h)
    {rc : Nat} (hrc : c.ref = some rc) : rc < ri := by
  revert rc
  exact hp.below_induction hwf (motive := fun _ c => ∀ {rc}, c.ref = some rc → rc < ri)
    (fun hr hD hc _ hrc => Option.some.inj (hri.symm.trans hr) ▸ hs.lt hD hc hrc)
    (fun _ _ _ hr hD hc ih _ hrc => Nat.lt_trans (hs.lt hD hc hrc) (ih hr)) ho hsuf hne.symm

theorem parent_hasOcc {d : Design} (hwf : WF d) {x y : Nat} (hp : Parent d x y) (hy : HasOcc d y) : HasOcc d x := by
  obtain ⟨c, k, D, i, hD, hc, hx, hi, hiy, hr⟩ := hp
  obtain ⟨py, cy, hocy, hcy⟩ := hy
  have : cy = i := hwf.instRec_unique hocy.instRec hi (hcy.trans hiy.symm)
  subst this
  exact ⟨c.id :: py, c, Occ.child hocy hr hD hc, hx⟩

theorem transGen_parent_hasOcc {d : Design} (hwf : WF d) {x y : Nat} (hp : Relation.TransGen (Parent d) x y)
    (hy : HasOcc d y) : HasOcc d x := by
  induction hp with
  | single h => exact parent_hasOcc hwf h hy
  | tail _ h ih => exact ih (parent_hasOcc hwf h hy)

theorem instPath_occ {d : Design} (hwf : WF d) {h : HRef} {e : Elem} (ho : Occ d h e) :
    ∃ c, Occ d (instPath d h) (.inst c) ∧ instPath d h <:+ h := by
  unfold instPath
  rw [resolve_complete hwf ho]
  cases e with
  | inst i => exact ⟨i, ho, List.suffix_refl _⟩
  | port P =>
    obtain ⟨p, i, r, D, rfl, hp, _⟩ := ho.port_inv
    exact ⟨i, hp, List.suffix_cons _ _⟩
  | cable C =>
    obtain ⟨p, i, r, D, rfl, hp, _⟩ := ho.cable_inv
    exact ⟨i, hp, List.suffix_cons _ _⟩
  | pin P q =>
    obtain ⟨p, i, r, D, rfl, hp, _⟩ := ho.pin_inv
    exact ⟨i, hp, (List.suffix_cons _ _).trans (List.suffix_cons _ _)⟩
  | wire C w =>
    obtain ⟨p, i, r, D, rfl, hp, _⟩ := ho.wire_inv
    exact ⟨i, hp, (List.suffix_cons _ _).trans (List.suffix_cons _ _)⟩

theorem isUnique_eq {d : Design} (h : HRef) (hv : isValid d h = true) :
    isUnique d h =
      ((Reach.go (upSucc d) (upFuel d ((alts d h).flatMap (upSucc d))) ((alts d h).flatMap (upSucc d)) []).1.all
          (fun v => !((instPath d h).contains v)),
       (Reach.go (upSucc d) (upFuel d ((alts d h).flatMap (upSucc d))) ((alts d h).flatMap (upSucc d)) []).2) := by
  unfold isUnique alts
  rw [if_pos hv]

theorem isUnique_iff' {d : Design} (hwf : WF d) (hs : Sorted d) (h : HRef) :
    (isUnique d h).1 = true ↔ ∃ e, Occ d h e ∧ ∀ h', Occ d h' e → h' = h := by
  by_cases hv : isValid d h = true
  · obtain ⟨e, ho⟩ := (isValid_iff' hwf h).mp hv
    obtain ⟨ci, hip, hsuf⟩ := instPath_occ hwf ho
    -- the search meets the instance path exactly when an alternative instance has an occurrence
    have key : (∃ v ∈ (Reach.go (upSucc d) (upFuel d ((alts d h).flatMap (upSucc d))) ((alts d h).flatMap (upSucc d)) []).1,
        v ∈ instPath d h) ↔ ∃ b ∈ alts d h, HasOcc d b := by
      simp only [mem_upSearch hwf]
      constructor
      · rintro ⟨v, ⟨b, hb, ht⟩, hv2⟩
        exact ⟨b, hb, transGen_parent_hasOcc hwf ht (mem_instPath_hasOcc hip v hv2)⟩
      · rintro ⟨b, hb, pb, cb, hocb, rfl⟩
        -- the top instance is on the path and above `pb`; it is not itself an alternative (`Sorted`)
        obtain ⟨t, ht, htsuf⟩ := hocb.has_top
        obtain ⟨t', ht', htsuf'⟩ := hip.has_top
        cases ht.symm.trans ht'
        have hot := topInst_occ ht
        refine ⟨t.id, ⟨_, hb, ?_⟩, htsuf'.subset (List.mem_singleton.mpr rfl)⟩
        by_cases hpb : [t.id] = pb
        · subst hpb
          obtain rfl : t = cb := Elem.inst.inj (Occ.unique hwf hot hocb)
          obtain ⟨q, iy, r, a1, a2, a3, a4, a5⟩ := (alts_spec hwf ho).2 t.id hb
          have hr' := (hwf.mem_refsOf_occ hot r).mp a4
          obtain ⟨t2, ht2, hts2⟩ := a2.has_top
          cases ht.symm.trans ht2
          by_cases hq : [t.id] = q
          · subst hq
            cases Occ.unique hwf hot a2
            exact absurd rfl a5
          · exact absurd (desc_ref_lt hwf hs hot hr' a2 hts2 hq a3) (Nat.lt_irrefl _)
        · exact ancestor_transGen hwf hocb hot htsuf hpb
    rw [isUnique_eq h hv, List.all_eq_true]
    constructor
    · intro hall
      refine ⟨e, ho, fun h' ho' => ?_⟩
      by_contra hne
      obtain ⟨v, hv1, hv2⟩ := key.mpr ((alts_spec hwf ho).1.mpr ⟨h', ho', hne⟩)
      simpa [hv2] using hall v hv1
    · rintro ⟨e', ho', huniq⟩ v hv1
      cases Occ.unique hwf ho ho'
      by_contra hc
      obtain ⟨h', ho2, hne⟩ := (alts_spec hwf ho).1.mp (key.mp ⟨v, hv1, by simpa using hc⟩)
      exact hne (huniq h' ho2)
  · refine ⟨fun hu => ?_, fun ⟨e, ho, _⟩ => absurd ((isValid_iff' hwf h).mpr ⟨e, ho⟩) hv⟩
    simp [isUnique, hv] at hu

theorem isUnique_finished (d : Design) (h : HRef) : (isUnique d h).2 = true := by
  unfold isUnique
  split
  · exact upSearch_finished d _
  · rfl

end Spydr.Hier
