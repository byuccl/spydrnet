/-
  Engine `hier` — executable model of spydrnet's hierarchical references (C11) and
  cross-hierarchy tracing (C12).  No Mathlib (linked into drv_hier).

  The netlist is a self-contained value (`Design`) that the harness extracts from the live
  Python netlist: a list of definitions (ports / cables+wires / children), plus the top instance.
  Every element carries a natural-number identity handed out by the harness (one per Python
  object, stable across edits), so that a hierarchical reference is the list of the identities
  of its items, **leaf first** (`item :: parent path`, exactly the linked list `HRef.item`,
  `HRef.parent` of hierarchical_reference.py).
-/
import Spydr.Hier.ModelReach

namespace Spydr.Hier

/-- A hierarchical reference: identities of the items, leaf first (root = top instance last). -/
abbrev HRef := List Nat

inductive PinRef where
  | inner (pin : Nat)                 -- an InnerPin of a port of the same definition
  | outer (inst : Nat) (pin : Nat)    -- the OuterPin (instance, inner pin) of a child
  deriving DecidableEq, Repr, Inhabited

structure Port where
  id : Nat
  name : String
  isArray : Bool
  lower : Int
  pins : List Nat
  deriving DecidableEq, Repr, Inhabited

structure Wire where
  id : Nat
  pins : List PinRef
  deriving DecidableEq, Repr, Inhabited

structure Cable where
  id : Nat
  name : String
  isArray : Bool
  lower : Int
  wires : List Wire
  deriving DecidableEq, Repr, Inhabited

structure Inst where
  id : Nat
  name : String
  ref : Option Nat          -- index of the referenced definition in `Design.defs`
  deriving DecidableEq, Repr, Inhabited

structure Defn where
  ports : List Port
  cables : List Cable
  children : List Inst
  inNl : Bool               -- definition.library.netlist is the netlist
  deriving DecidableEq, Repr, Inhabited

structure Design where
  defs : List Defn
  top : Option Inst         -- netlist.top_instance
  deriving DecidableEq, Repr, Inhabited

/-- The netlist element an href resolves to. -/
inductive Elem where
  | inst (i : Inst)
  | port (P : Port)
  | pin (P : Port) (q : Nat)
  | cable (C : Cable)
  | wire (C : Cable) (w : Wire)
  deriving DecidableEq, Repr, Inhabited

inductive Sel where
  | inside | outside | both | all
  deriving DecidableEq, Repr, Inhabited

/-- Query roots (`obj` argument of the get_h* functions). -/
inductive Root where
  | netlist
  | library (defs : List Nat)
  | definition (D : Nat)
  | instance (id : Nat)
  | port (id : Nat)
  | cable (id : Nat)
  | innerPin (id : Nat)
  | outerPin (inst : Nat) (pin : Nat)
  | wire (id : Nat)
  | href (h : HRef)
  deriving DecidableEq, Repr, Inhabited

/-! ## Lookups -/

def Design.defOf (d : Design) (i : Inst) : Option Defn :=
  match i.ref with
  | some r => d.defs[r]?
  | none => none

/-- `netlist.top_instance` when `top.reference.library.netlist.top_instance == top` holds
    (the root test of `HRef.is_valid`). -/
def Design.topInst (d : Design) : Option Inst :=
  match d.top with
  | some t =>
    match d.defOf t with
    | some D => if D.inNl then some t else none
    | none => none
  | none => none

def Defn.child? (D : Defn) (x : Nat) : Option Inst := D.children.find? (fun c => c.id == x)
def Defn.port? (D : Defn) (x : Nat) : Option Port := D.ports.find? (fun P => P.id == x)
def Defn.cable? (D : Defn) (x : Nat) : Option Cable := D.cables.find? (fun C => C.id == x)
def Cable.wire? (C : Cable) (x : Nat) : Option Wire := C.wires.find? (fun w => w.id == x)
/-- `pin.port` for an inner pin of this definition. -/
def Defn.portOfPin (D : Defn) (q : Nat) : Option Port := D.ports.find? (fun P => decide (q ∈ P.pins))
/-- `pin.wire` (with its cable) for a pin reference inside this definition. -/
def Defn.wireOf (D : Defn) (r : PinRef) : Option (Cable × Wire) :=
  D.cables.findSome? (fun C => (C.wires.find? (fun w => decide (r ∈ w.pins))).map (fun w => (C, w)))

/-- What an href resolves to in the current design; `none` = not an occurrence.
    (`HRef.is_valid` walks the same chain upward through the back-pointers.) -/
def resolve (d : Design) : HRef → Option Elem
  | [] => none
  | [x] =>
    match d.topInst with
    | some t => if t.id = x then some (.inst t) else none
    | none => none
  | x :: y :: p =>
    match resolve d (y :: p) with
    | some (.inst i) =>
      match d.defOf i with
      | some D =>
        match D.child? x with
        | some c => some (.inst c)
        | none =>
          match D.port? x with
          | some P => some (.port P)
          | none =>
            match D.cable? x with
            | some C => some (.cable C)
            | none => none
      | none => none
    | some (.port P) => if x ∈ P.pins then some (.pin P x) else none
    | some (.cable C) =>
      match C.wire? x with
      | some w => some (.wire C w)
      | none => none
    | _ => none

/-- `HRef.is_valid`. -/
def isValid (d : Design) (h : HRef) : Bool := (resolve d h).isSome

/-! ## Names (`HRef.name`) -/

def Elem.name : Elem → String
  | .inst i => i.name
  | .port P => P.name
  | .cable C => C.name
  | .pin _ _ => ""
  | .wire _ _ => ""

/-- names of the items along the parent chain, leaf first -/
def pathNames (d : Design) : HRef → List String
  | [] => []
  | x :: p => (match resolve d (x :: p) with | some e => e.name | none => "") :: pathNames d p

def slashJoin (l : List String) : String := "/".intercalate l

def busIndex (isArray : Bool) (lower : Int) (pos : Nat) : String :=
  if isArray then "[" ++ toString (lower + (pos : Int)) ++ "]" else ""

/-- `HRef.name`: slash-joined names below the top, plus `[lower+index]` for members of array
    bundles. -/
def hrefName (d : Design) (h : HRef) : String :=
  match resolve d h with
  | some (.wire C w) =>
      slashJoin ((pathNames d h.tail).dropLast.reverse) ++ busIndex C.isArray C.lower (C.wires.idxOf w)
  | some (.pin P q) =>
      slashJoin ((pathNames d h.tail).dropLast.reverse) ++ busIndex P.isArray P.lower (P.pins.idxOf q)
  | _ => slashJoin ((pathNames d h).dropLast.reverse)

/-! ## Reference sets and parents (the back-pointers, recomputed from the value) -/

/-- every instance of the design with the index of the definition that contains it -/
def Design.childTable (d : Design) : List (Inst × Nat) :=
  d.defs.zipIdx.flatMap (fun Dk => Dk.1.children.map (fun c => (c, Dk.2)))

/-- `definition.references` (identities), including the top instance -/
def Design.refsOf (d : Design) (D : Nat) : List Nat :=
  (match d.top with
   | some t => if t.ref = some D then [t.id] else []
   | none => []) ++
  (d.childTable.filter (fun cp => cp.1.ref == some D)).map (fun cp => cp.1.id)

/-- `instance.parent` as a definition index -/
def Design.parentOf (d : Design) (x : Nat) : Option Nat :=
  (d.childTable.find? (fun cp => cp.1.id == x)).map (fun cp => cp.2)

/-- the instance record with identity `x` (top or child) -/
def Design.instById (d : Design) (x : Nat) : Option Inst :=
  match d.top with
  | some t => if t.id = x then some t else (d.childTable.find? (fun cp => cp.1.id == x)).map (·.1)
  | none => (d.childTable.find? (fun cp => cp.1.id == x)).map (·.1)

/-- one step up: the instances of the definition that contains `x` -/
def upSucc (d : Design) (x : Nat) : List Nat :=
  match d.parentOf x with
  | some D => d.refsOf D
  | none => []

/-- fuel of the upward search: there are at most `childTable.length + 1` instance identities (the
    children and the top instance), each with at most that many successors under `upSucc` -/
def upFuel (d : Design) (init : List Nat) : Nat :=
  init.length + (d.childTable.length + 2) * (d.childTable.length + 2)

/-- the instance part of a valid href (strip port/pin, cable/wire) -/
def instPath (d : Design) (h : HRef) : HRef :=
  match resolve d h with
  | some (.inst _) => h
  | some (.port _) => h.tail
  | some (.cable _) => h.tail
  | some (.pin _ _) => h.tail.tail
  | some (.wire _ _) => h.tail.tail
  | none => []

/-- for every non-root instance on the path: the *other* instances of the definition containing it -/
def otherRefs (d : Design) : HRef → List Nat
  | [] => []
  | [_] => []
  | x :: y :: p =>
    (match d.parentOf x with
     | some D => (d.refsOf D).filter (fun b => b != y)
     | none => []) ++ otherRefs d (y :: p)

/-- for a reference to a port / cable (or a pin / wire of one): the *other* instances of the
    definition that owns the bundle (repaired code; the pinned commit looks at instances only) -/
def ownerOthers (d : Design) (h : HRef) : List Nat :=
  match resolve d h with
  | some (.inst _) => []
  | none => []
  | some _ =>
    match resolve d (instPath d h) with
    | some (.inst i) =>
      match i.ref with
      | some r => (d.refsOf r).filter (fun b => b != i.id)
      | none => []
    | _ => []

/-- `HRef.is_unique` (second component: the upward search finished within its fuel). -/
def isUnique (d : Design) (h : HRef) : Bool × Bool :=
  if isValid d h then
    let ip := instPath d h
    let init := (ownerOthers d h ++ otherRefs d ip).flatMap (upSucc d)
    let r := Reach.go (upSucc d) (upFuel d init) init []
    (r.1.all (fun v => !(ip.contains v)), r.2)
  else (false, true)

/-! ## `HRef.get_all_hrefs_of_instances`: upward bound set, downward search from the top -/

/-- downward search: paths from `(p, i)` to members of `insts`, pruned by `bound` -/
def searchDown (d : Design) (insts bound : List Nat) : Nat → HRef → Inst → List HRef
  | 0, _, _ => []
  | f+1, p, i =>
    (if i.id ∈ insts then [p] else []) ++
    (match d.defOf i with
     | some D =>
       D.children.flatMap (fun c =>
         if c.id ∈ bound then searchDown d insts bound f (c.id :: p) c
         else if c.id ∈ insts then [c.id :: p] else [])
     | none => [])

/-- an instance leads to the netlist when its reference, or else the definition that contains it, sits
    in a library of the netlist (`definition.library.netlist`) -/
def leadsToNetlist (d : Design) (x : Nat) : Bool :=
  match d.instById x with
  | some i =>
    (match i.ref with
     | some r =>
       (match d.defs[r]? with
        | some D => D.inNl
        | none => false)
     | none => false) ||
    (match d.parentOf x with
     | some k =>
       (match d.defs[k]? with
        | some D => D.inNl
        | none => false)
     | none => false)
  | none => false

/-- repaired code: the netlist is looked for through the given instances *and their ancestors* (the
    bound set), so an element with a valid occurrence always finds it (the top instance is among them) -/
def netlistOk (d : Design) (insts bound : List Nat) : Bool := (insts ++ bound).any (leadsToNetlist d)

def allHrefs (d : Design) (insts : List Nat) : List HRef × Bool :=
  match d.top with
  | some t =>
    let init := insts.flatMap (upSucc d)
    let b := Reach.go (upSucc d) (upFuel d init) init []
    if netlistOk d insts b.1 then (searchDown d insts b.1 (d.defs.length + 1) [t.id] t, b.2) else ([], b.2)
  | none => ([], true)

/-! ## Depth-first enumeration below a hierarchical instance -/

/-- all proper descendants of the hierarchical instance `(p, i)` -/
def descs (d : Design) : Nat → HRef → Inst → List (HRef × Inst)
  | 0, _, _ => []
  | f+1, p, i =>
    match d.defOf i with
    | some D => D.children.flatMap (fun c => (c.id :: p, c) :: descs d f (c.id :: p) c)
    | none => []

def kids (d : Design) (p : HRef) (i : Inst) : List (HRef × Inst) :=
  match d.defOf i with
  | some D => D.children.map (fun c => (c.id :: p, c))
  | none => []

/-- the hierarchical instance itself and, when `rec`, everything below it -/
def under (d : Design) (rec : Bool) (p : HRef) (i : Inst) : List (HRef × Inst) :=
  (p, i) :: (if rec then descs d d.defs.length p i else [])

def portsAt (d : Design) (pi : HRef × Inst) : List HRef :=
  match d.defOf pi.2 with
  | some D => D.ports.map (fun P => P.id :: pi.1)
  | none => []

def pinsAt (d : Design) (pi : HRef × Inst) : List HRef :=
  match d.defOf pi.2 with
  | some D => D.ports.flatMap (fun P => P.pins.map (fun q => q :: P.id :: pi.1))
  | none => []

def cablesAt (d : Design) (pi : HRef × Inst) : List HRef :=
  match d.defOf pi.2 with
  | some D => D.cables.map (fun C => C.id :: pi.1)
  | none => []

def wiresAt (d : Design) (pi : HRef × Inst) : List HRef :=
  match d.defOf pi.2 with
  | some D => D.cables.flatMap (fun C => C.wires.map (fun w => w.id :: C.id :: pi.1))
  | none => []

/-! ## Crossing one boundary: wires of a pin, pins of a wire -/

/-- `_get_inner_hwire_from_hpin`: `h = pin :: port :: instance path` -/
def innerWire (d : Design) (h : HRef) : Option HRef :=
  match h with
  | q :: _ :: p =>
    match resolve d p with
    | some (.inst i) =>
      match d.defOf i with
      | some D =>
        match D.wireOf (.inner q) with
        | some (C, w) => some (w.id :: C.id :: p)
        | none => none
      | none => none
    | _ => none
  | _ => none

/-- `_get_outer_hwire_from_hpin`: `h = pin :: port :: instance :: parent path` -/
def outerWire (d : Design) (h : HRef) : Option HRef :=
  match h with
  | q :: _ :: c :: p =>
    match resolve d p with
    | some (.inst i) =>
      match d.defOf i with
      | some D =>
        match D.wireOf (.outer c q) with
        | some (C, w) => some (w.id :: C.id :: p)
        | none => none
      | none => none
    | _ => none
  | _ => none

/-- the hierarchical pin a pin reference on a wire of `(p, D)` denotes; `true` = outer pin -/
def hpinOfRef (d : Design) (D : Defn) (p : HRef) (r : PinRef) : Option (Bool × HRef) :=
  match r with
  | .inner q =>
    match D.portOfPin q with
    | some P => some (false, q :: P.id :: p)
    | none => none
  | .outer c q =>
    match D.child? c with
    | some ci =>
      match d.defOf ci with
      | some D2 =>
        match D2.portOfPin q with
        | some P => some (true, q :: P.id :: c :: p)
        | none => none
      | none => none
    | none => none

/-- `_get_hpins_from_hwire` (tagged): `h = wire :: cable :: instance path` -/
def pinsOfWireT (d : Design) (h : HRef) : List (Bool × HRef) :=
  match resolve d h with
  | some (.wire _ w) =>
    match resolve d h.tail.tail with
    | some (.inst i) =>
      match d.defOf i with
      | some D => w.pins.filterMap (hpinOfRef d D h.tail.tail)
      | none => []
    | _ => []
  | _ => []

def pinsOfWire (d : Design) (h : HRef) : List HRef := (pinsOfWireT d h).map (·.2)

/-- successors in the bipartite graph hierarchical pins ↔ hierarchical wires -/
def traceSucc (d : Design) (n : HRef) : List HRef :=
  match resolve d n with
  | some (.pin _ _) => (innerWire d n).toList ++ (outerWire d n).toList
  | some (.wire _ _) => pinsOfWire d n
  | _ => []

def isWireRef (d : Design) (n : HRef) : Bool :=
  match resolve d n with
  | some (.wire _ _) => true
  | _ => false

def isPinRef (d : Design) (n : HRef) : Bool :=
  match resolve d n with
  | some (.pin _ _) => true
  | _ => false

/-- number of pin references on all wires of all definitions (bounds the degree of a wire) -/
def totalPinRefs (d : Design) : Nat :=
  (d.defs.flatMap (fun D => D.cables.flatMap (fun C => C.wires.flatMap (·.pins)))).length

/-- fuel of the closure: (elaborated pins + wires) × `totalPinRefs d + 3`, a number larger than the
    number of successors of any node (a pin has at most 2 wires, a wire at most `totalPinRefs d`
    pins); proved sufficient in LemmasFuel.lean -/
def traceFuel (d : Design) : Nat :=
  match d.top with
  | some t =>
    let u := under d true [t.id] t
    ((u.flatMap (pinsAt d)).length + (u.flatMap (wiresAt d)).length) * (totalPinRefs d + 3)
  | none => 0

/-- the work-list closure of `_get_hwires_from_hpins` with selection ALL, from pins and/or wires -/
def traceAll (d : Design) (init : List HRef) : List HRef × Bool :=
  let r := Reach.go (traceSucc d) (traceFuel d + init.length) init []
  (r.1.filter (isWireRef d), r.2)

/-! ## Duplicate removal (the `in_yield` / `found` sets of the Python code) -/

def dedup {α : Type} [DecidableEq α] : List α → List α
  | [] => []
  | x :: l => if x ∈ l then dedup l else x :: dedup l

/-! ## The five queries on a hierarchical reference -/

/-- wires reached from one hierarchical pin under a narrow selection -/
def wiresOfPinSel (d : Design) (sel : Sel) (n : HRef) : List HRef :=
  match sel with
  | .inside => (innerWire d n).toList
  | .outside => (outerWire d n).toList
  | .both => (innerWire d n).toList ++ (outerWire d n).toList
  | .all => []

/-- wires on the far side of the pins of a hierarchical wire (selection OUTSIDE on a wire) -/
def acrossWire (d : Design) (h : HRef) : List HRef :=
  (pinsOfWireT d h).flatMap (fun tn => if tn.1 then (innerWire d tn.2).toList else (outerWire d tn.2).toList)

def hwiresOfHRef (d : Design) (rec : Bool) (sel : Sel) (h : HRef) : List HRef × Bool :=
  match resolve d h with
  | some (.inst i) => ((under d rec h i).flatMap (wiresAt d), true)
  | some (.port P) =>
    let pins := P.pins.map (fun q => q :: h)
    if sel = .all then traceAll d pins else (pins.flatMap (wiresOfPinSel d sel), true)
  | some (.pin _ _) =>
    if sel = .all then traceAll d [h] else (wiresOfPinSel d sel h, true)
  | some (.cable C) =>
    let ws := C.wires.map (fun w => w.id :: h)
    match sel with
    | .inside => (ws, true)
    | .outside => (ws.flatMap (acrossWire d), true)
    | .both => (ws.flatMap (fun w => w :: (pinsOfWire d w).flatMap (wiresOfPinSel d .both)), true)
    | .all => traceAll d ws
  | some (.wire _ _) =>
    match sel with
    | .inside => ([h], true)
    | .outside => (acrossWire d h, true)
    | .both => (h :: (pinsOfWire d h).flatMap (wiresOfPinSel d .both), true)
    | .all => traceAll d [h]
  | none => ([], true)

def hcablesOfHRef (d : Design) (rec : Bool) (sel : Sel) (h : HRef) : List HRef × Bool :=
  match resolve d h with
  | some (.inst i) => ((under d rec h i).flatMap (cablesAt d), true)
  | some (.cable _) =>
    -- repaired code: INSIDE on a cable is the cable itself (also when it has no wire)
    if sel = .inside then ([h], true) else let r := hwiresOfHRef d rec sel h; (r.1.map List.tail, r.2)
  | _ => let r := hwiresOfHRef d rec sel h; (r.1.map List.tail, r.2)

def hpinsOfHRef (d : Design) (rec : Bool) (h : HRef) : List HRef :=
  match resolve d h with
  | some (.inst i) => (under d rec h i).flatMap (pinsAt d)
  | some (.port P) => P.pins.map (fun q => q :: h)
  | some (.pin _ _) => [h]
  | some (.cable C) => C.wires.flatMap (fun w => pinsOfWire d (w.id :: h))
  | some (.wire _ _) => pinsOfWire d h
  | none => []

def hportsOfHRef (d : Design) (rec : Bool) (h : HRef) : List HRef :=
  match resolve d h with
  | some (.inst i) => (under d rec h i).flatMap (portsAt d)
  | some (.port _) => [h]
  | some (.pin _ _) => [h.tail]
  | some (.cable C) => C.wires.flatMap (fun w => (pinsOfWire d (w.id :: h)).map List.tail)
  | some (.wire _ _) => (pinsOfWire d h).map List.tail
  | none => []

def hinstsOfHRef (d : Design) (rec : Bool) (h : HRef) : List HRef :=
  match resolve d h with
  | some (.inst i) => ((if rec then descs d d.defs.length h i else kids d h i)).map (·.1)
  | some (.port _) => [h.tail]
  | some (.cable _) => [h.tail]
  | some (.pin _ _) => [h.tail.tail]
  | some (.wire _ _) => [h.tail.tail]
  | none => []

/-! ## Element roots: `HRef.get_all_hrefs_of_item` -/

/-- index of the definition that owns the port / cable / inner pin / wire with this identity -/
def Design.defWith (d : Design) (f : Defn → Bool) : Option Nat :=
  (d.defs.zipIdx.find? (fun Dk => f Dk.1)).map (·.2)

def Defn.cableOfWire (D : Defn) (x : Nat) : Option Cable :=
  D.cables.find? (fun C => (C.wire? x).isSome)

/-- `(hrefs, finished)` of `get_all_hrefs_of_item` for element roots (and the instances of a
    definition / the members of a library, which the queries expand the same way). -/
def hrefsOfItem (d : Design) : Root → List HRef × Bool
  | .instance x => allHrefs d [x]
  | .definition D => allHrefs d (d.refsOf D)
  | .port x =>
    match d.defWith (fun D => (D.port? x).isSome) with
    | some D => let r := allHrefs d (d.refsOf D); (r.1.map (fun p => x :: p), r.2)
    | none => ([], true)
  | .cable x =>
    match d.defWith (fun D => (D.cable? x).isSome) with
    | some D => let r := allHrefs d (d.refsOf D); (r.1.map (fun p => x :: p), r.2)
    | none => ([], true)
  | .innerPin q =>
    match d.defWith (fun D => (D.portOfPin q).isSome) with
    | some D =>
      match (d.defs[D]?).bind (fun Df => Df.portOfPin q) with
      | some P => let r := allHrefs d (d.refsOf D); (r.1.map (fun p => q :: P.id :: p), r.2)
      | none => ([], true)
    | none => ([], true)
  | .outerPin c q =>
    match d.defWith (fun D => (D.portOfPin q).isSome) with
    | some D =>
      match (d.defs[D]?).bind (fun Df => Df.portOfPin q) with
      | some P => let r := allHrefs d [c]; (r.1.map (fun p => q :: P.id :: p), r.2)
      | none => ([], true)
    | none => ([], true)
  | .wire x =>
    match d.defWith (fun D => (D.cableOfWire x).isSome) with
    | some D =>
      match (d.defs[D]?).bind (fun Df => Df.cableOfWire x) with
      | some C => let r := allHrefs d (d.refsOf D); (r.1.map (fun p => x :: C.id :: p), r.2)
      | none => ([], true)
    | none => ([], true)
  | .library ds =>
    let rs := ds.map (fun D => allHrefs d (d.refsOf D))
    (rs.flatMap (·.1), rs.all (·.2))
  | .netlist =>
    match d.top with
    | some t => ([[t.id]], true)
    | none => ([], true)
  | .href h => ([h], true)

/-! ## The queries for every root -/

def getHPorts (d : Design) (root : Root) (rec : Bool) : List HRef × Bool :=
  let r := hrefsOfItem d root
  (dedup (r.1.flatMap (hportsOfHRef d rec)), r.2)

def getHPins (d : Design) (root : Root) (rec : Bool) : List HRef × Bool :=
  let r := hrefsOfItem d root
  (dedup (r.1.flatMap (hpinsOfHRef d rec)), r.2)

def getHCables (d : Design) (root : Root) (rec : Bool) (sel : Sel) : List HRef × Bool :=
  let r := hrefsOfItem d root
  let rs := r.1.map (hcablesOfHRef d rec sel)
  (dedup (rs.flatMap (·.1)), r.2 && rs.all (·.2))

def getHWires (d : Design) (root : Root) (rec : Bool) (sel : Sel) : List HRef × Bool :=
  let r := hrefsOfItem d root
  let rs := r.1.map (hwiresOfHRef d rec sel)
  (dedup (rs.flatMap (·.1)), r.2 && rs.all (·.2))

/-- get_hinstances: definitions, instances and outer pins answer with the occurrences themselves;
    ports, cables, pins and wires with the occurrences of the instances of their definition;
    the netlist with what is below the top instance (no validity test on that path). -/
def getHInstances (d : Design) (root : Root) (rec : Bool) : List HRef × Bool :=
  match root with
  | .netlist =>
    match d.top with
    | some t => (dedup (((if rec then descs d d.defs.length [t.id] t else kids d [t.id] t)).map (·.1)), true)
    | none => ([], true)
  | .href h => (dedup (hinstsOfHRef d rec h), true)
  | .library ds => let r := allHrefs d (ds.flatMap d.refsOf); (dedup r.1, r.2)
  | .definition D => let r := allHrefs d (d.refsOf D); (dedup r.1, r.2)
  | .instance x => let r := allHrefs d [x]; (dedup r.1, r.2)
  | .outerPin c _ => let r := allHrefs d [c]; (dedup r.1, r.2)
  | .port x =>
    match d.defWith (fun D => (D.port? x).isSome) with
    | some D => let r := allHrefs d (d.refsOf D); (dedup r.1, r.2)
    | none => ([], true)
  | .cable x =>
    match d.defWith (fun D => (D.cable? x).isSome) with
    | some D => let r := allHrefs d (d.refsOf D); (dedup r.1, r.2)
    | none => ([], true)
  | .innerPin q =>
    match d.defWith (fun D => (D.portOfPin q).isSome) with
    | some D => let r := allHrefs d (d.refsOf D); (dedup r.1, r.2)
    | none => ([], true)
  | .wire x =>
    match d.defWith (fun D => (D.cableOfWire x).isSome) with
    | some D => let r := allHrefs d (d.refsOf D); (dedup r.1, r.2)
    | none => ([], true)

/-! ## Canonicity: `__eq__`, `__hash__`, the flyweight table -/

/-- `HRef.__eq__` walks both parent chains comparing items -/
def hrefEq : HRef → HRef → Bool
  | [], [] => true
  | x :: p, y :: q => x == y && hrefEq p q
  | _, _ => false

/-- `HRef.__init__`: `hash(hash(parent) * 31 + hash(item))`, abstracting the item hash `ih` and the
    word-size reduction `wrap` (Python's `hash` of an int) -/
def hrefHash (ih : Nat → Int) (wrap : Int → Int) (none_hash : Int) : HRef → Int
  | [] => none_hash
  | x :: p => wrap (hrefHash ih wrap none_hash p * 31 + ih x)

/-- the flyweight table: association list from reference value to canonical object identity -/
structure Fly where
  table : List (HRef × Nat)
  next : Nat
  deriving Repr

def Fly.empty : Fly := ⟨[], 0⟩

/-- `HRef.from_parent_and_item`: look the value up; allocate on a miss -/
def Fly.intern (t : Fly) (h : HRef) : Fly × Nat :=
  match t.table.find? (fun e => hrefEq e.1 h) with
  | some e => (t, e.2)
  | none => (⟨(h, t.next) :: t.table, t.next + 1⟩, t.next)

end Spydr.Hier
