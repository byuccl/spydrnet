/-
  Spydr.Names.LemmasKey — the candidate sequence of `_conflicts_fix`: its key advances by one or two
  modulo `10^248 + 1`, hence no candidate repeats within a window shorter than that; pigeonhole;
  termination within the fuel; freshness and legality of the result.
-/
import Spydr.Names.Lemmas

namespace Spydr.Names

def Cand (l : Str) : Prop := Good l ∧ NoUpper l

/-- one round of `_conflicts_fix` on a lower-case candidate -/
def step (l : Str) : Str := lower (lengthFix (bump l))

/-- `0` without suffix, `N + 1` with suffix `_sdn_N_` -/
def key (l : Str) : Nat :=
  match sdnDigits l with
  | none => 0
  | some ds => Nat.ofDigitChars 10 ds 0 + 1

/-- the largest key a candidate can have: 248 digits fit beside a one-character stem -/
def keyMax : Nat := 10 ^ 248

theorem step_eq {l : Str} (h : NoUpper l) : step l = lengthFix (bump l) :=
  lower_of_noUpper h.bump.lengthFix

theorem Cand.step {l : Str} (h : Cand l) : Cand (step l) := by
  rw [step_eq h.2]
  exact ⟨Good_lengthFix h.1.1.bump, h.2.bump.lengthFix⟩

theorem Cand.of_good {s : Str} (h : Good s) : Cand (lower s) := ⟨h.lower, noUpper_lower s⟩

theorem key_of_none {l : Str} (h : sdnDigits l = none) : key l = 0 := by
  unfold key; rw [h]

theorem key_suffix {base ds : Str} (hd : Digits ds) : key (base ++ suffixOf ds) = Nat.ofDigitChars 10 ds 0 + 1 := by
  unfold key; rw [sdnDigits_append hd]

theorem key_le {l : Str} (h : Cand l) : key l ≤ keyMax := by
  cases hs : sdnDigits l with
  | none => rw [key_of_none hs]; exact Nat.zero_le _
  | some ds =>
    obtain ⟨hd, base, rfl⟩ := sdnDigits_some hs
    have hb : 1 ≤ base.length := List.length_pos_iff.mpr (base_ne_nil_of_shape h.1.1)
    have hl := h.1.2
    simp only [List.length_append, suffixOf_length, limit] at hl
    have h1 := ofDigitChars_lt hd.2
    have h2 : 10 ^ ds.length ≤ 10 ^ 248 := Nat.pow_le_pow_right (by decide) (by omega)
    rw [key_suffix hd, keyMax]
    omega

theorem key_lengthFix {base ds : Str} (hd : Digits ds) (hroom : ds.length + 6 < limit) :
    key (lengthFix (base ++ suffixOf ds)) = Nat.ofDigitChars 10 ds 0 + 1 := by
  obtain ⟨b', hb'⟩ := sdnDigits_lengthFix (base := base) hd hroom
  rw [hb', key_suffix hd]

/-- a too long `base ++ _sdn_N_` whose suffix leaves no room is cut off inside `N`: what is left
    ends with a digit and has no suffix any more -/
theorem sdnDigits_lengthFix_cut {base ds : Str} (hd : Digits ds) (hb : base ≠ [])
    (hb5 : base.length + 5 < limit) (hroom : limit ≤ ds.length + 6) :
    sdnDigits (lengthFix (base ++ suffixOf ds)) = none := by
  have hb1 : 1 ≤ base.length := List.length_pos_iff.mpr hb
  have hfix : lengthFix (base ++ suffixOf ds) = (base ++ suffixOf ds).take limit := by
    unfold lengthFix
    rw [if_neg (by rw [List.length_append, suffixOf_length]; omega), sdnDigits_append hd]
    exact if_pos hroom
  obtain ⟨k, hk⟩ : ∃ k, limit = (base ++ sdnPre).length + (k + 1) :=
    ⟨limit - (base.length + 6), by simp [sdnPre]; omega⟩
  have hkd : k < ds.length := by simp [sdnPre] at hk; omega
  rw [hfix, hk, show base ++ suffixOf ds = (base ++ sdnPre) ++ (ds ++ ['_']) by simp [suffixOf],
    List.take_length_add_append, List.take_append_of_le_length hkd, List.take_succ_eq_append_getElem hkd,
    ← List.append_assoc]
  exact sdnDigits_none_of_getLast (isDigit_ne_underscore _ (hd.2 _ (List.getElem_mem hkd)))

theorem key_step {l : Str} (h : Cand l) :
    (key l = 0 ∧ key (step l) = 2) ∨
    (key (step l) = key l + 1) ∨
    (key l = keyMax ∧ key (step l) = 0) := by
  rw [step_eq h.2]
  cases hs : sdnDigits l with
  | none =>
    rw [bump_none hs, key_lengthFix digits_one (by decide)]
    exact Or.inl ⟨key_of_none hs, rfl⟩
  | some ds =>
    obtain ⟨hd, base, rfl⟩ := sdnDigits_some hs
    right
    rw [bump_some hd, key_suffix hd]
    have hd' := digits_toDigits (Nat.ofDigitChars 10 ds 0 + 1)
    by_cases hroom : (Nat.toDigits 10 (Nat.ofDigitChars 10 ds 0 + 1)).length + 6 < limit
    · left
      rw [key_lengthFix hd' hroom, Nat.ofDigitChars_ten_toDigits]
    · right
      have hkl := key_le h
      rw [key_suffix hd, keyMax] at hkl
      have hl := h.1.2
      simp only [List.length_append, suffixOf_length, limit] at hl hroom
      -- the successor needs at least 249 digits, so it is `10^248`
      have hbig : ¬ (Nat.ofDigitChars 10 ds 0 + 1 < 10 ^ 248) := fun hlt => by
        have := (Nat.length_toDigits_le_iff (b := 10) (k := 248) (by decide) (by decide)).mpr hlt
        omega
      refine ⟨by rw [keyMax]; omega, key_of_none ?_⟩
      exact sdnDigits_lengthFix_cut hd' (base_ne_nil_of_shape h.1.1) (by rw [limit]; omega) (by rw [limit]; omega)

def iter : Nat → Str → Str
  | 0, l => l
  | i + 1, l => iter i (step l)

theorem iter_add (i j : Nat) (l : Str) : iter (i + j) l = iter j (iter i l) := by
  induction i generalizing l with
  | zero => simp [iter]
  | succ i ih => rw [Nat.succ_add]; simp only [iter]; exact ih (step l)

theorem Cand.iter {l : Str} (h : Cand l) (i : Nat) : Cand (iter i l) := by
  induction i generalizing l with
  | zero => exact h
  | succ i ih => exact ih h.step

theorem key_iter {l : Str} (h : Cand l) (i : Nat) :
    ∃ d, i ≤ d ∧ d ≤ 2 * i ∧ key (iter i l) % (keyMax + 1) = (key l + d) % (keyMax + 1) := by
  induction i generalizing l with
  | zero => exact ⟨0, by omega, by omega, by simp [iter]⟩
  | succ i ih =>
    obtain ⟨d, hd1, hd2, hk⟩ := ih h.step
    simp only [iter]
    have hle := key_le h
    simp only [keyMax] at hk hle ⊢
    rcases key_step h with ⟨h0, h2⟩ | h1 | ⟨hm, h0⟩
    · exact ⟨d + 2, by omega, by omega, by rw [hk, h2, h0]; congr 1; omega⟩
    · exact ⟨d + 1, by omega, by omega, by rw [hk, h1]; congr 1; omega⟩
    · refine ⟨d + 1, by omega, by omega, ?_⟩
      rw [hk, h0, hm]; simp only [keyMax]; omega

theorem iter_ne {l : Str} (h : Cand l) {i j : Nat} (hij : i < j) (hj : 2 * j < keyMax + 1) :
    iter i l ≠ iter j l := by
  intro heq
  obtain ⟨k, rfl⟩ : ∃ k, j = i + k := ⟨j - i, by omega⟩
  rw [iter_add] at heq
  obtain ⟨d, hd1, hd2, hk⟩ := key_iter (h.iter i) k
  rw [← heq] at hk
  simp only [keyMax] at hk hj
  omega

/-- the lower-cased candidate examined at recursion depth `i` -/
def candAt (i : Nat) (ident : Str) : Str := iter i (lower ident)

theorem candAt_succ (i : Nat) (ident : Str) :
    candAt (i + 1) ident = candAt i (lengthFix (bump (lower ident))) := by
  simp [candAt, iter, step]

theorem conflictsFix_unfinished (bits : List Nat) (others : List Sib) (fuel : Nat) (ident : Str)
    (h : (conflictsFix bits others fuel ident).2 = false) :
    ∀ i, i ≤ fuel → conflictsGood bits (candAt i ident) others = false := by
  fun_induction conflictsFix bits others fuel ident with
  | case1 ident =>
    intro i hi
    obtain rfl : i = 0 := by omega
    exact h
  | case2 fuel ident l hgood => cases h
  | case3 fuel ident l hbad ih =>
    intro i hi
    cases i with
    | zero => exact Bool.eq_false_iff.mpr hbad
    | succ i => rw [candAt_succ]; exact ih h i (by omega)

def bitSuffix (i : Nat) : Str := ['_'] ++ Nat.toDigits 10 i ++ ['_']

theorem bitIdent_eq (id : Str) (i : Nat) : bitIdent id i = id ++ bitSuffix i := by
  simp [bitIdent, bitSuffix]

/-- the identifier a per-wire form was made from -/
def unbit (i : Nat) (f : Str) : Str := f.take (f.length - (bitSuffix i).length)

theorem unbit_bitIdent (c : Str) (i : Nat) : unbit i (bitIdent c i) = c := by
  simp [unbit, bitIdent_eq]

theorem noUpper_bitSuffix (i : Nat) : NoUpper (bitSuffix i) :=
  have h : NoUpper ['_'] := by unfold NoUpper; decide
  (h.append (noUpper_of_digits (digits_toDigits i).2)).append h

theorem lower_append (s t : Str) : lower (s ++ t) = lower s ++ lower t := by simp [lower]

theorem lower_bitIdent (id : Str) (i : Nat) : lower (bitIdent id i) = bitIdent (lower id) i := by
  rw [bitIdent_eq, bitIdent_eq, lower_append, lower_of_noUpper (noUpper_bitSuffix i)]

theorem forms_lower (bits : List Nat) (id : Str) : forms bits (lower id) = (forms bits id).map lower := by
  simp [forms, lower_bitIdent, Function.comp_def]

theorem bitIdent_inj_index {id : Str} {i j : Nat} (h : bitIdent id i = bitIdent id j) : i = j := by
  rw [bitIdent_eq, bitIdent_eq] at h
  have h1 := List.append_cancel_left h
  simp only [bitSuffix, List.cons_append, List.nil_append, List.cons.injEq, true_and] at h1
  exact toDigits_inj (List.append_cancel_right h1)

/-- every candidate that could conflict: for each string of the siblings, the string itself and
    what it would be a per-wire form of -/
def conflictSet (bits : List Nat) (others : List Sib) : List Str :=
  (others.flatMap theirForms).flatMap fun f => f :: bits.map (fun i => unbit i f)

theorem conflictSet_length (bits : List Nat) (others : List Sib) :
    (conflictSet bits others).length + 1 = fuelFor bits others := by
  unfold conflictSet fuelFor
  generalize others.flatMap theirForms = F
  induction F with
  | nil => simp
  | cons f fs ih =>
    simp only [List.flatMap_cons, List.length_append, List.length_cons, List.length_map] at ih ⊢
    rw [Nat.add_mul]
    omega

theorem conflictsGood_iff (bits : List Nat) (c : Str) (others : List Sib) :
    conflictsGood bits c others = true ↔
      ∀ e ∈ others, ∀ m ∈ forms bits c, m ∉ theirForms e := by
  simp [conflictsGood, List.all_eq_true]

theorem mem_conflictSet_of_bad {bits : List Nat} {c : Str} {others : List Sib}
    (h : conflictsGood bits c others = false) : c ∈ conflictSet bits others := by
  have : ¬ (∀ e ∈ others, ∀ m ∈ forms bits c, m ∉ theirForms e) := by
    rw [← conflictsGood_iff, h]; simp
  simp only [Classical.not_forall, Decidable.not_not] at this
  obtain ⟨e, he, m, hm, hme⟩ := this
  simp only [conflictSet, List.mem_flatMap]
  refine ⟨m, ⟨e, he, hme⟩, ?_⟩
  simp only [forms, List.mem_cons, List.mem_map] at hm
  rcases hm with rfl | ⟨i, hi, rfl⟩
  · simp
  · simp only [List.mem_cons, List.mem_map]
    exact Or.inr ⟨i, hi, unbit_bitIdent c i⟩

/-- how large a scope the termination theorem allows: the fuel (number of strings a candidate can
    conflict with, plus one) must stay below this (any `B` with `2B ≤ 10^248` works) -/
def sibBound : Nat := 10 ^ 200

theorem conflictsFix_finished_aux (bits : List Nat) (others : List Sib) (fuel : Nat) (ident : Str)
    (hg : Good ident) (hfuel : fuelFor bits others ≤ fuel + 1) (hb : fuelFor bits others ≤ sibBound) :
    (conflictsFix bits others fuel ident).2 = true := by
  cases hfin : (conflictsFix bits others fuel ident).2 with
  | true => rfl
  | false =>
    -- otherwise the first `fuelFor` candidates are distinct and all in `conflictSet`, which is one shorter
    have hbad := conflictsFix_unfinished bits others fuel ident hfin
    have hlen := conflictSet_length bits others
    generalize fuelFor bits others = n at hfuel hb hlen
    have hnodup : ((List.range n).map (candAt · ident)).Nodup :=
      List.pairwise_map.mpr <| List.pairwise_lt_range.imp_of_mem fun ha hb' hab =>
        iter_ne (Cand.of_good hg) hab (by
          simp only [keyMax, sibBound, List.mem_range] at hb hb' ⊢
          omega)
    have hsub : (List.range n).map (candAt · ident) ⊆ conflictSet bits others := by
      intro c hc
      obtain ⟨i, hi, rfl⟩ := List.mem_map.mp hc
      exact mem_conflictSet_of_bad (hbad i (by rw [List.mem_range] at hi; omega))
    have h1 := hnodup.length_le_of_subset hsub
    rw [List.length_map, List.length_range] at h1
    omega

theorem conflictsFix_fresh (bits : List Nat) (others : List Sib) (fuel : Nat) (ident : Str)
    (h : (conflictsFix bits others fuel ident).2 = true) :
    conflictsGood bits (lower (conflictsFix bits others fuel ident).1) others = true := by
  fun_induction conflictsFix bits others fuel ident with
  | case1 ident => exact h
  | case2 fuel ident l hgood => exact hgood
  | case3 fuel ident l hbad ih => exact ih h

theorem conflictsFix_good (bits : List Nat) (others : List Sib) (fuel : Nat) (ident : Str) (hg : Good ident) :
    Good (conflictsFix bits others fuel ident).1 := by
  fun_induction conflictsFix bits others fuel ident with
  | case1 ident => exact hg
  | case2 fuel ident l hgood => exact hg
  | case3 fuel ident l hbad ih => exact ih (Good_lengthFix hg.lower.1.bump)

end Spydr.Names
