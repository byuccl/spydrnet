/-
  The specification's character classes and case folding are the model's; the `_sdn_N_` suffix as `sdnDigits` reads
  it; and the shape invariant `Good` that every candidate identifier of the renaming pass satisfies, with what
  `lengthFix`, `charsFix` and `bump` do to it.
-/
import Spydr.Names.Model
import Spydr.Names.Spec
import Spydr.Common.Char

namespace Spydr.Names

theorem toLower_isAlpha (c : Char) : c.toLower.isAlpha = c.isAlpha := by
  rw [Bool.eq_iff_iff, isAlpha_iff, isAlpha_iff, toLower_toNat]; split <;> omega

theorem toLower_isDigit (c : Char) : c.toLower.isDigit = c.isDigit := by
  rw [Bool.eq_iff_iff, isDigit_iff, isDigit_iff, toLower_toNat]; split <;> omega

theorem toLower_eq_iff {c d : Char} (hd : d.isAlpha = false) : c.toLower = d ↔ c = d := by
  rw [Bool.eq_false_iff, ne_eq, isAlpha_iff] at hd
  rw [← Char.toNat_inj, ← Char.toNat_inj (c := c), toLower_toNat]; split <;> omega

theorem isDigit_ne_underscore (c : Char) (h : c.isDigit = true) : c ≠ '_' := by
  rintro rfl; revert h; decide

def okChar (c : Char) : Bool := c.isAlphanum || c == '_'

theorem okChar_sub (c : Char) : okChar (sub c) = true := by
  unfold okChar sub; split <;> simp_all

theorem okChar_toLower (c : Char) : okChar c.toLower = okChar c := by
  have : (c.toLower == '_') = (c == '_') := by
    rw [Bool.eq_iff_iff, beq_iff_eq, beq_iff_eq]; exact toLower_eq_iff (by decide)
  simp only [okChar, Char.isAlphanum, toLower_isAlpha, toLower_isDigit, this]

theorem okChar_of_isDigit (c : Char) (h : c.isDigit = true) : okChar c = true := by
  simp [okChar, Char.isAlphanum, h]

theorem isLetter_eq (c : Char) : Spec.isLetter c = c.isAlpha := by
  simp only [Spec.isLetter, Char.isAlpha, Char.isUpper, Char.isLower, Char.toNat, ge_iff_le,
    UInt32.le_iff_toNat_le]
  rw [Bool.or_comm]
  simp [Bool.decide_and]

theorem idChar_eq (c : Char) : Spec.idChar c = okChar c := by
  simp only [Spec.idChar, okChar, isLetter_eq, Char.isAlphanum, Char.isDigit, Char.toNat, ge_iff_le,
    UInt32.le_iff_toNat_le]

theorem foldChar_eq (c : Char) : Spec.foldChar c = c.toLower := by
  rw [← Char.toNat_inj, toLower_toNat]
  simp only [Spec.foldChar, Char.reduceToNat]
  split
  · have : (c.toNat + 32).isValidChar := by left; omega
    simp [Char.ofNat, this, Char.ofNatAux]; omega
  · rfl

theorem ciEq_iff (a b : Str) : Spec.ciEq a b = true ↔ lower a = lower b := by
  simp [Spec.ciEq, lower, funext foldChar_eq]

theorem ciEq_eq_false_iff (a b : Str) : Spec.ciEq a b = false ↔ lower a ≠ lower b := by
  rw [← Bool.not_eq_true, ciEq_iff]

def NoUpper (s : Str) : Prop := ∀ c ∈ s, c.isUpper = false

theorem noUpper_lower (s : Str) : NoUpper (lower s) :=
  List.forall_mem_map.mpr fun c _ => toLower_not_upper c

theorem lower_of_noUpper {s : Str} (h : NoUpper s) : lower s = s :=
  (List.map_congr_left fun c hc => toLower_of_not_upper c (h c hc)).trans (List.map_id s)

theorem NoUpper.append {s t : Str} (hs : NoUpper s) (ht : NoUpper t) : NoUpper (s ++ t) :=
  fun c hc => (List.mem_append.mp hc).elim (hs c) (ht c)

theorem NoUpper.take {s : Str} (hs : NoUpper s) (n : Nat) : NoUpper (s.take n) :=
  fun c hc => hs c (List.mem_of_mem_take hc)

theorem noUpper_of_digits {s : Str} (h : ∀ c ∈ s, c.isDigit = true) : NoUpper s :=
  fun c hc => isDigit_not_upper c (h c hc)

theorem lower_length (s : Str) : (lower s).length = s.length := by simp [lower]

theorem sdnPreRev_reverse : sdnPreRev.reverse = sdnPre := by decide

def Digits (ds : Str) : Prop := ds ≠ [] ∧ ∀ c ∈ ds, c.isDigit = true

def suffixOf (ds : Str) : Str := sdnPre ++ ds ++ ['_']

theorem suffixOf_length (ds : Str) : (suffixOf ds).length = ds.length + 6 := by
  simp [suffixOf, sdnPre]

theorem suffixOf_ne_nil (ds : Str) : suffixOf ds ≠ [] := by simp [suffixOf, sdnPre]

theorem NoUpper.suffixOf {ds : Str} (hd : Digits ds) : NoUpper (suffixOf ds) :=
  ((show NoUpper sdnPre by unfold NoUpper; decide).append (noUpper_of_digits hd.2)).append
    (show NoUpper ['_'] by unfold NoUpper; decide)

/-- `sdnDigits` reads its argument backwards -/
theorem reverse_append_suffixOf (base ds : Str) :
    (base ++ suffixOf ds).reverse = '_' :: (ds.reverse ++ (sdnPreRev ++ base.reverse)) := by
  simp [suffixOf, ← sdnPreRev_reverse]

theorem sdnDigits_some {s ds : Str} (h : sdnDigits s = some ds) :
    Digits ds ∧ ∃ base, s = base ++ suffixOf ds := by
  unfold sdnDigits at h
  split at h
  · rename_i r hr
    simp only [Option.ite_none_right_eq_some, Option.some.injEq, List.isPrefixOf_iff_prefix] at h
    obtain ⟨⟨hne, rest, hrest⟩, rfl⟩ := h
    refine ⟨⟨by simpa using hne, fun c hc =>
      List.all_eq_true.mp List.all_takeWhile c (List.mem_reverse.mp hc)⟩, rest.reverse,
      List.reverse_inj.mp ?_⟩
    rw [reverse_append_suffixOf, List.reverse_reverse, List.reverse_reverse, hr, hrest,
      List.takeWhile_append_dropWhile]
  · cases h

theorem sdnDigits_append {ds : Str} (hd : Digits ds) (base : Str) :
    sdnDigits (base ++ suffixOf ds) = some ds := by
  have hall : ∀ a ∈ ds.reverse, Char.isDigit a = true := fun a ha => hd.2 a (List.mem_reverse.mp ha)
  unfold sdnDigits
  rw [reverse_append_suffixOf]
  simp only [List.takeWhile_append_of_pos hall, List.dropWhile_append_of_pos hall]
  simp [sdnPreRev, hd.1]

theorem sdnDigits_none_of_getLast {s : Str} {c : Char} (hc : c ≠ '_') :
    sdnDigits (s ++ [c]) = none := by
  unfold sdnDigits
  split
  · rename_i r hr
    simp only [List.reverse_append, List.reverse_singleton, List.singleton_append, List.cons.injEq] at hr
    exact absurd hr.1 hc
  · rfl

/-- the characters `_check_EDIF_identifier` accepts, length aside: a letter first, or the escape `&` before at least
    one more character -/
def Shape : Str → Prop
  | [] => False
  | c :: r => (c.isAlpha = true ∨ (c = '&' ∧ r ≠ [])) ∧ r.all okChar = true

def Good (s : Str) : Prop := Shape s ∧ s.length ≤ limit

theorem all_okChar_take {r : Str} (h : r.all okChar = true) (n : Nat) : (r.take n).all okChar = true :=
  List.all_eq_true.mpr fun x hx => List.all_eq_true.mp h x (List.mem_of_mem_take hx)

theorem all_okChar_drop {r : Str} (h : r.all okChar = true) (n : Nat) : (r.drop n).all okChar = true :=
  List.all_eq_true.mpr fun x hx => List.all_eq_true.mp h x (List.mem_of_mem_drop hx)

theorem all_okChar_digits {ds : Str} (h : ∀ c ∈ ds, c.isDigit = true) : ds.all okChar = true :=
  List.all_eq_true.mpr fun x hx => okChar_of_isDigit x (h x hx)

theorem suffixOf_ok {ds : Str} (h : Digits ds) : (suffixOf ds).all okChar = true := by
  simp only [suffixOf, List.all_append, all_okChar_digits h.2, Bool.and_true]; decide

theorem Shape.ne_nil {s : Str} (h : Shape s) : s ≠ [] := by
  rintro rfl; exact h

theorem Shape.head_ne_underscore {c : Char} {r : Str} (h : Shape (c :: r)) : c ≠ '_' := by
  rintro rfl
  rcases h.1 with h1 | ⟨h1, _⟩ <;> revert h1 <;> decide

theorem Shape.take_append {s t : Str} (h : Shape s) (n : Nat) (hn : 1 ≤ n)
    (ht : t.all okChar = true) (hlen : 2 ≤ (s.take n ++ t).length) : Shape (s.take n ++ t) := by
  cases s with
  | nil => exact h.elim
  | cons c r =>
    obtain ⟨m, rfl⟩ : ∃ m, n = m + 1 := ⟨n - 1, by omega⟩
    simp only [List.take_succ_cons, List.cons_append] at hlen ⊢
    refine ⟨h.1.imp_right fun ⟨h1, _⟩ => ⟨h1, fun hnil => ?_⟩,
      by rw [List.all_append, all_okChar_take h.2, ht]; rfl⟩
    simp [hnil] at hlen

theorem Shape.take {s : Str} (h : Shape s) (n : Nat) (hn : 2 ≤ n) (hs : 2 ≤ s.length) : Shape (s.take n) := by
  simpa using h.take_append n (by omega) (t := []) rfl (by simp [List.length_take]; omega)

theorem Shape.append {s t : Str} (h : Shape s) (ht : t.all okChar = true) (hne : t ≠ []) : Shape (s ++ t) := by
  have h1 : 1 ≤ s.length := List.length_pos_iff.mpr h.ne_nil
  have h2 : 1 ≤ t.length := List.length_pos_iff.mpr hne
  simpa using h.take_append s.length h1 ht (by simp; omega)

theorem Shape.lower {s : Str} (h : Shape s) : Shape (lower s) := by
  cases s with
  | nil => exact h
  | cons c r =>
    refine ⟨h.1.imp (fun h1 => by rwa [toLower_isAlpha])
      fun ⟨h1, h2⟩ => ⟨(toLower_eq_iff (by decide)).mpr h1, by simpa using h2⟩, ?_⟩
    rw [List.all_map, show okChar ∘ Char.toLower = okChar from funext okChar_toLower]
    exact h.2

theorem Good.lower {s : Str} (h : Good s) : Good (lower s) :=
  ⟨h.1.lower, by rw [lower_length]; exact h.2⟩

theorem Good.legal {s : Str} (h : Good s) : Spec.checkEdifIdentifier s = true := by
  obtain ⟨hs, hl⟩ := h
  cases s with
  | nil => exact hs.elim
  | cons c r =>
    simp only [limit, List.length_cons] at hl
    simp only [Spec.checkEdifIdentifier, funext idChar_eq, hs.2, isLetter_eq, List.length_cons, Bool.and_true]
    rcases hs.1 with h1 | ⟨rfl, h2⟩
    · have hne : (c == '&') = false := by
        rw [beq_eq_false_iff_ne]; rintro rfl; revert h1; decide
      simp only [hne, Bool.false_eq_true, if_false, h1, Bool.and_true, decide_eq_true_eq]
      omega
    · have : 1 ≤ r.length := List.length_pos_iff.mpr h2
      simp only [beq_self_eq_true, if_true, Bool.and_eq_true, decide_eq_true_eq]
      omega

theorem lengthFix_of_le {s : Str} (h : s.length ≤ limit) : lengthFix s = s := by
  unfold lengthFix; rw [if_pos h]

theorem lengthFix_cases (s : Str) :
    (s.length ≤ limit ∧ lengthFix s = s) ∨
    (limit < s.length ∧ (∀ ds, sdnDigits s = some ds → limit ≤ ds.length + 6) ∧
      lengthFix s = s.take limit) ∨
    ∃ ds, sdnDigits s = some ds ∧ limit < s.length ∧ ds.length + 6 < limit ∧
      lengthFix s = s.take (limit - (ds.length + 6)) ++ suffixOf ds := by
  unfold lengthFix
  split
  · exact Or.inl ⟨‹_›, rfl⟩
  · rename_i hlen
    cases hs : sdnDigits s with
    | none => exact Or.inr (Or.inl ⟨by omega, (fun _ h => by cases h), rfl⟩)
    | some ds =>
      simp only
      split
      · rename_i hroom
        exact Or.inr (Or.inl ⟨by omega, fun _ h => Option.some.inj h ▸ hroom, rfl⟩)
      · refine Or.inr (Or.inr ⟨ds, rfl, by omega, by omega, ?_⟩)
        obtain ⟨_, base, rfl⟩ := sdnDigits_some hs
        rw [List.length_append, suffixOf_length, Nat.add_sub_cancel, List.drop_left]

theorem lengthFix_length_le (s : Str) : (lengthFix s).length ≤ limit := by
  rcases lengthFix_cases s with ⟨h, e⟩ | ⟨_, _, e⟩ | ⟨ds, _, _, _, e⟩ <;> rw [e]
  · exact h
  · exact List.length_take_le _ _
  · simp only [List.length_append, List.length_take, suffixOf_length]; omega

theorem Shape.lengthFix {s : Str} (h : Shape s) : Shape (lengthFix s) := by
  rcases lengthFix_cases s with ⟨_, e⟩ | ⟨hl, _, e⟩ | ⟨ds, hs, hl, _, e⟩ <;> rw [e]
  · exact h
  · exact h.take limit (by decide) (by simp only [limit] at hl; omega)
  · exact h.take_append _ (by omega) (suffixOf_ok (sdnDigits_some hs).1)
      (by rw [List.length_append, suffixOf_length]; omega)

theorem Good_lengthFix {s : Str} (h : Shape s) : Good (lengthFix s) :=
  ⟨h.lengthFix, lengthFix_length_le s⟩

theorem lengthFix_ne_nil {s : Str} (h : s ≠ []) : lengthFix s ≠ [] := by
  rcases lengthFix_cases s with ⟨_, e⟩ | ⟨_, _, e⟩ | ⟨ds, _, _, _, e⟩ <;> rw [e]
  · exact h
  · simp [h, limit]
  · simp [suffixOf_ne_nil]

theorem NoUpper.lengthFix {s : Str} (h : NoUpper s) : NoUpper (lengthFix s) := by
  rcases lengthFix_cases s with ⟨_, e⟩ | ⟨_, _, e⟩ | ⟨ds, hs, _, _, e⟩ <;> rw [e]
  · exact h
  · exact h.take _
  · exact (h.take _).append (.suffixOf (sdnDigits_some hs).1)

theorem sdnDigits_lengthFix {base ds : Str} (hd : Digits ds) (hroom : ds.length + 6 < limit) :
    ∃ base', lengthFix (base ++ suffixOf ds) = base' ++ suffixOf ds := by
  have hs := sdnDigits_append hd base
  rcases lengthFix_cases (base ++ suffixOf ds) with ⟨_, e⟩ | ⟨_, h, _⟩ | ⟨ds', hs', _, _, e⟩
  · exact ⟨_, e⟩
  · have := h ds hs; omega
  · obtain rfl : ds = ds' := Option.some.inj (hs.symm.trans hs')
    exact ⟨_, e⟩

theorem all_okChar_map_sub (r : Str) : (r.map sub).all okChar = true := by
  rw [List.all_map, show okChar ∘ sub = fun _ => true from funext okChar_sub, List.all_eq_true]
  exact fun _ _ => rfl

theorem sub_of_isAlpha {c : Char} (h : c.isAlpha = true) : sub c = c := by
  unfold sub; rw [if_pos]; simp [Char.isAlphanum, h]

theorem Good_charsFix {s : Str} (h : s ≠ []) : Good (charsFix s) := by
  unfold charsFix
  apply Good_lengthFix
  cases s with
  | nil => exact absurd rfl h
  | cons c r =>
    split
    · rename_i hg
      simp only [charsGood, List.all_cons, Bool.and_eq_true] at hg
      exact ⟨Or.inl hg.1, hg.2.2⟩
    · simp only
      split
      · rename_i hc
        rw [List.map_cons, sub_of_isAlpha hc]
        exact ⟨Or.inl hc, all_okChar_map_sub r⟩
      · exact ⟨Or.inr ⟨rfl, by simp⟩, all_okChar_map_sub (c :: r)⟩

theorem digits_toDigits (n : Nat) : Digits (Nat.toDigits 10 n) :=
  ⟨Nat.toDigits_ne_nil, fun _ hc => Nat.isDigit_of_mem_toDigits (by decide) (by decide) hc⟩

theorem digits_one : Digits ['1'] := by unfold Digits; decide

theorem ofDigitChars_lt {ds : Str} (h : ∀ c ∈ ds, c.isDigit = true) :
    Nat.ofDigitChars 10 ds 0 < 10 ^ ds.length := by
  induction ds with
  | nil => simp
  | cons c cs ih =>
    obtain ⟨hc, hcs⟩ := List.forall_mem_cons.mp h
    have ih' := ih hcs
    rw [isDigit_iff] at hc
    rw [Nat.ofDigitChars_cons, Nat.ofDigitChars_eq_ofDigitChars_zero]
    simp only [List.length_cons, Nat.pow_succ, Char.reduceToNat, Nat.mul_zero, Nat.zero_add]
    have hm : 10 ^ cs.length * (c.toNat - 48) ≤ 10 ^ cs.length * 9 := Nat.mul_le_mul_left _ (by omega)
    omega

theorem bump_none {c : Str} (h : sdnDigits c = none) : bump c = c ++ suffixOf ['1'] := by
  unfold bump; rw [h]; simp [suffixOf]

theorem bump_some {base ds : Str} (hd : Digits ds) :
    bump (base ++ suffixOf ds) =
      base ++ suffixOf (Nat.toDigits 10 (Nat.ofDigitChars 10 ds 0 + 1)) := by
  unfold bump; rw [sdnDigits_append hd]
  have h2 : base ++ suffixOf ds = (base ++ sdnPre) ++ (ds ++ ['_']) := by simp [suffixOf]
  have : (base ++ suffixOf ds).length - (ds.length + 1) = (base ++ sdnPre).length := by
    simp [suffixOf, sdnPre]; omega
  simp only
  rw [this, h2, List.take_left]
  simp [suffixOf]

theorem NoUpper.bump {c : Str} (h : NoUpper c) : NoUpper (bump c) := by
  cases hs : sdnDigits c with
  | none => rw [bump_none hs]; exact h.append (.suffixOf digits_one)
  | some ds =>
    obtain ⟨hd, base, rfl⟩ := sdnDigits_some hs
    rw [bump_some hd]
    exact .append (fun x hx => h x (List.mem_append_left _ hx)) (.suffixOf (digits_toDigits _))

theorem base_ne_nil_of_shape {base ds : Str} (h : Shape (base ++ suffixOf ds)) : base ≠ [] := by
  rintro rfl
  exact h.head_ne_underscore rfl

theorem Shape.bump {c : Str} (h : Shape c) : Shape (bump c) := by
  cases hs : sdnDigits c with
  | none => rw [bump_none hs]; exact h.append (suffixOf_ok digits_one) (suffixOf_ne_nil _)
  | some ds =>
    obtain ⟨hd, base, rfl⟩ := sdnDigits_some hs
    have h1 : 1 ≤ base.length := List.length_pos_iff.mpr (base_ne_nil_of_shape h)
    have := h.take_append base.length h1
      (suffixOf_ok (digits_toDigits (Nat.ofDigitChars 10 ds 0 + 1))) (by simp [suffixOf_length]; omega)
    rwa [List.take_left, ← bump_some hd] at this

end Spydr.Names
