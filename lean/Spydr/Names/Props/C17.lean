/-
  Property C17 — EDIF export gives every object a legal, case-insensitively unique identifier and
  records the original name as a rename; the written name reads back as the original.

  Model: Spydr/Names/Model.lean (`makeValid`, `assignAll`, `emittedNetIdents`, `nameString`,
  `readName` = EdififyNames.make_valid, the writer's pre-pass, the per-wire net identifiers of
  `_output_name_of_cable_wire_`, `_get_name_string_`, the reader's `parse_nameDef/parse_rename`),
  following the code as repaired by docs/fixes/names_1..9.  Specification: Spydr/Names/Spec.lean
  (`checkEdifIdentifier`, `ciEq`, `scopeOk`, `identsDistinct`, `netIdents`, `allDistinct`), written
  without the model.

  All theorems hold for ALL names (any characters, any length ≥ 1) and ALL sibling lists, with one
  unavoidable size hypothesis on the theorems that need the conflict loop to end:
  `fuelFor bits others ≤ sibBound = 10^200` for one call (the fuel is the number of strings a
  candidate can conflict with, plus one) resp. `totalWeight l ≤ weightBound = 10^100` for a whole
  scope (`weight e = 2 + number of wires written one by one`).  Identifiers have at most 255
  characters, so no algorithm whatsoever can serve arbitrarily many siblings; the bound is what the
  counting argument of `conflictsFix_finished` needs (twice the fuel must stay below `10^248`).
-/
import Spydr.Names.LemmasPass
import Spydr.Names.ModelOld

namespace Spydr.Names

/-- **Legality.** For any non-empty name, any wire indices and any siblings, `make_valid` returns an
    identifier the EDIF reader accepts.  (No bound, no assumption on the characters.) -/
theorem makeValid_legal (bits : List Nat) (name : Str) (others : List Sib) (h : name ≠ []) :
    Spec.checkEdifIdentifier (makeValid bits name others) = true :=
  (makeValid_good bits others h).legal

/-- **Freshness**, given that the conflict-fix loop ended by itself (the flag the driver reports):
    every identifier the writer emits for the element (`forms`: the identifier, and `<id>_<k>_` for
    every wire of a bus) differs, ignoring case, from the name of every other sibling and from every
    identifier written for it. -/
theorem makeValid_fresh (bits : List Nat) (name : Str) (others : List Sib)
    (hfin : (makeValidF bits name others).2 = true) :
    ∀ e ∈ others, ∀ m ∈ forms bits (makeValid bits name others),
      Spec.ciEq m e.name = false ∧
      ∀ i, e.ident = some i → ∀ m' ∈ forms e.bits i, Spec.ciEq m m' = false :=
  fun e he => (fresh_iff _ _ e).mp (makeValid_fresh_of_finished bits others hfin e he)

/-- **Termination** of `_conflicts_fix`: any fuel `≥ fuelFor − 1` is enough (the model uses
    `fuelFor`).  Proved, not assumed: the candidates' keys advance by 1 or 2 modulo `10^248 + 1`, so
    `fuelFor` consecutive candidates are pairwise different, and at most `fuelFor − 1` candidates can
    conflict (each string of a sibling is hit by the candidate itself or by one of its per-wire forms). -/
theorem conflictsFix_finished (bits : List Nat) (name : Str) (others : List Sib) (fuel : Nat) (hn : name ≠ [])
    (hb : fuelFor bits others ≤ sibBound) (hf : fuelFor bits others ≤ fuel + 1) :
    (conflictsFix bits others fuel (charsFix (lengthFix name))).2 = true :=
  conflictsFix_finished_aux _ _ _ _ (Good_charsFix (lengthFix_ne_nil hn)) hf hb

/-- Freshness without the run-time flag. -/
theorem makeValid_fresh_bounded (bits : List Nat) (name : Str) (others : List Sib) (hn : name ≠ [])
    (hb : fuelFor bits others ≤ sibBound) :
    ∀ e ∈ others, ∀ m ∈ forms bits (makeValid bits name others),
      Spec.ciEq m e.name = false ∧
      ∀ i, e.ident = some i → ∀ m' ∈ forms e.bits i, Spec.ciEq m m' = false :=
  makeValid_fresh bits name others (makeValidF_finished bits others hn hb)

/-- **Rename recorded** (`_add_rename_property`): an element without identifier gets
    `make_valid`'s result, keeps its name, and is flagged as renamed whenever the two differ. -/
theorem rename_recorded (x : Sib) (others : List Sib) (hx : x.ident = none) :
    (assignOne x others).ident = some (makeValid x.bits x.name others) ∧
    (assignOne x others).name = x.name ∧
    (makeValid x.bits x.name others ≠ x.name → (assignOne x others).rename = true) := by
  rw [assignOne_of_none hx]
  exact ⟨rfl, rfl, fun hne => by simp [hne]⟩

/-- **What the writer puts into the file** (`_get_name_string_` after `_add_rename_property`): when
    the identifier differs from the name, the text is `rename <identifier> "` followed by the
    characters of the name, unchanged and unescaped, and `"`; when they coincide (and no rename was
    pending) it is the bare identifier.  This describes the text only — whether it reads back is
    `reread_name` (it does not when the name contains `"`: finding `compose_parse.quote-in-name`). -/
theorem rename_written (x : Sib) (others : List Sib) (hx : x.ident = none) :
    (makeValid x.bits x.name others ≠ x.name →
      nameString (assignOne x others) =
        some (true, ['r', 'e', 'n', 'a', 'm', 'e', ' '] ++ makeValid x.bits x.name others ++ [' ', '"'] ++ x.name ++ ['"'])) ∧
    (makeValid x.bits x.name others = x.name → x.rename = false →
      nameString (assignOne x others) = some (false, x.name)) := by
  rw [assignOne_of_none hx]
  refine ⟨fun hne => ?_, fun heq hr => ?_⟩
  · have : (x.name == makeValid x.bits x.name others) = false := by
      rw [beq_eq_false_iff_ne]; exact fun h => hne h.symm
    simp [nameString, this]
  · simp [nameString, heq, hr]

/-- **The written name reads back** ("hence the file shows the original names", for the safe
    alphabet): if the name contains no `"`, the reader's rename handling (`readName`: identifier up
    to the blank, string token up to the next `"`, no unescaping) applied to what the writer emits
    for a freshly named element returns exactly the assigned identifier and the original name. -/
theorem reread_name (x : Sib) (others : List Sib) (hx : x.ident = none) (hn : x.name ≠ [])
    (hq : ∀ c ∈ x.name, (c != '"') = true) :
    ∃ t, nameString (assignOne x others) = some t ∧
      readName t = some (makeValid x.bits x.name others, x.name) := by
  have hg := makeValid_good x.bits others hn
  rw [assignOne_of_none hx]
  simp only [nameString]
  split
  · rename_i hc
    simp only [Bool.and_eq_true, beq_iff_eq] at hc
    refine ⟨_, rfl, ?_⟩
    have h1 := hc.1
    simp only [readName, Bool.not_false, if_true]
    exact congrArg some (Prod.ext rfl h1.symm)
  · exact ⟨_, rfl, readName_rename hg hq⟩

/-- what `assign_all_distinct` assumes about identifiers that existed before the pass: everything
    written for two different elements differs ignoring case (as in a file a reader accepted) -/
def PreDistinct (l : List Sib) : Prop :=
  l.Pairwise fun a b => ∀ i j, a.ident = some i → b.ident = some j →
    ∀ m ∈ forms a.bits i, ∀ m' ∈ forms b.bits j, lower m ≠ lower m'

theorem PreDistinct.formsDiffer2 {l : List Sib} (h : PreDistinct l) : l.Pairwise FormsDiffer2 :=
  h.imp fun {a b} hab => ⟨(formsDiffer_iff a b).mpr hab,
    (formsDiffer_iff b a).mpr fun j i hj hi m hm m' hm' => (hab i j hi hj m' hm' m hm).symm⟩

theorem assignAll_formsDiffer {l : List Sib} (hn : ∀ x ∈ l, x.name ≠ []) (hb : totalWeight l ≤ weightBound)
    (hpre : PreDistinct l) : (assignAll l).Pairwise FormsDiffer2 :=
  assignGo_formsDiffer l [] ⟨hn, hb⟩ hpre.formsDiffer2

/-- **All identifiers distinct after the pre-pass** (induction over the sibling list): if what was
    written for the elements that already had identifiers is pairwise different ignoring case, then
    after the writer's pre-pass every element has an identifier, names are untouched, and all
    identifiers of the scope are pairwise different ignoring case. -/
theorem assign_all_distinct (l : List Sib) (hn : ∀ x ∈ l, x.name ≠ []) (hb : totalWeight l ≤ weightBound)
    (hpre : PreDistinct l) :
    Spec.identsDistinct (observe (assignAll l)) = true ∧
    (∀ y ∈ assignAll l, y.ident.isSome = true) ∧
    (assignAll l).map (·.name) = l.map (·.name) := by
  have hsome : ∀ y ∈ assignAll l, y.ident.isSome = true := assignGo_all_some l [] (by simp)
  exact ⟨identsDistinct_of_pairwise hsome (assignAll_formsDiffer hn hb hpre), hsome, assignGo_names l []⟩

/-- **Every net of a cell gets its own identifier.** For the cables of one definition (`bits` = the
    wire indices of a cable written wire by wire, without repetition): after the pre-pass the net
    identifiers the writer emits — the cable's identifier for a scalar cable, `<identifier>_<k>_`
    for every wire of a bus — are pairwise different ignoring case. -/
theorem assign_all_netIdents_distinct (l : List Sib) (hn : ∀ x ∈ l, x.name ≠ [])
    (hb : totalWeight l ≤ weightBound) (hbits : ∀ x ∈ l, x.bits.Nodup) (hpre : PreDistinct l) :
    Spec.allDistinct (Spec.netIdents (observe (assignAll l))) = true := by
  rw [netIdents_observe (L := assignAll l) (assignGo_all_some l [] (by simp))]
  exact netIdents_distinct_of_pairwise
    (assignGo_each (·.bits.Nodup) (fun x o _ h => by rwa [assignOne_bits]) l [] ⟨hn, hb⟩ hbits)
    (assignAll_formsDiffer hn hb hpre)

/-- **P for a whole scope.** After the pre-pass over any sibling list (elements with or without
    previous identifiers, in any state of their rename flags), every element the writer named has
    a legal identifier, everything written for it differs, ignoring case, from the name and from
    everything written for every other element of the scope, and it carries the rename flag if its
    identifier is not its name. -/
theorem assign_all_scopeOk (l : List Sib) (hn : ∀ x ∈ l, x.name ≠ []) (hb : totalWeight l ≤ weightBound)
    (hfl : ∀ x ∈ l, x.assigned = false) :
    Spec.scopeOk (observe (assignAll l)) = true := by
  -- nothing is assigned before the pass, so both invariants hold trivially at the start
  have hfresh : ∀ a ∈ l, ∀ b, FreshAgainst a b := fun a ha b h => by rw [hfl a ha] at h; cases h
  exact scopeOk_of_invariants (assignGo_all_some l [] (by simp))
    (assignGo_pairwise FreshAgainst (fun hok a ha => (step_freshAgainst hok a ha).1) l [] ⟨hn, hb⟩
      (List.pairwise_of_forall_mem_list fun a ha b hb' => ⟨hfresh a ha b, hfresh b hb' a⟩))
    (assignGo_each ElemOk (fun _ others => assignOne_elemOk others) l [] ⟨hn, hb⟩ fun y hy h => by rw [hfl y hy] at h; cases h)

/-! ### non-vacuity: concrete inputs satisfying the hypotheses, with the values computed -/

/-- `ABC`, `ABc`, `a-b`, `a b` as siblings (the shapes of the first findings) -/
def exSibs : List Sib :=
  [{ name := ['A', 'B', 'C'] }, { name := ['A', 'B', 'c'] }, { name := ['a', '-', 'b'] },
   { name := ['a', ' ', 'b'], ident := some ['a', '_', 'B'], rename := true }]

example : (assignAll exSibs).map (·.ident) =
    [some ['a','b','c','_','s','d','n','_','1','_'], some ['a','b','c','_','s','d','n','_','2','_'],
     some ['a','_','b','_','s','d','n','_','1','_'], some ['a','_','B']] := by decide +kernel

example : (∀ x ∈ exSibs, x.name ≠ []) ∧ totalWeight exSibs ≤ weightBound ∧ (∀ x ∈ exSibs, x.assigned = false) := by
  refine ⟨by decide, by simp [exSibs, weightBound, totalWeight, weight], by decide⟩

example : Spec.scopeOk (observe (assignAll exSibs)) = true := by decide +kernel

example : (makeValidF [] ['A', 'B', 'c'] [{ name := ['A', 'B', 'C'] }]) = (['a','b','c','_','s','d','n','_','1','_'], true) := by
  decide +kernel

set_option maxRecDepth 100000 in
/-- a 300-character name: truncated to 255 and legal -/
example : (makeValid [] (List.replicate 300 'a') []).length = 255 ∧
    Spec.checkEdifIdentifier (makeValid [] (List.replicate 300 'a') []) = true := by decide +kernel

/-- a two-wire cable `A` beside a scalar cable `a_0_` (the shape of finding
    `compose.bus-bit-identifier-collision`), in both orders -/
def exCables : List Sib := [{ name := ['A'], bits := [0, 1] }, { name := ['a', '_', '0', '_'] }]

example : PreDistinct exCables ∧ (∀ x ∈ exCables, x.bits.Nodup) ∧ (∀ x ∈ exCables, x.name ≠ []) := by
  refine ⟨?_, by decide, by decide⟩
  simp [PreDistinct, exCables]

example : emittedNetIdents (assignAll exCables) =
    [['a','_','s','d','n','_','1','_','_','0','_'], ['a','_','s','d','n','_','1','_','_','1','_'],
     ['a','_','0','_']] := by decide +kernel

example : emittedNetIdents (assignAll exCables.reverse) =
    [['a','_','0','_'], ['a','_','s','d','n','_','1','_','_','0','_'],
     ['a','_','s','d','n','_','1','_','_','1','_']] := by decide +kernel

example : readName (true, ['r','e','n','a','m','e',' ','&','_','b',' ','"','-','b','"']) = some (['&','_','b'], ['-','b']) := by
  decide +kernel

/-! ### the unrepaired rules violate the statements — formal record of the findings -/

open Old in
/-- finding `make_valid.case-insensitive-collision`: `ABC` and `ABc` both keep their spelling. -/
theorem pinned_violates_scopeOk :
    ¬ ∀ l : List Sib, (∀ x ∈ l, x.name ≠ []) → (∀ x ∈ l, x.assigned = false) →
        Spec.scopeOk (observe (Old.assignAll Rules.pinned l)) = true := by
  intro h
  have := h [{ name := ['A', 'B', 'C'] }, { name := ['A', 'B', 'c'] }] (by decide) (by decide)
  revert this; decide +kernel

open Old in
/-- the same with only the case rule unrepaired -/
example : Spec.scopeOk (observe (Old.assignAll ⟨true, true, false, true, true⟩
    [{ name := ['A', 'B', 'C'] }, { name := ['A', 'B', 'c'] }])) = false := by decide +kernel

open Old in
/-- finding `make_valid.dash-kept`: `a-b` is returned unchanged and is not an identifier. -/
theorem pinned_violates_legal_dash :
    ¬ ∀ (name : Str) (others : List Sib), name ≠ [] →
        Spec.checkEdifIdentifier (Old.makeValid Rules.pinned [] name others) = true := by
  intro h
  have := h ['a', '-', 'b'] [] (by decide)
  revert this; decide +kernel

open Old in
example : Old.makeValid ⟨true, false, true, true, true⟩ [] ['a', '-', 'b'] [] = ['a', '-', 'b'] := by decide +kernel

open Old in
/-- finding `make_valid.length-256`: a 256-character name is returned unchanged (limit is 255). -/
theorem pinned_violates_legal_length :
    ¬ ∀ (name : Str) (others : List Sib), name ≠ [] →
        Spec.checkEdifIdentifier (Old.makeValid Rules.pinned [] name others) = true := by
  intro h
  have := h (List.replicate 256 'a') [] (by decide)
  revert this; decide +kernel

set_option maxRecDepth 100000 in
open Old in
example : (Old.makeValid ⟨false, true, true, true, true⟩ [] (List.replicate 300 'a') []).length = 256 := by decide +kernel

/-- `a_sdn_111…1_` with 290 digits -/
def longSuffixName : Str := ['a'] ++ sdnPre ++ List.replicate 290 '1' ++ ['_']

open Old in
/-- finding `make_valid.length-over-256`: a `_sdn_N_` suffix longer than the limit makes the python
    slice bound negative and the result longer than the input. -/
theorem pinned_violates_legal_suffix :
    ¬ ∀ (name : Str) (others : List Sib), name ≠ [] →
        Spec.checkEdifIdentifier (Old.makeValid Rules.pinned [] name others) = true := by
  intro h
  have := h longSuffixName [] (by decide)
  revert this; decide +kernel

set_option maxRecDepth 100000 in
open Old in
example : 256 < (Old.makeValid ⟨true, true, true, false, true⟩ [] longSuffixName []).length := by decide +kernel

open Old in
/-- finding `compose.bus-bit-identifier-collision`: with names_1..7 applied but `_conflicts_good`
    still blind to the per-wire identifiers, the two-wire cable `A` emits `A_0_`, which equals,
    ignoring case, the identifier of the scalar cable `a_0_` of the same cell. -/
theorem unrepaired_violates_netIdents :
    ¬ ∀ l : List Sib, (∀ x ∈ l, x.name ≠ []) → (∀ x ∈ l, x.bits.Nodup) → PreDistinct l →
        Spec.allDistinct (Spec.netIdents (observe (Old.assignAll ⟨true, true, true, true, false⟩ l))) = true := by
  intro h
  have := h exCables (by decide) (by decide) (by simp [PreDistinct, exCables])
  revert this; decide +kernel

end Spydr.Names
