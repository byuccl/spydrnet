/-
  Non-vacuity of the bridge (`export_readable`) on a netlist that exercises every clause of
  `NameHyp`, `Residual` and `ScalarLower0` non-trivially: two cells, two instances of one in the other,
  a bus with two wires on instance pins, scalar nets, names that need sanitising, a case collision and a
  sanitised-to-same collision.  Everything is PROVED for this netlist (no hypothesis left).
-/
import Spydr.Names.Props.C17Export
namespace Spydr.Names.Bridge.Example3
open Spydr Spydr.Names Spydr.Names.Bridge
open Spydr.Edif (CNetlist CLib CDef CPort CCable CInst Data)

def nmd (s : String) : Data := [(Edif.kNAME, .str s.toList)]

def leaf0 : CDef :=
  { data := nmd "leaf",
    ports := [{ data := nmd "A", dir := .inp, width := 1 }, { data := nmd "B.out", dir := .out, width := 2, scalarFlag := false }] }

def top0 : CDef :=
  { data := nmd "top$",
    ports := [{ data := nmd "a$b", dir := .inp, width := 1 }],
    insts := [{ data := nmd "U1", ref := some (0, 0) }, { data := nmd "u1", ref := some (0, 0) }],
    cables := [{ data := nmd "n-1", wires := [[.port 0 0, .inst 0 0 0]] },
               { data := nmd "Data[3]", scalarFlag := false, lower := 3, wires := [[.inst 0 1 0], [.inst 0 1 1]] },
               { data := nmd "N-1", wires := [[.inst 1 0 0]] }] }

def lib0 : CLib := { data := nmd "work lib", defs := [leaf0, top0] }
def t0 : CInst := { data := nmd "t", ref := some (0, 1) }
def n0 : CNetlist := { data := nmd "my design", libs := [lib0], top := some t0 }


def mkd (s i : String) : Data :=
  if s = i then [(Edif.kNAME, .str s.toList), (Edif.kIDENT, .str i.toList)]
  else [(Edif.kNAME, .str s.toList), (Edif.kIDENT, .str i.toList), (kRENAME, .bool true)]

def leaf1 : CDef :=
  { data := mkd "leaf" "leaf",
    ports := [{ data := mkd "A" "A", dir := .inp, width := 1 },
              { data := mkd "B.out" "B_out", dir := .out, width := 2, scalarFlag := false }] }

def top1 : CDef :=
  { data := mkd "top$" "top_",
    ports := [{ data := mkd "a$b" "a_b", dir := .inp, width := 1 }],
    insts := [{ data := mkd "U1" "u1_sdn_1_", ref := some (0, 0) }, { data := mkd "u1" "u1_sdn_2_", ref := some (0, 0) }],
    cables := [{ data := mkd "n-1" "n_1", wires := [[.port 0 0, .inst 0 0 0]] },
               { data := mkd "Data[3]" "Data_3_", scalarFlag := false, lower := 3, wires := [[.inst 0 1 0], [.inst 0 1 1]] },
               { data := mkd "N-1" "n_1_sdn_1_", wires := [[.inst 1 0 0]] }] }

def lib1 : CLib := { data := mkd "work lib" "work_lib", defs := [leaf1, top1] }
def t1 : CInst := { data := mkd "t" "t", ref := some (0, 1) }
def n1 : CNetlist := { data := mkd "my design" "my_design", libs := [lib1], top := some t1 }

/-- the writer's naming pre-pass on `n0`, computed: `U1`/`u1` collide ignoring case, `n-1`/`N-1` sanitise
    to the same identifier in different case, `a$b`, `top$`, `B.out`, `work lib`, `my design`, `Data[3]`
    need sanitising -/
theorem pass_n0 : passNet n0 = n1 := by with_unfolding_all rfl
theorem pass_t0 : passTop t0 = t1 := by with_unfolding_all rfl

theorem n0_nameHyp : NameHyp n0 t0 := FreshNames.nameHyp (by decide +kernel)

theorem n1_residual : Residual n1 none none t1 0 1 :=
  .of_checked (by decide +kernel) rfl rfl (statusOK_none (get?_eq_none (by decide +kernel))) (by decide +kernel)

theorem n1_scalarLower0 : Edif.ScalarLower0 n1 := by unfold Edif.ScalarLower0; decide +kernel

/-- **non-vacuity of `export_readable` on a netlist that exercises every clause**: two cells, two
    instances of one in the other whose names collide ignoring case, a two-wire bus `Data[3]` (base
    index 3) on instance pins, two scalar nets whose names sanitise to the same identifier in different
    case, names that need sanitising.  The text written after the naming pre-pass is accepted by the
    reader and shows the original names. -/
theorem example_export : ∃ text n', Edif.composeE [2026, 9, 28, 1, 2, 3] (passNet n0) = .ok text ∧
    Edif.readEdif text = .ok n' ∧ Edif.view03 n' = Edif.view03 n0 :=
  export_readable n0 none none t0 0 1 2026 9 28 1 2 3 n0_nameHyp
    (by rw [pass_n0, pass_t0]; exact n1_residual) (by rw [pass_n0]; exact n1_scalarLower0)

end Spydr.Names.Bridge.Example3
