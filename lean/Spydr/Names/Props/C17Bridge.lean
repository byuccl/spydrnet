/-
  C17, last clause — "hence the exported file is always readable again and the re-read netlist shows
  the original names" — by a BRIDGE between the two engines' models:

    names engine : `assignAll` (the writer's pre-pass over one sibling list, Model.lean) and its theorems
                   (`makeValid_legal`, `assign_all_distinct`, … in Props/C17.lean)
    edif engine  : `WFNet` (LemmasWF.lean), the hypothesis of `Edif.C03.edif_roundtrip_text`
                   ("the text the writer lays out is accepted by the reader and has the same view,
                   names included").

  `WFNet` speaks about the netlist AFTER the pre-pass (every dictionary carries `EDIF.identifier`).
  Its clauses fall into three groups:

  (A) discharged here from the names engine's theorems, for every scope that is the outcome of the
      pre-pass (`FromPrepass`): `NamedOK` of every library / cell / port / instance / cable, of the
      netlist and of the top instance (identifier present, legal, name present, name a string token);
      `Distinct` of every sibling list (names different, identifiers different ignoring case):
        NetNames.libNamed libDistinct defNamed defDistinct portDistinct, PortWF.named, InstWF.named,
        CellWF.instDistinct cableDistinct, CableWF.named, WFNet.named, WFNet.tnamed;
      and of `CableWF.bus_ok` the string-token clause for `name[k]` and — given the length bound
      below — the legality of the per-wire identifier `<id>_<k>_`; of `CableWF.scalar_plain`: `name ≠ []`.
  (B) hypotheses about the NAMES the user chose (not about identifiers): names of siblings pairwise
      different and free of `"`, CR, LF (`ScopeHyp.names`, `.quoteFree`); a scalar net is not named like
      a bus bit `x[3]` (`Residual.scalarPlain`; finding compose_parse.cable-name-bracket-index); a bus
      net's name does not start with a backslash unless it has the escaped-identifier form
      (`Residual.busBracket`; finding compose_parse.backslash-bus-cable).
  (C) NOT delivered by the pre-pass, assumed: the per-wire identifier of a bus fits the limit
      (`Residual.busLength`: |id| + |digits k| + 2 ≤ 255; `bus_bit_identifier_can_be_too_long` shows
      on a witness that the pre-pass output alone does not give it — finding
      compose_parse.bus-bit-identifier-too-long); and the structural clauses unrelated to names: port
      widths, instance references to preceding cells, canonical property dictionaries, non-empty cables,
      pins in range and on one wire, status strings, a top instance referencing a cell.
-/
import Spydr.Names.LemmasBridge
import Spydr.Edif.Props.C03

namespace Spydr.Names.Bridge
open Spydr Spydr.Names
open Spydr.Edif (CNetlist CLib CDef CPort CCable CInst Data)

/-- the dictionaries `ds` of one namespace scope are what the writer's pre-pass leaves for some sibling
    list inside the hypotheses of the C17 theorems (names non-empty, different, free of `"`; scope not
    astronomically large; identifiers that existed before legal and written forms pairwise different) -/
def FromPrepass (ds : List Data) : Prop := ∃ l, ScopeHyp l ∧ Forall2 Carries ds (assignAll l)

theorem FromPrepass.of_fresh {l ys : List Sib} {ds : List Data} (h : FreshSibs l) (hy : assignAll l = ys)
    (hc : Forall2 Carries ds ys) : FromPrepass ds :=
  ⟨l, h.scopeHyp, hy ▸ hc⟩

/-- **(A) for one scope.** -/
theorem fromPrepass_named_distinct {ds : List Data} (h : FromPrepass ds) :
    (∀ d ∈ ds, Edif.NamedOK d (Edif.idOf d) (Edif.nmOf d)) ∧ Edif.Distinct ds := by
  obtain ⟨l, hl, hc⟩ := h
  exact scope_named_distinct hl hc

structure NamesFromPrepass (n : CNetlist) (t : CInst) : Prop where
  libs : FromPrepass (n.libs.map (·.data))
  defs : ∀ l ∈ n.libs, FromPrepass (l.defs.map (·.data))
  ports : ∀ l ∈ n.libs, ∀ d ∈ l.defs, FromPrepass (d.ports.map (·.data))
  insts : ∀ l ∈ n.libs, ∀ d ∈ l.defs, FromPrepass (d.insts.map (·.data))
  cables : ∀ l ∈ n.libs, ∀ d ∈ l.defs, FromPrepass (d.cables.map (·.data))
  design : FromPrepass [n.data]
  top : FromPrepass [t.data]

/-- the clauses of `WFNet` that the pre-pass does not deliver: groups (B) (last two fields of the cable
    part) and (C) of the header -/
structure Residual (n : CNetlist) (prog ver : Option Edif.Str) (t : CInst) (li di : Nat) : Prop where
  portWidth : ∀ l ∈ n.libs, ∀ d ∈ l.defs, ∀ p ∈ d.ports, 1 ≤ p.width ∧ (p.isArray = false → p.width = 1)
  instRef : ∀ L l, n.libs[L]? = some l → ∀ D d, l.defs[D]? = some d → ∀ i ∈ d.insts,
    ∃ li di l2 rd, i.ref = some (li, di) ∧ n.libs[li]? = some l2 ∧ l2.defs[di]? = some rd ∧ Edif.Before L D li di
  instProps : ∀ l ∈ n.libs, ∀ d ∈ l.defs, ∀ i ∈ d.insts,
    i.data.get? Edif.kPROPS = none ∨
      ∃ ps, i.data.get? Edif.kPROPS = some (.list ps) ∧
        ∀ v ∈ ps, ∃ t, Edif.decodeProp v = some t ∧ Edif.PropOK t.1 t.2.1 t.2.2
  cableWires : ∀ l ∈ n.libs, ∀ d ∈ l.defs, ∀ c ∈ d.cables, c.wires ≠ []
  cablePins : ∀ l ∈ n.libs, ∀ d ∈ l.defs, ∀ c ∈ d.cables, ∀ w ∈ c.wires, ∀ pin ∈ w, Edif.PinWF n.libs d pin
  pinsOnce : ∀ l ∈ n.libs, ∀ d ∈ l.defs, (d.cables.flatMap (fun c => c.wires.flatten)).Nodup
  /-- (B) a scalar net is not named like a bus bit -/
  scalarPlain : ∀ l ∈ n.libs, ∀ d ∈ l.defs, ∀ c ∈ d.cables, c.wires.length = 1 → c.isArray = false →
    (Edif.sepName (Edif.nmOf c.data)).1 = none
  /-- (B) the reader splits `[k]` off the per-wire name of a bus -/
  busBracket : ∀ l ∈ n.libs, ∀ d ∈ l.defs, ∀ c ∈ d.cables, ¬ (c.wires.length = 1 ∧ c.isArray = false) →
    ∀ k, k < c.wires.length → Edif.bracketAllowed (Edif.bitName (Edif.nmOf c.data) (k + c.lower)) = true
  /-- (C) the per-wire identifier of a bus fits the limit -/
  busLength : ∀ l ∈ n.libs, ∀ d ∈ l.defs, ∀ c ∈ d.cables, ¬ (c.wires.length = 1 ∧ c.isArray = false) →
    ∀ k, k < c.wires.length → (Edif.idOf c.data).length + (Edif.natStr (k + c.lower)).length + 2 ≤ 255
  status : Edif.StatusOK n.data prog ver
  top : n.top = some t
  tref : t.ref = some (li, di)
  ttarget : ∃ l d, n.libs[li]? = some l ∧ l.defs[di]? = some d

/-- for a concrete netlist: `Residual` is part of `WFNet`, which the EDIF engine's `Edif.wfNetClause` decides — except
    the status strings, and `busLength`: `bus_ok` lets a per-wire identifier that starts with `&` have 256 characters -/
theorem Residual.of_checked {n : CNetlist} {prog ver : Option Edif.Str} {t : CInst} {li di : Nat}
    (hc : Edif.wfNetClause n = none) (top : n.top = some t) (tref : t.ref = some (li, di))
    (status : Edif.StatusOK n.data prog ver)
    (busLength : ∀ l ∈ n.libs, ∀ d ∈ l.defs, ∀ c ∈ d.cables, ¬ (c.wires.length = 1 ∧ c.isArray = false) →
      ∀ k, k < c.wires.length → (Edif.idOf c.data).length + (Edif.natStr (k + c.lower)).length + 2 ≤ 255) :
    Residual n prog ver t li di := by
  obtain ⟨_, _, _, _, _, h, _⟩ := Edif.wfNetClause_sound n hc
  obtain rfl := Option.some.inj (h.top.symm.trans top)
  obtain ⟨rfl, rfl⟩ := Prod.mk.inj (Option.some.inj (h.tref.symm.trans tref))
  have cell : ∀ l ∈ n.libs, ∀ d ∈ l.defs, ∃ L D, Edif.CellWF n.libs L D d := fun l hl d hd =>
    let ⟨L, hL⟩ := List.getElem?_of_mem hl
    let ⟨D, hD⟩ := List.getElem?_of_mem hd
    ⟨L, D, h.cells L l hL D d hD⟩
  have cable : ∀ l ∈ n.libs, ∀ d ∈ l.defs, ∀ c ∈ d.cables, Edif.CableWF n.libs d c := fun l hl d hd =>
    let ⟨_, _, w⟩ := cell l hl d hd; w.cables
  exact
    { portWidth := fun l hl d hd p hp => let w := h.names.portWF l hl d hd p hp; ⟨w.width, w.scalar⟩
      instRef := fun L l hL D d hD i hi => ((h.cells L l hL D d hD).insts i hi).ref
      instProps := fun l hl d hd i hi => let ⟨_, _, w⟩ := cell l hl d hd; (w.insts i hi).props
      cableWires := fun l hl d hd c hc => (cable l hl d hd c hc).wires_ne
      cablePins := fun l hl d hd c hc => (cable l hl d hd c hc).pins
      pinsOnce := fun l hl d hd => let ⟨_, _, w⟩ := cell l hl d hd; w.nodup
      scalarPlain := fun l hl d hd c hc h1 h2 => ((cable l hl d hd c hc).scalar_plain h1 h2).1
      busBracket := fun l hl d hd c hc hb k hk => ((cable l hl d hd c hc).bus_ok hb k hk).1
      busLength, status, top, tref, ttarget := h.ttarget }

theorem get?_eq_none {d : Data} {k : Edif.Str} (h : k ∉ d.map (·.1)) : d.get? k = none := by
  induction d with
  | nil => rfl
  | cons a r ih =>
    simp only [List.map_cons, List.mem_cons, not_or] at h
    simp only [Edif.Data.get?, if_neg (Ne.symm h.1), ih h.2]

theorem statusOK_none {d : Data} (h : d.get? Edif.kPROG = none) : Edif.StatusOK d none none :=
  ⟨h, nofun, nofun, nofun⟩

theorem named_of_scope {α : Type} {f : α → Data} {xs : List α} (h : FromPrepass (xs.map f)) {x : α} (hx : x ∈ xs) :
    Edif.NamedOK (f x) (Edif.idOf (f x)) (Edif.nmOf (f x)) :=
  (fromPrepass_named_distinct h).1 (f x) (List.mem_map_of_mem hx)

theorem name_ne_nil_of_scope {α : Type} {f : α → Data} {xs : List α} (h : FromPrepass (xs.map f)) {x : α}
    (hx : x ∈ xs) : Edif.nmOf (f x) ≠ [] := by
  obtain ⟨l, hl, hc⟩ := h
  obtain ⟨y, hy, hxy⟩ := forall₂_mem_left hc (List.mem_map_of_mem hx)
  obtain ⟨z, hz, hzy⟩ := name_of_assignAll hy
  rw [hxy.nmOf, ← hzy]; exact hl.named z hz

/-- **bridge**: pre-pass output in every scope + the residual clauses ⇒ the EDIF model's `WFNet`. -/
theorem wfNet_of_prepass (n : CNetlist) (prog ver : Option Edif.Str) (t : CInst) (li di : Nat)
    (hp : NamesFromPrepass n t) (hr : Residual n prog ver t li di) : Edif.WFNet n prog ver t li di :=
  { names :=
      { libNamed := fun _ hl => named_of_scope hp.libs hl
        libDistinct := (fromPrepass_named_distinct hp.libs).2
        defNamed := fun l hl _ hd => named_of_scope (hp.defs l hl) hd
        defDistinct := fun l hl => (fromPrepass_named_distinct (hp.defs l hl)).2
        portWF := fun l hl d hd p hpp =>
          have ⟨hw, hs⟩ := hr.portWidth l hl d hd p hpp
          ⟨named_of_scope (hp.ports l hl d hd) hpp, hw, hs⟩
        portDistinct := fun l hl d hd => (fromPrepass_named_distinct (hp.ports l hl d hd)).2 }
    cells := fun L l hL D d hD =>
      have hl : l ∈ n.libs := List.mem_of_getElem? hL
      have hd : d ∈ l.defs := List.mem_of_getElem? hD
      { insts := fun i hi =>
          ⟨named_of_scope (hp.insts l hl d hd) hi, hr.instRef L l hL D d hD i hi, hr.instProps l hl d hd i hi⟩
        instDistinct := (fromPrepass_named_distinct (hp.insts l hl d hd)).2
        cableDistinct := (fromPrepass_named_distinct (hp.cables l hl d hd)).2
        nodup := hr.pinsOnce l hl d hd
        cables := fun c hc =>
          have hnamed := named_of_scope (hp.cables l hl d hd) hc
          { named := hnamed
            wires_ne := hr.cableWires l hl d hd c hc
            pins := hr.cablePins l hl d hd c hc
            scalar_plain := fun h1 h2 =>
              ⟨hr.scalarPlain l hl d hd c hc h1 h2, name_ne_nil_of_scope (hp.cables l hl d hd) hc⟩
            bus_ok := fun hb k hk =>
              ⟨hr.busBracket l hl d hd c hc hb k hk,
               bitIdent_legal _ (checkEdifIdentifier_eq _ ▸ hnamed.hc) (hr.busLength l hl d hd c hc hb k hk),
               bitName_quoteFree _ hnamed.hs⟩ } }
    named := named_of_scope (xs := [n]) hp.design List.mem_cons_self
    status := hr.status
    top := hr.top
    tnamed := named_of_scope (xs := [t]) hp.top List.mem_cons_self
    tref := hr.tref
    ttarget := hr.ttarget }

/-- **C17's last clause on the models**: a netlist whose every namespace scope is the outcome of the
    writer's pre-pass (names different and free of `"`, CR, LF) and which satisfies the residual
    clauses is written to a TEXT that the reader accepts (tokenizer, s-expression reader, `ofSExp`), and
    the netlist read back has the same view — the same libraries, cells, ports, instances, nets and
    the same ORIGINAL NAMES. -/
theorem prepass_file_readable (n : CNetlist) (prog ver : Option Edif.Str) (t : CInst) (li di : Nat)
    (y mo d h mi s : Nat) (hp : NamesFromPrepass n t) (hr : Residual n prog ver t li di)
    (h0 : Edif.ScalarLower0 n) :
    ∃ text n', Edif.composeE [y, mo, d, h, mi, s] n = .ok text ∧ Edif.readEdif text = .ok n' ∧
      Edif.view03 n' = Edif.view03 n :=
  Edif.C03.edif_roundtrip_text n prog ver t li di y mo d h mi s (wfNet_of_prepass n prog ver t li di hp hr) h0

theorem legal_iff (s : Str) : Edif.checkEdifIdentifier s = true ↔ Spec.checkEdifIdentifier s = true := by
  rw [checkEdifIdentifier_eq]

theorem ciDistinct_iff (a b : Str) : Spec.ciEq a b = false ↔ Edif.lower a ≠ Edif.lower b := by
  rw [Bool.eq_false_iff, ne_eq, ciEq_iff, lower_eq, lower_eq]

/-! ### what does NOT follow: the per-wire identifier of a bus can be too long -/

/-- a cable named `a…a` (254 letters) with two wires -/
def longBus : Sib := { name := List.replicate 254 'a', bits := [0, 1] }

/-- (C) on a witness: the pre-pass gives the 254-character name itself as (legal) identifier, and the
    identifier the writer forms for wire 0, `<id>_0_`, has 257 characters: `WFNet`'s
    `CableWF.bus_ok` does not follow from the pre-pass (finding compose_parse.bus-bit-identifier-too-long;
    `WFNet` is right to demand it — the reader rejects that file). -/
theorem bus_bit_identifier_can_be_too_long :
    ∃ i, (assignAll [longBus]).map (·.ident) = [some i] ∧ Spec.checkEdifIdentifier i = true ∧
      Edif.checkEdifIdentifier (Edif.bitIdent i 0) = false :=
  ⟨List.replicate 254 'a', by decide +kernel⟩

/-! ### non-vacuity: a scope that is `FromPrepass` -/

/-- dictionaries for `ABC` / `ABc` after the pre-pass -/
def exData : List Data :=
  [[(Edif.kNAME, .str ['A', 'B', 'C']), (Edif.kIDENT, .str ['a','b','c','_','s','d','n','_','1','_'])],
   [(Edif.kNAME, .str ['A', 'B', 'c']), (Edif.kIDENT, .str ['a','b','c','_','s','d','n','_','2','_'])]]

theorem exData_fromPrepass : FromPrepass exData :=
  .of_fresh (l := [{ name := ['A', 'B', 'C'] }, { name := ['A', 'B', 'c'] }]) (by decide +kernel)
    (ys := [{ name := ['A', 'B', 'C'], ident := some ['a','b','c','_','s','d','n','_','1','_'], rename := true, assigned := true },
            { name := ['A', 'B', 'c'], ident := some ['a','b','c','_','s','d','n','_','2','_'], rename := true, assigned := true }])
    (by decide +kernel) (.cons (.of_pair rfl rfl) (.cons (.of_pair rfl rfl) .nil))

example : (∀ d ∈ exData, Edif.NamedOK d (Edif.idOf d) (Edif.nmOf d)) ∧ Edif.Distinct exData :=
  fromPrepass_named_distinct exData_fromPrepass

end Spydr.Names.Bridge

/-! ### non-vacuity of the bridge: a whole netlist inside `NamesFromPrepass` and `Residual` -/
namespace Spydr.Names.Bridge.Example
open Spydr Spydr.Names Spydr.Names.Bridge
open Spydr.Edif (CNetlist CLib CDef CPort CCable CInst Data)

def dat (name ident : String) : Data := [(Edif.kNAME, .str name.toList), (Edif.kIDENT, .str ident.toList)]

/-- one sibling whose name is already an identifier: the pre-pass keeps it -/
theorem single (nm : Str) (hn : nm ≠ []) (hq : QuoteFree nm)
    (hid : assignAll [{ name := nm }] = [{ name := nm, ident := some nm, rename := false, assigned := true }]) :
    FromPrepass [[(Edif.kNAME, .str nm), (Edif.kIDENT, .str nm)]] :=
  .of_fresh ⟨by simpa using ⟨hn, hq⟩, by simp [totalWeight, weight, weightBound], by simp⟩ hid (.cons (.of_pair rfl rfl) .nil)

theorem nil_fromPrepass : FromPrepass [] := .of_fresh (l := []) (by decide) rfl .nil

/-- the ports `a b` and `a$b` of the top cell after the pre-pass: `a_b` and `a_b_sdn_1_` -/
def portData : List Data :=
  [[(Edif.kNAME, .str ['a', ' ', 'b']), (Edif.kIDENT, .str ['a', '_', 'b'])],
   [(Edif.kNAME, .str ['a', '$', 'b']), (Edif.kIDENT, .str ['a','_','b','_','s','d','n','_','1','_'])]]

theorem ports_fromPrepass : FromPrepass portData :=
  .of_fresh (l := [{ name := ['a', ' ', 'b'] }, { name := ['a', '$', 'b'] }]) (by decide +kernel)
    (ys := [{ name := ['a', ' ', 'b'], ident := some ['a', '_', 'b'], rename := true, assigned := true },
            { name := ['a', '$', 'b'], ident := some ['a','_','b','_','s','d','n','_','1','_'], rename := true, assigned := true }])
    (by decide +kernel) (.cons (.of_pair rfl rfl) (.cons (.of_pair rfl rfl) .nil))

def topCell : CDef :=
  { data := [(Edif.kNAME, .str ['t', 'o', 'p']), (Edif.kIDENT, .str ['t', 'o', 'p'])],
    ports := [{ data := portData[0]!, dir := .inp, width := 1 }, { data := portData[1]!, dir := .out, width := 1 }] }

def lib0 : CLib := { data := [(Edif.kNAME, .str ['w', 'o', 'r', 'k']), (Edif.kIDENT, .str ['w', 'o', 'r', 'k'])], defs := [topCell] }

def tinst : CInst := { data := [(Edif.kNAME, .str ['t']), (Edif.kIDENT, .str ['t'])], ref := some (0, 0) }

def n1 : CNetlist := { data := [(Edif.kNAME, .str ['n']), (Edif.kIDENT, .str ['n'])], libs := [lib0], top := some tinst }

theorem cells_eq : ∀ l ∈ n1.libs, ∀ d ∈ l.defs, d = topCell := by simp [n1, lib0]

theorem n1_names : NamesFromPrepass n1 tinst where
  libs := single ['w', 'o', 'r', 'k'] (by decide) (by decide) (by decide +kernel)
  defs l hl := by
    obtain rfl := List.mem_singleton.mp hl
    exact single ['t', 'o', 'p'] (by decide) (by decide) (by decide +kernel)
  ports l hl d hd := by rw [cells_eq l hl d hd]; exact ports_fromPrepass
  insts l hl d hd := by rw [cells_eq l hl d hd]; exact nil_fromPrepass
  cables l hl d hd := by rw [cells_eq l hl d hd]; exact nil_fromPrepass
  design := single ['n'] (by decide) (by decide) (by decide +kernel)
  top := single ['t'] (by decide) (by decide) (by decide +kernel)

theorem n1_residual : Residual n1 none none tinst 0 0 :=
  .of_checked (by decide +kernel) rfl rfl (statusOK_none (get?_eq_none (by decide +kernel))) (by decide +kernel)

/-- the example netlist is written to a text that reads back with the original names `a b`, `a$b` -/
example : ∃ text n', Edif.composeE [2026, 9, 28, 1, 2, 3] n1 = .ok text ∧ Edif.readEdif text = .ok n' ∧
    Edif.view03 n' = Edif.view03 n1 :=
  prepass_file_readable n1 none none tinst 0 0 2026 9 28 1 2 3 n1_names n1_residual
    (fun l hl d hd c hc => by rw [cells_eq l hl d hd] at hc; cases hc)

end Spydr.Names.Bridge.Example
