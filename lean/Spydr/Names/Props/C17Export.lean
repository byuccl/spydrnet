/-
  C17, last clause, end to end on the models: for ANY value-level netlist `n` whose names are inside
  C17's quantifier (`NameHyp`: every element named, sibling names different, free of `"`, CR, LF;
  identifiers that exist already legal and distinct; scopes not astronomically large), the netlist the
  writer's naming pre-pass produces, `passNet n`,

    * satisfies every naming clause of the EDIF model's `WFNet` (`names_of_passNet`),
    * hence — with the residual clauses (`Residual`, see Props/C17Bridge.lean) — is written to a text
      the reader accepts, and
    * the netlist read back has the view of the ORIGINAL netlist `n`: same libraries, cells, ports,
      instances, nets, and the same original names (`view03_passNet`).
-/
import Spydr.Names.LemmasBridgeNet

namespace Spydr.Names.Bridge
open Spydr Spydr.Names
open Spydr.Edif (CNetlist CLib CDef CPort CCable CInst Data)

theorem specName_store (d : Data) (y : Sib) : Edif.specName (store d y) = Edif.specName d := by
  unfold Edif.specName Edif.Data.getStr?
  rw [get?_store d y _ Edif.kNAME_ne_kIDENT kRENAME_ne.1]

theorem kPROPS_ne : ("EDIF.properties".toList : Str) ≠ Edif.kIDENT ∧ ("EDIF.properties".toList : Str) ≠ kRENAME := by
  decide +kernel

theorem specProps_store (d : Data) (y : Sib) : Edif.specProps (store d y) = Edif.specProps d := by
  unfold Edif.specProps
  rw [get?_store d y _ kPROPS_ne.1 kPROPS_ne.2]

theorem view03Cell_passDef (d : CDef) : Edif.view03Cell (passDef d) = Edif.view03Cell d := by
  simp only [Edif.view03Cell, passDef, passPorts, passInsts, passCables]
  rw [map_passOver (·.data) (fun (p : CPort) x => { p with data := x }) _ Edif.view03Port
        (fun x y => by simp [Edif.view03Port, specName_store, CPort.isArray, CPort.isScalar]),
      map_passOver (·.data) (fun (i : CInst) x => { i with data := x }) _ Edif.view03Inst
        (fun x y => by simp [Edif.view03Inst, specName_store, specProps_store]),
      map_passOver (·.data) (fun (c : CCable) x => { c with data := x }) _ Edif.view03Net
        (fun x y => by simp [Edif.view03Net, specName_store])]

theorem view03Lib_passLib (l : CLib) : Edif.view03Lib (passLib l) = Edif.view03Lib l := by
  simp only [Edif.view03Lib, passLib, passDefs, List.map_map,
    show Edif.view03Cell ∘ passDef = Edif.view03Cell from funext view03Cell_passDef]
  rw [map_passOver (·.data) (fun (d : CDef) x => { d with data := x }) _ Edif.view03Cell
    (fun x y => by simp [Edif.view03Cell, specName_store])]

/-- **the pre-pass does not change the view**: names, structure, properties of `passNet n` are those
    of `n` (it only adds `EDIF.identifier` / `EDIF.rename`). -/
theorem view03_passNet (n : CNetlist) : Edif.view03 (passNet n) = Edif.view03 n := by
  simp only [Edif.view03, passNet, passLibs, passOne_eq_store, specName_store, List.map_map,
    show Edif.view03Lib ∘ passLib = Edif.view03Lib from funext view03Lib_passLib]
  rw [map_passOver (·.data) (fun (l : CLib) x => { l with data := x }) _ Edif.view03Lib
    (fun x y => by simp [Edif.view03Lib, specName_store])]
  cases n.top <;> simp [passTop, passOne_eq_store, specName_store]

/-- **export_readable** — C17's "hence" on the models, CONDITIONAL on `Residual`.  For every netlist `n`
    with top instance `t` whose names are inside `NameHyp` (every element named; sibling names different
    and free of `"`, CR, LF; identifiers that exist before the pass legal and their written forms
    pairwise different; scopes not astronomically large), IF the netlist after the naming pre-pass
    satisfies `Residual` — which contains, besides the structural clauses, three clauses about names /
    identifiers that are exactly the open findings (`busLength`: compose_parse.bus-bit-identifier-too-long;
    `scalarPlain`: compose_parse.cable-name-bracket-index; `busBracket`: compose_parse.backslash-bus-cable) —
    then the TEXT the writer lays out for it is accepted by the reader and the netlist read back shows the
    view of the ORIGINAL `n`, original names included.  In short: readable provided the three pinned name
    classes are avoided (see `export_readable_outside_pinned_classes` for the statement with the two
    groups of hypotheses separated). -/
theorem export_readable (n : CNetlist) (prog ver : Option Edif.Str) (t : CInst) (li di : Nat)
    (y mo d h mi s : Nat) (hn : NameHyp n t)
    (hr : Residual (passNet n) prog ver (passTop t) li di) (h0 : Edif.ScalarLower0 (passNet n)) :
    ∃ text n', Edif.composeE [y, mo, d, h, mi, s] (passNet n) = .ok text ∧ Edif.readEdif text = .ok n' ∧
      Edif.view03 n' = Edif.view03 n := by
  obtain ⟨text, n', hw, hrd, hv⟩ :=
    prepass_file_readable (passNet n) prog ver (passTop t) li di y mo d h mi s (names_of_passNet n t hn) hr h0
  exact ⟨text, n', hw, hrd, by rw [hv, view03_passNet]⟩

/-- the naming clauses of `WFNet` hold for `passNet n` outright -/
theorem passNet_naming_clauses (n : CNetlist) (t : CInst) (hn : NameHyp n t) :
    (∀ l ∈ (passNet n).libs, Edif.NamedOK l.data (Edif.idOf l.data) (Edif.nmOf l.data)) ∧
    Edif.Distinct ((passNet n).libs.map (·.data)) ∧
    (∀ l ∈ (passNet n).libs, (∀ d ∈ l.defs, Edif.NamedOK d.data (Edif.idOf d.data) (Edif.nmOf d.data)) ∧
      Edif.Distinct (l.defs.map (·.data)) ∧
      ∀ d ∈ l.defs,
        (∀ p ∈ d.ports, Edif.NamedOK p.data (Edif.idOf p.data) (Edif.nmOf p.data)) ∧ Edif.Distinct (d.ports.map (·.data)) ∧
        (∀ i ∈ d.insts, Edif.NamedOK i.data (Edif.idOf i.data) (Edif.nmOf i.data)) ∧ Edif.Distinct (d.insts.map (·.data)) ∧
        (∀ c ∈ d.cables, Edif.NamedOK c.data (Edif.idOf c.data) (Edif.nmOf c.data)) ∧ Edif.Distinct (d.cables.map (·.data))) := by
  have hp := names_of_passNet n t hn
  refine ⟨fun l hl => named_of_scope hp.libs hl, (fromPrepass_named_distinct hp.libs).2, ?_⟩
  intro l hl
  refine ⟨fun d hd => named_of_scope (hp.defs l hl) hd, (fromPrepass_named_distinct (hp.defs l hl)).2, ?_⟩
  intro d hd
  exact ⟨fun p hpp => named_of_scope (hp.ports l hl d hd) hpp, (fromPrepass_named_distinct (hp.ports l hl d hd)).2,
    fun i hi => named_of_scope (hp.insts l hl d hd) hi, (fromPrepass_named_distinct (hp.insts l hl d hd)).2,
    fun c hc => named_of_scope (hp.cables l hl d hd) hc, (fromPrepass_named_distinct (hp.cables l hl d hd)).2⟩

/-- the three clauses of `Residual` that concern names / identifiers — each is the negation of an open
    finding's sub-domain -/
structure AvoidsPinnedClasses (n : CNetlist) : Prop where
  /-- not compose_parse.cable-name-bracket-index: a scalar net is not named like a bus bit `x[3]` -/
  scalarPlain : ∀ l ∈ n.libs, ∀ d ∈ l.defs, ∀ c ∈ d.cables, c.wires.length = 1 → c.isArray = false →
    (Edif.sepName (Edif.nmOf c.data)).1 = none
  /-- not compose_parse.backslash-bus-cable: the reader splits `[k]` off the per-wire name of a bus -/
  busBracket : ∀ l ∈ n.libs, ∀ d ∈ l.defs, ∀ c ∈ d.cables, ¬ (c.wires.length = 1 ∧ c.isArray = false) →
    ∀ k, k < c.wires.length → Edif.bracketAllowed (Edif.bitName (Edif.nmOf c.data) (k + c.lower)) = true
  /-- not compose_parse.bus-bit-identifier-too-long: the per-wire identifier of a bus fits the limit -/
  busLength : ∀ l ∈ n.libs, ∀ d ∈ l.defs, ∀ c ∈ d.cables, ¬ (c.wires.length = 1 ∧ c.isArray = false) →
    ∀ k, k < c.wires.length → (Edif.idOf c.data).length + (Edif.natStr (k + c.lower)).length + 2 ≤ 255

/-- the clauses of `Residual` that have nothing to do with names -/
structure Structural (n : CNetlist) (prog ver : Option Edif.Str) (t : CInst) (li di : Nat) : Prop where
  portWidth : ∀ l ∈ n.libs, ∀ d ∈ l.defs, ∀ p ∈ d.ports, 1 ≤ p.width ∧ (p.isArray = false → p.width = 1)
  instRef : ∀ L l, n.libs[L]? = some l → ∀ D d, l.defs[D]? = some d → ∀ i ∈ d.insts,
    ∃ li di l2 rd, i.ref = some (li, di) ∧ n.libs[li]? = some l2 ∧ l2.defs[di]? = some rd ∧ Edif.Before L D li di
  instProps : ∀ l ∈ n.libs, ∀ d ∈ l.defs, ∀ i ∈ d.insts,
    i.data.get? Edif.kPROPS = none ∨
      ∃ ps, i.data.get? Edif.kPROPS = some (.list ps) ∧
        ∀ v ∈ ps, ∃ t, Edif.decodeProp v = some t ∧ Edif.PropOK t.1 t.2.1 t.2.2
  cableWires : ∀ l ∈ n.libs, ∀ d ∈ l.defs, ∀ c ∈ d.cables, c.wires ≠ []
  cablePins : ∀ l ∈ n.libs, ∀ d ∈ l.defs, ∀ c ∈ d.cables, ∀ w ∈ c.wires, ∀ pin ∈ w, Edif.PinWF n.libs d pin
  pinsOnce : ∀ l ∈ n.libs, ∀ d ∈ l.defs, (d.cables.flatMap (fun c => c.wires.flatten)).Nodup
  status : Edif.StatusOK n.data prog ver
  top : n.top = some t
  tref : t.ref = some (li, di)
  ttarget : ∃ l d, n.libs[li]? = some l ∧ l.defs[di]? = some d

theorem residual_of_parts {n : CNetlist} {prog ver : Option Edif.Str} {t : CInst} {li di : Nat}
    (ha : AvoidsPinnedClasses n) (hs : Structural n prog ver t li di) : Residual n prog ver t li di :=
  { ha, hs with }

/-- **export_readable_outside_pinned_classes** — names inside `NameHyp`, the three pinned name classes
    avoided, the netlist structurally sound ⇒ the written text is accepted by the reader and shows the
    original names. -/
theorem export_readable_outside_pinned_classes (n : CNetlist) (prog ver : Option Edif.Str) (t : CInst) (li di : Nat)
    (y mo d h mi s : Nat) (hn : NameHyp n t) (ha : AvoidsPinnedClasses (passNet n))
    (hs : Structural (passNet n) prog ver (passTop t) li di) (h0 : Edif.ScalarLower0 (passNet n)) :
    ∃ text n', Edif.composeE [y, mo, d, h, mi, s] (passNet n) = .ok text ∧ Edif.readEdif text = .ok n' ∧
      Edif.view03 n' = Edif.view03 n :=
  export_readable n prog ver t li di y mo d h mi s hn (residual_of_parts ha hs) h0

end Spydr.Names.Bridge

/-! ### non-vacuity of `export_readable`: a netlist with the ports `a b` and `a$b`, no identifiers yet -/
namespace Spydr.Names.Bridge.Example2
open Spydr Spydr.Names Spydr.Names.Bridge
open Spydr.Edif (CNetlist CLib CDef CPort CCable CInst Data)

def nmd (s : List Char) : Data := [(Edif.kNAME, .str s)]
def mkd (s i : List Char) (r : Bool) : Data :=
  if r then [(Edif.kNAME, .str s), (Edif.kIDENT, .str i), (kRENAME, .bool true)] else [(Edif.kNAME, .str s), (Edif.kIDENT, .str i)]

def cell0 : CDef :=
  { data := nmd ['t','o','p'],
    ports := [{ data := nmd ['a',' ','b'], dir := .inp, width := 1 }, { data := nmd ['a','$','b'], dir := .out, width := 1 }] }
def t0 : CInst := { data := nmd ['t'], ref := some (0, 0) }
def lib0 : CLib := { data := nmd ['w','o','r','k'], defs := [cell0] }
def n0 : CNetlist := { data := nmd ['n'], libs := [lib0], top := some t0 }

def cell1 : CDef :=
  { data := mkd ['t','o','p'] ['t','o','p'] false,
    ports := [{ data := mkd ['a',' ','b'] ['a','_','b'] true, dir := .inp, width := 1 },
              { data := mkd ['a','$','b'] ['a','_','b','_','s','d','n','_','1','_'] true, dir := .out, width := 1 }] }
def t1 : CInst := { data := mkd ['t'] ['t'] false, ref := some (0, 0) }
def lib1 : CLib := { data := mkd ['w','o','r','k'] ['w','o','r','k'] false, defs := [cell1] }
def n1 : CNetlist := { data := mkd ['n'] ['n'] false, libs := [lib1], top := some t1 }

theorem pass_n0 : passNet n0 = n1 := by with_unfolding_all rfl
theorem pass_t0 : passTop t0 = t1 := by with_unfolding_all rfl

theorem n0_nameHyp : NameHyp n0 t0 := FreshNames.nameHyp (by decide +kernel)

theorem n1_residual : Residual n1 none none t1 0 0 :=
  .of_checked (by decide +kernel) rfl rfl (statusOK_none (get?_eq_none (by decide +kernel))) (by decide +kernel)

/-- the netlist with ports `a b`, `a$b` and no identifiers: after the naming pre-pass the written text is
    accepted by the reader and shows the original names -/
example : ∃ text n', Edif.composeE [2026, 9, 28, 1, 2, 3] (passNet n0) = .ok text ∧ Edif.readEdif text = .ok n' ∧
    Edif.view03 n' = Edif.view03 n0 :=
  export_readable n0 none none t0 0 0 2026 9 28 1 2 3 n0_nameHyp (by rw [pass_n0, pass_t0]; exact n1_residual)
    (by rw [pass_n0]; unfold Edif.ScalarLower0; decide +kernel)

end Spydr.Names.Bridge.Example2
