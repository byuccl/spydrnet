/-
  Spydr.Names.LemmasBridgeNet — the writer's naming pre-pass (`assignAll`, Model.lean) applied to every
  namespace scope of a value-level netlist of the EDIF engine (`Edif.CNetlist`): `passNet`.  Every scope
  of `passNet n` is `FromPrepass`, with the sibling list read off the netlist itself — no witness has
  to be supplied.
-/
import Spydr.Names.Props.C17Bridge

namespace Spydr.Names.Bridge
open Spydr Spydr.Names
open Spydr.Edif (CNetlist CLib CDef CPort CCable CInst Data)

def kRENAME : Str := Edif.S "EDIF.rename"

/-- the sibling `make_valid` sees for an element dictionary (`bits`: wire indices of a cable that is
    written wire by wire) -/
def sibOf (p : List Nat × Data) : Sib :=
  { name := Edif.nmOf p.2, ident := Edif.identOf p.2, rename := Edif.renameFlagOf p.2, bits := p.1 }

/-- what `_add_rename_property` stores into the dictionary -/
def store (d : Data) (y : Sib) : Data :=
  match y.ident with
  | none => d
  | some i =>
      let d1 := d.set Edif.kIDENT (.str i)
      if y.rename then d1.set kRENAME (.bool true) else d1

/-- the pre-pass over one scope, on dictionaries -/
def passList (ps : List (List Nat × Data)) : List Data :=
  List.zipWith store (ps.map (·.2)) (assignAll (ps.map sibOf))

theorem kRENAME_ne : Edif.kNAME ≠ kRENAME ∧ Edif.kIDENT ≠ kRENAME := by decide +kernel

theorem get?_store (d : Data) (y : Sib) (k : Str) (h1 : k ≠ Edif.kIDENT) (h2 : k ≠ kRENAME) :
    (store d y).get? k = d.get? k := by
  unfold store
  split
  · rfl
  · simp only
    split
    · rw [Edif.Data.get?_set_other _ _ _ _ h2, Edif.Data.get?_set_other _ _ _ _ h1]
    · rw [Edif.Data.get?_set_other _ _ _ _ h1]

theorem carries_store {d : Data} {y : Sib} {i : Str} (hi : y.ident = some i)
    (hn : d.get? Edif.kNAME = some (.str y.name)) : Carries (store d y) y := by
  refine ⟨?_, by rw [get?_store d y _ Edif.kNAME_ne_kIDENT kRENAME_ne.1, hn]⟩
  unfold store
  rw [hi]
  simp only
  split <;> simp [Edif.identOf, Edif.Data.getStr?, Edif.Data.get?_set_other _ _ _ _ kRENAME_ne.2,
    Edif.Data.get?_set_self]

/-- hypotheses on one scope of the netlist as it is BEFORE the pre-pass: every element has a string
    name, and the sibling list read off the dictionaries is inside `ScopeHyp` -/
structure ScopeOK (ps : List (List Nat × Data)) : Prop where
  named : ∀ p ∈ ps, ∃ nm, p.2.get? Edif.kNAME = some (.str nm)
  hyp : ScopeHyp (ps.map sibOf)

def FreshScope (ps : List (List Nat × Data)) : Prop :=
  (∀ p ∈ ps, (Edif.nameOf p.2).isSome = true) ∧ FreshSibs (ps.map sibOf)

instance (ps : List (List Nat × Data)) : Decidable (FreshScope ps) := inferInstanceAs (Decidable (_ ∧ _))

theorem FreshScope.scopeOK {ps : List (List Nat × Data)} (h : FreshScope ps) : ScopeOK ps where
  named p hp := by
    have := h.1 p hp
    unfold Edif.nameOf Edif.Data.getStr? at this
    split at this
    · exact ⟨_, ‹_›⟩
    · cases this
  hyp := h.2.scopeHyp

theorem forall2_carries_store {ds : List Data} {ys : List Sib} (e : ys.map (·.name) = ds.map Edif.nmOf)
    (hd : ∀ d ∈ ds, ∃ nm, d.get? Edif.kNAME = some (.str nm)) (hy : ∀ y ∈ ys, ∃ i, y.ident = some i) :
    Forall2 Carries (List.zipWith store ds ys) ys := by
  induction ds generalizing ys with
  | nil => rw [List.map_eq_nil_iff.mp e]; exact .nil
  | cons d ds ih =>
    cases ys with
    | nil => cases e
    | cons y ys =>
      obtain ⟨(e1 : y.name = Edif.nmOf d), e2⟩ := List.cons.inj e
      obtain ⟨nm, hnm⟩ := hd d List.mem_cons_self
      obtain ⟨i, hi⟩ := hy y List.mem_cons_self
      have hname : d.get? Edif.kNAME = some (.str y.name) := by
        rw [e1, hnm]; simp [Edif.nmOf, Edif.nameOf, Edif.Data.getStr?, hnm]
      exact .cons (carries_store hi hname)
        (ih e2 (fun d h => hd d (List.mem_cons_of_mem _ h)) fun y h => hy y (List.mem_cons_of_mem _ h))

theorem fromPrepass_passList {ps : List (List Nat × Data)} (h : ScopeOK ps) : FromPrepass (passList ps) := by
  refine ⟨ps.map sibOf, h.hyp, forall2_carries_store ?_ ?_ ?_⟩
  · rw [assignAll_names]; simp [sibOf, Function.comp_def]
  · intro d hd
    obtain ⟨p, hp, rfl⟩ := List.mem_map.mp hd
    exact h.named p hp
  · intro y hy
    obtain ⟨i, hi, _⟩ := (after_pass h.hyp).1 y hy
    exact ⟨i, hi⟩

def passOver {α : Type} (get : α → Data) (put : α → Data → α) (bits : α → List Nat) (xs : List α) : List α :=
  List.zipWith put xs (passList (xs.map fun x => (bits x, get x)))

theorem assignAll_length (l : List Sib) : (assignAll l).length = l.length := by
  simpa using congrArg List.length (assignAll_names l)

theorem passOver_eq {α : Type} (get : α → Data) (put : α → Data → α) (bits : α → List Nat) (xs : List α) :
    passOver get put bits xs = List.zipWith (fun x y => put x (store (get x) y)) xs
      (assignAll (xs.map fun x => sibOf (bits x, get x))) := by
  unfold passOver passList
  simp only [List.map_map, Function.comp_def]
  generalize assignAll _ = ys
  induction xs generalizing ys with
  | nil => rfl
  | cons x xs ih => cases ys <;> simp [ih]

theorem passOver_data {α : Type} (get : α → Data) (put : α → Data → α) (bits : α → List Nat)
    (hgp : ∀ x d, get (put x d) = d) (xs : List α) :
    (passOver get put bits xs).map get = passList (xs.map fun x => (bits x, get x)) := by
  simp [passOver_eq, passList, List.map_zipWith, List.zipWith_map_left, hgp, Function.comp_def]

theorem mem_passOver {α : Type} {get : α → Data} {put : α → Data → α} {bits : α → List Nat} {xs : List α} {z : α}
    (h : z ∈ passOver get put bits xs) : ∃ x ∈ xs, ∃ d, z = put x d := by
  rw [passOver, ← List.map_uncurry_zip_eq_zipWith] at h
  obtain ⟨⟨x, d⟩, hxd, rfl⟩ := List.mem_map.mp h
  exact ⟨x, (List.of_mem_zip hxd).1, d, rfl⟩

theorem map_passOver {α β : Type} (get : α → Data) (put : α → Data → α) (bits : α → List Nat) (v : α → β)
    (hv : ∀ x y, v (put x (store (get x) y)) = v x) (xs : List α) :
    (passOver get put bits xs).map v = xs.map v := by
  rw [passOver_eq, ← List.map_uncurry_zip_eq_zipWith, List.map_map,
    show v ∘ Function.uncurry (fun x y => put x (store (get x) y)) = v ∘ Prod.fst from funext fun p => hv p.1 p.2,
    ← List.map_map, List.map_fst_zip (Nat.le_of_eq (by rw [assignAll_length, List.length_map]))]

/-- wire indices of a cable the writer emits wire by wire (`_output_name_of_cable_wire_`) -/
def cableBits (c : CCable) : List Nat :=
  if c.wires.length = 1 ∧ c.isArray = false then [] else (List.range c.wires.length).map (· + c.lower)

def passPorts (ps : List CPort) : List CPort := passOver (·.data) (fun p d => { p with data := d }) (fun _ => []) ps
def passInsts (is : List CInst) : List CInst := passOver (·.data) (fun i d => { i with data := d }) (fun _ => []) is
def passCables (cs : List CCable) : List CCable := passOver (·.data) (fun c d => { c with data := d }) cableBits cs

def passDef (d : CDef) : CDef :=
  { d with ports := passPorts d.ports, insts := passInsts d.insts, cables := passCables d.cables }

def passDefs (ds : List CDef) : List CDef :=
  (passOver (·.data) (fun d x => { d with data := x }) (fun _ => []) ds).map passDef

def passLib (l : CLib) : CLib := { l with defs := passDefs l.defs }

def passLibs (ls : List CLib) : List CLib :=
  (passOver (·.data) (fun l x => { l with data := x }) (fun _ => []) ls).map passLib

/-- a scope with a single element and no siblings (the netlist, the top instance) -/
def passOne (d : Data) : Data := (passList [([], d)]).headD d

def passTop (t : CInst) : CInst := { t with data := passOne t.data }

/-- `_edifify_netlist`'s naming phase on the value-level netlist -/
def passNet (n : CNetlist) : CNetlist :=
  { n with data := passOne n.data, top := n.top.map passTop, libs := passLibs n.libs }

/-- what C17 assumes of the names in the netlist before export -/
structure NameHyp (n : CNetlist) (t : CInst) : Prop where
  libs : ScopeOK (n.libs.map fun l => ([], l.data))
  defs : ∀ l ∈ n.libs, ScopeOK (l.defs.map fun d => ([], d.data))
  ports : ∀ l ∈ n.libs, ∀ d ∈ l.defs, ScopeOK (d.ports.map fun p => ([], p.data))
  insts : ∀ l ∈ n.libs, ∀ d ∈ l.defs, ScopeOK (d.insts.map fun i => ([], i.data))
  cables : ∀ l ∈ n.libs, ∀ d ∈ l.defs, ScopeOK (d.cables.map fun c => (cableBits c, c.data))
  design : ScopeOK [([], n.data)]
  top : ScopeOK [([], t.data)]

/-- a netlist that was never exported: no scope holds an identifier yet (and the names are inside C17's
    hypotheses); decidable -/
def FreshNames (n : CNetlist) (t : CInst) : Prop :=
  FreshScope (n.libs.map fun l => ([], l.data)) ∧
  (∀ l ∈ n.libs, FreshScope (l.defs.map fun d => ([], d.data)) ∧
    ∀ d ∈ l.defs, FreshScope (d.ports.map fun p => ([], p.data)) ∧
      FreshScope (d.insts.map fun i => ([], i.data)) ∧ FreshScope (d.cables.map fun c => (cableBits c, c.data))) ∧
  FreshScope [([], n.data)] ∧ FreshScope [([], t.data)]

instance (n : CNetlist) (t : CInst) : Decidable (FreshNames n t) := inferInstanceAs (Decidable (_ ∧ _))

theorem FreshNames.nameHyp {n : CNetlist} {t : CInst} (h : FreshNames n t) : NameHyp n t where
  libs := h.1.scopeOK
  defs l hl := (h.2.1 l hl).1.scopeOK
  ports l hl d hd := ((h.2.1 l hl).2 d hd).1.scopeOK
  insts l hl d hd := ((h.2.1 l hl).2 d hd).2.1.scopeOK
  cables l hl d hd := ((h.2.1 l hl).2 d hd).2.2.scopeOK
  design := h.2.2.1.scopeOK
  top := h.2.2.2.scopeOK

theorem passOne_eq_store (d : Data) : passOne d = store d (assignOne (sibOf ([], d)) []) := rfl

theorem mem_passLibs {ls : List CLib} {l' : CLib} (h : l' ∈ passLibs ls) :
    ∃ l ∈ ls, l'.defs = passDefs l.defs := by
  obtain ⟨z, hz, rfl⟩ := List.mem_map.mp h
  obtain ⟨l, hl, d, rfl⟩ := mem_passOver hz
  exact ⟨l, hl, rfl⟩

theorem mem_passDefs {ds : List CDef} {d' : CDef} (h : d' ∈ passDefs ds) :
    ∃ d ∈ ds, d'.ports = passPorts d.ports ∧ d'.insts = passInsts d.insts ∧ d'.cables = passCables d.cables := by
  obtain ⟨z, hz, rfl⟩ := List.mem_map.mp h
  obtain ⟨d, hd, x, rfl⟩ := mem_passOver hz
  exact ⟨d, hd, rfl, rfl, rfl⟩

theorem fromPrepass_passOver {α : Type} {get : α → Data} {put : α → Data → α} {bits : α → List Nat} {xs : List α}
    (h : ScopeOK (xs.map fun x => (bits x, get x))) (hgp : ∀ x d, get (put x d) = d) :
    FromPrepass ((passOver get put bits xs).map get) := by
  rw [passOver_data get put bits hgp]; exact fromPrepass_passList h

theorem names_of_passNet (n : CNetlist) (t : CInst) (h : NameHyp n t) : NamesFromPrepass (passNet n) (passTop t) where
  libs := by
    show FromPrepass ((passLibs n.libs).map (·.data))
    rw [passLibs, List.map_map]
    exact fromPrepass_passOver h.libs fun _ _ => rfl
  defs l' hl' := by
    obtain ⟨l, hl, he⟩ := mem_passLibs hl'
    rw [he, passDefs, List.map_map]
    exact fromPrepass_passOver (h.defs l hl) fun _ _ => rfl
  ports l' hl' d' hd' := by
    obtain ⟨l, hl, he⟩ := mem_passLibs hl'
    obtain ⟨d, hd, hp, _, _⟩ := mem_passDefs (he ▸ hd')
    rw [hp]; exact fromPrepass_passOver (h.ports l hl d hd) fun _ _ => rfl
  insts l' hl' d' hd' := by
    obtain ⟨l, hl, he⟩ := mem_passLibs hl'
    obtain ⟨d, hd, _, hi, _⟩ := mem_passDefs (he ▸ hd')
    rw [hi]; exact fromPrepass_passOver (h.insts l hl d hd) fun _ _ => rfl
  cables l' hl' d' hd' := by
    obtain ⟨l, hl, he⟩ := mem_passLibs hl'
    obtain ⟨d, hd, _, _, hc⟩ := mem_passDefs (he ▸ hd')
    rw [hc]; exact fromPrepass_passOver (h.cables l hl d hd) fun _ _ => rfl
  design := fromPrepass_passList h.design
  top := fromPrepass_passList h.top

end Spydr.Names.Bridge
