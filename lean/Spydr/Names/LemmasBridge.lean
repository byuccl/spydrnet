/-
  Spydr.Names.LemmasBridge — the identifier notions of the names engine (Spec.lean / Model.lean) and
  of the EDIF engine's model (Spydr/Edif/ModelRead.lean, ModelWrite.lean, LemmasWF.lean) coincide, and
  what the pre-pass `assignAll` delivers for one scope is what the EDIF model's well-formedness
  (`NamedOK`, `Distinct`, the per-bit clauses of `CableWF.bus_ok`) asks of that scope.
-/
import Spydr.Names.LemmasPass
import Spydr.Edif.LemmasWF

namespace Spydr.Names.Bridge
open Spydr Spydr.Names

theorem lower_eq (s : Str) : Edif.lower s = lower s := rfl

theorem bitIdent_eq (id : Str) (i : Nat) : Edif.bitIdent id i = bitIdent id i := by
  simp [Edif.bitIdent, bitIdent, Edif.natStr]

theorem char_le_iff (a b : Char) : a ≤ b ↔ a.toNat ≤ b.toNat := by
  show a.val ≤ b.val ↔ _
  rw [UInt32.le_iff_toNat_le]; exact Iff.rfl

theorem isAsciiAlpha_eq (c : Char) : Edif.isAsciiAlpha c = c.isAlpha := by
  rw [Bool.eq_iff_iff, isAlpha_iff]
  simp only [Edif.isAsciiAlpha, Bool.or_eq_true, Bool.and_eq_true, decide_eq_true_eq, char_le_iff,
    Char.reduceToNat]
  omega

theorem isIdChar_eq (c : Char) : Edif.isIdChar c = okChar c := by
  simp [Edif.isIdChar, okChar, Char.isAlphanum, isAsciiAlpha_eq, Edif.isAsciiDigit]

/-- **the EDIF model's identifier legality is the names engine's** (both transcribe
    `EdifNamespace._check_EDIF_identifier`) -/
theorem checkEdifIdentifier_eq (s : Str) : Edif.checkEdifIdentifier s = Spec.checkEdifIdentifier s := by
  have hid : Edif.isIdChar = Spec.idChar := funext fun c => by rw [isIdChar_eq, idChar_eq]
  unfold Edif.checkEdifIdentifier
  split
  · rfl
  · simp [Spec.checkEdifIdentifier, hid]
  · rename_i c r hne
    have hc : (c == '&') = false := by simpa using hne
    simp only [Spec.checkEdifIdentifier, hc, Bool.false_eq_true, if_false, List.all_cons, hid, isAsciiAlpha_eq,
      isLetter_eq, idChar_eq]
    cases hA : c.isAlpha <;> simp [okChar, Char.isAlphanum, hA]

def Carries (d : Edif.Data) (y : Sib) : Prop :=
  Edif.identOf d = y.ident ∧ d.get? Edif.kNAME = some (.str y.name)

theorem Carries.idOf {d : Edif.Data} {y : Sib} (h : Carries d y) : Edif.idOf d = y.ident.getD [] := by
  rw [Edif.idOf, h.1]

theorem Carries.nmOf {d : Edif.Data} {y : Sib} (h : Carries d y) : Edif.nmOf d = y.name := by
  simp [Edif.nmOf, Edif.nameOf, Edif.Data.getStr?, h.2]

theorem Carries.of_pair {y : Sib} {nm i : Str} (hn : y.name = nm) (hi : y.ident = some i) :
    Carries [(Edif.kNAME, .str nm), (Edif.kIDENT, .str i)] y :=
  ⟨by simp [Edif.identOf, Edif.Data.getStr?, Edif.Data.get?, Edif.kNAME_ne_kIDENT, hi], by simp [Edif.Data.get?, hn]⟩

/-- names the EDIF string token can carry: anything but `"`, CR, LF -/
def QuoteFree (s : Str) : Prop := s.all Edif.isStringChar = true

theorem namedOK_of {d : Edif.Data} {y : Sib} {i : Str} (h : Carries d y) (hi : y.ident = some i)
    (hl : Spec.checkEdifIdentifier i = true) (hq : QuoteFree y.name) :
    Edif.NamedOK d (Edif.idOf d) (Edif.nmOf d) := by
  rw [h.idOf, hi, Option.getD_some, h.nmOf]
  exact ⟨by rw [h.1, hi], by rw [checkEdifIdentifier_eq]; exact hl, h.2, hq⟩

def LegalId (y : Sib) : Prop := ∀ i, y.ident = some i → Spec.checkEdifIdentifier i = true

theorem assignOne_legalId (x : Sib) (others : List Sib) (hn : x.name ≠ []) (h : LegalId x) :
    LegalId (assignOne x others) := by
  cases hx : x.ident with
  | some i => rw [assignOne_of_some hx]; exact h
  | none =>
    rw [assignOne_of_none hx]
    intro i hi
    simp only [Option.some.injEq] at hi
    subst hi
    exact (makeValid_good _ others hn).legal

/-- what the bridge assumes of a scope before the pass (the hypotheses of the C17 theorems, plus the
    two facts about the NAMES that the EDIF model's `Distinct` / `NamedOK` state: sibling names are
    different, and free of `"`, CR, LF) -/
structure ScopeHyp (l : List Sib) : Prop where
  named : ∀ x ∈ l, x.name ≠ []
  size : totalWeight l ≤ weightBound
  names : (l.map (·.name)).Nodup
  quoteFree : ∀ x ∈ l, QuoteFree x.name
  preLegal : ∀ x ∈ l, LegalId x
  preDistinct : l.Pairwise FormsDiffer2

theorem ScopeHyp.passOk {l : List Sib} (h : ScopeHyp l) : PassOk ([] ++ l) := ⟨h.named, h.size⟩

instance (s : Str) : Decidable (QuoteFree s) := inferInstanceAs (Decidable (_ = true))

/-- siblings none of which has an identifier yet (a scope that was never exported), inside the C17
    hypotheses; decidable -/
def FreshSibs (l : List Sib) : Prop :=
  (∀ x ∈ l, x.ident = none ∧ x.name ≠ [] ∧ QuoteFree x.name) ∧
  totalWeight l ≤ weightBound ∧ (l.map (·.name)).Nodup

instance (l : List Sib) : Decidable (FreshSibs l) := inferInstanceAs (Decidable (_ ∧ _))

theorem FreshSibs.scopeHyp {l : List Sib} (h : FreshSibs l) : ScopeHyp l where
  named x hx := (h.1 x hx).2.1
  size := h.2.1
  names := h.2.2
  quoteFree x hx := (h.1 x hx).2.2
  preLegal x hx _ hi := nomatch (h.1 x hx).1 ▸ hi
  preDistinct := List.pairwise_of_forall_mem_list fun a ha _ _ =>
    have hnone := (h.1 a ha).1
    ⟨fun _ _ hi => (nomatch hnone ▸ hi), fun _ _ _ hj => (nomatch hnone ▸ hj)⟩

theorem assignAll_names (l : List Sib) : (assignAll l).map (·.name) = l.map (·.name) := assignGo_names l []

theorem name_of_assignAll {l : List Sib} {y : Sib} (hy : y ∈ assignAll l) : ∃ x ∈ l, x.name = y.name :=
  List.mem_map.mp (assignAll_names l ▸ List.mem_map_of_mem hy)

theorem after_pass {l : List Sib} (h : ScopeHyp l) :
    (∀ y ∈ assignAll l, ∃ i, y.ident = some i ∧ Spec.checkEdifIdentifier i = true) ∧
    (assignAll l).Pairwise FormsDiffer2 := by
  have hlegal : ∀ y ∈ assignAll l, LegalId y := assignGo_each LegalId assignOne_legalId l [] h.passOk h.preLegal
  refine ⟨fun y hy => ?_, assignGo_formsDiffer l [] h.passOk h.preDistinct⟩
  obtain ⟨i, hi⟩ := Option.isSome_iff_exists.mp (assignGo_all_some l [] (by simp) y hy)
  exact ⟨i, hi, hlegal y hy i hi⟩

/-- position-wise relation between two lists (core has no `List.Forall₂`) -/
inductive Forall2 {α β : Type} (R : α → β → Prop) : List α → List β → Prop
  | nil : Forall2 R [] []
  | cons {a b as bs} : R a b → Forall2 R as bs → Forall2 R (a :: as) (b :: bs)

theorem forall₂_mem_left {α β : Type} {R : α → β → Prop} {as : List α} {bs : List β}
    (h : Forall2 R as bs) {a : α} (ha : a ∈ as) : ∃ b ∈ bs, R a b := by
  induction h with
  | nil => cases ha
  | cons hr _ ih =>
    rcases List.mem_cons.mp ha with rfl | ha
    · exact ⟨_, by simp, hr⟩
    · obtain ⟨b, hb, hab⟩ := ih ha; exact ⟨b, by simp [hb], hab⟩

theorem pairwise_of_forall₂ {α β : Type} {R : α → β → Prop} {Q : β → β → Prop} {P : α → α → Prop}
    {as : List α} {bs : List β} (h : Forall2 R as bs) (hq : bs.Pairwise Q)
    (himp : ∀ a a' b b', R a b → R a' b' → Q b b' → P a a') : as.Pairwise P := by
  induction h with
  | nil => exact List.Pairwise.nil
  | @cons a b as bs hr hrest ih =>
    rw [List.pairwise_cons] at hq ⊢
    refine ⟨fun a' ha' => ?_, ih hq.2⟩
    obtain ⟨b', hb', hab'⟩ := forall₂_mem_left hrest ha'
    exact himp a a' b b' hr hab' (hq.1 b' hb')

/-- **scope bridge**: the dictionaries of one scope after the writer's pre-pass satisfy the EDIF
    model's naming clauses — `NamedOK` for each, `Distinct` for the list. -/
theorem scope_named_distinct {l : List Sib} (h : ScopeHyp l) {ds : List Edif.Data}
    (hc : Forall2 Carries ds (assignAll l)) :
    (∀ d ∈ ds, Edif.NamedOK d (Edif.idOf d) (Edif.nmOf d)) ∧ Edif.Distinct ds := by
  obtain ⟨hleg, hforms⟩ := after_pass h
  refine ⟨fun d hd => ?_, ?_⟩
  · obtain ⟨y, hy, hdy⟩ := forall₂_mem_left hc hd
    obtain ⟨i, hi, hl⟩ := hleg y hy
    obtain ⟨x, hx, hxy⟩ := name_of_assignAll hy
    exact namedOK_of hdy hi hl (hxy ▸ h.quoteFree x hx)
  · have hnd := h.names
    rw [← assignAll_names, List.Nodup, List.pairwise_map] at hnd
    refine pairwise_of_forall₂ hc ((List.pairwise_and_iff.mpr ⟨hnd, hforms⟩).imp_of_mem ?_)
      (Q := fun a b => a.name ≠ b.name ∧ lower (a.ident.getD []) ≠ lower (b.ident.getD []))
      fun a a' b b' hab hab' hq => by rwa [hab.nmOf, hab'.nmOf, hab.idOf, hab'.idOf]
    intro a b ha hb ⟨hne, hfd⟩
    obtain ⟨i, hi, _⟩ := hleg a ha
    obtain ⟨j, hj, _⟩ := hleg b hb
    refine ⟨hne, fun hlow => ?_⟩
    rw [hi, hj] at hlow
    -- the identifier itself is among the written forms
    exact (formsDiffer_iff a b).mp hfd.1 i j hi hj i List.mem_cons_self j List.mem_cons_self hlow

theorem check_append {i t : Str} (hi : Spec.checkEdifIdentifier i = true) (ht : t.all okChar = true)
    (hlen : (i ++ t).length ≤ 255) : Spec.checkEdifIdentifier (i ++ t) = true := by
  have ht' : t.all Spec.idChar = true := funext idChar_eq ▸ ht
  cases i with
  | nil => simp [Spec.checkEdifIdentifier] at hi
  | cons c r =>
    simp only [Spec.checkEdifIdentifier, List.cons_append, List.length_cons, List.length_append, List.all_append,
      ht', Bool.and_true] at hi hlen ⊢
    split at hi <;> rename_i hc <;>
      simp only [hc, if_true, Bool.false_eq_true, if_false, Bool.and_eq_true, decide_eq_true_eq] at hi ⊢
    · exact ⟨⟨by omega, by omega⟩, hi.2⟩
    · exact ⟨⟨by omega, hi.1.2⟩, hi.2⟩

theorem bitSuffix_ok (k : Nat) : (bitSuffix k).all okChar = true := by
  simp only [bitSuffix, List.all_append, all_okChar_digits (digits_toDigits k).2]
  decide

theorem bitIdent_legal {i : Str} (k : Nat) (hi : Spec.checkEdifIdentifier i = true)
    (hlen : i.length + (Edif.natStr k).length + 2 ≤ 255) :
    Edif.checkEdifIdentifier (Edif.bitIdent i k) = true := by
  rw [checkEdifIdentifier_eq, bitIdent_eq, Names.bitIdent_eq]
  apply check_append hi (bitSuffix_ok k)
  simp only [List.length_append, bitSuffix, List.length_cons, List.length_nil, Edif.natStr] at hlen ⊢
  omega

theorem bitName_quoteFree {name : Str} (k : Nat) (h : QuoteFree name) : QuoteFree (Edif.bitName name k) :=
  (Edif.bitName_all_stringChar name k).trans h

end Spydr.Names.Bridge
