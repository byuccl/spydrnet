/-
  Spydr.Names.LemmasPass — `make_valid` as a whole, and the writer's pre-pass over a sibling list:
  an induction principle for `assignGo` and the invariants it keeps (pairwise freshness of all written
  forms, per-element legality and rename flag), linked to `Spec.scopeOk` / `Spec.netIdents`.
-/
import Spydr.Names.LemmasKey
import Spydr.Names.ModelObs

namespace Spydr.Names

theorem makeValid_good {name : Str} (bits : List Nat) (others : List Sib) (h : name ≠ []) :
    Good (makeValid bits name others) := by
  unfold makeValid makeValidF
  exact conflictsFix_good _ _ _ _ (Good_charsFix (lengthFix_ne_nil h))

theorem makeValidF_finished {name : Str} (bits : List Nat) (others : List Sib) (h : name ≠ [])
    (hb : fuelFor bits others ≤ sibBound) : (makeValidF bits name others).2 = true := by
  unfold makeValidF
  exact conflictsFix_finished_aux _ _ _ _ (Good_charsFix (lengthFix_ne_nil h)) (by omega) hb

theorem makeValid_fresh_of_finished {name : Str} (bits : List Nat) (others : List Sib)
    (hfin : (makeValidF bits name others).2 = true) :
    ∀ e ∈ others, ∀ m ∈ (forms bits (makeValid bits name others)).map lower, m ∉ theirForms e := by
  rw [← forms_lower]
  exact (conflictsGood_iff _ _ _).mp (conflictsFix_fresh _ _ _ _ hfin)

/-- upper bound for the number of strings one element contributes to a conflict check, in any state -/
def weight (e : Sib) : Nat := 2 + e.bits.length

def totalWeight (l : List Sib) : Nat := (l.map weight).sum

theorem theirForms_length_le (e : Sib) : (theirForms e).length ≤ weight e := by
  unfold theirForms weight forms
  cases e.ident <;> simp <;> omega

theorem flatMap_theirForms_length_le (l : List Sib) : (l.flatMap theirForms).length ≤ totalWeight l := by
  induction l with
  | nil => simp [totalWeight]
  | cons e es ih =>
    have := theirForms_length_le e
    simp only [List.flatMap_cons, List.length_append, totalWeight, List.map_cons, List.sum_cons] at ih ⊢
    omega

theorem totalWeight_append (a b : List Sib) : totalWeight (a ++ b) = totalWeight a + totalWeight b := by
  simp [totalWeight]

theorem fuelFor_le (done rest : List Sib) (x : Sib) :
    fuelFor x.bits (done ++ rest) ≤ totalWeight (done ++ x :: rest) * totalWeight (done ++ x :: rest) := by
  have hF := flatMap_theirForms_length_le (done ++ rest)
  have hw : totalWeight (done ++ x :: rest) = totalWeight (done ++ rest) + (2 + x.bits.length) := by
    simp only [totalWeight, weight, List.map_append, List.map_cons, List.sum_append, List.sum_cons]; omega
  generalize totalWeight (done ++ x :: rest) = T at *
  calc fuelFor x.bits (done ++ rest)
      ≤ T * (1 + x.bits.length) + T := Nat.add_le_add (Nat.mul_le_mul_right _ (by omega)) (by omega)
    _ = T * (1 + x.bits.length + 1) := (Nat.mul_succ ..).symm
    _ ≤ T * T := Nat.mul_le_mul_left _ (by omega)

@[simp] theorem assignOne_name (x : Sib) (others : List Sib) : (assignOne x others).name = x.name := by
  unfold assignOne; split <;> rfl

@[simp] theorem assignOne_bits (x : Sib) (others : List Sib) : (assignOne x others).bits = x.bits := by
  unfold assignOne; split <;> rfl

theorem assignOne_of_some {x : Sib} {i : Str} (h : x.ident = some i) (others : List Sib) :
    assignOne x others = x := by
  unfold assignOne; rw [h]

theorem assignOne_of_none {x : Sib} (h : x.ident = none) (others : List Sib) :
    assignOne x others =
      { x with ident := some (makeValid x.bits x.name others),
               rename := x.rename || (makeValid x.bits x.name others != x.name), assigned := true } := by
  unfold assignOne; rw [h]

/-- how heavy a scope the pass theorems allow: `totalWeight² ≤ sibBound` -/
def weightBound : Nat := 10 ^ 100

def PassOk (l : List Sib) : Prop := (∀ y ∈ l, y.name ≠ []) ∧ totalWeight l ≤ weightBound

theorem PassOk.fuel {done rest : List Sib} {x : Sib} (h : PassOk (done ++ x :: rest)) :
    fuelFor x.bits (done ++ rest) ≤ sibBound :=
  Nat.le_trans (fuelFor_le done rest x) <|
    Nat.le_trans (Nat.mul_le_mul h.2 h.2) (by simp [weightBound, sibBound])

theorem PassOk.assignOne {done rest : List Sib} {x : Sib} (h : PassOk (done ++ x :: rest)) (others : List Sib) :
    PassOk (done ++ assignOne x others :: rest) := by
  simpa [PassOk, totalWeight, weight, or_imp, forall_and] using h

theorem assignGo_induct (I : List Sib → Prop)
    (hstep : ∀ done x rest, PassOk (done ++ x :: rest) → I (done ++ x :: rest) →
      I (done ++ assignOne x (done ++ rest) :: rest)) :
    ∀ todo done, PassOk (done ++ todo) → I (done ++ todo) → I (assignGo done todo) := by
  intro todo
  induction todo with
  | nil => intro done _ h; simpa [assignGo] using h
  | cons x rest ih =>
    intro done hok h
    have := ih (done ++ [assignOne x (done ++ rest)])
    simp only [List.append_assoc, List.singleton_append] at this
    exact this (hok.assignOne _) (hstep done x rest hok h)

theorem assignGo_each (P : Sib → Prop)
    (hP : ∀ x others, x.name ≠ [] → P x → P (assignOne x others)) (todo done : List Sib)
    (hok : PassOk (done ++ todo)) (h : ∀ y ∈ done ++ todo, P y) : ∀ y ∈ assignGo done todo, P y := by
  refine assignGo_induct (fun L => ∀ y ∈ L, P y) ?_ todo done hok h
  intro done x rest hok h
  simp only [List.forall_mem_append, List.forall_mem_cons] at h ⊢
  exact ⟨h.1, hP x _ (hok.1 x (by simp)) h.2.1, h.2.2⟩

/-- a relation between two elements that survives `assignOne` on either side holds between any two
    elements after the pass -/
theorem assignGo_pairwise (Q : Sib → Sib → Prop)
    (hQ : ∀ {done rest x}, PassOk (done ++ x :: rest) → ∀ a ∈ done ++ rest,
      (Q a x → Q a (assignOne x (done ++ rest))) ∧ (Q x a → Q (assignOne x (done ++ rest)) a))
    (todo done : List Sib) (hok : PassOk (done ++ todo))
    (h : List.Pairwise (fun a b => Q a b ∧ Q b a) (done ++ todo)) :
    List.Pairwise (fun a b => Q a b ∧ Q b a) (assignGo done todo) := by
  refine assignGo_induct (List.Pairwise fun a b => Q a b ∧ Q b a) ?_ todo done hok h
  intro done x rest hok h
  rw [List.pairwise_append, List.pairwise_cons] at h ⊢
  obtain ⟨hd, ⟨hx, hr⟩, hdr⟩ := h
  have hs := hQ hok
  refine ⟨hd, ⟨fun b hb => ?_, hr⟩, fun a ha b hb => ?_⟩
  · have := hs b (List.mem_append_right _ hb)
    exact ⟨this.2 (hx b hb).1, this.1 (hx b hb).2⟩
  · rcases List.mem_cons.mp hb with rfl | hb'
    · have := hs a (List.mem_append_left _ ha)
      have hq := hdr a ha x List.mem_cons_self
      exact ⟨this.1 hq.1, this.2 hq.2⟩
    · exact hdr a ha b (List.mem_cons_of_mem _ hb')

/-- every identifier written for `a`, if the writer assigned `a`'s identifier, differs (ignoring case)
    from `b`'s name and from every identifier written for `b` -/
def FreshAgainst (a b : Sib) : Prop :=
  a.assigned = true → ∀ i, a.ident = some i →
    ∀ m ∈ (forms a.bits i).map lower, m ∉ theirForms b

def FormsDiffer (a b : Sib) : Prop :=
  ∀ i j, a.ident = some i → b.ident = some j →
    ∀ m ∈ (forms a.bits i).map lower, m ∉ (forms b.bits j).map lower

theorem formsDiffer_iff (a b : Sib) :
    FormsDiffer a b ↔ ∀ i j, a.ident = some i → b.ident = some j →
      ∀ m ∈ forms a.bits i, ∀ m' ∈ forms b.bits j, lower m ≠ lower m' := by
  refine ⟨fun h i j hi hj m hm m' hm' e =>
    h i j hi hj _ (List.mem_map_of_mem hm) (e ▸ List.mem_map_of_mem hm'), fun h i j hi hj m hm hm' => ?_⟩
  obtain ⟨m0, hm0, rfl⟩ := List.mem_map.mp hm
  obtain ⟨m1, hm1, e⟩ := List.mem_map.mp hm'
  exact h i j hi hj m0 hm0 m1 hm1 e.symm

theorem mem_theirForms_of_ident {a : Sib} {i m : Str} (hi : a.ident = some i)
    (hm : m ∈ (forms a.bits i).map lower) : m ∈ theirForms a := by
  unfold theirForms; rw [hi]; exact List.mem_cons_of_mem _ hm

theorem step_freshAgainst {done rest : List Sib} {x : Sib} (hok : PassOk (done ++ x :: rest)) :
    ∀ a ∈ done ++ rest,
      ((FreshAgainst a x → FreshAgainst a (assignOne x (done ++ rest))) ∧
       (FreshAgainst x a → FreshAgainst (assignOne x (done ++ rest)) a)) ∧
      ((FormsDiffer a x → FormsDiffer a (assignOne x (done ++ rest))) ∧
       (FormsDiffer x a → FormsDiffer (assignOne x (done ++ rest)) a)) := by
  intro a ha
  cases hx : x.ident with
  | some i =>
    rw [assignOne_of_some hx]
    exact ⟨⟨id, id⟩, id, id⟩
  | none =>
    have hfin := makeValidF_finished x.bits (done ++ rest) (hok.1 x (by simp)) hok.fuel
    have hfresh := makeValid_fresh_of_finished x.bits (done ++ rest) hfin a ha
    rw [assignOne_of_none hx]
    refine ⟨⟨?_, ?_⟩, ?_, ?_⟩
    · intro h ha' i hi m hm hmem
      have hold := h ha' i hi m hm
      simp only [theirForms, hx, List.mem_cons, List.not_mem_nil, or_false] at hold
      simp only [theirForms, List.mem_cons] at hmem
      rcases hmem with hmem | hmem
      · exact hold hmem
      · exact hfresh m hmem (mem_theirForms_of_ident hi hm)
    · rintro _ _ i ⟨rfl⟩ m hm
      exact hfresh m hm
    · rintro _ i j hi ⟨rfl⟩ m hm hmem
      exact hfresh m hmem (mem_theirForms_of_ident hi hm)
    · rintro _ i j ⟨rfl⟩ hj m hm hmem
      exact hfresh m hm (mem_theirForms_of_ident hj hmem)

/-- what holds between any two elements of a scope during and after the pass -/
def PairOk (a b : Sib) : Prop := FreshAgainst a b ∧ FreshAgainst b a

def FormsDiffer2 (a b : Sib) : Prop := FormsDiffer a b ∧ FormsDiffer b a

theorem assignGo_formsDiffer (todo done : List Sib) (hok : PassOk (done ++ todo))
    (h : List.Pairwise FormsDiffer2 (done ++ todo)) : List.Pairwise FormsDiffer2 (assignGo done todo) :=
  assignGo_pairwise FormsDiffer (fun hok a ha => (step_freshAgainst hok a ha).2) todo done hok h

/-- what holds of every single element the writer named: the identifier is well-shaped and a
    changed name is flagged -/
def ElemOk (y : Sib) : Prop :=
  y.assigned = true → ∃ i, y.ident = some i ∧ Good i ∧ (i ≠ y.name → y.rename = true)

theorem assignOne_elemOk {x : Sib} (others : List Sib) (hn : x.name ≠ []) (h : ElemOk x) :
    ElemOk (assignOne x others) := by
  cases hx : x.ident with
  | some i => rw [assignOne_of_some hx]; exact h
  | none =>
    rw [assignOne_of_none hx]
    exact fun _ => ⟨_, rfl, makeValid_good _ others hn, fun hne => by simp [hne]⟩

theorem assignGo_map {β : Type} (f : Sib → β) (hf : ∀ x others, f (assignOne x others) = f x)
    (todo done : List Sib) : (assignGo done todo).map f = (done ++ todo).map f := by
  induction todo generalizing done with
  | nil => simp [assignGo]
  | cons x rest ih => simp only [assignGo]; rw [ih]; simp [hf]

theorem assignGo_names (todo done : List Sib) :
    (assignGo done todo).map (·.name) = (done ++ todo).map (·.name) :=
  assignGo_map _ assignOne_name todo done

theorem assignGo_bits (todo done : List Sib) :
    (assignGo done todo).map (·.bits) = (done ++ todo).map (·.bits) :=
  assignGo_map _ assignOne_bits todo done

theorem assignOne_ident_isSome (x : Sib) (others : List Sib) : (assignOne x others).ident.isSome = true := by
  cases hx : x.ident with
  | some i => rw [assignOne_of_some hx, hx]; rfl
  | none => rw [assignOne_of_none hx]; rfl

theorem assignGo_all_some (todo done : List Sib) (h : ∀ y ∈ done, y.ident.isSome = true) :
    ∀ y ∈ assignGo done todo, y.ident.isSome = true := by
  induction todo generalizing done with
  | nil => simpa [assignGo] using h
  | cons x rest ih =>
    refine ih _ fun y hy => ?_
    rcases List.mem_append.mp hy with hy | hy
    · exact h y hy
    · rw [List.mem_singleton.mp hy]; exact assignOne_ident_isSome _ _

theorem mem_splits {α : Type} {l p q : List α} {x : α} (h : (p, x, q) ∈ Spec.splits l) : l = p ++ x :: q := by
  induction l generalizing p with
  | nil => simp [Spec.splits] at h
  | cons a as ih =>
    simp only [Spec.splits, List.mem_cons, List.mem_map, Prod.mk.injEq] at h
    rcases h with ⟨rfl, rfl, rfl⟩ | ⟨⟨p', y, q'⟩, hm, rfl, rfl, rfl⟩
    · rfl
    · rw [ih hm]; rfl

theorem pairwise_split {Q : Sib → Sib → Prop} {p q : List Sib} {x : Sib}
    (h : List.Pairwise (fun a b => Q a b ∧ Q b a) (p ++ x :: q)) : ∀ z ∈ p ++ q, Q x z := by
  rw [List.pairwise_append, List.pairwise_cons] at h
  obtain ⟨_, ⟨hx, _⟩, hpx⟩ := h
  intro z hz
  rcases List.mem_append.mp hz with hz | hz
  · exact (hpx z hz x (by simp)).2
  · exact (hx z hz).1

theorem wireIdent_eq (id : Str) (i : Nat) : Spec.wireIdent id i = bitIdent id i := by
  simp [Spec.wireIdent, bitIdent]

theorem emitted_observeOne {x : Sib} {i : Str} (hi : x.ident = some i) :
    Spec.emitted (observeOne x) = forms x.bits i := by
  simp [Spec.emitted, observeOne, forms, hi, funext (wireIdent_eq _)]

/-- freshness as `conflictsGood` computes it, in the words of the specification -/
theorem fresh_iff (bits : List Nat) (id : Str) (e : Sib) :
    (∀ m ∈ (forms bits id).map lower, m ∉ theirForms e) ↔
      ∀ m ∈ forms bits id, Spec.ciEq m e.name = false ∧
        ∀ i, e.ident = some i → ∀ m' ∈ forms e.bits i, Spec.ciEq m m' = false := by
  simp only [List.forall_mem_map, ciEq_eq_false_iff, theirForms, List.mem_cons, not_or]
  cases e.ident <;> simp [eq_comm]

theorem scopeOk_of_invariants {L : List Sib} (hsome : ∀ y ∈ L, y.ident.isSome = true)
    (hpair : List.Pairwise PairOk L) (helem : ∀ y ∈ L, ElemOk y) :
    Spec.scopeOk (observe L) = true := by
  unfold Spec.scopeOk
  rw [List.all_eq_true]
  rintro ⟨P, X, Qs⟩ hmem
  obtain ⟨p, r, rfl, rfl, hr⟩ := List.map_eq_append_iff.mp (mem_splits hmem)
  obtain ⟨x, q, rfl, rfl, rfl⟩ := List.map_eq_cons_iff.mp hr
  cases hxa : x.assigned with
  | false => simp [observeOne, hxa]
  | true =>
    obtain ⟨i, hi, hgood, hren⟩ := helem x (by simp) hxa
    have hfresh := pairwise_split (Q := FreshAgainst) hpair
    have hXi : (observeOne x).ident = i := by simp [observeOne, hi]
    simp only [Spec.elemOk, Bool.and_eq_true, show (observeOne x).assigned = true from hxa, Bool.not_true,
      Bool.false_or, hXi]
    refine ⟨⟨hgood.legal, ?_⟩, ?_⟩
    · rw [← List.map_append, List.all_map, List.all_eq_true]
      intro z hz
      obtain ⟨j, hj⟩ := Option.isSome_iff_exists.mp (hsome z (by
        rcases List.mem_append.mp hz with hz | hz <;> simp [hz]))
      have := (fresh_iff _ _ _).mp (hfresh z hz hxa i hi)
      simp only [Function.comp, emitted_observeOne hi, emitted_observeOne hj, List.all_eq_true,
        Bool.and_eq_true, Bool.not_eq_true']
      exact fun m hm => ⟨(this m hm).1, (this m hm).2 j hj⟩
    · rw [Bool.or_eq_true, beq_iff_eq]
      exact Decidable.or_iff_not_imp_left.mpr hren

theorem allDistinct_iff (l : List Str) :
    Spec.allDistinct l = true ↔ l.Pairwise (fun a b => lower a ≠ lower b) := by
  induction l with
  | nil => simp [Spec.allDistinct]
  | cons x xs ih => simp [Spec.allDistinct, ih, ciEq_eq_false_iff]

theorem identsDistinct_eq (obs : List Spec.Obs) :
    Spec.identsDistinct obs = Spec.allDistinct (obs.map (·.ident)) := by
  induction obs with
  | nil => rfl
  | cons x xs ih => simp [Spec.identsDistinct, Spec.allDistinct, ih, List.all_map, Function.comp_def]

theorem identsDistinct_of_pairwise {L : List Sib} (hsome : ∀ y ∈ L, y.ident.isSome = true)
    (h : List.Pairwise FormsDiffer2 L) : Spec.identsDistinct (observe L) = true := by
  rw [identsDistinct_eq, allDistinct_iff, observe, List.map_map, List.pairwise_map]
  refine List.Pairwise.imp_of_mem (fun {a b} ha hb hab hc => ?_) h
  obtain ⟨i, hi⟩ := Option.isSome_iff_exists.mp (hsome a ha)
  obtain ⟨j, hj⟩ := Option.isSome_iff_exists.mp (hsome b hb)
  simp only [Function.comp, observeOne, hi, hj, Option.getD_some] at hc
  exact (formsDiffer_iff a b).mp hab.1 i j hi hj i List.mem_cons_self j List.mem_cons_self hc

theorem netIdents_observe {L : List Sib} (hsome : ∀ y ∈ L, y.ident.isSome = true) :
    Spec.netIdents (observe L) = emittedNetIdents L := by
  unfold Spec.netIdents observe emittedNetIdents
  rw [List.flatMap_map, List.flatMap_def, List.flatMap_def]
  refine congrArg List.flatten (List.map_congr_left fun x hx => ?_)
  obtain ⟨i, hi⟩ := Option.isSome_iff_exists.mp (hsome x hx)
  simp [observeOne, hi, funext (wireIdent_eq _)]

theorem mem_forms_of_net {s : Sib} {m : Str}
    (h : m ∈ match s.ident with
      | none => []
      | some i => if s.bits.isEmpty then [i] else s.bits.map (bitIdent i)) :
    ∃ i, s.ident = some i ∧ m ∈ forms s.bits i := by
  cases hi : s.ident with
  | none => simp [hi] at h
  | some i =>
    refine ⟨i, rfl, ?_⟩
    simp only [hi] at h
    split at h
    · exact List.mem_singleton.mp h ▸ List.mem_cons_self
    · exact List.mem_cons_of_mem _ h

theorem netIdents_distinct_of_pairwise {L : List Sib}
    (hbits : ∀ y ∈ L, y.bits.Nodup) (h : List.Pairwise FormsDiffer2 L) :
    Spec.allDistinct (emittedNetIdents L) = true := by
  rw [allDistinct_iff]
  unfold emittedNetIdents
  rw [List.pairwise_flatMap]
  refine ⟨fun a ha => ?_, List.Pairwise.imp (fun {a b} hab m hm m' hm' hc => ?_) h⟩
  · cases a.ident with
    | none => simp
    | some i =>
      simp only
      split
      · simp
      · rw [List.pairwise_map]
        refine List.Pairwise.imp (fun {k k'} hkk hc => ?_) (hbits a ha)
        rw [lower_bitIdent, lower_bitIdent] at hc
        exact hkk (bitIdent_inj_index hc)
  · obtain ⟨i, hi, hm⟩ := mem_forms_of_net hm
    obtain ⟨j, hj, hm'⟩ := mem_forms_of_net hm'
    exact (formsDiffer_iff a b).mp hab.1 i j hi hj m hm m' hm' hc

theorem Good.no_blank {i : Str} (h : Good i) : ∀ c ∈ i, (c != ' ') = true := by
  obtain ⟨hs, _⟩ := h
  cases i with
  | nil => exact hs.elim
  | cons c r =>
    rw [List.forall_mem_cons]
    refine ⟨?_, fun d hd => ?_⟩
    · rcases hs.1 with h1 | ⟨rfl, _⟩
      · rw [bne_iff_ne]; rintro rfl; revert h1; decide
      · decide
    · have hk := List.all_eq_true.mp hs.2 d hd
      rw [bne_iff_ne]; rintro rfl; revert hk; decide

theorem takeWhile_append_stop {p : Char → Bool} {l r : Str} {c : Char}
    (hl : ∀ a ∈ l, p a = true) (hc : p c = false) :
    (l ++ c :: r).takeWhile p = l ∧ (l ++ c :: r).dropWhile p = c :: r := by
  rw [List.takeWhile_append_of_pos hl, List.dropWhile_append_of_pos hl]
  simp [hc]

theorem readName_rename {i n : Str} (hi : Good i) (hn : ∀ c ∈ n, (c != '"') = true) :
    readName (true, ['r', 'e', 'n', 'a', 'm', 'e', ' '] ++ i ++ [' ', '"'] ++ n ++ ['"']) = some (i, n) := by
  have h1 : List.drop 7 (['r', 'e', 'n', 'a', 'm', 'e', ' '] ++ i ++ [' ', '"'] ++ n ++ ['"'])
      = i ++ ' ' :: ('"' :: (n ++ ['"'])) := by simp
  obtain ⟨ht, hd⟩ := takeWhile_append_stop (p := (· != ' ')) (l := i) (r := '"' :: (n ++ ['"'])) (c := ' ')
    hi.no_blank (by decide)
  obtain ⟨ht2, hd2⟩ := takeWhile_append_stop (p := (· != '"')) (l := n) (r := []) (c := '"') hn (by decide)
  simp only [readName, Bool.not_true, Bool.false_eq_true, if_false, h1, ht, hd, ht2, hd2]
  simp

end Spydr.Names
