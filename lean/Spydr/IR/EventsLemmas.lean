/-
  Replaying the announcements of one call on the mirror of the old state gives the mirror of the new state:
  the calls whose announcements imply further changes of the mirror (outer pins appear and disappear with
  inner pins and references; removals announce disconnects the mirror has already carried out).
-/
import Spydr.IR.Events
import Spydr.IR.StepInv
namespace Spydr.IR

theorem M.ext' {a b : M} (h1 : a.libNl = b.libNl) (h2 : a.defLib = b.defLib) (h3 : a.portDef = b.portDef)
    (h4 : a.cableDef = b.cableDef) (h5 : a.instParent = b.instParent) (h6 : a.pinPort = b.pinPort)
    (h7 : a.wireCable = b.wireCable) (h8 : a.pinWire = b.pinWire) (h9 : a.opWire = b.opWire)
    (h10 : a.instRef = b.instRef) (h11 : a.hasOuter = b.hasOuter) (h12 : a.top = b.top) : a = b := by
  cases a; cases b; simp_all

macro "m_ext" : tactic => `(tactic| (
  apply M.ext'
  all_goals first
    | rfl
    | (funext x y; grind [mem_insertAt, isReorder_iff])
    | (funext x; grind [mem_insertAt, isReorder_iff])))

macro "mirror_tac" hok:ident : tactic => `(tactic| (
  simp only [eventsOf, $hok:ident, ne_eq, not_true_eq_false, if_false, replayAllM, List.foldl]
  simp only [step] at $hok:ident ⊢
  repeat' split at $hok:ident
  all_goals first
    | (simp at $hok:ident; done)
    | (simp only [*, if_false, if_true, replayM, S.abs, not_false_eq_true, ne_eq, not_true_eq_false, Bool.false_eq_true] <;> m_ext)))

/-- A call guarded by a precondition: refused, it announces nothing and changes nothing; so it is mirrored
    if its continuation `x` is whenever the guard lets it through. -/
theorem mirror_of_guard {s : S} {g : Prop} [Decidable g] {r : Res} {x : S × Res} {evs : List Event}
    (hr : r ≠ .ok) (h : ¬ g → replayAllM s.abs (if x.2 ≠ .ok then [] else evs) = x.1.abs) :
    replayAllM s.abs (if (if g then (s, r) else x).2 ≠ .ok then [] else evs) = (if g then (s, r) else x).1.abs := by
  by_cases hg : g
  · rw [if_pos hg, if_pos hr]; rfl
  · rw [if_neg hg]; exact h hg

theorem mirror_of_ok {s s' : S} {evs : List Event} (h : replayAllM s.abs evs = s'.abs) :
    replayAllM s.abs (if (s', Res.ok).2 ≠ .ok then [] else evs) = (s', Res.ok).1.abs := h

theorem mirror_addPort (s : S) (nI d p pos veto) (h : Inv s) :
    replayAllM s.abs (eventsOf s nI (.addPort d p pos veto)) = (step s (.addPort d p pos veto)).1.abs := by
  dsimp only [eventsOf, step]
  refine mirror_of_guard (by decide) fun _ => mirror_of_guard (by decide) fun _ => mirror_of_ok ?_
  apply M.ext' <;> try rfl
  funext i q
  have := h.pins_iff p q
  simp only [replayAllM, List.foldl, replayM, S.abs]
  grind

theorem mirror_addPin (s : S) (nI p q pos) :
    replayAllM s.abs (eventsOf s nI (.addPin p q pos)) = (step s (.addPin p q pos)).1.abs := by
  dsimp only [eventsOf, step]
  refine mirror_of_guard (by decide) fun _ => mirror_of_ok ?_
  apply M.ext' <;> try rfl
  funext i q'
  simp only [replayAllM, List.foldl, replayM, S.abs]
  cases s.portDef p <;> grind

/-- `reference :=` on an instance without reference: one outer pin per inner pin of the definition -/
theorem mirror_setRef_first (s : S) (nI i d) (h : Inv s) (hfirst : s.instRef i = none) :
    replayAllM s.abs (eventsOf s nI (.setRef i (some d))) = (step s (.setRef i (some d))).1.abs := by
  have hok : (step s (.setRef i (some d))).2 = .ok := by simp [step, S.setRefStep, hfirst]
  dsimp only [eventsOf]
  rw [if_neg fun hn => hn hok]
  simp only [step, S.setRefStep, hfirst, S.firstRef]
  apply M.ext' <;> try rfl
  funext i' q
  have := mem_flat s h d q
  simp only [replayAllM, List.foldl, replayM, S.abs]
  grind

theorem mirror_createChild (s : S) (nI d i ref) (h : Inv s) :
    replayAllM s.abs (eventsOf s nI (.createChild d i ref false)) = (step s (.createChild d i ref false)).1.abs := by
  dsimp only [eventsOf, step]
  refine mirror_of_guard (by decide) fun hg => ?_
  -- a fresh instance has no outer pins and none of them on a wire
  have hr : s.instRef i = none := by
    cases e : s.instRef i with
    | none => rfl
    | some x => exact absurd (Or.inr (by simp [e])) hg
  have hnp : s.instPins i = [] := h.noref i hr
  have hno : ∀ q, s.opWire i q = none := fun q => by
    cases e : s.opWire i q with
    | none => rfl
    | some w => have := h.ow_owned i q w e; rw [hnp] at this; cases this
  simp only [Bool.false_eq_true, if_false, ne_eq, not_true_eq_false, replayAllM, List.foldl]
  cases ref with
  | none =>
    apply M.ext' <;> try rfl
    · funext i' q; simp only [replayM, S.abs]; grind
    · funext i'; simp only [replayM, S.abs]; grind
    · funext i' q; simp only [replayM, S.abs]; grind
  | some r =>
    have := mem_flat s h r
    apply M.ext' <;> try rfl
    funext i' q; simp only [replayM, S.abs, S.firstRef]; grind

theorem mirror_setTopDef (s : S) (nI n d t) (h : Inv s) :
    replayAllM s.abs (eventsOf s nI (.setTopDef n d t)) = (step s (.setTopDef n d t)).1.abs := by
  dsimp only [eventsOf, step]
  refine mirror_of_guard (by decide) fun hg => mirror_of_ok ?_
  have := mem_flat s h d
  have hr : s.instRef t = none := by simpa using hg
  apply M.ext' <;> try rfl
  funext i q
  simp only [replayAllM, List.foldl, replayM, S.abs, S.firstRef]
  grind

theorem foldl_noops (m : M) (es : List Event) (h : ∀ e ∈ es, replayM m e = m) : es.foldl replayM m = m := by
  induction es with
  | nil => rfl
  | cons e t ih =>
    rw [List.foldl_cons, h e (List.mem_cons_self ..)]
    exact ih fun e' he' => h e' (List.mem_cons_of_mem _ he')

theorem replayM_disc_outer_noop (m : M) (w i q : OId) (h : m.opWire i q = none) :
    replayM m (.disconnect w (.outer i q)) = m := by
  apply M.ext' <;> try rfl
  funext i' q'
  simp only [replayM]
  split
  · rename_i hh; rw [hh.1, hh.2, h]
  · rfl

theorem mem_discOuter (s : S) (i q : OId) (e : Event) (h : e ∈ discOuter s i q) :
    ∃ w, e = .disconnect w (.outer i q) := by
  simp only [discOuter] at h
  split at h
  · rename_i w _; simp at h; exact ⟨w, h⟩
  · simp at h

theorem foldl_discOuter_noop (s : S) (m : M) (es : List Event)
    (hes : ∀ e ∈ es, ∃ i q, e ∈ discOuter s i q ∧ m.opWire i q = none) : es.foldl replayM m = m :=
  foldl_noops m es fun e he => by
    obtain ⟨i, q, hd, hn⟩ := hes e he
    obtain ⟨w, rfl⟩ := mem_discOuter s i q e hd
    exact replayM_disc_outer_noop m w i q hn

theorem mirror_disconnect (s : S) (nI w r) :
    replayAllM s.abs (eventsOf s nI (.disconnect w r)) = (step s (.disconnect w r)).1.abs := by
  cases r with
  | inner q =>
    dsimp only [eventsOf, step]
    exact mirror_of_guard (by decide) fun _ => mirror_of_ok rfl
  | outer i q =>
    -- the stored pin and its proxy are both announced
    dsimp only [eventsOf, step]
    refine mirror_of_guard (by decide) fun _ => mirror_of_guard (by decide) fun _ => mirror_of_ok ?_
    simp only [replayAllM, evDisconnect, List.foldl]
    rw [replayM_disc_outer_noop]
    · rfl
    · simp [replayM]

/-- removing a port: the disconnects implied for the outer pins of its inner pins add nothing for a mirror
    that agrees with the netlists on references and on the ports of pins -/
theorem evRemovePort_replay (s : S) (h : Inv s) (m : M) (hm1 : m.instRef = s.instRef) (hm2 : m.pinPort = s.pinPort)
    (nI d p : OId) : replayAllM m (evRemovePort s nI d p) = replayM m (.removePort d p) := by
  rw [evRemovePort, replayAllM, List.foldl_cons]
  refine foldl_discOuter_noop s _ _ fun e he => ?_
  simp only [List.mem_flatMap, S.refList, List.mem_filter] at he
  obtain ⟨i, hi, q, hq, he⟩ := he
  exact ⟨i, q, he, by simp [replayM, hm1, hm2, (h.refs_iff d i).1 hi.2, (h.pins_iff p q).1 hq]⟩

theorem evRemovePin_replay (s : S) (m : M) (nI p q : OId) :
    replayAllM m (evRemovePin s nI p q) = replayM m (.removePin p q) := by
  rw [evRemovePin, replayAllM, List.foldl_cons]
  refine foldl_discOuter_noop s _ _ fun e he => ?_
  cases hd : s.portDef p with
  | none => simp [hd] at he
  | some d =>
    simp only [hd, List.mem_flatMap] at he
    obtain ⟨i, _, he⟩ := he
    exact ⟨i, q, he, by simp [replayM]⟩

theorem mirror_removePort (s : S) (nI d p) (h : Inv s) :
    replayAllM s.abs (eventsOf s nI (.removePort d p)) = (step s (.removePort d p)).1.abs := by
  dsimp only [eventsOf, step]
  refine mirror_of_guard (by decide) fun _ => mirror_of_ok ?_
  rw [evRemovePort_replay s h s.abs rfl rfl]
  apply M.ext' <;> try rfl
  funext i q
  have := h.mirror i d
  simp only [replayM, S.abs]
  grind

theorem mirror_removePin (s : S) (nI p q) :
    replayAllM s.abs (eventsOf s nI (.removePin p q)) = (step s (.removePin p q)).1.abs := by
  dsimp only [eventsOf, step]
  refine mirror_of_guard (by decide) fun _ => mirror_of_ok ?_
  rw [evRemovePin_replay]
  apply M.ext' <;> try rfl
  funext i q'
  simp only [replayM, S.abs]
  grind

theorem mirror_setRef_none (s : S) (nI i) :
    replayAllM s.abs (eventsOf s nI (.setRef i none)) = (step s (.setRef i none)).1.abs := by
  have hok : (step s (.setRef i none)).2 = .ok := rfl
  dsimp only [eventsOf]
  rw [if_neg fun hn => hn hok, replayAllM, List.foldl_cons, foldl_discOuter_noop s]
  · dsimp only [step, S.setRefStep, S.dropRef]
    apply M.ext' <;> try rfl
    funext i' q
    simp only [replayM, S.abs]
    grind
  · intro e he
    simp only [List.mem_flatMap] at he
    obtain ⟨q, _, he⟩ := he
    exact ⟨i, q, he, by simp [replayM]⟩

end Spydr.IR
