/-
  `Inv` is kept by every operation.  An operation rewrites a few fields of the heap and so touches a few
  clauses of `Inv`; the others are carried over unchanged (`{ h with … }`: the record update reduces
  field by field).  A container call is one edit of one containment relation (`Cont`), the connection calls are
  the same edits of the wire–pin relation; removing ports or pins and dropping a reference also purge outer pins
  (`S.purge`), which leaves the mirror clause to show; adding ports or pins and setting a reference extend the
  outer pins, and there the mirror clauses are proved from the clauses they depend on.
-/
import Spydr.IR.Repoint
namespace Spydr.IR

theorem addLibrary_inv (s : S) (n l pos veto) (h : Inv s) : Inv (step s (.addLibrary n l pos veto)).1 := by
  dsimp only [step]; split; · exact h
  next hg =>
  split; · exact h
  exact h.withLibs (h.libs.insert n l pos (Decidable.not_not.mp hg))

theorem removeLibrary_inv (s : S) (n l) (h : Inv s) : Inv (step s (.removeLibrary n l)).1 := by
  dsimp only [step]; split; · exact h
  next hg => exact h.withLibs (h.libs.remove n l (Decidable.not_not.mp hg))

theorem removeLibrariesFrom_inv (s : S) (n ls) (h : Inv s) : Inv (step s (.removeLibrariesFrom n ls)).1 := by
  dsimp only [step]; split; · exact h
  next hg => exact h.withLibs (h.libs.removeMany n ls (of_not_any_ne hg))

theorem setLibraries_inv (s : S) (n ls) (h : Inv s) : Inv (step s (.setLibraries n ls)).1 := by
  dsimp only [step]; split
  next hr => exact h.withLibs (h.libs.reorder n ls hr)
  · exact h

theorem addDefinition_inv (s : S) (l d pos veto) (h : Inv s) : Inv (step s (.addDefinition l d pos veto)).1 := by
  dsimp only [step]; split; · exact h
  next hg =>
  split; · exact h
  exact h.withDefs (h.defs.insert l d pos (Decidable.not_not.mp hg))

theorem removeDefinition_inv (s : S) (l d) (h : Inv s) : Inv (step s (.removeDefinition l d)).1 := by
  dsimp only [step]; split; · exact h
  next hg => exact h.withDefs (h.defs.remove l d (Decidable.not_not.mp hg))

theorem removeDefinitionsFrom_inv (s : S) (l ds) (h : Inv s) : Inv (step s (.removeDefinitionsFrom l ds)).1 := by
  dsimp only [step]; split; · exact h
  next hg => exact h.withDefs (h.defs.removeMany l ds (of_not_any_ne hg))

theorem setDefinitions_inv (s : S) (l ds) (h : Inv s) : Inv (step s (.setDefinitions l ds)).1 := by
  dsimp only [step]; split
  next hr => exact h.withDefs (h.defs.reorder l ds hr)
  · exact h

theorem addCable_inv (s : S) (d c pos veto) (h : Inv s) : Inv (step s (.addCable d c pos veto)).1 := by
  dsimp only [step]; split; · exact h
  next hg =>
  split; · exact h
  exact h.withCables (h.cables.insert d c pos (Decidable.not_not.mp hg))

theorem removeCable_inv (s : S) (d c) (h : Inv s) : Inv (step s (.removeCable d c)).1 := by
  dsimp only [step]; split; · exact h
  next hg => exact h.withCables (h.cables.remove d c (Decidable.not_not.mp hg))

theorem removeCablesFrom_inv (s : S) (d cs) (h : Inv s) : Inv (step s (.removeCablesFrom d cs)).1 := by
  dsimp only [step]; split; · exact h
  next hg => exact h.withCables (h.cables.removeMany d cs (of_not_any_ne hg))

theorem setCables_inv (s : S) (d cs) (h : Inv s) : Inv (step s (.setCables d cs)).1 := by
  dsimp only [step]; split
  next hr => exact h.withCables (h.cables.reorder d cs hr)
  · exact h

theorem addChild_inv (s : S) (d i pos veto) (h : Inv s) : Inv (step s (.addChild d i pos veto)).1 := by
  dsimp only [step]; split; · exact h
  next hg =>
  split; · exact h
  exact h.withChildren (h.children.insert d i pos (Decidable.not_not.mp hg))

theorem removeChild_inv (s : S) (d i) (h : Inv s) : Inv (step s (.removeChild d i)).1 := by
  dsimp only [step]; split; · exact h
  next hg => exact h.withChildren (h.children.remove d i (Decidable.not_not.mp hg))

theorem removeChildrenFrom_inv (s : S) (d is) (h : Inv s) : Inv (step s (.removeChildrenFrom d is)).1 := by
  dsimp only [step]; split; · exact h
  next hg => exact h.withChildren (h.children.removeMany d is (of_not_any_ne hg))

theorem setChildren_inv (s : S) (d is) (h : Inv s) : Inv (step s (.setChildren d is)).1 := by
  dsimp only [step]; split
  next hr => exact h.withChildren (h.children.reorder d is hr)
  · exact h

theorem addWire_inv (s : S) (c w pos) (h : Inv s) : Inv (step s (.addWire c w pos)).1 := by
  dsimp only [step]; split; · exact h
  next hg =>
  exact h.withWires (h.wires.insert c w pos (Decidable.not_not.mp hg))

theorem removeWire_inv (s : S) (c w) (h : Inv s) : Inv (step s (.removeWire c w)).1 := by
  dsimp only [step]; split; · exact h
  next hg => exact h.withWires (h.wires.remove c w (Decidable.not_not.mp hg))

theorem removeWiresFrom_inv (s : S) (c ws) (h : Inv s) : Inv (step s (.removeWiresFrom c ws)).1 := by
  dsimp only [step]; split; · exact h
  next hg => exact h.withWires (h.wires.removeMany c ws (of_not_any_ne hg))

theorem setWires_inv (s : S) (c ws) (h : Inv s) : Inv (step s (.setWires c ws)).1 := by
  dsimp only [step]; split
  next hr => exact h.withWires (h.wires.reorder c ws hr)
  · exact h

theorem setPorts_inv (s : S) (d ps) (h : Inv s) : Inv (step s (.setPorts d ps)).1 := by
  dsimp only [step]; split
  next hr => exact h.withPortList (h.ports.reorder d ps hr)
  · exact h

theorem setPins_inv (s : S) (p qs) (h : Inv s) : Inv (step s (.setPins p qs)).1 := by
  dsimp only [step]; split
  next hr => exact h.withPinList (h.pins.reorder p qs hr)
  · exact h

theorem setTop_inv (s : S) (n i) (h : Inv s) : Inv (step s (.setTop n i)).1 := { h with }

theorem addPort_inv (s : S) (d p pos veto) (h : Inv s) : Inv (step s (.addPort d p pos veto)).1 := by
  dsimp only [step]; split; · exact h
  next hg =>
  split; · exact h
  have c := h.ports.insert d p pos (Decidable.not_not.mp hg)
  have a1 := h.pins_iff; have a2 := h.pins_nd; have a3 := h.mirror; have a4 := h.mirror_nd
  have a5 := h.noref; have a6 := h.ow_owned
-- the port `p` had no definition, so by `mirror` no instance carried a pin of it: appended to the instances of `d`,
-- its pins are exactly what `mirror` now asks for and repeat nothing; `noref` is not touched and the lists only grow
  refine { h with ports_iff := c.iff, ports_nd := c.nd, mirror := ?_, mirror_nd := ?_, noref := ?_,
                  ow_owned := ?_ } <;> clear h c <;> grind [List.nodup_append]

theorem addPin_inv (s : S) (p q pos) (h : Inv s) : Inv (step s (.addPin p q pos)).1 := by
  dsimp only [step]; split; · exact h
  next hg =>
  have c := h.pins.insert p q pos (Decidable.not_not.mp hg)
  have a3 := h.mirror; have a4 := h.mirror_nd; have a5 := h.noref; have a6 := h.ow_owned
-- the pin `q` had no port, so by `mirror` no instance carried it: appended to the instances of the definition of `p`
-- it is exactly what `mirror` now asks for and repeats nothing; `noref` is not touched and the lists only grow
  refine { h with pins_iff := c.iff, pins_nd := c.nd, mirror := ?_, mirror_nd := ?_, noref := ?_,
                  ow_owned := ?_ } <;> clear h c <;> grind [List.nodup_append]

/-! Removing a port purges the outer pins whose instance refers to `d` and whose inner pin belongs to `p`: the
    mirror clauses lose on both sides exactly the pins of `p`. The bulk form and the two pin removals select
    their outer pins the same way. -/

theorem removePort_inv (s : S) (d p) (h : Inv s) : Inv (step s (.removePort d p)).1 := by
  rw [removePort_eq]; split; · exact h
  next hg =>
  refine h.purgeWith (pq := s.pinPort) _ (h.ports.remove d p (Decidable.not_not.mp hg)) h.pins fun i d' hr q => ?_
  have := h.mirror i d' hr q
  grind

theorem removePortsFrom_inv (s : S) (d ps) (h : Inv s) : Inv (step s (.removePortsFrom d ps)).1 := by
  rw [removePortsFrom_eq]; split; · exact h
  next hg =>
  have hp := of_not_any_ne hg
  refine h.purgeWith (pq := s.pinPort) _ (h.ports.removeMany d ps hp) h.pins fun i d' hr q => ?_
  have := h.mirror i d' hr q
  grind [pinIn_some, pinIn_none]

theorem removePin_inv (s : S) (p q) (h : Inv s) : Inv (step s (.removePin p q)).1 := by
  rw [removePin_eq]; split; · exact h
  next hg =>
  refine h.purgeWith (pp := s.portDef) _ h.ports (h.pins.remove p q (Decidable.not_not.mp hg)) fun i d' hr q' => ?_
  have := h.mirror i d' hr q'
  grind

theorem removePinsFrom_inv (s : S) (p qs) (h : Inv s) : Inv (step s (.removePinsFrom p qs)).1 := by
  rw [removePinsFrom_eq]; split; · exact h
  next hg =>
  have hq := of_not_any_ne hg
  refine h.purgeWith (pp := s.portDef) _ h.ports (h.pins.removeMany p qs hq) fun i d' hr q => ?_
  have := h.mirror i d' hr q
  grind

theorem connectInner_inv (s : S) (w q pos) (h : Inv s) : Inv (step s (.connectInner w q pos)).1 := by
  dsimp only [step]; split; · exact h
  next hg =>
  exact h.withConn (pw := fun q' => if q' = q then some w else s.pinWire q') (ow := s.opWire)
    ((h.conn.insert w (.inner q) pos (Decidable.not_not.mp hg)).congr_par fun r => by
      cases r <;> simp [S.refWire]) h.ow_owned

theorem connectOuter_inv (s : S) (w i q pos) (h : Inv s) : Inv (step s (.connectOuter w i q pos)).1 := by
  dsimp only [step]; split; · exact h
  next hq =>
  split; · exact h
  next hg =>
  exact h.withConn (pw := s.pinWire) (ow := fun i' q' => if i' = i ∧ q' = q then some w else s.opWire i' q')
    ((h.conn.insert w (.outer i q) pos (Decidable.not_not.mp hg)).congr_par fun r => by
      cases r <;> simp [S.refWire]) fun i' q' w' e => by
        split at e
        next e' => exact e'.1 ▸ e'.2 ▸ Decidable.not_not.mp hq
        · exact h.ow_owned i' q' w' e

theorem disconnect_inv (s : S) (w r) (h : Inv s) : Inv (step s (.disconnect w r)).1 := by
  cases r with
  | inner q =>
    dsimp only [step]; split; · exact h
    next hg =>
    exact h.withConn (pw := fun q' => if q' = q then none else s.pinWire q') (ow := s.opWire)
      ((h.conn.erase w (.inner q) (Decidable.not_not.mp hg)).congr_par fun r => by
        cases r <;> simp [S.refWire]) h.ow_owned
  | outer i q =>
    dsimp only [step]; split; · exact h
    split; · exact h
    next hg =>
    exact h.withConn (pw := s.pinWire) (ow := fun i' q' => if i' = i ∧ q' = q then none else s.opWire i' q')
      ((h.conn.erase w (.outer i q) (Decidable.not_not.mp hg)).congr_par fun r => by
        cases r <;> simp [S.refWire]) fun i' q' w' e => h.ow_owned i' q' w' (by split at e <;> first | cases e | exact e)

theorem disconnectFrom_inv (s : S) (w rs) (h : Inv s) : Inv (step s (.disconnectFrom w rs)).1 := by
  dsimp only [step]; split; · exact h
  next hg =>
  have hall : ∀ r ∈ rs, s.refWire r = some w := fun r hr => by
    have := fun hb => hg (List.any_eq_true.2 ⟨r, hr, hb⟩)
    cases r with
    | inner q => simpa [S.refWire] using this
    | outer i q => exact (by simpa using this : _ ∧ s.opWire i q = some w).2
  exact h.withConn (pw := fun q => if PinRef.inner q ∈ rs then none else s.pinWire q)
    (ow := fun i q => if PinRef.outer i q ∈ rs then none else s.opWire i q)
    ((h.conn.removeMany w rs hall).congr_par fun r => by cases r <;> rfl) fun i' q' w' e =>
      h.ow_owned i' q' w' (by split at e <;> first | cases e | exact e)

theorem setWirePins_inv (s : S) (w rs) (h : Inv s) : Inv (step s (.setWirePins w rs)).1 := by
  dsimp only [step]; split
  next hr => exact h.withConn (pw := s.pinWire) (ow := s.opWire) (h.conn.reorder w rs hr) h.ow_owned
  · exact h

theorem dropRef_inv (s : S) (i) (h : Inv s) : Inv (s.dropRef i) := by
  rw [dropRef_eq]
  obtain ⟨p1, p2, p3, p4, p5⟩ := h.purge_conn (fun i' _ => decide (i' = i))
  have a4 := h.refs_iff; have a5 := h.mirror; have a7 := h.noref
-- reference and reference set are cleared together; the purge selects every outer pin of `i` (`noref`) and none of
-- another instance (`mirror` unchanged there)
  refine { h with pw_iff := p1, ow_iff := p2, wp_nd := p3, mirror_nd := p4, ow_owned := p5,
                  refs_iff := ?_, mirror := ?_, noref := ?_ } <;> clear h p1 p2 p3 p4 p5 <;> simp only [S.purge] <;>
    grind [List.filter_eq_nil_iff]

theorem firstRef_inv (s : S) (i d') (h : Inv s) (hn : s.instRef i = none) : Inv (s.firstRef i d') := by
  have hm := mem_flat s h d'
  have hf := flat_nodup s h d'
  have a4 := h.refs_iff; have a5 := h.mirror; have a6 := h.mirror_nd; have a7 := h.noref; have a8 := h.ow_owned
  -- `i` carried no outer pin (`noref`), hence had none on a wire (`ow_owned`); it now carries `flat d'`, whose members are
  -- the pins of the ports of `d'` (`mem_flat`), once each (`flat_nodup`); the reference set is rewritten with the reference
  refine { h with refs_iff := ?_, mirror := ?_, mirror_nd := ?_, noref := ?_, ow_owned := ?_ } <;> clear h <;>
    simp only [S.firstRef] <;> grind

theorem repoint_inv (s : S) (i d d' : OId) (h : Inv s) (hi : s.instRef i = some d)
    (hs : s.shape d = s.shape d') : Inv (s.repoint i d d') := by
  have hl := flat_length_of_shape s d d' hs
  have nd := flat_nodup s h d
  have nd' := flat_nodup s h d'
  have hmir : ∀ q, q ∈ s.instPins i ↔ q ∈ s.flat d := fun q => by
    rw [h.mirror i d hi q, mem_flat s h d q]
  apply repointWith_inv s i d d' _ _ _ h hi
  · intro q q'
    exact ⟨lookup_zip_symm _ _ nd nd' q q', lookup_zip_symm _ _ nd' nd q' q⟩
  · intro q hq
    exact lookup_zip_of_mem _ _ hl q ((hmir q).1 hq)
  · intro q'
    constructor
    · intro hq'
      obtain ⟨q, hq⟩ := lookup_zip_of_mem _ _ hl.symm q' hq'
      exact ⟨q, hq, (hmir q).2 (lookup_zip_mem _ _ q' q hq).2⟩
    · rintro ⟨q, hq, _⟩
      exact (lookup_zip_mem _ _ q' q hq).1
  · exact mem_flat s h d'
  · exact nd'

theorem setRef_inv (s : S) (i d) (h : Inv s) : Inv (step s (.setRef i d)).1 := by
  dsimp only [step, S.setRefStep]
  cases d with
  | none => exact dropRef_inv s i h
  | some d' =>
    cases hr : s.instRef i with
    | none => exact firstRef_inv s i d' h hr
    | some d0 =>
      simp only
      split
      · exact h
      · rename_i hs
        exact repoint_inv s i d0 d' h hr (by simpa using hs)

theorem createChild_inv (s : S) (d i ref veto) (h : Inv s) : Inv (step s (.createChild d i ref veto)).1 := by
  dsimp only [step]; split; · exact h
  next hg =>
  split; · exact h
  have ⟨hp, hr⟩ := not_or.mp hg
  have tail : ∀ s1 : S, Inv s1 → s1.instParent i = none → Inv { s1 with
      children := fun d' => if d' = d then s1.children d' ++ [i] else s1.children d'
      instParent := fun i' => if i' = i then some d else s1.instParent i' } :=
    fun s1 h1 hp1 => h1.withChildren (h1.children.insert d i none hp1)
  cases ref with
  | none => exact tail s h (Decidable.not_not.mp hp)
  | some r => exact tail _ (firstRef_inv s i r h (Decidable.not_not.mp hr)) (Decidable.not_not.mp hp)

theorem setTopDef_inv (s : S) (n d t) (h : Inv s) : Inv (step s (.setTopDef n d t)).1 := by
  dsimp only [step]; split; · exact h
  next hg => exact { firstRef_inv s t d h (Decidable.not_not.mp hg) with }

/-- **One step preserves the invariant**, for every operation and every argument (well-chosen or not),
    accepted or refused. -/
theorem step_inv (s : S) (op : Op) (h : Inv s) : Inv (step s op).1 := by
  cases op with
  | addLibrary n l pos veto => exact addLibrary_inv s n l pos veto h
  | removeLibrary n l => exact removeLibrary_inv s n l h
  | removeLibrariesFrom n ls => exact removeLibrariesFrom_inv s n ls h
  | setLibraries n ls => exact setLibraries_inv s n ls h
  | addDefinition l d pos veto => exact addDefinition_inv s l d pos veto h
  | removeDefinition l d => exact removeDefinition_inv s l d h
  | removeDefinitionsFrom l ds => exact removeDefinitionsFrom_inv s l ds h
  | setDefinitions l ds => exact setDefinitions_inv s l ds h
  | addPort d p pos veto => exact addPort_inv s d p pos veto h
  | removePort d p => exact removePort_inv s d p h
  | removePortsFrom d ps => exact removePortsFrom_inv s d ps h
  | setPorts d ps => exact setPorts_inv s d ps h
  | addCable d c pos veto => exact addCable_inv s d c pos veto h
  | removeCable d c => exact removeCable_inv s d c h
  | removeCablesFrom d cs => exact removeCablesFrom_inv s d cs h
  | setCables d cs => exact setCables_inv s d cs h
  | addChild d i pos veto => exact addChild_inv s d i pos veto h
  | removeChild d i => exact removeChild_inv s d i h
  | removeChildrenFrom d is => exact removeChildrenFrom_inv s d is h
  | setChildren d is => exact setChildren_inv s d is h
  | createChild d i ref veto => exact createChild_inv s d i ref veto h
  | addPin p q pos => exact addPin_inv s p q pos h
  | removePin p q => exact removePin_inv s p q h
  | removePinsFrom p qs => exact removePinsFrom_inv s p qs h
  | setPins p qs => exact setPins_inv s p qs h
  | addWire c w pos => exact addWire_inv s c w pos h
  | removeWire c w => exact removeWire_inv s c w h
  | removeWiresFrom c ws => exact removeWiresFrom_inv s c ws h
  | setWires c ws => exact setWires_inv s c ws h
  | connectInner w q pos => exact connectInner_inv s w q pos h
  | connectOuter w i q pos => exact connectOuter_inv s w i q pos h
  | disconnect w r => exact disconnect_inv s w r h
  | disconnectFrom w rs => exact disconnectFrom_inv s w rs h
  | setWirePins w rs => exact setWirePins_inv s w rs h
  | setRef i d => exact setRef_inv s i d h
  | setTop n i => exact setTop_inv s n i h
  | setTopDef n d t => exact setTopDef_inv s n d t h

theorem init_inv : Inv S.init := by
  constructor <;> simp [S.init]

end Spydr.IR
