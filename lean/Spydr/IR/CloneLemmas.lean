import Spydr.IR.Clone
import Spydr.IR.Lemmas
namespace Spydr.IR

theorem mem_shL (l : List OId) (off y : OId) : y ∈ shL off l ↔ off ≤ y ∧ (y - off) ∈ l := by
  simp only [shL, sh, List.mem_map]
  constructor
  · rintro ⟨x, hx, rfl⟩
    refine ⟨Nat.le_add_left _ _, ?_⟩
    rw [Nat.add_sub_cancel]; exact hx
  · rintro ⟨h1, h2⟩; exact ⟨y - off, h2, Nat.sub_add_cancel h1⟩

theorem shO_eq_some (o : Option OId) (off y : OId) : shO off o = some y ↔ off ≤ y ∧ o = some (y - off) := by
  cases o with
  | none => simp [shO]
  | some x =>
    simp only [shO, sh, Option.map_some, Option.some.injEq]
    constructor
    · rintro rfl; exact ⟨Nat.le_add_left _ _, by rw [Nat.add_sub_cancel]⟩
    · rintro ⟨h1, h2⟩; rw [h2]; exact Nat.sub_add_cancel h1

theorem shO_eq_none (o : Option OId) (off : OId) : shO off o = none ↔ o = none := by
  cases o <;> simp [shO]

theorem shL_eq_nil (l : List OId) (off : OId) : shL off l = [] ↔ l = [] := by
  cases l <;> simp [shL]

theorem inner_mem_shPL (l : List PinRef) (off q : OId) :
    PinRef.inner q ∈ shPL off l ↔ off ≤ q ∧ PinRef.inner (q - off) ∈ l := by
  simp only [shPL, List.mem_map]
  constructor
  · rintro ⟨r, hr, he⟩
    cases r with
    | inner q' =>
      simp only [shP, sh, PinRef.inner.injEq] at he; subst he
      exact ⟨Nat.le_add_left _ _, by rw [Nat.add_sub_cancel]; exact hr⟩
    | outer i q' => simp [shP] at he
  · rintro ⟨h1, h2⟩; exact ⟨_, h2, by simp only [shP, sh, PinRef.inner.injEq]; exact Nat.sub_add_cancel h1⟩

theorem outer_mem_shPL (l : List PinRef) (off i q : OId) :
    PinRef.outer i q ∈ shPL off l ↔ off ≤ i ∧ off ≤ q ∧ PinRef.outer (i - off) (q - off) ∈ l := by
  simp only [shPL, List.mem_map]
  constructor
  · rintro ⟨r, hr, he⟩
    cases r with
    | inner q' => simp [shP] at he
    | outer i' q' =>
      simp only [shP, sh, PinRef.outer.injEq] at he; obtain ⟨rfl, rfl⟩ := he
      exact ⟨Nat.le_add_left _ _, Nat.le_add_left _ _, by rw [Nat.add_sub_cancel, Nat.add_sub_cancel]; exact hr⟩
  · rintro ⟨h1, h2, h3⟩
    exact ⟨_, h3, by simp only [shP, sh, PinRef.outer.injEq]; exact ⟨Nat.sub_add_cancel h1, Nat.sub_add_cancel h2⟩⟩

theorem nodup_shL (l : List OId) (off : OId) (h : l.Nodup) : (shL off l).Nodup :=
  List.pairwise_map.2 (h.imp fun hne e => hne (Nat.add_right_cancel e))

theorem shP_inj (off : OId) (a b : PinRef) (h : shP off a = shP off b) : a = b := by
  cases a <;> cases b <;> simp only [shP, sh, PinRef.inner.injEq, PinRef.outer.injEq, reduceCtorEq] at h ⊢
  · exact Nat.add_right_cancel h
  · exact ⟨Nat.add_right_cancel h.1, Nat.add_right_cancel h.2⟩

theorem nodup_shPL (l : List PinRef) (off : OId) (h : l.Nodup) : (shPL off l).Nodup :=
  List.pairwise_map.2 (h.imp fun hne e => hne (shP_inj off _ _ e))

section
variable {off : OId} {g : OId → Option OId} (hb : ∀ x y, g x = some y → x < off ∧ y < off) {x y : OId}
include hb

theorem dbl_eq_some_hi (hy : off ≤ y) :
    (if off ≤ x then shO off (g (x - off)) else g x) = some y ↔ off ≤ x ∧ g (x - off) = some (y - off) := by
  split
  next hx => simp [shO_eq_some, hx, hy]
  next hx => exact ⟨fun h => absurd (hb x y h).2 (Nat.not_lt.mpr hy), fun h => absurd h.1 hx⟩

theorem dbl_eq_some_lo (hy : y < off) :
    (if off ≤ x then shO off (g (x - off)) else g x) = some y ↔ g x = some y := by
  split
  next hx => exact ⟨fun h => absurd ((shO_eq_some _ _ _).1 h).1 (Nat.not_le.mpr hy),
    fun h => absurd (hb x y h).1 (Nat.not_lt.mpr hx)⟩
  · rfl

end

theorem Cont.double {kids : OId → List OId} {par : OId → Option OId} (h : Cont kids par) (off : OId)
    (hb : ∀ x y, par x = some y → x < off ∧ y < off) :
    Cont (fun p => if off ≤ p then shL off (kids (p - off)) else kids p)
      (fun c => if off ≤ c then shO off (par (c - off)) else par c) := by
  refine ⟨fun p c => ?_, fun p => ?_⟩
  · by_cases hp : off ≤ p
    · rw [if_pos hp, mem_shL, dbl_eq_some_hi hb hp, h.iff]
    · rw [if_neg hp, dbl_eq_some_lo hb (Nat.not_le.1 hp), h.iff]
  · split
    · exact nodup_shL _ _ (h.nd _)
    · exact h.nd p

theorem double_inv (s : S) (off : OId) (h : Inv s) (hb : Below s off) : Inv (s.double off) := by
  have c1 := h.libs.double off hb.libNl
  have c2 := h.defs.double off hb.defLib
  have c3 := h.ports.double off hb.portDef
  have c4 := h.cables.double off hb.cableDef
  have c5 := h.children.double off hb.instParent
  have c6 := h.pins.double off hb.pinPort
  have c7 := h.wires.double off hb.wireCable
  have ow : ∀ (i q w : OId), (s.double off).opWire i q = some w ↔ PinRef.outer i q ∈ (s.double off).wirePins w := by
    have a := h.ow_iff
    have b := hb.opWire
    have c := hb.wpO
    clear h hb
    intro i q w
    simp only [S.double]
    grind [shO_eq_some, shO_eq_none, outer_mem_shPL]
  have rf : ∀ (d i : OId), (s.double off).refs d i = true ↔ (s.double off).instRef i = some d := by
    have a := h.refs_iff
    have b := hb.refs
    have c := hb.instRef
    clear ow h hb
    intro d i
    simp only [S.double]
    grind [shO_eq_some, shO_eq_none]
  -- the mirror clause of a twin instance is that of its original with the witness port shifted by `off`; a port
  -- and its definition, or a pin and its port, lie on the same side of `off` (`dbl_eq_some_hi/lo`)
  have mir : ∀ (i d : OId), (s.double off).instRef i = some d → ∀ q, q ∈ (s.double off).instPins i ↔
      ∃ p, (s.double off).portDef p = some d ∧ (s.double off).pinPort q = some p := by
    intro i d hr q
    simp only [S.double] at hr ⊢
    by_cases hd : off ≤ d
    · obtain ⟨hi, hr⟩ := (dbl_eq_some_hi hb.instRef hd).1 hr
      simp only [hi, if_true, mem_shL, h.mirror _ _ hr, dbl_eq_some_hi hb.portDef hd]
      constructor
      · rintro ⟨hq, p, hp, hq'⟩
        exact ⟨p + off, ⟨Nat.le_add_left .., by rwa [Nat.add_sub_cancel]⟩,
          (dbl_eq_some_hi hb.pinPort (Nat.le_add_left ..)).2 ⟨hq, by rwa [Nat.add_sub_cancel]⟩⟩
      · rintro ⟨p, ⟨hp, hp'⟩, hq⟩
        obtain ⟨hq, hq'⟩ := (dbl_eq_some_hi hb.pinPort hp).1 hq
        exact ⟨hq, p - off, hp', hq'⟩
    · have hd := Nat.not_le.1 hd
      have hr := (dbl_eq_some_lo hb.instRef hd).1 hr
      simp only [Nat.not_le.mpr (hb.instRef i d hr).1, if_false, h.mirror i d hr, dbl_eq_some_lo hb.portDef hd]
      refine exists_congr fun p => and_congr_right fun hp => ?_
      rw [dbl_eq_some_lo hb.pinPort (hb.portDef p d hp).1]
  have a1 := h.pw_iff; have a2 := h.wp_nd; have a3 := h.mirror_nd; have a4 := h.noref; have a5 := h.ow_owned
  have b1 := hb.pinWire; have b2 := hb.wpI; have b3 := hb.opWire; have b4 := hb.instRef; have b5 := hb.instPins
  -- the remaining clauses: below `off` they are those of `s`; at and above it they are those of `s` at `x - off`, read through
  -- `mem_shL`, `shO_eq_some`, `inner_mem_shPL`; `Below` says that no entry of `s` reaches `off`, so the two cases do not mix
  refine { libs_iff := c1.iff, libs_nd := c1.nd, defs_iff := c2.iff, defs_nd := c2.nd, ports_iff := c3.iff,
           ports_nd := c3.nd, cables_iff := c4.iff, cables_nd := c4.nd, child_iff := c5.iff, child_nd := c5.nd,
           pins_iff := c6.iff, pins_nd := c6.nd, wires_iff := c7.iff, wires_nd := c7.nd, ow_iff := ow, refs_iff := rf,
           mirror := mir, pw_iff := ?_, wp_nd := ?_, mirror_nd := ?_, noref := ?_, ow_owned := ?_ } <;>
    clear h hb c1 c2 c3 c4 c5 c6 c7 ow rf mir <;> simp only [S.double] <;>
    grind [mem_shL, shO_eq_some, shO_eq_none, shL_eq_nil, inner_mem_shPL, nodup_shL, nodup_shPL]

end Spydr.IR
