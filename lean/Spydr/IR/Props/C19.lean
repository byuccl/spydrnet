/-
  C19 — Listeners are told of every structural change before it happens.
  Model: Spydr/IR/Events.lean (`eventsOf`: what each call announces; `M`/`replayM`: the mirror a passive
  listener maintains from announcements alone).  "Before it takes effect" is an ordering fact inside one
  Python call and is observed by the harness (the listener reads the netlist inside the callback).
-/
import Spydr.IR.EventsLemmas2
import Spydr.IR.Props.C14
namespace Spydr.IR

/-- "No announcement is made for a change that does not then happen": a refused call is silent. -/
theorem refused_silent (s : S) (nI : Nat) (op : Op) (h : (step s op).2 ≠ .ok) : eventsOf s nI op = [] := by
  simp [eventsOf, h]

/-- `create_child` whose add is vetoed by a naming listener: the constructor announcements of the
    half-built instance have been made, nothing else happens -/
def isVetoedCreate : Op → Bool
  | .createChild _ _ _ true => true
  | _ => false

/-- **A listener that merely replays the announcements of a call holds the mirror of the new state.**
    PARTIAL: proved for EVERY call, accepted or refused, single and bulk (with their implied disconnect
    announcements), compound constructors and top-instance wrapping, with one exception: re-pointing an
    instance that already has a reference re-keys outer pins BY POSITION in the port/pin lists, and
    positions/reorders are not announced, so no order-free mirror can reproduce it (recorded as an open finding).
    Full statement:
    `∀ op, Inv s → replayAllM s.abs (eventsOf s nI op) = (step s op).1.abs`. -/
theorem replay_mirror (s : S) (nI : Nat) (op : Op) (h : Inv s) (hnr : isRepoint s op = false) :
    replayAllM s.abs (eventsOf s nI op) = (step s op).1.abs := by
  by_cases hok : (step s op).2 ≠ .ok
  · rw [refused_silent s nI op hok, refused_unchanged s op hok]; rfl
  replace hok := Decidable.not_not.mp hok
  cases op with
  | removeLibrariesFrom n ls => exact mirror_removeLibrariesFrom s nI n ls h
  | removeDefinitionsFrom l ds => exact mirror_removeDefinitionsFrom s nI l ds h
  | addPort d p pos veto => exact mirror_addPort s nI d p pos veto h
  | removePort d p => exact mirror_removePort s nI d p h
  | removePortsFrom d ps => exact mirror_removePortsFrom s nI d ps h
  | removeCablesFrom d cs => exact mirror_removeCablesFrom s nI d cs h
  | removeChildrenFrom d is => exact mirror_removeChildrenFrom s nI d is h
  | createChild d i ref veto =>
    cases veto with
    | false => exact mirror_createChild s nI d i ref h
    | true => revert hok; dsimp only [step]; split <;> simp
  | addPin p q pos => exact mirror_addPin s nI p q pos
  | removePin p q => exact mirror_removePin s nI p q
  | removePinsFrom p qs => exact mirror_removePinsFrom s nI p qs h
  | removeWiresFrom c ws => exact mirror_removeWiresFrom s nI c ws h
  | disconnect w r => exact mirror_disconnect s nI w r
  | disconnectFrom w rs => exact mirror_disconnectFrom s nI w rs h
  | setRef i d =>
    cases d with
    | none => exact mirror_setRef_none s nI i
    | some d' =>
      have : s.instRef i = none := by
        cases e : s.instRef i with
        | none => rfl
        | some x => simp [isRepoint, e] at hnr
      exact mirror_setRef_first s nI i d' h this
  | setTopDef n d t => exact mirror_setTopDef s nI n d t h
  | _ =>
    -- every other call announces exactly the one parent pointer, wire entry or top instance it writes
    -- (a reorder announces nothing and writes none): mirror and new state are the same record
    dsimp only [eventsOf, replayAllM]
    rw [if_neg fun hn => hn hok]
    revert hok
    dsimp only [step]
    repeat' split
    all_goals rintro ⟨⟩ <;> rfl

/-- the same for accepted calls; the last hypothesis excludes the `create_child` whose add a naming listener
    vetoes (it is refused: the half-built instance's constructor announcements were made, nothing else happens) -/
theorem replay_mirror_partial (s : S) (nI : Nat) (op : Op) (h : Inv s) (hok : (step s op).2 = .ok)
    (hnr : isRepoint s op = false) (hveto : isVetoedCreate op = false) :
    replayAllM s.abs (eventsOf s nI op) = (step s op).1.abs :=
  replay_mirror s nI op h hnr

/-- one call on the netlist, and the same call as seen by a listener -/
def mirrorStep (nI : Nat) (sm : S × M) (op : Op) : S × M :=
  ((step sm.1 op).1, replayAllM sm.2 (eventsOf sm.1 nI op))

def Mirrorable (s : S) (op : Op) : Prop :=
  isRepoint s op = false ∧ isVetoedCreate op = false

/-- histories all of whose calls are mirrorable in the state they are made in -/
def MirrorableRun (s : S) : List Op → Prop
  | [] => True
  | op :: ops => Mirrorable s op ∧ MirrorableRun (step s op).1 ops

/-- **Every history (of mirrorable calls), every prefix**: the listener's mirror equals the mirror of the
    netlists, whether calls were accepted or refused (a refused call changes neither). -/
theorem run_mirror_partial (nI : Nat) (ops : List Op) (s : S) (h : Inv s) (hm : MirrorableRun s ops) :
    (ops.foldl (mirrorStep nI) (s, s.abs)).2 = (ops.foldl (mirrorStep nI) (s, s.abs)).1.abs ∧
    (ops.foldl (mirrorStep nI) (s, s.abs)).1 = (run s ops).1 := by
  induction ops generalizing s with
  | nil => exact ⟨rfl, rfl⟩
  | cons op ops ih =>
    simp only [List.foldl, run]
    obtain ⟨⟨hr, hv⟩, hrest⟩ := hm
    have hstep : mirrorStep nI (s, s.abs) op = ((step s op).1, (step s op).1.abs) := by
      simp only [mirrorStep, replay_mirror s nI op h hr]
    rw [hstep]
    exact ih (step s op).1 (step_inv s op h) hrest

/-- "registering or removing listeners never changes what the API does": in the model the state update
    `step` does not take the set of listeners as an argument at all — a passive listener is the identity
    on the netlist; what remains (that the Python code calls listeners without letting them influence the
    mutation, except through a raised veto) is checked by running every history with and without
    listeners and comparing the dumps. The only influence a listener has is a veto, which is the `veto`
    flag of the add operations: -/
theorem listeners_only_veto (s : S) (d p pos) :
    (step s (.addPort d p pos true)).1 = s ∧
    ((step s (.addPort d p pos true)).2 = .value ∨ (step s (.addPort d p pos true)).2 = .assert) := by
  dsimp only [step]; repeat' split
  all_goals simp_all

/-- element data: replaying the announcements of a data call reproduces the dictionaries; a call that
    raises (`del`/`pop` of an absent key) announces nothing and changes nothing. -/
theorem data_mirror (d : D) (op : DOp) :
    (devents d op).foldl dreplay d = (dstep d op).1 ∧
    ((dstep d op).2 = false → devents d op = [] ∧ (dstep d op).1 = d) := by
  cases op <;> simp only [devents, dstep] <;> (try split) <;> simp_all [dreplay]

theorem data_run_mirror (ops : List DOp) (d : D) :
    (ops.foldl (fun (p : D × D) op => ((dstep p.1 op).1, (devents p.1 op).foldl dreplay p.2)) (d, d)).2 =
    (ops.foldl (fun (p : D × D) op => ((dstep p.1 op).1, (devents p.1 op).foldl dreplay p.2)) (d, d)).1 := by
  induction ops generalizing d with
  | nil => rfl
  | cons op ops ih =>
    simp only [List.foldl]
    rw [(data_mirror d op).1]
    exact ih _

/-! Non-vacuity -/
example : MirrorableRun S.init demoOps := by
  simp only [MirrorableRun, Mirrorable, demoOps]
  decide
example : eventsOf (run S.init (demo2.take 14)).1 5 (.removePort 0 0) =
    [.removePort 0 0, .disconnect 0 (.outer 0 0), .disconnect 0 (.outer 0 0)] := by decide

end Spydr.IR
