/-
  C14 — A refused edit changes nothing (structural part: every field of every object, hence containment
  and order, connections, every reference set; the naming tables are treated in Spydr/IR/Names*).
-/
import Spydr.IR.Props.C02
namespace Spydr.IR

/-- A call that raises (precondition failure or a listener's veto) returns the state it was given:
    literal equality of the whole model state. Compound constructors included (`createChild` with a
    vetoed add leaves nothing registered, in particular not in the reference set of `ref`). -/
theorem refused_unchanged (s : S) (op : Op) (h : (step s op).2 ≠ .ok) : (step s op).1 = s := by
  cases op <;> dsimp only [step, S.setRefStep] at h ⊢ <;> grind

/-- Repeating a refused call is refused again, in the same way, and still changes nothing. -/
theorem refused_idempotent (s : S) (op : Op) (h : (step s op).2 ≠ .ok) :
    step (step s op).1 op = step s op := by
  rw [refused_unchanged s op h]

/-- In any history, a refused call can be deleted without affecting any later state:
    it left no trace anywhere. -/
theorem run_refused_prefix (s : S) (op : Op) (ops : List Op) (h : (step s op).2 ≠ .ok) :
    (run s (op :: ops)).1 = (run s ops).1 := by
  simp only [run, refused_unchanged s op h]

/-- exactly the veto flag / the guards decide refusal, e.g. for `add_port` -/
theorem addPort_refused_iff (s : S) (d p pos veto) :
    (step s (.addPort d p pos veto)).2 ≠ .ok ↔ (s.portDef p ≠ none ∨ veto = true) := by
  dsimp only [step]; repeat' split
  all_goals simp_all

/-! Non-vacuity: each refusal class is reachable, from a non-trivial state. -/
example : (step (run S.init demo2).1 (.addPort 1 1 none false)).2 = .assert := by decide   -- port owned elsewhere
example : (step (run S.init demo2).1 (.addPort 1 7 none true)).2 = .value := by decide     -- naming veto
example : (step (run S.init demo2).1 (.setRef 1 (some 2))).2 = .assert := by decide        -- shape mismatch
example : (step (run S.init demo2).1 (.setPorts 2 [1, 1])).2 = .assert := by decide        -- non-permutation
example : (step (run S.init demo2).1 (.connectOuter 0 0 1 none)).2 = .assert := by decide  -- already connected
example : (step (run S.init demo2).1 (.createChild 1 9 (some 0) true)).2 = .value := by decide

end Spydr.IR
