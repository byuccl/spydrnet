/-
  C14, naming half — a call refused by the naming rules (duplicate / illegal name, `.NS` rules) or by a
  KeyError leaves names, identifiers, policies, containment AND the namespace tables (hence every lookup
  answer) exactly as they were.
-/
import Spydr.IR.Props.C10
namespace Spydr.Names

theorem stepCore_same_or_ok (s : N) (op : Op) : (stepCore s op).1 = s ∨ (stepCore s op).2 = .ok := by
  cases op <;> simp only [stepCore, N.setNsCore, or_true] <;> (repeat' split) <;> first | exact .inr rfl | exact .inl rfl

theorem tryAll_refused (s0 s : N) (ops : List Op) (h : (tryAll s0 s ops).2 ≠ .ok) : (tryAll s0 s ops).1 = s0 := by
  induction ops generalizing s with
  | nil => exact absurd rfl h
  | cons op ops ih =>
    simp only [tryAll] at h ⊢
    split
    · rename_i s1 heq
      simp only [heq] at h
      exact ih s1 h
    · rfl

/-- a call refused by the naming rules / `.NS` rules / KeyError — including a compound constructor whose
    add (or whose name / identifier assignment) is refused — leaves the whole naming state as it was:
    nothing of the half-built element remains registered anywhere -/
theorem names_refused_unchanged (s : N) (op : Op) (h : (step s op).2 ≠ .ok) : (step s op).1 = s := by
  unfold step at h ⊢
  split at h
  · exact tryAll_refused s s _ h
  · exact tryAll_refused s s _ h
  · exact (stepCore_same_or_ok s _).resolve_right h

/-- hence the same answers to name lookups -/
theorem names_refused_same_lookups (s : N) (op : Op) (h : (step s op).2 ≠ .ok) (p : El) (kd : Kind) (k : Key) (v : String) :
    (step s op).1.lookup p kd k v = s.lookup p kd k v := by
  rw [names_refused_unchanged s op h]

example : (step (run (N.initWith .edif) demoN).1 (.setKey d0 .ident "1bad")).2 = .value := by decide
example : (step (run (N.initWith .edif) demoN).1 (.attach l0 d0)).2 = .value := by decide
example : (step (run (N.initWith .edif) demoN).1 (.createIn l0 ⟨.definition, 5⟩ (some "n") (some "q"))).2 = .value := by decide
example : (step (run (N.initWith .edif) demoN).1 (.createIn l0 ⟨.definition, 5⟩ (some "m") (some "1x"))).2 = .value := by decide
example : (step (run (N.initWith .edif) demoN).1 (.createIn l0 ⟨.definition, 5⟩ (some "m") (some "q"))).2 = .ok := by decide

end Spydr.Names
