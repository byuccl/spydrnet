/-
  C10 — Sibling names stay unique and exact-name lookup always agrees with a scan.
  Model: Spydr/IR/NamesModel.lean (NamespaceManager + Default/Edif namespace tables, as repaired).
-/
import Spydr.IR.NamesLemmas
namespace Spydr.Names

/-! A property of states that every primitive call keeps is kept by the compound calls (constructors with
    arguments, `clone`), which run primitive calls and fall back to the state before on the first refusal, and
    hence by every history. -/
section
variable {P : N → Prop} (hP : ∀ s op, P s → P (stepCore s op).1)
include hP

theorem tryAll_preserves (s0 s : N) (ops : List Op) (h0 : P s0) (h : P s) : P (tryAll s0 s ops).1 := by
  induction ops generalizing s with
  | nil => exact h
  | cons op ops ih =>
    simp only [tryAll]
    have hs := hP s op h
    split
    · rename_i s1 heq
      rw [heq] at hs
      exact ih s1 hs
    · exact h0

theorem step_preserves (s : N) (op : Op) (h : P s) : P (step s op).1 := by
  unfold step
  split
  · exact tryAll_preserves hP s s _ h h
  · exact tryAll_preserves hP s s _ h h
  · exact hP s _ h

theorem run_preserves (ops : List Op) (s : N) (h : P s) : P (run s ops).1 := by
  induction ops generalizing s with
  | nil => exact h
  | cons op ops ih =>
    simp only [run]
    exact ih _ (step_preserves hP s op h)

end

/-- **One step preserves the index invariant** — every operation, every argument, accepted or refused,
    including the adoption of the parent's policy by a whole subtree on `add` (`apply_namespace` after the
    compliance check), explicit `.NS` assignment / deletion and switching the process-wide policy. -/
theorem stepCore_nsinv (s : N) (op : Op) (h : NsInv s) : NsInv (stepCore s op).1 := by
  cases op with
  | create e => exact create_nsinv s e h
  | attach p c => exact attach_nsinv s p c h
  | detach p c => exact detach_nsinv s p c h
  | setKey e k v => exact setKey_nsinv s e k v h
  | delKey e k => exact delKey_nsinv s e k h
  | popKey e k => exact popKey_nsinv s e k h
  | delNameProp e => exact delNameProp_nsinv s e h
  | setNs e p => exact setNs_nsinv s e p h
  | delNs e => exact delNs_nsinv s e h
  | setDefault p => exact setDefault_nsinv s p h
  | createIn p c n i => exact h
  | clone e off => exact h

theorem step_nsinv (s : N) (op : Op) (h : NsInv s) : NsInv (step s op).1 :=
  step_preserves stepCore_nsinv s op h

/-- **Every history, every prefix, under both policies and across policy switches**: the tables index
    exactly the current children. -/
theorem run_nsinv (ops : List Op) (s : N) (h : NsInv s) : NsInv (run s ops).1 :=
  run_preserves stepCore_nsinv ops s h

theorem run_nsinv_from_init (ops : List Op) : NsInv (run N.init ops).1 := run_nsinv ops _ init_nsinv

/-- the heap in which every object was created under policy `pol` -/
def N.initWith (pol : Policy) : N :=
  { N.init with dflt := pol
                info := fun _ => { name := none, ident := none, ns := some pol }
                tpol := fun _ => pol }

theorem initWith_nsinv (pol : Policy) : NsInv (N.initWith pol) := by
  constructor <;> simp [N.initWith, N.init]

theorem run_nsinv_both_policies (pol : Policy) (ops : List Op) : NsInv (run (N.initWith pol) ops).1 :=
  run_nsinv ops _ (initWith_nsinv pol)

/-- "names remain unique": two children of a managed parent, of the same class, with the same name are
    the same element; under the EDIF class the same for identifiers compared case-insensitively. -/
theorem names_unique (s : N) (h : NsInv s) (p : El) (hp : s.hasTbl p = true) (e e' : El) (x : String)
    (he : s.parent e = some p) (he' : s.parent e' = some p) (hk : e.kind = e'.kind)
    (hx : (s.info e).name = some x) (hx' : (s.info e').name = some x) : e = e' :=
  names_unique' h p hp e e' x he he' hk hx hx'

theorem idents_unique_ci (s : N) (h : NsInv s) (p : El) (hp : s.hasTbl p = true) (hpol : s.tpol p = .edif)
    (e e' : El) (v v' : String) (he : s.parent e = some p) (he' : s.parent e' = some p) (hk : e.kind = e'.kind)
    (hv : (s.info e).ident = some v) (hv' : (s.info e').ident = some v') (hci : lower v = lower v') : e = e' :=
  idents_unique' h p hp hpol e e' (lower v) he he' hk (by simp [hv]) (by simp [hv', hci])

theorem filter_eq_of_index {l : List El} (hnd : l.Nodup) {q : El → Bool} {o : Option El}
    (ho : ∀ a, o = some a ↔ a ∈ l ∧ q a = true) : l.filter q = o.toList := by
  cases o with
  | none =>
    show _ = []
    rw [List.filter_eq_nil_iff]
    exact fun a ha hq => nomatch (ho a).2 ⟨ha, hq⟩
  | some e =>
    obtain ⟨hmem, hq⟩ := (ho e).1 rfl
    have huniq : ∀ a ∈ l, q a = true → a = e := fun a ha hqa => (Option.some.inj ((ho a).2 ⟨ha, hqa⟩)).symm
    clear ho
    induction l with
    | nil => cases hmem
    | cons a t ih =>
      have hnd' := List.nodup_cons.1 hnd
      rw [List.filter_cons]
      by_cases hae : a = e
      · subst hae
        rw [if_pos hq, List.filter_eq_nil_iff.2]
        · rfl
        · intro b hb hqb
          exact hnd'.1 (huniq b (List.mem_cons_of_mem _ hb) hqb ▸ hb)
      · have ha : ¬ q a = true := fun hqa => hae (huniq a (List.mem_cons_self ..) hqa)
        rw [if_neg ha]
        exact ih hnd'.2 ((List.mem_cons.1 hmem).resolve_left (Ne.symm hae))
          (fun b hb => huniq b (List.mem_cons_of_mem _ hb))

/-- "Asking a parent for a child by exact name returns precisely the children a linear scan finds" -/
theorem lookup_eq_scan_name (s : N) (h : NsInv s) (p : El) (kd : Kind) (v : String) :
    s.lookup p kd .name v = s.scanAll p kd .name v := by
  simp only [N.lookup]
  cases hp : s.hasTbl p with
  | false => rfl
  | true =>
    have := filter_eq_of_index (h.kids_nd p) (q := fun c => c.kind = kd && (s.info c).get .name == some v)
      (o := s.names p kd v) (fun a => by simp [h.names_iff p hp, h.kids_iff, Rec.get])
    simp only [if_true, N.scanAll, this]
    cases s.names p kd v <;> rfl

/-- identifiers under the EDIF class: exactly the children whose identifier equals the query ignoring case
    (at most one) are returned; under the DEFAULT class, where identifiers are plain data that may repeat,
    the lookup *is* the scan and returns every match. -/
theorem lookup_eq_scan_ident (s : N) (h : NsInv s) (p : El) (kd : Kind) (v : String) :
    s.lookup p kd .ident v =
      (if s.hasTbl p = true ∧ s.tpol p = .edif then s.scanAllCI p kd v else s.scanAll p kd .ident v) := by
  simp only [N.lookup]
  cases hp : s.hasTbl p with
  | false => simp
  | true =>
    cases hpol : s.tpol p with
    | default => simp
    | edif =>
      have := filter_eq_of_index (h.kids_nd p) (q := fun c => c.kind = kd && ((s.info c).ident).map lower == some (lower v))
        (o := s.idents p kd (lower v)) (fun a => by simp [h.idents_iff p hp hpol, h.kids_iff])
      simp only [if_true, true_and, N.scanAllCI, this]
      cases hn : s.idents p kd (lower v) with
      | some e => rfl
      | none =>
        -- no child has the identifier up to case, so none has it exactly
        rw [hn] at this
        simp only [N.scanAll, Rec.get, Option.toList, List.filter_eq_nil_iff] at this ⊢
        intro a ha hq
        simp only [Bool.and_eq_true, decide_eq_true_eq, beq_iff_eq] at hq
        exact this a ha (by simp [hq.1, hq.2])

/-- the manager's conflict test on a dictionary entry fails iff the entry exists and is another element -/
theorem hit_other_iff {o : Option El} {P : El → Prop} (ho : ∀ a, o = some a ↔ P a) (e : El) :
    (match (motive := Option El → Bool) o with
      | some e' => decide (e' = e)
      | none => true) = false ↔ ∃ a, P a ∧ a ≠ e := by
  cases o with
  | none => simpa using fun a ha => nomatch (ho a).2 ha
  | some b =>
    simp only [decide_eq_false_iff_not]
    exact ⟨fun hne => ⟨b, (ho b).1 rfl, hne⟩, fun ⟨a, ha, hne⟩ => Option.some.inj ((ho a).2 ha) ▸ hne⟩

theorem noConflict_name_false_iff {s : N} (h : NsInv s) {p : El} (ht : s.hasTbl p = true) (e : El) (v : String) :
    s.noConflict p e .name v = false ↔
      ∃ a, (s.parent a = some p ∧ a.kind = e.kind ∧ (s.info a).name = some v) ∧ a ≠ e := by
  simp only [N.noConflict, if_true]
  exact hit_other_iff (h.names_iff p ht e.kind v) e

theorem noConflict_ident_false_iff {s : N} (h : NsInv s) {p : El} (ht : s.hasTbl p = true) (e : El) (v : String) :
    s.noConflict p e .ident v = false ↔ s.tpol p = .edif ∧
      ∃ a, (s.parent a = some p ∧ a.kind = e.kind ∧ ((s.info a).ident).map lower = some (lower v)) ∧ a ≠ e := by
  simp only [N.noConflict, reduceCtorEq, if_false]
  cases hpol : s.tpol p with
  | default => simp
  | edif =>
    simp only [if_true, true_and]
    exact hit_other_iff (h.idents_iff p ht hpol e.kind (lower v)) e

/-- "an edit is refused exactly when it would create a duplicate or an illegal identifier, never because
    of an element that was removed, renamed or un-named earlier": a rename is refused by the naming rules
    iff the identifier is illegal under the element's policy, or a DIFFERENT CURRENT child of the same
    managed parent and class CURRENTLY carries that name (identifier, case-insensitively, under EDIF). -/
theorem rename_refused_iff (s : N) (h : NsInv s) (e : El) (v : String) :
    (step s (.setKey e .name v)).2 = .value ↔
      ∃ p e', s.parent e = some p ∧ s.hasTbl p = true ∧ s.parent e' = some p ∧ e' ≠ e ∧ e'.kind = e.kind ∧
        (s.info e').name = some v := by
  have hok : s.nameOk e .name v = true := by
    simp only [N.nameOk]
    cases (s.info e).ns with
    | none => rfl
    | some p => cases p <;> rfl
  simp only [step, stepCore, hok, Bool.not_true, Bool.false_eq_true, if_false]
  cases hp : s.parent e with
  | none => simp
  | some p =>
    have key : (s.hasTbl p && !s.noConflict p e .name v) = true ↔
        ∃ p' e', some p = some p' ∧ s.hasTbl p' = true ∧ s.parent e' = some p' ∧ e' ≠ e ∧ e'.kind = e.kind ∧
          (s.info e').name = some v := by
      cases ht : s.hasTbl p with
      | false => simp [ht]
      | true =>
        simp only [Bool.true_and, Bool.not_eq_true', noConflict_name_false_iff h ht]
        constructor
        · rintro ⟨a, ⟨h1, h2, h3⟩, hne⟩
          exact ⟨p, a, rfl, ht, h1, hne, h2, h3⟩
        · rintro ⟨p', a, hpp, _, h1, hne, h2, h3⟩
          cases hpp
          exact ⟨a, ⟨h1, h2, h3⟩, hne⟩
    simp only [← key]
    split <;> simp_all

/-- the identifier half of "refused exactly when it would create a duplicate or an illegal identifier":
    setting an identifier is refused iff it is illegal under the element's own EDIF policy, or a DIFFERENT
    CURRENT child of the same EDIF-managed parent and class CURRENTLY carries it up to letter case. -/
theorem ident_refused_iff (s : N) (h : NsInv s) (e : El) (v : String) :
    (step s (.setKey e .ident v)).2 = .value ↔
      ((s.info e).ns = some .edif ∧ checkIdent v = false) ∨
      ∃ p e', s.parent e = some p ∧ s.hasTbl p = true ∧ s.tpol p = .edif ∧ s.parent e' = some p ∧ e' ≠ e ∧
        e'.kind = e.kind ∧ ((s.info e').ident).map lower = some (lower v) := by
  have hleg : s.nameOk e .ident v = false ↔ (s.info e).ns = some .edif ∧ checkIdent v = false := by
    simp only [N.nameOk]
    cases (s.info e).ns with
    | none => simp
    | some q => cases q <;> simp [validName]
  simp only [step, stepCore]
  cases hok : s.nameOk e .ident v with
  | false => simp [hleg.1 hok]
  | true =>
    have hill : ¬ ((s.info e).ns = some .edif ∧ checkIdent v = false) := fun hh => by
      rw [hleg.2 hh] at hok; cases hok
    simp only [Bool.not_true, Bool.false_eq_true, if_false, hill, false_or]
    cases hp : s.parent e with
    | none => simp
    | some p =>
      have key : (s.hasTbl p && !s.noConflict p e .ident v) = true ↔
          ∃ p' e', some p = some p' ∧ s.hasTbl p' = true ∧ s.tpol p' = .edif ∧ s.parent e' = some p' ∧ e' ≠ e ∧
            e'.kind = e.kind ∧ ((s.info e').ident).map lower = some (lower v) := by
        cases ht : s.hasTbl p with
        | false => simp [ht]
        | true =>
          simp only [Bool.true_and, Bool.not_eq_true', noConflict_ident_false_iff h ht]
          constructor
          · rintro ⟨hpol, a, ⟨h1, h2, h3⟩, hne⟩
            exact ⟨p, a, rfl, ht, hpol, h1, hne, h2, h3⟩
          · rintro ⟨p', a, hpp, _, hpol, h1, hne, h2, h3⟩
            cases hpp
            exact ⟨hpol, a, ⟨h1, h2, h3⟩, hne⟩
      simp only [← key]
      split <;> simp_all

/-- what the manager's conflict test says, in terms of the current children (a candidate that is not yet a
    child of `p`): some current child of the same class carries the candidate's name, or — under the EDIF
    class — its identifier up to letter case -/
theorem conflicts_iff (s : N) (h : NsInv s) (p c : El) (hc : s.parent c = none) :
    s.conflicts p c = true ↔ s.hasTbl p = true ∧
      ((∃ v e', (s.info c).name = some v ∧ s.parent e' = some p ∧ e'.kind = c.kind ∧ (s.info e').name = some v) ∨
       (s.tpol p = .edif ∧ ∃ v e', (s.info c).ident = some v ∧ s.parent e' = some p ∧ e'.kind = c.kind ∧
          ((s.info e').ident).map lower = some (lower v))) := by
  -- a child of `p` is not the orphan `c`
  have hne : ∀ a, s.parent a = some p → a ≠ c := fun a ha e => by rw [e, hc] at ha; cases ha
  simp only [N.conflicts, Bool.and_eq_true, Bool.or_eq_true]
  refine and_congr_right fun ht => ?_
  rw [or_comm]
  refine or_congr ?_ ?_
  · cases (s.info c).name with
    | none => simp
    | some v =>
      simp only [Bool.not_eq_true', noConflict_name_false_iff h ht]
      exact ⟨fun ⟨a, ha, _⟩ => ⟨v, a, rfl, ha⟩, fun ⟨_, a, hv, ha⟩ => by cases hv; exact ⟨a, ha, hne a ha.1⟩⟩
  · cases (s.info c).ident with
    | none => simp
    | some v =>
      simp only [Bool.not_eq_true', noConflict_ident_false_iff h ht]
      exact and_congr_right fun _ =>
        ⟨fun ⟨a, ha, _⟩ => ⟨v, a, rfl, ha⟩, fun ⟨_, a, hv, ha⟩ => by cases hv; exact ⟨a, ha, hne a ha.1⟩⟩

/-- **an add is refused by the naming rules exactly when** a current child of that parent and class already
    carries the name (identifier, up to case, under EDIF), or the child's subtree does not comply with the
    policy it would have to adopt (`N.compliant`: an illegal identifier or two children colliding under that
    policy somewhere in the subtree). -/
theorem attach_refused_iff (s : N) (h : NsInv s) (p c : El) :
    (step s (.attach p c)).2 = .value ↔ validParent p.kind c.kind = true ∧ s.parent c = none ∧
      (s.conflicts p c = true ∨
        (s.conflicts p c = false ∧ ∃ pp, (s.info p).ns = some pp ∧ (s.info c).ns ≠ some pp ∧ s.compliant pp c = false)) := by
  simp only [step, stepCore]
  by_cases hv : validParent p.kind c.kind = true
  · by_cases hpc : s.parent c = none
    · simp only [hv, Bool.not_true, Bool.false_eq_true, if_false, hpc, ne_eq, not_true_eq_false, true_and]
      cases hcf : s.conflicts p c with
      | true => simp
      | false =>
        simp only [Bool.false_eq_true, if_false, false_or, true_and]
        cases hns : (s.info p).ns with
        | none =>
          simp only []
          split <;> simp
        | some pp =>
          simp only [N.setNsCore]
          by_cases he : (s.info c).ns = some pp
          · simp [he]
          · by_cases hcm : s.compliant pp c = true
            · simp [he, hcm]
            · have hcm' : s.compliant pp c = false := by simpa using hcm
              simp [he, hcm']
    · have : s.parent c ≠ none := hpc
      simp [hv, this]
  · have : validParent p.kind c.kind = false := by simpa using hv
    simp [this]

/-! Non-vacuity: a history with mixed-case identifiers under EDIF. -/
def l0 : El := ⟨.library, 0⟩
def d0 : El := ⟨.definition, 0⟩
def d1 : El := ⟨.definition, 1⟩
def demoN : List Op :=
  [ .setDefault .default, .create d1, .setDefault .edif, .setKey d0 .ident "Abc", .attach l0 d0, .setKey d1 .ident "aBC", .attach l0 d1, .detach l0 d0, .attach l0 d1,
    .setKey d0 .ident "x-y", .setKey d0 .name "n", .setKey d1 .name "n" ]

example : (run (N.initWith .edif) demoN).2 = [.ok, .ok, .ok, .ok, .ok, .ok, .value, .ok, .ok, .value, .ok, .ok] := by decide
example : NsInv (run (N.initWith .edif) demoN).1 := run_nsinv_both_policies .edif demoN
example : (run (N.initWith .edif) demoN).1.lookup l0 .definition .ident "ABC" = [d1] := by decide

end Spydr.Names

namespace Spydr.Names
/-! Clones (`Op.clone`): the copy of a definition with port "a" is indexed like a hand-built one — a second
    port "a" in the COPY is refused, one in a fresh name is accepted, and the copy's lookups see its own port. -/
def demoClone : List Op :=
  [ .create ⟨.definition, 0⟩, .createIn ⟨.definition, 0⟩ ⟨.port, 0⟩ (some "a") none, .clone ⟨.definition, 0⟩ 5 ]
example : (run N.init demoClone).2 = [.ok, .ok, .ok] := by decide
example : (step (run N.init demoClone).1 (.createIn ⟨.definition, 5⟩ ⟨.port, 9⟩ (some "a") none)).2 = .value := by decide
example : (step (run N.init demoClone).1 (.createIn ⟨.definition, 5⟩ ⟨.port, 9⟩ (some "b") none)).2 = .ok := by decide
example : (run N.init demoClone).1.lookup ⟨.definition, 5⟩ .port .name "a" = [⟨.port, 5⟩] := by decide
example : NsInv (run N.init demoClone).1 := run_nsinv _ _ init_nsinv
end Spydr.Names
