/-
  C07 — Clones are faithful, self-contained and independent of the original (netlist clone).
  Model: `S.double` (Spydr/IR/Clone.lean) — whole-heap duplication; the copy of netlist `n` is `n + off`.
  Library / definition / instance / port / cable / wire / pin clones (`S.cloneElem`) are in Props/C07Elem … C07Bundle.
-/
import Spydr.IR.CloneLemmas
import Spydr.IR.BelowStep
import Spydr.IR.Props.C02
namespace Spydr.IR

/-- **the copy is well-formed**: the C01/C02 invariant holds for the heap that contains both. -/
theorem cloneNetlist_inv (s : S) (off : OId) (h : Inv s) (hb : Below s off) : Inv (s.double off) :=
  double_inv s off h hb

/-- **never modifies the source**: no field of any pre-existing object changes. -/
theorem cloneNetlist_frame (s : S) (off : OId) :
    (∀ x, x < off → (s.double off).libs x = s.libs x ∧ (s.double off).libNl x = s.libNl x ∧
      (s.double off).defs x = s.defs x ∧ (s.double off).defLib x = s.defLib x ∧
      (s.double off).ports x = s.ports x ∧ (s.double off).portDef x = s.portDef x ∧
      (s.double off).cables x = s.cables x ∧ (s.double off).cableDef x = s.cableDef x ∧
      (s.double off).children x = s.children x ∧ (s.double off).instParent x = s.instParent x ∧
      (s.double off).pins x = s.pins x ∧ (s.double off).pinPort x = s.pinPort x ∧
      (s.double off).wires x = s.wires x ∧ (s.double off).wireCable x = s.wireCable x ∧
      (s.double off).wirePins x = s.wirePins x ∧ (s.double off).pinWire x = s.pinWire x ∧
      (s.double off).instRef x = s.instRef x ∧ (s.double off).instPins x = s.instPins x ∧
      (s.double off).top x = s.top x) ∧
    (∀ i q, i < off → q < off → (s.double off).opWire i q = s.opWire i q) ∧
    (∀ d i, d < off → i < off → (s.double off).refs d i = s.refs d i) := by
  refine ⟨fun x hx => ?_, fun i q hi hq => ?_, fun d i hd hi => ?_⟩ <;>
    simp only [S.double, Nat.not_le.mpr, if_false, and_self, or_self, *]

/-- **structurally identical**: every field of the twin `x + off` is the shifted field of `x` — same
    order, same shapes, same connections, same reference sets, same top instance. -/
theorem cloneNetlist_iso (s : S) (off : OId) :
    (∀ x, (s.double off).libs (x + off) = shL off (s.libs x) ∧ (s.double off).libNl (x + off) = shO off (s.libNl x) ∧
      (s.double off).defs (x + off) = shL off (s.defs x) ∧ (s.double off).defLib (x + off) = shO off (s.defLib x) ∧
      (s.double off).ports (x + off) = shL off (s.ports x) ∧ (s.double off).portDef (x + off) = shO off (s.portDef x) ∧
      (s.double off).cables (x + off) = shL off (s.cables x) ∧ (s.double off).cableDef (x + off) = shO off (s.cableDef x) ∧
      (s.double off).children (x + off) = shL off (s.children x) ∧ (s.double off).instParent (x + off) = shO off (s.instParent x) ∧
      (s.double off).pins (x + off) = shL off (s.pins x) ∧ (s.double off).pinPort (x + off) = shO off (s.pinPort x) ∧
      (s.double off).wires (x + off) = shL off (s.wires x) ∧ (s.double off).wireCable (x + off) = shO off (s.wireCable x) ∧
      (s.double off).wirePins (x + off) = shPL off (s.wirePins x) ∧ (s.double off).pinWire (x + off) = shO off (s.pinWire x) ∧
      (s.double off).instRef (x + off) = shO off (s.instRef x) ∧ (s.double off).instPins (x + off) = shL off (s.instPins x) ∧
      (s.double off).top (x + off) = shO off (s.top x)) ∧
    (∀ i q, (s.double off).opWire (i + off) (q + off) = shO off (s.opWire i q)) ∧
    (∀ d i, (s.double off).refs (d + off) (i + off) = s.refs d i) := by
  refine ⟨fun x => ?_, fun i q => ?_, fun d i => ?_⟩ <;>
    simp only [S.double, Nat.le_add_left, Nat.add_sub_cancel, if_true, and_self]

section
variable {off : OId} {R : OId → Prop} {f : OId → List OId} {g : OId → Option OId}

theorem SepL.double (hR : ∀ x y, (off ≤ x ↔ off ≤ y) → (R x ↔ R y)) (hb : ∀ x y, y ∈ f x → x < off ∧ y < off) :
    SepL R (fun x => if off ≤ x then shL off (f (x - off)) else f x) := by
  intro x y hy
  dsimp only at hy
  split at hy
  next hx => exact hR x y (iff_of_true hx ((mem_shL _ _ _).1 hy).1)
  next hx => exact hR x y (iff_of_false hx (Nat.not_le.mpr (hb x y hy).2))

theorem SepO.double (hR : ∀ x y, (off ≤ x ↔ off ≤ y) → (R x ↔ R y)) (hb : ∀ x y, g x = some y → x < off ∧ y < off) :
    SepO R (fun x => if off ≤ x then shO off (g (x - off)) else g x) := by
  intro x y hy
  dsimp only at hy
  split at hy
  next hx => exact hR x y (iff_of_true hx ((shO_eq_some _ _ _).1 hy).1)
  next hx => exact hR x y (iff_of_false hx (Nat.not_le.mpr (hb x y hy).2))

end

/-- After cloning, originals and copies are separated: every pointer of `s.double off` stays on its side of
    `off`, so no pointer crosses the boundary of a region that is one of the two sides. -/
theorem sep_double_of (s : S) (off : OId) (hb : Below s off) (R : OId → Prop)
    (hR : ∀ x y, (off ≤ x ↔ off ≤ y) → (R x ↔ R y)) : Sep (s.double off) R := by
  have b1 := hb.opWire; have b2 := hb.wpI; have b3 := hb.wpO; have b4 := hb.refs
  -- the four two-index fields: an entry of the double is an entry of `s` (both ends below `off`, `Below`) or a shifted one (both
  -- ends from `off` on, `shO_eq_some`, `inner/outer_mem_shPL`), so its ends agree on `off ≤ ·` and `hR` carries that over to `R`
  refine ⟨SepO.double hR hb.libNl, SepO.double hR hb.defLib, SepO.double hR hb.portDef, SepO.double hR hb.cableDef,
    SepO.double hR hb.instParent, SepO.double hR hb.pinPort, SepO.double hR hb.wireCable, SepO.double hR hb.pinWire, ?_,
    SepO.double hR hb.instRef, SepO.double hR hb.top, SepL.double hR hb.libs, SepL.double hR hb.defs,
    SepL.double hR hb.ports, SepL.double hR hb.cables, SepL.double hR hb.children, SepL.double hR hb.pins,
    SepL.double hR hb.wires, SepL.double hR hb.instPins, ?_, ?_, ?_⟩ <;> clear hb <;> simp only [S.double] <;>
    grind [shO_eq_some, inner_mem_shPL, outer_mem_shPL]

theorem sep_double (s : S) (off : OId) (hb : Below s off) : Sep (s.double off) (CopyR off) :=
  sep_double_of s off hb _ fun _ _ e => e

theorem sep_double_orig (s : S) (off : OId) (hb : Below s off) : Sep (s.double off) (OrigR off) :=
  sep_double_of s off hb _ fun _ _ e => by simp only [OrigR, ← Nat.not_le, e]

/-- **shares no element, every link resolves inside the copy**: no pointer crosses between the original
    region (`< off`) and the copy (`≥ off`), for every pointer kind: containment both ways, pin–wire both
    ways, references and reference sets, outer/inner pin pairs, the top instance. -/
theorem cloneNetlist_closed (s : S) (off : OId) (hb : Below s off) :
    let c := s.double off
    (∀ x y, off ≤ x → (y ∈ c.libs x ∨ y ∈ c.defs x ∨ y ∈ c.ports x ∨ y ∈ c.cables x ∨ y ∈ c.children x ∨
        y ∈ c.pins x ∨ y ∈ c.wires x ∨ y ∈ c.instPins x) → off ≤ y) ∧
    (∀ x y, off ≤ x → (c.libNl x = some y ∨ c.defLib x = some y ∨ c.portDef x = some y ∨ c.cableDef x = some y ∨
        c.instParent x = some y ∨ c.pinPort x = some y ∨ c.wireCable x = some y ∨ c.pinWire x = some y ∨
        c.instRef x = some y ∨ c.top x = some y) → off ≤ y) ∧
    (∀ w i q, off ≤ w → PinRef.outer i q ∈ c.wirePins w → off ≤ i ∧ off ≤ q) ∧
    (∀ w q, off ≤ w → PinRef.inner q ∈ c.wirePins w → off ≤ q) ∧
    (∀ i q w, c.opWire i q = some w → (off ≤ i ↔ off ≤ w) ∧ (off ≤ i ↔ off ≤ q)) ∧
    (∀ d i, c.refs d i = true → (off ≤ d ↔ off ≤ i)) := by
  intro c
  have hs := sep_double s off hb
  refine ⟨fun x y hx hy => ?_, fun x y hx hy => ?_, fun w i q hw h => ?_, fun w q hw h => (hs.wpI w q h).1 hw,
    fun i q w h => ?_, fun d i h => hs.refs d i h⟩
  · rcases hy with h | h | h | h | h | h | h | h
    · exact (hs.libs x y h).1 hx
    · exact (hs.defs x y h).1 hx
    · exact (hs.ports x y h).1 hx
    · exact (hs.cables x y h).1 hx
    · exact (hs.children x y h).1 hx
    · exact (hs.pins x y h).1 hx
    · exact (hs.wires x y h).1 hx
    · exact (hs.instPins x y h).1 hx
  · rcases hy with h | h | h | h | h | h | h | h | h | h
    · exact (hs.libNl x y h).1 hx
    · exact (hs.defLib x y h).1 hx
    · exact (hs.portDef x y h).1 hx
    · exact (hs.cableDef x y h).1 hx
    · exact (hs.instParent x y h).1 hx
    · exact (hs.pinPort x y h).1 hx
    · exact (hs.wireCable x y h).1 hx
    · exact (hs.pinWire x y h).1 hx
    · exact (hs.instRef x y h).1 hx
    · exact (hs.top x y h).1 hx
  · exact ⟨(hs.wpO w i q h).1.1 hw, (hs.wpO w i q h).2.1 hw⟩
  · have e := hs.opWire i q w h
    exact ⟨e.1, e.1.trans e.2.symm⟩

/-- `cloneNetlist_frame` in the form the frame theorems compose with -/
theorem outEq_double (s : S) (off : OId) : OutEq (s.double off) s (CopyR off) :=
  have fr := cloneNetlist_frame s off
  ⟨fun x hx => fr.1 x (Nat.not_le.mp hx), fun i q hi hq => fr.2.1 i q (Nat.not_le.mp hi) (Nat.not_le.mp hq),
    fun d i hd hi => fr.2.2 d i (Nat.not_le.mp hd) (Nat.not_le.mp hi)⟩

/-- **Independence (copy → original)**: "later edits or transformations of the clone never show in the
    original" — after ANY history of public calls that mention only objects of the copy (accepted or
    refused, re-pointing and top changes included), every field of every pre-existing object is what it
    was before cloning, and the two regions are still separated (so the statement iterates). -/
theorem clone_edits_invisible_in_original (s : S) (off : OId) (hb : Below s off) (ops : List Op)
    (ho : ∀ op ∈ ops, op.inside (CopyR off)) :
    OutEq (run (s.double off) ops).1 s (CopyR off) ∧ Sep (run (s.double off) ops).1 (CopyR off) := by
  have h := run_sep (CopyR off) ops (s.double off) (sep_double s off hb) ho
  exact ⟨outEq_trans h.2 (outEq_double s off), h.1⟩

/-- the same read off for some of the fields of an original object `x < off` -/
theorem clone_edits_invisible_fields (s : S) (off : OId) (hb : Below s off) (ops : List Op)
    (ho : ∀ op ∈ ops, op.inside (CopyR off)) (x : OId) (hx : x < off) :
    let t := (run (s.double off) ops).1
    t.children x = s.children x ∧ t.wirePins x = s.wirePins x ∧ t.pinWire x = s.pinWire x ∧
    t.instRef x = s.instRef x ∧ t.instPins x = s.instPins x ∧ t.ports x = s.ports x ∧ t.top x = s.top x := by
  have h := (clone_edits_invisible_in_original s off hb ops ho).1.f1 x (Nat.not_le.mpr hx)
  grind

/-- **Independence (original → copy)**: later edits of the original — any history of public calls that
    mention only objects below `off` (the originals and anything new created on their side) — never show
    in the copy: every field of every object of the copy is what it was right after cloning (which by
    `cloneNetlist_iso` is the shifted image of the original AT CLONE TIME), and the regions stay separated. -/
theorem original_edits_invisible_in_clone (s : S) (off : OId) (hb : Below s off) (ops : List Op)
    (ho : ∀ op ∈ ops, op.below off) :
    OutEq (run (s.double off) ops).1 (s.double off) (OrigR off) ∧ Sep (run (s.double off) ops).1 (OrigR off) := by
  have h := run_sep (OrigR off) ops (s.double off) (sep_double_orig s off hb) (fun op hm => (below_inside off op).1 (ho op hm))
  exact ⟨h.2, h.1⟩

/-- read off for some of the fields: the twin `x + off` keeps the shifted fields of `x` as they were when the clone
    was taken -/
theorem original_edits_invisible_fields (s : S) (off : OId) (hb : Below s off) (ops : List Op)
    (ho : ∀ op ∈ ops, op.below off) (x : OId) :
    let t := (run (s.double off) ops).1
    t.children (x + off) = shL off (s.children x) ∧ t.wirePins (x + off) = shPL off (s.wirePins x) ∧
    t.pinWire (x + off) = shO off (s.pinWire x) ∧ t.instRef (x + off) = shO off (s.instRef x) ∧
    t.instPins (x + off) = shL off (s.instPins x) ∧ t.top (x + off) = shO off (s.top x) := by
  have h := (original_edits_invisible_in_clone s off hb ops ho).1.f1 (x + off) (by simp [OrigR])
  have i := (cloneNetlist_iso s off).1 x
  grind

/-- **For every reachable heap**: whatever history of public calls built it (all objects mentioned lying
    below `off`, which is how fresh objects are numbered), cloning gives a heap in which originals and
    copies together are well-formed, and the heap lies below `off`: `Below`, the hypothesis of
    `cloneNetlist_closed` and of the independence theorems, is not an assumption about the heap but a
    consequence of how it was built. -/
theorem cloneNetlist_reachable (ops : List Op) (off : OId) (ho : ∀ op ∈ ops, op.below off) :
    let s := (run S.init ops).1
    Inv (s.double off) ∧ Below s off := by
  have hb := run_below off ops S.init (below_init off) ho
  exact ⟨double_inv _ off (run_inv ops _ init_inv) hb, hb⟩

/-! Non-vacuity: the demo heap of Props/C02 lies below 10, is duplicated, and the copy has the same shape. -/
example : ((run S.init demo2).1.double 10).wirePins 10 = [.outer 10 11] ∧
          ((run S.init demo2).1.double 10).instPins 10 = [11] ∧
          ((run S.init demo2).1.double 10).top 10 = some 12 := by decide

end Spydr.IR
