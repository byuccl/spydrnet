/-
  C07 (second sentence) — element-level clones: library, definition, instance, port, cable, wire, pin.
  Model: `S.cloneElem` (Spydr/IR/CloneElem.lean) = `S.double` followed by a script of public calls.
-/
import Spydr.IR.CloneElem
import Spydr.IR.Props.C07
namespace Spydr.IR

/-- **the result of every element clone is well-formed** (originals, the clone and the shared bookkeeping
    together satisfy the C01/C02 invariant). -/
theorem cloneElem_inv (s : S) (off : OId) (k : CKind) (x : OId) (h : Inv s) (hb : Below s off) :
    Inv (s.cloneElem off k x) :=
  run_inv _ _ (double_inv s off h hb)

theorem mem_shPL_inR (off : OId) (l : List PinRef) : ∀ r ∈ shPL off l, r.inR (CopyR off) := by
  intro r hr
  simp only [shPL, List.mem_map] at hr
  obtain ⟨r0, _, rfl⟩ := hr
  cases r0 <;> simp [shP, sh, PinRef.inR, CopyR]

theorem mem_optOps {α : Type} {o : Option α} {f : α → List Op} {op : Op} :
    op ∈ optOps o f ↔ ∃ a, o = some a ∧ op ∈ f a := by
  cases o <;> simp [optOps]

/-- `script_mem h` turns `h : op ∈ (a part of a clone script)` into the list of calls `op` may be: the scripts
    are built from `++`, `flatMap`, `map`, `filter`, `optOps` and conditionals over one-call lists. -/
macro "script_mem " h:ident : tactic => `(tactic|
  simp only [pruneInside, pruneCross, cutInner, cutWire, mem_optOps, List.mem_append, List.mem_flatMap,
    List.mem_map, List.mem_filter, List.mem_singleton, List.mem_ite_nil_left, List.not_mem_nil] at $h:ident)

theorem pruneInside_inside (s : S) (off : OId) (k : CKind) (x : OId) :
    ∀ op ∈ pruneInside s off k x, op.inside (CopyR off) := by
  intro op hop
  have hsh := mem_shPL_inR off
  cases k <;> script_mem hop <;> grind [Op.inside, PinRef.inR, optIn]

/-- what a cross re-point needs of the heap: outer pins of a copy-side instance sit on copy-side wires -/
def OuterHome (s : S) (R : OId → Prop) : Prop :=
  ∀ w i q, PinRef.outer i q ∈ s.wirePins w → R i → R w

/-- giving a copy-side instance a reference — to ANY definition, shared originals included — changes no
    field of any object outside the copy (only `refs d i` with `i` the copy-side instance moves: the shared
    definition's reference set gains the clone, as documented). -/
theorem setRef_cross (s : S) (R : OId → Prop) (i d' : OId) (hi : R i) (hw : OuterHome s R) :
    OutEq (step s (.setRef i (some d'))).1 s R ∧ OuterHome (step s (.setRef i (some d'))).1 R := by
  dsimp only [step, S.setRefStep]
  cases hr : s.instRef i with
  | none => exact ⟨outEq_firstRef s R i d' hi, hw⟩
  | some d =>
    dsimp only
    split
    · exact ⟨outEq_refl s R, hw⟩
    · refine ⟨outEq_repoint s R i d d' hi fun w q hq => hw w i q hq hi, fun w i' q h hi' => ?_⟩
      obtain ⟨q0, h0, -⟩ := outer_mem_rekey.1 ((repointWith_wirePins ..).symm ▸ h)
      exact hw w i' q0 h0 hi'

theorem pruneCross_shape (s : S) (off : OId) (k : CKind) (x : OId) :
    ∀ op ∈ pruneCross s off k x, ∃ i r, op = .setRef (i + off) (some r) := by
  intro op hop
  cases k <;> script_mem hop <;> grind

theorem run_cross (R : OId → Prop) (ops : List Op) (s : S) (hw : OuterHome s R)
    (ho : ∀ op ∈ ops, ∃ i r, R i ∧ op = .setRef i (some r)) :
    OutEq (run s ops).1 s R :=
  (run_induct (P := fun t => OutEq t s R ∧ OuterHome t R) ops (fun op hop t ht => by
    obtain ⟨i, r, hi, rfl⟩ := ho op hop
    have h1 := setRef_cross t R i r hi ht.2
    exact ⟨outEq_trans h1.1 ht.1, h1.2⟩) ⟨outEq_refl s R, hw⟩).1

/-- **an element clone never modifies the source**: after `x.clone()` — for every element kind — every field
    of every pre-existing object is what it was; the one documented exception is not a field of an
    original-side pair: `refs d i` for the clone-side instance `i` (a shared definition's reference set gains
    the cloned instance), which `OutEq` (both indices outside the copy) deliberately does not constrain. -/
theorem cloneElem_source_untouched (s : S) (off : OId) (k : CKind) (x : OId) (hb : Below s off) :
    OutEq (s.cloneElem off k x) s (CopyR off) := by
  simp only [S.cloneElem, pruneOps, run_append]
  have h1 := run_sep (CopyR off) (pruneInside s off k x) (s.double off) (sep_double s off hb) (pruneInside_inside s off k x)
  have hw : OuterHome (run (s.double off) (pruneInside s off k x)).1 (CopyR off) :=
    fun w i q h hi => (h1.1.wpO w i q h).1.2 hi
  have h2 := run_cross (CopyR off) (pruneCross s off k x) _ hw (by
    intro op hop
    obtain ⟨i, r, rfl⟩ := pruneCross_shape s off k x op hop
    exact ⟨i + off, r, by simp [CopyR], rfl⟩)
  exact outEq_trans h2 (outEq_trans h1.2 (outEq_double s off))

/-- and the bookkeeping it does change is consistent: in the result an instance is in a definition's
    reference set iff it references it — for clones and shared originals alike (from `cloneElem_inv`). -/
theorem cloneElem_reference_sets (s : S) (off : OId) (k : CKind) (x : OId) (h : Inv s) (hb : Below s off) (d i : OId) :
    (s.cloneElem off k x).refs d i = true ↔ (s.cloneElem off k x).instRef i = some d :=
  (cloneElem_inv s off k x h hb).refs_iff d i

/-! Non-vacuity: in the demo heap of Props/C02 (everything below 10) clone the instance, the definition
    and a port; the clone of instance 0 is 10, detached, with the same (original) reference and pins. -/
example : let t := (run S.init demo2).1.cloneElem 10 .«instance» 0
          t.instParent 10 = none ∧ t.instRef 10 = (run S.init demo2).1.instRef 0 ∧
          t.instPins 10 = (run S.init demo2).1.instPins 0 ∧
          ((run S.init demo2).1.cloneElemRes 10 .«instance» 0).all (· == .ok) := by decide

end Spydr.IR
