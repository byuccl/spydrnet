/-
  C07 — "Clone will orphan each element that has a parent": the root of every element clone has no parent.
-/
import Spydr.IR.Props.C07Struct
namespace Spydr.IR

structure ParEq (a b : S) : Prop where
  libNl : a.libNl = b.libNl
  defLib : a.defLib = b.defLib
  portDef : a.portDef = b.portDef
  cableDef : a.cableDef = b.cableDef
  instParent : a.instParent = b.instParent
  pinPort : a.pinPort = b.pinPort
  wireCable : a.wireCable = b.wireCable

theorem parEq_refl (s : S) : ParEq s s := ⟨rfl, rfl, rfl, rfl, rfl, rfl, rfl⟩

theorem parEq_trans {a b c : S} (h1 : ParEq a b) (h2 : ParEq b c) : ParEq a c :=
  ⟨h1.libNl.trans h2.libNl, h1.defLib.trans h2.defLib, h1.portDef.trans h2.portDef, h1.cableDef.trans h2.cableDef,
   h1.instParent.trans h2.instParent, h1.pinPort.trans h2.pinPort, h1.wireCable.trans h2.wireCable⟩

def Op.keepsParents : Op → Prop
  | .setRef _ _ => True
  | .disconnect _ _ => True
  | .disconnectFrom _ _ => True
  | _ => False

theorem step_parEq (s : S) (op : Op) (h : op.keepsParents) : ParEq (step s op).1 s := by
  cases op <;> try exact h.elim
  all_goals dsimp only [step, S.setRefStep]; repeat' split
  all_goals exact ⟨rfl, rfl, rfl, rfl, rfl, rfl, rfl⟩

theorem run_parEq (ops : List Op) (s : S) (h : ∀ op ∈ ops, op.keepsParents) : ParEq (run s ops).1 s :=
  run_induct (P := (ParEq · s)) ops (fun op ho t ht => parEq_trans (step_parEq t op (h op ho)) ht) (parEq_refl s)

@[simp] theorem optOps_none {α : Type} (f : α → List Op) : optOps (none : Option α) f = [] := rfl
@[simp] theorem optOps_some {α : Type} (a : α) (f : α → List Op) : optOps (some a) f = f a := rfl

/-- The shape of every element-clone script, seen from the parent pointer `par` of the root `y` of the copy:
    calls that keep the parent pointers, then — if the original has a parent `d` — the one call `rm` that takes
    `y` out of the twin of `d`, then again calls that keep the parent pointers. -/
theorem run_detach {par : S → OId → Option OId} (hpar : ∀ {a b}, ParEq a b → par a = par b) (rm : OId → Op) {y : OId}
    (hrm : ∀ t d, par t y = some d → par (step t (rm d)).1 y = none) {A B : List Op}
    (hA : ∀ o ∈ A, o.keepsParents) (hB : ∀ o ∈ B, o.keepsParents) (t : S) (off : OId) (o : Option OId)
    (ht : par t y = shO off o) :
    par (run t (A ++ optOps o (fun d => [rm (d + off)]) ++ B)).1 y = none := by
  rw [run_append, run_append, hpar (run_parEq B _ hB)]
  have hA' : par (run t A).1 y = shO off o := (congrFun (hpar (run_parEq A t hA)) y).trans ht
  cases o with
  | none => exact hA'
  | some d => exact hrm _ _ hA'

/-- **the clone is an orphan**: whatever the element kind, the root of the copy has no parent. -/
theorem cloneElem_detached (s : S) (off : OId) (k : CKind) (x : OId) :
    match k with
    | .netlist => True
    | .library => (s.cloneElem off k x).libNl (x + off) = none
    | .definition => (s.cloneElem off k x).defLib (x + off) = none
    | .«instance» => (s.cloneElem off k x).instParent (x + off) = none
    | .port => (s.cloneElem off k x).portDef (x + off) = none
    | .cable => (s.cloneElem off k x).cableDef (x + off) = none
    | .wire => (s.cloneElem off k x).wireCable (x + off) = none
    | .pin => (s.cloneElem off k x).pinPort (x + off) = none := by
  have hB : ∀ o ∈ pruneCross s off k x, o.keepsParents := fun o ho => by
    obtain ⟨i, r, rfl⟩ := pruneCross_shape s off k x o ho
    trivial
  obtain ⟨-, hlibNl, -, hdefLib, -, hportDef, -, hcableDef, -, hinstParent, -, hpinPort, -, hwireCable, -⟩ :=
    (cloneNetlist_iso s off).1 x
  cases k
  case netlist => trivial
  case' library =>
    refine run_detach ParEq.libNl (.removeLibrary · (x + off)) (fun t d h => by simp [step, h]) ?_ hB _ off _ hlibNl
  case' definition =>
    refine run_detach ParEq.defLib (.removeDefinition · (x + off)) (fun t d h => by simp [step, h]) ?_ hB _ off _ hdefLib
  case' «instance» =>
    refine run_detach ParEq.instParent (.removeChild · (x + off)) (fun t d h => by simp [step, h]) ?_ hB _ off _ hinstParent
  case' port =>
    refine run_detach ParEq.portDef (.removePort · (x + off)) (fun t d h => by simp [step, h]) ?_ hB _ off _ hportDef
  case' cable =>
    refine run_detach ParEq.cableDef (.removeCable · (x + off)) (fun t d h => by simp [step, h]) ?_ hB _ off _ hcableDef
  case' wire =>
    refine run_detach ParEq.wireCable (.removeWire · (x + off)) (fun t d h => by simp [step, h]) ?_ hB _ off _ hwireCable
  case' pin =>
    refine run_detach ParEq.pinPort (.removePin · (x + off)) (fun t d h => by simp [step, h]) ?_ hB _ off _ hpinPort
  -- before the removal the script only clears references and takes pins off wires
  all_goals intro o ho; script_mem ho; grind [Op.keepsParents]

end Spydr.IR
