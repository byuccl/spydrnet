/-
  C10 — the manager's table bookkeeping (`hasTbl`, `tpol`: which parents have a table, of which class) is a
  function of the observable `.NS` value of the parent: a container has a table exactly while it carries a
  policy, and the table is of that policy's class.  With this the uniqueness theorems of Props/C10
  are stated without the two bookkeeping fields (`*_observable`).
-/
import Spydr.IR.Props.C10
namespace Spydr.Names

structure NsTbl (s : N) : Prop where
  tbl_ns : ∀ p, s.hasTbl p = (isContainer p.kind && ((s.info p).ns).isSome)
  tpol_ns : ∀ p pol, (s.info p).ns = some pol → s.tpol p = pol

theorem init_nstbl : NsTbl N.init := by
  constructor <;> simp [N.init]

theorem initWith_nstbl (pol : Policy) : NsTbl (N.initWith pol) := by
  constructor <;> simp [N.initWith, N.init]

/-- the bookkeeping invariant only reads `.NS`, `hasTbl` and `tpol` -/
theorem NsTbl.of_eq {s s' : N} (h : NsTbl s) (h1 : s'.hasTbl = s.hasTbl) (h2 : s'.tpol = s.tpol)
    (h3 : ∀ x, (s'.info x).ns = (s.info x).ns) : NsTbl s' :=
  ⟨fun p => by rw [h1, h3, h.tbl_ns], fun p pol => by rw [h2, h3]; exact h.tpol_ns p pol⟩

theorem applyNs_nstbl (s : N) (pol : Policy) (e : El) (h : NsTbl s) : NsTbl (s.applyNs pol e) := by
  obtain ⟨h1, h2⟩ := h
  constructor
  · intro p; simp only [N.applyNs]; split <;> simp [h1]
  · intro p q; simp only [N.applyNs]; split
    · intro hq; simpa using hq
    · exact h2 p q

theorem dropNs_nstbl (s : N) (e : El) (h : NsTbl s) : NsTbl (s.dropNs e) := by
  obtain ⟨h1, h2⟩ := h
  constructor
  · intro p; simp only [N.dropNs]; split <;> simp [h1]
  · intro p q; simp only [N.dropNs]; split
    · intro hq; simp at hq
    · exact h2 p q

theorem setNsCore_nstbl (s : N) (e : El) (pol : Policy) (h : NsTbl s) : NsTbl (s.setNsCore e pol).1 :=
  ite_fst h (ite_fst h (applyNs_nstbl s pol e h))

theorem set_ns (r : Rec) (k : Key) (v : Option String) : (r.set k v).ns = r.ns := by
  cases k <;> rfl

theorem removeKey_nstbl (s : N) (e : El) (k : Key) (h : NsTbl s) : NsTbl (s.removeKey e k) := by
  refine h.of_eq ?_ ?_ fun x => ?_ <;> simp only [N.removeKey] <;> cases s.parent e <;> try rfl
  all_goals simp only []; split <;> simp only [set_ns, N.tblRemove]

theorem stepCore_nstbl (s : N) (op : Op) (h : NsTbl s) : NsTbl (stepCore s op).1 := by
  cases op with
  | create e =>
    refine ite_fst h ?_
    obtain ⟨h1, h2⟩ := h
    constructor
    · intro p; by_cases hp : p = e
      · subst hp; simp
      · simp [hp, h1]
    · intro p q; by_cases hp : p = e
      · subst hp; simp
      · simp [hp]; exact h2 p q
  | attach p c =>
    refine ite_fst h (ite_fst h (ite_fst h ?_))
    -- the child adopts / drops the policy, then registration
    have hreg : ∀ t : N, NsTbl t → NsTbl (t.register p c) := fun t ht => by
      rw [register_eq]; exact ht.of_eq rfl rfl fun _ => rfl
    cases (s.info p).ns with
    | some pp => exact ite_fst h (hreg _ (setNsCore_nstbl s c pp h))
    | none =>
      simp only []
      split
      · exact ite_fst h (hreg _ (dropNs_nstbl s c h))
      · exact ite_fst h (hreg _ h)
  | detach p c => exact ite_fst h (h.of_eq rfl rfl fun _ => rfl)
  | setKey e k v =>
    refine ite_fst h ?_
    cases s.parent e with
    | none => exact h.of_eq rfl rfl fun x => by simp only []; split <;> simp only [set_ns]
    | some p => exact ite_fst h (h.of_eq rfl rfl fun x => by simp only [N.tblUpdate]; split <;> simp only [set_ns])
  | delKey e k => exact ite_fst h (removeKey_nstbl s e k h)
  | popKey e k => exact ite_fst h (removeKey_nstbl s e k h)
  | delNameProp e => exact ite_fst h (removeKey_nstbl s e .name h)
  | setNs e p => exact ite_fst h (ite_fst h (setNsCore_nstbl s e p h))
  | delNs e => exact ite_fst h (ite_fst h (dropNs_nstbl s e h))
  | setDefault p => exact h.of_eq rfl rfl fun _ => rfl
  | createIn p c n i => exact h
  | clone e off => exact h

theorem step_nstbl (s : N) (op : Op) (h : NsTbl s) : NsTbl (step s op).1 :=
  step_preserves stepCore_nstbl s op h

theorem run_nstbl (ops : List Op) (s : N) (h : NsTbl s) : NsTbl (run s ops).1 :=
  run_preserves stepCore_nstbl ops s h

theorem NsTbl.hasTbl {s : N} (ht : NsTbl s) {p : El} (hk : isContainer p.kind = true) (hns : (s.info p).ns ≠ none) :
    s.hasTbl p = true := by
  rw [ht.tbl_ns p, hk]
  cases h : (s.info p).ns with
  | none => exact absurd h hns
  | some q => rfl

/-- **"names remain unique" in observable terms**: after ANY history (both initial policies), in every
    container that carries a naming policy no two children of the same class have the same name. -/
theorem names_unique_observable (pol : Policy) (ops : List Op) (p : El) (hk : isContainer p.kind = true)
    (hns : ((run (N.initWith pol) ops).1.info p).ns ≠ none) (kd : Kind) (x : String) (e1 e2 : El)
    (h1 : (run (N.initWith pol) ops).1.parent e1 = some p ∧ e1.kind = kd ∧ ((run (N.initWith pol) ops).1.info e1).name = some x)
    (h2 : (run (N.initWith pol) ops).1.parent e2 = some p ∧ e2.kind = kd ∧ ((run (N.initWith pol) ops).1.info e2).name = some x) :
    e1 = e2 :=
  names_unique' (run_nsinv_both_policies pol ops) p ((run_nstbl ops _ (initWith_nstbl pol)).hasTbl hk hns)
    e1 e2 x h1.1 h2.1 (h1.2.1.trans h2.2.1.symm) h1.2.2 h2.2.2

/-- **identifiers, case-insensitively, under the EDIF policy** in observable terms. -/
theorem idents_unique_ci_observable (pol : Policy) (ops : List Op) (p : El) (hk : isContainer p.kind = true)
    (hns : ((run (N.initWith pol) ops).1.info p).ns = some .edif) (kd : Kind) (y : String) (e1 e2 : El)
    (h1 : (run (N.initWith pol) ops).1.parent e1 = some p ∧ e1.kind = kd ∧ (((run (N.initWith pol) ops).1.info e1).ident).map lower = some y)
    (h2 : (run (N.initWith pol) ops).1.parent e2 = some p ∧ e2.kind = kd ∧ (((run (N.initWith pol) ops).1.info e2).ident).map lower = some y) :
    e1 = e2 :=
  have ht := run_nstbl ops _ (initWith_nstbl pol)
  idents_unique' (run_nsinv_both_policies pol ops) p (ht.hasTbl hk (by rw [hns]; nofun)) (ht.tpol_ns p .edif hns)
    e1 e2 y h1.1 h2.1 (h1.2.1.trans h2.2.1.symm) h1.2.2 h2.2.2

end Spydr.Names
