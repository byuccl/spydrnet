/-
  C07 — the documented contracts of the clones below a definition: `Port.clone()` ("cloned with all of its pins …
  not connected to any wires"), `Cable.clone()` ("the cable and all wires will be cloned. They will be
  disconnected from all pins") and, as the one-element cases, `InnerPin.clone()` and `Wire.clone()`.
-/
import Spydr.IR.Props.C07Inst
namespace Spydr.IR

def cutInnerOps (off : OId) (W : OId → Option OId) (qs : List OId) : List Op :=
  qs.flatMap (fun q => optOps (W q) fun w => [Op.disconnect (w + off) (.inner (q + off))])

theorem cutInner_fold (off : OId) (W : OId → Option OId) (qs : List OId) (hnd : qs.Nodup) (t : S)
    (hW : ∀ q ∈ qs, t.pinWire (q + off) = shO off (W q)) :
    (run t (cutInnerOps off W qs)).1.pins = t.pins ∧ (run t (cutInnerOps off W qs)).1.portDef = t.portDef ∧
    (∀ q ∈ qs, (run t (cutInnerOps off W qs)).1.pinWire (q + off) = none) := by
  obtain ⟨⟨_, _, _, e⟩, h2, -⟩ := cut_fold off (fun q => .inner (q + off))
    (fun a b e => Nat.add_right_cancel (PinRef.inner.inj e)) W qs hnd t (fun q _ i q' e => nomatch e) hW
  refine ⟨?_, ?_, h2⟩ <;> rw [show cutInnerOps off W qs = cutOps off (fun q => .inner (q + off)) W qs from rfl, e]

/-- **`Port.clone()` as documented**: all pins, in order, none of them on a wire. -/
theorem clonePort_contract (s : S) (off p : OId) (h : Inv s) :
    let t := s.cloneElem off .port p
    t.pins (p + off) = shL off (s.pins p) ∧ ∀ q ∈ s.pins p, t.pinWire (q + off) = none := by
  have hdP : (s.double off).pins (p + off) = shL off (s.pins p) := by simp [S.double]
  obtain ⟨h1, -, h3⟩ := cutInner_fold off s.pinWire (s.pins p) (h.pins_nd p) (s.double off)
    (fun q _ => by simp [S.double])
  have hrm : ∀ (t : S) (d : OId), (step t (.removePort d (p + off))).1.pins = t.pins ∧
      (step t (.removePort d (p + off))).1.pinWire = t.pinWire := by
    intro t d; dsimp only [step]; split <;> exact ⟨rfl, rfl⟩
  simp only [S.cloneElem, pruneOps, pruneInside, pruneCross, List.append_nil]
  cases s.portDef p <;> simp only [optOps_none, optOps_some, List.append_nil, run_append, run, hrm] <;>
    exact ⟨(congrFun h1 _).trans hdP, h3⟩

def cutWireOps (s : S) (off : OId) (ws : List OId) : List Op := ws.flatMap (cutWire s off)

/-- what the bulk disconnects rely on, for the wires still to be processed -/
structure Pending (s : S) (off : OId) (t : S) (ws : List OId) : Prop where
  wp : ∀ w ∈ ws, t.wirePins (w + off) = shPL off (s.wirePins w)
  pw : ∀ w ∈ ws, ∀ q, PinRef.inner q ∈ s.wirePins w → t.pinWire (q + off) = some (w + off)
  ow : ∀ w ∈ ws, ∀ i q, PinRef.outer i q ∈ s.wirePins w → t.opWire (i + off) (q + off) = some (w + off) ∧ (q + off) ∈ t.instPins (i + off)

theorem Pending.tail {s : S} {off : OId} {t : S} {w : OId} {ws : List OId} (hp : Pending s off t (w :: ws)) :
    Pending s off t ws :=
  ⟨fun x hx => hp.wp x (List.mem_cons_of_mem _ hx), fun x hx => hp.pw x (List.mem_cons_of_mem _ hx),
    fun x hx => hp.ow x (List.mem_cons_of_mem _ hx)⟩

theorem cutWire_fold (s : S) (h : Inv s) (off : OId) (ws : List OId) (hnd : ws.Nodup) (t : S) (hp : Pending s off t ws) :
    (run t (cutWireOps s off ws)).1.wires = t.wires ∧ (run t (cutWireOps s off ws)).1.cableDef = t.cableDef ∧
    (∀ w ∈ ws, (run t (cutWireOps s off ws)).1.wirePins (w + off) = []) := by
  induction ws generalizing t with
  | nil => exact ⟨rfl, rfl, nofun⟩
  | cons w ws ih =>
    obtain ⟨hnw, hnd'⟩ := List.nodup_cons.1 hnd
    have hw := hp.wp w List.mem_cons_self
    -- the heap after the call for `w`, if there is one: `w` is empty and the other wires are still as `Pending` says
    obtain ⟨t1, hrun, h1, h2, h3, hp1⟩ : ∃ t1, (run t (cutWireOps s off (w :: ws))).1 = (run t1 (cutWireOps s off ws)).1 ∧
        t1.wires = t.wires ∧ t1.cableDef = t.cableDef ∧ t1.wirePins (w + off) = [] ∧ Pending s off t1 ws := by
      by_cases he : s.wirePins w = []
      · exact ⟨t, by simp [cutWireOps, cutWire, he], rfl, rfl, by rw [hw, he]; rfl, hp.tail⟩
      · refine ⟨(step t (.disconnectFrom (w + off) (shPL off (s.wirePins w)))).1, by simp [cutWireOps, cutWire, he, run], ?_⟩
        -- the call is accepted: every pin it lists reports the twin wire
        have hacc : ¬ ((shPL off (s.wirePins w)).any (fun r => match r with
            | .inner q => decide (t.pinWire q ≠ some (w + off))
            | .outer i q => decide (q ∉ t.instPins i ∨ t.opWire i q ≠ some (w + off))) = true) := by
          simp only [List.any_eq_true, shPL, List.mem_map, not_exists, not_and]
          rintro _ ⟨r0, hr0, rfl⟩
          cases r0 with
          | inner q => simp [shP, sh, hp.pw w List.mem_cons_self q hr0]
          | outer i q => simp [shP, sh, hp.ow w List.mem_cons_self i q hr0]
        dsimp only [step]
        split
        next hb => exact absurd hb hacc
        refine ⟨rfl, rfl, ?_, fun x hx => ?_, fun x hx q hq => ?_, fun x hx i q hq => ?_⟩
        · simp [hw]
        · have : x + off ≠ w + off := fun e => hnw (Nat.add_right_cancel e ▸ hx)
          simp only [this, if_false]
          exact hp.wp x (List.mem_cons_of_mem _ hx)
        -- a pin of another wire `x` is not on `w` (`Inv s`: a pin reports one wire), so it is not disconnected
        · have hnot : PinRef.inner (q + off) ∉ shPL off (s.wirePins w) := fun hm => by
            have := ((inner_mem_shPL _ _ _).1 hm).2
            rw [Nat.add_sub_cancel] at this
            exact hnw (h.conn.unique hq this ▸ hx)
          simp only [hnot, if_false]
          exact hp.pw x (List.mem_cons_of_mem _ hx) q hq
        · have hnot : PinRef.outer (i + off) (q + off) ∉ shPL off (s.wirePins w) := fun hm => by
            have := ((outer_mem_shPL _ _ _ _).1 hm).2.2
            rw [Nat.add_sub_cancel, Nat.add_sub_cancel] at this
            exact hnw (h.conn.unique hq this ▸ hx)
          simp only [hnot, if_false]
          exact hp.ow x (List.mem_cons_of_mem _ hx) i q hq
    rw [hrun]
    obtain ⟨i1, i2, i3⟩ := ih hnd' t1 hp1
    refine ⟨i1.trans h1, i2.trans h2, fun x hx => ?_⟩
    rcases List.mem_cons.1 hx with rfl | hx
    · refine run_induct (P := fun t => t.wirePins (x + off) = []) _ (fun o ho t ht => ?_) h3
      simp only [cutWireOps, cutWire, List.mem_flatMap, List.mem_ite_nil_left, List.mem_singleton] at ho
      obtain ⟨_, _, _, rfl⟩ := ho
      dsimp only [step]
      repeat' split
      all_goals simp [ht]
    · exact i3 x hx

theorem pending_double (s : S) (h : Inv s) (off : OId) (ws : List OId) : Pending s off (s.double off) ws := by
  refine ⟨fun w _ => by simp [S.double], fun w _ q hq => ?_, fun w _ i q hq => ?_⟩
  · simp [S.double, (h.pw_iff q w).2 hq, shO, sh]
  · have hw := (h.ow_iff i q w).2 hq
    simp [S.double, hw, shO, sh, mem_shL, h.ow_owned i q w hw]

/-- **`Cable.clone()` as documented**: all wires, in order, none of them holding a pin. -/
theorem cloneCable_contract (s : S) (off c : OId) (h : Inv s) :
    let t := s.cloneElem off .cable c
    t.wires (c + off) = shL off (s.wires c) ∧ ∀ w ∈ s.wires c, t.wirePins (w + off) = [] := by
  have hdW : (s.double off).wires (c + off) = shL off (s.wires c) := by simp [S.double]
  obtain ⟨h1, -, h3⟩ := cutWire_fold s h off (s.wires c) (h.wires_nd c) _ (pending_double s h off _)
  have hrm : ∀ (t : S) (d : OId), (step t (.removeCable d (c + off))).1.wires = t.wires ∧
      (step t (.removeCable d (c + off))).1.wirePins = t.wirePins := by
    intro t d; dsimp only [step]; split <;> exact ⟨rfl, rfl⟩
  simp only [S.cloneElem, pruneOps, pruneInside, pruneCross, List.append_nil]
  cases s.cableDef c <;> simp only [optOps_none, optOps_some, List.append_nil, run_append, run, hrm] <;>
    exact ⟨(congrFun h1 _).trans hdW, h3⟩

/-! ### pins and wires: "Pins and wires will be cloned but disconnected from all other pins and wires." -/

/-- `InnerPin.clone()`: the copy is on no wire (and, `cloneElem_detached`, in no port). -/
theorem clonePin_unwired (s : S) (off q : OId) : (s.cloneElem off .pin q).pinWire (q + off) = none := by
  have h3 := (cutInner_fold off s.pinWire [q] (List.pairwise_singleton _ q) (s.double off)
    (fun q _ => by simp [S.double])).2.2 q (List.mem_singleton_self q)
  have hrm : ∀ (t : S) (p : OId), (step t (.removePin p (q + off))).1.pinWire = t.pinWire := by
    intro t p; dsimp only [step]; split <;> rfl
  simp only [cutInnerOps, List.flatMap_cons, List.flatMap_nil, List.append_nil] at h3
  simp only [S.cloneElem, pruneOps, pruneInside, pruneCross, List.append_nil, cutInner]
  cases s.pinPort q <;> simp only [optOps_none, optOps_some, List.append_nil, run_append, run, hrm] <;> exact h3

/-- `Wire.clone()`: the copy lists no pin (and, `cloneElem_detached`, belongs to no cable). -/
theorem cloneWire_unwired (s : S) (off w : OId) (h : Inv s) : (s.cloneElem off .wire w).wirePins (w + off) = [] := by
  have h3 := (cutWire_fold s h off [w] (List.pairwise_singleton _ w) _ (pending_double s h off _)).2.2 w
    (List.mem_singleton_self w)
  have hrm : ∀ (t : S) (c : OId), (step t (.removeWire c (w + off))).1.wirePins = t.wirePins := by
    intro t c; dsimp only [step]; split <;> rfl
  simp only [cutWireOps, List.flatMap_cons, List.flatMap_nil, List.append_nil] at h3
  simp only [S.cloneElem, pruneOps, pruneInside, pruneCross, List.append_nil]
  cases s.wireCable w <;> simp only [optOps_none, optOps_some, List.append_nil, run_append, run, hrm] <;> exact h3

end Spydr.IR
