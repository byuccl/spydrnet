/-
  C02 — Instances mirror their definition: reference sets and outer pins track all edits.
  The invariant is the same `Inv` as C01 (one invariant, so the two cannot drift apart);
  `step_inv` / `run_inv` (Props/C01, StepInv) carry it through every history.
-/
import Spydr.IR.Props.C01
namespace Spydr.IR

/-- "an instance that references a definition is a member of that definition's reference set and of
    no other" -/
theorem c02_reference_sets (s : S) (h : Inv s) :
    (∀ d i, s.refs d i = true ↔ s.instRef i = some d) ∧
    (∀ d d' i, s.refs d i = true → s.refs d' i = true → d = d') := by
  refine ⟨h.refs_iff, ?_⟩
  intro d d' i a b
  have a' := (h.refs_iff d i).1 a
  have b' := (h.refs_iff d' i).1 b
  rw [a'] at b'; exact Option.some.inj b'

/-- "carries exactly one outer pin for every inner pin the definition currently has" -/
theorem c02_outer_pins_mirror (s : S) (h : Inv s) :
    (∀ i d, s.instRef i = some d → ∀ q, q ∈ s.instPins i ↔ q ∈ s.flat d) ∧
    (∀ i, (s.instPins i).Nodup) ∧
    (∀ i, s.instRef i = none → s.instPins i = []) := by
  refine ⟨?_, h.mirror_nd, h.noref⟩
  intro i d hr q
  rw [h.mirror i d hr q, mem_flat s h d q]

/-- "Outer pins that disappear because their inner pin, port or reference went away are first taken off
    their wire": after ANY call, an outer pin the instance no longer carries is on no wire and reports
    no wire. -/
theorem c02_dropped_pin_not_on_wire (s : S) (op : Op) (h : Inv s) (i q : OId)
    (hgone : q ∉ (step s op).1.instPins i) :
    (∀ w, PinRef.outer i q ∉ (step s op).1.wirePins w) ∧ (step s op).1.opWire i q = none := by
  have h' := step_inv s op h
  constructor
  · intro w hw
    exact hgone (h'.ow_owned i q w ((h'.ow_iff i q w).2 hw))
  · cases e : (step s op).1.opWire i q with
    | none => rfl
    | some w => exact absurd (h'.ow_owned i q w e) hgone

/-- re-pointing is refused exactly on a shape mismatch (port count / per-position pin counts) -/
theorem repoint_refused_iff_shape_mismatch (s : S) (i d d' : OId) (hi : s.instRef i = some d) :
    ((step s (.setRef i (some d'))).2 = .assert ↔ s.shape d ≠ s.shape d') ∧
    ((step s (.setRef i (some d'))).2 = .ok ↔ s.shape d = s.shape d') := by
  by_cases hs : s.shape d = s.shape d' <;> simp [step, S.setRefStep, hi, hs]

/-- "the corresponding pin" is positional: the inner pin at position `k` of `d` (ports in order, bits in
    order) corresponds to the inner pin at position `k` of `d'`. -/
theorem partner_positional (s : S) (h : Inv s) (d d' : OId) (k : Nat) (q q' : OId)
    (hq : (s.flat d)[k]? = some q) (hq' : (s.flat d')[k]? = some q') : s.partner d d' q = some q' :=
  lookup_zip_getElem _ _ (flat_nodup s h d) k q q' hq hq'

/-- under equal shapes EVERY outer pin of the instance has a corresponding pin, so
    `repoint_keeps_connections` applies to every connection of the instance. -/
theorem partner_total (s : S) (h : Inv s) (i d d' q : OId) (hi : s.instRef i = some d)
    (hs : s.shape d = s.shape d') (hq : q ∈ s.instPins i) : ∃ q', s.partner d d' q = some q' :=
  lookup_zip_of_mem _ _ (flat_length_of_shape s d d' hs) q ((mem_flat s h d q).2 ((h.mirror i d hi q).1 hq))

/-- "re-pointing an instance to a shape-compatible definition keeps every connection on the
    corresponding pin": the outer pin for the positional partner `q'` of `q` is on exactly the wire
    the outer pin for `q` was on (and the call is accepted). -/
theorem repoint_keeps_connections (s : S) (h : Inv s) (i d d' q q' : OId)
    (hi : s.instRef i = some d) (hs : s.shape d = s.shape d') (hp : s.partner d d' q = some q') :
    (step s (.setRef i (some d'))).2 = .ok ∧
    (step s (.setRef i (some d'))).1.opWire i q' = s.opWire i q ∧
    (∀ w, PinRef.outer i q ∈ s.wirePins w → PinRef.outer i q' ∈ (step s (.setRef i (some d'))).1.wirePins w) := by
  have hback : s.partner d' d q' = some q :=
    lookup_zip_symm _ _ (flat_nodup s h d) (flat_nodup s h d') q q' hp
  have hstep : step s (.setRef i (some d')) = (s.repoint i d d', .ok) := by
    simp [step, S.setRefStep, hi, hs]
  rw [hstep]
  refine ⟨rfl, ?_, ?_⟩
  · simp [S.repoint, S.repointWith, hback]
  · intro w hw
    simp only [S.repoint, S.repointWith, List.mem_map]
    exact ⟨_, hw, by simp [hp]⟩

/-- re-pointing keeps EVERY connection of the instance -/
theorem repoint_keeps_all_connections (s : S) (h : Inv s) (i d d' : OId)
    (hi : s.instRef i = some d) (hs : s.shape d = s.shape d') :
    (step s (.setRef i (some d'))).2 = .ok ∧
    ∀ q ∈ s.instPins i, ∃ q', s.partner d d' q = some q' ∧
      (step s (.setRef i (some d'))).1.opWire i q' = s.opWire i q ∧
      (∀ w, PinRef.outer i q ∈ s.wirePins w → PinRef.outer i q' ∈ (step s (.setRef i (some d'))).1.wirePins w) := by
  refine ⟨(repoint_refused_iff_shape_mismatch s i d d' hi).2.2 hs, fun q hq => ?_⟩
  obtain ⟨q', hp⟩ := partner_total s h i d d' q hi hs hq
  exact ⟨q', hp, (repoint_keeps_connections s h i d d' q q' hi hs hp).2⟩

/-- `top_instance := definition` creates one fresh instance in the definition's reference set with a
    full pin set, and makes it the top. -/
theorem top_wrap (s : S) (n d t : OId) (hfresh : s.instRef t = none) :
    let s' := (step s (.setTopDef n d t)).1
    (step s (.setTopDef n d t)).2 = .ok ∧ s'.top n = some t ∧ s'.instRef t = some d ∧
    s'.refs d t = true ∧ s'.instPins t = s.flat d := by
  simp [step, hfresh, S.firstRef]

/-! Non-vacuity: three instances (two children, one top) of one definition; a port is added and removed
    while they exist; one is re-pointed. -/
def demo2 : List Op :=
  [ .addLibrary 0 0 none false, .addDefinition 0 0 none false, .addDefinition 0 1 none false, .addDefinition 0 2 none false,
    .createChild 1 0 (some 0) false, .createChild 1 1 (some 0) false, .setTopDef 0 0 2,
    .addPort 0 0 none false, .addPin 0 0 none, .addPort 2 1 none false, .addPin 1 1 none,
    .addCable 1 0 none false, .addWire 0 0 none, .connectOuter 0 0 0 none,
    .setRef 0 (some 2), .removePort 0 0 ]

example : (run S.init demo2).2 = List.replicate 16 .ok := by decide
example : (run S.init demo2).1.wirePins 0 = [.outer 0 1] ∧ (run S.init demo2).1.instPins 1 = [] ∧
          (run S.init demo2).1.instPins 0 = [1] := by decide
example : (S.partner (run S.init (demo2.take 14)).1 0 2 0) = some 1 := by decide

end Spydr.IR
