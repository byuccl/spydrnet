/-
  C01 — IR ownership and pin–wire links stay mutually consistent under any edit history.
  `step_inv` (StepInv.lean) is the work; here it is carried along histories and read off clause by clause.
-/
import Spydr.IR.StepInv
namespace Spydr.IR

theorem c01_init : Inv S.init := init_inv

/-- **every history, every prefix**: after any finite sequence of public editing calls (accepted or
    refused, any arguments, any number of netlists — they share the heap), the invariant holds.
    Quantifying over all op lists covers every prefix; the `take k` form says so explicitly. -/
theorem run_inv (ops : List Op) (s : S) (h : Inv s) : Inv (run s ops).1 :=
  run_induct ops (fun op _ t ht => step_inv t op ht) h

theorem run_inv_every_prefix (ops : List Op) (k : Nat) : Inv (run S.init (ops.take k)).1 :=
  run_inv _ _ init_inv

/-- "every container lists exactly the elements that name it as their parent, once each" -/
theorem c01_containment (s : S) (h : Inv s) :
    (∀ n l, l ∈ s.libs n ↔ s.libNl l = some n) ∧ (∀ n, (s.libs n).Nodup) ∧
    (∀ l d, d ∈ s.defs l ↔ s.defLib d = some l) ∧ (∀ l, (s.defs l).Nodup) ∧
    (∀ d p, p ∈ s.ports d ↔ s.portDef p = some d) ∧ (∀ d, (s.ports d).Nodup) ∧
    (∀ d c, c ∈ s.cables d ↔ s.cableDef c = some d) ∧ (∀ d, (s.cables d).Nodup) ∧
    (∀ d i, i ∈ s.children d ↔ s.instParent i = some d) ∧ (∀ d, (s.children d).Nodup) ∧
    (∀ p q, q ∈ s.pins p ↔ s.pinPort q = some p) ∧ (∀ p, (s.pins p).Nodup) ∧
    (∀ c w, w ∈ s.wires c ↔ s.wireCable w = some c) ∧ (∀ c, (s.wires c).Nodup) :=
  ⟨h.libs_iff, h.libs_nd, h.defs_iff, h.defs_nd, h.ports_iff, h.ports_nd, h.cables_iff, h.cables_nd,
   h.child_iff, h.child_nd, h.pins_iff, h.pins_nd, h.wires_iff, h.wires_nd⟩

/-- "removed elements report no parent": an element listed by no container has no parent
    (stated for each of the seven containments). -/
theorem c01_removed_reports_no_parent (s : S) (h : Inv s) :
    (∀ l, (∀ n, l ∉ s.libs n) → s.libNl l = none) ∧
    (∀ d, (∀ l, d ∉ s.defs l) → s.defLib d = none) ∧
    (∀ p, (∀ d, p ∉ s.ports d) → s.portDef p = none) ∧
    (∀ c, (∀ d, c ∉ s.cables d) → s.cableDef c = none) ∧
    (∀ i, (∀ d, i ∉ s.children d) → s.instParent i = none) ∧
    (∀ q, (∀ p, q ∉ s.pins p) → s.pinPort q = none) ∧
    (∀ w, (∀ c, w ∉ s.wires c) → s.wireCable w = none) :=
  ⟨h.libs.par_none, h.defs.par_none, h.ports.par_none, h.cables.par_none, h.children.par_none, h.pins.par_none,
    h.wires.par_none⟩

/-- "every pin reports exactly the one wire whose pin list contains it (once), while a wire lists
    only pins that report it" — for inner pins and for the outer pins instances carry. -/
theorem c01_pin_wire (s : S) (h : Inv s) :
    (∀ q w, s.pinWire q = some w ↔ PinRef.inner q ∈ s.wirePins w) ∧
    (∀ i q w, s.opWire i q = some w ↔ PinRef.outer i q ∈ s.wirePins w) ∧
    (∀ w, (s.wirePins w).Nodup) ∧
    -- at most one wire lists a given pin
    (∀ r w w', r ∈ s.wirePins w → r ∈ s.wirePins w' → w = w') :=
  ⟨h.pw_iff, h.ow_iff, h.wp_nd, fun _ _ _ hw hw' => h.conn.unique hw hw'⟩

/-- A reorder setter is one conditional: with `cur` the stored list (`get` reads it), an accepted call stores a
    permutation of `cur` (no duplicates on either side, same members) and a refused one changes nothing. -/
theorem reorder_setter {α} [DecidableEq α] (l cur : List α) (hnd : cur.Nodup) (s s' : S) (get : S → List α)
    (h1 : get s' = l) (h2 : get s = cur) :
    let r := if isReorder l cur = true then (s', Res.ok) else (s, Res.assert)
    (r.2 = .ok → (get r.1).Perm (get s)) ∧ (r.2 ≠ .ok → r.1 = s) := by
  intro r
  by_cases hr : isReorder l cur = true
  · have hm := (isReorder_iff l cur).1 hr
    simp [r, hr, h1, h2, (List.perm_ext_iff_of_nodup hm.1 hnd).2 hm.2]
  · simp [r, hr]

/-- "Reorder assignments only ever permute the existing members": after an accepted call of one of the eight
    reorder setters the stored list is a permutation of the old one, and a refused call leaves the heap alone. -/
theorem reorder_perm (s : S) (h : Inv s) :
    (∀ n ls, ((step s (.setLibraries n ls)).2 = .ok → ((step s (.setLibraries n ls)).1.libs n).Perm (s.libs n)) ∧
             ((step s (.setLibraries n ls)).2 ≠ .ok → (step s (.setLibraries n ls)).1 = s)) ∧
    (∀ l ds, ((step s (.setDefinitions l ds)).2 = .ok → ((step s (.setDefinitions l ds)).1.defs l).Perm (s.defs l)) ∧
             ((step s (.setDefinitions l ds)).2 ≠ .ok → (step s (.setDefinitions l ds)).1 = s)) ∧
    (∀ d ps, ((step s (.setPorts d ps)).2 = .ok → ((step s (.setPorts d ps)).1.ports d).Perm (s.ports d)) ∧
             ((step s (.setPorts d ps)).2 ≠ .ok → (step s (.setPorts d ps)).1 = s)) ∧
    (∀ d cs, ((step s (.setCables d cs)).2 = .ok → ((step s (.setCables d cs)).1.cables d).Perm (s.cables d)) ∧
             ((step s (.setCables d cs)).2 ≠ .ok → (step s (.setCables d cs)).1 = s)) ∧
    (∀ d is, ((step s (.setChildren d is)).2 = .ok → ((step s (.setChildren d is)).1.children d).Perm (s.children d)) ∧
             ((step s (.setChildren d is)).2 ≠ .ok → (step s (.setChildren d is)).1 = s)) ∧
    (∀ p qs, ((step s (.setPins p qs)).2 = .ok → ((step s (.setPins p qs)).1.pins p).Perm (s.pins p)) ∧
             ((step s (.setPins p qs)).2 ≠ .ok → (step s (.setPins p qs)).1 = s)) ∧
    (∀ c ws, ((step s (.setWires c ws)).2 = .ok → ((step s (.setWires c ws)).1.wires c).Perm (s.wires c)) ∧
             ((step s (.setWires c ws)).2 ≠ .ok → (step s (.setWires c ws)).1 = s)) ∧
    (∀ w rs, ((step s (.setWirePins w rs)).2 = .ok → ((step s (.setWirePins w rs)).1.wirePins w).Perm (s.wirePins w)) ∧
             ((step s (.setWirePins w rs)).2 ≠ .ok → (step s (.setWirePins w rs)).1 = s)) := by
  exact ⟨fun n ls => (reorder_setter ls _ (h.libs_nd n) s _ (·.libs n) (if_pos rfl) rfl),
    fun l ds => (reorder_setter ds _ (h.defs_nd l) s _ (·.defs l) (if_pos rfl) rfl),
    fun d ps => (reorder_setter ps _ (h.ports_nd d) s _ (·.ports d) (if_pos rfl) rfl),
    fun d cs => (reorder_setter cs _ (h.cables_nd d) s _ (·.cables d) (if_pos rfl) rfl),
    fun d is => (reorder_setter is _ (h.child_nd d) s _ (·.children d) (if_pos rfl) rfl),
    fun p qs => (reorder_setter qs _ (h.pins_nd p) s _ (·.pins p) (if_pos rfl) rfl),
    fun c ws => (reorder_setter ws _ (h.wires_nd c) s _ (·.wires c) (if_pos rfl) rfl),
    fun w rs => (reorder_setter rs _ (h.wp_nd w) s _ (·.wirePins w) (if_pos rfl) rfl)⟩

/-- each reorder setter is accepted exactly when the new list is a duplicate-free rearrangement of the current
    members, and then stores exactly the list it was given. -/
theorem reorder_accepted_iff (s : S) :
    (∀ n ls, ((step s (.setLibraries n ls)).2 = .ok ↔ isReorder ls (s.libs n) = true) ∧
             ((step s (.setLibraries n ls)).2 = .ok → (step s (.setLibraries n ls)).1.libs n = ls)) ∧
    (∀ l ds, ((step s (.setDefinitions l ds)).2 = .ok ↔ isReorder ds (s.defs l) = true) ∧
             ((step s (.setDefinitions l ds)).2 = .ok → (step s (.setDefinitions l ds)).1.defs l = ds)) ∧
    (∀ d ps, ((step s (.setPorts d ps)).2 = .ok ↔ isReorder ps (s.ports d) = true) ∧
             ((step s (.setPorts d ps)).2 = .ok → (step s (.setPorts d ps)).1.ports d = ps)) ∧
    (∀ d cs, ((step s (.setCables d cs)).2 = .ok ↔ isReorder cs (s.cables d) = true) ∧
             ((step s (.setCables d cs)).2 = .ok → (step s (.setCables d cs)).1.cables d = cs)) ∧
    (∀ d is, ((step s (.setChildren d is)).2 = .ok ↔ isReorder is (s.children d) = true) ∧
             ((step s (.setChildren d is)).2 = .ok → (step s (.setChildren d is)).1.children d = is)) ∧
    (∀ p qs, ((step s (.setPins p qs)).2 = .ok ↔ isReorder qs (s.pins p) = true) ∧
             ((step s (.setPins p qs)).2 = .ok → (step s (.setPins p qs)).1.pins p = qs)) ∧
    (∀ c ws, ((step s (.setWires c ws)).2 = .ok ↔ isReorder ws (s.wires c) = true) ∧
             ((step s (.setWires c ws)).2 = .ok → (step s (.setWires c ws)).1.wires c = ws)) ∧
    (∀ w rs, ((step s (.setWirePins w rs)).2 = .ok ↔ isReorder rs (s.wirePins w) = true) ∧
             ((step s (.setWirePins w rs)).2 = .ok → (step s (.setWirePins w rs)).1.wirePins w = rs)) := by
  refine ⟨?_, ?_, ?_, ?_, ?_, ?_, ?_, ?_⟩ <;> intro x l <;> dsimp only [step] <;> split <;> simp_all

/-! Non-vacuity: a concrete history over two netlists, with a connection made through an outer pin,
    reaches a state where the invariant's premises are all inhabited. -/
def demoOps : List Op :=
  [ .addLibrary 0 0 none false, .addDefinition 0 0 none false, .addDefinition 0 1 none false,
    .addPort 0 0 none false, .addPin 0 0 none, .addPin 0 1 none,
    .createChild 1 0 (some 0) false, .addCable 1 0 none false, .addWire 0 0 none,
    .connectOuter 0 0 1 none, .connectInner 0 0 none,
    .addLibrary 1 1 none false, .setTopDef 1 1 1, .removePin 0 1, .setPins 0 [0] ]

example : (run S.init demoOps).2 = List.replicate 15 .ok := by decide
example : ((run S.init demoOps).1.wirePins 0) = [.inner 0] ∧ ((run S.init demoOps).1.instPins 0) = [0] := by decide
example : Inv (run S.init demoOps).1 := run_inv _ _ init_inv

end Spydr.IR
