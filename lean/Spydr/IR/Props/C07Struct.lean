/-
  C07 — "same internal structure" for library / definition / instance clones: the script that cuts the clone
  loose and re-points shared references never touches the containment fields or the inner pin–wire links, so
  inside the clone they are the shifted originals (cloneNetlist_iso).
-/
import Spydr.IR.Props.C07Elem
namespace Spydr.IR

/-- the fields that make up the internal structure of a definition (and of everything below it) -/
structure StructEq (a b : S) : Prop where
  ports : a.ports = b.ports
  pins : a.pins = b.pins
  cables : a.cables = b.cables
  wires : a.wires = b.wires
  children : a.children = b.children
  pinWire : a.pinWire = b.pinWire
  pinPort : a.pinPort = b.pinPort
  portDef : a.portDef = b.portDef
  cableDef : a.cableDef = b.cableDef
  wireCable : a.wireCable = b.wireCable

theorem structEq_refl (s : S) : StructEq s s := ⟨rfl, rfl, rfl, rfl, rfl, rfl, rfl, rfl, rfl, rfl⟩

theorem structEq_trans {a b c : S} (h1 : StructEq a b) (h2 : StructEq b c) : StructEq a c :=
  ⟨h1.ports.trans h2.ports, h1.pins.trans h2.pins, h1.cables.trans h2.cables, h1.wires.trans h2.wires,
   h1.children.trans h2.children, h1.pinWire.trans h2.pinWire, h1.pinPort.trans h2.pinPort,
   h1.portDef.trans h2.portDef, h1.cableDef.trans h2.cableDef, h1.wireCable.trans h2.wireCable⟩

/-- the calls the library / definition / instance clone scripts consist of, besides `removeChild` -/
def Op.keepsStructure : Op → Prop
  | .setRef _ _ => True
  | .removeDefinition _ _ => True
  | .removeLibrary _ _ => True
  | _ => False

theorem step_structEq (s : S) (op : Op) (h : op.keepsStructure) : StructEq (step s op).1 s := by
  cases op <;> try exact h.elim
  all_goals dsimp only [step, S.setRefStep]; repeat' split
  all_goals exact ⟨rfl, rfl, rfl, rfl, rfl, rfl, rfl, rfl, rfl, rfl⟩

theorem run_structEq (ops : List Op) (s : S) (h : ∀ op ∈ ops, op.keepsStructure) : StructEq (run s ops).1 s :=
  run_induct (P := (StructEq · s)) ops (fun op ho t ht => structEq_trans (step_structEq t op (h op ho)) ht)
    (structEq_refl s)

/-- **a cloned definition, library or netlist (self-contained or not) has the same internal structure**: ports, their pins, cables, their
    wires, child instances — same members, same order — and every inner pin sits on the copy of the wire its
    original sits on; all resolved inside the copy (twin of `x` is `x + off`). -/
theorem cloneElem_same_structure (s : S) (off : OId) (k : CKind) (e : OId) (hk : k = .definition ∨ k = .library ∨ k = .netlist) (x : OId) :
    let t := s.cloneElem off k e
    t.ports (x + off) = shL off (s.ports x) ∧ t.pins (x + off) = shL off (s.pins x) ∧
    t.cables (x + off) = shL off (s.cables x) ∧ t.wires (x + off) = shL off (s.wires x) ∧
    t.children (x + off) = shL off (s.children x) ∧ t.pinWire (x + off) = shO off (s.pinWire x) ∧
    t.pinPort (x + off) = shO off (s.pinPort x) ∧ t.portDef (x + off) = shO off (s.portDef x) ∧
    t.cableDef (x + off) = shO off (s.cableDef x) ∧ t.wireCable (x + off) = shO off (s.wireCable x) := by
  have h := run_structEq (pruneOps s off k e) (s.double off) fun op hop => by
    rcases List.mem_append.1 hop with hop | hop
    · rcases hk with rfl | rfl | rfl <;> script_mem hop <;> grind [Op.keepsStructure]
    · obtain ⟨i, r, rfl⟩ := pruneCross_shape s off k e op hop
      trivial
  have i := (cloneNetlist_iso s off).1 x
  simp only [S.cloneElem, h.ports, h.pins, h.cables, h.wires, h.children, h.pinWire, h.pinPort, h.portDef, h.cableDef,
    h.wireCable, i, and_self]

end Spydr.IR
