/-
  Bulk removals: the announcements are those of the single removals of the listed members, one after the
  other; replayed, they give the closed form in which the model writes the bulk call.
-/
import Spydr.IR.EventsLemmas
namespace Spydr.IR

theorem replayAllM_append (m : M) (a b : List Event) : replayAllM m (a ++ b) = replayAllM (replayAllM m a) b := by
  simp [replayAllM, List.foldl_append]

theorem replayAllM_cons (m : M) (e : Event) (es : List Event) : replayAllM m (e :: es) = replayAllM (replayM m e) es :=
  rfl

theorem mem_filter_mem {α} [DecidableEq α] {L xs : List α} (hall : ∀ x ∈ xs, x ∈ L) (x : α) :
    x ∈ L.filter (fun x => decide (x ∈ xs)) ↔ x ∈ xs := by
  simp only [List.mem_filter, decide_eq_true_eq]
  exact ⟨And.right, fun h => ⟨hall x h, h⟩⟩

/-- Removal announcements that each clear one entry of one parent-pointer field (`get`/`set`), replayed for
    the listed members of a container, clear the entries of all listed elements. -/
theorem replay_removeFrom {get : M → OId → Option OId} {set : M → (OId → Option OId) → M} {ev : OId → Event}
    (hev : ∀ m a, replayM m (ev a) = set m fun x => if x = a then none else get m x)
    (hgs : ∀ m f, get (set m f) = f) (hss : ∀ m f g, set (set m f) g = set m g) (hsg : ∀ m, set m (get m) = m)
    (m : M) (L xs : List OId) (hall : ∀ x ∈ xs, x ∈ L) :
    replayAllM m ((L.filter (· ∈ xs)).map ev) = set m fun x => if x ∈ xs then none else get m x := by
  have fold : ∀ (es : List OId) (m : M),
      replayAllM m (es.map ev) = set m fun x => if x ∈ es then none else get m x := by
    intro es
    induction es with
    | nil => intro m; simp only [List.map_nil, List.not_mem_nil, if_false]; exact (hsg m).symm
    | cons a t ih =>
      intro m
      rw [List.map_cons, replayAllM_cons, ih, hev, hgs, hss]
      congr 1
      funext x
      by_cases h1 : x ∈ t <;> by_cases h2 : x = a <;> simp [h1, h2]
  rw [fold]
  congr 1
  funext x
  simp only [mem_filter_mem hall]

theorem mirror_removeLibrariesFrom (s : S) (nI a xs) (h : Inv s) :
    replayAllM s.abs (eventsOf s nI (.removeLibrariesFrom a xs)) = (step s (.removeLibrariesFrom a xs)).1.abs := by
  dsimp only [eventsOf, step]
  refine mirror_of_guard (by decide) fun hg => mirror_of_ok ?_
  exact replay_removeFrom (get := M.libNl) (set := fun m f => { m with libNl := f }) (fun _ _ => rfl) (fun _ _ => rfl)
    (fun _ _ _ => rfl) (fun _ => rfl) s.abs _ xs fun x hx => (h.libs_iff a x).2 (of_not_any_ne hg x hx)

theorem mirror_removeDefinitionsFrom (s : S) (nI a xs) (h : Inv s) :
    replayAllM s.abs (eventsOf s nI (.removeDefinitionsFrom a xs)) = (step s (.removeDefinitionsFrom a xs)).1.abs := by
  dsimp only [eventsOf, step]
  refine mirror_of_guard (by decide) fun hg => mirror_of_ok ?_
  exact replay_removeFrom (get := M.defLib) (set := fun m f => { m with defLib := f }) (fun _ _ => rfl) (fun _ _ => rfl)
    (fun _ _ _ => rfl) (fun _ => rfl) s.abs _ xs fun x hx => (h.defs_iff a x).2 (of_not_any_ne hg x hx)

theorem mirror_removeCablesFrom (s : S) (nI a xs) (h : Inv s) :
    replayAllM s.abs (eventsOf s nI (.removeCablesFrom a xs)) = (step s (.removeCablesFrom a xs)).1.abs := by
  dsimp only [eventsOf, step]
  refine mirror_of_guard (by decide) fun hg => mirror_of_ok ?_
  exact replay_removeFrom (get := M.cableDef) (set := fun m f => { m with cableDef := f }) (fun _ _ => rfl) (fun _ _ => rfl)
    (fun _ _ _ => rfl) (fun _ => rfl) s.abs _ xs fun x hx => (h.cables_iff a x).2 (of_not_any_ne hg x hx)

theorem mirror_removeChildrenFrom (s : S) (nI a xs) (h : Inv s) :
    replayAllM s.abs (eventsOf s nI (.removeChildrenFrom a xs)) = (step s (.removeChildrenFrom a xs)).1.abs := by
  dsimp only [eventsOf, step]
  refine mirror_of_guard (by decide) fun hg => mirror_of_ok ?_
  exact replay_removeFrom (get := M.instParent) (set := fun m f => { m with instParent := f }) (fun _ _ => rfl)
    (fun _ _ => rfl) (fun _ _ _ => rfl) (fun _ => rfl) s.abs _ xs fun x hx => (h.child_iff a x).2 (of_not_any_ne hg x hx)

theorem mirror_removeWiresFrom (s : S) (nI a xs) (h : Inv s) :
    replayAllM s.abs (eventsOf s nI (.removeWiresFrom a xs)) = (step s (.removeWiresFrom a xs)).1.abs := by
  dsimp only [eventsOf, step]
  refine mirror_of_guard (by decide) fun hg => mirror_of_ok ?_
  exact replay_removeFrom (get := M.wireCable) (set := fun m f => { m with wireCable := f }) (fun _ _ => rfl)
    (fun _ _ => rfl) (fun _ _ _ => rfl) (fun _ => rfl) s.abs _ xs fun x hx => (h.wires_iff a x).2 (of_not_any_ne hg x hx)

/-! ### `remove_ports_from`: per removed port one `definition_remove_port` followed by the implied
    `wire_disconnect_pin` pairs; the latter are no-ops on a mirror that has just replayed the former. -/

theorem fold_evRemovePort (s : S) (h : Inv s) (nI d : OId) (L : List OId) (m : M)
    (hm1 : m.instRef = s.instRef) (hm2 : m.pinPort = s.pinPort) :
    replayAllM m (L.flatMap (evRemovePort s nI d)) = replayAllM m (L.map (Event.removePort d)) := by
  induction L generalizing m with
  | nil => rfl
  | cons p t ih =>
    rw [List.flatMap_cons, List.map_cons, replayAllM_append, evRemovePort_replay s h m hm1 hm2, replayAllM_cons]
    exact ih _ hm1 hm2

def M.pinIn (m : M) (L : List OId) (q : OId) : Bool :=
  match m.pinPort q with
  | some p => decide (p ∈ L)
  | none => false

theorem pinIn_replay_removePort (m : M) (d a : OId) (L : List OId) (q : OId) :
    (replayM m (.removePort d a)).pinIn L q = m.pinIn L q := rfl
theorem instRef_replay_removePort (m : M) (d a : OId) : (replayM m (.removePort d a)).instRef = m.instRef := rfl
theorem hasOuter_replay_removePort (m : M) (d a i q : OId) :
    (replayM m (.removePort d a)).hasOuter i q = (m.hasOuter i q && !(m.instRef i == some d && m.pinPort q == some a)) := rfl
theorem opWire_replay_removePort (m : M) (d a i q : OId) :
    (replayM m (.removePort d a)).opWire i q = (if m.instRef i = some d ∧ m.pinPort q = some a then none else m.opWire i q) := rfl
theorem portDef_replay_removePort (m : M) (d a x : OId) :
    (replayM m (.removePort d a)).portDef x = (if x = a then none else m.portDef x) := rfl
theorem pinIn_cons (m : M) (a : OId) (t : List OId) (q : OId) :
    m.pinIn (a :: t) q = (m.pinPort q == some a || m.pinIn t q) := by
  simp only [M.pinIn]
  cases m.pinPort q with
  | none => simp
  | some p => by_cases h : p = a <;> simp [h]

theorem fold_removePort (d : OId) (L : List OId) (m : M) :
    replayAllM m (L.map (Event.removePort d)) =
      { m with portDef := fun x => if x ∈ L then none else m.portDef x
               hasOuter := fun i q => m.hasOuter i q && !(m.instRef i == some d && m.pinIn L q)
               opWire := fun i q => if m.instRef i = some d ∧ m.pinIn L q = true then none else m.opWire i q } := by
  induction L generalizing m with
  | nil =>
    apply M.ext' <;> try rfl
    · funext i q; simp only [M.pinIn, replayAllM, List.map_nil, List.foldl_nil]; grind
    · funext i q; simp only [M.pinIn, replayAllM, List.map_nil, List.foldl_nil]; grind
  | cons a t ih =>
    rw [List.map_cons, replayAllM_cons, ih]
    clear ih
    apply M.ext' <;> try rfl
    · funext x
      simp only [portDef_replay_removePort, List.mem_cons]
      grind
    · funext i q
      simp only [pinIn_replay_removePort, instRef_replay_removePort, opWire_replay_removePort, pinIn_cons]
      grind
    · funext i q
      simp only [pinIn_replay_removePort, instRef_replay_removePort, hasOuter_replay_removePort, pinIn_cons]
      grind

theorem mirror_removePortsFrom (s : S) (nI d ps) (h : Inv s) :
    replayAllM s.abs (eventsOf s nI (.removePortsFrom d ps)) = (step s (.removePortsFrom d ps)).1.abs := by
  dsimp only [eventsOf, step]
  refine mirror_of_guard (by decide) fun hg => mirror_of_ok ?_
  have hmemL := mem_filter_mem fun x hx => (h.ports_iff d x).2 (of_not_any_ne hg x hx)
  have hpin : ∀ q, s.abs.pinIn ((s.ports d).filter (fun x => decide (x ∈ ps))) q = s.pinIn ps q := by
    intro q
    simp only [M.pinIn, S.pinIn, S.abs]
    cases s.pinPort q with
    | none => rfl
    | some p => simp only [hmemL]
  rw [fold_evRemovePort s h nI d _ s.abs rfl rfl, fold_removePort]
  simp only [hpin]
  apply M.ext' <;> try rfl
  · funext x; simp only [hmemL, S.abs]
  · funext i q; simp only [S.abs]; grind

theorem fold_evRemovePin (s : S) (nI p : OId) (L : List OId) (m : M) :
    replayAllM m (L.flatMap (evRemovePin s nI p)) = replayAllM m (L.map (Event.removePin p)) := by
  induction L generalizing m with
  | nil => rfl
  | cons q t ih =>
    rw [List.flatMap_cons, List.map_cons, replayAllM_append, evRemovePin_replay, replayAllM_cons]
    exact ih _

theorem fold_removePin (p : OId) (L : List OId) (m : M) :
    replayAllM m (L.map (Event.removePin p)) =
      { m with pinPort := fun x => if x ∈ L then none else m.pinPort x
               hasOuter := fun i q => m.hasOuter i q && !decide (q ∈ L)
               opWire := fun i q => if q ∈ L then none else m.opWire i q } := by
  induction L generalizing m with
  | nil =>
    apply M.ext' <;> try rfl
    funext i q; simp [replayAllM]
  | cons a t ih =>
    rw [List.map_cons, replayAllM_cons, ih]
    apply M.ext' <;> try rfl
    · funext x; simp only [replayM, List.mem_cons]; grind
    · funext i q; simp only [replayM, List.mem_cons]; grind
    · funext i q; simp only [replayM, List.mem_cons]; grind

theorem mirror_removePinsFrom (s : S) (nI p qs) (h : Inv s) :
    replayAllM s.abs (eventsOf s nI (.removePinsFrom p qs)) = (step s (.removePinsFrom p qs)).1.abs := by
  dsimp only [eventsOf, step]
  refine mirror_of_guard (by decide) fun hg => mirror_of_ok ?_
  have hmemL := mem_filter_mem fun x hx => (h.pins_iff p x).2 (of_not_any_ne hg x hx)
  rw [fold_evRemovePin, fold_removePin]
  apply M.ext' <;> try rfl
  · funext x; simp only [hmemL, S.abs]
  · funext i q; simp only [hmemL, S.abs]
  · funext i q; simp only [hmemL, S.abs, List.mem_filter]; grind

theorem fold_evDisconnect (w : OId) (L : List PinRef) (m : M) :
    replayAllM m (L.flatMap (evDisconnect w)) =
      { m with pinWire := fun q => if PinRef.inner q ∈ L then none else m.pinWire q
               opWire := fun i q => if PinRef.outer i q ∈ L then none else m.opWire i q } := by
  induction L generalizing m with
  | nil =>
    apply M.ext' <;> try rfl
    all_goals funext x; simp [replayAllM]
  | cons r t ih =>
    rw [List.flatMap_cons, replayAllM_append, ih]
    cases r <;> apply M.ext' <;> try rfl
    all_goals
      funext i
      simp only [evDisconnect, replayAllM, List.foldl_cons, List.foldl_nil, replayM, List.mem_cons]
      grind

theorem mirror_disconnectFrom (s : S) (nI w rs) (h : Inv s) :
    replayAllM s.abs (eventsOf s nI (.disconnectFrom w rs)) = (step s (.disconnectFrom w rs)).1.abs := by
  dsimp only [eventsOf, step]
  refine mirror_of_guard (by decide) fun hg => mirror_of_ok ?_
  have hmemL : ∀ r, r ∈ (s.wirePins w).filter (fun x => decide (x ∈ rs)) ↔ r ∈ rs := by
    refine mem_filter_mem fun r hr => ?_
    have := fun hb => hg (List.any_eq_true.2 ⟨r, hr, hb⟩)
    cases r with
    | inner q => exact (h.pw_iff q w).1 (by simpa using this)
    | outer i q => exact (h.ow_iff i q w).1 (by simp at this; exact this.2)
  rw [fold_evDisconnect]
  apply M.ext' <;> try rfl
  · funext x; simp only [hmemL, S.abs]
  · funext i q; simp only [hmemL, S.abs]

end Spydr.IR
