/-
  Per-operation forms of `step_below`: what `Op.below off` demands of each call, and that the call then keeps the
  heap below `off`; and the three reference writes of `setRef` by themselves.
-/
import Spydr.IR.BelowStep
namespace Spydr.IR

theorem below_addLibrary (s : S) (off n l pos veto) : Below s off → (Op.addLibrary n l pos veto).below off → Below (step s (.addLibrary n l pos veto)).1 off :=
  step_below s off _
theorem below_addDefinition (s : S) (off l d pos veto) : Below s off → (Op.addDefinition l d pos veto).below off → Below (step s (.addDefinition l d pos veto)).1 off :=
  step_below s off _
theorem below_addPort (s : S) (off d p pos veto) : Below s off → (Op.addPort d p pos veto).below off → Below (step s (.addPort d p pos veto)).1 off :=
  step_below s off _
theorem below_addCable (s : S) (off d c pos veto) : Below s off → (Op.addCable d c pos veto).below off → Below (step s (.addCable d c pos veto)).1 off :=
  step_below s off _
theorem below_addChild (s : S) (off d i pos veto) : Below s off → (Op.addChild d i pos veto).below off → Below (step s (.addChild d i pos veto)).1 off :=
  step_below s off _
theorem below_addPin (s : S) (off p q pos) : Below s off → (Op.addPin p q pos).below off → Below (step s (.addPin p q pos)).1 off :=
  step_below s off _
theorem below_addWire (s : S) (off c w pos) : Below s off → (Op.addWire c w pos).below off → Below (step s (.addWire c w pos)).1 off :=
  step_below s off _
theorem below_connectInner (s : S) (off w q pos) : Below s off → (Op.connectInner w q pos).below off → Below (step s (.connectInner w q pos)).1 off :=
  step_below s off _
theorem below_setWirePins (s : S) (off w rs) : Below s off → (Op.setWirePins w rs).below off → Below (step s (.setWirePins w rs)).1 off :=
  step_below s off _
theorem below_removeLibrary (s : S) (off n l) : Below s off → (Op.removeLibrary n l).below off → Below (step s (.removeLibrary n l)).1 off :=
  step_below s off _
theorem below_removeDefinition (s : S) (off l d) : Below s off → (Op.removeDefinition l d).below off → Below (step s (.removeDefinition l d)).1 off :=
  step_below s off _
theorem below_removePort (s : S) (off d p) : Below s off → (Op.removePort d p).below off → Below (step s (.removePort d p)).1 off :=
  step_below s off _
theorem below_removeCable (s : S) (off d c) : Below s off → (Op.removeCable d c).below off → Below (step s (.removeCable d c)).1 off :=
  step_below s off _
theorem below_removeChild (s : S) (off d i) : Below s off → (Op.removeChild d i).below off → Below (step s (.removeChild d i)).1 off :=
  step_below s off _
theorem below_removePin (s : S) (off p q) : Below s off → (Op.removePin p q).below off → Below (step s (.removePin p q)).1 off :=
  step_below s off _
theorem below_removeWire (s : S) (off c w) : Below s off → (Op.removeWire c w).below off → Below (step s (.removeWire c w)).1 off :=
  step_below s off _
theorem below_connectOuter (s : S) (off w i q pos) : Below s off → (Op.connectOuter w i q pos).below off → Below (step s (.connectOuter w i q pos)).1 off :=
  step_below s off _
theorem below_setTop (s : S) (off n i) : Below s off → (Op.setTop n i).below off → Below (step s (.setTop n i)).1 off :=
  step_below s off _
theorem below_removeLibrariesFrom (s : S) (off n ls) : Below s off → (Op.removeLibrariesFrom n ls).below off → Below (step s (.removeLibrariesFrom n ls)).1 off :=
  step_below s off _
theorem below_removeDefinitionsFrom (s : S) (off l ds) : Below s off → (Op.removeDefinitionsFrom l ds).below off → Below (step s (.removeDefinitionsFrom l ds)).1 off :=
  step_below s off _
theorem below_removePortsFrom (s : S) (off d ps) : Below s off → (Op.removePortsFrom d ps).below off → Below (step s (.removePortsFrom d ps)).1 off :=
  step_below s off _
theorem below_removeCablesFrom (s : S) (off d cs) : Below s off → (Op.removeCablesFrom d cs).below off → Below (step s (.removeCablesFrom d cs)).1 off :=
  step_below s off _
theorem below_removeChildrenFrom (s : S) (off d is) : Below s off → (Op.removeChildrenFrom d is).below off → Below (step s (.removeChildrenFrom d is)).1 off :=
  step_below s off _
theorem below_removePinsFrom (s : S) (off p qs) : Below s off → (Op.removePinsFrom p qs).below off → Below (step s (.removePinsFrom p qs)).1 off :=
  step_below s off _
theorem below_removeWiresFrom (s : S) (off c ws) : Below s off → (Op.removeWiresFrom c ws).below off → Below (step s (.removeWiresFrom c ws)).1 off :=
  step_below s off _
theorem below_disconnect (s : S) (off w r) : Below s off → (Op.disconnect w r).below off → Below (step s (.disconnect w r)).1 off :=
  step_below s off _
theorem below_setLibraries (s : S) (off n ls) : Below s off → (Op.setLibraries n ls).below off → Below (step s (.setLibraries n ls)).1 off :=
  step_below s off _
theorem below_setDefinitions (s : S) (off l ds) : Below s off → (Op.setDefinitions l ds).below off → Below (step s (.setDefinitions l ds)).1 off :=
  step_below s off _
theorem below_setPorts (s : S) (off d ps) : Below s off → (Op.setPorts d ps).below off → Below (step s (.setPorts d ps)).1 off :=
  step_below s off _
theorem below_setCables (s : S) (off d cs) : Below s off → (Op.setCables d cs).below off → Below (step s (.setCables d cs)).1 off :=
  step_below s off _
theorem below_setChildren (s : S) (off d is) : Below s off → (Op.setChildren d is).below off → Below (step s (.setChildren d is)).1 off :=
  step_below s off _
theorem below_setPins (s : S) (off p qs) : Below s off → (Op.setPins p qs).below off → Below (step s (.setPins p qs)).1 off :=
  step_below s off _
theorem below_setWires (s : S) (off c ws) : Below s off → (Op.setWires c ws).below off → Below (step s (.setWires c ws)).1 off :=
  step_below s off _
theorem below_disconnectFrom (s : S) (off w rs) : Below s off → (Op.disconnectFrom w rs).below off → Below (step s (.disconnectFrom w rs)).1 off :=
  step_below s off _
theorem below_setRef (s : S) (off i d) : Below s off → (Op.setRef i d).below off → Below (step s (.setRef i d)).1 off :=
  step_below s off _
theorem below_createChild (s : S) (off d i ref veto) : Below s off → (Op.createChild d i ref veto).below off →
    Below (step s (.createChild d i ref veto)).1 off :=
  step_below s off _
theorem below_setTopDef (s : S) (off n d t) : Below s off → (Op.setTopDef n d t).below off →
    Below (step s (.setTopDef n d t)).1 off :=
  step_below s off _

theorem below_firstRef (s : S) (off i d' : OId) (hb : Below s off) (hi : i < off) (hd : d' < off) :
    Below (s.firstRef i d') off := by
  obtain ⟨hs, hz⟩ := (below_iff s off).1 hb
  have h := sep_firstRef s (OrigR off) i d' hs hi hd
  exact (below_iff _ off).2 ⟨h.1, outEq_trans h.2 hz⟩

theorem Below.purge {s : S} {off : OId} (hb : Below s off) (P : OId → OId → Bool) : Below (s.purge P) off :=
  { hb with
    instPins := fun x y h => hb.instPins x y (List.mem_filter.1 h).1
    opWire := fun i q w h => hb.opWire i q w (by simp only [S.purge] at h; split at h <;> first | cases h | exact h)
    wpI := fun w q h => hb.wpI w q (List.mem_filter.1 h).1
    wpO := fun w i q h => hb.wpO w i q (List.mem_filter.1 h).1 }

theorem below_dropRef (s : S) (off i : OId) (hb : Below s off) : Below (s.dropRef i) off := by
  rw [dropRef_eq]
  exact { hb.purge fun i' _ => decide (i' = i) with
    instRef := fun x y h => hb.instRef x y (by dsimp only at h; split at h <;> first | cases h | exact h)
    refs := fun d i' h => hb.refs d i' (by dsimp only at h; split at h <;> first | cases h | exact h) }

theorem below_repoint (s : S) (off i d d' : OId) (hb : Below s off) (hi : i < off) (hd : d' < off) :
    Below (s.repoint i d d') off := by
  obtain ⟨hs, hz⟩ := (below_iff s off).1 hb
  have h := sep_repoint s (OrigR off) i d d' hs hi hd
  exact (below_iff _ off).2 ⟨h.1, outEq_trans h.2 hz⟩

end Spydr.IR
