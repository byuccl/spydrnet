/-
  `Below s off` — every object in use lies below `off` — says two things: no pointer crosses the boundary
  `off` (`Sep` for the region below it) and above the boundary the heap is still empty (`OutEq` with the
  initial heap).  A call that mentions only objects below `off` is a call confined to that region, so
  `Below` is kept by the frame theorem `step_sep`.
-/
import Spydr.IR.BelowLemmas
import Spydr.IR.SepStep
namespace Spydr.IR

abbrev CopyR (off : OId) : OId → Prop := fun x => off ≤ x
abbrev OrigR (off : OId) : OId → Prop := fun x => x < off

theorem PinRef.below_inR (off : OId) (r : PinRef) : r.below off ↔ r.inR (OrigR off) := by cases r <;> exact Iff.rfl

theorem optBelow_optIn (off : OId) (o : Option OId) : optBelow off o ↔ optIn (OrigR off) o := by cases o <;> exact Iff.rfl

theorem below_inside (off : OId) (op : Op) : op.below off ↔ op.inside (OrigR off) := by
  cases op <;> simp only [Op.below, Op.inside, PinRef.below_inR, optBelow_optIn] <;> exact Iff.rfl

section
variable {off : OId} {f : OId → List OId} {g : OId → Option OId}

theorem SepL.of_below (h : ∀ x y, y ∈ f x → x < off ∧ y < off) : SepL (OrigR off) f :=
  fun x y hy => iff_of_true (h x y hy).1 (h x y hy).2

theorem SepO.of_below (h : ∀ x y, g x = some y → x < off ∧ y < off) : SepO (OrigR off) g :=
  fun x y hy => iff_of_true (h x y hy).1 (h x y hy).2

theorem nil_of_below (h : ∀ x y, y ∈ f x → x < off ∧ y < off) {x : OId} (hx : ¬ x < off) : f x = [] :=
  List.eq_nil_iff_forall_not_mem.2 fun y hy => hx (h x y hy).1

theorem none_of_below (h : ∀ x y, g x = some y → x < off ∧ y < off) {x : OId} (hx : ¬ x < off) : g x = none :=
  Option.eq_none_iff_forall_ne_some.2 fun y hy => hx (h x y hy).1

theorem SepL.below (h : SepL (OrigR off) f) (hz : ∀ x, ¬ x < off → f x = []) :
    ∀ x y, y ∈ f x → x < off ∧ y < off := fun x y hy =>
  have hx : x < off := Decidable.by_contra fun hx => by rw [hz x hx] at hy; cases hy
  ⟨hx, (h x y hy).1 hx⟩

theorem SepO.below (h : SepO (OrigR off) g) (hz : ∀ x, ¬ x < off → g x = none) :
    ∀ x y, g x = some y → x < off ∧ y < off := fun x y hy =>
  have hx : x < off := Decidable.by_contra fun hx => by rw [hz x hx] at hy; cases hy
  ⟨hx, (h x y hy).1 hx⟩

end

theorem below_iff (s : S) (off : OId) : Below s off ↔ Sep s (OrigR off) ∧ OutEq s S.init (OrigR off) := by
  constructor
  · intro hb
    refine ⟨⟨SepO.of_below hb.libNl, SepO.of_below hb.defLib, SepO.of_below hb.portDef, SepO.of_below hb.cableDef,
      SepO.of_below hb.instParent, SepO.of_below hb.pinPort, SepO.of_below hb.wireCable, SepO.of_below hb.pinWire,
      fun i q w h => ?_, SepO.of_below hb.instRef, SepO.of_below hb.top, SepL.of_below hb.libs, SepL.of_below hb.defs,
      SepL.of_below hb.ports, SepL.of_below hb.cables, SepL.of_below hb.children, SepL.of_below hb.pins,
      SepL.of_below hb.wires, SepL.of_below hb.instPins, fun w q h => ?_, fun w i q h => ?_, fun d i h => ?_⟩,
      ⟨fun x hx => ⟨nil_of_below hb.libs hx, none_of_below hb.libNl hx, nil_of_below hb.defs hx,
        none_of_below hb.defLib hx, nil_of_below hb.ports hx, none_of_below hb.portDef hx, nil_of_below hb.cables hx,
        none_of_below hb.cableDef hx, nil_of_below hb.children hx, none_of_below hb.instParent hx,
        nil_of_below hb.pins hx, none_of_below hb.pinPort hx, nil_of_below hb.wires hx, none_of_below hb.wireCable hx,
        ?_, none_of_below hb.pinWire hx, none_of_below hb.instRef hx, nil_of_below hb.instPins hx,
        none_of_below hb.top hx⟩, fun i q hi _ => ?_, fun d i hd _ => ?_⟩⟩
    · have := hb.opWire i q w h; exact ⟨iff_of_true this.1 this.2.2, iff_of_true this.2.1 this.2.2⟩
    · have := hb.wpI w q h; exact iff_of_true this.1 this.2
    · have := hb.wpO w i q h; exact ⟨iff_of_true this.1 this.2.1, iff_of_true this.1 this.2.2⟩
    · have := hb.refs d i h; exact iff_of_true this.1 this.2
    · refine List.eq_nil_iff_forall_not_mem.2 fun r hr => ?_
      cases r with
      | inner q => exact hx (hb.wpI x q hr).1
      | outer i q => exact hx (hb.wpO x i q hr).1
    · exact Option.eq_none_iff_forall_ne_some.2 fun w h => hi (hb.opWire i q w h).1
    · exact Bool.eq_false_iff.2 fun h => hd (hb.refs d i h).1
  · rintro ⟨hs, ⟨z1, z2, z3⟩⟩
    simp only [imp_and, forall_and] at z1
    obtain ⟨zlibs, zlibNl, zdefs, zdefLib, zports, zportDef, zcables, zcableDef, zchildren, zinstParent, zpins,
      zpinPort, zwires, zwireCable, hw, zpinWire, zinstRef, zinstPins, ztop⟩ := z1
    refine ⟨SepO.below hs.libNl zlibNl, SepO.below hs.defLib zdefLib, SepO.below hs.portDef zportDef,
      SepO.below hs.cableDef zcableDef, SepO.below hs.instParent zinstParent, SepO.below hs.pinPort zpinPort,
      SepO.below hs.wireCable zwireCable, SepO.below hs.pinWire zpinWire, fun i q w h => ?_,
      SepO.below hs.instRef zinstRef, SepO.below hs.top ztop, SepL.below hs.libs zlibs, SepL.below hs.defs zdefs,
      SepL.below hs.ports zports, SepL.below hs.cables zcables, SepL.below hs.children zchildren,
      SepL.below hs.pins zpins, SepL.below hs.wires zwires, SepL.below hs.instPins zinstPins,
      fun w q h => ?_, fun w i q h => ?_, fun d i h => ?_⟩
    · have e := hs.opWire i q w h
      have hi : i < off := Decidable.by_contra fun hi => by
        have hq : ¬ q < off := fun hq => hi (e.1.2 (e.2.1 hq))
        rw [show s.opWire i q = none from z2 i q hi hq] at h; cases h
      exact ⟨hi, e.2.2 (e.1.1 hi), e.1.1 hi⟩
    · have hx : w < off := Decidable.by_contra fun hx => by rw [show s.wirePins w = [] from hw w hx] at h; cases h
      exact ⟨hx, (hs.wpI w q h).1 hx⟩
    · have hx : w < off := Decidable.by_contra fun hx => by rw [show s.wirePins w = [] from hw w hx] at h; cases h
      exact ⟨hx, (hs.wpO w i q h).1.1 hx, (hs.wpO w i q h).2.1 hx⟩
    · have e := hs.refs d i h
      have hd : d < off := Decidable.by_contra fun hd => by
        rw [show s.refs d i = false from z3 d i hd fun hi => hd (e.2 hi)] at h; cases h
      exact ⟨hd, e.1 hd⟩

theorem below_init (off : OId) : Below S.init off := by
  constructor <;> simp [S.init]

theorem run_below (off : OId) (ops : List Op) (s : S) (hb : Below s off) (ho : ∀ op ∈ ops, op.below off) :
    Below (run s ops).1 off := by
  obtain ⟨hs, hz⟩ := (below_iff s off).1 hb
  obtain ⟨hs', hf⟩ := run_sep (OrigR off) ops s hs fun op h => (below_inside off op).1 (ho op h)
  exact (below_iff _ off).2 ⟨hs', outEq_trans hf hz⟩

theorem step_below (s : S) (off : OId) (op : Op) (hb : Below s off) (ho : op.below off) : Below (step s op).1 off :=
  run_below off [op] s hb (by simpa using ho)

end Spydr.IR
