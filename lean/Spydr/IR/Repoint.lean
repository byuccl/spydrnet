/-
  Re-pointing an instance (`S.repointWith`) keeps `Inv`.  The pin lists of the wires are mapped through `rekey`,
  which renames the keys of the outer pins of the one instance and touches nothing else; the lemmas on `rekey`
  say what is on a wire afterwards.
-/
import Spydr.IR.ZipLemmas
import Spydr.Common.List
namespace Spydr.IR

/-- the re-keying map applied to `Wire._pins` -/
def rekey (i : OId) (f : OId → Option OId) : PinRef → PinRef
  | .inner q => .inner q
  | .outer i' q => if i' = i then (match f q with
                                    | some q' => .outer i q'
                                    | none => .outer i' q) else .outer i' q

theorem repointWith_wirePins (s : S) (i d' : OId) (np : List OId) (f g : OId → Option OId) (w : OId) :
    (s.repointWith i d' np f g).wirePins w = (s.wirePins w).map (rekey i f) := by
  simp only [S.repointWith]; congr 1

theorem rekey_inner (i : OId) (f : OId → Option OId) (q : OId) : rekey i f (.inner q) = .inner q := rfl

theorem rekey_outer (i : OId) (f : OId → Option OId) (i' q : OId) :
    rekey i f (.outer i' q) = .outer i' (if i' = i then (f q).getD q else q) := by
  simp only [rekey]
  split
  next e => subst e; cases f q <;> rfl
  · rfl

theorem inner_mem_rekey {i : OId} {f : OId → Option OId} {l : List PinRef} {q : OId} :
    .inner q ∈ l.map (rekey i f) ↔ .inner q ∈ l := by
  simp only [List.mem_map]
  constructor
  · rintro ⟨r, hr, e⟩
    cases r with
    | inner q0 => cases e; exact hr
    | outer i0 q0 => rw [rekey_outer] at e; cases e
  · exact fun h => ⟨_, h, rfl⟩

theorem outer_mem_rekey {i : OId} {f : OId → Option OId} {l : List PinRef} {i' q' : OId} :
    .outer i' q' ∈ l.map (rekey i f) ↔ ∃ q, .outer i' q ∈ l ∧ q' = if i' = i then (f q).getD q else q := by
  simp only [List.mem_map]
  constructor
  · rintro ⟨r, hr, e⟩
    cases r with
    | inner q0 => cases e
    | outer i0 q0 => rw [rekey_outer] at e; cases e; exact ⟨q0, hr, rfl⟩
  · rintro ⟨q, h, rfl⟩
    exact ⟨_, h, rekey_outer ..⟩

theorem map_rekey_of_not_mem {i : OId} (f : OId → Option OId) {l : List PinRef} (h : ∀ q, .outer i q ∉ l) :
    l.map (rekey i f) = l := by
  refine (List.map_congr_left fun r hr => ?_).trans (List.map_id l)
  cases r with
  | inner q => rfl
  | outer i' q => rw [rekey_outer, if_neg fun (e : i' = i) => h q (e ▸ hr)]; rfl

theorem repointWith_inv (s : S) (i d d' : OId) (newPins : List OId) (f g : OId → Option OId)
    (h : Inv s) (hi : s.instRef i = some d)
    (hfg : ∀ q q', f q = some q' ↔ g q' = some q)
    (hdom : ∀ q, q ∈ s.instPins i → ∃ q', f q = some q')
    (hcod : ∀ q', q' ∈ newPins ↔ ∃ q, g q' = some q ∧ q ∈ s.instPins i)
    (hnew : ∀ q', q' ∈ newPins ↔ ∃ p, s.portDef p = some d' ∧ s.pinPort q' = some p)
    (hnd : newPins.Nodup) :
    Inv (s.repointWith i d' newPins f g) := by
  have a1 := h.pw_iff; have a2 := h.ow_iff; have a3 := h.wp_nd; have a4 := h.refs_iff; have a5 := h.mirror
  have a6 := h.mirror_nd; have a7 := h.noref; have a8 := h.ow_owned
  have hf : ∀ w q, .outer i q ∈ s.wirePins w → ∃ q', f q = some q' :=
    fun w q hx => hdom q (a8 i q w ((a2 i q w).2 hx))
  -- on a wire re-keying is injective: every outer pin of `i` there is in the domain of `f`, and `f` has the inverse `g`
  have hinj : ∀ w, ∀ a ∈ s.wirePins w, ∀ b ∈ s.wirePins w, rekey i f a = rekey i f b → a = b := by
    intro w a ha b hb e
    cases a <;> cases b <;> simp only [rekey_inner, rekey_outer, PinRef.outer.injEq, PinRef.inner.injEq, reduceCtorEq] at e
    · rw [e]
    next ia qa ib qb =>
      obtain ⟨rfl, e⟩ := e
      split at e
      next ei =>
        subst ei
        obtain ⟨qa', hqa⟩ := hf w qa ha
        obtain ⟨qb', hqb⟩ := hf w qb hb
        rw [hqa, hqb] at e
        cases e
        have h1 := (hfg qa qa').1 hqa
        rw [(hfg qb qa').1 hqb] at h1
        cases h1; rfl
      · rw [e]
  refine { h with pw_iff := ?_, ow_iff := ?_, wp_nd := ?_, refs_iff := ?_, mirror := ?_, mirror_nd := ?_,
                  noref := ?_, ow_owned := ?_ } <;> clear h
  · intro q w
    rw [repointWith_wirePins, inner_mem_rekey]; exact a1 q w
  · intro i' q' w
    rw [repointWith_wirePins, outer_mem_rekey]
    simp only [S.repointWith]
    split
    next e =>
      subst e
      constructor
      · intro hh
        cases hg : g q' with
        | none => simp [hg] at hh
        | some q =>
          rw [hg] at hh
          exact ⟨q, (a2 i' q w).1 hh, by rw [(hfg q q').2 hg]; rfl⟩
      · rintro ⟨q, hx, e⟩
        obtain ⟨q1, h1⟩ := hf w q hx
        rw [h1] at e; subst e
        rw [(hfg q _).1 h1]; exact (a2 i' q w).2 hx
    · rw [a2]
      exact ⟨fun hh => ⟨q', hh, rfl⟩, fun ⟨q, hx, e⟩ => e ▸ hx⟩
  · intro w
    rw [repointWith_wirePins]
    exact nodup_map_of_inj_on (a3 w) (hinj w)
  -- `refs` is rewritten with the reference; `i` now carries `newPins`: the pins of `d'` (`hnew`), once each (`hnd`); a new key
  -- on a wire comes through `g` from an old key on that wire, which was carried (`ow_owned`), so it is in `newPins` (`hcod`)
  all_goals simp only [S.repointWith]; grind
end Spydr.IR
