/-
  The containment relations of `Inv` (`Cont`) with their edits, and the purge of outer pins (`S.purge`).
-/
import Spydr.IR.Spec
namespace Spydr.IR

theorem mem_insertAt {α} (l : List α) (x y : α) (pos) : y ∈ insertAt l x pos ↔ y = x ∨ y ∈ l := by
  cases pos with
  | none => simp [insertAt]; grind
  | some k =>
    simp only [insertAt]
    generalize (if k < 0 then ((l.length : Int) + k).toNat else k.toNat) = j
    have e := List.take_append_drop j l
    constructor
    · intro h
      simp only [List.mem_append, List.mem_singleton] at h
      rcases h with (h | h) | h
      · exact Or.inr (List.mem_of_mem_take h)
      · exact Or.inl h
      · exact Or.inr (List.mem_of_mem_drop h)
    · intro h
      simp only [List.mem_append, List.mem_singleton]
      rcases h with h | h
      · exact Or.inl (Or.inr h)
      · rw [← e] at h
        rcases List.mem_append.mp h with h | h
        · exact Or.inl (Or.inl h)
        · exact Or.inr h

theorem nodup_insertAt {α} (l : List α) (x : α) (pos) (h : l.Nodup) (hx : x ∉ l) : (insertAt l x pos).Nodup := by
  cases pos with
  | none => simp [insertAt]; grind [List.nodup_append]
  | some k =>
    simp only [insertAt]
    generalize (if k < 0 then ((l.length : Int) + k).toNat else k.toNat) = j
    have e := List.take_append_drop j l
    rw [← e] at h hx
    grind [List.nodup_append]

theorem nodup_filter {α} (l : List α) (p : α → Bool) (h : l.Nodup) : (l.filter p).Nodup :=
  h.filter p

theorem isReorder_iff {α} [DecidableEq α] (l cur : List α) :
    isReorder l cur = true ↔ l.Nodup ∧ ∀ x, x ∈ l ↔ x ∈ cur := by
  simp only [isReorder, Bool.and_eq_true, decide_eq_true_eq, List.all_eq_true]
  constructor
  · rintro ⟨⟨h1, h2⟩, h3⟩
    exact ⟨h1, fun x => ⟨h2 x, h3 x⟩⟩
  · rintro ⟨h1, h2⟩
    exact ⟨⟨h1, fun x hx => (h2 x).1 hx⟩, fun x hx => (h2 x).2 hx⟩

theorem pinIn_some (s : S) (ps : List OId) (q p : OId) (h : s.pinPort q = some p) :
    (s.pinIn ps q = true ↔ p ∈ ps) := by simp [S.pinIn, h]

theorem pinIn_none (s : S) (ps : List OId) (q : OId) (h : s.pinPort q = none) :
    s.pinIn ps q = false := by simp [S.pinIn, h]

theorem of_not_any_ne {α β} [DecidableEq β] {xs : List α} {f : α → β} {b : β}
    (h : ¬ (xs.any (fun x => f x ≠ b)) = true) : ∀ x ∈ xs, f x = b := by
  simpa using h

/-- A containment relation: `kids` lists exactly the elements whose back-pointer `par` names the container,
    once each.  `Inv` holds eight of them: libraries … wires, and the pins on a wire (elements of type `PinRef`);
    the naming model's children are a ninth.  The edits below are all the container operations do to one. -/
structure Cont {γ α : Type} (kids : γ → List α) (par : α → Option γ) : Prop where
  iff : ∀ c x, x ∈ kids c ↔ par x = some c
  nd : ∀ c, (kids c).Nodup

namespace Cont
variable {γ α : Type} [DecidableEq γ] [DecidableEq α] {kids : γ → List α} {par : α → Option γ}

omit [DecidableEq γ] [DecidableEq α] in
theorem par_none (h : Cont kids par) (x : α) (hx : ∀ c, x ∉ kids c) : par x = none :=
  Option.eq_none_iff_forall_ne_some.2 fun c e => hx c ((h.iff c x).2 e)

omit [DecidableEq γ] [DecidableEq α] in
theorem unique (h : Cont kids par) {c c' : γ} {x : α} (hx : x ∈ kids c) (hx' : x ∈ kids c') : c = c' :=
  Option.some.inj (((h.iff c x).1 hx).symm.trans ((h.iff c' x).1 hx'))

omit [DecidableEq γ] [DecidableEq α] in
theorem congr_par (h : Cont kids par) {par' : α → Option γ} (e : ∀ x, par' x = par x) : Cont kids par' :=
  ⟨fun c x => by rw [e]; exact h.iff c x, h.nd⟩

theorem insert (h : Cont kids par) (c : γ) (x : α) (pos : Option Int) (hx : par x = none) :
    Cont (fun c' => if c' = c then insertAt (kids c') x pos else kids c')
      (fun x' => if x' = x then some c else par x') := by
  have hn : ∀ c', x ∉ kids c' := fun c' hm => by rw [(h.iff c' x).1 hm] at hx; cases hx
  refine ⟨fun c' x' => ?_, fun c' => ?_⟩
  · by_cases ex : x' = x
    · subst ex
      by_cases ec : c' = c
      · simp [ec, mem_insertAt]
      · simp [ec, hn, Ne.symm ec]
    · by_cases ec : c' = c <;> simp [ec, ex, mem_insertAt, h.iff]
  · by_cases ec : c' = c
    · simp only [ec, if_true]; exact nodup_insertAt _ _ _ (h.nd c) (hn c)
    · simp only [ec, if_false]; exact h.nd c'

theorem removeMany (h : Cont kids par) (c : γ) (xs : List α) (hx : ∀ x ∈ xs, par x = some c) :
    Cont (fun c' => if c' = c then (kids c').filter (· ∉ xs) else kids c')
      (fun x' => if x' ∈ xs then none else par x') := by
  refine ⟨fun c' x' => ?_, fun c' => ?_⟩
  · by_cases ec : c' = c <;> by_cases ex : x' ∈ xs <;> simp [ec, ex, h.iff]
    intro e; exact ec (Option.some.inj ((hx x' ex).symm.trans e)).symm
  · by_cases ec : c' = c
    · simp only [ec, if_true]; exact (h.nd c).filter _
    · simp only [ec, if_false]; exact h.nd c'

theorem remove (h : Cont kids par) (c : γ) (x : α) (hx : par x = some c) :
    Cont (fun c' => if c' = c then (kids c').filter (· ≠ x) else kids c')
      (fun x' => if x' = x then none else par x') := by
  refine ⟨fun c' x' => ?_, fun c' => ?_⟩
  · by_cases ec : c' = c <;> by_cases ex : x' = x <;> simp [ec, ex, h.iff]
    intro e; exact ec (Option.some.inj (hx.symm.trans e)).symm
  · by_cases ec : c' = c
    · simp only [ec, if_true]; exact (h.nd c).filter _
    · simp only [ec, if_false]; exact h.nd c'

theorem erase (h : Cont kids par) (c : γ) (x : α) (hx : par x = some c) :
    Cont (fun c' => if c' = c then (kids c').erase x else kids c')
      (fun x' => if x' = x then none else par x') := by
  refine ⟨fun c' x' => ?_, fun c' => ?_⟩
  · by_cases ec : c' = c <;> by_cases ex : x' = x <;> simp [ec, ex, h.iff, (h.nd _).mem_erase_iff]
    intro e; exact ec (Option.some.inj (hx.symm.trans e)).symm
  · by_cases ec : c' = c
    · simp only [ec, if_true]; exact (h.nd c).erase _
    · simp only [ec, if_false]; exact h.nd c'

theorem reorder (h : Cont kids par) (c : γ) (l : List α) (hr : isReorder l (kids c) = true) :
    Cont (fun c' => if c' = c then l else kids c') par := by
  obtain ⟨hnd, hm⟩ := (isReorder_iff _ _).1 hr
  refine ⟨fun c' x' => ?_, fun c' => ?_⟩
  · by_cases ec : c' = c
    · simp only [ec, if_true, hm, h.iff]
    · simp only [ec, if_false, h.iff]
  · by_cases ec : c' = c
    · simp only [ec, if_true]; exact hnd
    · simp only [ec, if_false]; exact h.nd c'

end Cont

namespace Inv
variable {s : S} (h : Inv s)
include h

theorem libs : Cont s.libs s.libNl := ⟨h.libs_iff, h.libs_nd⟩
theorem defs : Cont s.defs s.defLib := ⟨h.defs_iff, h.defs_nd⟩
theorem ports : Cont s.ports s.portDef := ⟨h.ports_iff, h.ports_nd⟩
theorem cables : Cont s.cables s.cableDef := ⟨h.cables_iff, h.cables_nd⟩
theorem children : Cont s.children s.instParent := ⟨h.child_iff, h.child_nd⟩
theorem pins : Cont s.pins s.pinPort := ⟨h.pins_iff, h.pins_nd⟩
theorem wires : Cont s.wires s.wireCable := ⟨h.wires_iff, h.wires_nd⟩

/-! No clause of `Inv` outside a relation's own pair mentions libraries, definitions' owners, cables,
    children or wires, so any other containment relation may be put in their place.  Ports and pins are
    read by the mirror clauses through their back-pointers; their lists may be replaced. -/

theorem withLibs {k p} (c : Cont k p) : Inv { s with libs := k, libNl := p } :=
  { h with libs_iff := c.iff, libs_nd := c.nd }
theorem withDefs {k p} (c : Cont k p) : Inv { s with defs := k, defLib := p } :=
  { h with defs_iff := c.iff, defs_nd := c.nd }
theorem withCables {k p} (c : Cont k p) : Inv { s with cables := k, cableDef := p } :=
  { h with cables_iff := c.iff, cables_nd := c.nd }
theorem withChildren {k p} (c : Cont k p) : Inv { s with children := k, instParent := p } :=
  { h with child_iff := c.iff, child_nd := c.nd }
theorem withWires {k p} (c : Cont k p) : Inv { s with wires := k, wireCable := p } :=
  { h with wires_iff := c.iff, wires_nd := c.nd }
theorem withPortList {k} (c : Cont k s.portDef) : Inv { s with ports := k } :=
  { h with ports_iff := c.iff, ports_nd := c.nd }
theorem withPinList {k} (c : Cont k s.pinPort) : Inv { s with pins := k } :=
  { h with pins_iff := c.iff, pins_nd := c.nd }

end Inv

/-- `pin.wire`, for an inner or an outer pin -/
def S.refWire (s : S) : PinRef → Option OId
  | .inner q => s.pinWire q
  | .outer i q => s.opWire i q

theorem Inv.conn {s : S} (h : Inv s) : Cont s.wirePins s.refWire :=
  ⟨fun w r => match r with
    | .inner q => (h.pw_iff q w).symm
    | .outer i q => (h.ow_iff i q w).symm, h.wp_nd⟩

theorem Inv.withConn {s : S} (h : Inv s) {wp pw ow} (c : Cont wp (S.refWire { s with pinWire := pw, opWire := ow }))
    (ho : ∀ i q w, ow i q = some w → q ∈ s.instPins i) :
    Inv { s with wirePins := wp, pinWire := pw, opWire := ow } :=
  { h with pw_iff := fun q w => (c.iff w (.inner q)).symm, ow_iff := fun i q w => (c.iff w (.outer i q)).symm,
           wp_nd := c.nd, ow_owned := ho }

/-- Take away the outer pins selected by `P`: from the instances that carry them, from the wires they sit on,
    and their wire entries.  Removing a port or a pin, and dropping a reference, do this to the connections. -/
def S.purge (s : S) (P : OId → OId → Bool) : S :=
  { s with
    instPins := fun i => (s.instPins i).filter (fun q => !P i q)
    opWire := fun i q => if P i q then none else s.opWire i q
    wirePins := fun w => (s.wirePins w).filter (fun r => match r with
      | .inner _ => true
      | .outer i q => !P i q) }

theorem Inv.purge_conn {s : S} (h : Inv s) (P : OId → OId → Bool) :
    (∀ q w, (s.purge P).pinWire q = some w ↔ PinRef.inner q ∈ (s.purge P).wirePins w) ∧
    (∀ i q w, (s.purge P).opWire i q = some w ↔ PinRef.outer i q ∈ (s.purge P).wirePins w) ∧
    (∀ w, ((s.purge P).wirePins w).Nodup) ∧ (∀ i, ((s.purge P).instPins i).Nodup) ∧
    (∀ i q w, (s.purge P).opWire i q = some w → q ∈ (s.purge P).instPins i) := by
  have a1 := h.pw_iff; have a2 := h.ow_iff; have a7 := h.ow_owned
  refine ⟨?_, ?_, fun w => (h.wp_nd w).filter _, fun i => (h.mirror_nd i).filter _, ?_⟩ <;> clear h <;>
    simp only [S.purge] <;> grind

theorem Inv.purgeWith {s : S} (h : Inv s) (P : OId → OId → Bool) {kp pp kq pq} (cp : Cont kp pp) (cq : Cont kq pq)
    (hm : ∀ i d, s.instRef i = some d → ∀ q,
      (q ∈ s.instPins i ∧ P i q = false) ↔ ∃ p', pp p' = some d ∧ pq q = some p') :
    Inv { s.purge P with ports := kp, portDef := pp, pins := kq, pinPort := pq } := by
  obtain ⟨p1, p2, p3, p4, p5⟩ := h.purge_conn P
  exact { h with ports_iff := cp.iff, ports_nd := cp.nd, pins_iff := cq.iff, pins_nd := cq.nd, pw_iff := p1, ow_iff := p2
                 wp_nd := p3, mirror_nd := p4, ow_owned := p5
                 mirror := fun i d hr q => by simpa [S.purge, List.mem_filter] using hm i d hr q
                 noref := fun i hr => by simp [S.purge, h.noref i hr] }

/-- the instance filter of a purge whose selection names the instance's definition, as the model writes it -/
theorem filter_not_and (l : List OId) (a : Prop) [Decidable a] (b : OId → Prop) [DecidablePred b] :
    l.filter (fun q => !decide (a ∧ b q)) = if a then l.filter (fun q => decide ¬ b q) else l := by
  by_cases ha : a <;> simp [ha]

theorem removePort_eq (s : S) (d p : OId) :
    step s (.removePort d p) = if s.portDef p ≠ some d then (s, .assert) else
      ({ s.purge (fun i q => decide (s.instRef i = some d ∧ s.pinPort q = some p)) with
        ports := fun d' => if d' = d then (s.ports d').filter (· ≠ p) else s.ports d'
        portDef := fun p' => if p' = p then none else s.portDef p' }, .ok) := by
  dsimp only [step]
  simp only [S.purge, filter_not_and, decide_eq_true_eq, decide_not, ne_eq]
  rfl

theorem removePortsFrom_eq (s : S) (d : OId) (ps : List OId) :
    step s (.removePortsFrom d ps) = if ps.any (fun p => s.portDef p ≠ some d) then (s, .assert) else
      ({ s.purge (fun i q => decide (s.instRef i = some d ∧ s.pinIn ps q = true)) with
        ports := fun d' => if d' = d then (s.ports d').filter (· ∉ ps) else s.ports d'
        portDef := fun p' => if p' ∈ ps then none else s.portDef p' }, .ok) := by
  dsimp only [step]
  simp only [S.purge, filter_not_and, decide_eq_true_eq, decide_not, Bool.not_eq_true, Bool.decide_eq_false]
  rfl

theorem removePin_eq (s : S) (p q : OId) :
    step s (.removePin p q) = if s.pinPort q ≠ some p then (s, .assert) else
      ({ s.purge (fun _ q' => decide (q' = q)) with
        pins := fun p' => if p' = p then (s.pins p').filter (· ≠ q) else s.pins p'
        pinPort := fun q' => if q' = q then none else s.pinPort q' }, .ok) := by
  dsimp only [step]
  simp only [S.purge, decide_eq_true_eq, decide_not]
  rfl

theorem removePinsFrom_eq (s : S) (p : OId) (qs : List OId) :
    step s (.removePinsFrom p qs) = if qs.any (fun q => s.pinPort q ≠ some p) then (s, .assert) else
      ({ s.purge (fun _ q => decide (q ∈ qs)) with
        pins := fun p' => if p' = p then (s.pins p').filter (· ∉ qs) else s.pins p'
        pinPort := fun q' => if q' ∈ qs then none else s.pinPort q' }, .ok) := by
  dsimp only [step]
  simp only [S.purge, decide_eq_true_eq, decide_not]
  rfl

theorem dropRef_eq (s : S) (i : OId) :
    s.dropRef i = { s.purge (fun i' _ => decide (i' = i)) with
      instRef := fun i' => if i' = i then none else s.instRef i'
      refs := fun d i' => if i' = i then false else s.refs d i' } := by
  simp only [S.dropRef, S.purge, S.mk.injEq, true_and, and_true]
  refine ⟨?_, ?_, ?_⟩
  · funext w; congr 1; funext r; cases r <;> simp [PinRef.isOuterOf] <;> grind
  · funext i' q; simp
  · funext i'
    by_cases e : i' = i
    · simp [e]
    · simp only [e, if_false, decide_false, Bool.not_false]; exact (List.filter_eq_self.2 fun _ _ => rfl).symm

theorem mem_flat (s : S) (h : Inv s) (d q : OId) :
    q ∈ s.flat d ↔ ∃ p, s.portDef p = some d ∧ s.pinPort q = some p := by
  simp only [S.flat, List.mem_flatMap]
  constructor
  · rintro ⟨p, hp, hq⟩
    exact ⟨p, (h.ports_iff d p).1 hp, (h.pins_iff p q).1 hq⟩
  · rintro ⟨p, hp, hq⟩
    exact ⟨p, (h.ports_iff d p).2 hp, (h.pins_iff p q).2 hq⟩

theorem flat_nodup (s : S) (h : Inv s) (d : OId) : (s.flat d).Nodup := by
  refine List.pairwise_flatMap.mpr ⟨fun p _ => h.pins_nd p, (h.ports_nd d).imp ?_⟩
  intro a b hab x hxa y hxb e
  rw [e] at hxa
  exact hab (Option.some.inj (((h.pins_iff a y).1 hxa).symm.trans ((h.pins_iff b y).1 hxb)))

theorem run_append (s : S) (a b : List Op) : (run s (a ++ b)).1 = (run (run s a).1 b).1 := by
  induction a generalizing s with
  | nil => rfl
  | cons op a ih => simp only [List.cons_append, run]; exact ih _

theorem run_induct {P : S → Prop} (ops : List Op) (hstep : ∀ op ∈ ops, ∀ t, P t → P (step t op).1) {s : S}
    (h : P s) : P (run s ops).1 := by
  induction ops generalizing s with
  | nil => exact h
  | cons op ops ih =>
    exact ih (fun o ho => hstep o (List.mem_cons_of_mem _ ho)) (hstep op List.mem_cons_self s h)

end Spydr.IR
