/-
  The frame property of a call confined to a region `R` of the id space: `Sep` is kept and nothing
  outside `R` changes (`OutEq`).  Every clause of `Sep` says of one field that none of its pointers
  crosses the boundary, so an edit is checked field by field: a pointer added between two objects of `R`
  does not cross, and removing or reordering pointers cannot make one cross.  Untouched fields are
  carried over (`{ hs with … }`).
-/
import Spydr.IR.Sep
import Spydr.IR.Repoint
namespace Spydr.IR

abbrev SepL (R : OId → Prop) (f : OId → List OId) : Prop := ∀ x y, y ∈ f x → (R x ↔ R y)
abbrev SepO (R : OId → Prop) (f : OId → Option OId) : Prop := ∀ x y, f x = some y → (R x ↔ R y)

/-- what `Sep` says of a pin reference `r` on wire `w` -/
def PinRef.side (R : OId → Prop) (w : OId) : PinRef → Prop
  | .inner q => (R w ↔ R q)
  | .outer i q => (R w ↔ R i) ∧ (R w ↔ R q)

/-- `f'` is an edit confined to `R` of a list-valued field `f` whose entries `side` ties to their owner:
    the tie still holds everywhere, and outside `R` nothing changed -/
structure EditG {α : Type} (R : OId → Prop) (side : OId → α → Prop) (f f' : OId → List α) : Prop where
  sep : ∀ x y, y ∈ f' x → side x y
  out : ∀ x, ¬ R x → f' x = f x

abbrev EditL (R : OId → Prop) := EditG R (fun x y : OId => R x ↔ R y)

structure EditO (R : OId → Prop) (g g' : OId → Option OId) : Prop where
  sep : SepO R g'
  out : ∀ x, ¬ R x → g' x = g x

section
variable {α : Type} {R : OId → Prop} {side : OId → α → Prop} {f : OId → List α} {g : OId → Option OId}

theorem EditG.insert (h : ∀ x y, y ∈ f x → side x y) {c : OId} {x : α} (hc : R c) (hx : side c x) (pos : Option Int) :
    EditG R side f (fun c' => if c' = c then insertAt (f c') x pos else f c') := by
  refine ⟨fun c' y hy => ?_, fun c' hc' => if_neg fun (e : c' = c) => hc' (e ▸ hc)⟩
  split at hy
  next e =>
    rcases (mem_insertAt _ _ _ _).1 hy with rfl | hy
    · exact e ▸ hx
    · exact h c' y hy
  · exact h c' y hy

theorem EditG.sub (h : ∀ x y, y ∈ f x → side x y) {c : OId} (hc : R c) {k : OId → List α} (hl : ∀ y, y ∈ k c → y ∈ f c) :
    EditG R side f (fun c' => if c' = c then k c' else f c') := by
  refine ⟨fun c' y hy => ?_, fun c' hc' => if_neg fun (e : c' = c) => hc' (e ▸ hc)⟩
  split at hy
  next e => subst e; exact h c' y (hl y hy)
  · exact h c' y hy

theorem EditG.filter (h : ∀ x y, y ∈ f x → side x y) {c : OId} (hc : R c) (p : α → Bool) :
    EditG R side f (fun c' => if c' = c then (f c').filter p else f c') :=
  .sub h hc fun _ hy => (List.mem_filter.1 hy).1

theorem EditG.reorder [DecidableEq α] (h : ∀ x y, y ∈ f x → side x y) {c : OId} (hc : R c) {l : List α}
    (hr : isReorder l (f c) = true) : EditG R side f (fun c' => if c' = c then l else f c') :=
  .sub h hc fun y => (((isReorder_iff _ _).1 hr).2 y).1

theorem EditO.same (h : SepO R g) : EditO R g g := ⟨h, fun _ _ => rfl⟩

theorem EditO.set (h : SepO R g) {x c : OId} (hx : R x) (hc : R c) :
    EditO R g (fun x' => if x' = x then some c else g x') := by
  refine ⟨fun x' y hy => ?_, fun x' hx' => if_neg fun (e : x' = x) => hx' (e ▸ hx)⟩
  split at hy
  next e => cases hy; exact e ▸ iff_of_true hx hc
  · exact h x' y hy

theorem EditO.clear (h : SepO R g) (P : OId → Prop) [DecidablePred P] (hP : ∀ x, P x → R x) :
    EditO R g (fun x' => if P x' then none else g x') := by
  refine ⟨fun x' y hy => ?_, fun x' hx' => if_neg fun e => hx' (hP x' e)⟩
  split at hy
  · cases hy
  · exact h x' y hy

end

theorem outEq_refl (s : S) (R : OId → Prop) : OutEq s s R :=
  ⟨fun _ _ => by simp, fun _ _ _ _ => rfl, fun _ _ _ _ => rfl⟩

theorem outEq_trans {a b c : S} {R : OId → Prop} (h1 : OutEq a b R) (h2 : OutEq b c R) : OutEq a c R := by
  refine ⟨fun x hx => ?_, fun i q hi hq => (h1.f2 i q hi hq).trans (h2.f2 i q hi hq),
    fun d i hd hi => (h1.f3 d i hd hi).trans (h2.f3 d i hd hi)⟩
  obtain ⟨p1,p2,p3,p4,p5,p6,p7,p8,p9,p10,p11,p12,p13,p14,p15,p16,p17,p18,p19⟩ := h1.f1 x hx
  obtain ⟨q1,q2,q3,q4,q5,q6,q7,q8,q9,q10,q11,q12,q13,q14,q15,q16,q17,q18,q19⟩ := h2.f1 x hx
  exact ⟨p1.trans q1, p2.trans q2, p3.trans q3, p4.trans q4, p5.trans q5, p6.trans q6, p7.trans q7, p8.trans
    q8, p9.trans q9, p10.trans q10, p11.trans q11, p12.trans q12, p13.trans q13, p14.trans q14,
    p15.trans q15, p16.trans q16, p17.trans q17, p18.trans q18, p19.trans q19⟩

theorem sep_refused {s : S} {R : OId → Prop} (hs : Sep s R) : Sep s R ∧ OutEq s s R := ⟨hs, outEq_refl s R⟩

/-! A containment relation edited inside `R`: the clauses of `Sep` for its two fields are given, the others
    are carried over, and outside `R` only these two fields have to be looked at. -/

section
variable {s : S} {R : OId → Prop} {k : OId → List OId} {p : OId → Option OId}

theorem Sep.withLibs (hs : Sep s R) (ek : EditL R s.libs k) (ep : EditO R s.libNl p) :
    Sep { s with libs := k, libNl := p } R ∧ OutEq { s with libs := k, libNl := p } s R :=
  ⟨{ hs with libs := ek.sep, libNl := ep.sep },
    ⟨fun x hx => ⟨ek.out x hx, ep.out x hx, rfl, rfl, rfl, rfl, rfl, rfl, rfl, rfl, rfl, rfl, rfl, rfl, rfl, rfl, rfl, rfl, rfl⟩,
      fun _ _ _ _ => rfl, fun _ _ _ _ => rfl⟩⟩

theorem Sep.withDefs (hs : Sep s R) (ek : EditL R s.defs k) (ep : EditO R s.defLib p) :
    Sep { s with defs := k, defLib := p } R ∧ OutEq { s with defs := k, defLib := p } s R :=
  ⟨{ hs with defs := ek.sep, defLib := ep.sep },
    ⟨fun x hx => ⟨rfl, rfl, ek.out x hx, ep.out x hx, rfl, rfl, rfl, rfl, rfl, rfl, rfl, rfl, rfl, rfl, rfl, rfl, rfl, rfl, rfl⟩,
      fun _ _ _ _ => rfl, fun _ _ _ _ => rfl⟩⟩

theorem Sep.withPorts (hs : Sep s R) (ek : EditL R s.ports k) (ep : EditO R s.portDef p) :
    Sep { s with ports := k, portDef := p } R ∧ OutEq { s with ports := k, portDef := p } s R :=
  ⟨{ hs with ports := ek.sep, portDef := ep.sep },
    ⟨fun x hx => ⟨rfl, rfl, rfl, rfl, ek.out x hx, ep.out x hx, rfl, rfl, rfl, rfl, rfl, rfl, rfl, rfl, rfl, rfl, rfl, rfl, rfl⟩,
      fun _ _ _ _ => rfl, fun _ _ _ _ => rfl⟩⟩

theorem Sep.withCables (hs : Sep s R) (ek : EditL R s.cables k) (ep : EditO R s.cableDef p) :
    Sep { s with cables := k, cableDef := p } R ∧ OutEq { s with cables := k, cableDef := p } s R :=
  ⟨{ hs with cables := ek.sep, cableDef := ep.sep },
    ⟨fun x hx => ⟨rfl, rfl, rfl, rfl, rfl, rfl, ek.out x hx, ep.out x hx, rfl, rfl, rfl, rfl, rfl, rfl, rfl, rfl, rfl, rfl, rfl⟩,
      fun _ _ _ _ => rfl, fun _ _ _ _ => rfl⟩⟩

theorem Sep.withChildren (hs : Sep s R) (ek : EditL R s.children k) (ep : EditO R s.instParent p) :
    Sep { s with children := k, instParent := p } R ∧ OutEq { s with children := k, instParent := p } s R :=
  ⟨{ hs with children := ek.sep, instParent := ep.sep },
    ⟨fun x hx => ⟨rfl, rfl, rfl, rfl, rfl, rfl, rfl, rfl, ek.out x hx, ep.out x hx, rfl, rfl, rfl, rfl, rfl, rfl, rfl, rfl, rfl⟩,
      fun _ _ _ _ => rfl, fun _ _ _ _ => rfl⟩⟩

theorem Sep.withPins (hs : Sep s R) (ek : EditL R s.pins k) (ep : EditO R s.pinPort p) :
    Sep { s with pins := k, pinPort := p } R ∧ OutEq { s with pins := k, pinPort := p } s R :=
  ⟨{ hs with pins := ek.sep, pinPort := ep.sep },
    ⟨fun x hx => ⟨rfl, rfl, rfl, rfl, rfl, rfl, rfl, rfl, rfl, rfl, ek.out x hx, ep.out x hx, rfl, rfl, rfl, rfl, rfl, rfl, rfl⟩,
      fun _ _ _ _ => rfl, fun _ _ _ _ => rfl⟩⟩

theorem Sep.withWires (hs : Sep s R) (ek : EditL R s.wires k) (ep : EditO R s.wireCable p) :
    Sep { s with wires := k, wireCable := p } R ∧ OutEq { s with wires := k, wireCable := p } s R :=
  ⟨{ hs with wires := ek.sep, wireCable := ep.sep },
    ⟨fun x hx => ⟨rfl, rfl, rfl, rfl, rfl, rfl, rfl, rfl, rfl, rfl, rfl, rfl, ek.out x hx, ep.out x hx, rfl, rfl, rfl, rfl, rfl⟩,
      fun _ _ _ _ => rfl, fun _ _ _ _ => rfl⟩⟩

end

theorem Sep.withTop {s : S} {R : OId → Prop} (hs : Sep s R) {n : OId} {i : Option OId} (hn : R n) (hi : optIn R i) :
    Sep { s with top := fun n' => if n' = n then i else s.top n' } R ∧
    OutEq { s with top := fun n' => if n' = n then i else s.top n' } s R := by
  refine ⟨{ hs with top := fun x y h => ?_ },
    ⟨fun x hx => by simp [show x ≠ n from fun e => hx (e ▸ hn)], fun _ _ _ _ => rfl, fun _ _ _ _ => rfl⟩⟩
  dsimp only at h
  split at h
  next e => subst e h; exact iff_of_true hn hi
  · exact hs.top x y h

theorem Sep.conn {s : S} {R : OId → Prop} (hs : Sep s R) : ∀ w r, r ∈ s.wirePins w → r.side R w
  | w, .inner q, h => hs.wpI w q h
  | w, .outer i q, h => hs.wpO w i q h

theorem Sep.withConn {s : S} {R : OId → Prop} (hs : Sep s R) {wp pw ow} (ek : EditG R (PinRef.side R) s.wirePins wp)
    (ep : EditO R s.pinWire pw) (eo : ∀ i q w, ow i q = some w → (R i ↔ R w) ∧ (R q ↔ R w))
    (eo' : ∀ i q, ¬ R i → ¬ R q → ow i q = s.opWire i q) :
    Sep { s with wirePins := wp, pinWire := pw, opWire := ow } R ∧
    OutEq { s with wirePins := wp, pinWire := pw, opWire := ow } s R :=
  ⟨{ hs with wpI := fun w q h => ek.sep w (.inner q) h, wpO := fun w i q h => ek.sep w (.outer i q) h,
             pinWire := ep.sep, opWire := eo },
    ⟨fun x hx => ⟨rfl, rfl, rfl, rfl, rfl, rfl, rfl, rfl, rfl, rfl, rfl, rfl, rfl, rfl, ek.out x hx, ep.out x hx, rfl, rfl, rfl⟩,
      eo', fun _ _ _ _ => rfl⟩⟩

/-- A purge removes pointers, so none comes to cross a boundary; and it changes nothing outside a region that
    holds, for every selected outer pin, the instance or the inner pin: a wire or an instance outside `R` has no
    such pin (`wpO`, `instPins`). -/
theorem Sep.purge {s : S} {R : OId → Prop} (hs : Sep s R) (P : OId → OId → Bool)
    (hP : ∀ i q, P i q = true → R i ∨ R q) : Sep (s.purge P) R ∧ OutEq (s.purge P) s R := by
  have b2 := hs.wpO; have b3 := hs.wpI; have b4 := hs.opWire; have b5 := hs.instPins
  refine ⟨{ hs with instPins := ?_, opWire := ?_, wpI := ?_, wpO := ?_ }, ⟨?_, ?_, ?_⟩⟩ <;> clear hs <;>
    simp only [S.purge] <;> grind [List.filter_eq_self]

theorem sep_addLibrary (s : S) (R : OId → Prop) (n l pos veto) (hs : Sep s R) (ho : (Op.addLibrary n l pos veto).inside R) :
    Sep (step s (.addLibrary n l pos veto)).1 R ∧ OutEq (step s (.addLibrary n l pos veto)).1 s R := by
  dsimp only [step]; split; · exact sep_refused hs
  split; · exact sep_refused hs
  exact hs.withLibs (.insert hs.libs ho.1 (iff_of_true ho.1 ho.2) pos) (.set hs.libNl ho.2 ho.1)

theorem sep_removeLibrary (s : S) (R : OId → Prop) (n l) (hs : Sep s R) (ho : (Op.removeLibrary n l).inside R) :
    Sep (step s (.removeLibrary n l)).1 R ∧ OutEq (step s (.removeLibrary n l)).1 s R := by
  dsimp only [step]; split; · exact sep_refused hs
  exact hs.withLibs (.filter hs.libs ho.1 _) (.clear hs.libNl (· = l) fun _ e => e ▸ ho.2)

theorem sep_removeLibrariesFrom (s : S) (R : OId → Prop) (n ls) (hs : Sep s R) (ho : (Op.removeLibrariesFrom n ls).inside R) :
    Sep (step s (.removeLibrariesFrom n ls)).1 R ∧ OutEq (step s (.removeLibrariesFrom n ls)).1 s R := by
  dsimp only [step]; split; · exact sep_refused hs
  exact hs.withLibs (.filter hs.libs ho.1 _) (.clear hs.libNl (· ∈ ls) ho.2)

theorem sep_setLibraries (s : S) (R : OId → Prop) (n ls) (hs : Sep s R) (ho : (Op.setLibraries n ls).inside R) :
    Sep (step s (.setLibraries n ls)).1 R ∧ OutEq (step s (.setLibraries n ls)).1 s R := by
  dsimp only [step]; split
  next hr => exact hs.withLibs (.reorder hs.libs ho.1 hr) (.same hs.libNl)
  · exact sep_refused hs

theorem sep_addDefinition (s : S) (R : OId → Prop) (l d pos veto) (hs : Sep s R) (ho : (Op.addDefinition l d pos veto).inside R) :
    Sep (step s (.addDefinition l d pos veto)).1 R ∧ OutEq (step s (.addDefinition l d pos veto)).1 s R := by
  dsimp only [step]; split; · exact sep_refused hs
  split; · exact sep_refused hs
  exact hs.withDefs (.insert hs.defs ho.1 (iff_of_true ho.1 ho.2) pos) (.set hs.defLib ho.2 ho.1)

theorem sep_removeDefinition (s : S) (R : OId → Prop) (l d) (hs : Sep s R) (ho : (Op.removeDefinition l d).inside R) :
    Sep (step s (.removeDefinition l d)).1 R ∧ OutEq (step s (.removeDefinition l d)).1 s R := by
  dsimp only [step]; split; · exact sep_refused hs
  exact hs.withDefs (.filter hs.defs ho.1 _) (.clear hs.defLib (· = d) fun _ e => e ▸ ho.2)

theorem sep_removeDefinitionsFrom (s : S) (R : OId → Prop) (l ds) (hs : Sep s R) (ho : (Op.removeDefinitionsFrom l ds).inside R) :
    Sep (step s (.removeDefinitionsFrom l ds)).1 R ∧ OutEq (step s (.removeDefinitionsFrom l ds)).1 s R := by
  dsimp only [step]; split; · exact sep_refused hs
  exact hs.withDefs (.filter hs.defs ho.1 _) (.clear hs.defLib (· ∈ ds) ho.2)

theorem sep_setDefinitions (s : S) (R : OId → Prop) (l ds) (hs : Sep s R) (ho : (Op.setDefinitions l ds).inside R) :
    Sep (step s (.setDefinitions l ds)).1 R ∧ OutEq (step s (.setDefinitions l ds)).1 s R := by
  dsimp only [step]; split
  next hr => exact hs.withDefs (.reorder hs.defs ho.1 hr) (.same hs.defLib)
  · exact sep_refused hs

theorem sep_addCable (s : S) (R : OId → Prop) (d c pos veto) (hs : Sep s R) (ho : (Op.addCable d c pos veto).inside R) :
    Sep (step s (.addCable d c pos veto)).1 R ∧ OutEq (step s (.addCable d c pos veto)).1 s R := by
  dsimp only [step]; split; · exact sep_refused hs
  split; · exact sep_refused hs
  exact hs.withCables (.insert hs.cables ho.1 (iff_of_true ho.1 ho.2) pos) (.set hs.cableDef ho.2 ho.1)

theorem sep_removeCable (s : S) (R : OId → Prop) (d c) (hs : Sep s R) (ho : (Op.removeCable d c).inside R) :
    Sep (step s (.removeCable d c)).1 R ∧ OutEq (step s (.removeCable d c)).1 s R := by
  dsimp only [step]; split; · exact sep_refused hs
  exact hs.withCables (.filter hs.cables ho.1 _) (.clear hs.cableDef (· = c) fun _ e => e ▸ ho.2)

theorem sep_removeCablesFrom (s : S) (R : OId → Prop) (d cs) (hs : Sep s R) (ho : (Op.removeCablesFrom d cs).inside R) :
    Sep (step s (.removeCablesFrom d cs)).1 R ∧ OutEq (step s (.removeCablesFrom d cs)).1 s R := by
  dsimp only [step]; split; · exact sep_refused hs
  exact hs.withCables (.filter hs.cables ho.1 _) (.clear hs.cableDef (· ∈ cs) ho.2)

theorem sep_setCables (s : S) (R : OId → Prop) (d cs) (hs : Sep s R) (ho : (Op.setCables d cs).inside R) :
    Sep (step s (.setCables d cs)).1 R ∧ OutEq (step s (.setCables d cs)).1 s R := by
  dsimp only [step]; split
  next hr => exact hs.withCables (.reorder hs.cables ho.1 hr) (.same hs.cableDef)
  · exact sep_refused hs

theorem sep_addChild (s : S) (R : OId → Prop) (d i pos veto) (hs : Sep s R) (ho : (Op.addChild d i pos veto).inside R) :
    Sep (step s (.addChild d i pos veto)).1 R ∧ OutEq (step s (.addChild d i pos veto)).1 s R := by
  dsimp only [step]; split; · exact sep_refused hs
  split; · exact sep_refused hs
  exact hs.withChildren (.insert hs.children ho.1 (iff_of_true ho.1 ho.2) pos) (.set hs.instParent ho.2 ho.1)

theorem sep_removeChild (s : S) (R : OId → Prop) (d i) (hs : Sep s R) (ho : (Op.removeChild d i).inside R) :
    Sep (step s (.removeChild d i)).1 R ∧ OutEq (step s (.removeChild d i)).1 s R := by
  dsimp only [step]; split; · exact sep_refused hs
  exact hs.withChildren (.filter hs.children ho.1 _) (.clear hs.instParent (· = i) fun _ e => e ▸ ho.2)

theorem sep_removeChildrenFrom (s : S) (R : OId → Prop) (d is) (hs : Sep s R) (ho : (Op.removeChildrenFrom d is).inside R) :
    Sep (step s (.removeChildrenFrom d is)).1 R ∧ OutEq (step s (.removeChildrenFrom d is)).1 s R := by
  dsimp only [step]; split; · exact sep_refused hs
  exact hs.withChildren (.filter hs.children ho.1 _) (.clear hs.instParent (· ∈ is) ho.2)

theorem sep_setChildren (s : S) (R : OId → Prop) (d is) (hs : Sep s R) (ho : (Op.setChildren d is).inside R) :
    Sep (step s (.setChildren d is)).1 R ∧ OutEq (step s (.setChildren d is)).1 s R := by
  dsimp only [step]; split
  next hr => exact hs.withChildren (.reorder hs.children ho.1 hr) (.same hs.instParent)
  · exact sep_refused hs

theorem sep_addWire (s : S) (R : OId → Prop) (c w pos) (hs : Sep s R) (ho : (Op.addWire c w pos).inside R) :
    Sep (step s (.addWire c w pos)).1 R ∧ OutEq (step s (.addWire c w pos)).1 s R := by
  dsimp only [step]; split; · exact sep_refused hs
  exact hs.withWires (.insert hs.wires ho.1 (iff_of_true ho.1 ho.2) pos) (.set hs.wireCable ho.2 ho.1)

theorem sep_removeWire (s : S) (R : OId → Prop) (c w) (hs : Sep s R) (ho : (Op.removeWire c w).inside R) :
    Sep (step s (.removeWire c w)).1 R ∧ OutEq (step s (.removeWire c w)).1 s R := by
  dsimp only [step]; split; · exact sep_refused hs
  exact hs.withWires (.filter hs.wires ho.1 _) (.clear hs.wireCable (· = w) fun _ e => e ▸ ho.2)

theorem sep_removeWiresFrom (s : S) (R : OId → Prop) (c ws) (hs : Sep s R) (ho : (Op.removeWiresFrom c ws).inside R) :
    Sep (step s (.removeWiresFrom c ws)).1 R ∧ OutEq (step s (.removeWiresFrom c ws)).1 s R := by
  dsimp only [step]; split; · exact sep_refused hs
  exact hs.withWires (.filter hs.wires ho.1 _) (.clear hs.wireCable (· ∈ ws) ho.2)

theorem sep_setWires (s : S) (R : OId → Prop) (c ws) (hs : Sep s R) (ho : (Op.setWires c ws).inside R) :
    Sep (step s (.setWires c ws)).1 R ∧ OutEq (step s (.setWires c ws)).1 s R := by
  dsimp only [step]; split
  next hr => exact hs.withWires (.reorder hs.wires ho.1 hr) (.same hs.wireCable)
  · exact sep_refused hs

theorem sep_setPorts (s : S) (R : OId → Prop) (d ps) (hs : Sep s R) (ho : (Op.setPorts d ps).inside R) :
    Sep (step s (.setPorts d ps)).1 R ∧ OutEq (step s (.setPorts d ps)).1 s R := by
  dsimp only [step]; split
  next hr => exact hs.withPorts (.reorder hs.ports ho.1 hr) (.same hs.portDef)
  · exact sep_refused hs

theorem sep_setPins (s : S) (R : OId → Prop) (p qs) (hs : Sep s R) (ho : (Op.setPins p qs).inside R) :
    Sep (step s (.setPins p qs)).1 R ∧ OutEq (step s (.setPins p qs)).1 s R := by
  dsimp only [step]; split
  next hr => exact hs.withPins (.reorder hs.pins ho.1 hr) (.same hs.pinPort)
  · exact sep_refused hs

theorem sep_setTop (s : S) (R : OId → Prop) (n i) (hs : Sep s R) (ho : (Op.setTop n i).inside R) :
    Sep (step s (.setTop n i)).1 R ∧ OutEq (step s (.setTop n i)).1 s R := by
  exact hs.withTop ho.1 ho.2

theorem sep_addPort (s : S) (R : OId → Prop) (d p pos veto) : Sep s R → (Op.addPort d p pos veto).inside R →
    Sep (step s (.addPort d p pos veto)).1 R ∧ OutEq (step s (.addPort d p pos veto)).1 s R := by
  intro hs ho
  simp only [Op.inside] at ho
  dsimp only [step]; split; · exact sep_refused hs
  split; · exact sep_refused hs
  have b1 := hs.instRef; have b2 := hs.instPins; have b3 := hs.pins
  -- only instances of `d` gain outer pins: they lie in `R` with `d` (`instRef`), the pins of `p` with `p` (`pins`), and an
  -- instance outside `R` does not refer to `d`
  refine ⟨{ hs with ports := (EditG.insert hs.ports ho.1 (iff_of_true ho.1 ho.2) pos).sep, portDef := (EditO.set hs.portDef ho.2 ho.1).sep,
                    instPins := ?_ }, ⟨?_, ?_, ?_⟩⟩ <;> clear hs <;> grind

theorem sep_addPin (s : S) (R : OId → Prop) (p q pos) : Sep s R → (Op.addPin p q pos).inside R →
    Sep (step s (.addPin p q pos)).1 R ∧ OutEq (step s (.addPin p q pos)).1 s R := by
  intro hs ho
  simp only [Op.inside] at ho
  dsimp only [step]; split; · exact sep_refused hs
  have b1 := hs.instRef; have b2 := hs.instPins; have b3 := hs.portDef
  -- only instances of the definition of `p` gain the outer pin `q`: that definition lies in `R` with `p` (`portDef`), its
  -- instances with it (`instRef`)
  refine ⟨{ hs with pins := (EditG.insert hs.pins ho.1 (iff_of_true ho.1 ho.2) pos).sep, pinPort := (EditO.set hs.pinPort ho.2 ho.1).sep,
                    instPins := ?_ }, ⟨?_, ?_, ?_⟩⟩ <;> clear hs <;> grind

theorem sep_removePort (s : S) (R : OId → Prop) (d p) (hs : Sep s R) (ho : (Op.removePort d p).inside R) :
    Sep (step s (.removePort d p)).1 R ∧ OutEq (step s (.removePort d p)).1 s R := by
  rw [removePort_eq]; split; · exact sep_refused hs
  have h1 := hs.purge (fun i q => decide (s.instRef i = some d ∧ s.pinPort q = some p)) fun i q hP =>
    .inl ((hs.instRef i d (of_decide_eq_true hP).1).2 ho.1)
  have h2 := h1.1.withPorts (.filter h1.1.ports ho.1 (· ≠ p)) (.clear h1.1.portDef (· = p) fun _ e => e ▸ ho.2)
  exact ⟨h2.1, outEq_trans h2.2 h1.2⟩

theorem sep_removePortsFrom (s : S) (R : OId → Prop) (d ps) (hs : Sep s R) (ho : (Op.removePortsFrom d ps).inside R) :
    Sep (step s (.removePortsFrom d ps)).1 R ∧ OutEq (step s (.removePortsFrom d ps)).1 s R := by
  rw [removePortsFrom_eq]; split; · exact sep_refused hs
  have h1 := hs.purge (fun i q => decide (s.instRef i = some d ∧ s.pinIn ps q = true)) fun i q hP =>
    .inl ((hs.instRef i d (of_decide_eq_true hP).1).2 ho.1)
  have h2 := h1.1.withPorts (.filter h1.1.ports ho.1 (· ∉ ps)) (.clear h1.1.portDef (· ∈ ps) ho.2)
  exact ⟨h2.1, outEq_trans h2.2 h1.2⟩

theorem sep_removePin (s : S) (R : OId → Prop) (p q) (hs : Sep s R) (ho : (Op.removePin p q).inside R) :
    Sep (step s (.removePin p q)).1 R ∧ OutEq (step s (.removePin p q)).1 s R := by
  rw [removePin_eq]; split; · exact sep_refused hs
  have h1 := hs.purge (fun _ q' => decide (q' = q)) fun _ q' hP => .inr (of_decide_eq_true hP ▸ ho.2)
  have h2 := h1.1.withPins (.filter h1.1.pins ho.1 (· ≠ q)) (.clear h1.1.pinPort (· = q) fun _ e => e ▸ ho.2)
  exact ⟨h2.1, outEq_trans h2.2 h1.2⟩

theorem sep_removePinsFrom (s : S) (R : OId → Prop) (p qs) (hs : Sep s R) (ho : (Op.removePinsFrom p qs).inside R) :
    Sep (step s (.removePinsFrom p qs)).1 R ∧ OutEq (step s (.removePinsFrom p qs)).1 s R := by
  rw [removePinsFrom_eq]; split; · exact sep_refused hs
  have h1 := hs.purge (fun _ q => decide (q ∈ qs)) fun _ q hP => .inr (ho.2 q (of_decide_eq_true hP))
  have h2 := h1.1.withPins (.filter h1.1.pins ho.1 (· ∉ qs)) (.clear h1.1.pinPort (· ∈ qs) ho.2)
  exact ⟨h2.1, outEq_trans h2.2 h1.2⟩

theorem sep_connectInner (s : S) (R : OId → Prop) (w q pos) (hs : Sep s R) (ho : (Op.connectInner w q pos).inside R) :
    Sep (step s (.connectInner w q pos)).1 R ∧ OutEq (step s (.connectInner w q pos)).1 s R := by
  dsimp only [step]; split; · exact sep_refused hs
  exact hs.withConn (ow := s.opWire) (.insert hs.conn (x := .inner q) ho.1 (iff_of_true ho.1 ho.2) pos)
    (.set hs.pinWire ho.2 ho.1) hs.opWire fun _ _ _ _ => rfl

theorem sep_connectOuter (s : S) (R : OId → Prop) (w i q pos) (hs : Sep s R) (ho : (Op.connectOuter w i q pos).inside R) :
    Sep (step s (.connectOuter w i q pos)).1 R ∧ OutEq (step s (.connectOuter w i q pos)).1 s R := by
  dsimp only [step]; split; · exact sep_refused hs
  split; · exact sep_refused hs
  refine hs.withConn (pw := s.pinWire)
    (.insert hs.conn (x := .outer i q) ho.1 ⟨iff_of_true ho.1 ho.2.1, iff_of_true ho.1 ho.2.2⟩ pos) (.same hs.pinWire)
    (fun i' q' w' e => ?_) fun i' q' hi' _ => if_neg fun (e : i' = i ∧ q' = q) => hi' (e.1 ▸ ho.2.1)
  split at e
  next e' => cases e; exact e'.1 ▸ e'.2 ▸ ⟨iff_of_true ho.2.1 ho.1, iff_of_true ho.2.2 ho.1⟩
  · exact hs.opWire i' q' w' e

theorem sep_disconnect (s : S) (R : OId → Prop) (w r) (hs : Sep s R) (ho : (Op.disconnect w r).inside R) :
    Sep (step s (.disconnect w r)).1 R ∧ OutEq (step s (.disconnect w r)).1 s R := by
  cases r with
  | inner q =>
    dsimp only [step]; split; · exact sep_refused hs
    exact hs.withConn (ow := s.opWire) (.sub hs.conn ho.1 (k := fun w' => (s.wirePins w').erase (.inner q))
      fun _ => List.mem_of_mem_erase) (.clear hs.pinWire (· = q) fun _ e => e ▸ ho.2) hs.opWire fun _ _ _ _ => rfl
  | outer i q =>
    dsimp only [step]; split; · exact sep_refused hs
    split; · exact sep_refused hs
    refine hs.withConn (pw := s.pinWire) (.sub hs.conn ho.1 (k := fun w' => (s.wirePins w').erase (.outer i q))
      fun _ => List.mem_of_mem_erase) (.same hs.pinWire) (fun i' q' w' e => hs.opWire i' q' w' ?_)
      fun i' q' hi' _ => if_neg fun (e : i' = i ∧ q' = q) => hi' (e.1 ▸ ho.2.1)
    split at e <;> first | cases e | exact e

theorem sep_disconnectFrom (s : S) (R : OId → Prop) (w rs) (hs : Sep s R) (ho : (Op.disconnectFrom w rs).inside R) :
    Sep (step s (.disconnectFrom w rs)).1 R ∧ OutEq (step s (.disconnectFrom w rs)).1 s R := by
  dsimp only [step]; split; · exact sep_refused hs
  refine hs.withConn (.filter hs.conn ho.1 _) (.clear hs.pinWire (PinRef.inner · ∈ rs) fun q h => ho.2 (.inner q) h)
    (fun i' q' w' e => hs.opWire i' q' w' ?_) fun i' q' hi' _ => if_neg fun e => hi' (ho.2 (.outer i' q') e).1
  split at e <;> first | cases e | exact e

theorem sep_setWirePins (s : S) (R : OId → Prop) (w rs) (hs : Sep s R) (ho : (Op.setWirePins w rs).inside R) :
    Sep (step s (.setWirePins w rs)).1 R ∧ OutEq (step s (.setWirePins w rs)).1 s R := by
  dsimp only [step]; split
  next hr =>
    exact hs.withConn (pw := s.pinWire) (ow := s.opWire) (.reorder hs.conn ho.1 hr) (.same hs.pinWire) hs.opWire
      fun _ _ _ _ => rfl
  · exact sep_refused hs

theorem mem_flat_in (s : S) (R : OId → Prop) (d y : OId) (hs : Sep s R) (hd : R d) (h : y ∈ s.flat d) : R y := by
  simp only [S.flat, List.mem_flatMap] at h
  obtain ⟨p, hp, hq⟩ := h
  exact (hs.pins p y hq).1 ((hs.ports d p hp).1 hd)

theorem outEq_firstRef (s : S) (R : OId → Prop) (i d' : OId) (hi : R i) : OutEq (s.firstRef i d') s R :=
  have hne : ∀ {x}, ¬ R x → x ≠ i := fun hx e => hx (e ▸ hi)
  ⟨fun x hx => by simp [S.firstRef, hne hx], fun _ _ _ _ => rfl, fun _ i' _ hi' => by simp [S.firstRef, hne hi']⟩

theorem sep_firstRef (s : S) (R : OId → Prop) (i d' : OId) (hs : Sep s R) (hi : R i) (hd : R d') :
    Sep (s.firstRef i d') R ∧ OutEq (s.firstRef i d') s R := by
  have hf : ∀ y, y ∈ s.flat d' → R y := fun y hy => mem_flat_in s R d' y hs hd hy
  have b1 := hs.instRef; have b2 := hs.instPins; have b3 := hs.refs
  -- the three entries written belong to `i`; they point to `d'` and to the pins of `d'`, all in `R` (`hf`)
  refine ⟨{ hs with instRef := ?_, instPins := ?_, refs := ?_ }, outEq_firstRef s R i d' hi⟩ <;> clear hs <;>
    simp only [S.firstRef] <;> grind

theorem sep_dropRef (s : S) (R : OId → Prop) (i : OId) (hs : Sep s R) (hi : R i) :
    Sep (s.dropRef i) R ∧ OutEq (s.dropRef i) s R := by
  rw [dropRef_eq]
  have h1 := hs.purge (fun i' _ => decide (i' = i)) fun i' q hP => .inl (of_decide_eq_true hP ▸ hi)
  have b := hs.refs
  have hne : ∀ x, ¬ R x → x ≠ i := fun x hx e => hx (e ▸ hi)
  -- after the purge only entries of `i` are cleared: no pointer is added, and an object outside `R` is not `i`
  refine ⟨{ h1.1 with instRef := (EditO.clear hs.instRef (· = i) fun _ e => e ▸ hi).sep, refs := ?_ },
    outEq_trans (b := s.purge _) ⟨?_, fun _ _ _ _ => rfl, ?_⟩ h1.2⟩ <;> simp only [S.purge] <;> grind

/-- the outer pins of `i` sit on wires of the region, so outside it the re-keying changes nothing -/
theorem outEq_repoint (s : S) (R : OId → Prop) (i d d' : OId) (hi : R i)
    (hw : ∀ w q, PinRef.outer i q ∈ s.wirePins w → R w) : OutEq (s.repoint i d d') s R := by
  have hne : ∀ {x}, ¬ R x → x ≠ i := fun hx e => hx (e ▸ hi)
  refine ⟨fun x hx => ?_, fun i' q hi' _ => by simp [S.repoint, S.repointWith, hne hi'],
    fun _ i' _ hi' => by simp [S.repoint, S.repointWith, hne hi']⟩
  simp only [S.repoint, S.repointWith, if_neg (hne hx), true_and, and_true]
  exact map_rekey_of_not_mem (s.partner d d') fun q hq => hx (hw x q hq)

theorem sep_repoint (s : S) (R : OId → Prop) (i d d' : OId) (hs : Sep s R) (hi : R i) (hd' : R d') :
    Sep (s.repoint i d d') R ∧ OutEq (s.repoint i d d') s R := by
  have hf : ∀ y, y ∈ s.flat d' → R y := fun y hy => mem_flat_in s R d' y hs hd' hy
  refine ⟨{ hs with opWire := fun i' q' w h => ?_, instRef := fun x y h => ?_, instPins := fun x y h => ?_,
                    wpI := fun w q h => hs.wpI w q (inner_mem_rekey.1 ((repointWith_wirePins ..).symm ▸ h)),
                    wpO := fun w i' q' h => ?_, refs := fun e i' h => ?_ },
    outEq_repoint s R i d d' hi fun w q hq => (hs.wpO w i q hq).1.2 hi⟩
  · -- whatever `d` is, a partner on the side of `d'` is a pin of `d'`
    simp only [S.repoint, S.repointWith] at h
    split at h
    next e =>
      split at h
      next q hg =>
        have hw := (hs.opWire i q w h).1.1 hi
        exact e ▸ ⟨iff_of_true hi hw, iff_of_true (hf q' (lookup_zip_mem _ _ q' q hg).1) hw⟩
      · cases h
    · exact hs.opWire i' q' w h
  · simp only [S.repoint, S.repointWith] at h
    split at h
    next e => cases h; exact e ▸ iff_of_true hi hd'
    · exact hs.instRef x y h
  · simp only [S.repoint, S.repointWith] at h
    split at h
    next e => exact e ▸ iff_of_true hi (hf y h)
    · exact hs.instPins x y h
  · obtain ⟨q0, h0, rfl⟩ := outer_mem_rekey.1 ((repointWith_wirePins ..).symm ▸ h)
    have hb := hs.wpO w i' q0 h0
    split
    next e =>
      cases hg : s.partner d d' q0 with
      | none => exact hb
      | some q1 => exact ⟨hb.1, iff_of_true (hb.1.2 (e ▸ hi)) (hf q1 (lookup_zip_mem _ _ q0 q1 hg).2)⟩
    · exact hb
  · simp only [S.repoint, S.repointWith] at h
    split at h
    next e1 => exact e1 ▸ (of_decide_eq_true h) ▸ iff_of_true hd' hi
    · exact hs.refs e i' h

theorem sep_setRef (s : S) (R : OId → Prop) (i d) : Sep s R → (Op.setRef i d).inside R →
    Sep (step s (.setRef i d)).1 R ∧ OutEq (step s (.setRef i d)).1 s R := by
  intro hs ho
  simp only [Op.inside] at ho
  dsimp only [step, S.setRefStep]
  cases d with
  | none => exact sep_dropRef s R i hs ho.1
  | some d' =>
    have hd : R d' := by simpa [optIn] using ho.2
    cases hr : s.instRef i with
    | none => exact sep_firstRef s R i d' hs ho.1 hd
    | some d0 =>
      simp only []
      split
      · exact ⟨hs, outEq_refl s R⟩
      · exact sep_repoint s R i d0 d' hs ho.1 hd

theorem sep_createChild (s : S) (R : OId → Prop) (d i ref veto) : Sep s R → (Op.createChild d i ref veto).inside R →
    Sep (step s (.createChild d i ref veto)).1 R ∧ OutEq (step s (.createChild d i ref veto)).1 s R := by
  intro hs ho
  simp only [Op.inside] at ho
  dsimp only [step]; split; · exact ⟨hs, outEq_refl s R⟩
  split; · exact ⟨hs, outEq_refl s R⟩
  -- the instance, with or without its reference, is appended to the children of `d`
  have tail : ∀ s1 : S, Sep s1 R ∧ OutEq s1 s R →
      Sep { s1 with children := fun d' => if d' = d then s1.children d' ++ [i] else s1.children d'
                    instParent := fun i' => if i' = i then some d else s1.instParent i' } R ∧
      OutEq { s1 with children := fun d' => if d' = d then s1.children d' ++ [i] else s1.children d'
                      instParent := fun i' => if i' = i then some d else s1.instParent i' } s R := fun s1 h1 =>
    have h2 := h1.1.withChildren (.insert h1.1.children ho.1 (iff_of_true ho.1 ho.2.1) none) (.set h1.1.instParent ho.2.1 ho.1)
    ⟨h2.1, outEq_trans h2.2 h1.2⟩
  cases ref with
  | none => exact tail s ⟨hs, outEq_refl s R⟩
  | some r => exact tail _ (sep_firstRef s R i r hs ho.2.1 (by simpa [optIn] using ho.2.2))

theorem sep_setTopDef (s : S) (R : OId → Prop) (n d t) : Sep s R → (Op.setTopDef n d t).inside R →
    Sep (step s (.setTopDef n d t)).1 R ∧ OutEq (step s (.setTopDef n d t)).1 s R := by
  intro hs ho
  simp only [Op.inside] at ho
  dsimp only [step]; split; · exact ⟨hs, outEq_refl s R⟩
  have h1 := sep_firstRef s R t d hs ho.2.2 ho.2.1
  have h2 := h1.1.withTop (n := n) (i := some t) ho.1 ho.2.2
  exact ⟨h2.1, outEq_trans h2.2 h1.2⟩

/-- a call confined to a region keeps the regions separated and leaves everything outside it alone -/
theorem step_sep (s : S) (R : OId → Prop) (op : Op) (hs : Sep s R) (ho : op.inside R) :
    Sep (step s op).1 R ∧ OutEq (step s op).1 s R := by
  cases op with
  | addLibrary n l pos veto => exact sep_addLibrary s R n l pos veto hs ho
  | removeLibrary n l => exact sep_removeLibrary s R n l hs ho
  | removeLibrariesFrom n ls => exact sep_removeLibrariesFrom s R n ls hs ho
  | setLibraries n ls => exact sep_setLibraries s R n ls hs ho
  | addDefinition l d pos veto => exact sep_addDefinition s R l d pos veto hs ho
  | removeDefinition l d => exact sep_removeDefinition s R l d hs ho
  | removeDefinitionsFrom l ds => exact sep_removeDefinitionsFrom s R l ds hs ho
  | setDefinitions l ds => exact sep_setDefinitions s R l ds hs ho
  | addPort d p pos veto => exact sep_addPort s R d p pos veto hs ho
  | removePort d p => exact sep_removePort s R d p hs ho
  | removePortsFrom d ps => exact sep_removePortsFrom s R d ps hs ho
  | setPorts d ps => exact sep_setPorts s R d ps hs ho
  | addCable d c pos veto => exact sep_addCable s R d c pos veto hs ho
  | removeCable d c => exact sep_removeCable s R d c hs ho
  | removeCablesFrom d cs => exact sep_removeCablesFrom s R d cs hs ho
  | setCables d cs => exact sep_setCables s R d cs hs ho
  | addChild d i pos veto => exact sep_addChild s R d i pos veto hs ho
  | removeChild d i => exact sep_removeChild s R d i hs ho
  | removeChildrenFrom d is => exact sep_removeChildrenFrom s R d is hs ho
  | setChildren d is => exact sep_setChildren s R d is hs ho
  | createChild d i ref veto => exact sep_createChild s R d i ref veto hs ho
  | addPin p q pos => exact sep_addPin s R p q pos hs ho
  | removePin p q => exact sep_removePin s R p q hs ho
  | removePinsFrom p qs => exact sep_removePinsFrom s R p qs hs ho
  | setPins p qs => exact sep_setPins s R p qs hs ho
  | addWire c w pos => exact sep_addWire s R c w pos hs ho
  | removeWire c w => exact sep_removeWire s R c w hs ho
  | removeWiresFrom c ws => exact sep_removeWiresFrom s R c ws hs ho
  | setWires c ws => exact sep_setWires s R c ws hs ho
  | connectInner w q pos => exact sep_connectInner s R w q pos hs ho
  | connectOuter w i q pos => exact sep_connectOuter s R w i q pos hs ho
  | disconnect w r => exact sep_disconnect s R w r hs ho
  | disconnectFrom w rs => exact sep_disconnectFrom s R w rs hs ho
  | setWirePins w rs => exact sep_setWirePins s R w rs hs ho
  | setRef i d => exact sep_setRef s R i d hs ho
  | setTop n i => exact sep_setTop s R n i hs ho
  | setTopDef n d t => exact sep_setTopDef s R n d t hs ho

/-- any history of calls confined to a region never shows outside it -/
theorem run_sep (R : OId → Prop) (ops : List Op) (s : S) (hs : Sep s R) (ho : ∀ op ∈ ops, op.inside R) :
    Sep (run s ops).1 R ∧ OutEq (run s ops).1 s R :=
  run_induct (P := fun t => Sep t R ∧ OutEq t s R) ops (fun op hop t ht =>
    have h1 := step_sep t R op ht.1 (ho op hop)
    ⟨h1.1, outEq_trans h1.2 ht.2⟩) (sep_refused hs)

end Spydr.IR
