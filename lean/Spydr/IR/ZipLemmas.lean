/-
  `zip` and `lookup` as the positional pairing of two pin lists (`S.partner`).
-/
import Spydr.IR.Lemmas
namespace Spydr.IR

theorem lookup_zip_mem (l1 l2 : List OId) (a b : OId) (h : (l1.zip l2).lookup a = some b) : a ∈ l1 ∧ b ∈ l2 := by
  induction l1 generalizing l2 with
  | nil => simp at h
  | cons x xs ih =>
    cases l2 with
    | nil => simp at h
    | cons y ys =>
      simp only [List.zip_cons_cons, List.lookup_cons] at h
      by_cases e : a = x
      · subst e; simp at h; subst h; simp
      · have : (a == x) = false := by simpa using e
        rw [this] at h
        have := ih ys h
        exact ⟨List.mem_cons_of_mem _ this.1, List.mem_cons_of_mem _ this.2⟩

theorem lookup_zip_of_mem (l1 l2 : List OId) (hl : l1.length = l2.length) (a : OId) (h : a ∈ l1) :
    ∃ b, (l1.zip l2).lookup a = some b := by
  induction l1 generalizing l2 with
  | nil => simp at h
  | cons x xs ih =>
    cases l2 with
    | nil => simp at hl
    | cons y ys =>
      simp only [List.zip_cons_cons, List.lookup_cons]
      by_cases e : a = x
      · subst e; exact ⟨y, by simp⟩
      · have he : (a == x) = false := by simpa using e
        rw [he]
        have hm : a ∈ xs := by
          rcases List.mem_cons.1 h with h | h
          · exact absurd h e
          · exact h
        exact ih ys (by simpa using hl) hm

theorem lookup_zip_symm (l1 l2 : List OId) (h1 : l1.Nodup) (h2 : l2.Nodup) (a b : OId)
    (h : (l1.zip l2).lookup a = some b) : (l2.zip l1).lookup b = some a := by
  induction l1 generalizing l2 with
  | nil => simp at h
  | cons x xs ih =>
    cases l2 with
    | nil => simp at h
    | cons y ys =>
      simp only [List.zip_cons_cons, List.lookup_cons] at h ⊢
      by_cases e : a = x
      · subst e
        simp at h; subst h; simp
      · have he : (a == x) = false := by simpa using e
        rw [he] at h
        have hm := lookup_zip_mem xs ys a b h
        have hy : b ≠ y := by
          intro e2; subst e2
          exact (List.nodup_cons.1 h2).1 hm.2
        have he2 : (b == y) = false := by simpa using hy
        rw [he2]
        exact ih ys (List.nodup_cons.1 h1).2 (List.nodup_cons.1 h2).2 h

theorem lookup_zip_getElem (l1 l2 : List OId) (h1 : l1.Nodup) (k : Nat) (a b : OId)
    (ha : l1[k]? = some a) (hb : l2[k]? = some b) : (l1.zip l2).lookup a = some b := by
  induction l1 generalizing l2 k with
  | nil => simp at ha
  | cons x xs ih =>
    cases l2 with
    | nil => simp at hb
    | cons y ys =>
      cases k with
      | zero =>
        simp only [List.getElem?_cons_zero, Option.some.injEq] at ha hb
        subst ha; subst hb
        simp [List.zip_cons_cons]
      | succ k =>
        simp only [List.getElem?_cons_succ] at ha hb
        have hne : a ≠ x := by
          intro e; subst e
          exact (List.nodup_cons.1 h1).1 (List.mem_of_getElem? ha)
        simp only [List.zip_cons_cons, List.lookup_cons]
        have : (a == x) = false := by simpa using hne
        rw [this]
        exact ih ys (List.nodup_cons.1 h1).2 k ha hb

theorem flat_length_of_shape (s : S) (d d' : OId) (h : s.shape d = s.shape d') :
    (s.flat d).length = (s.flat d').length := by
  simp only [S.flat, List.length_flatMap]
  exact congrArg List.sum h

end Spydr.IR
