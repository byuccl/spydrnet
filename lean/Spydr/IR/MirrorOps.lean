/-
  Per-operation forms of `replay_mirror` for the calls that announce exactly the one parent pointer, wire entry or top
  instance they write (a reorder announces nothing and writes none).
-/
import Spydr.IR.Props.C19
namespace Spydr.IR

theorem mirror_addLibrary (s : S) (nI n l pos) (h : Inv s) (hok : (step s (.addLibrary n l pos false)).2 = .ok) :
    replayAllM s.abs (eventsOf s nI (.addLibrary n l pos false)) = (step s (.addLibrary n l pos false)).1.abs :=
  replay_mirror_partial s nI _ h hok rfl rfl
theorem mirror_removeLibrary (s : S) (nI n l) (h : Inv s) (hok : (step s (.removeLibrary n l)).2 = .ok) :
    replayAllM s.abs (eventsOf s nI (.removeLibrary n l)) = (step s (.removeLibrary n l)).1.abs :=
  replay_mirror_partial s nI _ h hok rfl rfl
theorem mirror_setLibraries (s : S) (nI n ls) (h : Inv s) (hok : (step s (.setLibraries n ls)).2 = .ok) :
    replayAllM s.abs (eventsOf s nI (.setLibraries n ls)) = (step s (.setLibraries n ls)).1.abs :=
  replay_mirror_partial s nI _ h hok rfl rfl
theorem mirror_addDefinition (s : S) (nI l d pos) (h : Inv s) (hok : (step s (.addDefinition l d pos false)).2 = .ok) :
    replayAllM s.abs (eventsOf s nI (.addDefinition l d pos false)) = (step s (.addDefinition l d pos false)).1.abs :=
  replay_mirror_partial s nI _ h hok rfl rfl
theorem mirror_removeDefinition (s : S) (nI l d) (h : Inv s) (hok : (step s (.removeDefinition l d)).2 = .ok) :
    replayAllM s.abs (eventsOf s nI (.removeDefinition l d)) = (step s (.removeDefinition l d)).1.abs :=
  replay_mirror_partial s nI _ h hok rfl rfl
theorem mirror_setDefinitions (s : S) (nI l ds) (h : Inv s) (hok : (step s (.setDefinitions l ds)).2 = .ok) :
    replayAllM s.abs (eventsOf s nI (.setDefinitions l ds)) = (step s (.setDefinitions l ds)).1.abs :=
  replay_mirror_partial s nI _ h hok rfl rfl
theorem mirror_setPorts (s : S) (nI d ps) (h : Inv s) (hok : (step s (.setPorts d ps)).2 = .ok) :
    replayAllM s.abs (eventsOf s nI (.setPorts d ps)) = (step s (.setPorts d ps)).1.abs :=
  replay_mirror_partial s nI _ h hok rfl rfl
theorem mirror_addCable (s : S) (nI d c pos) (h : Inv s) (hok : (step s (.addCable d c pos false)).2 = .ok) :
    replayAllM s.abs (eventsOf s nI (.addCable d c pos false)) = (step s (.addCable d c pos false)).1.abs :=
  replay_mirror_partial s nI _ h hok rfl rfl
theorem mirror_removeCable (s : S) (nI d c) (h : Inv s) (hok : (step s (.removeCable d c)).2 = .ok) :
    replayAllM s.abs (eventsOf s nI (.removeCable d c)) = (step s (.removeCable d c)).1.abs :=
  replay_mirror_partial s nI _ h hok rfl rfl
theorem mirror_setCables (s : S) (nI d cs) (h : Inv s) (hok : (step s (.setCables d cs)).2 = .ok) :
    replayAllM s.abs (eventsOf s nI (.setCables d cs)) = (step s (.setCables d cs)).1.abs :=
  replay_mirror_partial s nI _ h hok rfl rfl
theorem mirror_addChild (s : S) (nI d i pos) (h : Inv s) (hok : (step s (.addChild d i pos false)).2 = .ok) :
    replayAllM s.abs (eventsOf s nI (.addChild d i pos false)) = (step s (.addChild d i pos false)).1.abs :=
  replay_mirror_partial s nI _ h hok rfl rfl
theorem mirror_removeChild (s : S) (nI d i) (h : Inv s) (hok : (step s (.removeChild d i)).2 = .ok) :
    replayAllM s.abs (eventsOf s nI (.removeChild d i)) = (step s (.removeChild d i)).1.abs :=
  replay_mirror_partial s nI _ h hok rfl rfl
theorem mirror_setChildren (s : S) (nI d is) (h : Inv s) (hok : (step s (.setChildren d is)).2 = .ok) :
    replayAllM s.abs (eventsOf s nI (.setChildren d is)) = (step s (.setChildren d is)).1.abs :=
  replay_mirror_partial s nI _ h hok rfl rfl
theorem mirror_setPins (s : S) (nI p qs) (h : Inv s) (hok : (step s (.setPins p qs)).2 = .ok) :
    replayAllM s.abs (eventsOf s nI (.setPins p qs)) = (step s (.setPins p qs)).1.abs :=
  replay_mirror_partial s nI _ h hok rfl rfl
theorem mirror_addWire (s : S) (nI c w pos) (h : Inv s) (hok : (step s (.addWire c w pos)).2 = .ok) :
    replayAllM s.abs (eventsOf s nI (.addWire c w pos)) = (step s (.addWire c w pos)).1.abs :=
  replay_mirror_partial s nI _ h hok rfl rfl
theorem mirror_removeWire (s : S) (nI c w) (h : Inv s) (hok : (step s (.removeWire c w)).2 = .ok) :
    replayAllM s.abs (eventsOf s nI (.removeWire c w)) = (step s (.removeWire c w)).1.abs :=
  replay_mirror_partial s nI _ h hok rfl rfl
theorem mirror_setWires (s : S) (nI c ws) (h : Inv s) (hok : (step s (.setWires c ws)).2 = .ok) :
    replayAllM s.abs (eventsOf s nI (.setWires c ws)) = (step s (.setWires c ws)).1.abs :=
  replay_mirror_partial s nI _ h hok rfl rfl
theorem mirror_connectInner (s : S) (nI w q pos) (h : Inv s) (hok : (step s (.connectInner w q pos)).2 = .ok) :
    replayAllM s.abs (eventsOf s nI (.connectInner w q pos)) = (step s (.connectInner w q pos)).1.abs :=
  replay_mirror_partial s nI _ h hok rfl rfl
theorem mirror_connectOuter (s : S) (nI w i q pos) (h : Inv s) (hok : (step s (.connectOuter w i q pos)).2 = .ok) :
    replayAllM s.abs (eventsOf s nI (.connectOuter w i q pos)) = (step s (.connectOuter w i q pos)).1.abs :=
  replay_mirror_partial s nI _ h hok rfl rfl
theorem mirror_setWirePins (s : S) (nI w rs) (h : Inv s) (hok : (step s (.setWirePins w rs)).2 = .ok) :
    replayAllM s.abs (eventsOf s nI (.setWirePins w rs)) = (step s (.setWirePins w rs)).1.abs :=
  replay_mirror_partial s nI _ h hok rfl rfl
theorem mirror_setTop (s : S) (nI n i) (h : Inv s) (hok : (step s (.setTop n i)).2 = .ok) :
    replayAllM s.abs (eventsOf s nI (.setTop n i)) = (step s (.setTop n i)).1.abs :=
  replay_mirror_partial s nI _ h hok rfl rfl

end Spydr.IR
