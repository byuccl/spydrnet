/-
  Sequencing in `Except` and `Option`, for every reader and elaborator of the development: a `do` block that
  succeeded, one step at a time, and the two list loops (`mapM`, `foldlM`, and a hand-written recursion of
  the same shape).  A successful `mapM` is a `map`: `l.mapM f = ok r ↔ l.map f = r.map ok`, so that what
  is needed of `r` is read off with the lemmas of `List.map`.
-/
namespace Spydr

universe u v w

section
variable {ε : Type u} {α β : Type v}

theorem bind_eq_ok {x : Except ε α} {f : α → Except ε β} {b : β} :
    (x >>= f) = .ok b ↔ ∃ a, x = .ok a ∧ f a = .ok b := by
  cases x <;> simp [bind, Except.bind]

theorem bind_ok {x : Except ε α} {f : α → Except ε β} {b : β} (h : (x >>= f) = .ok b) :
    ∃ a, x = .ok a ∧ f a = .ok b :=
  bind_eq_ok.mp h

theorem ok_of_if {c : Prop} [Decidable c] {x y : Except ε α} {a : α} (h : (if c then x else y) = .ok a) :
    c ∧ x = .ok a ∨ ¬c ∧ y = .ok a := by
  split at h
  · exact .inl ⟨‹c›, h⟩
  · exact .inr ⟨‹¬c›, h⟩

theorem ok_of_else {c : Prop} [Decidable c] {e : ε} {y : Except ε α} {a : α}
    (h : (if c then throw e else y) = .ok a) : ¬c ∧ y = .ok a := by
  split at h
  · cases h
  · exact ⟨‹¬c›, h⟩

end

section
variable {ε : Type u} {α : Type w} {β σ : Type v}

/-- A loop `go` that runs a step `f` over a list, threading a state and stopping at the first error
    (`List.foldlM`, or a recursion written out): a reflexive and transitive relation between states that
    every successful step of an element of the list keeps is kept by the loop.  An invariant `P` is the
    relation `P a → P b`. -/
theorem loop_rel {go : σ → List α → Except ε σ} {f : σ → α → Except ε σ}
    (nil : ∀ s, go s [] = pure s) (cons : ∀ s x r, go s (x :: r) = f s x >>= fun s => go s r)
    {R : σ → σ → Prop} (refl : ∀ s, R s s) (trans : ∀ {a b c}, R a b → R b c → R a c) :
    ∀ (l : List α) {s s' : σ}, (∀ x ∈ l, ∀ {a b}, f a x = .ok b → R a b) → go s l = .ok s' → R s s' := by
  intro l
  induction l with
  | nil => intro s s' _ h; rw [nil] at h; cases h; exact refl _
  | cons x r ih =>
    intro s s' step h
    rw [cons] at h
    obtain ⟨s1, h1, h⟩ := bind_ok h
    exact trans (step x (by simp) h1) (ih (fun y hy => step y (by simp [hy])) h)

theorem foldlM_inv (P : σ → Prop) {f : σ → α → Except ε σ} {as : List α} {s s' : σ}
    (hf : ∀ a ∈ as, ∀ s s', P s → f s a = .ok s' → P s') (hs : P s) (h : as.foldlM f s = .ok s') : P s' :=
  loop_rel (go := fun s l => l.foldlM f s) (R := fun a b => P a → P b) (fun _ => rfl)
    (fun _ _ _ => List.foldlM_cons) (fun _ => id) (fun h1 h2 p => h2 (h1 p)) as
    (fun a ha _ _ hab p => hf a ha _ _ p hab) h hs

theorem mapM_eq_ok {f : α → Except ε β} : ∀ {l : List α} {r : List β},
    l.mapM f = .ok r ↔ l.map f = r.map .ok
  | [], r => by cases r <;> simp [pure, Except.pure]
  | a :: l, r => by
    rw [List.mapM_cons]
    constructor
    · intro h
      obtain ⟨b, hb, h⟩ := bind_ok h
      obtain ⟨r', hr, h⟩ := bind_ok h
      cases h
      rw [List.map_cons, List.map_cons, hb, mapM_eq_ok.mp hr]
    · intro h
      cases r with
      | nil => cases h
      | cons c r =>
        rw [List.map_cons, List.map_cons, List.cons.injEq] at h
        rw [h.1, mapM_eq_ok.mpr h.2]; rfl

end

section
variable {α : Type w} {β σ : Type v}

theorem mapM_cons_some {f : α → Option β} {a : α} {l : List α} {bs : List β}
    (h : (a :: l).mapM f = some bs) : ∃ b bs', f a = some b ∧ l.mapM f = some bs' ∧ bs = b :: bs' := by
  rw [List.mapM_cons] at h
  obtain ⟨b, hb, h⟩ := Option.bind_eq_some_iff.mp h
  obtain ⟨bs', hr, h⟩ := Option.bind_eq_some_iff.mp h
  exact ⟨b, bs', hb, hr, (Option.some.inj h).symm⟩

theorem mapM_eq_some {f : α → Option β} : ∀ {l : List α} {r : List β},
    l.mapM f = some r ↔ l.map f = r.map some
  | [], r => by cases r <;> simp
  | a :: l, r => by
    constructor
    · intro h
      obtain ⟨b, r', hb, hr, rfl⟩ := mapM_cons_some h
      rw [List.map_cons, List.map_cons, hb, mapM_eq_some.mp hr]
    · intro h
      cases r with
      | nil => cases h
      | cons c r =>
        rw [List.map_cons, List.map_cons, List.cons.injEq] at h
        rw [List.mapM_cons, h.1, mapM_eq_some.mpr h.2]; rfl

theorem foldlM_cons_some {f : σ → α → Option σ} {a : α} {l : List α} {s s' : σ}
    (h : (a :: l).foldlM f s = some s') : ∃ s1, f s a = some s1 ∧ l.foldlM f s1 = some s' :=
  Option.bind_eq_some_iff.mp (List.foldlM_cons.symm.trans h)

theorem foldlM_some_inv (P : σ → Prop) {f : σ → α → Option σ} : ∀ {as : List α} {s s' : σ},
    (∀ a ∈ as, ∀ s s', P s → f s a = some s' → P s') → P s → as.foldlM f s = some s' → P s'
  | [], s, s', _, hs, h => by cases h; exact hs
  | a :: as, s, s', hf, hs, h => by
    obtain ⟨s1, h1, h⟩ := foldlM_cons_some h
    exact foldlM_some_inv P (fun b hb => hf b (by simp [hb])) (hf a (by simp) _ _ hs h1) h

end
end Spydr
