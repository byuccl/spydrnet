/-
  ASCII classes and case folding by code point: `isAlpha`, `isDigit`, `isUpper`, `isLower` are intervals of
  `toNat`, `toLower` adds 32 on `A`–`Z` and `toUpper` subtracts 32 on `a`–`z`; with these a fact about case folding
  becomes linear arithmetic.
-/
namespace Spydr

theorem isUpper_iff (c : Char) : c.isUpper = true ↔ (65 ≤ c.toNat ∧ c.toNat ≤ 90) := by
  simp [Char.isUpper, UInt32.le_iff_toNat_le]

theorem isLower_iff (c : Char) : c.isLower = true ↔ (97 ≤ c.toNat ∧ c.toNat ≤ 122) := by
  simp [Char.isLower, UInt32.le_iff_toNat_le]

theorem isAlpha_iff (c : Char) :
    c.isAlpha = true ↔ (65 ≤ c.toNat ∧ c.toNat ≤ 90) ∨ (97 ≤ c.toNat ∧ c.toNat ≤ 122) := by
  simp [Char.isAlpha, isUpper_iff, isLower_iff]

theorem isDigit_iff (c : Char) : c.isDigit = true ↔ (48 ≤ c.toNat ∧ c.toNat ≤ 57) := by
  simp [Char.isDigit, UInt32.le_iff_toNat_le]

/-- decimal printing is injective: core reads the digits back -/
theorem toDigits_inj {a b : Nat} (h : Nat.toDigits 10 a = Nat.toDigits 10 b) : a = b := by
  simpa using congrArg (fun l => Nat.ofDigitChars 10 l 0) h

theorem toLower_toNat (c : Char) :
    c.toLower.toNat = if 65 ≤ c.toNat ∧ c.toNat ≤ 90 then c.toNat + 32 else c.toNat := by
  simp only [Char.toLower, ge_iff_le, UInt32.le_iff_toNat_le, Char.toNat, seval]
  split
  · simp only [UInt32.toNat_add, seval]; omega
  · rfl

theorem toUpper_toNat (c : Char) :
    c.toUpper.toNat = if 97 ≤ c.toNat ∧ c.toNat ≤ 122 then c.toNat - 32 else c.toNat := by
  simp only [Char.toUpper, UInt32.le_iff_toNat_le, Char.toNat, seval]
  split
  · simp only [UInt32.toNat_add, seval]; omega
  · rfl

theorem toLower_of_not_upper (c : Char) (h : c.isUpper = false) : c.toLower = c := by
  rw [Bool.eq_false_iff, ne_eq, isUpper_iff] at h
  rw [← Char.toNat_inj, toLower_toNat, if_neg h]

theorem toLower_not_upper (c : Char) : c.toLower.isUpper = false := by
  rw [Bool.eq_false_iff, ne_eq, isUpper_iff, toLower_toNat]; split <;> omega

theorem toLower_idem (c : Char) : c.toLower.toLower = c.toLower :=
  toLower_of_not_upper _ (toLower_not_upper c)

theorem toUpper_toLower (c : Char) : c.toUpper.toLower = c.toLower := by
  rw [← Char.toNat_inj, toLower_toNat, toLower_toNat, toUpper_toNat]; repeat' split
  all_goals omega

theorem isDigit_not_upper (c : Char) (h : c.isDigit = true) : c.isUpper = false := by
  rw [isDigit_iff] at h
  rw [Bool.eq_false_iff, ne_eq, isUpper_iff]; omega

theorem isLower_not_upper {c : Char} (h : c.isLower = true) : c.isUpper = false := by
  rw [isLower_iff] at h
  rw [Bool.eq_false_iff, ne_eq, isUpper_iff]; omega

end Spydr
